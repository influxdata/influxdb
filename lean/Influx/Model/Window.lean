/-
  Influx.Model.Window — nanosecond (non-calendar) windows of
  `github.com/influxdata/flux/interval` as used by storage/reads and storage/flux.

  Go sources:
    flux/interval/window.go   NewWindow (UTC, no location), GetLatestBounds, NextBounds,
                              PrevBounds, lastIndex
    flux/interval/bounds.go   Bounds{start, stop, index}
    flux/values/time.go       Time.Add / Duration.Mul for month-free durations
                              (`start = zero + every*index`, `stop = start + period`)

  Restrictions (stated, not hidden): month components are 0 (calendar windows are
  excluded), the location is UTC (`zero = offset`), `every > 0` (NewWindow rejects
  `every ≤ 0`), `period ≥ 0` (a negative period enters a search loop in
  GetLatestBounds that is not modelled; storage/reads always passes
  `period = every`).  Times are unbounded `Int`: the model describes the Go code
  as long as `zero + every*(index+1)` stays inside int64 (no wrap-around).
-/
namespace Influx.Window

abbrev Time := Int

/-- `interval.Window` for nanosecond durations in UTC: `zero = epoch + offset`. -/
structure Window where
  every : Int
  period : Int
  offset : Int
deriving Repr, DecidableEq

/-- `interval.Bounds`. -/
structure Bounds where
  start : Int
  stop : Int
  index : Int
deriving Repr, DecidableEq

/-- `NewWindow(...).isValid()` restricted to month-free durations; the sign of a
    `values.Duration` is a separate flag, so `every < 0` stands for `negative = true`. -/
def Window.valid (w : Window) : Bool := decide (0 < w.every)

/-- `lastIndex(zero, target, every)`: Go's truncating `/` and `%`, then the
    adjustment for negative deltas that are not on a boundary. -/
def lastIndex (zero target every : Int) : Int :=
  let delta := target - zero
  let index := Int.tdiv delta every
  if delta < 0 ∧ Int.tmod delta every ≠ 0 then index - 1 else index

/-- bounds of the window with the given index (`w.zero.Add(w.every.Mul(index))`, `start.Add(w.period)`). -/
def Window.at (w : Window) (index : Int) : Bounds :=
  let start := w.offset + w.every * index
  { start := start, stop := start + w.period, index := index }

/-- `Window.GetLatestBounds(t)` for `period ≥ 0`, no location. -/
def Window.getLatestBounds (w : Window) (t : Int) : Bounds :=
  w.at (lastIndex w.offset t w.every)

/-- `Window.NextBounds(b)` / `PrevBounds(b)` (only the index of `b` is used). -/
def Window.nextBounds (w : Window) (b : Bounds) : Bounds := w.at (b.index + 1)
def Window.prevBounds (w : Window) (b : Bounds) : Bounds := w.at (b.index - 1)

/-- `k` applications of NextBounds (`k ≥ 0`) or PrevBounds (`k < 0`). -/
def Window.shift (w : Window) (b : Bounds) (k : Int) : Bounds := w.at (b.index + k)

/-! ### facts -/

/-- `lastIndex` is floor division. -/
theorem lastIndex_eq_fdiv (zero target every : Int) (h : 0 < every) :
    lastIndex zero target every = (target - zero) / every := by
  unfold lastIndex
  simp only
  generalize target - zero = d
  -- truncated and floor division differ (by one) exactly for a negative `d` off a boundary
  rw [Int.tdiv_eq_ediv, Int.tmod_eq_emod, Int.sign_eq_one_of_pos h]
  by_cases hc : 0 ≤ d ∨ every ∣ d
  · have hm : ¬ (d < 0 ∧ d % every ≠ 0) := by
      rintro ⟨hd, hne⟩
      exact hne (Int.emod_eq_zero_of_dvd (hc.resolve_left (by omega)))
    simp only [if_pos hc, Int.sub_zero, Int.add_zero, Int.cast_ofNat_Int] at hm ⊢
    rw [if_neg hm]
  · have hd : d < 0 := by omega
    have h1 := Int.emod_lt_of_pos d h
    simp only [if_neg hc]
    rw [if_pos ⟨hd, by omega⟩]
    omega

/-- The latest window starts at or before `t`, and the next one after `t`. -/
theorem getLatestBounds_start_le (w : Window) (t : Int) (h : 0 < w.every) :
    (w.getLatestBounds t).start ≤ t ∧ t < (w.getLatestBounds t).start + w.every := by
  unfold Window.getLatestBounds Window.at
  simp only
  rw [lastIndex_eq_fdiv _ _ _ h]
  have h1 := Int.mul_ediv_add_emod (t - w.offset) w.every
  have h2 := Int.emod_nonneg (t - w.offset) (by omega : w.every ≠ 0)
  have h3 := Int.emod_lt_of_pos (t - w.offset) h
  constructor <;> omega

/-- For tumbling windows (`period = every`) `t` lies inside its latest window. -/
theorem getLatestBounds_contains (w : Window) (t : Int) (h : 0 < w.every) (hp : w.period = w.every) :
    (w.getLatestBounds t).start ≤ t ∧ t < (w.getLatestBounds t).stop := by
  have := getLatestBounds_start_le w t h
  have hs : (w.getLatestBounds t).stop = (w.getLatestBounds t).start + w.every := by
    simp [Window.getLatestBounds, Window.at, hp]
  omega

/-- the index is monotone in `t`. -/
theorem lastIndex_mono (zero every : Int) (h : 0 < every) {t1 t2 : Int} (ht : t1 ≤ t2) :
    lastIndex zero t1 every ≤ lastIndex zero t2 every := by
  rw [lastIndex_eq_fdiv _ _ _ h, lastIndex_eq_fdiv _ _ _ h]
  exact Int.ediv_le_ediv h (by omega)

/-- Key fact used by the window cursors: for tumbling windows and `t1 ≤ t2`,
    `t2` is before the stop of `t1`'s window iff both have the same window (same stop). -/
theorem stop_eq_iff (w : Window) (h : 0 < w.every) (hp : w.period = w.every) {t1 t2 : Int} (ht : t1 ≤ t2) :
    t2 < (w.getLatestBounds t1).stop ↔ (w.getLatestBounds t2).stop = (w.getLatestBounds t1).stop := by
  have hm : (t1 - w.offset) / w.every ≤ (t2 - w.offset) / w.every := Int.ediv_le_ediv h (by omega)
  have h2 := @Int.lt_mul_ediv_self_add (t2 - w.offset) w.every h
  simp only [Window.getLatestBounds, Window.at, hp, lastIndex_eq_fdiv _ _ _ h]
  constructor
  · intro hlt
    -- `t2` is before the end of `t1`'s window, so its index is not larger
    have : (t2 - w.offset) / w.every < (t1 - w.offset) / w.every + 1 :=
      (Int.ediv_lt_iff_lt_mul h).mpr (by rw [Int.add_mul, Int.mul_comm]; omega)
    rw [show (t2 - w.offset) / w.every = (t1 - w.offset) / w.every by omega]
  · intro heq; omega

end Influx.Window
