/-
  Influx.Model.WriteAPI — executable model of the /api/v2/write request path.

  Written from the code as it is (quirks included):
    kit/io/limited_read_closer.go   LimitedReadCloser.Read / Close      → `LRC.read`, `LRC.close`
    http/points/batch_reader.go     BatchReadCloser                     → `openBody`
    http/points/points_parser.go    readAll, Parser.parsePoints         → `readAll`, `parsePoints`
    io.ReadAll (Go std)             read until a non-nil error          → `ioReadAll`
    http/write_handler.go           handleWrite, decodeWriteRequest,
                                    findBucket                          → `handle`, `findBucket`
    kit/transport/http/error_handler.go  code → status table            → `Code.status`

  Abstract (not modelled, enter as parameters):
    * gzip: the *decoded* byte stream is the source `Src`; how the decoder
      cuts it into `Read` results is an arbitrary script (`chunks`, `eager`),
      a corrupt stream ends in an error instead of EOF (`term`);
    * the line-protocol parser (`Parser`: the points and the malformed lines of
      a byte string) — models.ParsePointsWithPrecision, covered by C11/C12;
    * organization / bucket lookup services and the points writer: their
      answers are part of the request description `Req`.

  `LRC.read` follows the code *after* fixes/C32-limited-read-closer-exact-limit.patch
  (DESIGN §6 F13): at `N <= 0` the wrapped reader is probed for one byte and the
  limit is flagged as exceeded only if that byte exists.  `LRC.readOld` is the
  code before the patch, kept for the witness theorem `F13_old_code_rejects_exact_limit`.
-/
namespace Influx.WriteAPI

/-- error value returned by a `Read` -/
inductive RErr where
  | eof | other | gzHeader | gzChecksum
deriving DecidableEq, Repr, Inhabited

/-- The (decoded) request body as an `io.ReadCloser`: the bytes still to be
    delivered and a script saying how the reader cuts them. -/
structure Src where
  data : List Nat
  /-- the i-th `Read` on non-empty data delivers at most `chunks[i]` bytes; script exhausted: as many as asked -/
  chunks : List Nat := []
  /-- the terminating error is returned together with the last bytes -/
  eager : Bool := false
  /-- how the stream ends: `eof` = cleanly -/
  term : RErr := .eof
  /-- `Close` returns an error -/
  closeErr : Bool := false
  /-- number of `Close` calls seen -/
  closes : Nat := 0
deriving Repr

/-- how many bytes the next `Read(p)`, `len(p) = k`, may deliver at most -/
def Src.chunk (s : Src) (k : Nat) : Nat :=
  match s.chunks with
  | [] => k
  | c :: _ => min c k

theorem Src.chunk_le (s : Src) (k : Nat) : s.chunk k ≤ k := by
  unfold Src.chunk; split <;> omega

/-- one `Read(p)` with `len(p) = k` on the wrapped reader -/
def Src.read (s : Src) (k : Nat) : Src × List Nat × Option RErr :=
  if s.data.isEmpty then (s, [], some s.term) else
  let n := min (s.chunk k) s.data.length
  ({ s with data := s.data.drop n, chunks := s.chunks.tail }, s.data.take n,
    if n = s.data.length ∧ s.eager then some s.term else none)

def Src.close (s : Src) : Src × Option RErr :=
  ({ s with closes := s.closes + 1 }, if s.closeErr then some .other else none)

/-- error value returned by `Close` -/
inductive CErr where
  | limit            -- io2.ErrReadLimitExceeded
  | under (e : RErr) -- the wrapped reader's Close error
deriving DecidableEq, Repr

/-- kit/io/limited_read_closer.go: type LimitedReadCloser -/
structure LRC where
  r : Src
  n : Int
  err : Option CErr := none
  closed : Bool := false
  limitExceeded : Bool := false
deriving Repr

/-- NewLimitedReadCloser -/
def LRC.new (r : Src) (n : Int) : LRC := { r := r, n := n }

/-- `LimitedReadCloser.Read` (repaired code):
    ```
    if l.N <= 0 {
        if l.limitExceeded { return 0, io.EOF }
        var probe [1]byte
        n, err := l.R.Read(probe[:])
        if n > 0 { l.limitExceeded = true; return 0, io.EOF }
        return 0, err
    }
    if int64(len(p)) > l.N { p = p[0:l.N] }
    n, err = l.R.Read(p); l.N -= int64(n); return
    ``` -/
def LRC.read (l : LRC) (k : Nat) : LRC × List Nat × Option RErr :=
  if l.n ≤ 0 then
    if l.limitExceeded then (l, [], some .eof) else
    match l.r.read 1 with
    | (r', bs, e) =>
      if bs.length > 0 then ({ l with r := r', limitExceeded := true }, [], some .eof)
      else ({ l with r := r' }, [], e)
  else
    let k' := if (k : Int) > l.n then l.n.toNat else k
    match l.r.read k' with
    | (r', bs, e) => ({ l with r := r', n := l.n - bs.length }, bs, e)

/-- `LimitedReadCloser.Read` as it was before the repair (F13):
    `if l.N <= 0 { l.limitExceeded = true; return 0, io.EOF }`. -/
def LRC.readOld (l : LRC) (k : Nat) : LRC × List Nat × Option RErr :=
  if l.n ≤ 0 then ({ l with limitExceeded := true }, [], some .eof)
  else
    let k' := if (k : Int) > l.n then l.n.toNat else k
    match l.r.read k' with
    | (r', bs, e) => ({ l with r := r', n := l.n - bs.length }, bs, e)

/-- `LimitedReadCloser.Close` -/
def LRC.close (l : LRC) : LRC × Option CErr :=
  let l := if l.limitExceeded then { l with err := some .limit } else l
  if l.closed then (l, l.err) else
  match l.r.close with
  | (r', ce) =>
    let l := { l with r := r' }
    let l := match ce, l.err with
      | some e, none => { l with err := some (.under e) }
      | _, _ => l
    ({ l with closed := true }, l.err)

/-- one call on a LimitedReadCloser used on its own -/
inductive Step where
  | read (k : Nat)
  | close
deriving DecidableEq, Repr

/-- what the call returned -/
inductive StepRes where
  | rd (bs : List Nat) (e : Option RErr)
  | cl (e : Option CErr)
deriving Repr

/-- a sequence of Read / Close calls on the (repaired) LimitedReadCloser -/
def LRC.runSteps (l : LRC) : List Step → LRC × List StepRes
  | [] => (l, [])
  | .read k :: ss =>
    match l.read k with
    | (l', bs, e) => let (lf, rs) := LRC.runSteps l' ss; (lf, .rd bs e :: rs)
  | .close :: ss =>
    match l.close with
    | (l', e) => let (lf, rs) := LRC.runSteps l' ss; (lf, .cl e :: rs)

/-- what `points.BatchReadCloser` returns: the source itself (limit ≤ 0) or
    a LimitedReadCloser around it -/
inductive Body where
  | raw (s : Src)
  | limited (l : LRC)
deriving Repr

def Body.src : Body → Src
  | .raw s => s
  | .limited l => l.r

def Body.read (old : Bool) : Body → Nat → Body × List Nat × Option RErr
  | .raw s, k => match s.read k with | (s', bs, e) => (.raw s', bs, e)
  | .limited l, k =>
    match (if old then l.readOld k else l.read k) with
    | (l', bs, e) => (.limited l', bs, e)

def Body.close : Body → Body × Option CErr
  | .raw s => match s.close with | (s', e) => (.raw s', e.map .under)
  | .limited l => match l.close with | (l', e) => (.limited l', e)

/-- BatchReadCloser's `if maxBatchSizeBytes > 0 { rc = NewLimitedReadCloser(rc, max) }` -/
def openBody (s : Src) (limit : Int) : Body :=
  if limit > 0 then .limited (LRC.new s limit) else .raw s

/-- length of the buffer io.ReadAll passes to the next `Read`: always ≥ 1;
    the actual sizes depend on Go's slice growth and are a script here. -/
def bufSize : List Nat → Nat
  | [] => 512
  | b :: _ => b + 1

theorem Src.read_progress (s : Src) (k : Nat) (hk : 0 < k) :
    (s.read k).2.2 = none → (s.read k).1.chunks.length + (s.read k).1.data.length
      < s.chunks.length + s.data.length := by
  unfold Src.read
  by_cases hd : s.data.isEmpty = true
  · rw [if_pos hd]; nofun
  · rw [if_neg hd]
    intro _
    show s.chunks.tail.length + (s.data.drop (min (s.chunk k) s.data.length)).length < _
    have hpos : 0 < s.data.length := List.length_pos_iff.2 (mt List.isEmpty_iff.2 hd)
    rw [List.length_tail, List.length_drop]
    unfold Src.chunk
    cases s.chunks with
    | nil =>
      show 0 - 1 + (s.data.length - min k s.data.length) < 0 + s.data.length
      rw [Nat.zero_sub, Nat.zero_add, Nat.zero_add]
      exact Nat.sub_lt hpos (Nat.lt_min.2 ⟨hk, hpos⟩)
    | cons c cs =>
      show cs.length + 1 - 1 + _ < cs.length + 1 + _
      exact Nat.add_lt_add_of_lt_of_le (Nat.lt_succ_self _) (Nat.sub_le _ _)

theorem Body.read_progress (old : Bool) (b : Body) (k : Nat) (hk : 0 < k) :
    (b.read old k).2.2 = none → (b.read old k).1.src.chunks.length + (b.read old k).1.src.data.length
      < b.src.chunks.length + b.src.data.length := by
  cases b with
  | raw s => exact Src.read_progress s k hk
  | limited l =>
    -- a `Read` of the LimitedReadCloser, old or repaired, that reports no error is a `Read` of at
    -- least one byte on the wrapped reader
    have hpos : ¬ l.n ≤ 0 → 0 < (if (k : Int) > l.n then l.n.toNat else k) := fun h0 => by
      by_cases hkn : (k : Int) > l.n
      · rw [if_pos hkn]; exact Int.pos_iff_toNat_pos.1 (Int.not_le.1 h0)
      · rw [if_neg hkn]; exact hk
    simp only [Body.read, Body.src]
    cases old
    · rw [if_neg Bool.false_ne_true]
      unfold LRC.read
      by_cases h0 : l.n ≤ 0
      · rw [if_pos h0]
        by_cases hx : l.limitExceeded = true
        · rw [if_pos hx]; nofun
        · rw [if_neg hx]
          by_cases hb : (l.r.read 1).2.1.length > 0
          · simp only [if_pos hb]; nofun
          · simp only [if_neg hb]; exact Src.read_progress l.r 1 Nat.one_pos
      · rw [if_neg h0]; exact Src.read_progress l.r _ (hpos h0)
    · rw [if_pos rfl]
      unfold LRC.readOld
      by_cases h0 : l.n ≤ 0
      · rw [if_pos h0]; nofun
      · rw [if_neg h0]; exact Src.read_progress l.r _ (hpos h0)

/-- Go's `io.ReadAll`: `Read` until an error; EOF is success.  `bufs` scripts
    the buffer lengths. Returns the reader's final state and `(bytes, err)`. -/
def ioReadAll (old : Bool) (b : Body) (bufs : List Nat) (acc : List Nat) :
    Body × List Nat × Option RErr :=
  match h : b.read old (bufSize bufs) with
  | (b', bs, none) => ioReadAll old b' bufs.tail (acc ++ bs)
  | (b', bs, some .eof) => (b', acc ++ bs, none)
  | (b', bs, some e) => (b', acc ++ bs, some e)
termination_by b.src.chunks.length + b.src.data.length
decreasing_by
  have hk : 0 < bufSize bufs := by unfold bufSize; split <;> omega
  have := Body.read_progress old b (bufSize bufs) hk
  rw [h] at this
  exact this rfl

/-- error of points_parser.go `readAll` -/
inductive ReadErr where
  | tooLarge          -- ErrMaxBatchSizeExceeded
  | rd (e : RErr)     -- error of a Read
  | cl (e : RErr)     -- error of Close
deriving DecidableEq, Repr

/-- http/points/points_parser.go `readAll`: io.ReadAll, then the deferred
    Close whose error is used only when reading succeeded. -/
def readAll (old : Bool) (b : Body) (bufs : List Nat) : Body × Except ReadErr (List Nat) :=
  match ioReadAll old b bufs [] with
  | (b1, data, rerr) =>
    match b1.close with
    | (b2, cerr) =>
      match rerr with
      | some e => (b2, .error (.rd e))
      | none =>
        match cerr with
        | some .limit => (b2, .error .tooLarge)
        | some (.under e) => (b2, .error (.cl e))
        | none => (b2, .ok data)

/-- kit/platform/errors codes (+ `plain`: an error that is not a *errors.Error) -/
inductive Code where
  | internal | notImplemented | invalid | unprocessable | emptyValue | conflict | notFound
  | unavailable | forbidden | tooManyRequests | unauthorized | methodNotAllowed | tooLarge
  | plain
deriving DecidableEq, Repr, Inhabited

/-- kit/transport/http/error_handler.go `influxDBErrorToStatusCode` -/
def Code.status : Code → Nat
  | .internal => 500 | .notImplemented => 501 | .invalid => 400 | .unprocessable => 422
  | .emptyValue => 400 | .conflict => 422 | .notFound => 404 | .unavailable => 503
  | .forbidden => 403 | .tooManyRequests => 429 | .unauthorized => 401
  | .methodNotAllowed => 405 | .tooLarge => 413 | .plain => 500

/-- `errors.ErrorCode(err)`: what ends up in the JSON body -/
def Code.wire : Code → Code
  | .plain => .internal
  | c => c

/-- what the points writer answers -/
inductive WriterRes where
  | ok | partialWrite (dropped : Nat) | fail
deriving DecidableEq, Repr

/-- abstract line-protocol parser: the points of a byte string, in order, and
    its malformed lines, in order (models.ParsePointsWithPrecision returns an
    error iff `bad` is non-empty). -/
structure Parser (Pt Ln : Type) where
  points : List Nat → List Pt
  bad : List Nat → List Ln

/-- one write request, with the answers of the services it will meet -/
structure Req where
  hasAuth : Bool := true        -- an authorizer is on the context
  precisionOK : Bool := true    -- models.ValidPrecision(precision)
  bucketGiven : Bool := true    -- ?bucket= is non-empty
  gzip : Bool := false          -- Content-Encoding is gzip / x-gzip
  gzipOpen : Option RErr := none -- error of gzip.NewReader (bad / missing header)
  limit : Int                   -- maxBatchSizeBytes
  src : Src                     -- the decoded body
  org : Option Code := none     -- error of OrganizationService.FindOrganization
  bucketIsID : Bool := false    -- ?bucket= parses as a platform.ID
  bucketByID : Option Code := none    -- error of FindBucket{ID}
  bucketByName : Option Code := none  -- error of FindBucket{Name}
  permitted : Bool := true      -- the authorizer's permission set allows the bucket write
  writer : WriterRes := .ok
deriving Repr

/-- what is observable of one request -/
structure Resp (Pt Ln : Type) where
  status : Nat
  code : Option Code := none      -- `code` of the JSON error body
  named : List Ln := []           -- lines named `unable to parse '…'` in the message
  dropped : Option Nat := none    -- `dropped=N` in the message
  writes : List (List Pt) := []   -- arguments of the PointsWriter.WritePoints calls, in order

def errResp {Pt Ln : Type} (c : Code) : Resp Pt Ln := { status := c.status, code := some c.wire }

/-- WriteHandler.findBucket -/
def findBucket (r : Req) : Option Code :=
  if r.bucketIsID then
    match r.bucketByID with
    | none => none
    | some c => if c.wire ≠ .notFound then some c else r.bucketByName
  else r.bucketByName

/-- Parser.parsePoints' mapping of a readAll error to a code -/
def readErrCode : ReadErr → Code
  | .tooLarge => .tooLarge
  | .rd .gzHeader | .rd .gzChecksum | .cl .gzHeader | .cl .gzChecksum => .invalid
  | _ => .internal

/-- The early returns of WriteHandler.handleWrite before the body is touched, in
    the order of the code: pcontext.GetAuthorizer, decodeWriteRequest (precision,
    bucket parameter, gzip.NewReader inside BatchReadCloser — a raw, non-platform
    error), queryOrganization, findBucket, checkBucketWritePermissions. -/
def gate (r : Req) : Option Code :=
  if !r.hasAuth then some .internal else
  if !r.precisionOK then some .invalid else
  if !r.bucketGiven then some .notFound else
  if r.gzip && r.gzipOpen.isSome then some .plain else
  match r.org with
  | some c => some c
  | none =>
  match findBucket r with
  | some c => some c
  | none => if !r.permitted then some .forbidden else none

/-- Parser.parsePoints after readAll succeeded, then PointsWriter.WritePoints and
    the status selection of handleWrite. -/
def afterRead {Pt Ln : Type} (P : Parser Pt Ln) (w : WriterRes) (data : List Nat) : Resp Pt Ln :=
  if !(P.bad data).isEmpty then { (errResp .invalid : Resp Pt Ln) with named := P.bad data } else
  let pts := P.points data
  match w with
  | .ok => { status := 204, writes := [pts] }
  | .partialWrite k => { (errResp .unprocessable : Resp Pt Ln) with dropped := some k, writes := [pts] }
  | .fail => { (errResp .internal : Resp Pt Ln) with writes := [pts] }

/-- the answer, given what reading the body gave (Parser.parsePoints' error mapping) -/
def finish {Pt Ln : Type} (P : Parser Pt Ln) (w : WriterRes) : Except ReadErr (List Nat) → Resp Pt Ln
  | .error e => errResp (readErrCode e)
  | .ok data => afterRead P w data

/-- WriteHandler.handleWrite -/
def handle {Pt Ln : Type} (old : Bool) (P : Parser Pt Ln) (r : Req) (bufs : List Nat) : Resp Pt Ln :=
  match gate r with
  | some c => errResp c
  | none => finish P r.writer (readAll old (openBody r.src r.limit) bufs).2

end Influx.WriteAPI
