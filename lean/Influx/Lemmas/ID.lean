/-
  Lemmas.ID — helper lemmas about `Model.ID` (hex digit tables, `parseLoop`).
-/
import Influx.Model.ID

namespace Influx.Lemmas.ID
open Influx.Model.ID Influx.Generated.IDGen

theorem forall_byte (P : UInt8 → Prop) (h : ∀ n, n < 256 → P (UInt8.ofNat n)) (c : UInt8) : P c := by
  have := h c.toNat c.toNat_lt
  simpa using this

/-- `ParseUint` does not distinguish `A`–`Z` from `a`–`z`. -/
theorem digitVal_lower (c : UInt8) : digitVal (asciiLower c) = digitVal c := by
  unfold asciiLower
  by_cases h : 65 ≤ c.toNat ∧ c.toNat ≤ 90
  · rw [if_pos h]
    revert c; apply forall_byte; decide +kernel
  · rw [if_neg h]

theorem digitVal_hextable : ∀ d, d < 16 → digitVal (hextable d) = some d := by decide +kernel
theorem hextable_isLowerHex : ∀ d, d < 16 → isLowerHex (hextable d) = true := by decide +kernel

theorem digitVal_spec (c : UInt8) : ∀ d, digitVal c = some d → d < 16 → hextable d = asciiLower c := by
  revert c; apply forall_byte; decide +kernel

theorem asciiLower_of_isLowerHex (c : UInt8) : isLowerHex c = true → asciiLower c = c := by
  intro h
  unfold asciiLower
  rw [if_neg]
  intro hu
  simp only [isLowerHex, Bool.or_eq_true, Bool.and_eq_true, decide_eq_true_eq] at h
  omega

/-- `k` base-16 digits of `v`, most significant first. -/
def hexDigits : Nat → Nat → List Nat
  | 0, _ => []
  | k + 1, v => (v / 16 ^ k % 16) :: hexDigits k v

@[simp] theorem hexDigits_length (k v : Nat) : (hexDigits k v).length = k := by
  induction k <;> simp [hexDigits, *]

theorem hexDigits_lt (k v d : Nat) (h : d ∈ hexDigits k v) : d < 16 := by
  induction k with
  | zero => cases h
  | succ k ih =>
    rcases List.mem_cons.mp h with rfl | h
    · exact Nat.mod_lt _ (by decide)
    · exact ih h

theorem hexDigits_mod (k v : Nat) : hexDigits k (v % 16 ^ k) = hexDigits k v := by
  induction k generalizing v with
  | zero => rfl
  | succ k ih =>
    rw [hexDigits, hexDigits, ← ih (v % 16 ^ (k + 1)), Nat.mod_mod_of_dvd v ⟨16, Nat.pow_succ ..⟩, ih,
      Nat.pow_succ, Nat.mod_mul_right_div_self, Nat.mod_mod]

/-- `hex.Encode(PutUint64(i))` is the 16-digit big-endian base-16 numeral of `i`. -/
theorem hexEncode_putUint64BE (i : Nat) :
    hexEncode (putUint64BE i) = (hexDigits 16 i).map hextable := by
  have hand (b : Nat) : b &&& 0x0f = b % 16 := Nat.and_two_pow_sub_one_eq_mod b 4
  -- the two nibbles of the byte `q % 256`
  have hi (q : Nat) : q % 256 / 16 = q / 16 % 16 := Nat.mod_mul_right_div_self q 16 16
  have lo (q : Nat) : q % 256 % 16 = q % 16 := Nat.mod_mod_of_dvd q (by decide)
  simp only [putUint64BE, hexEncode, hexDigits, List.map, hand, Nat.shiftRight_eq_div_pow, hi, lo,
    Nat.div_div_eq_div_mul, Nat.reducePow, Nat.reduceMul, Nat.div_one]

/-- One iteration of the digit loop, with the new accumulator `q` as the unknown: the old one is `q / 16`
    and the digit is `q % 16`.  The `cutoff` and overflow tests together say `q < 2^64`. -/
theorem parseLoop_cons (n r : Nat) (c : UInt8) (cs : List UInt8) :
    parseLoop n (c :: cs) = some r ↔
      ∃ q, q < 2 ^ 64 ∧ q / 16 = n ∧ digitVal c = some (q % 16) ∧ parseLoop q cs = some r := by
  rw [parseLoop]
  constructor
  · intro h
    cases hc : digitVal c with
    | none => rw [hc] at h; cases h
    | some d =>
      rw [hc] at h
      dsimp only at h
      by_cases hd : d ≥ 16
      · rw [if_pos hd] at h; cases h
      by_cases hn : n ≥ cutoff
      · rw [if_neg hd, if_pos hn] at h; cases h
      by_cases hq : n * 16 + d ≥ 2 ^ 64
      · rw [if_neg hd, if_neg hn, if_pos hq] at h; cases h
      rw [if_neg hd, if_neg hn, if_neg hq] at h
      have hd : d < 16 := Nat.lt_of_not_ge hd
      refine ⟨n * 16 + d, Nat.lt_of_not_ge hq, ?_, ?_, h⟩
      · rw [Nat.add_comm, Nat.add_mul_div_right _ _ (by decide), Nat.div_eq_of_lt hd, Nat.zero_add]
      · rw [Nat.mul_add_mod_of_lt hd]
  · rintro ⟨q, hq, rfl, hc, h⟩
    have hcut : q / 16 < cutoff := Nat.div_lt_of_lt_mul (show q < 16 * cutoff from hq)
    rw [hc]
    dsimp only
    rw [if_neg (Nat.not_le_of_lt (Nat.mod_lt _ (by decide))), if_neg (Nat.not_le_of_lt hcut),
      Nat.div_add_mod', if_neg (Nat.not_le_of_lt hq), h]

/-- the digit loop run over the last `k` digits of a `hextable` numeral, started from the digits before them. -/
theorem parseLoop_hexDigits (k v : Nat) (h : v < 2 ^ 64) :
    parseLoop (v / 16 ^ k) ((hexDigits k v).map hextable) = some v := by
  induction k with
  | zero => rw [Nat.pow_zero, Nat.div_one]; rfl
  | succ k ih =>
    rw [hexDigits, List.map_cons, parseLoop_cons]
    exact ⟨v / 16 ^ k, Nat.lt_of_le_of_lt (Nat.div_le_self ..) h, Nat.div_div_eq_div_mul ..,
      digitVal_hextable _ (Nat.mod_lt _ (by decide)), ih⟩

/-- what `parseLoop` accepts, and what it returns: the accumulator is the part of the result above the
    digits still to come. -/
theorem parseLoop_some (s : List UInt8) (n r : Nat) (h : parseLoop n s = some r) :
    r / 16 ^ s.length = n ∧ s.map asciiLower = (hexDigits s.length r).map hextable := by
  induction s generalizing n with
  | nil => cases h; exact ⟨Nat.div_one _, rfl⟩
  | cons c cs ih =>
    obtain ⟨q, _, rfl, hc, h⟩ := (parseLoop_cons ..).mp h
    obtain ⟨rfl, h3⟩ := ih _ h
    refine ⟨(Nat.div_div_eq_div_mul ..).symm, ?_⟩
    rw [List.length_cons, hexDigits, List.map_cons, List.map_cons, h3,
      digitVal_spec c _ hc (Nat.mod_lt _ (by decide))]

theorem parseLoop_lower (s : List UInt8) (n : Nat) :
    parseLoop n (s.map asciiLower) = parseLoop n s := by
  induction s generalizing n with
  | nil => rfl
  | cons c cs ih => simp only [List.map, parseLoop, digitVal_lower, ih]

/-- `Decode` is the length test, the digit loop and the `Valid` test. -/
theorem decode_ok_iff (s : List UInt8) (i : Nat) :
    decode s = .ok i ↔ s.length = 16 ∧ i ≠ 0 ∧ parseLoop 0 s = some i := by
  unfold decode
  by_cases hl : s.length = IDLength
  · have hp : parseUint16 s = parseLoop 0 s := by
      cases s with
      | nil => exact absurd hl (by decide)
      | cons c cs => rfl
    rw [if_neg (not_not_intro hl), hp]
    cases parseLoop 0 s with
    | none => exact ⟨nofun, fun h => nomatch h.2.2⟩
    | some r =>
      dsimp only
      by_cases hr : r = 0
      · rw [if_pos hr]
        exact ⟨nofun, fun ⟨_, h0, h⟩ => absurd ((Option.some.inj h).symm.trans hr) h0⟩
      · rw [if_neg hr]
        constructor
        · intro h; cases h; exact ⟨hl, hr, rfl⟩
        · rintro ⟨_, _, h⟩; cases h; rfl
  · rw [if_pos hl]
    exact ⟨nofun, fun h => absurd h.1 hl⟩

end Influx.Lemmas.ID
