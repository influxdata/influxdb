/-
  Lemmas.DurableQueueQ — queue-level well-formedness (`Holds`) and its preservation
  by `Current`, `Advance`, `Append`, the scanner, and `Open` (also on torn files).
-/
import Influx.Lemmas.DurableQueueOpen
namespace Influx.DQ

/-- The segments of a queue with their unconsumed records, one list per segment.
    Only the first segment has consumed records (`d`, still on disk). -/
def SegsWF : List Seg → List Bytes → List (List Bytes) → Prop
  | [], _, [] => True
  | x :: xs, d, r :: rs => SegWF x d r ∧ SegsWF xs [] rs
  | _, _, _ => False

/-- the last segment of a list: it has consumed nothing unless it is also the first -/
theorem SegsWF.last {tl : Seg} : ∀ (ini : List Seg) (d : List Bytes) (rss : List (List Bytes)),
    SegsWF (ini ++ [tl]) d rss →
    ∃ rsi rl, rss = rsi ++ [rl] ∧ SegsWF ini d rsi ∧ SegWF tl (if ini = [] then d else []) rl
  | [], _, [r], h => ⟨[], r, rfl, trivial, h.1⟩
  | [], _, [], h => h.elim
  | [], _, _ :: _ :: _, h => h.2.elim
  | x :: xs, _, r :: rs, h =>
    let ⟨rsi, rl, e, hi, ht⟩ := SegsWF.last xs [] rs h.2
    ⟨r :: rsi, rl, by rw [e]; rfl, ⟨h.1, hi⟩, by simpa using ht⟩
  | _ :: _, _, [], h => h.elim

theorem SegsWF.snoc {tl : Seg} {rl : List Bytes} : ∀ (ini : List Seg) (d : List Bytes) (rsi : List (List Bytes)),
    SegsWF ini d rsi → SegWF tl (if ini = [] then d else []) rl → SegsWF (ini ++ [tl]) d (rsi ++ [rl])
  | [], _, [], _, ht => ⟨ht, trivial⟩
  | _ :: xs, _, _ :: rs, h, ht => ⟨h.1, SegsWF.snoc xs [] rs h.2 (by simpa using ht)⟩
  | [], _, _ :: _, h, _ => h.elim
  | _ :: _, _, [], h, _ => h.elim

theorem SegsWF.reseat (g : Nat) : ∀ (segs : List Seg) (d : List Bytes) (rss : List (List Bytes)), SegsWF segs d rss →
    (segs.map Seg.file).mapM (newSeg verifyAll g) = some (segs.map (reseat g)) ∧
      SegsWF (segs.map (reseat g)) d rss
  | [], _, [], _ => ⟨rfl, trivial⟩
  | x :: xs, _, _ :: rs, h => by
    obtain ⟨h1, h2⟩ := SegsWF.reseat g xs [] rs h.2
    refine ⟨?_, reseat_wf g h.1, h2⟩
    simp only [List.map_cons, List.mapM_cons, newSeg_wf g h.1, h1]
    rfl
  | [], _, _ :: _, h => h.elim
  | _ :: _, _, [], h => h.elim

/-- `loadSegments` drops the exhausted segments; if the first one goes, nothing on
    disk counts as consumed any more -/
theorem SegsWF.filter : ∀ (segs : List Seg) (d : List Bytes) (rss : List (List Bytes)), SegsWF segs d rss →
    ∃ d' rss', SegsWF (segs.filter (fun s => !s.empty)) d' rss' ∧ [] ∉ rss' ∧
      rss'.flatten = rss.flatten ∧ ∃ p, d = p ++ d'
  | [], d, [], _ => ⟨d, [], trivial, by simp, rfl, [], rfl⟩
  | x :: xs, d, r :: rs, h => by
    obtain ⟨d', rss', h1, h2, h3, p, hp⟩ := SegsWF.filter xs [] rs h.2
    obtain rfl : d' = [] := (List.append_eq_nil_iff.mp hp.symm).2
    by_cases hr : r = []
    · have : x.empty = true := h.1.empty_iff.mpr hr
      exact ⟨[], rss', by simpa [List.filter_cons, this] using h1, h2, by simp [hr, h3], d, by simp⟩
    · have : ¬ x.empty = true := fun he => hr (h.1.empty_iff.mp he)
      refine ⟨d, r :: rss', by simpa [List.filter_cons, this] using ⟨h.1, h1⟩, ?_, by simp [h3], [], rfl⟩
      simp only [List.mem_cons, not_or]
      exact ⟨fun e => hr e.symm, h2⟩
  | [], _, _ :: _, h => h.elim
  | _ :: _, _, [], h => h.elim

/-- The queue (segment list `segs`, configured segment size `g`) holds: consumed
    records `done` of the head segment (still on disk), then the unconsumed records
    `rss`, segment by segment.  Only the head may be exhausted, and then it is alone
    and not over its size.  `B`: bytes the remaining operations may still add. -/
structure QWF (segs : List Seg) (g : Nat) (done : List Bytes) (rss : List (List Bytes)) (B : Nat) : Prop where
  wf : SegsWF segs done rss
  ne : segs ≠ []
  exhausted : [] ∈ rss → rss = [[]] ∧ ∀ x ∈ segs, x.size ≤ x.maxSize
  maxSeg8 : 8 ≤ g
  room : ∀ x ∈ segs, x.size + B < 2^63

/-- The open queue `q` is well formed and holds the consumed records `done` (of
    the head segment) and the unconsumed records `R`, in order. -/
def Holds (q : Q) (done R : List Bytes) (B : Nat) : Prop :=
  ∃ rss, QWF q.segs q.maxSeg done rss B ∧ rss.flatten = R ∧ ¬ q.maxSize < 2 * q.maxSeg

theorem QWF.mono {segs g done rss B B'} (h : QWF segs g done rss B) (hB : B' ≤ B) : QWF segs g done rss B' :=
  ⟨h.wf, h.ne, h.exhausted, h.maxSeg8, fun x hx => by have := h.room x hx; omega⟩

theorem Holds.mono {q done R B B'} (h : Holds q done R B) (hB : B' ≤ B) : Holds q done R B' :=
  let ⟨rss, hq, hR, hm⟩ := h; ⟨rss, hq.mono hB, hR, hm⟩

theorem QWF.head {segs g done rss B} (h : QWF segs g done rss B) :
    ∃ hd t r rs, segs = hd :: t ∧ rss = r :: rs ∧ SegWF hd done r ∧ SegsWF t [] rs ∧
      (r = [] → t = [] ∧ rs = [] ∧ hd.size ≤ hd.maxSize) ∧ (r ≠ [] → [] ∉ rs) := by
  match segs, rss, h.wf, h.ne, h.exhausted with
  | hd :: t, r :: rs, hwf, _, hex =>
    refine ⟨hd, t, r, rs, rfl, rfl, hwf.1, hwf.2, ?_, ?_⟩
    · rintro rfl
      obtain ⟨he, hsz⟩ := hex (by simp)
      obtain rfl : rs = [] := (List.cons.inj he).2
      match t, hwf.2 with
      | [], _ => exact ⟨rfl, rfl, hsz hd (by simp)⟩
    · intro hr hmem
      exact hr (List.cons.inj (hex (by simp [hmem])).1).1
  | [], _, _, hne, _ => exact absurd rfl hne

theorem QWF.room8 {segs g done rss B} (h : QWF segs g done rss B) : 8 + B < 2^63 := by
  obtain ⟨hd, t, r, rs, rfl, _, hwf, _⟩ := h.head
  have := h.room hd (by simp)
  have := hwf.size_eq
  omega

theorem qwf_fresh (g B : Nat) (h8 : 8 ≤ g) (hB : 8 + B < 2^63) : QWF [freshS g] g [] [[]] B := by
  refine ⟨⟨fresh_wf g, trivial⟩, by simp, fun _ => ⟨rfl, ?_⟩, h8, ?_⟩
  all_goals intro x hx; obtain rfl := List.mem_singleton.mp hx; simp [freshS, Seg.size, be64_length]; omega

theorem trimHead_single (q : Q) (h : Seg) (hs : q.segs = [h]) :
    (q.trimHead false).segs = (if h.full then [freshS q.maxSeg] else [h]) ∧
    (q.trimHead false).maxSeg = q.maxSeg ∧ (q.trimHead false).maxSize = q.maxSize := by
  unfold Q.trimHead
  simp only [hs]
  by_cases hf : h.full = true
  · simp [hf, Q.addSegment, hs, freshS]
  · simp [hf, hs]

theorem trimHead_multi (q : Q) (h h2 : Seg) (t : List Seg) (hs : q.segs = h :: h2 :: t) :
    (q.trimHead false).segs = h2 :: t ∧
    (q.trimHead false).maxSeg = q.maxSeg ∧ (q.trimHead false).maxSize = q.maxSize := by
  unfold Q.trimHead
  simp [hs]

theorem room_head {hd h' : Seg} {t : List Seg} {B : Nat} (h : ∀ x ∈ hd :: t, x.size + B < 2^63)
    (hs : h'.size = hd.size) : ∀ x ∈ h' :: t, x.size + B < 2^63 := by
  intro x hx
  rcases List.mem_cons.mp hx with rfl | hx
  · rw [hs]; exact h hd (List.mem_cons_self ..)
  · exact h x (List.mem_cons_of_mem _ hx)

/-- The head segment has been moved to `(done2, r2)` (by an advance or a scanner
    advance that returned `io.EOF` exactly when `r2 = []`), then `trimHead(false)`
    if it is exhausted: the queue is well-formed again and holds the same
    unconsumed records. -/
theorem holds_after_head {q : Q} {h' : Seg} {t : List Seg} {done2 r2 : List Bytes} {rs : List (List Bytes)} {B : Nat}
    (hwf' : SegWF h' done2 r2) (htail : SegsWF t [] rs) (hne : [] ∉ rs) (h8 : 8 ≤ q.maxSeg)
    (hm : ¬ q.maxSize < 2 * q.maxSeg) (hroom : ∀ x ∈ h' :: t, x.size + B < 2^63) :
    ∃ done' p, Holds (if r2 = [] then ({ q with segs := h' :: t } : Q).trimHead false else { q with segs := h' :: t })
      done' (r2 ++ rs.flatten) B ∧ done2 = p ++ done' := by
  by_cases hr2 : r2 = []
  · subst hr2
    rw [if_pos rfl]
    match t, rs, htail with
    | [], [], _ =>
      have hB : 8 + B < 2^63 := by
        have := hroom h' (by simp); have := hwf'.size_eq; omega
      obtain ⟨h1, h2, h3⟩ := trimHead_single ({ q with segs := [h'] } : Q) h' rfl
      by_cases hfull : h'.full = true
      · rw [if_pos hfull] at h1
        exact ⟨[], done2, ⟨[[]], by rw [h1, h2]; exact qwf_fresh _ _ h8 hB, rfl, by rw [h2, h3]; exact hm⟩, by simp⟩
      · rw [if_neg hfull] at h1
        refine ⟨done2, [], ⟨[[]], ?_, rfl, by rw [h2, h3]; exact hm⟩, rfl⟩
        rw [h1, h2]
        refine ⟨⟨hwf', trivial⟩, by simp, fun _ => ⟨rfl, ?_⟩, h8, hroom⟩
        intro x hx; obtain rfl := List.mem_singleton.mp hx
        simp [Seg.full] at hfull; omega
    | h2 :: t', r2' :: rs', htail =>
      obtain ⟨h1, hh2, h3⟩ := trimHead_multi ({ q with segs := h' :: h2 :: t' } : Q) h' h2 t' rfl
      refine ⟨[], done2, ⟨r2' :: rs', ?_, rfl, by rw [hh2, h3]; exact hm⟩, by simp⟩
      rw [h1, hh2]
      exact ⟨htail, by simp, fun he => absurd he hne, h8, fun x hx => hroom x (List.mem_cons_of_mem _ hx)⟩
  · rw [if_neg hr2]
    refine ⟨done2, [], ⟨r2 :: rs, ⟨⟨hwf', htail⟩, by simp, fun he => ?_, h8, hroom⟩, rfl, hm⟩, rfl⟩
    rcases List.mem_cons.mp he with he | he
    · exact absurd he.symm hr2
    · exact absurd he hne

theorem holds_current {q : Q} {done R B} (h : Holds q done R B) :
    q.current = match R with | [] => .error .eof | x :: _ => .ok x := by
  obtain ⟨rss, hq, rfl, _⟩ := h
  obtain ⟨hd, t, r, rs, hsegs, rfl, hwf, _, hemp, _⟩ := hq.head
  simp only [Q.current, hsegs]
  match r, hwf, hemp with
  | [], hwf, hemp => obtain ⟨_, rfl, _⟩ := hemp rfl; exact current_wf_nil hwf
  | x :: r', hwf, _ => exact current_wf_cons hwf

theorem holds_advance {q : Q} {done R B} (h : Holds q done R B) :
    ∃ done' p, Holds q.advance done' (R.drop 1) B ∧ done ++ R.take 1 = p ++ done' := by
  obtain ⟨rss, hq, rfl, hm⟩ := h
  obtain ⟨hd, t, r, rs, hsegs, rfl, hwf, htail, hemp, hne⟩ := hq.head
  obtain ⟨hwf', hsz, he⟩ := advance_wf hwf
  have hq' : q.advance = (if r.drop 1 = [] then ({ q with segs := hd.advance.1 :: t } : Q).trimHead false
      else { q with segs := hd.advance.1 :: t }) := by
    simp only [Q.advance, hsegs]
    rw [show hd.advance = (hd.advance.1, hd.advance.2) from rfl]
    simp only [he]
    by_cases hr : r.drop 1 = [] <;> simp [hr]
  have hne' : [] ∉ rs := by
    by_cases hr : r = []
    · rw [(hemp hr).2.1]; simp
    · exact hne hr
  obtain ⟨done', p, hh, hp⟩ := holds_after_head (q := q) hwf' htail hne' hq.maxSeg8 hm
    (room_head (hsegs ▸ hq.room) hsz)
  rw [← hq'] at hh
  have hR : (r :: rs).flatten.take 1 = r.take 1 ∧ (r :: rs).flatten.drop 1 = r.drop 1 ++ rs.flatten := by
    cases r with
    | nil => obtain ⟨_, rfl, _⟩ := hemp rfl; exact ⟨rfl, rfl⟩
    | cons x r' => exact ⟨rfl, rfl⟩
  rw [hR.1, hR.2]
  exact ⟨done', p, hh, hp⟩

theorem holds_scan_nil {q : Q} {done B} (h : Holds q done [] B) (n : Nat) : q.scan n = (q, .eof) := by
  obtain ⟨rss, hq, hR, _⟩ := h
  obtain ⟨hd, t, r, rs, hsegs, rfl, hwf, _, _, _⟩ := hq.head
  obtain rfl : r = [] := (List.append_eq_nil_iff.mp hR).1
  have := hwf.empty_iff.mpr rfl
  simp only [Seg.empty, beq_iff_eq] at this
  simp [Q.scan, hsegs, this]

/-- a scanner pass: delivers up to `n` of the next records (those left in the head
    segment), then advances past them -/
theorem holds_scan {q : Q} {done R B} (h : Holds q done R B) (n : Nat) (hR : R ≠ []) (hne : ∀ y ∈ R, y ≠ []) :
    ∃ ys R' done' p, (q.scan n).2 = .got ys true ∧ R = ys ++ R' ∧ ys.length ≤ n ∧ (ys ≠ [] ∨ n = 0) ∧
      Holds (q.scan n).1 done' R' B ∧ done ++ ys = p ++ done' := by
  obtain ⟨rss, hq, rfl, hm⟩ := h
  obtain ⟨hd, t, r, rs, hsegs, rfl, hwf, htail, hemp, hners⟩ := hq.head
  have hr : r ≠ [] := by
    rintro rfl; obtain ⟨_, rfl, _⟩ := hemp rfl; exact hR rfl
  have hnemp : ¬ hd.pos = hd.size - 8 := fun hc => hr (hwf.empty_iff.mp (by simp [Seg.empty, hc]))
  obtain ⟨sc, hsc, hpos, herr⟩ := scanMany_wf n [] r hwf (fun y hy => hne y (by simp [hy]))
  simp only [encRecs_nil, List.length_nil, Nat.add_zero, List.nil_append] at hsc hpos
  have hwf2 : SegWF hd done (r.take n ++ r.drop n) := by rw [List.take_append_drop]; exact hwf
  obtain ⟨hw1, hs1, he1⟩ := advanceTo_wf hwf2
  have hsa : hd.scanAdvance sc = hd.advanceTo ((hd.pos + (encRecs (r.take n)).length : Nat) : Int) := by
    simp [Seg.scanAdvance, herr, hpos]
  generalize hh1 : hd.advanceTo ((hd.pos + (encRecs (r.take n)).length : Nat) : Int) = res1 at *
  obtain ⟨h1, e1⟩ := res1
  simp only at hw1 hs1 he1
  have hroom1 : ∀ y ∈ h1 :: t, y.size + B < 2^63 := room_head (hsegs ▸ hq.room) hs1
  have hys : r.take n ≠ [] ∨ n = 0 := by
    cases n with
    | zero => exact .inr rfl
    | succ m => cases r with
      | nil => exact absurd rfl hr
      | cons x r' => exact .inl (by simp)
  have hsplit : (r :: rs).flatten = r.take n ++ (r.drop n ++ rs.flatten) := by
    rw [← List.append_assoc, List.take_append_drop, List.flatten_cons]
  by_cases hdn : r.drop n = []
  · -- the whole head segment was scanned: EOF, retried under the lock, trimmed
    rw [hdn] at hw1 he1
    simp only [if_true] at he1
    have hw1' : SegWF h1 (done ++ r.take n) ([] ++ []) := hw1
    obtain ⟨hw2, hs2, he2⟩ := advanceTo_wf hw1'
    simp only [encRecs_nil, List.length_nil, Nat.add_zero, if_true] at hw2 hs2 he2
    have hp1 : h1.pos = hd.pos + (encRecs (r.take n)).length := by
      rw [hw1.pos_eq, hwf.pos_eq, encRecs_append, List.length_append]
    have hsa2 : h1.scanAdvance sc = h1.advanceTo ((h1.pos : Nat) : Int) := by
      simp [Seg.scanAdvance, herr, hpos, hp1]
    generalize hh2 : h1.advanceTo ((h1.pos : Nat) : Int) = res2 at *
    obtain ⟨h2, e2⟩ := res2
    simp only at hw2 hs2 he2
    have hq2 : q.scan n = (({ q with segs := h2 :: t } : Q).trimHead false, .got (r.take n) true) := by
      simp only [Q.scan, hsegs, if_neg hnemp, hsc, hsa, he1, hsa2, he2]
    obtain ⟨done', p, hh, hp⟩ := holds_after_head (q := q) (r2 := []) (by simpa using hw2) htail (hners hr)
      hq.maxSeg8 hm (room_head hroom1 hs2)
    rw [if_pos rfl] at hh
    rw [hq2]
    exact ⟨_, _, done', p, rfl, hsplit, List.length_take_le _ _, hys, by rw [hdn]; exact hh, hp⟩
  · simp only [hdn, if_false] at he1
    have hq1 : q.scan n = (({ q with segs := h1 :: t } : Q), .got (r.take n) true) := by
      simp only [Q.scan, hsegs, if_neg hnemp, hsc, hsa, he1]
    obtain ⟨done', p, hh, hp⟩ := holds_after_head (q := q) hw1 htail (hners hr) hq.maxSeg8 hm hroom1
    rw [if_neg hdn] at hh
    rw [hq1]
    exact ⟨_, _, done', p, rfl, hsplit, List.length_take_le _ _, hys, hh, hp⟩

theorem QWF.last {segs g done rss B} (h : QWF segs g done rss B) :
    ∃ ini tl rsi rl, segs = ini ++ [tl] ∧ rss = rsi ++ [rl] ∧ SegsWF ini done rsi ∧
      SegWF tl (if ini = [] then done else []) rl := by
  have hwf := h.wf
  rw [← List.dropLast_concat_getLast h.ne] at hwf
  obtain ⟨rsi, rl, e, hini, htl⟩ := SegsWF.last _ done rss hwf
  exact ⟨_, _, rsi, rl, (List.dropLast_concat_getLast h.ne).symm, e, hini, htl⟩

theorem room_snoc {ini : List Seg} {t : Seg} {B B' : Nat} (h : ∀ x ∈ ini, x.size + B < 2^63) (hB : B' ≤ B)
    (ht : t.size + B' < 2^63) : ∀ x ∈ ini ++ [t], x.size + B' < 2^63 := by
  intro x hx
  rcases List.mem_append.mp hx with hx | hx
  · exact Nat.lt_of_le_of_lt (Nat.add_le_add_left hB _) (h x hx)
  · rw [List.mem_singleton.mp hx]; exact ht

theorem room_after {sz sz' l B : Nat} (h : sz + B < 2^63) (hB : l + 16 ≤ B) (hsz : sz' ≤ sz + (8 + l)) :
    sz' + (B - (l + 16)) < 2^63 := by omega

/-- Where `Queue.Append b` writes when the queue is not full: the segments `ini`
    stay as they are and `tl` takes the entry — `tl` is the last segment, or a new
    one behind it if the last is over its size.  A crash inside that append tears
    the file of `tl`. -/
theorem append_target {q : Q} {done rss B} (hq : QWF q.segs q.maxSeg done rss B) (b : Bytes)
    (hfull : ¬ q.total + b.length > q.maxSize) :
    ∃ ini tl rsi rl, SegsWF ini done rsi ∧ SegWF tl (if ini = [] then done else []) rl ∧
      rsi.flatten ++ rl = rss.flatten ∧ [] ∉ rsi ∧ (∀ x ∈ ini ++ [tl], x.size + B < 2^63) ∧
      ¬ tl.size > tl.maxSize ∧
      ∀ tl', tl.append b = .ok tl' →
        q.append b = ({ q with segs := ini ++ [tl'], total := q.total + (b.length + 8) }, .ok) ∧
        ∀ k, q.crashAppendFiles b k = (ini.map Seg.file ++ [tornWrite tl.file tl'.file k],
          some (tornObs tl.file tl'.file (tornWrite tl.file tl'.file k))) := by
  obtain ⟨ini, tl, rsi, rl, hsegs, rfl, hini, htl⟩ := hq.last
  have hroom : ∀ x ∈ ini ++ [tl], x.size + B < 2^63 := fun x hx => hq.room x (hsegs ▸ hx)
  have hfiles : q.files = ini.map Seg.file ++ [tl.file] := by simp [Q.files, hsegs]
  by_cases hsf : tl.size > tl.maxSize
  · -- rollover into a new segment (the queue is not exhausted then)
    have happ : tl.append b = .error .segFull := by simp [Seg.append, hsf]
    refine ⟨ini ++ [tl], freshS q.maxSeg, rsi ++ [rl], [], hsegs ▸ hq.wf, by simpa using fresh_wf q.maxSeg, by simp,
      fun he => absurd ((hq.exhausted he).2 tl (by simp [hsegs])) (Nat.not_le.mpr hsf),
      room_snoc hroom (Nat.le_refl _) hq.room8, Nat.not_lt.mpr hq.maxSeg8, fun tl' happ' => ⟨?_, fun k => ?_⟩⟩
    · have hset : setLast (ini ++ [tl] ++ [(⟨be64 0, 0, q.maxSeg⟩ : Seg)]) tl' = ini ++ [tl] ++ [tl'] := by
        simp [setLast]
      unfold Q.append
      rw [if_neg hfull]
      simp only [hsegs, List.getLast?_concat, happ]
      rw [show (⟨be64 0, 0, q.maxSeg⟩ : Seg) = freshS q.maxSeg from rfl, happ']
      simp only [Q.addSegment, hsegs, hset]
    · unfold Q.crashAppendFiles
      rw [if_neg hfull]
      simp only [hsegs, List.getLast?_concat, happ]
      rw [show (⟨be64 0, 0, q.maxSeg⟩ : Seg) = freshS q.maxSeg from rfl, happ', hfiles]
      simp [freshS]
  · refine ⟨ini, tl, rsi, rl, hini, htl, by simp, fun he => ?_, hroom, hsf, fun tl' happ' => ⟨?_, fun k => ?_⟩⟩
    · have := congrArg List.length (hq.exhausted (List.mem_append_left _ he)).1
      cases rsi with
      | nil => cases he
      | cons _ _ => simp at this
    · have hset : setLast (ini ++ [tl]) tl' = ini ++ [tl'] := by simp [setLast]
      unfold Q.append
      rw [if_neg hfull]
      simp only [hsegs, List.getLast?_concat, happ', hset]
    · unfold Q.crashAppendFiles
      rw [if_neg hfull]
      simp only [hsegs, List.getLast?_concat, happ']
      rw [hfiles]
      simp [setLastB]

theorem holds_append {q : Q} {done R B} (h : Holds q done R B) (b : Bytes) (hB : b.length + 16 ≤ B) :
    q.append b = (q, .full) ∨
    ((q.append b).2 = .ok ∧ Holds (q.append b).1 done (R ++ [b]) (B - (b.length + 16))) := by
  obtain ⟨rss, hq, rfl, hm⟩ := h
  by_cases hfull : q.total + b.length > q.maxSize
  · left; unfold Q.append; rw [if_pos hfull]
  · right
    obtain ⟨ini, tl, rsi, rl, hini, htl, hfl, hne, hroom, hsf, heq⟩ := append_target hq b hfull
    have hroomtl := hroom tl (by simp)
    obtain ⟨tl', happ, hwf', hsz⟩ := append_wf htl b hsf (by omega)
    rw [(heq tl' happ).1]
    refine ⟨rfl, rsi ++ [rl ++ [b]], ⟨SegsWF.snoc _ _ _ hini hwf', by simp, fun he => absurd (by simpa using he) hne,
      hq.maxSeg8, room_snoc (fun x hx => hroom x (List.mem_append_left _ hx)) (Nat.sub_le _ _)
        (room_after hroomtl hB (Nat.le_of_eq hsz))⟩, by simp [← hfl], hm⟩

/-- `NewQueue` + `Queue.Open` once every segment file has been opened (`newSegment`)
    into a well-formed segment: exhausted segments are dropped, a new one is added
    if none is left; the unconsumed records are kept, in order. -/
theorem qOpen_core (m g B : Nat) (files : List Bytes) (segs : List Seg) (d0 : List Bytes) (rss : List (List Bytes))
    (hmap : files.mapM (newSeg verifyAll g) = some segs) (hwf : SegsWF segs d0 rss)
    (h8 : 8 ≤ g) (hm : ¬ m < 2 * g) (hB : 8 + B < 2^63) (hroom : ∀ x ∈ segs, x.size + B < 2^63) :
    ∃ q' done' p, qOpen verifyAll m g files = some q' ∧ Holds q' done' rss.flatten B ∧ d0 = p ++ done' := by
  obtain ⟨d', rss', hf, hne, hfl, p, hp⟩ := SegsWF.filter segs d0 rss hwf
  unfold qOpen
  rw [if_neg hm, hmap]
  simp only []
  generalize hseg : segs.filter (fun s => !s.empty) = fs at hf ⊢
  match fs, rss', hf with
  | [], [], _ =>
    simp only [List.isEmpty_nil, if_true, Q.addSegment, List.nil_append]
    have hcur : (⟨be64 0, 0, g⟩ : Seg).current = .error .eof := current_wf_nil (fresh_wf g)
    simp only [hcur]
    obtain ⟨done', p', hh, hp'⟩ := holds_after_head (q := ⟨[⟨be64 0, 0, g⟩], m, g, 0⟩) (t := []) (r2 := []) (rs := [])
      (fresh_wf g) trivial (by simp) h8 hm (fun x hx => by
        obtain rfl := List.mem_singleton.mp hx; simpa [freshS, Seg.size, be64_length] using hB)
    rw [if_pos rfl] at hh
    obtain rfl : done' = [] := (List.append_eq_nil_iff.mp hp'.symm).2
    exact ⟨_, [], d0, rfl, by rw [← hfl]; exact hh, by simp⟩
  | h :: t, r :: rs, hf =>
    simp only [List.isEmpty_cons, Bool.false_eq_true, if_false]
    obtain ⟨y, hy⟩ : ∃ y, h.current = .ok y := by
      cases r with
      | nil => exact absurd (by simp) hne
      | cons y r' => exact ⟨y, current_wf_cons hf.1⟩
    simp only [hy]
    refine ⟨_, d', p, rfl, ⟨r :: rs, ⟨hf, by simp, fun he => absurd he hne, h8, ?_⟩, hfl, hm⟩, hp⟩
    intro x hx
    exact hroom x (List.mem_filter.mp (hseg ▸ hx)).1

/-- What a reopen (clean or after a crash) of the queue holding `done`, `R` may do:
    `Open` succeeds on `files`; the in-flight entries `bs` are there or not;
    the queue resumes after a prefix `p` of `done ++ R ++ extra`, with `done'` counted
    as consumed — never beyond the old head position plus `slack` (1 for a crash
    inside an advance), so nothing unconsumed is lost. -/
def Reopens (q : Q) (files : List Bytes) (done R bs : List Bytes) (slack B : Nat) : Prop :=
  ∃ q' done' R' p extra, qOpen verifyAll q.maxSize q.maxSeg files = some q' ∧ Holds q' done' R' B ∧
    (extra = [] ∨ extra = bs) ∧ done ++ R ++ extra = p ++ (done' ++ R') ∧
    p.length + done'.length ≤ done.length + slack

theorem room_reseat {segs : List Seg} {g B : Nat} (h : ∀ x ∈ segs, x.size + B < 2^63) :
    ∀ x ∈ segs.map (reseat g), x.size + B < 2^63 := by
  intro x hx
  obtain ⟨y, hy, rfl⟩ := List.mem_map.mp hx
  exact h y hy

theorem reopens_of_segs {q : Q} {files : List Bytes} {segs : List Seg} {d0 : List Bytes} {rss : List (List Bytes)}
    {done R extra bs : List Bytes} {slack B : Nat}
    (hmap : files.mapM (newSeg verifyAll q.maxSeg) = some segs) (hwf : SegsWF segs d0 rss)
    (h8 : 8 ≤ q.maxSeg) (hm : ¬ q.maxSize < 2 * q.maxSeg) (hB : 8 + B < 2^63)
    (hroom : ∀ x ∈ segs, x.size + B < 2^63) (hex : extra = [] ∨ extra = bs)
    (hall : done ++ R ++ extra = d0 ++ rss.flatten) (hd0 : d0.length ≤ done.length + slack) :
    Reopens q files done R bs slack B := by
  obtain ⟨q', done', p, h1, h2, rfl⟩ := qOpen_core q.maxSize q.maxSeg B files segs d0 rss hmap hwf h8 hm hB hroom
  exact ⟨q', done', _, p, extra, h1, h2, hex, by rw [hall, List.append_assoc], by simpa using hd0⟩

/-- **Clean reopen**: `Close` + `Open` keeps every unconsumed record, in order. -/
theorem holds_reopen {q : Q} {done R B} (h : Holds q done R B) (bs : List Bytes) : Reopens q q.files done R bs 0 B := by
  obtain ⟨rss, hq, rfl, hm⟩ := h
  obtain ⟨hmap, hwf⟩ := SegsWF.reseat q.maxSeg q.segs done rss hq.wf
  exact reopens_of_segs hmap hwf hq.maxSeg8 hm hq.room8 (room_reseat hq.room) (.inl rfl) (by simp) (by simp)

theorem Recovered.shape {t : Seg} {d r bs : List Bytes} (h : Recovered t d r bs) :
    ∃ d0 r0 extra, SegWF t d0 r0 ∧ (extra = [] ∨ extra = bs) ∧ d0 ++ r0 = d ++ r ++ extra ∧ (d0 = d ∨ d0 = []) := by
  cases h with
  | absent h => exact ⟨d, r, [], h, .inl rfl, by simp, .inl rfl⟩
  | complete h => exact ⟨d, r ++ bs, bs, h, .inr rfl, by simp, .inl rfl⟩
  | replay h => exact ⟨[], d ++ r, [], h, .inl rfl, by simp, .inr rfl⟩

theorem Recovered.size_le {t s : Seg} {d r : List Bytes} {b : Bytes} (h : Recovered t d r [b]) (hs : SegWF s d r) :
    t.size ≤ s.size + (8 + b.length) := by
  obtain ⟨d0, r0, extra, ht, hex, hall, _⟩ := h.shape
  rw [ht.size_all, hs.size_all, hall, encRecs_append]
  rcases hex with rfl | rfl <;> simp <;> omega

/-- `Open` when all segment files but the last are intact and the last one, written
    by the crashed append of `bs`, has been recovered into `t'` -/
theorem reopens_last {q : Q} {ini : List Seg} {t' : Seg} {torn : Bytes} {done : List Bytes}
    {rsi : List (List Bytes)} {rl bs : List Bytes} {B : Nat}
    (hini : SegsWF ini done rsi) (hrec : Recovered t' (if ini = [] then done else []) rl bs)
    (hnew : newSeg verifyAll q.maxSeg torn = some t') (h8 : 8 ≤ q.maxSeg) (hm : ¬ q.maxSize < 2 * q.maxSeg)
    (hB : 8 + B < 2^63) (hroom : ∀ x ∈ ini ++ [t'], x.size + B < 2^63) :
    Reopens q (ini.map Seg.file ++ [torn]) done (rsi.flatten ++ rl) bs 0 B := by
  obtain ⟨hmap, hwf⟩ := SegsWF.reseat q.maxSeg ini done rsi hini
  have hfiles : (ini.map Seg.file ++ [torn]).mapM (newSeg verifyAll q.maxSeg)
      = some (ini.map (reseat q.maxSeg) ++ [t']) := by
    rw [List.mapM_append, hmap]
    simp only [List.mapM_cons, List.mapM_nil, hnew]
    rfl
  have hroom' : ∀ x ∈ ini.map (reseat q.maxSeg) ++ [t'], x.size + B < 2^63 := by
    intro x hx
    rcases List.mem_append.mp hx with hx | hx
    · exact room_reseat (fun y hy => hroom y (List.mem_append_left _ hy)) x hx
    · exact hroom x (List.mem_append_right _ hx)
  obtain ⟨d0, r0, extra, ht, hex, hall, hd0⟩ := hrec.shape
  by_cases hi : ini = []
  · -- the only segment: it may have been repaired and replay its consumed records
    subst hi
    match rsi, hini with
    | [], _ =>
      rw [if_pos rfl] at hall hd0
      refine reopens_of_segs (d0 := d0) (rss := [r0]) hfiles ⟨ht, trivial⟩ h8 hm hB hroom' hex
        (by simpa using hall.symm) ?_
      rcases hd0 with rfl | rfl <;> simp
  · rw [if_neg hi] at hall hd0
    obtain rfl : d0 = [] := by rcases hd0 with h | h <;> exact h
    refine reopens_of_segs (d0 := done) (rss := rsi ++ [r0]) hfiles
      (SegsWF.snoc _ _ _ hwf (by simpa [hi] using ht)) h8 hm hB hroom' hex ?_ (by simp)
    simp only [List.nil_append] at hall
    simp [hall]

/-- **Crash inside `Queue.Append`, then reopen** — every cut that is not footer-like. -/
theorem holds_crashAppend {q : Q} {done R B} (h : Holds q done R B) (b : Bytes) (k : Nat) (hB : b.length + 16 ≤ B)
    (hgood : ∀ o, (q.crashAppendFiles b k).2 = some o → o.footerLike = false) :
    Reopens q (q.crashAppendFiles b k).1 done R [b] 0 (B - (b.length + 16)) := by
  have hB' := Nat.sub_le B (b.length + 16)
  have plain := holds_reopen (h.mono hB') [b]
  obtain ⟨rss, hq, rfl, hm⟩ := h
  by_cases hfull : q.total + b.length > q.maxSize
  · unfold Q.crashAppendFiles
    rw [if_pos hfull]
    exact plain
  · obtain ⟨ini, tl, rsi, rl, hini, htl, hfl, _, hroom, hsf, heq⟩ := append_target hq b hfull
    have hroomtl := hroom tl (by simp)
    obtain ⟨tl', happ, _, _⟩ := append_wf htl b hsf (by omega)
    rw [(heq tl' happ).2 k] at hgood ⊢
    obtain ⟨t', hnew, hrec⟩ := torn_append_recovers q.maxSeg htl b happ (by omega) k (hgood _ rfl)
    rw [← hfl]
    exact reopens_last hini hrec hnew hq.maxSeg8 hm (Nat.lt_of_le_of_lt (Nat.add_le_add_left hB' _) hq.room8)
      (room_snoc (fun x hx => hroom x (List.mem_append_left _ hx)) hB' (room_after hroomtl hB (hrec.size_le htl)))

/-- **Crash while `addSegment` creates the new segment file** (before the entry is
    written), when the file is left empty or with its complete footer. -/
theorem holds_crashSeg {q : Q} {done R B} (h : Holds q done R B) (b : Bytes) (k : Nat)
    (hgood : ∀ o, (q.crashSegFiles b k).2 = some o → o.same ≠ 0) :
    Reopens q (q.crashSegFiles b k).1 done R [] 0 B := by
  have plain := holds_reopen h []
  obtain ⟨rss, hq, rfl, hm⟩ := h
  unfold Q.crashSegFiles at hgood ⊢
  by_cases hfull : q.total + b.length > q.maxSize
  · simp only [hfull, if_true]; exact plain
  · simp only [hfull, if_false] at hgood ⊢
    obtain ⟨ini, tl, _, _, hsegs, _⟩ := hq.last
    simp only [hsegs, List.getLast?_concat] at hgood ⊢
    cases happ : tl.append b with
    | ok t' => exact plain
    | error e =>
      cases e
      simp only [happ] at hgood ⊢
      have hk := hgood _ rfl
      simp only at hk
      -- the new file: empty, or a complete zero footer
      have hnew : ∃ t', newSeg verifyAll q.maxSeg ((be64 0).take k) = some t' ∧ SegWF t' [] [] ∧ t'.size = 8 := by
        by_cases hk0 : k = 0
        · subst hk0
          exact ⟨freshS q.maxSeg, by simpa using newSeg_nil q.maxSeg, fresh_wf _, rfl⟩
        · have hk8 : k ≥ 8 := by
            apply Classical.byContradiction; intro hc; simp [hk0, hc] at hk
          have : (be64 0).take k = (freshS q.maxSeg).file := by
            rw [List.take_of_length_le (by rw [be64_length]; omega)]; rfl
          rw [this]
          exact ⟨_, newSeg_wf _ (fresh_wf _), reseat_wf _ (fresh_wf _), rfl⟩
      obtain ⟨t', hnt, hwt, hst⟩ := hnew
      have hB8 := hq.room8
      have := reopens_last (q := q) (ini := q.segs) (rl := []) (bs := []) (B := B) hq.wf
        (.absent (by simpa [hq.ne] using hwt)) hnt hq.maxSeg8 hm hB8
        (room_snoc hq.room (Nat.le_refl _) (by rw [hst]; exact hB8))
      simpa [Q.files] using this

/-- **Crash inside `Queue.Advance` (footer rewrite), then reopen** — every cut that
    is not footer-like. -/
theorem holds_crashAdv {q : Q} {done R B} (h : Holds q done R B) (k : Nat)
    (hgood : ∀ o, (q.crashAdvFiles verifyAll k).2 = some o → o.footerLike = false) :
    Reopens q (q.crashAdvFiles verifyAll k).1 done R [] 1 B := by
  have plain := holds_reopen h []
  obtain ⟨rss, hq, rfl, hm⟩ := h
  obtain ⟨hd, t, r, rs, hsegs, rfl, hwf, htail, hemp, _⟩ := hq.head
  have hnew := newSeg_wf q.maxSeg hwf
  have hws := reseat_wf q.maxSeg hwf
  unfold Q.crashAdvFiles at hgood ⊢
  simp only [hsegs, hnew] at hgood ⊢
  cases r with
  | nil =>
    -- nothing to advance past: no write
    have hsame : tornWrite hd.file (reseat q.maxSeg hd).advance.1.file k = hd.file := by
      rw [advance_wf_nil hws]; exact tornWrite_self _ _
    have hf : setHead q.files hd.file = q.files := by simp [Q.files, hsegs, setHead]
    rw [hsame, hf]
    obtain ⟨q', done', R', p, extra, h1, h2, h3, h4, h5⟩ := plain
    exact ⟨q', done', R', p, extra, h1, h2, h3, h4, by omega⟩
  | cons x r' =>
    obtain ⟨t', hnewt, hrec⟩ := torn_advance_recovers q.maxSeg hws k (hgood _ rfl)
    rw [show (reseat q.maxSeg hd).file = hd.file from rfl] at hnewt
    obtain ⟨d0, r0, hw0, hall, hd0⟩ : ∃ d0 r0, SegWF t' d0 r0 ∧ d0 ++ r0 = done ++ x :: r' ∧
        d0.length ≤ done.length + 1 := by
      cases hrec with
      | absent h => exact ⟨_, _, h, rfl, by omega⟩
      | complete h => exact ⟨_, _, h, by simp, by simp⟩
      | replay h => exact ⟨_, _, h, rfl, by simp⟩
    obtain ⟨hmap, htl⟩ := SegsWF.reseat q.maxSeg t [] rs htail
    have hfiles : (setHead q.files (tornWrite hd.file (reseat q.maxSeg hd).advance.1.file k)).mapM
        (newSeg verifyAll q.maxSeg) = some (t' :: t.map (reseat q.maxSeg)) := by
      simp only [Q.files, hsegs, List.map_cons, setHead, List.mapM_cons, hnewt, hmap]; rfl
    have hsize : t'.size = (reseat q.maxSeg hd).size := by rw [hw0.size_all, hall, ← hwf.size_all]; rfl
    refine reopens_of_segs (d0 := d0) (rss := r0 :: rs) hfiles ⟨hw0, htl⟩ hq.maxSeg8 hm hq.room8
      (room_head (room_reseat (segs := hd :: t) (hsegs ▸ hq.room)) hsize) (.inl rfl) ?_ hd0
    rw [show d0 ++ (r0 :: rs).flatten = d0 ++ r0 ++ rs.flatten by simp, hall]; simp

end Influx.DQ
