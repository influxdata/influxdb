/-
  Lemmas.CodecBlock — boolean codec; string codec over an abstract compressor; block framing.
-/
import Influx.Lemmas.CodecInt
namespace Influx.Codec
open Influx.Generated.Codec
open Influx.Spec.C07 (Vals)

theorem boolDecode_boolEncode (vs : List Bool) (hlen : vs.length < W) : boolDecode (boolEncode vs) = some vs := by
  obtain ⟨pad, hp⟩ := bitsOfBytes_packBits vs
  simp only [boolEncode, boolDecode, getUvarint_put _ hlen, hp, List.take_left']

theorem boolDecode_boolEncodeS (vs : List Bool) (hlen : vs.length < W) : boolDecode (boolEncodeS vs) = some vs := by
  unfold boolEncodeS
  split
  · next h =>
    obtain rfl : vs = [] := List.isEmpty_iff.mp h
    decide
  · exact boolDecode_boolEncode vs hlen

theorem strPayload_cons (s : Bytes) (ss : List Bytes) :
    strPayload (s :: ss) = putUvarint s.length ++ (s ++ strPayload ss) := by
  rw [strPayload, List.flatMap_cons, List.append_assoc]; rfl

theorem strParse_payload : ∀ (vs : List Bytes) (fuel : Nat), vs.length ≤ fuel → (∀ s ∈ vs, s.length < W) →
    strParse fuel (strPayload vs) = some vs := by
  intro vs
  induction vs with
  | nil => intro fuel _ _; cases fuel <;> rfl
  | cons s ss ih =>
    intro fuel hf hlen
    obtain ⟨hs, hss⟩ := List.forall_mem_cons.mp hlen
    cases fuel with
    | zero => exact absurd hf (Nat.not_succ_le_zero _)
    | succ f =>
      have hne : (strPayload (s :: ss)).isEmpty = false := by
        rw [strPayload_cons, List.isEmpty_eq_false_iff]
        exact fun h => putUvarint_ne_nil _ (List.append_eq_nil_iff.mp h).1
      simp only [strParse, hne, Bool.false_eq_true, if_false]
      rw [strPayload_cons, getUvarint_put _ hs]
      simp only [List.length_append, Nat.not_lt.mpr (Nat.le_add_right _ _), if_false, List.drop_left, List.take_left,
        ih f (Nat.le_of_succ_le_succ hf) hss]

theorem strPayload_length_ge (vs : List Bytes) : vs.length ≤ (strPayload vs).length := by
  induction vs with
  | nil => exact Nat.zero_le _
  | cons s ss ih =>
    rw [strPayload_cons, List.length_append, List.length_append, List.length_cons, Nat.add_comm]
    exact Nat.add_le_add (List.length_pos_iff.mpr (putUvarint_ne_nil _)) (Nat.le_trans ih (Nat.le_add_left _ _))

theorem strDecode_strEncode (c : Compressor) (hc : ∀ x, c.decompress (c.compress x) = some x)
    (vs : List Bytes) (hlen : ∀ s ∈ vs, s.length < W) : strDecode c (strEncode c vs) = some vs := by
  unfold strEncode strDecode
  simp only [hc]
  exact strParse_payload vs _ (strPayload_length_ge vs) hlen

theorem unpackBlock_pack (tb vb : Bytes) (h : tb.length < W) :
    unpackBlock (putUvarint tb.length ++ tb ++ vb) = some (tb, vb) := by
  unfold unpackBlock
  rw [List.append_assoc, getUvarint_put _ h]
  simp only [List.length_append, gt_iff_lt, Nat.not_lt.mpr (Nat.le_add_right _ _), if_false, List.take_left, List.drop_left]

end Influx.Codec
