/-
  Lemmas.KCAlgebra — the small algebra of timestamp-sorted value lists used by the C06 proofs:
  membership characterisations and sortedness of `exclude`, `include_`, `excludeTombs`, `merge`,
  and extensionality of strictly sorted lists.
-/
import Influx.Model.KeyCursor

namespace Influx.KC

variable {V : Type}

def SortedV (a : Vals V) : Prop := a.Pairwise fun p q => p.1 < q.1

def keys (a : Vals V) : List Int := a.map (·.1)

theorem mem_keys {a : Vals V} {ts : Int} : ts ∈ keys a ↔ ∃ v, (ts, v) ∈ a := by
  unfold keys
  constructor
  · intro h
    obtain ⟨p, hp, rfl⟩ := List.mem_map.1 h
    exact ⟨p.2, hp⟩
  · rintro ⟨v, hv⟩
    exact List.mem_map.2 ⟨(ts, v), hv, rfl⟩

theorem mem_keys_of_mem {a : Vals V} {p : Int × V} (h : p ∈ a) : p.1 ∈ keys a :=
  List.mem_map.2 ⟨p, h, rfl⟩

@[simp] theorem keys_nil : keys ([] : Vals V) = [] := rfl
@[simp] theorem keys_cons (x : Int × V) (a : Vals V) : keys (x :: a) = x.1 :: keys a := rfl

theorem SortedV.nil : SortedV ([] : Vals V) := List.Pairwise.nil

theorem sortedV_cons {x : Int × V} {a : Vals V} :
    SortedV (x :: a) ↔ (∀ p ∈ a, x.1 < p.1) ∧ SortedV a := List.pairwise_cons

theorem SortedV.tail {x : Int × V} {a : Vals V} (h : SortedV (x :: a)) : SortedV a :=
  (sortedV_cons.1 h).2

theorem SortedV.filter {a : Vals V} (f : Int × V → Bool) (h : SortedV a) : SortedV (a.filter f) :=
  List.Pairwise.filter f h

theorem SortedV.unique {a : Vals V} (h : SortedV a) {p q : Int × V} (hp : p ∈ a) (hq : q ∈ a)
    (e : p.1 = q.1) : p = q := by
  induction a with
  | nil => cases hp
  | cons x a ih =>
    obtain ⟨hx, ha⟩ := sortedV_cons.1 h
    rcases List.mem_cons.1 hp with rfl | hp' <;> rcases List.mem_cons.1 hq with rfl | hq'
    · rfl
    · have := hx q hq'; omega
    · have := hx p hp'; omega
    · exact ih ha hp' hq'

theorem SortedV.nodup {a : Vals V} (h : SortedV a) : a.Nodup :=
  List.Pairwise.imp (R := fun p q : Int × V => p.1 < q.1)
    (fun {p q} hlt (e : p = q) => Int.lt_irrefl q.1 (e ▸ hlt)) h

theorem sorted_ext {a b : Vals V} (ha : SortedV a) (hb : SortedV b) (h : ∀ p, p ∈ a ↔ p ∈ b) : a = b :=
  ((List.perm_ext_iff_of_nodup ha.nodup hb.nodup).2 h).eq_of_pairwise
    (fun _ _ _ _ h1 h2 => absurd h1 (Int.lt_asymm h2)) ha hb

theorem mem_exclude {a : Vals V} {lo hi : Int} {p : Int × V} :
    p ∈ exclude a lo hi ↔ p ∈ a ∧ ¬ (lo ≤ p.1 ∧ p.1 ≤ hi) := by
  simp only [exclude, List.mem_filter, Bool.and_eq_false_iff, decide_eq_false_iff_not, Bool.not_eq_eq_eq_not,
    Bool.not_true]
  constructor
  · rintro ⟨h, h'⟩; exact ⟨h, by omega⟩
  · rintro ⟨h, h'⟩; exact ⟨h, by omega⟩

theorem mem_include {a : Vals V} {lo hi : Int} {p : Int × V} :
    p ∈ include_ a lo hi ↔ p ∈ a ∧ lo ≤ p.1 ∧ p.1 ≤ hi := by
  simp [include_, List.mem_filter]

theorem SortedV.exclude {a : Vals V} (h : SortedV a) (lo hi : Int) : SortedV (exclude a lo hi) :=
  h.filter _

theorem SortedV.include {a : Vals V} (h : SortedV a) (lo hi : Int) : SortedV (include_ a lo hi) :=
  h.filter _

def covered (ts : List TimeRange) (x : Int) : Prop := ∃ t ∈ ts, t.Min ≤ x ∧ x ≤ t.Max

theorem mem_excludeTombs {ts : List TimeRange} {a : Vals V} {p : Int × V} :
    p ∈ excludeTombs ts a ↔ p ∈ a ∧ ¬ covered ts p.1 := by
  unfold excludeTombs covered
  induction ts generalizing a with
  | nil => simp
  | cons t ts ih =>
    simp only [List.foldl_cons]
    rw [ih, mem_exclude]
    constructor
    · rintro ⟨⟨hp, h1⟩, h2⟩
      refine ⟨hp, ?_⟩
      rintro ⟨t', ht', h3⟩
      rcases List.mem_cons.1 ht' with rfl | ht'
      · exact h1 h3
      · exact h2 ⟨t', ht', h3⟩
    · rintro ⟨hp, h⟩
      refine ⟨⟨hp, fun h3 => h ⟨t, List.mem_cons_self .., h3⟩⟩, ?_⟩
      rintro ⟨t', ht', h3⟩
      exact h ⟨t', List.mem_cons_of_mem _ ht', h3⟩

theorem SortedV.excludeTombs {a : Vals V} (h : SortedV a) (ts : List TimeRange) :
    SortedV (excludeTombs ts a) := by
  unfold Influx.KC.excludeTombs
  induction ts generalizing a with
  | nil => simpa using h
  | cons t ts ih => simp only [List.foldl_cons]; exact ih (h.exclude _ _)

theorem mergeAux_spec : ∀ (k : Nat) (a b : Vals V), a.length + b.length ≤ k → SortedV a → SortedV b →
    (∀ p, p ∈ mergeAux k a b ↔ p ∈ b ∨ (p ∈ a ∧ p.1 ∉ keys b)) ∧ SortedV (mergeAux k a b) := by
  intro k
  induction k with
  | zero =>
    intro a b hk ha hb
    cases a with
    | nil => simp [mergeAux, hb]
    | cons x a =>
      cases b with
      | nil => simp [mergeAux, ha]
      | cons y b => simp at hk
  | succ k ih =>
    intro a b hk ha hb
    cases a with
    | nil => simp [mergeAux, hb]
    | cons x a =>
      cases b with
      | nil => simp [mergeAux, ha]
      | cons y b =>
        obtain ⟨hx, ha'⟩ := sortedV_cons.1 ha
        obtain ⟨hy, hb'⟩ := sortedV_cons.1 hb
        simp only [mergeAux]
        by_cases h1 : x.1 < y.1
        · simp only [h1, if_true]
          obtain ⟨m, s⟩ := ih a (y :: b) (by simp at hk ⊢; omega) ha' hb
          constructor
          · intro p
            simp only [List.mem_cons, m, keys_cons]
            constructor
            · rintro (rfl | h | ⟨h, h'⟩)
              · right
                refine ⟨Or.inl rfl, ?_⟩
                intro hk'
                rcases hk' with e | hk'
                · omega
                · obtain ⟨v, hv⟩ := mem_keys.1 hk'
                  have := hy _ hv
                  simp at this; omega
              · exact Or.inl h
              · exact Or.inr ⟨Or.inr h, h'⟩
            · rintro (h | ⟨rfl | h, h'⟩)
              · exact Or.inr (Or.inl h)
              · exact Or.inl rfl
              · exact Or.inr (Or.inr ⟨h, h'⟩)
          · refine sortedV_cons.2 ⟨?_, s⟩
            intro p hp
            rcases (m p).1 hp with h | ⟨h, _⟩
            · rcases List.mem_cons.1 h with rfl | h
              · exact h1
              · have := hy p h; omega
            · exact hx p h
        · simp only [h1, if_false]
          by_cases h2 : x.1 = y.1
          · simp only [h2, if_true]
            obtain ⟨m, s⟩ := ih a (y :: b) (by simp at hk ⊢; omega) ha' hb
            refine ⟨?_, s⟩
            intro p
            simp only [m, List.mem_cons, keys_cons]
            constructor
            · rintro (h | ⟨h, h'⟩)
              · exact Or.inl h
              · exact Or.inr ⟨Or.inr h, h'⟩
            · rintro (h | ⟨rfl | h, h'⟩)
              · exact Or.inl h
              · exact absurd (Or.inl h2) h'
              · exact Or.inr ⟨h, h'⟩
          · simp only [h2, if_false]
            have h3 : y.1 < x.1 := by omega
            obtain ⟨m, s⟩ := ih (x :: a) b (by simp at hk ⊢; omega) ha hb'
            constructor
            · intro p
              simp only [List.mem_cons, m, keys_cons]
              constructor
              · rintro (rfl | h | ⟨h, h'⟩)
                · exact Or.inl (Or.inl rfl)
                · exact Or.inl (Or.inr h)
                · right
                  refine ⟨h, ?_⟩
                  rintro (e | hk')
                  · rcases h with rfl | h
                    · omega
                    · have := hx p h; omega
                  · exact h' hk'
              · rintro ((rfl | h) | ⟨h, h'⟩)
                · exact Or.inl rfl
                · exact Or.inr (Or.inl h)
                · exact Or.inr (Or.inr ⟨h, fun hk' => h' (Or.inr hk')⟩)
            · refine sortedV_cons.2 ⟨?_, s⟩
              intro p hp
              rcases (m p).1 hp with h | ⟨h, _⟩
              · exact hy p h
              · rcases List.mem_cons.1 h with rfl | h
                · exact h3
                · have := hx p h; omega

theorem mem_merge {a b : Vals V} (ha : SortedV a) (hb : SortedV b) {p : Int × V} :
    p ∈ merge a b ↔ p ∈ b ∨ (p ∈ a ∧ p.1 ∉ keys b) :=
  (mergeAux_spec _ a b (Nat.le_refl _) ha hb).1 p

theorem SortedV.merge {a b : Vals V} (ha : SortedV a) (hb : SortedV b) : SortedV (merge a b) :=
  (mergeAux_spec _ a b (Nat.le_refl _) ha hb).2

theorem keys_merge {a b : Vals V} (ha : SortedV a) (hb : SortedV b) {ts : Int} :
    ts ∈ keys (merge a b) ↔ ts ∈ keys a ∨ ts ∈ keys b := by
  constructor
  · intro h
    obtain ⟨v, hv⟩ := mem_keys.1 h
    rcases (mem_merge ha hb).1 hv with h | ⟨h, _⟩
    · exact Or.inr (mem_keys_of_mem h)
    · exact Or.inl (mem_keys_of_mem h)
  · rintro (h | h)
    · by_cases hb' : ts ∈ keys b
      · obtain ⟨v, hv⟩ := mem_keys.1 hb'
        exact mem_keys_of_mem ((mem_merge ha hb).2 (Or.inl hv))
      · obtain ⟨v, hv⟩ := mem_keys.1 h
        exact mem_keys_of_mem ((mem_merge ha hb).2 (Or.inr ⟨hv, hb'⟩))
    · obtain ⟨v, hv⟩ := mem_keys.1 h
      exact mem_keys_of_mem ((mem_merge ha hb).2 (Or.inl hv))

@[simp] theorem merge_nil_left (b : Vals V) : merge [] b = b := by simp [merge, mergeAux]
@[simp] theorem merge_nil_right (a : Vals V) : merge a [] = a := by
  cases a <;> simp [merge, mergeAux]

theorem minTime?_spec {a : Vals V} (h : SortedV a) (hne : a ≠ []) :
    ∃ lo, minTime? a = some lo ∧ lo ∈ keys a ∧ ∀ p ∈ a, lo ≤ p.1 := by
  cases a with
  | nil => exact absurd rfl hne
  | cons x a =>
    refine ⟨x.1, rfl, List.mem_cons_self .., fun p hp => ?_⟩
    rcases List.mem_cons.1 hp with rfl | hp
    · exact Int.le_refl _
    · exact Int.le_of_lt ((sortedV_cons.1 h).1 p hp)

theorem maxTime?_spec {a : Vals V} (h : SortedV a) (hne : a ≠ []) :
    ∃ hi, maxTime? a = some hi ∧ hi ∈ keys a ∧ ∀ p ∈ a, p.1 ≤ hi := by
  cases hl : a.getLast? with
  | none => exact absurd (List.getLast?_eq_none_iff.1 hl) hne
  | some z =>
    obtain ⟨ys, rfl⟩ := List.getLast?_eq_some_iff.1 hl
    refine ⟨z.1, by rw [maxTime?, hl]; rfl, mem_keys_of_mem (List.mem_append_right _ (List.mem_singleton_self z)),
      fun p hp => ?_⟩
    rcases List.mem_append.1 hp with hp | hp
    · exact Int.le_of_lt ((List.pairwise_append.1 h).2.2 p hp z (List.mem_singleton_self z))
    · rw [List.mem_singleton.1 hp]; exact Int.le_refl _

theorem span_of_ne_nil {a : Vals V} (h : SortedV a) (hne : a ≠ []) :
    ∃ lo hi, minTime? a = some lo ∧ maxTime? a = some hi ∧ lo ∈ keys a ∧ hi ∈ keys a ∧
      ∀ p ∈ a, lo ≤ p.1 ∧ p.1 ≤ hi := by
  obtain ⟨lo, hlo, h1, h2⟩ := minTime?_spec h hne
  obtain ⟨hi, hhi, h3, h4⟩ := maxTime?_spec h hne
  exact ⟨lo, hi, hlo, hhi, h1, h3, fun p hp => ⟨h2 p hp, h4 p hp⟩⟩

end Influx.KC
