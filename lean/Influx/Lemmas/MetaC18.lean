/-
  Lemmas.MetaC18 — points routed earlier stay findable (`Tracked`), the Boolean checks of Spec.C18 on
  well-formed data, the clauses of Spec.C18 on the model's steps, and the induction over histories.
-/
import Influx.Lemmas.MetaStep

namespace Influx.Meta
open Influx.Spec.C18
open Influx.Generated.Meta

/-- the accepted point still has its live group in its policy -/
def Tracked (d : Data) (x : Accepted) : Prop :=
  ∃ r g, getRP d x.db x.rp = .ok r ∧ g ∈ r.ShardGroups ∧ g.ID = x.gid ∧ g.DeletedAt = zeroTime ∧
    g.StartTime ≤ x.t ∧ x.t < g.EndTime

theorem Tracked.mono {d d' : Data} (hm : Mono d d') {x : Accepted} (h : Tracked d x) : Tracked d' x := by
  obtain ⟨r, g, hr, hg, h1, h2, h3⟩ := h
  obtain ⟨r', hr', hg'⟩ := hm _ _ r hr
  exact ⟨r', g, hr', hg' g hg, h1, h2, h3⟩

theorem Disj.not_both {a b : ShardGroupInfo} (h : Disj a b) (ha : a.DeletedAt = zeroTime) (hb : b.DeletedAt = zeroTime)
    {t : Int} (hca : a.StartTime ≤ t ∧ t < a.EndTime) (hcb : b.StartTime ≤ t ∧ t < b.EndTime) : False := by
  rcases h with h | h | h | h
  · exact h ha
  · exact h hb
  · exact Int.lt_irrefl _ (Int.lt_of_lt_of_le hca.2 (Int.le_trans h hcb.1))
  · exact Int.lt_irrefl _ (Int.lt_of_lt_of_le hcb.2 (Int.le_trans h hca.1))

theorem live_unique {l : List ShardGroupInfo} (hp : l.Pairwise Disj) {g g' : ShardGroupInfo} (hg : g ∈ l) (hg' : g' ∈ l)
    (hl : g.DeletedAt = zeroTime) (hl' : g'.DeletedAt = zeroTime) {t : Int}
    (hc : g.StartTime ≤ t ∧ t < g.EndTime) (hc' : g'.StartTime ≤ t ∧ t < g'.EndTime) : g = g' := by
  induction l with
  | nil => cases hg
  | cons y ys ih =>
    rw [List.pairwise_cons] at hp
    rcases List.mem_cons.mp hg with h1 | h1
    · rcases List.mem_cons.mp hg' with h2 | h2
      · rw [h1, h2]
      · subst h1; exact ((hp.1 g' h2).not_both hl hl' hc hc').elim
    · rcases List.mem_cons.mp hg' with h2 | h2
      · subst h2; exact ((hp.1 g h1).not_both hl' hl hc' hc).elim
      · exact ih hp.2 h1 h2

theorem find_tracked {d : Data} (hwf : WF d) {x : Accepted} (h : Tracked d x) :
    ∃ r g, getRP d x.db x.rp = .ok r ∧ shardGroupByTimestamp r.ShardGroups x.t = some g ∧ g.ID = x.gid := by
  obtain ⟨r, g, hr, hg, hid, hlive, hc⟩ := h
  have hwr := getRP_wf hwf hr
  obtain ⟨g', hg'⟩ := some_of_contains hg hlive (hwr.groups g hg).tr hc
  have h' := shardGroupByTimestamp_some hg'
  have : g = g' := live_unique hwr.disj hg h'.1 hlive h'.2.2.2 hc ⟨h'.2.1, h'.2.2.1⟩
  exact ⟨r, g', hr, hg', by rw [← this]; exact hid⟩

/-- ranges that lie one after the other share no point: `s₂ ≤ max < min ≤ e₁ ≤ s₂`, or the same with the roles swapped -/
theorem not_overlap {s₁ e₁ s₂ e₂ : Int} (h : e₁ ≤ s₂ ∨ e₂ ≤ s₁) : ¬max s₁ s₂ < min e₁ e₂ := fun hlt =>
  h.elim
    (fun h => Int.lt_irrefl _ (Int.lt_of_lt_of_le (Int.lt_of_le_of_lt (Int.le_max_right ..) hlt) (Int.le_trans (Int.min_le_left ..) h)))
    (fun h => Int.lt_irrefl _ (Int.lt_of_lt_of_le (Int.lt_of_le_of_lt (Int.le_max_left ..) hlt) (Int.le_trans (Int.min_le_right ..) h)))

theorem disjointLive_of_pairwise {l : List ShardGroupInfo} (hp : l.Pairwise Disj) :
    Spec.C18.disjointLive l = true := by
  induction l with
  | nil => rfl
  | cons y ys ih =>
    rw [List.pairwise_cons] at hp
    simp only [Spec.C18.disjointLive, Bool.and_eq_true, Bool.or_eq_true, List.all_eq_true, Bool.not_eq_true']
    refine ⟨?_, ih hp.2⟩
    by_cases hy : Deleted y = true
    · exact Or.inl hy
    · right
      intro h hh
      by_cases hd : Deleted h = true
      · exact Or.inl hd
      · right
        rw [Bool.not_eq_true, deleted_false_iff] at hy hd
        rw [Spec.C18.overlap, decide_eq_false_iff_not]
        exact not_overlap (((hp.1 h hh).resolve_left (not_not_intro hy)).resolve_left (not_not_intro hd))

theorem fullDisjoint_of_wf {d : Data} (hwf : WF d) : Spec.C18.fullDisjoint (fullDump d) = true := by
  simp only [Spec.C18.fullDisjoint, fullDump, List.all_eq_true, List.mem_flatMap, List.mem_map]
  rintro ⟨db, rp, gs⟩ ⟨di, hdi, r, hr, heq⟩
  simp only [Prod.mk.injEq] at heq
  obtain ⟨_, _, rfl⟩ := heq
  exact disjointLive_of_pairwise ((hwf.dbs di hdi).rps r hr).disj

theorem sameBounds_refl (gs : List ShardGroupInfo) : Spec.C18.sameBounds gs gs = true := by
  simp only [Spec.C18.sameBounds, beq_self_eq_true, Bool.true_and, List.all_eq_true, List.any_eq_true]
  intro g hg
  exact ⟨g, hg, by simp⟩

theorem fullSame_refl (f : List (String × String × List ShardGroupInfo)) : Spec.C18.fullSame f f = true := by
  simp only [Spec.C18.fullSame, beq_self_eq_true, Bool.true_and, List.all_eq_true]
  rintro ⟨⟨db, rp, gs⟩, ⟨db', rp', gs'⟩⟩ h
  have : (db, rp, gs) = (db', rp', gs') := by
    induction f with
    | nil => simp at h
    | cons y ys ih =>
      simp only [List.zip_cons_cons, List.mem_cons, Prod.mk.injEq] at h
      rcases h with ⟨h1, h2⟩ | h
      · rw [h1, ← h2]
      · exact ih h
  simp only [Prod.mk.injEq] at this
  obtain ⟨rfl, rfl, rfl⟩ := this
  simp [sameBounds_refl]

theorem mapShards_tracked {d d' : Data} (hwf : WF d) {db rp : String} {now : Int} {ts : List Int}
    (hts : ∀ t ∈ ts, inRange t) {m : ShardMapping} (h : mapShards d db rp now ts = (d', .ok m)) :
    ∀ t p, (t, p) ∈ ts.zip m.placements → ∀ sh g, p = Placement.mapped sh g →
      Tracked d' { db := db, rp := rp, t := t, gid := g.ID } := by
  obtain ⟨r, l, hr, hmc, hmp, _⟩ := mapShards_ok h
  have hspec := mapCreate_spec db rp (minTime r now) ts d SgList.empty hwf (SgOK.empty_ok d db rp) hts
  rw [hmc] at hspec
  obtain ⟨hok, _, _⟩ := hspec.2.2 l rfl
  intro t p hp sh g hpg
  have := (mapPlace_spec _ ts l _ hmp).2 t p hp sh g hpg
  obtain ⟨⟨r', hr', hg'⟩, hlive, _⟩ := hok.items g this.1
  exact ⟨r', g, hr', hg', rfl, hlive, this.2⟩

/-- clause 1 for `CreateShardGroup`: the group returned for a timestamp contains it -/
theorem csg_holds (acc : List Accepted) (s : State) (db rp : String) (t : Int) :
    holdsOp acc (.csg db rp t, (step s (.csg db rp t)).2) = true := by
  simp only [step]
  cases hc : clientCreateShardGroup s.data db rp t with
  | error e => rfl
  | ok res =>
    obtain ⟨d, g⟩ := res
    cases g with
    | none => rfl
    | some g =>
      have := clientCreateShardGroup_some hc
      simp [holdsOp, within, this]

/-- clause 1 for `MapShards`: every mapped point lies inside the group it is mapped to -/
theorem ms_routes (acc : List Accepted) (s : State) (db rp : String) (c : Option Int) (ts : List Int) :
    holdsOp acc (.ms db rp c ts, (step s (.ms db rp c ts)).2) = true := by
  simp only [step]
  generalize hd0 : setDuration s.data db rp _ = d0
  cases hm : mapShards d0 db rp modelNow ts with
  | mk d res =>
    cases res with
    | error e => rfl
    | ok m =>
      obtain ⟨r, l, _, _, hps, _⟩ := mapShards_ok hm
      have := mapPlace_spec _ ts _ _ hps
      simp only [holdsOp, Bool.and_eq_true, beq_iff_eq, List.all_eq_true]
      refine ⟨this.1, ?_⟩
      rintro ⟨t, p⟩ hp
      cases p with
      | dropped => rfl
      | mapped sh g =>
        have := (this.2 t _ hp sh g rfl).2
        simp [within, this]

theorem keeps_of_not_removes {op : Op} (h : removes op = false) : keeps op = true := by
  cases op <;> first | rfl | cases h

theorem all_imp {α : Type} {l : List α} {c r : α → Bool} (h : ∀ x ∈ l, c x = true → r x = true) :
    (l.all fun x => !c x || r x) = true := by
  rw [List.all_eq_true]
  intro x hx
  cases hc : c x
  · rfl
  · exact h x hx hc

theorem all_not {α : Type} {l : List α} {c : α → Bool} (h : ∀ x ∈ l, c x = true → False) :
    (l.all fun x => !c x) = true := by
  rw [List.all_eq_true]
  intro x hx
  cases hc : c x
  · rfl
  · exact (h x hx hc).elim

theorem step_ok (s : State) (op : Op) (acc : List Accepted) (hd : opInDomain op = true) (hwf : WF s.data)
    (htr : ∀ x ∈ acc, Tracked s.data x) :
    holdsOp acc (op, (step s op).2) = true ∧
    ∀ x ∈ (if removes op then [] else acc ++ newlyAccepted (op, (step s op).2)), Tracked (step s op).1.data x := by
  have hdom := dom18_of_spec hd
  have hnone : ∀ x ∈ ([] : List Accepted), Tracked (step s op).1.data x := forall_mem_nil
  have hkeep : removes op = false → (∀ x ∈ newlyAccepted (op, (step s op).2), Tracked (step s op).1.data x) →
      ∀ x ∈ (if removes op then [] else acc ++ newlyAccepted (op, (step s op).2)), Tracked (step s op).1.data x := by
    intro hr hnew
    rw [hr]
    exact fun x hx => (List.mem_append.mp hx).elim
      (fun hx => (htr x hx).mono ((step_spec s op hwf hdom).2 (keeps_of_not_removes hr))) (hnew x)
  have hget : ∀ x ∈ acc, ∀ e, getRP s.data x.db x.rp = .error e → False := fun x hx e he => by
    obtain ⟨r, _, hr, _⟩ := htr x hx
    cases hr.symm.trans he
  cases op with
  | rp db rp sgd raw => exact ⟨rfl, hkeep rfl hnone⟩
  | sgd db rp d => exact ⟨rfl, hkeep rfl hnone⟩
  | store f ids => exact ⟨rfl, hkeep rfl hnone⟩
  | exp db rp D t => exact ⟨rfl, hkeep rfl hnone⟩
  | pre a b => exact ⟨rfl, hkeep rfl hnone⟩
  | trunc t => exact hdom.elim
  | del db rp id => exact ⟨rfl, hnone⟩
  | setdel db rp id a => exact ⟨rfl, hnone⟩
  | dropshard id => exact ⟨rfl, hnone⟩
  | dc cs => exact ⟨fullDisjoint_of_wf (foldl_setDuration_wf cs _ (clearDurations_wf hwf)), hnone⟩
  | restart =>
    refine ⟨?_, hkeep rfl hnone⟩
    simp only [step, holdsOp, reload_id hwf, fullDisjoint_of_wf hwf, fullSame_refl, Bool.and_self]
  | dump db rp =>
    refine ⟨?_, hkeep rfl hnone⟩
    simp only [step]
    cases hr : getRP s.data db rp with
    | error e => rfl
    | ok r => exact disjointLive_of_pairwise (getRP_wf hwf hr).disj
  | csg db rp t =>
    refine ⟨csg_holds acc s db rp t, hkeep rfl ?_⟩
    simp only [step]
    cases hc : clientCreateShardGroup s.data db rp t with
    | error e => exact nofun
    | ok res =>
      obtain ⟨d, og⟩ := res
      obtain ⟨_, _, g, rfl, ⟨r, hr, hgr⟩, hlive, hct⟩ := clientCreateShardGroup_spec hwf hdom hc
      intro x hx
      cases List.mem_singleton.mp hx
      exact ⟨r, g, hr, hgr, rfl, hlive, hct⟩
  | ms db rp c ts =>
    refine ⟨ms_routes acc s db rp c ts, hkeep rfl ?_⟩
    simp only [step]
    have hw0 := setDuration_wf hwf db rp (cutoffDur c)
    cases hm : mapShards (setDuration s.data db rp (cutoffDur c)) db rp modelNow ts with
    | mk d res =>
      cases res with
      | error e => exact nofun
      | ok m =>
        intro x hx
        obtain ⟨⟨t, p⟩, hp, hx⟩ := List.mem_filterMap.mp hx
        cases p with
        | dropped => cases hx
        | mapped sh g =>
          cases hx
          exact mapShards_tracked hw0 hdom hm t _ hp sh g rfl
  | find db rp t =>
    refine ⟨?_, hkeep rfl hnone⟩
    simp only [step]
    cases hr : getRP s.data db rp with
    | error e =>
      refine all_not fun x hx hc => ?_
      simp only [Bool.and_eq_true, beq_iff_eq] at hc
      exact hget x hx e (hc.1.1 ▸ hc.1.2 ▸ hr)
    | ok r =>
      refine all_imp fun x hx hc => ?_
      simp only [Bool.and_eq_true, beq_iff_eq] at hc
      obtain ⟨r', g, hr', hf, hid⟩ := find_tracked hwf (htr x hx)
      rw [hc.1.1, hc.1.2, hr] at hr'
      cases hr'
      rw [← hc.2, hf]
      exact beq_iff_eq.mpr hid
  | range db rp a b =>
    refine ⟨?_, hkeep rfl hnone⟩
    simp only [step, shardGroupsByTimeRange]
    cases hr : getRP s.data db rp with
    | error e =>
      refine all_not fun x hx hc => ?_
      simp only [Bool.and_eq_true, beq_iff_eq] at hc
      exact hget x hx e (hc.1.1.1 ▸ hc.1.1.2 ▸ hr)
    | ok r =>
      refine all_imp fun x hx hc => ?_
      simp only [Bool.and_eq_true, beq_iff_eq, decide_eq_true_eq] at hc
      obtain ⟨r', g, hr', hg, hid, hlive, hc1, hc2⟩ := htr x hx
      rw [hc.1.1.1, hc.1.1.2, hr] at hr'
      cases hr'
      rw [List.contains_eq_mem, decide_eq_true_eq, List.mem_map]
      refine ⟨g, List.mem_filter.mpr ⟨hg, ?_⟩, hid⟩
      rw [(deleted_false_iff g).mpr hlive, (overlaps_iff g a b).mpr ⟨Int.le_trans hc1 hc.2, Int.lt_of_le_of_lt hc.1.2 hc2⟩]
      rfl

theorem judge_run (ops : List Op) (hdom : ∀ op ∈ ops, opInDomain op = true) (s : State) (acc : List Accepted)
    (hwf : WF s.data) (htr : ∀ x ∈ acc, Tracked s.data x) : judge acc (run s ops) = true := by
  induction ops generalizing s acc with
  | nil => rfl
  | cons op ops ih =>
    have hd := hdom op (by simp)
    have hs := step_ok s op acc hd hwf htr
    simp only [run, judge, Bool.and_eq_true]
    exact ⟨hs.1, ih (fun o ho => hdom o (by simp [ho])) _ _ (step_wf s op hwf (dom18_of_spec hd)) hs.2⟩

end Influx.Meta
