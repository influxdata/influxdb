/-
  Lemmas.KCFold — the merge fold of Read…Block computes "newest file wins".
  Abstract: `U i` is the sorted list contributed by location `i`, `file i` its file's age rank.
  `Won U file S acc`: `acc` is sorted and holds, for every timestamp contributed by a location
  in the set `S`, the point of the contributing location with the largest `file`.
-/
import Influx.Lemmas.KCBlocks

namespace Influx.KC

variable {V : Type} {ι : Type}

structure Won (U : ι → Vals V) (file : ι → Nat) (S : ι → Prop) (acc : Vals V) : Prop where
  sorted : SortedV acc
  mem : ∀ p, p ∈ acc ↔ ∃ i, S i ∧ p ∈ U i ∧ ∀ k, S k → p.1 ∈ keys (U k) → file k ≤ file i
  kmem : ∀ ts, ts ∈ keys acc ↔ ∃ k, S k ∧ ts ∈ keys (U k)

theorem Won.empty (U : ι → Vals V) (file : ι → Nat) : Won U file (fun _ => False) [] :=
  { sorted := SortedV.nil
    mem := by intro p; simp
    kmem := by intro ts; simp }

theorem Won.single (U : ι → Vals V) (file : ι → Nat) (i : ι) (hs : SortedV (U i)) :
    Won U file (fun x => x = i) (U i) :=
  { sorted := hs
    mem := by
      intro p
      constructor
      · intro hp; exact ⟨i, rfl, hp, fun k hk _ => by subst hk; exact Nat.le_refl _⟩
      · rintro ⟨j, rfl, hp, _⟩; exact hp
    kmem := by
      intro ts
      constructor
      · intro h; exact ⟨i, rfl, h⟩
      · rintro ⟨k, rfl, h⟩; exact h }

theorem Won.union {U : ι → Vals V} {file : ι → Nat} {S T : ι → Prop} {a b : Vals V}
    (wa : Won U file S a) (wb : Won U file T b)
    (h : ∀ k, S k → ∀ j, T j → ∀ ts, ts ∈ keys (U k) → ts ∈ keys (U j) → file k < file j) :
    Won U file (fun x => S x ∨ T x) (merge a b) :=
  { sorted := wa.sorted.merge wb.sorted
    mem := by
      intro p
      rw [mem_merge wa.sorted wb.sorted]
      constructor
      · rintro (hp | ⟨hp, hk⟩)
        · obtain ⟨j, hj, hpj, hmax⟩ := (wb.mem p).1 hp
          refine ⟨j, Or.inr hj, hpj, ?_⟩
          rintro k (hk | hk) hkk
          · exact Nat.le_of_lt (h k hk j hj p.1 hkk (mem_keys_of_mem hpj))
          · exact hmax k hk hkk
        · obtain ⟨i, hi, hpi, hmax⟩ := (wa.mem p).1 hp
          refine ⟨i, Or.inl hi, hpi, ?_⟩
          rintro k (hk' | hk') hkk
          · exact hmax k hk' hkk
          · exact absurd ((wb.kmem p.1).2 ⟨k, hk', hkk⟩) hk
      · rintro ⟨j, hj | hj, hpj, hmax⟩
        · right
          refine ⟨(wa.mem p).2 ⟨j, hj, hpj, fun k hk hkk => hmax k (Or.inl hk) hkk⟩, ?_⟩
          intro hkb
          obtain ⟨k, hk, hkk⟩ := (wb.kmem p.1).1 hkb
          have h1 := hmax k (Or.inr hk) hkk
          have h2 := h j hj k hk p.1 (mem_keys_of_mem hpj) hkk
          omega
        · exact Or.inl ((wb.mem p).2 ⟨j, hj, hpj, fun k hk hkk => hmax k (Or.inr hk) hkk⟩)
    kmem := by
      intro ts
      rw [keys_merge wa.sorted wb.sorted, wa.kmem, wb.kmem]
      constructor
      · rintro (⟨k, hk, h⟩ | ⟨k, hk, h⟩)
        · exact ⟨k, Or.inl hk, h⟩
        · exact ⟨k, Or.inr hk, h⟩
      · rintro ⟨k, hk | hk, h⟩
        · exact Or.inl ⟨k, hk, h⟩
        · exact Or.inr ⟨k, hk, h⟩ }

theorem Won.congr {U : ι → Vals V} {file : ι → Nat} {S S' : ι → Prop} {acc : Vals V}
    (w : Won U file S acc) (h : ∀ x, S x ↔ S' x) : Won U file S' acc := by
  have : S = S' := funext fun x => propext (h x)
  exact this ▸ w

/-- One iteration of the merge loop.  Ascending (`values = values.Merge(v)`) the new location
    overrides: correct when it is newer than every location already merged that shares a
    timestamp with it.  Descending (`values = v.Merge(values)`) what was merged before overrides:
    correct when the new location is older — or was merged already. -/
theorem Won.step {asc : Bool} {U : ι → Vals V} {file : ι → Nat} {S : ι → Prop} {acc : Vals V}
    (w : Won U file S acc) (i : ι) (hs : SortedV (U i))
    (h : (asc = false ∧ S i) ∨ ∀ k, S k → ∀ ts, ts ∈ keys (U k) → ts ∈ keys (U i) →
      if asc then file k < file i else file i < file k) :
    Won U file (fun x => S x ∨ x = i) (mergeDir asc acc (U i)) := by
  rcases h with ⟨rfl, hSi⟩ | h
  · have : merge (U i) acc = acc := by
      apply sorted_ext (hs.merge w.sorted) w.sorted
      intro p
      rw [mem_merge hs w.sorted]
      refine ⟨?_, Or.inl⟩
      rintro (hp | ⟨hp, hk⟩)
      · exact hp
      · exact absurd ((w.kmem p.1).2 ⟨i, hSi, mem_keys_of_mem hp⟩) hk
    show Won U file _ (merge (U i) acc)
    rw [this]
    exact w.congr fun x => ⟨Or.inl, fun hx => hx.elim id fun e => e ▸ hSi⟩
  · cases asc
    · exact ((Won.single U file i hs).union w fun k hk j hj ts hkk hjj => by
        subst hk; simpa using h j hj ts hjj hkk).congr fun x => Or.comm
    · exact w.union (Won.single U file i hs) fun k hk j hj ts hkk hjj => by
        subst hj; simpa using h k hk ts hkk hjj

theorem Won.fold {asc : Bool} {U : ι → Vals V} {file : ι → Nat} (hs : ∀ i, SortedV (U i)) :
    ∀ (is : List ι) (S : ι → Prop) (acc : Vals V), Won U file S acc →
      (∀ i ∈ is, (asc = false ∧ S i) ∨ ∀ k, S k → ∀ ts, ts ∈ keys (U k) → ts ∈ keys (U i) →
        if asc then file k < file i else file i < file k) →
      is.Pairwise (fun a b => ∀ ts, ts ∈ keys (U a) → ts ∈ keys (U b) →
        if asc then file a < file b else file b < file a) →
      Won U file (fun x => S x ∨ x ∈ is) (is.foldl (fun a i => mergeDir asc a (U i)) acc) := by
  intro is
  induction is with
  | nil => exact fun S acc w _ _ => w.congr fun x => ⟨Or.inl, fun h => h.elim id fun h => nomatch h⟩
  | cons i is ih =>
    intro S acc w h1 h2
    obtain ⟨h2a, h2b⟩ := List.pairwise_cons.1 h2
    have := ih _ _ (w.step i (hs i) (h1 i (List.mem_cons_self ..))) (by
      intro j hj
      rcases h1 j (List.mem_cons_of_mem _ hj) with ⟨e, h⟩ | h
      · exact Or.inl ⟨e, Or.inl h⟩
      · right
        rintro k (hk | rfl) ts hkk hjj
        · exact h k hk ts hkk hjj
        · exact h2a j hj ts hkk hjj) h2b
    refine this.congr fun x => ?_
    rw [List.mem_cons, or_assoc]

theorem Won.mem_iff {U L : ι → Vals V} {file : ι → Nat} {S : ι → Prop} {acc : Vals V} {R : Int → Prop}
    (w : Won U file S acc) (hU : ∀ i, S i → ∀ p, p ∈ U i ↔ p ∈ L i ∧ R p.1)
    (hout : ∀ i, ¬ S i → ∀ p ∈ L i, ¬ R p.1) (p : Int × V) :
    p ∈ acc ↔ (∃ i, p ∈ L i ∧ ∀ k, p.1 ∈ keys (L k) → file k ≤ file i) ∧ R p.1 := by
  rw [w.mem p]
  constructor
  · rintro ⟨i, hi, hpi, hmax⟩
    obtain ⟨hl, hr⟩ := (hU i hi p).1 hpi
    refine ⟨⟨i, hl, fun k hk => ?_⟩, hr⟩
    obtain ⟨v, hv⟩ := mem_keys.1 hk
    by_cases hSk : S k
    · exact hmax k hSk (mem_keys_of_mem (p := (p.1, v)) ((hU k hSk _).2 ⟨hv, hr⟩))
    · exact absurd hr (hout k hSk (p.1, v) hv)
  · rintro ⟨⟨i, hl, hmax⟩, hr⟩
    have hSi : S i := Classical.byContradiction fun h => hout i h p hl hr
    refine ⟨i, hSi, (hU i hSi p).2 ⟨hl, hr⟩, fun k hSk hkk => hmax k ?_⟩
    obtain ⟨v, hv⟩ := mem_keys.1 hkk
    exact mem_keys_of_mem (p := (p.1, v)) ((hU k hSk _).1 hv).1

end Influx.KC
