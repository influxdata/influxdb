/-
  Lemmas.Float — `Model.Float.roundQ` returns small integers exactly, hence so do
  `float64(n)`, `/` and `*` when the exact result is an integer below 2^53.
-/
import Influx.Model.Float

namespace Influx.Lemmas.Float
open Influx.Model.Float

theorem roundHalfEven_mul (X q : Nat) (hq : 0 < q) : roundHalfEven (X * q) q = X := by
  unfold roundHalfEven
  simp only [Nat.mul_div_cancel _ hq, Nat.mul_mod_left]
  simp
  omega

/-- an integer below 2^53 has at most 53 bits (the lower bound on the exponent is not needed: a
    subnormal exponent only scales further) -/
theorem floorLog2Q_le (N q : Nat) (hq : 0 < q) (hN0 : 0 < N) (hN : N < 2 ^ 53) : floorLog2Q (N * q) q ≤ 52 := by
  have hp : 0 < N * q := Nat.mul_pos hN0 hq
  have hlt : N * q < 2 ^ 53 * q := Nat.mul_lt_mul_of_pos_right hN hq
  have h2 : Nat.log2 (N * q) < Nat.log2 q + 54 := by
    apply (Nat.log2_lt (by omega)).mpr
    calc N * q < 2 ^ 53 * q := hlt
      _ < 2 ^ 53 * 2 ^ (Nat.log2 q + 1) := Nat.mul_lt_mul_of_pos_left Nat.lt_log2_self (by decide)
      _ = 2 ^ (Nat.log2 q + 54) := by rw [← Nat.pow_add]; congr 1; omega
  unfold floorLog2Q
  simp only
  split
  · split
    · next hge =>
      -- `l = 53` would mean `N * q ≥ q * 2^53`
      apply Decidable.byContradiction
      intro hgt
      have hl : (Nat.log2 (N * q) : Int) - (Nat.log2 q : Int) = 53 := by omega
      rw [hl] at hge
      have : N * q ≥ q * 2 ^ 53 := by simpa using hge
      rw [Nat.mul_comm q] at this
      omega
    · omega
  · split <;> omega

theorem roundQ_exact (N q : Nat) (hq : 0 < q) (hN : N < 2 ^ 53) :
    ∃ f, roundQ (N * q) q = some f ∧ f.num = N * f.den ∧ 0 < f.den := by
  by_cases hN0 : N = 0
  · subst hN0
    refine ⟨⟨0, 0⟩, by simp [roundQ], by simp [F.num], by simp [F.den]⟩
  · have hL := floorLog2Q_le N q hq (by omega) hN
    unfold roundQ
    rw [if_neg (Nat.ne_of_gt (Nat.mul_pos (by omega) hq))]
    simp only
    generalize floorLog2Q (N * q) q = L at hL
    generalize hu : (if L - 52 < -1074 then (-1074 : Int) else L - 52) = u
    have hu0 : u ≤ 0 := by rw [← hu]; split <;> omega
    rw [if_neg (by omega)]
    by_cases hz : u ≥ 0
    · obtain rfl : u = 0 := by omega
      exact ⟨_, rfl, by simp [F.num, F.den, roundHalfEven_mul N q hq], by simp [F.den]⟩
    · have hmul : N * q * 2 ^ (-u).toNat = (N * 2 ^ (-u).toNat) * q := by ac_rfl
      exact ⟨_, rfl, by simp only [F.num, F.den, if_neg hz, hmul, roundHalfEven_mul _ q hq],
        by simp only [F.den, if_neg hz]; exact Nat.pow_pos (by decide)⟩

theorem ofNat_exact (n : Nat) (hn : n < 2 ^ 53) : ∃ f, ofNat n = some f ∧ f.num = n * f.den ∧ 0 < f.den := by
  have := roundQ_exact n 1 (by decide) hn
  simpa [ofNat] using this

theorem m_ne_zero_of_num (f : F) (h : 0 < f.num) : f.m ≠ 0 := by
  intro hm
  unfold F.num at h
  split at h <;> simp [hm] at h

theorem div_exact (a b : F) (A B D : Nat) (ha : a.num = A * a.den) (hb : b.num = B * b.den)
    (hda : 0 < a.den) (hdb : 0 < b.den) (hB : 0 < B) (hAB : A = D * B) (hD : D < 2 ^ 53) :
    ∃ q, div a b = some q ∧ q.num = D * q.den ∧ 0 < q.den := by
  unfold div
  have hbn : 0 < b.num := by rw [hb]; exact Nat.mul_pos hB hdb
  rw [if_neg (m_ne_zero_of_num b hbn)]
  have e : a.num * b.den = D * (a.den * b.num) := by
    rw [ha, hb, hAB]; ac_rfl
  rw [e]
  exact roundQ_exact D (a.den * b.num) (Nat.mul_pos hda hbn) hD

theorem mul_exact (a b : F) (A B : Nat) (ha : a.num = A * a.den) (hb : b.num = B * b.den)
    (hda : 0 < a.den) (hdb : 0 < b.den) (hAB : A * B < 2 ^ 53) :
    ∃ p, mul a b = some p ∧ p.num = (A * B) * p.den ∧ 0 < p.den := by
  unfold mul
  have e : a.num * b.num = (A * B) * (a.den * b.den) := by rw [ha, hb]; ac_rfl
  rw [e]
  exact roundQ_exact (A * B) (a.den * b.den) (Nat.mul_pos hda hdb) hAB

theorem trunc_exact (p : F) (N : Nat) (h : p.num = N * p.den) (hd : 0 < p.den) : trunc p = N := by
  unfold trunc; rw [h]; exact Nat.mul_div_cancel N hd

end Influx.Lemmas.Float
