/-
  Lemmas.C36KeyOrder — `bytes.Compare < 0` (lexicographic order on byte strings) is a strict
  total order; insertion sort under it produces THE strictly ascending list of a set of keys.
-/
import Influx.Model.RHH
import Influx.Lemmas.C36List

namespace Influx.RHH

theorem keyLt_cons (x y : Nat) (xs ys : Key) :
    keyLt (x :: xs) (y :: ys) = true ↔ x < y ∨ (x = y ∧ keyLt xs ys = true) := by
  rw [keyLt]
  by_cases h1 : x < y
  · rw [if_pos h1]; exact iff_of_true rfl (Or.inl h1)
  · rw [if_neg h1]
    by_cases h2 : y < x
    · rw [if_pos h2]
      exact iff_of_false Bool.false_ne_true fun h => h.elim h1 fun h => Nat.lt_irrefl x (h.1 ▸ h2)
    · rw [if_neg h2]
      exact ⟨fun h => Or.inr ⟨Nat.le_antisymm (Nat.le_of_not_lt h2) (Nat.le_of_not_lt h1), h⟩,
        fun h => h.elim (absurd · h1) (·.2)⟩

theorem keyLt_irrefl : ∀ a : Key, keyLt a a = false
  | [] => rfl
  | x :: xs => by simp [keyLt, keyLt_irrefl xs]

theorem keyLt_trans (a b c : Key) (h1 : keyLt a b = true) (h2 : keyLt b c = true) : keyLt a c = true := by
  induction a generalizing b c with
  | nil =>
    cases b with
    | nil => exact absurd h1 Bool.false_ne_true
    | cons y ys =>
      cases c with
      | nil => exact absurd h2 Bool.false_ne_true
      | cons z zs => rfl
  | cons x xs ih =>
    cases b with
    | nil => exact absurd h1 Bool.false_ne_true
    | cons y ys =>
      cases c with
      | nil => exact absurd h2 Bool.false_ne_true
      | cons z zs =>
        rw [keyLt_cons] at h1 h2 ⊢
        rcases h1 with h1 | ⟨rfl, h1⟩ <;> rcases h2 with h2 | ⟨rfl, h2⟩
        · exact Or.inl (Nat.lt_trans h1 h2)
        · exact Or.inl h1
        · exact Or.inl h2
        · exact Or.inr ⟨rfl, ih ys zs h1 h2⟩

theorem keyLt_total (a b : Key) (h : a ≠ b) : keyLt a b = true ∨ keyLt b a = true := by
  induction a generalizing b with
  | nil =>
    cases b with
    | nil => exact absurd rfl h
    | cons y ys => exact Or.inl rfl
  | cons x xs ih =>
    cases b with
    | nil => exact Or.inr rfl
    | cons y ys =>
      rw [keyLt_cons, keyLt_cons]
      rcases Nat.lt_trichotomy x y with hlt | rfl | hgt
      · exact Or.inl (Or.inl hlt)
      · exact (ih ys fun h' => h (h' ▸ rfl)).imp (fun h' => Or.inr ⟨rfl, h'⟩) (fun h' => Or.inr ⟨rfl, h'⟩)
      · exact Or.inr (Or.inl hgt)

theorem keyLt_asymm (a b : Key) (h : keyLt a b = true) : keyLt b a = false :=
  Bool.eq_false_iff.mpr fun hb => Bool.eq_false_iff.mp (keyLt_irrefl a) (keyLt_trans a b a h hb)

abbrev SortedK (l : List Key) : Prop := l.Pairwise (fun a b => keyLt a b = true)

theorem sortedK_ext (a b : List Key) (ha : SortedK a) (hb : SortedK b) (h : ∀ x, x ∈ a ↔ x ∈ b) : a = b :=
  C36.pairwise_ext (fun x y hxy hyx => Bool.eq_false_iff.mp (keyLt_asymm x y hxy) hyx) a b ha hb h

theorem mem_insertSorted (k x : Key) (l : List Key) : x ∈ insertSorted k l ↔ x = k ∨ x ∈ l := by
  induction l with
  | nil => simp [insertSorted]
  | cons y ys ih =>
    rw [insertSorted]
    split
    · exact List.mem_cons
    · rw [List.mem_cons, ih, List.mem_cons]
      exact or_left_comm

theorem insertSorted_sorted (k : Key) (l : List Key) (hs : SortedK l) (hk : k ∉ l) :
    SortedK (insertSorted k l) := by
  induction l with
  | nil => exact List.pairwise_singleton _ _
  | cons y ys ih =>
    have hy := List.pairwise_cons.mp hs
    rw [insertSorted]
    split
    · next hlt =>
      refine List.pairwise_cons.mpr ⟨fun a ha => ?_, hs⟩
      rcases List.mem_cons.mp ha with rfl | ha
      · exact hlt
      · exact keyLt_trans _ _ _ hlt (hy.1 a ha)
    · next hnlt =>
      have hyk : keyLt y k = true :=
        (keyLt_total k y fun h => hk (h ▸ List.mem_cons_self)).resolve_left hnlt
      refine List.pairwise_cons.mpr ⟨fun a ha => ?_, ih hy.2 fun h => hk (List.mem_cons_of_mem _ h)⟩
      rcases (mem_insertSorted k a ys).mp ha with rfl | ha
      · exact hyk
      · exact hy.1 a ha

theorem mem_sortKeys (ks : List Key) (x : Key) : x ∈ sortKeys ks ↔ x ∈ ks := by
  induction ks with
  | nil => exact Iff.rfl
  | cons k ks ih =>
    rw [show sortKeys (k :: ks) = insertSorted k (sortKeys ks) from rfl, mem_insertSorted, ih, List.mem_cons]

theorem sortKeys_sorted (ks : List Key) (hn : ks.Nodup) : SortedK (sortKeys ks) := by
  induction ks with
  | nil => exact List.Pairwise.nil
  | cons k ks ih =>
    have hk := List.nodup_cons.mp hn
    exact insertSorted_sorted k _ (ih hk.2) fun h => hk.1 ((mem_sortKeys ks k).mp h)

end Influx.RHH

namespace Influx.Spec.C36

theorem keyLt_eq (a b : List Nat) : keyLt a b = RHH.keyLt a b := by
  induction a generalizing b with
  | nil => cases b <;> rfl
  | cons x xs ih =>
    cases b with
    | nil => rfl
    | cons y ys => rw [keyLt, RHH.keyLt, ih]

theorem sorted_keys (m : Assoc) : (m.sorted).map (·.1) = RHH.sortKeys (m.map (·.1)) := by
  induction m with
  | nil => rfl
  | cons p ps ih =>
    have h1 : Assoc.sorted (p :: ps) = insByKey p (Assoc.sorted ps) := rfl
    have h2 : RHH.sortKeys ((p :: ps).map (·.1)) = RHH.insertSorted p.1 (RHH.sortKeys (ps.map (·.1))) := rfl
    rw [h1, h2, ← ih]
    generalize Assoc.sorted ps = l
    induction l with
    | nil => rfl
    | cons q qs ihq =>
      rw [insByKey, List.map_cons, RHH.insertSorted, keyLt_eq]
      split
      · rfl
      · rw [List.map_cons, ihq]

end Influx.Spec.C36
