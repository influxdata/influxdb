/-
  Lemmas.TSIInv — the per-partition invariant of the tsi1 model: its two halves (what each
  file must satisfy on its own, `FileOK`; what ties the files to the live series), what of its
  parameters it does not read, the empty partition, a growing series file, and the shape of a
  partition after an append.
-/
import Influx.Lemmas.TSIFile

namespace Influx.Model.TSI

def LiveIn (sf : SFile) (live : List Nat) (i : Nat) (id : Nat) : Prop :=
  id ∈ live ∧ ∃ s, sf.find id = some s ∧ s.part = i

/-- what holds of partition number `i` between operations, for the live set `live`.
    `exc` names the measurements that may be listed without a live series (only while a
    drop is in progress: between `DropSeries` and `DropMeasurementIfSeriesNotExist`). -/
structure PInvX (exc : String → Prop) (sf : SFile) (live : List Nat) (i : Nat) (p : Partition) : Prop where
  /-- the head of the file list is the active log file -/
  head : ∃ a rest, p.files = a :: rest ∧ a.isLog = true
  loginv : ∀ f ∈ p.files, f.isLog = true → f.data = replay sf f.entries
  eknown : ∀ f ∈ p.files, ∀ e ∈ f.entries, ∀ id, (e = .add id ∨ e = .delSeries id) → (sf.find id).isSome
  noflags : ∀ f ∈ p.files, NoFlags f.data
  sound : ∀ f ∈ p.files, Sound sf f.data
  comp : ∀ id s, id ∈ live → sf.find id = some s → s.part = i →
    ∃ f ∈ p.files, id ∈ fileMeasSeries s.name f.data ∧
      ∀ k v, tagOf s.tags k = some v → id ∈ fileValSeries s.name k v f.data
  notomb : ∀ f ∈ p.files, ∀ id ∈ live, id ∉ f.data.tomb
  tknown : ∀ f ∈ p.files, ∀ id ∈ f.data.tomb, (sf.find id).isSome
  sset : ∀ id, id ∈ p.sset ↔ LiveIn sf live i id
  stat : ∀ id, status id p.datas = some true ↔ LiveIn sf live i id
  mflive : ∀ id s, id ∈ live → sf.find id = some s → s.part = i →
    firstSome (measFlag s.name) p.datas = some false
  mfdead : ∀ n, firstSome (measFlag n) p.datas = some false →
    (∃ id ∈ live, ∃ s, sf.find id = some s ∧ s.name = n) ∨ exc n

abbrev PInv := PInvX (fun _ => False)

/-- what `PInvX` asks of each file on its own, whatever the live set. -/
structure FileOK (sf : SFile) (f : File) : Prop where
  loginv : f.isLog = true → f.data = replay sf f.entries
  eknown : ∀ e ∈ f.entries, ∀ id, (e = .add id ∨ e = .delSeries id) → (sf.find id).isSome
  noflags : NoFlags f.data
  sound : Sound sf f.data
  tknown : ∀ id ∈ f.data.tomb, (sf.find id).isSome

section
variable {exc : String → Prop} {sf : SFile} {live : List Nat} {i : Nat} {p : Partition}

theorem pinv_fileOK (hp : PInvX exc sf live i p) {f : File} (hf : f ∈ p.files) : FileOK sf f :=
  ⟨hp.loginv f hf, hp.eknown f hf, hp.noflags f hf, hp.sound f hf, hp.tknown f hf⟩

theorem pinv_of_fileOK (head : ∃ a rest, p.files = a :: rest ∧ a.isLog = true)
    (hF : ∀ f ∈ p.files, FileOK sf f)
    (comp : ∀ id s, id ∈ live → sf.find id = some s → s.part = i →
      ∃ f ∈ p.files, id ∈ fileMeasSeries s.name f.data ∧
        ∀ k v, tagOf s.tags k = some v → id ∈ fileValSeries s.name k v f.data)
    (notomb : ∀ f ∈ p.files, ∀ id ∈ live, id ∉ f.data.tomb)
    (sset : ∀ id, id ∈ p.sset ↔ LiveIn sf live i id)
    (stat : ∀ id, status id p.datas = some true ↔ LiveIn sf live i id)
    (mflive : ∀ id s, id ∈ live → sf.find id = some s → s.part = i →
      firstSome (measFlag s.name) p.datas = some false)
    (mfdead : ∀ n, firstSome (measFlag n) p.datas = some false →
      (∃ id ∈ live, ∃ s, sf.find id = some s ∧ s.name = n) ∨ exc n) : PInvX exc sf live i p :=
  { head := head, comp := comp, notomb := notomb, sset := sset, stat := stat, mflive := mflive,
    mfdead := mfdead
    loginv := fun f hf => (hF f hf).loginv, eknown := fun f hf => (hF f hf).eknown,
    noflags := fun f hf => (hF f hf).noflags, sound := fun f hf => (hF f hf).sound,
    tknown := fun f hf => (hF f hf).tknown }

theorem pinv_of_eq {q : Partition} (hp : PInvX exc sf live i p) (hf : q.files = p.files)
    (hs : q.sset = p.sset) : PInvX exc sf live i q := by
  obtain ⟨_, _, _⟩ := q
  cases hf; cases hs
  exact { hp with }

theorem pinv_mono {exc' : String → Prop} (h : ∀ n, exc n → exc' n) (hp : PInvX exc sf live i p) :
    PInvX exc' sf live i p :=
  { hp with mfdead := fun n hn => (hp.mfdead n hn).imp id (h n) }

theorem pinv_live_congr {exc' : String → Prop} {live' : List Nat} (hp : PInvX exc sf live i p)
    (hin : ∀ x t, sf.find x = some t → t.part = i → (x ∈ live' ↔ x ∈ live))
    (hnt : ∀ f ∈ p.files, ∀ x ∈ live', x ∉ f.data.tomb)
    (hdead : ∀ n, (∃ id ∈ live, ∃ s, sf.find id = some s ∧ s.name = n) ∨ exc n →
      (∃ id ∈ live', ∃ s, sf.find id = some s ∧ s.name = n) ∨ exc' n) :
    PInvX exc' sf live' i p :=
  have hlive : ∀ x, LiveIn sf live i x ↔ LiveIn sf live' i x := fun x =>
    ⟨fun ⟨hx, t, ht, hpt⟩ => ⟨(hin x t ht hpt).mpr hx, t, ht, hpt⟩,
     fun ⟨hx, t, ht, hpt⟩ => ⟨(hin x t ht hpt).mp hx, t, ht, hpt⟩⟩
  { hp with
    comp := fun x t hx ht hpx => hp.comp x t ((hin x t ht hpx).mp hx) ht hpx
    notomb := hnt
    sset := fun x => (hp.sset x).trans (hlive x)
    stat := fun x => (hp.stat x).trans (hlive x)
    mflive := fun x t hx ht hpx => hp.mflive x t ((hin x t ht hpx).mp hx) ht hpx
    mfdead := fun n hn => hdead n (hp.mfdead n hn) }

theorem pinv_discharge (m : String) (hw : ∃ id ∈ live, ∃ s, sf.find id = some s ∧ s.name = m)
    (hp : PInvX (fun n => exc n ∨ n = m) sf live i p) : PInvX exc sf live i p := by
  have hm : ∀ n, firstSome (measFlag n) p.datas = some false →
      (∃ id ∈ live, ∃ s, sf.find id = some s ∧ s.name = n) ∨ exc n := by
    intro n hn
    rcases hp.mfdead n hn with h | h | h
    · exact Or.inl h
    · exact Or.inr h
    · subst h; exact Or.inl hw
  exact { hp with mfdead := hm }

theorem pinv_sfdel (d : List Nat) (hp : PInvX exc sf live i p) : PInvX exc { sf with deleted := d } live i p :=
  { hp with sound := fun f hf => ⟨(hp.sound f hf).meas, (hp.sound f hf).val⟩ }

end

theorem replay_nil (sf : SFile) : replay sf [] = {} := rfl

theorem fileOK_newLog (sf : SFile) : FileOK sf newLog :=
  ⟨fun _ => rfl, fun _ h => absurd h List.not_mem_nil, noflags_empty, sound_empty sf,
    fun _ h => absurd h List.not_mem_nil⟩

theorem pinv_init (sf : SFile) (i : Nat) : PInv sf [] i {} :=
  pinv_of_fileOK ⟨newLog, [], rfl, rfl⟩
    (fun _ hf => List.mem_singleton.mp hf ▸ fileOK_newLog sf)
    (fun _ _ h => absurd h List.not_mem_nil) (fun _ _ _ h => absurd h List.not_mem_nil)
    (fun _ => ⟨fun h => absurd h List.not_mem_nil, fun h => absurd h.1 List.not_mem_nil⟩)
    (fun _ => ⟨fun h => by simp [status, Partition.datas, newLog, firstSome] at h,
      fun h => absurd h.1 List.not_mem_nil⟩)
    (fun _ _ h => absurd h List.not_mem_nil) (fun _ h => by cases h)

structure Extends (sf sf' : SFile) : Prop where
  find : ∀ id s, sf.find id = some s → sf'.find id = some s

theorem extends_isSome {sf sf' : SFile} (h : Extends sf sf') {id : Nat} (hk : (sf.find id).isSome) :
    (sf'.find id).isSome ∧ sf'.find id = sf.find id := by
  cases hf : sf.find id with
  | none => rw [hf] at hk; cases hk
  | some s => rw [h.find id s hf]; exact ⟨rfl, rfl⟩

theorem exec_extends {sf sf' : SFile} (h : Extends sf sf') (d : FileData) (e : Entry)
    (hk : ∀ id, (e = .add id ∨ e = .delSeries id) → (sf.find id).isSome) :
    exec sf' d e = exec sf d e := by
  cases e with
  | add id => simp only [exec, execSeries, (extends_isSome h (hk id (Or.inl rfl))).2]
  | delSeries id => simp only [exec, execSeries, (extends_isSome h (hk id (Or.inr rfl))).2]
  | delMeas m => rfl
  | delKey m k => rfl
  | delVal m k v => rfl

theorem replay_extends {sf sf' : SFile} (h : Extends sf sf') (es : List Entry)
    (hk : ∀ e ∈ es, ∀ id, (e = .add id ∨ e = .delSeries id) → (sf.find id).isSome) (d : FileData) :
    es.foldl (exec sf') d = es.foldl (exec sf) d := by
  induction es generalizing d with
  | nil => rfl
  | cons e rest ih =>
    rw [List.foldl_cons, List.foldl_cons, exec_extends h d e (hk e List.mem_cons_self)]
    exact ih (fun e' he' => hk e' (List.mem_cons_of_mem _ he')) _

theorem sound_extends {sf sf' : SFile} (h : Extends sf sf') {d : FileData} (hs : Sound sf d) :
    Sound sf' d where
  meas n x hx := by
    obtain ⟨s, hf, hn⟩ := hs.meas n x hx
    exact ⟨s, h.find x s hf, hn⟩
  val n k v x hx := by
    obtain ⟨s, hf, hn⟩ := hs.val n k v x hx
    exact ⟨s, h.find x s hf, hn⟩

theorem fileOK_extends {sf sf' : SFile} (h : Extends sf sf') {f : File} (hf : FileOK sf f) : FileOK sf' f :=
  ⟨fun hl => (hf.loginv hl).trans (replay_extends h f.entries hf.eknown {}).symm,
    fun e he id hid => (extends_isSome h (hf.eknown e he id hid)).1, hf.noflags, sound_extends h hf.sound,
    fun id hid => (extends_isSome h (hf.tknown id hid)).1⟩

theorem pinv_extends {exc : String → Prop} {sf sf' : SFile} (h : Extends sf sf') {live : List Nat}
    {i : Nat} {p : Partition}
    (hlk : ∀ id ∈ live, (sf.find id).isSome) (hp : PInvX exc sf live i p) : PInvX exc sf' live i p := by
  have hfind : ∀ id ∈ live, sf'.find id = sf.find id := fun id hid => (extends_isSome h (hlk id hid)).2
  have hlive : ∀ id, LiveIn sf' live i id ↔ LiveIn sf live i id := fun id =>
    and_congr_right fun hm => by rw [hfind id hm]
  exact pinv_of_fileOK hp.head (fun f hf => fileOK_extends h (pinv_fileOK hp hf))
    (fun id s hid hs => hp.comp id s hid (hfind id hid ▸ hs)) hp.notomb
    (fun id => (hp.sset id).trans (hlive id).symm) (fun id => (hp.stat id).trans (hlive id).symm)
    (fun id s hid hs => hp.mflive id s hid (hfind id hid ▸ hs))
    (fun n hn => (hp.mfdead n hn).imp
      (fun ⟨id, hid, s, hs, hname⟩ => ⟨id, hid, s, h.find id s hs, hname⟩) id)

theorem append_files (sf : SFile) (p : Partition) (es : List Entry) (a : File) (rest : List File)
    (h : p.files = a :: rest) :
    (p.append sf es).files =
      { a with entries := a.entries ++ es, data := es.foldl (exec sf) a.data } :: rest := by
  simp only [Partition.append, h]

theorem append_sset (sf : SFile) (p : Partition) (es : List Entry) : (p.append sf es).sset = p.sset := by
  unfold Partition.append
  cases p.files <;> rfl

theorem replay_append_list (sf : SFile) (es es' : List Entry) :
    replay sf (es ++ es') = es'.foldl (exec sf) (replay sf es) :=
  List.foldl_append

theorem fileOK_append {sf : SFile} {a : File} (ha : FileOK sf a) (hl : a.isLog = true) (es : List Entry)
    (hek : ∀ e ∈ es, ∀ id, (e = .add id ∨ e = .delSeries id) → (sf.find id).isSome)
    (hnf : NoFlags (es.foldl (exec sf) a.data)) (hs : Sound sf (es.foldl (exec sf) a.data))
    (htk : ∀ id ∈ (es.foldl (exec sf) a.data).tomb, (sf.find id).isSome) :
    FileOK sf { a with entries := a.entries ++ es, data := es.foldl (exec sf) a.data } :=
  ⟨fun _ => by rw [replay_append_list, ← ha.loginv hl],
    fun e he => (List.mem_append.mp he).elim (ha.eknown e) (hek e), hnf, hs, htk⟩

theorem datas_cons (p : Partition) (a : File) (rest : List File) (h : p.files = a :: rest) :
    p.datas = a.data :: rest.map (·.data) := by
  unfold Partition.datas; rw [h]; rfl

end Influx.Model.TSI
