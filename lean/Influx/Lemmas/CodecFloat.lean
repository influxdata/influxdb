/-
  Lemmas.CodecFloat — the Gorilla XOR float codec: the decoder follows the encoder state step by step.
-/
import Influx.Lemmas.CodecBase
import Influx.Model.CodecFloat
namespace Influx.Codec
open Influx.Generated.Codec

theorem ctz_dvd (x : Nat) (hx : x ≠ 0) : 2 ^ ctz x ∣ x := by
  fun_induction ctz x with
  | case1 => exact absurd rfl hx
  | case2 x h0 h1 => exact Nat.one_dvd x
  | case3 x h0 h1 ih =>
    have h2 : x % 2 = 0 := (Nat.mod_two_eq_zero_or_one x).resolve_right h1
    have hx2 : x / 2 ≠ 0 := fun h => h0 (by rw [← Nat.div_add_mod x 2, h, h2])
    calc 2 ^ (ctz (x / 2) + 1) = 2 ^ ctz (x / 2) * 2 := Nat.pow_succ ..
      _ ∣ x / 2 * 2 := Nat.mul_dvd_mul (ih hx2) (Nat.dvd_refl 2)
      _ = x := Nat.div_mul_cancel (Nat.dvd_of_mod_eq_zero h2)

theorem window_len (l t : Nat) (h : l + t ≤ 63) :
    1 ≤ 64 - l - t ∧ 64 - l - t ≤ 64 ∧ t + (64 - l - t) = 64 - l :=
  ⟨by rw [Nat.sub_sub]; exact Nat.sub_le_sub_left h 64, Nat.le_trans (Nat.sub_le _ _) (Nat.sub_le _ _),
   Nat.add_sub_of_le (Nat.le_sub_of_add_le (Nat.le_succ_of_le (Nat.add_comm l t ▸ h)))⟩

theorem window_bits (x l t : Nat) (hx : x ≠ 0) (hW : x < 2 ^ 64) (hl : l ≤ clz64 x) (ht : t ≤ ctz x) :
    x / 2 ^ t < 2 ^ (64 - l - t) ∧ x / 2 ^ t * 2 ^ t = x ∧ l + t ≤ 63 := by
  have hlog : Nat.log2 x ≤ 63 := Nat.le_of_lt_succ ((Nat.log2_lt hx).mpr hW)
  have hctz : ctz x ≤ Nat.log2 x := (Nat.le_log2 hx).mpr (Nat.le_of_dvd (Nat.pos_of_ne_zero hx) (ctz_dvd x hx))
  have h1 : l + t ≤ 63 :=
    Nat.le_trans (Nat.add_le_add hl (Nat.le_trans ht hctz)) (Nat.le_of_eq (Nat.sub_add_cancel hlog))
  have h2 : Nat.log2 x + 1 ≤ 64 - l := by
    apply Nat.le_sub_of_add_le
    rw [Nat.add_right_comm, Nat.add_comm _ l]
    exact Nat.succ_le_succ (Nat.add_le_of_le_sub hlog hl)
  refine ⟨?_, Nat.div_mul_cancel (Nat.dvd_trans (Nat.pow_dvd_pow 2 ht) (ctz_dvd x hx)), h1⟩
  apply Nat.div_lt_of_lt_mul
  rw [← Nat.pow_add, (window_len l t h1).2.2]
  exact Nat.lt_of_lt_of_le Nat.lt_log2_self (Nat.pow_le_pow_right (by decide) h2)

theorem xor_cancel (v p : Nat) : p ^^^ (v ^^^ p) = v := by
  rw [Nat.xor_comm v p, ← Nat.xor_assoc, Nat.xor_self, Nat.zero_xor]

theorem xor_eq_zero (v p : Nat) : v ^^^ p = 0 ↔ v = p := by
  constructor
  · intro h
    have := xor_cancel v p
    rw [h, Nat.xor_zero] at this
    exact this.symm
  · intro h; rw [h, Nat.xor_self]

/-- What `Write(v)` emits: a single 0 bit for an unchanged value; otherwise a 1 bit, a header `hdr` and the
    bits of `v ^^^ prev` inside a window `(l, t)` that covers them.  The header is a 0 bit when the previous
    window is kept, and a 1 bit with the 5-bit `l` and the 6-bit length of a new window. -/
theorem floatStep_cases (s : FState) (v : Nat) :
    (v = s.prev ∧ floatStep s v = ([false], { s with prev := v })) ∨
    ∃ l t hdr, v ^^^ s.prev ≠ 0 ∧ l ≤ clz64 (v ^^^ s.prev) ∧ t ≤ ctz (v ^^^ s.prev) ∧
      (hdr = [false] ∧ s.window = some (l, t) ∨ hdr = true :: (bitsOf l 5 ++ bitsOf (64 - l - t) 6) ∧ l < 32) ∧
      floatStep s v = (true :: (hdr ++ bitsOf ((v ^^^ s.prev) / 2 ^ t) (64 - l - t)), { prev := v, window := some (l, t) }) := by
  unfold floatStep
  simp only
  by_cases hz : v ^^^ s.prev = 0
  · rw [if_pos hz]; exact Or.inl ⟨(xor_eq_zero v s.prev).mp hz, rfl⟩
  · rw [if_neg hz]
    have hlead : clz64 (v ^^^ s.prev) % 32 ≤ clz64 (v ^^^ s.prev) := Nat.mod_le _ _
    have hl32 : clz64 (v ^^^ s.prev) % 32 < 32 := Nat.mod_lt _ (by decide)
    right
    cases hw : s.window with
    | none => exact ⟨_, _, _, hz, hlead, Nat.le_refl _, Or.inr ⟨rfl, hl32⟩, rfl⟩
    | some win =>
      obtain ⟨pl, pt⟩ := win
      simp only
      by_cases hre : (decide (clz64 (v ^^^ s.prev) % 32 ≥ pl) && decide (ctz (v ^^^ s.prev) ≥ pt)) = true
      · rw [if_pos hre]
        simp only [Bool.and_eq_true, decide_eq_true_eq] at hre
        exact ⟨pl, pt, _, hz, Nat.le_trans hre.1 hlead, hre.2, Or.inl ⟨rfl, rfl⟩, rfl⟩
      · rw [if_neg hre]
        exact ⟨_, _, _, hz, hlead, Nat.le_refl _, Or.inr ⟨rfl, hl32⟩, rfl⟩

theorem floatStep_prev (s : FState) (v : Nat) : (floatStep s v).2.prev = v := by
  rcases floatStep_cases s v with ⟨_, h⟩ | ⟨_, _, _, _, _, _, _, h⟩ <;> rw [h]

theorem floatStep_bits_ne (s : FState) (v : Nat) : 1 ≤ (floatStep s v).1.length := by
  rcases floatStep_cases s v with ⟨_, h⟩ | ⟨_, _, _, _, _, _, _, h⟩ <;> rw [h] <;> exact Nat.succ_le_succ (Nat.zero_le _)

/-- the 6-bit length field holds 64 as 0 -/
theorem sigbits_wrap (n : Nat) (h1 : 1 ≤ n) (h64 : n ≤ 64) : (if n % 2 ^ 6 = 0 then 64 else n % 2 ^ 6) = n := by
  rcases Nat.lt_or_eq_of_le h64 with h | rfl
  · rw [Nat.mod_eq_of_lt h, if_neg (Nat.ne_of_gt h1)]
  · rfl

/-- `Next()` on such bits: the decoder takes the window from its state or from the header and xors the payload in -/
theorem floatDecStep_xor (d : DState) (l t x : Nat) (hdr rest : List Bool)
    (hhdr : hdr = [false] ∧ d.leading = l ∧ d.trailing = t ∨ hdr = true :: (bitsOf l 5 ++ bitsOf (64 - l - t) 6) ∧ l < 32)
    (hx : x ≠ 0) (hW : x < 2 ^ 64) (hl : l ≤ clz64 x) (ht : t ≤ ctz x) :
    floatDecStep d (true :: (hdr ++ bitsOf (x / 2 ^ t) (64 - l - t)) ++ rest) =
      if d.val ^^^ x = uvnan then some none
      else some (some ({ val := d.val ^^^ x, leading := l, trailing := t }, rest)) := by
  obtain ⟨w1, w2, w3⟩ := window_bits x l t hx hW hl ht
  have hxW : x % W = x := Nat.mod_eq_of_lt hW
  rcases hhdr with ⟨rfl, rfl, rfl⟩ | ⟨rfl, hl32⟩
  · simp only [List.cons_append, List.nil_append, floatDecStep, Bool.false_eq_true, if_false, readBits_bitsOf,
      Nat.mod_eq_of_lt w1, w2, hxW]
  · obtain ⟨n1, n64, hadd⟩ := window_len l t w3
    have hsub : 64 - l - (64 - l - t) = t := Nat.sub_eq_of_eq_add hadd.symm
    have hl5 : l % 2 ^ 5 = l := Nat.mod_eq_of_lt hl32
    simp only [List.cons_append, List.append_assoc, floatDecStep, if_true, readBits_bitsOf, hl5,
      sigbits_wrap (64 - l - t) n1 n64, hsub, Nat.mod_eq_of_lt w1, w2, hxW]

/-- encoder state and decoder state agree -/
def FRel (s : FState) (d : DState) : Prop :=
  d.val = s.prev ∧ ∀ pl pt, s.window = some (pl, pt) → d.leading = pl ∧ d.trailing = pt ∧ pl + pt ≤ 63

theorem floatDecStep_step (s : FState) (d : DState) (v : Nat) (rest : List Bool)
    (hrel : FRel s d) (hp : s.prev < 2 ^ 64) (hv : v < 2 ^ 64) :
    ∃ d', FRel (floatStep s v).2 d' ∧ d'.val = v ∧
      floatDecStep d ((floatStep s v).1 ++ rest) =
        (if v = uvnan ∧ v ≠ s.prev then some none else some (some (d', rest))) := by
  obtain ⟨hval, hwin⟩ := hrel
  rcases floatStep_cases s v with ⟨hveq, hst⟩ | ⟨l, t, hdr, hx, hl, ht, hhdr, hst⟩ <;> rw [hst]
  · exact ⟨d, ⟨hval.trans hveq.symm, hwin⟩, hval.trans hveq.symm, by rw [if_neg (fun h => h.2 hveq)]; rfl⟩
  · have hxW : v ^^^ s.prev < 2 ^ 64 := Nat.xor_lt_two_pow hv hp
    have hvne : v ≠ s.prev := fun h => hx ((xor_eq_zero v s.prev).mpr h)
    refine ⟨{ val := v, leading := l, trailing := t }, ⟨rfl, ?_⟩, rfl, ?_⟩
    · intro pl pt h
      obtain ⟨rfl, rfl⟩ := Prod.mk.inj (Option.some.inj h)
      exact ⟨rfl, rfl, (window_bits _ _ _ hx hxW hl ht).2.2⟩
    · rw [floatDecStep_xor d l t _ hdr rest (hhdr.imp (fun h => ⟨h.1, (hwin l t h.2).1, (hwin l t h.2).2.1⟩) id) hx hxW hl ht,
        hval, xor_cancel]
      simp only [hvne, ne_eq, not_false_eq_true, and_true]

theorem floatBitsLoop_cons (s : FState) (v : Nat) (vs : List Nat) :
    floatBitsLoop s (v :: vs) = (floatStep s v).1 ++ floatBitsLoop (floatStep s v).2 vs := rfl

theorem length_succ_le_append {α : Type} (a b : List α) (h : 1 ≤ a.length) : b.length + 1 ≤ (a ++ b).length := by
  rw [List.length_append, Nat.add_comm]; exact Nat.add_le_add_right h _

/-- the decoder is given one unit of fuel per bit and one to spare; every step consumes a bit -/
theorem floatDecLoop_spec (vs : List Nat) : ∀ (s : FState) (d : DState) (pad : List Bool) (fuel : Nat),
    FRel s d → s.prev < 2 ^ 64 → s.prev ≠ uvnan → (∀ v ∈ vs, v < 2 ^ 64 ∧ v ≠ uvnan) →
    (floatBitsLoop s (vs ++ [uvnan]) ++ pad).length + 1 ≤ fuel →
    floatDecLoop fuel d (floatBitsLoop s (vs ++ [uvnan]) ++ pad) = some vs := by
  induction vs with
  | nil =>
    intro s d pad fuel hrel hp hpn _ hf
    cases fuel with
    | zero => exact absurd hf (Nat.not_succ_le_zero _)
    | succ f =>
      rw [List.nil_append, floatBitsLoop_cons, show floatBitsLoop (floatStep s uvnan).2 [] = [] from rfl, List.append_nil]
      obtain ⟨d', _, _, hstep⟩ := floatDecStep_step s d uvnan pad hrel hp (by decide)
      rw [if_pos ⟨rfl, fun h => hpn h.symm⟩] at hstep
      simp only [floatDecLoop, hstep]
  | cons v vs ih =>
    intro s d pad fuel hrel hp hpn hall hf
    cases fuel with
    | zero => exact absurd hf (Nat.not_succ_le_zero _)
    | succ f =>
      obtain ⟨⟨hv, hvn⟩, hall'⟩ := List.forall_mem_cons.mp hall
      rw [List.cons_append, floatBitsLoop_cons, List.append_assoc] at hf ⊢
      obtain ⟨d', hrel', hval', hstep⟩ := floatDecStep_step s d v (floatBitsLoop (floatStep s v).2 (vs ++ [uvnan]) ++ pad) hrel hp hv
      rw [if_neg (fun h => hvn h.1)] at hstep
      simp only [floatDecLoop, hstep]
      rw [ih (floatStep s v).2 d' pad f hrel' (by rw [floatStep_prev]; exact hv) (by rw [floatStep_prev]; exact hvn) hall'
        (Nat.le_trans (length_succ_le_append _ _ (floatStep_bits_ne s v)) (Nat.le_of_succ_le_succ hf)), hval']

theorem isNaN_uvnan : isNaN uvnan = true := by decide

/-- **float codec** (both encoders emit these bits, both decoders read them): every sequence of
    non-NaN 64-bit patterns is encoded, and decodes to itself bit for bit. -/
theorem floatDecode_floatEncode (vs : List Nat) (hv : ∀ v ∈ vs, v < W) (hn : ∀ v ∈ vs, isNaN v = false) :
    ∃ b, floatEncode vs = some b ∧ floatDecode b = some vs := by
  have hne : ∀ v ∈ vs, v < 2 ^ 64 ∧ v ≠ uvnan := fun v hvv =>
    ⟨W_eq ▸ hv v hvv, fun h => by have := hn v hvv; rw [h, isNaN_uvnan] at this; cases this⟩
  have hany : vs.any isNaN = false := List.any_eq_false.mpr fun v hvv => by rw [hn v hvv]; exact Bool.false_ne_true
  unfold floatEncode
  rw [hany]
  refine ⟨_, rfl, ?_⟩
  unfold floatDecode
  simp only
  obtain ⟨pad, hpad⟩ := bitsOfBytes_packBits (floatBits vs)
  rw [hpad]
  cases vs with
  | nil =>
    rw [show floatBits [] = bitsOf uvnan 64 ++ [] from rfl, List.append_assoc, readBits_bitsOf]
    simp only [(by decide : uvnan % 2 ^ 64 = uvnan), if_true]
  | cons v0 tail =>
    obtain ⟨hv0, hv0n⟩ := hne v0 List.mem_cons_self
    rw [show floatBits (v0 :: tail) = bitsOf v0 64 ++ floatBitsLoop { prev := v0 } (tail ++ [uvnan]) from rfl,
      List.append_assoc, readBits_bitsOf, Nat.mod_eq_of_lt hv0]
    simp only [if_neg hv0n]
    rw [floatDecLoop_spec tail { prev := v0 } { val := v0 } pad _ ⟨rfl, nofun⟩ hv0 hv0n
      (fun x hx => hne x (List.mem_cons_of_mem _ hx)) (Nat.le_refl _)]

end Influx.Codec
