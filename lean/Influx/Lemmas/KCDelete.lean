/-
  Lemmas.KCDelete — what indirectIndex.DeleteRange (model: `applyDelete`) means for one key:
  after any sequence of range deletes the key either keeps its index entries, and then a
  timestamp in the key's range is covered by the recorded tombstones exactly when one of the
  requested ranges covers it, or the key is gone, and then every timestamp in the key's range
  is covered by a requested range.
-/
import Influx.Lemmas.KCAlgebra

namespace Influx.KC
open Influx.Generated.KeyCursor

variable {V : Type}

theorem mem_insertTR {x y : TimeRange} {l : List TimeRange} : y ∈ insertTR x l ↔ y = x ∨ y ∈ l := by
  induction l with
  | nil => simp [insertTR]
  | cons z zs ih =>
    unfold insertTR
    split
    · simp
    · simp only [List.mem_cons, ih]
      exact or_left_comm

theorem mem_sortTR {y : TimeRange} {l : List TimeRange} : y ∈ sortTR l ↔ y ∈ l := by
  unfold sortTR
  induction l with
  | nil => simp
  | cons x xs ih => simp only [List.foldr_cons, mem_insertTR, ih, List.mem_cons]

def MinSorted (l : List TimeRange) : Prop := l.Pairwise fun a b => a.Min ≤ b.Min

theorem minSorted_insertTR {x : TimeRange} {l : List TimeRange} (h : MinSorted l) : MinSorted (insertTR x l) := by
  induction l with
  | nil => simp [insertTR, MinSorted]
  | cons z zs ih =>
    obtain ⟨h1, h2⟩ := List.pairwise_cons.1 h
    unfold insertTR
    split
    · rename_i hle
      apply List.pairwise_cons.2
      refine ⟨?_, h⟩
      have hxz : x.Min ≤ z.Min := by
        unfold trLE at hle
        split at hle
        · omega
        · simp at hle; omega
      intro y hy
      rcases List.mem_cons.1 hy with rfl | hy
      · exact hxz
      · have := h1 y hy; omega
    · rename_i hle
      apply List.pairwise_cons.2
      refine ⟨?_, ih h2⟩
      have hzx : z.Min ≤ x.Min := by
        unfold trLE at hle
        split at hle
        · omega
        · simp at hle; omega
      intro y hy
      rcases mem_insertTR.1 hy with rfl | hy
      · exact hzx
      · exact h1 y hy

theorem minSorted_sortTR (l : List TimeRange) : MinSorted (sortTR l) := by
  unfold sortTR
  induction l with
  | nil => simp [MinSorted]
  | cons x xs ih => simp only [List.foldr_cons]; exact minSorted_insertTR ih

theorem covered_snoc {ds : List TimeRange} {d : TimeRange} {x : Int} :
    covered (ds ++ [d]) x ↔ covered ds x ∨ (d.Min ≤ x ∧ x ≤ d.Max) := by
  unfold covered
  simp only [List.mem_append, List.mem_singleton, or_and_right, exists_or, exists_eq_left]

/-- if the chain test does not abort, everything between its bounds is covered -/
theorem chainBounds_cover : ∀ (rest : List TimeRange) (prev : TimeRange) (lo hi : Int) (seen : List TimeRange),
    prev ∈ seen → prev.Max ≤ hi → (∀ ts ∈ rest, lo ≤ ts.Min) →
    (∀ x, lo ≤ x → x ≤ hi → covered seen x) →
    ((chainBounds prev rest lo hi) = (maxI64, minI64)) ∨
    ((chainBounds prev rest lo hi).1 = lo ∧
      ∀ x, lo ≤ x → x ≤ (chainBounds prev rest lo hi).2 → covered (seen ++ rest) x) := by
  intro rest
  induction rest with
  | nil =>
    intro prev lo hi seen _ _ _ hc
    right
    simp only [chainBounds, List.append_nil]
    exact ⟨trivial, hc⟩
  | cons ts rest ih =>
    intro prev lo hi seen hps hpm hlo hc
    unfold chainBounds
    by_cases hcond : (prev.Max ≠ ts.Min - 1 && !TimeRangeOverlaps prev ts.Min ts.Max) = true
    · rw [if_pos hcond]
      exact Or.inl rfl
    · rw [if_neg hcond]
      have hadj : ts.Min ≤ prev.Max + 1 := by
        simp only [TimeRangeOverlaps, Bool.and_eq_true, ne_eq, Bool.not_eq_true',
          Bool.and_eq_false_iff, decide_eq_false_iff_not, not_and, not_or, Decidable.not_not,
          decide_eq_true_eq] at hcond
        by_cases h : prev.Max = ts.Min - 1
        · omega
        · have := hcond h
          omega
      have hlots : lo ≤ ts.Min := hlo ts (List.mem_cons_self ..)
      have hlo' : (if ts.Min < lo then ts.Min else lo) = lo := by split <;> omega
      rw [hlo']
      have hc' : ∀ x, lo ≤ x → x ≤ (if ts.Max > hi then ts.Max else hi) → covered (seen ++ [ts]) x := by
        intro x h1 h2
        by_cases hx : x ≤ hi
        · exact covered_snoc.2 (Or.inl (hc x h1 hx))
        · refine covered_snoc.2 (Or.inr ⟨by omega, ?_⟩)
          split at h2 <;> omega
      have := ih ts lo _ (seen ++ [ts]) (List.mem_append_right _ (List.mem_singleton_self ts))
        (by split <;> omega) (fun t' ht' => hlo t' (List.mem_cons_of_mem _ ht')) hc'
      rw [List.append_assoc, List.singleton_append] at this
      exact this

/-- `ds`: the deletes requested so far; `st.tombs`: the tombstones recorded for the key -/
structure DelInv (E : List (IndexEntry × Vals V)) (kmin kmax : Int) (ds : List TimeRange) (st : FileState V) : Prop where
  ent : st.entries = E ∨ st.entries = []
  sub : ∀ tr ∈ st.tombs, tr ∈ ds
  alive : st.entries = E → ∀ x, kmin ≤ x → x ≤ kmax → covered ds x → covered st.tombs x
  dead : st.entries = [] → ∀ x, kmin ≤ x → x ≤ kmax → covered ds x

theorem DelInv.kept {E : List (IndexEntry × Vals V)} (hE : E ≠ []) {kmin kmax : Int} {ds : List TimeRange}
    {st : FileState V} (he : st.entries = E) (sub : ∀ tr ∈ st.tombs, tr ∈ ds)
    (alive : ∀ x, kmin ≤ x → x ≤ kmax → covered ds x → covered st.tombs x) : DelInv E kmin kmax ds st :=
  ⟨Or.inl he, sub, fun _ => alive, fun e => absurd (he.symm.trans e) hE⟩

theorem DelInv.gone {E : List (IndexEntry × Vals V)} (hE : E ≠ []) {kmin kmax : Int} {ds : List TimeRange}
    {st : FileState V} (he : st.entries = []) (sub : ∀ tr ∈ st.tombs, tr ∈ ds)
    (dead : ∀ x, kmin ≤ x → x ≤ kmax → covered ds x) : DelInv E kmin kmax ds st :=
  ⟨Or.inr he, sub, fun e => absurd (e.symm.trans he) hE, fun _ => dead⟩

theorem applyDelete_of_nil {st : FileState V} (h : st.entries = []) (d : TimeRange) : applyDelete st d = st := by
  unfold applyDelete
  rw [h]
  rfl

theorem applyDelete_inv {E : List (IndexEntry × Vals V)} {first last : IndexEntry × Vals V}
    (hf : E.head? = some first) (hl : E.getLast? = some last)
    (h64 : minI64 ≤ first.1.MinTime ∧ first.1.MinTime ≤ last.1.MaxTime ∧ last.1.MaxTime ≤ maxI64)
    {ds : List TimeRange} {st : FileState V} (inv : DelInv E first.1.MinTime last.1.MaxTime ds st) (d : TimeRange) :
    DelInv E first.1.MinTime last.1.MaxTime (ds ++ [d]) (applyDelete st d) := by
  have hE : E ≠ [] := by intro e; rw [e] at hf; cases hf
  have hsub : ∀ tr ∈ st.tombs, tr ∈ ds ++ [d] := fun tr h => List.mem_append_left _ (inv.sub tr h)
  have hd : d ∈ st.tombs ++ [d] := List.mem_append_right _ (List.mem_singleton_self d)
  rcases inv.ent with he | he
  · unfold applyDelete
    rw [he, hf, hl]
    simp only
    by_cases hall : d.Min = minI64 ∧ d.Max = maxI64
    · rw [if_pos hall]
      exact .gone hE rfl hsub fun x h1 h2 => covered_snoc.2 (Or.inr ⟨by omega, by omega⟩)
    · rw [if_neg hall]
      by_cases hout : d.Min > last.1.MaxTime ∨ d.Max < first.1.MinTime
      · rw [if_pos hout]
        refine .kept hE he hsub fun x h1 h2 hr => ?_
        rcases covered_snoc.1 hr with hr | hr
        · exact inv.alive he x h1 h2 hr
        · omega
      · rw [if_neg hout]
        by_cases hcov : d.Min ≤ first.1.MinTime ∧ d.Max ≥ last.1.MaxTime
        · rw [if_pos hcov]
          exact .gone hE rfl hsub fun x h1 h2 => covered_snoc.2 (Or.inr ⟨by omega, by omega⟩)
        · -- recorded; maybe the tombstones now line up over the whole key
          rw [if_neg hcov]
          have hmemNew : ∀ tr, tr ∈ sortTR (st.tombs ++ [d]) → tr ∈ ds ++ [d] := by
            intro tr h
            rcases List.mem_append.1 (mem_sortTR.1 h) with h | h
            · exact hsub tr h
            · exact List.mem_append_right _ h
          have hcovNew : ∀ x, first.1.MinTime ≤ x → x ≤ last.1.MaxTime → covered (ds ++ [d]) x →
              covered (sortTR (st.tombs ++ [d])) x := by
            intro x h1 h2 hr
            rcases covered_snoc.1 hr with hr | hr
            · obtain ⟨t', ht', hc⟩ := inv.alive he x h1 h2 hr
              exact ⟨t', mem_sortTR.2 (List.mem_append_left _ ht'), hc⟩
            · exact ⟨d, mem_sortTR.2 hd, hr⟩
          cases hs : sortTR (st.tombs ++ [d]) with
          | nil =>
            have := mem_sortTR.2 hd
            rw [hs] at this; cases this
          | cons t0 rest =>
            simp only
            have hsorted := minSorted_sortTR (st.tombs ++ [d])
            rw [hs] at hsorted hmemNew hcovNew
            obtain ⟨hs1, _⟩ := List.pairwise_cons.1 hsorted
            have hchain := chainBounds_cover rest t0 t0.Min t0.Max [t0] (List.mem_singleton_self t0) (Int.le_refl _) hs1
              (fun x h1 h2 => ⟨t0, List.mem_singleton_self t0, h1, h2⟩)
            by_cases hfull : (chainBounds t0 rest t0.Min t0.Max).1 ≤ first.1.MinTime ∧
                (chainBounds t0 rest t0.Min t0.Max).2 ≥ last.1.MaxTime
            · rw [if_pos hfull]
              refine .gone hE rfl hmemNew fun x h1 h2 => ?_
              rcases hchain with hab | ⟨hlo, hcv⟩
              · rw [hab] at hfull; simp only at hfull; omega
              · obtain ⟨t', ht', hc⟩ := hcv x (by rw [← hlo]; omega) (by omega)
                exact ⟨t', hmemNew t' ht', hc⟩
            · rw [if_neg hfull]
              exact .kept hE rfl hmemNew hcovNew
  · rw [applyDelete_of_nil he]
    exact .gone hE he hsub fun x h1 h2 => covered_snoc.2 (Or.inl (inv.dead he x h1 h2))

theorem foldl_applyDelete_inv {E : List (IndexEntry × Vals V)} {first last : IndexEntry × Vals V}
    (hf : E.head? = some first) (hl : E.getLast? = some last)
    (h64 : minI64 ≤ first.1.MinTime ∧ first.1.MinTime ≤ last.1.MaxTime ∧ last.1.MaxTime ≤ maxI64) :
    ∀ (dels ds : List TimeRange) (st : FileState V), DelInv E first.1.MinTime last.1.MaxTime ds st →
      DelInv E first.1.MinTime last.1.MaxTime (ds ++ dels) (dels.foldl applyDelete st) := by
  intro dels
  induction dels with
  | nil => intro ds st inv; simpa using inv
  | cons d dels ih =>
    intro ds st inv
    simp only [List.foldl_cons]
    have := ih (ds ++ [d]) _ (applyDelete_inv hf hl h64 inv d)
    simpa [List.append_assoc] using this

theorem foldl_applyDelete_nil (dels : List TimeRange) (st : FileState V) (h : st.entries = []) :
    dels.foldl applyDelete st = st := by
  induction dels with
  | nil => rfl
  | cons d dels ih =>
    rw [List.foldl_cons, applyDelete_of_nil h]
    exact ih

end Influx.KC
