/-
  Lemmas.KCFiles — from the files as written (Spec.C06.FileSpec) to the cursor's locations:
  what `fileStates`, `locations` and `applyOrder` produce.
-/
import Influx.Lemmas.KCDelete
import Influx.Lemmas.KCBlocks
import Influx.Model.KCRun

namespace Influx.KC
open Influx.Generated.KeyCursor Influx.Spec.C06

variable {V : Type}

theorem ends_of_ne_nil {α : Type} {l : List α} (h : l ≠ []) :
    ∃ a z, l.head? = some a ∧ l.getLast? = some z := by
  cases l with
  | nil => exact absurd rfl h
  | cons a l =>
    cases hl : (a :: l).getLast? with
    | none => exact absurd (List.getLast?_eq_none_iff.1 hl) h
    | some z => exact ⟨a, z, rfl, rfl⟩

theorem sortedInts_pairwise : ∀ (l : List Int), sortedInts l = true → l.Pairwise (· < ·)
  | [], _ => List.Pairwise.nil
  | [_], _ => by simp
  | a :: b :: r, h => by
    simp only [sortedInts, Bool.and_eq_true, decide_eq_true_eq] at h
    have ih := sortedInts_pairwise (b :: r) h.2
    apply List.pairwise_cons.2
    refine ⟨?_, ih⟩
    intro x hx
    rcases List.mem_cons.1 hx with rfl | hx
    · exact h.1
    · have := (List.pairwise_cons.1 ih).1 x hx
      omega

theorem head_le_of_sorted {l : List Int} (h : l.Pairwise (· < ·)) {a : Int} (ha : l.head? = some a) :
    ∀ x ∈ l, a ≤ x := by
  cases l with
  | nil => cases ha
  | cons y ys =>
    simp at ha; subst ha
    intro x hx
    rcases List.mem_cons.1 hx with rfl | hx
    · exact Int.le_refl _
    · exact Int.le_of_lt ((List.pairwise_cons.1 h).1 x hx)

theorem le_last_of_sorted {l : List Int} (h : l.Pairwise (· < ·)) {z : Int} (hz : l.getLast? = some z) :
    ∀ x ∈ l, x ≤ z := by
  obtain ⟨ys, rfl⟩ := List.getLast?_eq_some_iff.1 hz
  intro x hx
  rcases List.mem_append.1 hx with hx | hx
  · exact Int.le_of_lt ((List.pairwise_append.1 h).2.2 x hx z (by simp))
  · simp at hx; subst hx; exact Int.le_refl _

/-- the points of a block written to file `fi` -/
def tag (fi : Nat) (b : List Int) : Vals Nat := b.map fun ts => (ts, fi)

theorem mem_tag {fi : Nat} {b : List Int} {p : Int × Nat} : p ∈ tag fi b ↔ p.1 ∈ b ∧ p.2 = fi := by
  unfold tag
  constructor
  · intro h
    obtain ⟨ts, hts, rfl⟩ := List.mem_map.1 h
    exact ⟨hts, rfl⟩
  · rintro ⟨h1, h2⟩
    exact List.mem_map.2 ⟨p.1, h1, by rw [← h2]⟩

theorem keys_tag (fi : Nat) (b : List Int) : keys (tag fi b) = b := by
  unfold keys tag; simp [List.map_map, Function.comp_def]

theorem sortedV_tag {fi : Nat} {b : List Int} (h : b.Pairwise (· < ·)) : SortedV (tag fi b) := by
  unfold SortedV tag
  exact List.pairwise_map.2 h

theorem minTime?_tag (fi : Nat) (b : List Int) : minTime? (tag fi b) = b.head? := by
  unfold minTime? tag; cases b <;> simp
theorem maxTime?_tag (fi : Nat) (b : List Int) : maxTime? (tag fi b) = b.getLast? := by
  unfold maxTime? tag; simp [List.getLast?_map, Option.map_map, Function.comp_def]

/-- the index entry of a non-empty block -/
def entryOfInts (b : List Int) : IndexEntry := { MinTime := b.head?.getD 0, MaxTime := b.getLast?.getD 0 }

theorem mkEntries_tag (fi : Nat) : ∀ (bs : List (List Int)), (∀ b ∈ bs, b ≠ []) →
    mkEntries (bs.map (tag fi)) = some (bs.map fun b => (entryOfInts b, tag fi b)) := by
  intro bs
  induction bs with
  | nil => exact fun _ => rfl
  | cons b bs ih =>
    intro h
    have hb : b ≠ [] := h b (List.mem_cons_self ..)
    simp only [List.map_cons, mkEntries, minTime?_tag, maxTime?_tag,
      ih fun x hx => h x (List.mem_cons_of_mem _ hx)]
    obtain ⟨a, z, ha, hz⟩ := ends_of_ne_nil hb
    simp [ha, hz, entryOfInts]

theorem fileStatesFrom_spec : ∀ (files : List FileSpec) (i : Nat) (sts : List (FileState Nat)),
    fileStatesFrom i files = some sts →
    sts.length = files.length ∧
    ∀ k f, files[k]? = some f → ∃ st, sts[k]? = some st ∧ fileState (i + k) f = some st := by
  intro files
  induction files with
  | nil => intro i sts h; simp [fileStatesFrom] at h; subst h; simp
  | cons f fs ih =>
    intro i sts h
    simp only [fileStatesFrom] at h
    cases h1 : fileState i f with
    | none => simp [h1] at h
    | some st =>
      cases h2 : fileStatesFrom (i + 1) fs with
      | none => simp [h1, h2] at h
      | some rest =>
        simp [h1, h2] at h
        subst h
        obtain ⟨ih1, ih2⟩ := ih (i + 1) rest h2
        refine ⟨by simp [ih1], ?_⟩
        intro k g hk
        cases k with
        | zero =>
          simp at hk; subst hk
          exact ⟨st, by simp, by simpa using h1⟩
        | succ k =>
          simp at hk
          obtain ⟨st', hs1, hs2⟩ := ih2 k g hk
          refine ⟨st', by simpa using hs1, ?_⟩
          have : i + (k + 1) = i + 1 + k := by omega
          rw [this]; exact hs2

theorem mem_fileLocations {t : Int} {asc : Bool} {fi : Nat} {st : FileState V} {b : Block V} :
    b ∈ fileLocations t asc fi st ↔
      ∃ bi e vals, st.entries[bi]? = some (e, vals) ∧ keepEntry st.tombs t asc e = true ∧
        b = { file := fi, blk := bi, entry := e, vals := vals, tombs := st.tombs } := by
  unfold fileLocations
  rw [List.mem_filterMap]
  constructor
  · rintro ⟨⟨ev, bi⟩, hmem, hf⟩
    have := List.mem_zipIdx_iff_getElem?.1 hmem
    simp only at this hf
    split at hf
    · rename_i hk
      simp at hf
      exact ⟨bi, ev.1, ev.2, by simpa using this, hk, hf.symm⟩
    · cases hf
  · rintro ⟨bi, e, vals, hget, hk, rfl⟩
    refine ⟨((e, vals), bi), List.mem_zipIdx_iff_getElem?.2 (by simpa using hget), ?_⟩
    simp [hk]

theorem mem_locations {sts : List (FileState V)} {t : Int} {asc : Bool} {b : Block V} :
    b ∈ locations sts t asc ↔
      ∃ fi st, sts[fi]? = some st ∧ ∃ bi e vals, st.entries[bi]? = some (e, vals) ∧
        keepEntry st.tombs t asc e = true ∧
        b = { file := fi, blk := bi, entry := e, vals := vals, tombs := st.tombs } := by
  unfold locations
  rw [List.mem_flatMap]
  constructor
  · rintro ⟨⟨st, fi⟩, hmem, hb⟩
    have := List.mem_zipIdx_iff_getElem?.1 hmem
    exact ⟨fi, st, by simpa using this, mem_fileLocations.1 hb⟩
  · rintro ⟨fi, st, hget, h⟩
    exact ⟨(st, fi), List.mem_zipIdx_iff_getElem?.2 (by simpa using hget), mem_fileLocations.2 h⟩

theorem locations_id_unique {sts : List (FileState V)} {t : Int} {asc : Bool} {b c : Block V}
    (hb : b ∈ locations sts t asc) (hc : c ∈ locations sts t asc)
    (h1 : b.file = c.file) (h2 : b.blk = c.blk) : b = c := by
  obtain ⟨fi, st, hst, bi, e, vals, hent, _, rfl⟩ := mem_locations.1 hb
  obtain ⟨fi', st', hst', bi', e', vals', hent', _, rfl⟩ := mem_locations.1 hc
  simp only at h1 h2
  subst h1 h2
  rw [hst] at hst'
  cases hst'
  rw [hent] at hent'
  cases hent'
  rfl

theorem lookupAll_spec {locs : List (Block V)} : ∀ (order : List (Nat × Nat)) (seeks : List (Block V)),
    lookupAll locs order = some seeks →
    (∀ b ∈ seeks, b ∈ locs) ∧ ∀ id ∈ order, ∃ b ∈ seeks, b.file = id.1 ∧ b.blk = id.2 := by
  intro order
  induction order with
  | nil => intro seeks h; simp [lookupAll] at h; subst h; simp
  | cons id rest ih =>
    obtain ⟨fi, bi⟩ := id
    intro seeks h
    simp only [lookupAll] at h
    cases h1 : locs.find? (fun b => b.file == fi && b.blk == bi) with
    | none => simp [h1] at h
    | some b =>
      cases h2 : lookupAll locs rest with
      | none => simp [h1, h2] at h
      | some bs =>
        simp [h1, h2] at h
        subst h
        obtain ⟨ih1, ih2⟩ := ih bs h2
        have hbm := List.mem_of_find?_eq_some h1
        have hbp := List.find?_some h1
        simp only [Bool.and_eq_true, beq_iff_eq] at hbp
        constructor
        · intro x hx
          rcases List.mem_cons.1 hx with rfl | hx
          · exact hbm
          · exact ih1 x hx
        · intro id hid
          rcases List.mem_cons.1 hid with rfl | hid
          · exact ⟨b, List.mem_cons_self .., hbp.1, hbp.2⟩
          · obtain ⟨x, hx, h3⟩ := ih2 id hid
            exact ⟨x, List.mem_cons_of_mem _ hx, h3⟩

theorem applyOrder_mem {sts : List (FileState V)} {t : Int} {asc : Bool} {order : List (Nat × Nat)}
    {seeks : List (Block V)} (h : applyOrder (locations sts t asc) order = some seeks) (b : Block V) :
    b ∈ seeks ↔ b ∈ locations sts t asc := by
  unfold applyOrder at h
  split at h
  · cases h
  · split at h
    · cases h
    · split at h
      · cases h
      · rename_i hall
        simp only [Bool.not_eq_true', Bool.not_eq_false, List.all_eq_true, List.contains_iff_mem] at hall
        obtain ⟨h1, h2⟩ := lookupAll_spec order seeks h
        constructor
        · exact h1 b
        · intro hb
          have hid : (b.file, b.blk) ∈ order := by
            have := hall b hb
            simpa using this
          obtain ⟨c, hc, hc1, hc2⟩ := h2 _ hid
          have := locations_id_unique (h1 c hc) hb hc1 hc2
          rw [← this]; exact hc

end Influx.KC
