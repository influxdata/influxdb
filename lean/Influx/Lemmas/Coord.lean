/-
  Lemmas.Coord — behind Props.C25.  The scheduler's `upsert`/`erase` on an id-ascending list are the
  image under `expected` (filter active, map entryOf) of the store's insert/replace/remove on an
  id-ascending store; from that, what each coordinator callback does to `expected`, the invariant of
  the coordinator/middleware model and its preservation by every operation (start-up included), and
  that `check` passes on every run from a state satisfying it.
-/
import Influx.Model.Coord
import Influx.Spec.C25

namespace Influx.Lemmas.Coord
open Influx.Model.Coord Influx.Spec.C25

theorem upsert_lt_all {e : Entry} {l : List Entry} (h : ∀ x ∈ l, e.id < x.id) : upsert e l = e :: l := by
  cases l with
  | nil => rfl
  | cons x xs => exact if_pos (h x List.mem_cons_self)

theorem upsert_idem (e : Entry) (l : List Entry) : upsert e (upsert e l) = upsert e l := by
  induction l with
  | nil => simp only [upsert, Nat.lt_irrefl, if_false, if_true]
  | cons x xs ih =>
    by_cases h1 : e.id < x.id
    · simp only [upsert, h1, if_true, Nat.lt_irrefl, if_false]
    · by_cases h2 : e.id = x.id
      · simp only [upsert, h2, if_true, Nat.lt_irrefl, if_false]
      · simp only [upsert, h1, h2, if_false, ih]

theorem erase_noop {id : Nat} {l : List Entry} (h : ∀ e ∈ l, e.id ≠ id) : erase id l = l :=
  List.filter_eq_self.mpr fun e he => decide_eq_true (h e he)

theorem expected_nil : expected [] = [] := rfl

theorem isActive_iff (t : Task) : isActive t = true ↔ t.status = .active := beq_iff_eq

theorem not_active (t : Task) : isActive t = false ↔ t.status = .inactive := by
  unfold isActive; cases t.status <;> decide

theorem expected_cons_active {t : Task} (h : t.status = .active) (ts : List Task) :
    expected (t :: ts) = entryOf t :: expected ts := by
  simp only [expected, List.filter_cons, (isActive_iff t).mpr h, if_true, List.map_cons]

theorem expected_cons_inactive {t : Task} (h : t.status = .inactive) (ts : List Task) :
    expected (t :: ts) = expected ts := by
  simp only [expected, List.filter_cons, (not_active t).mpr h, Bool.false_eq_true, if_false]

theorem expected_append (a b : List Task) : expected (a ++ b) = expected a ++ expected b := by
  simp only [expected, List.filter_append, List.map_append]

theorem mem_expected {e : Entry} {ts : List Task} :
    e ∈ expected ts ↔ ∃ t ∈ ts, t.status = .active ∧ e = entryOf t := by
  simp only [expected, List.mem_map, List.mem_filter, isActive_iff]
  exact ⟨fun ⟨t, ⟨ht, ha⟩, he⟩ => ⟨t, ht, ha, he.symm⟩, fun ⟨t, ht, ha, he⟩ => ⟨t, ⟨ht, ha⟩, he.symm⟩⟩

theorem entryOf_id (t : Task) : (entryOf t).id = t.id := rfl

def Sorted (ts : List Task) : Prop := ts.Pairwise (fun a b => a.id < b.id)

theorem sorted_id_inj {ts : List Task} (hs : Sorted ts) {a b : Task} (ha : a ∈ ts) (hb : b ∈ ts)
    (hid : a.id = b.id) : a = b := by
  induction ts with
  | nil => cases ha
  | cons x xs ih =>
    obtain ⟨hlt, hs'⟩ := List.pairwise_cons.mp hs
    rcases List.mem_cons.mp ha with rfl | ha' <;> rcases List.mem_cons.mp hb with rfl | hb'
    · rfl
    · exact absurd hid (Nat.ne_of_lt (hlt b hb'))
    · exact absurd hid (Nat.ne_of_gt (hlt a ha'))
    · exact ih hs' ha' hb'

theorem expected_id_ne {ts : List Task} (hs : Sorted ts) {t : Task} (ht : t ∈ ts)
    (hi : t.status = .inactive) : ∀ e ∈ expected ts, e.id ≠ t.id := by
  intro e he hid
  obtain ⟨x, hx, ha, rfl⟩ := mem_expected.mp he
  rw [sorted_id_inj hs hx ht hid, hi] at ha
  cases ha

theorem sorted_append {t : Task} {ts : List Task} (hs : Sorted ts) (h : ∀ x ∈ ts, x.id < t.id) :
    Sorted (ts ++ [t]) :=
  List.pairwise_append.mpr ⟨hs, List.pairwise_singleton _ _, fun a ha _ hb => List.mem_singleton.mp hb ▸ h a ha⟩

theorem sorted_remove {id : Nat} {ts : List Task} (hs : Sorted ts) : Sorted (removeTask id ts) :=
  hs.sublist List.filter_sublist

theorem replaceTask_cons (t x : Task) (xs : List Task) :
    replaceTask t (x :: xs) = (if x.id = t.id then t else x) :: replaceTask t xs := rfl

/-- `replaceTask` changes no id. -/
theorem replaced_id (t x : Task) : (if x.id = t.id then t else x).id = x.id := by
  by_cases h : x.id = t.id
  · rw [if_pos h, h]
  · rw [if_neg h]

theorem sorted_replace {t : Task} {ts : List Task} (hs : Sorted ts) : Sorted (replaceTask t ts) := by
  unfold Sorted replaceTask
  rw [List.pairwise_map]
  simp only [replaced_id]
  exact hs

theorem forall_mem_replace {P : Task → Prop} {t : Task} {ts : List Task} (ht : P t) (h : ∀ x ∈ ts, P x) :
    ∀ y ∈ replaceTask t ts, P y := by
  intro y hy
  obtain ⟨x, hx, rfl⟩ := List.mem_map.mp hy
  by_cases hxt : x.id = t.id
  · rw [if_pos hxt]; exact ht
  · rw [if_neg hxt]; exact h x hx

theorem replace_noop {t : Task} {ts : List Task} (h : ∀ y ∈ ts, y.id ≠ t.id) : replaceTask t ts = ts := by
  induction ts with
  | nil => rfl
  | cons x xs ih =>
    rw [replaceTask_cons, if_neg (h x List.mem_cons_self), ih fun y hy => h y (List.mem_cons_of_mem _ hy)]

theorem remove_noop {id : Nat} {ts : List Task} (h : ∀ y ∈ ts, y.id ≠ id) : removeTask id ts = ts :=
  List.filter_eq_self.mpr fun y hy => decide_eq_true (h y hy)

theorem findTask_some {id : Nat} {ts : List Task} {t : Task} (h : findTask id ts = some t) :
    t ∈ ts ∧ t.id = id :=
  ⟨List.mem_of_find?_eq_some h, beq_iff_eq.mp (List.find?_some (p := fun t : Task => t.id == id) h)⟩

theorem findTask_none {id : Nat} {ts : List Task} (h : findTask id ts = none) : ∀ t ∈ ts, t.id ≠ id :=
  fun t ht hid => List.find?_eq_none.mp h t ht (beq_iff_eq.mpr hid)

theorem insertTask_append {t : Task} {ts : List Task} (h : ∀ x ∈ ts, x.id < t.id) :
    insertTask t ts = ts ++ [t] := by
  induction ts with
  | nil => rfl
  | cons x xs ih =>
    have hx : x.id < t.id := h x List.mem_cons_self
    rw [insertTask, if_neg (Nat.lt_asymm hx), if_neg (Nat.ne_of_gt hx),
      ih fun y hy => h y (List.mem_cons_of_mem _ hy), List.cons_append]

theorem insertTask_eq_replace {t : Task} {ts : List Task} (hs : Sorted ts) (hm : ∃ x ∈ ts, x.id = t.id) :
    insertTask t ts = replaceTask t ts := by
  induction ts with
  | nil => obtain ⟨_, hx, _⟩ := hm; cases hx
  | cons x xs ih =>
    obtain ⟨hlt, hs'⟩ := List.pairwise_cons.mp hs
    rw [insertTask, replaceTask_cons]
    by_cases hx : x.id = t.id
    · rw [if_neg (Nat.not_lt.mpr (Nat.le_of_eq hx)), if_pos hx.symm, if_pos hx,
        replace_noop fun y hy => Nat.ne_of_gt (hx ▸ hlt y hy)]
    · obtain ⟨y, hy, hyt⟩ := hm
      have hyxs : y ∈ xs := (List.mem_cons.mp hy).resolve_left fun h => hx (h ▸ hyt)
      have hxt : x.id < t.id := hyt ▸ hlt y hyxs
      rw [if_neg (Nat.lt_asymm hxt), if_neg (Nat.ne_of_gt hxt), if_neg hx, ih hs' ⟨y, hyxs, hyt⟩]

/-- Inserting an active task into the store is `Scheduler.Schedule` on what the scheduler should hold. -/
theorem expected_insert_active {t : Task} {ts : List Task} (hs : Sorted ts) (ha : t.status = .active) :
    expected (insertTask t ts) = upsert (entryOf t) (expected ts) := by
  induction ts with
  | nil => exact expected_cons_active ha []
  | cons x xs ih =>
    obtain ⟨hlt, hs'⟩ := List.pairwise_cons.mp hs
    have hfront : t.id ≤ x.id → upsert (entryOf t) (expected xs) = entryOf t :: expected xs := fun hle =>
      upsert_lt_all fun e he => by
        obtain ⟨y, hy, _, rfl⟩ := mem_expected.mp he
        exact Nat.lt_of_le_of_lt hle (hlt y hy)
    rw [insertTask]
    -- on an active head `x`, `upsert` branches on the ids as `insertTask` does
    by_cases h1 : t.id < x.id
    · rw [if_pos h1, expected_cons_active ha]
      cases hx : x.status with
      | active => rw [expected_cons_active hx]; exact (if_pos h1).symm
      | inactive => rw [expected_cons_inactive hx, hfront (Nat.le_of_lt h1)]
    · rw [if_neg h1]
      by_cases h2 : t.id = x.id
      · rw [if_pos h2, expected_cons_active ha]
        cases hx : x.status with
        | active => rw [expected_cons_active hx]; exact ((if_neg h1).trans (if_pos h2)).symm
        | inactive => rw [expected_cons_inactive hx, hfront (Nat.le_of_eq h2)]
      · rw [if_neg h2]
        cases hx : x.status with
        | active =>
          rw [expected_cons_active hx, expected_cons_active hx, ih hs']
          exact ((if_neg h1).trans (if_neg h2)).symm
        | inactive => rw [expected_cons_inactive hx, expected_cons_inactive hx, ih hs']

theorem expected_snoc_active {t : Task} {ts : List Task} (hs : Sorted ts) (hlt : ∀ x ∈ ts, x.id < t.id)
    (ha : t.status = .active) : expected (ts ++ [t]) = upsert (entryOf t) (expected ts) := by
  rw [← insertTask_append hlt, expected_insert_active hs ha]

theorem expected_snoc_inactive {t : Task} (hi : t.status = .inactive) (ts : List Task) :
    expected (ts ++ [t]) = expected ts := by
  rw [expected_append, expected_cons_inactive hi, expected_nil, List.append_nil]

theorem erase_cons (id : Nat) (e : Entry) (l : List Entry) :
    erase id (e :: l) = if e.id ≠ id then e :: erase id l else erase id l := by
  simp only [erase, List.filter_cons, decide_eq_true_eq]

theorem expected_remove (id : Nat) (ts : List Task) :
    erase id (expected ts) = expected (removeTask id ts) := by
  simp only [erase, expected, removeTask, List.filter_map, List.filter_filter, Function.comp_def, entryOf_id,
    Bool.and_comm]
  rfl

/-- Storing an inactive task is `Scheduler.Release` on what the scheduler should hold. -/
theorem expected_replace_inactive (t : Task) (ts : List Task) (hi : t.status = .inactive) :
    expected (replaceTask t ts) = erase t.id (expected ts) := by
  induction ts with
  | nil => rfl
  | cons x xs ih =>
    rw [replaceTask_cons]
    by_cases hx : x.id = t.id
    · rw [if_pos hx, expected_cons_inactive hi, ih]
      cases hs : x.status with
      | active => rw [expected_cons_active hs, erase_cons, entryOf_id, if_neg (not_not_intro hx)]
      | inactive => rw [expected_cons_inactive hs]
    · rw [if_neg hx]
      cases hs : x.status with
      | active => rw [expected_cons_active hs, expected_cons_active hs, erase_cons, entryOf_id, if_pos hx, ih]
      | inactive => rw [expected_cons_inactive hs, expected_cons_inactive hs, ih]

theorem newSchedulable_valid (t : Task) (h : ¬ (t.sched.cron = "" ∧ t.sched.every = "")) :
    newSchedulable t = some (entryOf t) :=
  if_neg h

theorem taskCreated_valid (h : List Entry) (t : Task) (hv : ¬ (t.sched.cron = "" ∧ t.sched.every = "")) :
    taskCreated h t = if t.status = .inactive then (h, [], true)
      else (upsert (entryOf t) h, [.schedule t.id], true) := by
  simp only [taskCreated, newSchedulable_valid t hv]

theorem taskUpdated_valid (h : List Entry) (frm to : Task)
    (hv : ¬ (to.sched.cron = "" ∧ to.sched.every = "")) :
    taskUpdated h frm to =
      if to.status = frm.status ∧ to.status = .inactive then (h, [], true)
      else if to.status ≠ frm.status ∧ to.status = .inactive then (erase to.id h, [.release to.id], true)
      else (upsert (entryOf to) h, [.schedule to.id], true) := by
  simp only [taskUpdated, newSchedulable_valid to hv]

theorem taskCreated_expected {ts : List Task} {t : Task} (hs : Sorted ts) (hlt : ∀ x ∈ ts, x.id < t.id)
    (hv : ¬ (t.sched.cron = "" ∧ t.sched.every = "")) :
    ∃ c, taskCreated (expected ts) t = (expected (ts ++ [t]), c, true) := by
  rw [taskCreated_valid _ _ hv]
  cases hst : t.status with
  | active =>
    rw [if_neg nofun, expected_snoc_active hs hlt hst]
    exact ⟨_, rfl⟩
  | inactive =>
    rw [if_pos rfl, expected_snoc_inactive hst]
    exact ⟨_, rfl⟩

/-- `TaskUpdated(frm, to)` where `to` takes the place of the stored `frm`: all three branches leave
    what the scheduler should hold for the new store. -/
theorem taskUpdated_expected {ts : List Task} {frm to : Task} (hs : Sorted ts) (hm : frm ∈ ts)
    (hid : to.id = frm.id) (hv : ¬ (to.sched.cron = "" ∧ to.sched.every = "")) :
    ∃ c, taskUpdated (expected ts) frm to = (expected (replaceTask to ts), c, true) := by
  rw [taskUpdated_valid _ _ _ hv]
  cases hto : to.status with
  | active =>
    rw [if_neg (fun h => nomatch h.2), if_neg (fun h => nomatch h.2),
      ← insertTask_eq_replace hs ⟨frm, hm, hid.symm⟩, expected_insert_active hs hto]
    exact ⟨_, rfl⟩
  | inactive =>
    rw [expected_replace_inactive to ts hto]
    cases hfrm : frm.status with
    | active =>
      rw [if_neg (fun h => nomatch h.1), if_pos ⟨nofun, rfl⟩]
      exact ⟨_, rfl⟩
    | inactive =>
      rw [if_pos ⟨rfl, rfl⟩, hid, erase_noop (expected_id_ne hs hm hfrm)]
      exact ⟨_, rfl⟩

/-- The invariant: the store is id-ascending with ids below the allocator, every
    stored schedule names a cron or an every (the service validated it), and the
    scheduler holds exactly the active tasks with their current schedule. -/

structure Inv (s : State) : Prop where
  sorted : Sorted s.tasks
  bound : ∀ t ∈ s.tasks, t.id < s.next
  valid : ∀ t ∈ s.tasks, ¬ (t.sched.cron = "" ∧ t.sched.every = "")
  held : s.held = expected s.tasks

theorem accept_valid (si : SchedIn) (h : si.accept = true) :
    ¬ (si.toSched.cron = "" ∧ si.toSched.every = "") := by
  have hs : si.spec ≠ "" := bne_iff_ne.mp (Bool.and_eq_true_iff.mp h).2
  unfold SchedIn.toSched
  cases si.isCron with
  | true => exact fun h => hs h.1
  | false => exact fun h => hs h.2

theorem patch_valid (old : Sched) (ev cr : Option String) (off : Option Int) (v : Bool)
    (hold : ¬ (old.cron = "" ∧ old.every = "")) (hok : patchOK ev cr v = true) :
    ¬ ((patchSched old ev cr off).cron = "" ∧ (patchSched old ev cr off).every = "") := by
  -- an accepted patch names no empty string, and a named every / cron is what gets stored
  obtain ⟨hev, hcr⟩ := Bool.and_eq_true_iff.mp hok
  have hev := bne_iff_ne.mp (Bool.and_eq_true_iff.mp hev).2
  have hcr := bne_iff_ne.mp hcr
  cases ev with
  | some e => exact fun h => hev (congrArg some h.2)
  | none =>
    cases cr with
    | some c => exact fun h => hcr (congrArg some h.1)
    | none => exact hold

theorem lookup_eq (id : Nat) (m : List Task) : lookup id m = findTask id m := rfl

theorem obs_tasks (s : State) (op : Op) : (step s op).2.tasks = (step s op).1.tasks := rfl
theorem obs_held (s : State) (op : Op) : (step s op).2.held = (step s op).1.held := rfl

theorem create_ok (s : State) (hI : Inv s) (st : Option Status) (si : SchedIn) :
    Inv (step s (.create st si)).1 ∧
      absStep s.tasks (.create st si) (step s (.create st si)).2 = some (step s (.create st si)).1.tasks := by
  by_cases hacc : si.accept = true
  · have hv := accept_valid si hacc
    obtain ⟨c, hc⟩ : ∃ c, taskCreated s.held ⟨s.next, st.getD .active, si.toSched⟩ = _ :=
      hI.held ▸ taskCreated_expected hI.sorted hI.bound hv
    have hnone : findTask s.next s.tasks = none :=
      List.find?_eq_none.mpr fun t ht h => Nat.lt_irrefl _ (beq_iff_eq.mp h ▸ hI.bound t ht)
    simp only [step, stepWith, mwCreate, svcCreate, hacc, if_true, hc, obsOf]
    refine ⟨⟨sorted_append hI.sorted hI.bound,
        List.forall_mem_append.mpr ⟨fun x hx => Nat.lt_succ_of_lt (hI.bound x hx),
          List.forall_mem_singleton.mpr (Nat.lt_succ_self _)⟩,
        List.forall_mem_append.mpr ⟨hI.valid, List.forall_mem_singleton.mpr hv⟩, rfl⟩, ?_⟩
    unfold absStep
    simp only [lookup_eq, hnone, Option.isSome_none, Bool.false_eq_true, if_false]
    exact congrArg some (insertTask_append hI.bound)
  · simp only [step, stepWith, mwCreate, svcCreate, hacc, obsOf]
    exact ⟨hI, rfl⟩

/-- What `UpdateTask` comes to once the store has put `to` in the place of `frm`. -/
theorem updated_ok {s : State} (hI : Inv s) {frm to : Task} (hm : frm ∈ s.tasks) (hid : to.id = frm.id)
    (hv : ¬ (to.sched.cron = "" ∧ to.sched.every = "")) :
    (∃ c, taskUpdated s.held frm to = (expected (replaceTask to s.tasks), c, true)) ∧
      Inv { s with tasks := replaceTask to s.tasks, held := expected (replaceTask to s.tasks) } ∧
      insertTask to s.tasks = replaceTask to s.tasks :=
  ⟨hI.held ▸ taskUpdated_expected hI.sorted hm hid hv,
   ⟨sorted_replace hI.sorted, forall_mem_replace (hid ▸ hI.bound frm hm) hI.bound,
    forall_mem_replace hv hI.valid, rfl⟩,
   insertTask_eq_replace hI.sorted ⟨frm, hm, hid.symm⟩⟩

theorem update_ok (s : State) (hI : Inv s) (id : Nat) (st : Option Status) (si : Option SchedIn) :
    Inv (step s (.update id st si)).1 ∧
      absStep s.tasks (.update id st si) (step s (.update id st si)).2
        = some (step s (.update id st si)).1.tasks := by
  cases hf : findTask id s.tasks with
  | none =>
    simp only [step, stepWith, mwUpdate, hf, obsOf]
    exact ⟨hI, rfl⟩
  | some frm =>
    obtain ⟨hm, rfl⟩ := findTask_some hf
    cases si with
    | none =>
      obtain ⟨⟨c, hc⟩, hI', hins⟩ :=
        updated_ok hI hm (to := { frm with status := st.getD frm.status }) rfl (hI.valid frm hm)
      unfold absStep
      simp only [step, stepWith, mwUpdate, svcUpdate, hf, hc, obsOf, lookup_eq]
      exact ⟨hI', congrArg some hins⟩
    | some i =>
      by_cases hacc : i.accept = true
      · obtain ⟨⟨c, hc⟩, hI', hins⟩ :=
          updated_ok hI hm (to := ⟨frm.id, st.getD frm.status, i.toSched⟩) rfl (accept_valid i hacc)
        unfold absStep
        simp only [step, stepWith, mwUpdate, svcUpdate, hf, hacc, if_true, hc, obsOf, lookup_eq]
        exact ⟨hI', congrArg some hins⟩
      · simp only [step, stepWith, mwUpdate, svcUpdate, hf, hacc, obsOf]
        exact ⟨hI, rfl⟩

theorem optUpdate_ok (s : State) (hI : Inv s) (id : Nat) (ev cr : Option String) (off : Option Int) (v : Bool) :
    Inv (step s (.optUpdate id ev cr off v)).1 ∧
      absStep s.tasks (.optUpdate id ev cr off v) (step s (.optUpdate id ev cr off v)).2
        = some (step s (.optUpdate id ev cr off v)).1.tasks := by
  cases hf : findTask id s.tasks with
  | none =>
    simp only [step, stepWith, mwOptUpdate, hf, obsOf]
    exact ⟨hI, rfl⟩
  | some frm =>
    obtain ⟨hm, rfl⟩ := findTask_some hf
    by_cases hacc : patchOK ev cr v = true
    · obtain ⟨⟨c, hc⟩, hI', hins⟩ :=
        updated_ok hI hm (to := { frm with sched := patchSched frm.sched ev cr off }) rfl
          (patch_valid frm.sched ev cr off v (hI.valid frm hm) hacc)
      unfold absStep
      simp only [step, stepWith, mwOptUpdate, svcOptUpdate, hf, hacc, if_true, hc, obsOf, lookup_eq]
      exact ⟨hI', congrArg some hins⟩
    · simp only [step, stepWith, mwOptUpdate, svcOptUpdate, hf, hacc, obsOf]
      exact ⟨hI, rfl⟩

theorem delete_ok (s : State) (hI : Inv s) (id : Nat) :
    Inv (step s (.delete id)).1 ∧
      absStep s.tasks (.delete id) (step s (.delete id)).2 = some (step s (.delete id)).1.tasks := by
  have hsub : ∀ x ∈ removeTask id s.tasks, x ∈ s.tasks := fun x hx => (List.mem_filter.mp hx).1
  have hI' : Inv { s with tasks := removeTask id s.tasks, held := erase id s.held } :=
    ⟨sorted_remove hI.sorted, fun x hx => hI.bound x (hsub x hx), fun x hx => hI.valid x (hsub x hx),
      hI.held ▸ expected_remove id s.tasks⟩
  cases hf : findTask id s.tasks with
  | none =>
    rw [remove_noop (findTask_none hf)] at hI'
    simp only [step, stepWith, mwDelete, taskDeleted, svcDelete, hf, obsOf]
    exact ⟨hI', rfl⟩
  | some frm =>
    unfold absStep
    simp only [step, stepWith, mwDelete, taskDeleted, svcDelete, hf, obsOf, lookup_eq, Option.isSome_some, if_true]
    exact ⟨hI', rfl⟩

/-- One round of the start-up loop, having handled the prefix `p`.  Under the launcher's wiring an
    active task is scheduled twice (`TaskUpdated`, then `TaskCreated`), to the same effect. -/
theorem notifyOne_expected (k : RestartKind) {p : List Task} {t : Task} (hs : Sorted p)
    (hlt : ∀ x ∈ p, x.id < t.id) (hv : ¬ (t.sched.cron = "" ∧ t.sched.every = "")) (c : List Call) :
    ∃ c', notifyOne taskCreated k (expected p, c) t = (expected (p ++ [t]), c') := by
  cases hst : t.status with
  | inactive =>
    rw [expected_snoc_inactive hst]
    exact ⟨c, if_pos (hst ▸ nofun)⟩
  | active =>
    unfold notifyOne
    cases k <;>
      simp only [hst, taskCreated_valid _ _ hv, taskUpdated_valid _ _ _ hv, ne_eq, not_true_eq_false,
        reduceCtorEq, and_false, if_false, expected_snoc_active hs hlt hst, upsert_idem] <;>
      exact ⟨_, rfl⟩

theorem restart_fold (k : RestartKind) (q p : List Task) (c : List Call)
    (hs : Sorted (p ++ q)) (hv : ∀ t ∈ q, ¬ (t.sched.cron = "" ∧ t.sched.every = "")) :
    (q.foldl (notifyOne taskCreated k) (expected p, c)).1 = expected (p ++ q) := by
  induction q generalizing p c with
  | nil => rw [List.append_nil]; rfl
  | cons t q ih =>
    obtain ⟨hp, _, hlt⟩ := List.pairwise_append.mp hs
    obtain ⟨c', hk⟩ := notifyOne_expected k hp (fun x hx => hlt x hx t List.mem_cons_self)
      (hv t List.mem_cons_self) c
    rw [List.foldl_cons, hk, ih (p ++ [t]) c' (by rwa [List.append_assoc])
      fun x hx => hv x (List.mem_cons_of_mem _ hx), List.append_assoc]
    rfl

/-- Start-up leaves the scheduler with what it should hold, whatever it held before. -/
theorem restart_held (s : State) (k : RestartKind) (ps : Nat) (hs : Sorted s.tasks)
    (hv : ∀ t ∈ s.tasks, ¬ (t.sched.cron = "" ∧ t.sched.every = "")) :
    (step s (.restart k ps)).1 = { s with held := expected s.tasks } := by
  have hfold : (s.tasks.foldl (notifyOne taskCreated k) ([], [])).1 = expected s.tasks :=
    restart_fold k s.tasks [] [] hs hv
  simp only [step, stepWith, restart, obsOf, hfold]

theorem runOp_state (s : State) (id : Nat) (c : Call) : (runOp s id c).1 = s := by
  unfold runOp; cases findTask id s.tasks <;> rfl

theorem step_ok (s : State) (hI : Inv s) (op : Op) :
    Inv (step s op).1 ∧ absStep s.tasks op (step s op).2 = some (step s op).1.tasks := by
  have hrun : ∀ op, (∀ o, absStep s.tasks op o = some s.tasks) → (step s op).1 = s →
      Inv (step s op).1 ∧ absStep s.tasks op (step s op).2 = some (step s op).1.tasks :=
    fun op ha h => by rw [ha, h]; exact ⟨hI, rfl⟩
  cases op with
  | create st si => exact create_ok s hI st si
  | update id st si => exact update_ok s hI id st si
  | optUpdate id ev cr off v => exact optUpdate_ok s hI id ev cr off v
  | delete id => exact delete_ok s hI id
  | restart k ps =>
    rw [restart_held s k ps hI.sorted hI.valid]
    exact ⟨⟨hI.sorted, hI.bound, hI.valid, rfl⟩, rfl⟩
  | cancel id run => exact hrun _ (fun _ => rfl) (runOp_state s id _)
  | force id sf => exact hrun _ (fun _ => rfl) (runOp_state s id _)
  | retry id run => exact hrun _ (fun _ => rfl) (runOp_state s id _)

theorem inv_init : Inv init :=
  ⟨List.Pairwise.nil, fun _ h => (nomatch h), fun _ h => (nomatch h), rfl⟩

theorem inv_final (s : State) (hI : Inv s) (ops : List Op) : Inv (finalFrom step s ops) := by
  induction ops generalizing s with
  | nil => exact hI
  | cons op rest ih => exact ih _ (step_ok s hI op).1

theorem check_run (s : State) (hI : Inv s) (ops : List Op) :
    check s.tasks (runFrom step s ops) = none := by
  induction ops generalizing s with
  | nil => rfl
  | cons op rest ih =>
    obtain ⟨hI', habs⟩ := step_ok s hI op
    simp only [runFrom, check, obs_held, obs_tasks, hI'.held, habs, ne_eq, not_true_eq_false, if_false]
    exact ih _ hI'

end Influx.Lemmas.Coord
