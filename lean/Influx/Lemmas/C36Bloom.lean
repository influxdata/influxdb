/-
  Lemmas.C36Bloom — the bloom filter model never reports an inserted key as absent:
  bits only ever get set (`setBits_mono`, `orBits_true`), so `contains` is monotone, and the
  simulation between `stepB` (model) and `checkB` (statement) follows.
-/
import Influx.Lemmas.C36List

namespace Influx.Bloom

theorem setBits_length (bits : List Bool) (ls : List Nat) : (setBits bits ls).length = bits.length := by
  induction ls generalizing bits with
  | nil => rfl
  | cons l ls ih => rw [setBits, ih, List.length_set]

theorem setBits_mono (bits : List Bool) (ls : List Nat) (i : Nat) (h : bits[i]? = some true) :
    (setBits bits ls)[i]? = some true := by
  induction ls generalizing bits with
  | nil => exact h
  | cons l ls ih =>
    apply ih
    by_cases hl : l = i
    · rw [hl, List.getElem?_set_self (List.getElem?_eq_some_iff.mp h).1]
    · rw [List.getElem?_set_ne hl, h]

theorem setBits_set (bits : List Bool) (ls : List Nat) (l : Nat) (hl : l ∈ ls) (hlt : l < bits.length) :
    (setBits bits ls)[l]? = some true := by
  induction ls generalizing bits with
  | nil => cases hl
  | cons x ls ih =>
    rw [setBits]
    rcases List.mem_cons.mp hl with rfl | h
    · exact setBits_mono _ _ _ (List.getElem?_set_self hlt)
    · exact ih _ h (by rw [List.length_set]; exact hlt)

theorem testBits_iff (bits : List Bool) (ls : List Nat) :
    testBits bits ls = true ↔ ∀ l ∈ ls, bits[l]? = some true := by
  simp [testBits, List.all_eq_true]

theorem location_lt (m h0 h1 i : Nat) (hm : 0 < m) : location m h0 h1 i < m := Nat.mod_lt _ hm

theorem contains_insert_self (f : Filter) (h0 h1 : Nat) (hm : 0 < f.bits.length) :
    (f.insert h0 h1).contains h0 h1 = true := by
  simp only [Filter.contains, Filter.insert, testBits_iff, Filter.locations, setBits_length]
  intro l hl
  apply setBits_set _ _ _ hl
  obtain ⟨i, _, rfl⟩ := List.mem_map.mp hl
  exact location_lt _ _ _ _ hm

theorem contains_insert_mono (f : Filter) (h0 h1 g0 g1 : Nat) (h : f.contains h0 h1 = true) :
    (f.insert g0 g1).contains h0 h1 = true := by
  simp only [Filter.contains, Filter.insert, testBits_iff, Filter.locations, setBits_length] at *
  intro l hl
  exact setBits_mono _ _ _ (h l hl)

theorem insert_length (f : Filter) (h0 h1 : Nat) : (f.insert h0 h1).bits.length = f.bits.length :=
  setBits_length _ _

theorem orBits_length (a b : List Bool) (h : a.length = b.length) : (orBits a b).length = a.length := by
  induction a generalizing b with
  | nil => cases b <;> rfl
  | cons x xs ih =>
    cases b with
    | nil => cases h
    | cons y ys => exact congrArg Nat.succ (ih ys (Nat.succ.inj h))

theorem orBits_true (a b : List Bool) (h : a.length = b.length) (i : Nat) :
    (orBits a b)[i]? = some true ↔ a[i]? = some true ∨ b[i]? = some true := by
  induction a generalizing b i with
  | nil =>
    cases b with
    | nil => exact ⟨Or.inl, fun h => h.elim id id⟩
    | cons y ys => cases h
  | cons x xs ih =>
    cases b with
    | nil => cases h
    | cons y ys =>
      cases i with
      | zero =>
        rw [orBits, List.getElem?_cons_zero, List.getElem?_cons_zero, List.getElem?_cons_zero]
        cases x <;> cases y <;> decide
      | succ i => exact ih ys (Nat.succ.inj h) i

theorem merge_ok {f o f' : Filter} (h : f.merge o = .ok f') :
    f.bits.length = o.bits.length ∧ f.k = o.k ∧ f' = { f with bits := orBits f.bits o.bits } := by
  unfold Filter.merge at h
  split at h
  · cases h
  · split at h
    · cases h
    · next h1 h2 => exact ⟨Decidable.of_not_not h1, Decidable.of_not_not h2, (Except.ok.inj h).symm⟩

theorem merge_length {f o f' : Filter} (h : f.merge o = .ok f') : f'.bits.length = f.bits.length := by
  obtain ⟨hl, _, rfl⟩ := merge_ok h
  exact orBits_length _ _ hl

theorem contains_merge {f o f' : Filter} (h : f.merge o = .ok f') (h0 h1 : Nat)
    (hc : f.contains h0 h1 = true ∨ o.contains h0 h1 = true) : f'.contains h0 h1 = true := by
  obtain ⟨hl, hk, rfl⟩ := merge_ok h
  simp only [Filter.contains, testBits_iff, Filter.locations, orBits_length _ _ hl] at *
  intro l hmem
  refine (orBits_true _ _ hl l).mpr (hc.imp (fun hc => hc l hmem) (fun hc => hc l ?_))
  rw [← hk, ← hl]
  exact hmem

theorem pow2_ge8 {v m : Nat} (h : pow2 v = some m) : 8 ≤ m := by
  unfold pow2 at h
  obtain ⟨i, _, rfl⟩ := List.mem_map.mp (List.mem_of_find?_eq_some h)
  have := Nat.one_le_two_pow (n := i)
  rw [Nat.pow_add]
  omega

theorem new_pos {m k : Nat} {f : Filter} (h : new m k = some f) : 0 < f.bits.length := by
  obtain ⟨m', hp, rfl⟩ := Option.map_eq_some_iff.mp h
  rw [List.length_replicate]
  exact Nat.lt_of_lt_of_le (by decide) (pow2_ge8 hp)

theorem byteBits_length (b : Nat) : (byteBits b).length = 8 := by simp [byteBits]

theorem flatMap_byteBits_length (buf : List Nat) : (buf.flatMap byteBits).length = buf.length * 8 := by
  induction buf with
  | nil => rfl
  | cons b bs ih => rw [List.flatMap_cons, List.length_append, byteBits_length, ih, List.length_cons]; omega

theorem ofBuffer_pos {buf : List Nat} {k : Nat} {f : Filter} (h : ofBuffer buf k = some f) :
    0 < f.bits.length := by
  unfold ofBuffer at h
  cases hp : pow2 (buf.length * 8) with
  | none => rw [hp] at h; cases h
  | some m =>
    simp only [hp] at h
    split at h
    · cases h
    · next hne =>
      cases h
      rw [flatMap_byteBits_length, ← Decidable.of_not_not hne]
      exact Nat.lt_of_lt_of_le (by decide) (pow2_ge8 hp)

end Influx.Bloom

namespace Influx.C36
open Influx.Spec.C36

def BOp.WF (bh : Key → Nat × Nat) : BOp → Prop
  | .ins _ key h0 h1 => bh key = (h0, h1)
  | .has _ key h0 h1 => bh key = (h0, h1)
  | _ => True

/-- a filter and the list of keys inserted into it -/
def RB1 (bh : Key → Nat × Nat) : Option Bloom.Filter → Option (List Key) → Prop
  | none, none => True
  | some f, some ks => 0 < f.bits.length ∧ ∀ key ∈ ks, f.contains (bh key).1 (bh key).2 = true
  | _, _ => False

def RB (bh : Key → Nat × Nat) (bf : List (Option Bloom.Filter)) (bl : List (Option (List Key))) : Prop :=
  RegRel (RB1 bh) bf bl

theorem RB_init (bh) : RB bh (List.replicate nReg none) (List.replicate nReg none) :=
  RegRel.replicate nReg trivial

theorem RB.cases {bh bf bl} (h : RB bh bf bl) (r : Nat) :
    (bf[r]? = none ∧ bl[r]? = none) ∨ (bf[r]? = some none ∧ bl[r]? = some none) ∨
      ∃ f ks, bf[r]? = some (some f) ∧ bl[r]? = some (some ks) ∧
        0 < f.bits.length ∧ ∀ key ∈ ks, f.contains (bh key).1 (bh key).2 = true := by
  cases hbf : bf[r]? with
  | none => exact Or.inl ⟨rfl, h.get_none hbf⟩
  | some of =>
    obtain ⟨ol, hbl, hrel⟩ := h.get hbf
    cases of <;> cases ol
    · exact Or.inr (Or.inl ⟨rfl, hbl⟩)
    · exact hrel.elim
    · exact hrel.elim
    · exact Or.inr (Or.inr ⟨_, _, rfl, hbl, hrel⟩)

theorem stepB_sim (bh : Key → Nat × Nat) (bf bl) (op : BOp) (hR : RB bh bf bl) (hwf : BOp.WF bh op) :
    (checkB bl op (stepB bf op).2).2 = none ∧ RB bh (stepB bf op).1 (checkB bl op (stepB bf op).2).1 := by
  cases op with
  | new r m k =>
    simp only [stepB]
    split
    · cases hn : Bloom.new m k with
      | none => exact ⟨rfl, hR⟩
      | some f => exact ⟨rfl, hR.set r (x := some f) (y := some []) ⟨Bloom.new_pos hn, fun _ h => nomatch h⟩⟩
    · exact ⟨rfl, hR⟩
  | buf r bytes k =>
    simp only [stepB]
    split
    · cases hn : Bloom.ofBuffer bytes k with
      | none => exact ⟨rfl, hR⟩
      | some f => exact ⟨rfl, hR.set r (x := some f) (y := some []) ⟨Bloom.ofBuffer_pos hn, fun _ h => nomatch h⟩⟩
    · exact ⟨rfl, hR⟩
  | ins r key h0 h1 =>
    rcases hR.cases r with ⟨e1, e2⟩ | ⟨e1, e2⟩ | ⟨f, ks, e1, e2, hpos, hks⟩ <;> simp only [stepB, checkB, e1, e2]
    · exact ⟨trivial, hR⟩
    · exact ⟨trivial, hR⟩
    · refine ⟨trivial, hR.set r (x := some _) (y := some _) ⟨(Bloom.insert_length f _ _).symm ▸ hpos, fun key' hk' => ?_⟩⟩
      rcases List.mem_cons.mp hk' with rfl | hmem
      · rw [(hwf : bh key' = _)]
        exact Bloom.contains_insert_self f _ _ hpos
      · exact Bloom.contains_insert_mono f _ _ _ _ (hks key' hmem)
  | has r key h0 h1 =>
    rcases hR.cases r with ⟨e1, e2⟩ | ⟨e1, e2⟩ | ⟨f, ks, e1, e2, hpos, hks⟩ <;> simp only [stepB, checkB, e1, e2]
    · exact ⟨trivial, hR⟩
    · exact ⟨trivial, hR⟩
    · refine ⟨?_, hR⟩
      by_cases hmem : key ∈ ks
      · have := hks key hmem
        rw [(hwf : bh key = _)] at this
        rw [this]; rfl
      · rw [List.contains_eq_mem, decide_eq_false hmem, Bool.not_false, Bool.or_true]; rfl
  | merge r o =>
    -- a register or a filter is missing, on both sides: the model answers an error, the checker does not judge
    rcases hR.cases r with ⟨e1, e2⟩ | hr
    · simp only [stepB, checkB, e1, e2]
      exact ⟨trivial, hR⟩
    rcases hr with ⟨e1, e2⟩ | ⟨f, ks, e1, e2, hpos, hks⟩ <;>
      rcases hR.cases o with ⟨e3, e4⟩ | ⟨e3, e4⟩ | ⟨g, os, e3, e4, _, hos⟩ <;>
      simp only [stepB, checkB, e1, e2, e3, e4]
    case inr.inr.inr =>
      cases hm : f.merge g with
      | error e => cases e <;> exact ⟨rfl, hR⟩
      | ok f' =>
        refine ⟨rfl, hR.set r (x := some _) (y := some _) ⟨(Bloom.merge_length hm).symm ▸ hpos, fun key hk => ?_⟩⟩
        exact Bloom.contains_merge hm _ _ ((List.mem_append.mp hk).symm.imp (hks key) (hos key))
    all_goals exact ⟨trivial, hR⟩
  | clone src dst =>
    rcases hR.cases src with ⟨e1, e2⟩ | ⟨e1, e2⟩ | ⟨f, ks, e1, e2, hf⟩ <;> simp only [stepB, checkB, e1, e2]
    · exact ⟨trivial, hR⟩
    · exact ⟨trivial, hR⟩
    · by_cases hd : dst < nReg
      · rw [if_pos hd]; exact ⟨rfl, hR.set dst (x := some f) (y := some ks) hf⟩
      · rw [if_neg hd]; exact ⟨rfl, hR⟩
  | bytes r | kl r => exact ⟨rfl, by simp only [stepB]; split <;> exact hR⟩

end Influx.C36
