/-
  Lemmas.CacheStep — every operation of the cache model preserves the invariant and
  is accepted by the statement checker, up to stale-size failures.
-/
import Influx.Lemmas.CacheSim

namespace Influx.Cache
open Influx.Spec.C09

structure StepOK (c : Cache) (st : St) (B : Nat) (i : Nat) (op : Op) : Prop where
  inv : Inv (step c op).1 (stepSt st i (op, (step c op).2)).1 (B + opBytes op)
  fails : FailsOK st (stepSt st i (op, (step c op).2)).2

theorem StepOK.of {c : Cache} {st : St} {B i : Nat} {op : Op} (c' : Cache) (o : Obs) (st' : St) (fs : List Fail)
    (h1 : step c op = (c', o)) (h2 : stepSt st i (op, o) = (st', fs))
    (inv : Inv c' st' (B + opBytes op)) (hf : FailsOK st fs) : StepOK c st B i op := by
  constructor <;> simp only [h1, h2] <;> assumption

variable {c : Cache} {st : St} {B : Nat}

theorem Cache.Size_eq (inv : Inv c st B) (hB : B < W) : c.Size = c.size + c.snapshotSize :=
  add64_eq (Nat.lt_of_le_of_lt inv.bound hB)

theorem Inv.Size_acct (inv : Inv c st B) (hB : B < W) :
    ∃ r, c.Size = acct st.hot + acct st.snap + r ∧ (st.compacted = false → r = 0) := by
  obtain ⟨rh, hrh, hrh0⟩ := inv.size
  obtain ⟨rs, hrs, hrs0⟩ := inv.ssz
  exact ⟨rh + rs, by rw [Cache.Size_eq inv hB]; omega, fun h => by rw [hrh0 h, hrs0 h]⟩

theorem Inv.putSnap (inv : Inv c st B) {sn : Snap} (hstore : snapStore c = sn.store) (hsz : snapSz c = sn.size)
    (b : Bool) {ex : Bool} (hex : ex = true) :
    Inv { c with snapshotting := b, snapshot := some sn } { st with snapshotting := b, snapExists := ex } B :=
  ⟨inv.hot, inv.hotOK, inv.snap.trans (congrArg toHeld hstore), show StoreOK sn.store from hstore ▸ inv.snapOK, hex,
    inv.snapSize.trans hsz, inv.ssize.trans hsz, rfl, inv.maxSize, inv.size, inv.ssz, inv.bound⟩

theorem step_size (inv : Inv c st B) (i : Nat) (hB : B < W) : StepOK c st B i .size :=
  let ⟨r, hr, hr0⟩ := inv.Size_acct hB
  .of c (.num c.Size) st _ rfl rfl inv (sizeFail_ok st i _ _ r hr hr0)

theorem step_count (inv : Inv c st B) (i : Nat) : StepOK c st B i .count :=
  .of c (.num c.count) st [] rfl
    (congrArg (Prod.mk st) (if_pos ((count_eq _).trans (congrArg liveKeys inv.hot.symm)))) inv (.nil st)

theorem step_clear (inv : Inv c st B) (i : Nat) (success : Bool) : StepOK c st B i (.clear success) := by
  have hex := inv.snapExists
  cases hs : c.snapshot with
  | none =>
    rw [hs] at hex
    exact .of c .refused st [] (by rw [step, Cache.clearSnapshot, hs]) (by simp [stepSt, hex]) inv (.nil st)
  | some sn =>
    rw [hs] at hex
    have hstore : snapStore c = sn.store := by rw [snapStore, hs]; rfl
    have hsz : snapSz c = sn.size := by rw [snapSz, hs]; rfl
    cases success with
    | true =>
      refine .of { c with snapshotting := false, snapshot := some ⟨[], 0⟩, snapshotSize := 0 } .ok
        { st with snapshotting := false, snap := [], snapSize := 0 } []
        (by simp [step, Cache.clearSnapshot, hs]) (by simp [stepSt, hex]) ?_ (.nil st)
      exact ⟨inv.hot, inv.hotOK, rfl, StoreOK.nil, hex, rfl, rfl, rfl, inv.maxSize, inv.size,
        (Side.nil st.compacted).size, Nat.le_trans (Nat.le_add_right ..) inv.bound⟩
    | false =>
      exact .of { c with snapshotting := false, snapshot := some sn } .ok { st with snapshotting := false } []
        (by simp [step, Cache.clearSnapshot, hs]) (by simp [stepSt, hex]) (inv.putSnap hstore hsz false hex) (.nil st)

/-- every hot entry is compacted in place; `size` is not touched -/
theorem step_dedup (inv : Inv c st B) (i : Nat) : StepOK c st B i .dedup :=
  .of c.deduplicate .ok _ [] rfl rfl
    (inv.setHot inv.hotSide.dedupAll (fun h => (Bool.or_eq_false_iff.mp h).1) inv.bound) (.nil st)

theorem step_delrange (inv : Inv c st B) (i : Nat) (keys : List Key) (mn mx : Int) (hB : B < W) :
    StepOK c st B i (.delrange keys mn mx) := by
  obtain ⟨rh, hrh, hrh0⟩ := inv.size
  have hbound := inv.bound
  obtain ⟨s', h1, h2, h3, h4⟩ := deleteLoop_spec mn mx keys c.store c.size rh inv.hotOK (inv.hot ▸ hrh)
    (Nat.lt_of_le_of_lt (Nat.le_trans (Nat.le_add_right ..) hbound) hB)
  rw [← inv.hot] at h1 h2 h4
  refine .of _ .ok { st with hot := deleteKeys mn mx keys st.hot } [] rfl rfl ?_ (.nil st)
  rw [Cache.deleteRange, h1]
  exact inv.setHot ⟨h2.symm, h3, rh, rfl, hrh0⟩ id (by omega)

theorem step_snapshot (inv : Inv c st B) (i : Nat) (hB : B < W) : StepOK c st B i .snapshot := by
  have hstore := snapStore_eq c
  have hsz := snapSz_eq c
  have hsnapping := inv.snapshotting
  cases hsn : c.snapshotting with
  | true =>
    rw [hsn] at hsnapping
    exact .of c .errInProgress st [] (by simp [step, Cache.snapshotOp, hsn]) (by simp [stepSt, hsnapping]) inv
      (.nil st)
  | false =>
    rw [hsn] at hsnapping
    generalize hget : c.snapshot.getD ⟨[], 0⟩ = sn at hstore hsz
    have hsnapSize := inv.snapSize.trans hsz
    by_cases hpos : sn.size > 0
    · -- a snapshot that was not cleared successfully is handed out again
      have hcount : sn.store.count = liveKeys st.snap := by rw [inv.snap, hstore, count_eq]
      exact .of { c with snapshotting := true, snapshot := some sn } (.snap sn.size sn.store.count)
        { st with snapshotting := true, snapExists := true } []
        (by simp only [step, Cache.snapshotOp, hsn, hget, Bool.false_eq_true, if_false, if_pos hpos])
        (by simp [stepSt, hsnapping, hsnapSize, hcount, hpos]) (inv.putSnap hstore hsz true rfl) (.nil st)
    · -- the stores are swapped; the snapshot was empty
      obtain ⟨r, hr, hr0⟩ := inv.Size_acct hB
      obtain ⟨rs, hrs, _⟩ := inv.ssz
      have hsnap0 : acct st.snap = 0 := Nat.eq_zero_of_add_eq_zero_right
        (hrs.symm.trans ((inv.ssize.trans hsz).trans (Nat.eq_zero_of_not_pos hpos)))
      have hcount : c.store.count = liveKeys st.hot := by rw [inv.hot, count_eq]
      refine .of
        { c with snapshotting := true, snapshot := some ⟨c.store, c.Size⟩, snapshotSize := c.Size, store := [],
                 size := 0 }
        (.snap c.Size c.store.count)
        { st with snapshotting := true, snapExists := true, snap := st.hot, hot := [], snapSize := c.Size }
        (sizeFail st i c.Size (acct st.hot + acct st.snap))
        (by simp only [step, Cache.snapshotOp, hsn, hget, Bool.false_eq_true, if_false, if_neg hpos])
        (by simp [stepSt, hsnapping, hsnapSize, hcount, hpos]) ?_ (sizeFail_ok st i _ _ r hr hr0)
      rw [hsnap0, Nat.add_zero] at hr
      exact ⟨rfl, StoreOK.nil, inv.hot, inv.hotOK, rfl, rfl, rfl, rfl, inv.maxSize, (Side.nil _).size, ⟨r, hr, hr0⟩,
        by show 0 + c.Size ≤ B; rw [Nat.zero_add, Cache.Size_eq inv hB]; exact inv.bound⟩

theorem step_values (inv : Inv c st B) (i : Nat) (k : Key) : StepOK c st B i (.values k) := by
  have hsnap := snap_compact c k
  refine .of _ (.vals (canon (st.snap.get k ++ st.hot.get k))) _ []
    (by simp only [step, Cache.values_eq, dedup_union, ← inv.hot, ← inv.snap]; rfl)
    (by simp only [stepSt, ↓reduceIte]; rfl) ?_ (.nil st)
  -- the `compacted` flag of the checker's next state does not depend on the answer
  have hot := inv.hotSide.compact k (cpt' := (stepSt st i (.values k, .vals [])).1.compacted) (by
    simp only [stepSt, Bool.or_eq_false_iff, decide_eq_false_iff_not]; exact fun h => ⟨h.1, h.2.1⟩)
  have snap := inv.snapSide.compact k (cpt' := (stepSt st i (.values k, .vals [])).1.compacted) (by
    simp only [stepSt, Bool.or_eq_false_iff, decide_eq_false_iff_not]; exact fun h => ⟨h.1, h.2.2⟩)
  rw [← hsnap.1] at snap
  exact ⟨hot.held, hot.ok, snap.held, snap.ok, inv.snapExists.trans hsnap.2.2.symm, inv.snapSize.trans hsnap.2.1.symm,
    inv.ssize.trans hsnap.2.1.symm, inv.snapshotting, inv.maxSize, hot.size, snap.size, inv.bound⟩

theorem step_write (inv : Inv c st B) (i : Nat) (batch : List (Key × List Value)) (hv : ValidBatch batch)
    (hB : B + (batchSize batch + keyBytes batch) < W) : StepOK c st B i (.write batch) := by
  have hbound := inv.bound
  -- none of the sums that occur wraps
  obtain ⟨hBW, hb1, hb2, hb3⟩ : B < W ∧ 0 + batchSize batch < W ∧ c.size + batchSize batch + keyBytes batch < W ∧
      c.size + c.snapshotSize + batchSize batch < W := by omega
  have hadd : batch.foldl (fun a kv => add64 a (valuesSize kv.2)) 0 = batchSize batch :=
    (added_eq batch 0 hb1).trans (Nat.zero_add _)
  have hsz : add64 c.size (batchSize batch) = c.size + batchSize batch :=
    add64_eq (Nat.lt_of_le_of_lt (Nat.le_add_right ..) hb2)
  obtain ⟨r, hr, hr0⟩ := inv.Size_acct hBW
  have hn : add64 c.Size (batchSize batch) = acct st.hot + acct st.snap + batchSize batch + r := by
    rw [add64_eq ((Cache.Size_eq inv hBW).symm ▸ hb3), hr, Nat.add_right_comm]
  cases hlim : decide (c.maxSize > 0) && decide (add64 c.Size (batchSize batch) > c.maxSize) with
  | true =>
    -- rejected: nothing is stored
    exact .of c (.errLimit (add64 c.Size (batchSize batch))) st
      (sizeFail st i (add64 c.Size (batchSize batch)) (acct st.hot + acct st.snap + batchSize batch))
      (by simp only [step, Cache.writeMulti, hadd, hlim, if_true])
      (by simp only [stepSt, inv.maxSize, hlim, if_true])
      (inv.mono (Nat.le_add_right ..)) (sizeFail_ok st i _ _ r hn hr0)
  | false =>
    have hmr : (decide (st.maxSize > 0) &&
        decide (acct st.hot + acct st.snap + batchSize batch > st.maxSize)) = false := by
      rw [inv.maxSize]
      cases h0 : decide (c.maxSize > 0)
      · rfl
      · rw [h0, Bool.true_and, decide_eq_false_iff_not, hn] at hlim
        exact decide_eq_false fun h => hlim (Nat.lt_of_lt_of_le h (Nat.le_add_right ..))
    obtain ⟨rh, hrh, hrh0⟩ := inv.size
    obtain ⟨s', h1, h2, h3, h4⟩ := writeLoop_spec batch c.store (add64 c.size (batchSize batch)) false rh
      inv.hotOK hv (by rw [hsz, hrh, inv.hot]) (hsz ▸ hb2)
    rw [← inv.hot, Bool.false_or] at h1
    rw [← inv.hot] at h2 h4
    have hinv : Inv { c with store := s', size := acct (storeBatch batch st.hot) + rh }
        { st with hot := storeBatch batch st.hot } (B + (batchSize batch + keyBytes batch)) :=
      inv.setHot ⟨h2.symm, h3, rh, rfl, hrh0⟩ id (by omega)
    cases hac : anyConflict batch st.hot with
    | false =>
      exact .of _ .ok _ [] (by simp only [step, Cache.writeMulti, hadd, hlim, h1, hac]; rfl)
        (by simp only [stepSt, hmr, hac]; rfl) hinv (.nil st)
    | true =>
      exact .of _ .errConflict _ [] (by simp only [step, Cache.writeMulti, hadd, hlim, h1, hac]; rfl)
        (by simp only [stepSt, hmr, hac]; rfl) hinv (.nil st)

theorem step_ok (inv : Inv c st B) (i : Nat) (op : Op) (hv : ValidOp op) (hB : B + opBytes op < W) :
    StepOK c st B i op := by
  have hBW : B < W := Nat.lt_of_le_of_lt (Nat.le_add_right ..) hB
  cases op with
  | new m => exact .of { maxSize := m } .ok { maxSize := m } [] rfl rfl (Inv.init _ m) (.nil st)
  | write batch => exact step_write inv i batch hv hB
  | snapshot => exact step_snapshot inv i hBW
  | clear success => exact step_clear inv i success
  | delrange keys mn mx => exact step_delrange inv i keys mn mx hBW
  | values k => exact step_values inv i k
  | size => exact step_size inv i hBW
  | count => exact step_count inv i
  | dedup => exact step_dedup inv i

end Influx.Cache
