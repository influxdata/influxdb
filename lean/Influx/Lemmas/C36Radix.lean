/-
  Lemmas.C36Radix — the radix tree as a sorted association list.

  `Node.rel n` lists the (key suffix, value) pairs below a node in walk order, relative to the
  node (after its own prefix).  Under the structural invariant `SW` (edge labels strictly
  ascending, every child's prefix starts with its label) `Get` is the lookup in `rel` and `rel`
  is strictly ascending (`Insert` and `deletePrefix` are treated in C36RadixIns and
  C36RadixDel).  `LK` ties the keys stored in the
  leaves to their position, so that the walk (absolute keys) is `rel` of the root.
-/
import Influx.Model.Radix
import Influx.Lemmas.C36KeyOrder

namespace Influx.Radix
open Influx.RHH (keyLt)

abbrev KV := Key × Int

def Edges.labels : Edges → List Nat
  | .nil => []
  | .cons l _ r => l :: Edges.labels r

mutual
def Node.rel : Node → List KV
  | .mk leaf _ edges => (match leaf with | some l => [([], l.val)] | none => []) ++ Edges.rel edges
def Edges.rel : Edges → List KV
  | .nil => []
  | .cons _ c r => (Node.rel c).map (fun p => (c.pre ++ p.1, p.2)) ++ Edges.rel r
end

mutual
def Node.SW : Node → Prop
  | .mk _ _ edges => Edges.SW edges
def Edges.SW : Edges → Prop
  | .nil => True
  | .cons l c r => (∃ t, c.pre = l :: t) ∧ Node.SW c ∧ Edges.SW r ∧ (∀ l' ∈ Edges.labels r, l < l')
end

def lookup (k : Key) (l : List KV) : Option Int := (l.find? (·.1 = k)).map (·.2)

abbrev SortedKV (l : List KV) : Prop := l.Pairwise (fun a b => keyLt a.1 b.1 = true)

mutual
/-- every leaf stores the key of its position (`path` = key prefix consumed up to and including
    the node's own prefix) -/
def Node.LK : Key → Node → Prop
  | path, .mk leaf _ edges => (∀ l, leaf = some l → l.key = path) ∧ Edges.LK path edges
def Edges.LK : Key → Edges → Prop
  | _, .nil => True
  | path, .cons _ c r => Node.LK (path ++ c.pre) c ∧ Edges.LK path r
end

theorem lookup_nil (k : Key) : lookup k [] = none := rfl

theorem lookup_cons (k : Key) (p : KV) (l : List KV) :
    lookup k (p :: l) = if p.1 = k then some p.2 else lookup k l := by
  unfold lookup; by_cases h : p.1 = k <;> simp [h]

theorem lookup_append (k : Key) (a b : List KV) : lookup k (a ++ b) = (lookup k a).or (lookup k b) := by
  simp only [lookup, List.find?_append, Option.map_or]

theorem lookup_none_of_not_mem (k : Key) (l : List KV) (h : ∀ p ∈ l, p.1 ≠ k) : lookup k l = none := by
  induction l with
  | nil => rfl
  | cons p ps ih =>
    rw [lookup_cons, if_neg (h p List.mem_cons_self)]
    exact ih fun q hq => h q (List.mem_cons_of_mem _ hq)

theorem stripPrefix_some (s p rest : Key) : stripPrefix s p = some rest ↔ s = p ++ rest := by
  fun_induction stripPrefix s p <;> simp_all

/-- looking a key up below an edge: strip the child's prefix, look the rest up in the child
    (what `Edges.get` does) -/
theorem lookup_map_prefix (pre k : Key) (l : List KV) :
    lookup k (l.map fun p => (pre ++ p.1, p.2)) = (stripPrefix k pre).bind (lookup · l) := by
  cases h : stripPrefix k pre with
  | none =>
    refine lookup_none_of_not_mem _ _ fun p hp hk => ?_
    obtain ⟨q, _, rfl⟩ := List.mem_map.mp hp
    rw [(stripPrefix_some k pre q.1).mpr hk.symm] at h
    cases h
  | some rest =>
    obtain rfl := (stripPrefix_some _ _ _).mp h
    induction l with
    | nil => rfl
    | cons q qs ih => simp only [List.map_cons, lookup_cons, ih, List.append_cancel_left_eq, Option.bind_some]

/-- induction over an edge list alone, without entering the children -/
theorem Edges.list_induction {motive : Edges → Prop} (nil : motive .nil)
    (cons : ∀ l c r, motive r → motive (.cons l c r)) : ∀ es, motive es
  | .nil => nil
  | .cons l c r => cons l c r (Edges.list_induction nil cons r)

theorem Edges.rel_head (es : Edges) : Edges.SW es → ∀ p ∈ Edges.rel es, ∃ l ∈ Edges.labels es, ∃ t, p.1 = l :: t := by
  induction es using Edges.list_induction with
  | nil => exact fun _ _ hp => nomatch hp
  | cons l c r ih =>
    intro hsw p hp
    obtain ⟨⟨t, ht⟩, _, hr, _⟩ := hsw
    rcases List.mem_append.mp hp with hp | hp
    · obtain ⟨q, _, rfl⟩ := List.mem_map.mp hp
      exact ⟨l, List.mem_cons_self, t ++ q.1, by rw [ht]; rfl⟩
    · obtain ⟨l', hl', ht'⟩ := ih hr p hp
      exact ⟨l', List.mem_cons_of_mem _ hl', ht'⟩

theorem Edges.lookup_absent (es : Edges) (hsw : Edges.SW es) (c : Nat) (rest : Key)
    (hc : c ∉ Edges.labels es) : lookup (c :: rest) (Edges.rel es) = none := by
  refine lookup_none_of_not_mem _ _ fun p hp hk => ?_
  obtain ⟨l, hl, t, ht⟩ := Edges.rel_head es hsw p hp
  rw [hk] at ht
  cases ht
  exact hc hl

theorem Edges.lookup_rel_cons {l : Nat} {child : Node} {r : Edges} (hsw : Edges.SW (.cons l child r))
    (c : Nat) (rest : Key) : lookup (c :: rest) (Edges.rel (.cons l child r)) =
      if l = c then lookup (c :: rest) ((Node.rel child).map fun p => (child.pre ++ p.1, p.2))
      else lookup (c :: rest) (Edges.rel r) := by
  obtain ⟨⟨t, ht⟩, _, hr, hlt⟩ := hsw
  rw [Edges.rel, lookup_append]
  split
  · next h =>
    rw [← h, Edges.lookup_absent r hr l rest fun hl => Nat.lt_irrefl l (hlt l hl), Option.or_none]
  · next h =>
    rw [lookup_none_of_not_mem, Option.none_or]
    intro p hp hk
    obtain ⟨q, _, rfl⟩ := List.mem_map.mp hp
    rw [ht] at hk
    cases hk
    exact h rfl

theorem lookup_rel_mk_nil (leaf : Option Leaf) (pre : Key) (edges : Edges) (hsw : Edges.SW edges) :
    lookup [] (Node.rel (.mk leaf pre edges)) = leaf.map (·.val) := by
  have : lookup [] (Edges.rel edges) = none := by
    refine lookup_none_of_not_mem _ _ fun p hp hk => ?_
    obtain ⟨_, _, t, ht⟩ := Edges.rel_head edges hsw p hp
    rw [hk] at ht
    cases ht
  simp only [Node.rel, lookup_append, this, Option.or_none]
  cases leaf <;> rfl

theorem lookup_rel_mk_cons (leaf : Option Leaf) (pre : Key) (edges : Edges) (c : Nat) (rest : Key) :
    lookup (c :: rest) (Node.rel (.mk leaf pre edges)) = lookup (c :: rest) (Edges.rel edges) := by
  simp only [Node.rel, lookup_append]
  cases leaf <;> rfl

mutual
theorem Node.get_rel : ∀ (n : Node) (search : Key), Node.SW n → Node.get n search = lookup search (Node.rel n)
  | .mk leaf pre edges, [], hsw => (lookup_rel_mk_nil leaf pre edges hsw).symm
  | .mk leaf pre edges, c :: rest, hsw => by
    rw [lookup_rel_mk_cons]
    exact Edges.get_rel edges c rest hsw
theorem Edges.get_rel : ∀ (es : Edges) (c : Nat) (rest : Key), Edges.SW es →
    Edges.get es c (c :: rest) = lookup (c :: rest) (Edges.rel es)
  | .nil, c, rest, _ => rfl
  | .cons l child r, c, rest, hsw => by
    rw [Edges.lookup_rel_cons hsw, lookup_map_prefix, Edges.get]
    split
    · cases stripPrefix (c :: rest) child.pre with
      | none => rfl
      | some rest' => exact Node.get_rel child rest' hsw.2.1
    · exact Edges.get_rel r c rest hsw.2.2.1
end

theorem keyLt_append_left (pre a b : Key) : keyLt (pre ++ a) (pre ++ b) = keyLt a b := by
  induction pre with
  | nil => rfl
  | cons x xs ih => simp [keyLt, ih]

theorem keyLt_nil_cons (x : Nat) (xs : Key) : keyLt [] (x :: xs) = true := rfl

theorem keyLt_heads (x y : Nat) (xs ys : Key) (h : x < y) : keyLt (x :: xs) (y :: ys) = true := by
  simp [keyLt, h]

theorem sorted_map_prefix (pre : Key) (l : List KV) (h : SortedKV l) :
    SortedKV (l.map fun p => (pre ++ p.1, p.2)) := by
  refine List.pairwise_map.mpr (h.imp ?_)
  intro a b hab
  simpa [keyLt_append_left] using hab

mutual
theorem Node.rel_sorted : ∀ (n : Node), Node.SW n → SortedKV (Node.rel n)
  | .mk leaf pre edges, hsw => by
    have hE := Edges.rel_sorted edges hsw
    cases leaf with
    | none => exact hE
    | some l =>
      refine List.pairwise_cons.mpr ⟨fun p hp => ?_, hE⟩
      obtain ⟨_, _, t, ht⟩ := Edges.rel_head edges hsw p hp
      rw [ht]; rfl
theorem Edges.rel_sorted : ∀ (es : Edges), Edges.SW es → SortedKV (Edges.rel es)
  | .nil, _ => by simp [Edges.rel]
  | .cons l c r, hsw => by
    obtain ⟨⟨t, ht⟩, hc, hr, hlt⟩ := hsw
    simp only [Edges.rel]
    refine List.pairwise_append.mpr ⟨sorted_map_prefix _ _ (Node.rel_sorted c hc), Edges.rel_sorted r hr, ?_⟩
    intro a ha b hb
    obtain ⟨q, _, rfl⟩ := List.mem_map.mp ha
    obtain ⟨l', hl', t', ht'⟩ := Edges.rel_head r hr b hb
    simp only [ht, ht', List.cons_append]
    exact keyLt_heads _ _ _ _ (hlt l' hl')
end

mutual
theorem Node.walk_rel : ∀ (n : Node) (path : Key), Node.LK path n →
    (Node.walk n).map (fun l => (l.key, l.val)) = (Node.rel n).map (fun p => (path ++ p.1, p.2))
  | .mk leaf pre edges, path, hlk => by
    obtain ⟨hl, hE⟩ := hlk
    simp only [Node.walk, Node.rel, List.map_append, Edges.walk_rel edges path hE]
    cases leaf with
    | none => rfl
    | some l => simp only [List.map_cons, List.map_nil, List.append_nil, hl l rfl]
theorem Edges.walk_rel : ∀ (es : Edges) (path : Key), Edges.LK path es →
    (Edges.walk es).map (fun l => (l.key, l.val)) = (Edges.rel es).map (fun p => (path ++ p.1, p.2))
  | .nil, _, _ => rfl
  | .cons l c r, path, hlk => by
    obtain ⟨hc, hr⟩ := hlk
    simp only [Edges.walk, Edges.rel, List.map_append, List.map_map, Node.walk_rel c _ hc,
      Edges.walk_rel r path hr]
    congr 1
    apply List.map_congr_left
    intro p _
    simp [List.append_assoc]
end

mutual
theorem Node.walk_len : ∀ (n : Node), (Node.walk n).length = (Node.rel n).length
  | .mk leaf pre edges => by
    have := Edges.walk_len edges
    cases leaf <;> simp [Node.walk, Node.rel, this]
theorem Edges.walk_len : ∀ (es : Edges), (Edges.walk es).length = (Edges.rel es).length
  | .nil => rfl
  | .cons l c r => by simp [Edges.walk, Edges.rel, Node.walk_len c, Edges.walk_len r]
end

theorem walk_length (n : Node) (path : Key) (h : Node.LK path n) : (Node.walk n).length = (Node.rel n).length :=
  Node.walk_len n

end Influx.Radix
