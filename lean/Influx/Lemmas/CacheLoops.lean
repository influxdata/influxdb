/-
  Lemmas.CacheLoops — the per-key loops of `WriteMulti` and `DeleteRange` against
  the statement checker's `storeBatch` / `deleteKeys`, with the size arithmetic.
-/
import Influx.Lemmas.CacheHeld

namespace Influx.Cache
open Influx.Spec.C09

def ValidBatch (b : List (Key × List Value)) : Prop := ∀ kv ∈ b, kv.2 ≠ [] ∧ ∀ v ∈ kv.2, v.ty ≠ 0

def keyBytes (b : List (Key × List Value)) : Nat := (b.map fun kv => kv.1.length).sum

theorem W_pos : 0 < W := by decide

theorem add64_eq {a b : Nat} (h : a + b < W) : add64 a b = a + b := Nat.mod_eq_of_lt h

theorem sub64_of_add {size x d : Nat} (h : size = x + d) (hW : size < W) : sub64 size d = x := by
  subst h
  have hd : d < W := Nat.lt_of_le_of_lt (Nat.le_add_left ..) hW
  rw [sub64, Nat.mod_eq_of_lt hd, Nat.add_assoc, Nat.add_sub_of_le (Nat.le_of_lt hd), Nat.add_mod_right,
    Nat.mod_eq_of_lt (Nat.lt_of_le_of_lt (Nat.le_add_right ..) hW)]

theorem sub64_lt (a b : Nat) : sub64 a b < W := Nat.mod_lt _ W_pos

theorem any_ty_ne (vs : List Value) (t : Nat) :
    vs.any (fun x => x.ty ≠ t) = !vs.all (fun x => x.ty = t) := by
  simp [List.any_eq_not_all_not]

/-- `partition.write` on a well-formed store is decided by the checker's `conflicts`: a
    conflicting batch leaves the store alone, any other is appended to what the key holds -/
theorem Store.write_spec {s : Store} (ok : StoreOK s) (k : Key) {vs : List Value} (hne : vs ≠ [])
    (hty : ∀ v ∈ vs, v.ty ≠ 0) :
    if conflicts (toHeld s) k vs then ∃ err, s.write k vs = (s, false, some err)
    else ∃ s', s.write k vs = (s', (s.lookup k).isNone, none) ∧ StoreOK s' ∧
      toHeld s' = (toHeld s).set k ((toHeld s).get k ++ vs) := by
  obtain ⟨v, vrest, rfl⟩ := List.exists_cons_of_ne_nil hne
  unfold conflicts Store.write Store.entry
  rw [toHeld_get]
  cases hl : s.lookup k with
  | none =>
    -- a new key: the batch must be of one type
    simp only [Option.map_none, Option.getD_none, newEntryValues, any_ty_ne]
    cases hall : (v :: vrest).all (fun x => x.ty = v.ty)
    · simp only [Bool.not_false, ↓reduceIte]; exact ⟨_, rfl⟩
    · simp only [Bool.not_true, Bool.false_eq_true, ↓reduceIte]
      exact ⟨_, rfl, ok.set k ⟨nofun, hty v List.mem_cons_self, by simpa using hall⟩, toHeld_set ..⟩
  | some e =>
    -- the batch must be of the type of the held values
    have he : EntryOK e := ok.2 _ (lookup_mem hl)
    obtain ⟨w, wrest, hw⟩ := List.exists_cons_of_ne_nil he.ne
    simp only [Option.map_some, Option.getD_some, Entry.add, hw, he.all w (hw ▸ List.mem_cons_self),
      decide_eq_true he.ty0, Bool.true_and, List.isEmpty_cons]
    cases hany : (v :: vrest).any (fun x => x.ty ≠ e.vtype)
    · simp only [Bool.false_eq_true, ↓reduceIte]
      refine ⟨_, rfl, ok.set k ⟨nofun, he.ty0, fun x hx => ?_⟩, toHeld_set ..⟩
      rcases List.mem_append.mp hx with hx | hx
      · exact he.all x (hw ▸ hx)
      · simpa using List.any_eq_false.mp hany x hx
    · rw [if_pos rfl]; exact ⟨_, rfl⟩

theorem batchSize_cons (k : Key) (vs : List Value) (rest) :
    batchSize ((k, vs) :: rest) = valuesSize vs + batchSize rest := by
  simp [batchSize]

theorem keyBytes_cons (k : Key) (vs : List Value) (rest) :
    keyBytes ((k, vs) :: rest) = k.length + keyBytes rest := by
  simp [keyBytes]

theorem added_eq (b : List (Key × List Value)) : ∀ a, a + batchSize b < W →
    b.foldl (fun a kv => add64 a (valuesSize kv.2)) a = a + batchSize b := by
  induction b with
  | nil => intro a _; rfl
  | cons kv rest ih =>
    intro a h
    obtain ⟨k, vs⟩ := kv
    rw [batchSize_cons, ← Nat.add_assoc] at h ⊢
    show rest.foldl _ (add64 a (valuesSize vs)) = _
    rw [add64_eq (Nat.lt_of_le_of_lt (Nat.le_add_right ..) h), ih _ h]

/-- `size` has the whole batch added already (`WriteMulti` adds optimistically); `r` is a
    residue the loop carries along unchanged -/
theorem writeLoop_spec (batch : List (Key × List Value)) : ∀ (s : Store) (size : Nat) (werr : Bool) (r : Nat),
    StoreOK s → ValidBatch batch → size = acct (toHeld s) + r + batchSize batch → size + keyBytes batch < W →
    ∃ s', writeLoop batch s size werr =
        (s', acct (storeBatch batch (toHeld s)) + r, werr || anyConflict batch (toHeld s)) ∧
      toHeld s' = storeBatch batch (toHeld s) ∧ StoreOK s' ∧
      acct (storeBatch batch (toHeld s)) ≤ acct (toHeld s) + batchSize batch + keyBytes batch := by
  induction batch with
  | nil =>
    intro s size werr r ok _ hs _
    exact ⟨s, by simp [writeLoop, storeBatch, anyConflict, hs, batchSize], rfl, ok, Nat.le_add_right ..⟩
  | cons kv rest ih =>
    intro s size werr r ok hv hs hb
    obtain ⟨k, vs⟩ := kv
    have hvs := hv (k, vs) List.mem_cons_self
    have hvr : ValidBatch rest := fun x hx => hv x (List.mem_cons_of_mem _ hx)
    rw [batchSize_cons] at hs ⊢
    rw [keyBytes_cons] at hb ⊢
    have hw := Store.write_spec ok k hvs.1 hvs.2
    simp only [storeBatch, anyConflict]
    cases hc : conflicts (toHeld s) k vs
    · -- stored; a new key is accounted
      rw [hc, if_neg nofun] at hw
      obtain ⟨s', hws, ok', hh⟩ := hw
      simp only [writeLoop, hws, Bool.false_eq_true, if_false, ← hh]
      have key : ∀ n size', n ≤ k.length → size' = size + n →
          acct (toHeld s') + valuesSize ((toHeld s).get k) =
            acct (toHeld s) + (valuesSize ((toHeld s).get k) + valuesSize vs) + n →
          ∃ s'', writeLoop rest s' size' werr =
              (s'', acct (storeBatch rest (toHeld s')) + r, werr || anyConflict rest (toHeld s')) ∧
            toHeld s'' = storeBatch rest (toHeld s') ∧ StoreOK s'' ∧
            acct (storeBatch rest (toHeld s')) ≤
              acct (toHeld s) + (valuesSize vs + batchSize rest) + (k.length + keyBytes rest) := by
        intro n size' hn hsz ha
        obtain ⟨s'', h1, h2, h3, h4⟩ := ih s' size' werr r ok' hvr (by omega) (by omega)
        exact ⟨s'', h1, h2, h3, by omega⟩
      have hacct := acct_set (toHeld s) k ((toHeld s).get k ++ vs)
      rw [valuesSize_append, toHeld_lookup, Option.isNone_map, ← hh] at hacct
      cases hn : (s.lookup k).isNone
      · rw [hn] at hacct
        exact key 0 size (Nat.zero_le _) rfl hacct
      · rw [hn] at hacct
        exact key k.length _ (Nat.le_refl _)
          (add64_eq (Nat.lt_of_le_of_lt (Nat.add_le_add_left (Nat.le_add_right ..) _) hb)) hacct
    · -- rejected for this key only: its bytes are taken back
      rw [hc, if_pos rfl] at hw
      obtain ⟨err, hws⟩ := hw
      simp only [writeLoop, hws, Bool.false_eq_true, if_false, if_true]
      have hsub : sub64 size (valuesSize vs) = acct (toHeld s) + r + batchSize rest :=
        sub64_of_add (by rw [hs, Nat.add_comm (valuesSize vs), ← Nat.add_assoc])
          (Nat.lt_of_le_of_lt (Nat.le_add_right ..) hb)
      obtain ⟨s'', h1, h2, h3, h4⟩ := ih s (sub64 size (valuesSize vs)) true r ok hvr hsub (by omega)
      exact ⟨s'', by rw [h1, Bool.or_true]; rfl, h2, h3, by omega⟩

theorem Entry.filter_values (e : Entry) (min max : Int) :
    (e.filter min max).values = (canon e.values).filter fun v => !(decide (min ≤ v.t) && decide (v.t ≤ max)) := by
  have : (if e.values.length > 1 then dedup e.values else e.values) = dedup e.values := by
    split
    · rfl
    · rw [dedup, if_pos (Nat.le_of_not_lt ‹_›)]
  rw [Entry.filter, this, dedup_eq_canon]; rfl

theorem deleteLoop_spec (min max : Int) (keys : List Key) : ∀ (s : Store) (size r : Nat),
    StoreOK s → size = acct (toHeld s) + r → size < W →
    ∃ s', deleteLoop min max keys s size = (s', acct (deleteKeys min max keys (toHeld s)) + r) ∧
      toHeld s' = deleteKeys min max keys (toHeld s) ∧ StoreOK s' ∧
      acct (deleteKeys min max keys (toHeld s)) ≤ acct (toHeld s) := by
  induction keys with
  | nil => intro s size r ok hs _; exact ⟨s, by rw [hs]; rfl, rfl, ok, Nat.le_refl _⟩
  | cons k rest ih =>
    intro s size r ok hs hW
    rw [deleteLoop, deleteKeys, Store.entry, toHeld_lookup]
    cases hl : s.lookup k with
    | none => exact ih s size r ok hs hW
    | some e =>
      have he := ok.2 _ (lookup_mem hl)
      have hlk : (toHeld s).lookup k = some e.values := by rw [toHeld_lookup, hl]; rfl
      simp only [Option.map_some, Entry.filter_values]
      -- the key goes, with its values
      have hrem : ∃ s', deleteLoop min max rest (s.remove k) (sub64 size (valuesSize e.values + k.length)) =
            (s', acct (deleteKeys min max rest ((toHeld s).remove k)) + r) ∧
          toHeld s' = deleteKeys min max rest ((toHeld s).remove k) ∧ StoreOK s' ∧
          acct (deleteKeys min max rest ((toHeld s).remove k)) ≤ acct (toHeld s) := by
        have hacct := acct_remove hlk (toHeld_keys s ▸ ok.1)
        rw [← toHeld_remove] at hacct ⊢
        have hsz : sub64 size (valuesSize e.values + k.length) = acct (toHeld (s.remove k)) + r :=
          sub64_of_add (by omega) hW
        obtain ⟨s', h1, h2, h3, h4⟩ := ih (s.remove k) _ r (ok.remove k) hsz (sub64_lt ..)
        exact ⟨s', h1, h2, h3, Nat.le_trans h4 (hacct ▸ Nat.le_trans (Nat.le_add_right ..) (Nat.le_add_right ..))⟩
      by_cases hfull : (decide (min = minInt64) && decide (max = maxInt64)) = true
      · rw [if_pos hfull, if_pos hfull]; exact hrem
      · rw [if_neg hfull, if_neg hfull]
        split
        · exact hrem
        · -- the key stays with the values outside the range
          rename_i hne
          have hsub : ∀ v ∈ (e.filter min max).values, v ∈ e.values := fun v hv => by
            rw [Entry.filter_values, ← dedup_eq_canon] at hv
            exact dedup_subset _ v (List.mem_filter.mp hv).1
          have hle : valuesSize (e.filter min max).values ≤ valuesSize e.values := by
            rw [Entry.filter_values, ← dedup_eq_canon]
            exact Nat.le_trans (valuesSize_sublist List.filter_sublist) (valuesSize_dedup_le _)
          have hacct := acct_set (toHeld s) k (e.filter min max).values
          simp only [Held.get, hlk, Option.getD_some, Option.isNone_some, Bool.false_eq_true, if_false,
            Nat.add_zero, ← toHeld_set] at hacct
          rw [← Entry.filter_values] at hne ⊢
          rw [← toHeld_set]
          have hsz : sub64 size (valuesSize e.values - valuesSize (e.filter min max).values) =
              acct (toHeld (s.set k (e.filter min max))) + r := sub64_of_add (by omega) hW
          obtain ⟨s', h1, h2, h3, h4⟩ := ih (s.set k (e.filter min max)) _ r
            (ok.set k (he.of_subset (fun h => hne (by rw [h]; rfl)) rfl hsub)) hsz (sub64_lt ..)
          exact ⟨s', h1, h2, h3, by omega⟩
end Influx.Cache
