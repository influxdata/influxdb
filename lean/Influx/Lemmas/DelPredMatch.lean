/-
  Lemmas.DelPredMatch — `Matches` on the key of a series in the domain `KeyOK`
  equals the reference evaluation `Spec.C16.evalPred`.
-/
import Influx.Lemmas.DelPredLoop
import Influx.Spec.C16

namespace Influx.Model.DelPred
open Influx.Spec.C16 (evalPred keyValue SeriesWF PredWF Tags)

/-- what `buildPredicateNode` makes of `ToDataType p` over the slot table `L` -/
def skel (L : List Bytes) : Pred → Option PNode
  | .rule k neq v => (L.idxOf? (specialKey k)).map fun i => .cmp newCache neq (.ref i) (.lit v)
  | .and l r =>
    match skel L l, skel L r with
    | some a, some b => some (.and newCache a b)
    | _, _ => none
  | .or l r =>
    match skel L l, skel L r with
    | some a, some b => some (.or newCache a b)
    | _, _ => none

theorem buildNode_toDataType (L : List Bytes) (p : Pred) : buildNode L (toDataType p) = skel L p := by
  induction p with
  | rule k neq v =>
    simp only [toDataType, buildNode, buildOperand, skel]
    cases L.idxOf? (specialKey k) <;> rfl
  | and l r ihl ihr =>
    rw [toDataType, buildNode, skel, ihl, ihr]
    cases skel L l <;> cases skel L r <;> rfl
  | or l r ihl ihr =>
    rw [toDataType, buildNode, skel, ihl, ihr]
    cases skel L l <;> cases skel L r <;> rfl

def predKeys : Pred → List Bytes
  | .rule k _ _ => [specialKey k]
  | .and l r => predKeys l ++ predKeys r
  | .or l r => predKeys l ++ predKeys r

theorem collectRefs_acc (d : DNode) (acc : List Bytes) : ∀ x, x ∈ acc → x ∈ collectRefs d acc := by
  induction d generalizing acc with
  | tagRef k =>
    intro x hx; rw [collectRefs]; split
    · exact hx
    · exact List.mem_append_left _ hx
  | strLit v => exact fun x hx => hx
  | cmp neq l r ihl ihr => exact fun x hx => ihr _ x (ihl _ x hx)
  | logical o l r ihl ihr => exact fun x hx => ihr _ x (ihl _ x hx)

theorem collectRefs_keys (p : Pred) (acc : List Bytes) :
    ∀ x, x ∈ predKeys p → x ∈ collectRefs (toDataType p) acc := by
  induction p generalizing acc with
  | rule k neq v =>
    intro x hx
    obtain rfl := List.mem_singleton.1 hx
    simp only [toDataType, collectRefs]
    split
    · next h => simpa using h
    · simp
  | and l r ihl ihr =>
    intro x hx
    show x ∈ collectRefs (toDataType r) (collectRefs (toDataType l) acc)
    rcases List.mem_append.1 hx with hx | hx
    · exact collectRefs_acc _ _ x (ihl acc x hx)
    · exact ihr _ x hx
  | or l r ihl ihr =>
    intro x hx
    show x ∈ collectRefs (toDataType r) (collectRefs (toDataType l) acc)
    rcases List.mem_append.1 hx with hx | hx
    · exact collectRefs_acc _ _ x (ihl acc x hx)
    · exact ihr _ x hx

theorem idxOf?_isSome_of_mem {L : List Bytes} {k : Bytes} (h : k ∈ L) : ∃ i, L.idxOf? k = some i :=
  Option.isSome_iff_exists.1 (by
    rw [List.idxOf?, List.findIdx?_isSome, List.any_eq_true]; exact ⟨k, h, beq_self_eq_true k⟩)

theorem skel_isSome (L : List Bytes) (p : Pred) (h : ∀ x, x ∈ predKeys p → x ∈ L) :
    ∃ n, skel L p = some n := by
  induction p with
  | rule k neq v =>
    obtain ⟨i, hi⟩ := idxOf?_isSome_of_mem (h (specialKey k) (List.mem_singleton.2 rfl))
    exact ⟨_, by rw [skel, hi]; rfl⟩
  | and l r ihl ihr =>
    obtain ⟨a, ha⟩ := ihl fun x hx => h x (List.mem_append_left _ hx)
    obtain ⟨b, hb⟩ := ihr fun x hx => h x (List.mem_append_right _ hx)
    exact ⟨_, by rw [skel, ha, hb]⟩
  | or l r ihl ihr =>
    obtain ⟨a, ha⟩ := ihl fun x hx => h x (List.mem_append_left _ hx)
    obtain ⟨b, hb⟩ := ihr fun x hx => h x (List.mem_append_right _ hx)
    exact ⟨_, by rw [skel, ha, hb]⟩

theorem skel_rule {L k neq v n} (h : skel L (.rule k neq v) = some n) :
    ∃ i, L.idxOf? (specialKey k) = some i ∧ n = .cmp newCache neq (.ref i) (.lit v) := by
  obtain ⟨i, hi, rfl⟩ := Option.map_eq_some_iff.1 h
  exact ⟨i, hi, rfl⟩

theorem skel_and {L l r n} (h : skel L (.and l r) = some n) :
    ∃ a b, skel L l = some a ∧ skel L r = some b ∧ n = .and newCache a b := by
  rw [skel] at h
  split at h
  · next a b ha hb => cases h; exact ⟨a, b, ha, hb, rfl⟩
  · cases h

theorem skel_or {L l r n} (h : skel L (.or l r) = some n) :
    ∃ a b, skel L l = some a ∧ skel L r = some b ∧ n = .or newCache a b := by
  rw [skel] at h
  split at h
  · next a b ha hb => cases h; exact ⟨a, b, ha, hb, rfl⟩
  · cases h

theorem skel_props (L : List Bytes) (p : Pred) (n : PNode) (h : skel L p = some n) :
    strip n = n ∧ WFn L.length n ∧ (∀ g, GenLE g n) := by
  induction p generalizing n with
  | rule k neq v =>
    obtain ⟨i, hi, rfl⟩ := skel_rule h
    exact ⟨rfl, ⟨idxOf?_lt hi, trivial⟩, Nat.zero_le⟩
  | and l r ihl ihr =>
    obtain ⟨a, b, ha, hb, rfl⟩ := skel_and h
    obtain ⟨a1, a2, a3⟩ := ihl a ha
    obtain ⟨b1, b2, b3⟩ := ihr b hb
    exact ⟨by rw [strip, a1, b1], ⟨a2, b2⟩, fun g => ⟨Nat.zero_le g, a3 g, b3 g⟩⟩
  | or l r ihl ihr =>
    obtain ⟨a, b, ha, hb, rfl⟩ := skel_or h
    obtain ⟨a1, a2, a3⟩ := ihl a ha
    obtain ⟨b1, b2, b3⟩ := ihr b hb
    exact ⟨by rw [strip, a1, b1], ⟨a2, b2⟩, fun g => ⟨Nat.zero_le g, a3 g, b3 g⟩⟩

theorem slot_replicate (n i : Nat) : slot (List.replicate n none) i = none := by
  rw [slot]
  split
  · next x h => cases (List.mem_replicate.1 (List.mem_of_getElem? h)).2
  · rfl

theorem eval3_allNone (L : List Bytes) (p : Pred) (n : PNode) (h : skel L p = some n) (k : Nat) :
    eval3 (List.replicate k none) n = .needMore := by
  induction p generalizing n with
  | rule key neq v =>
    obtain ⟨i, hi, rfl⟩ := skel_rule h
    simp only [eval3, opVal, slot_replicate, cmp3]
  | and l r ihl ihr =>
    obtain ⟨a, b, ha, hb, rfl⟩ := skel_and h
    rw [eval3, ihl a ha]; rfl
  | or l r ihl ihr =>
    obtain ⟨a, b, ha, hb, rfl⟩ := skel_or h
    rw [eval3, ihl a ha, ihr b hb]; rfl

theorem slot_finalVals (L : List Bytes) (ps : Tags) (vals : List (Option Bytes)) (k : Bytes) (i : Nat)
    (hlen : vals.length = L.length) (hnd : (ps.map (·.1)).Nodup) (hi : L.idxOf? k = some i) :
    slot (finalVals L vals ps) i =
      match ps.find? (fun t => t.1 = k) with
      | some t => some t.2
      | none => slot vals i := by
  induction ps generalizing vals with
  | nil => rfl
  | cons t ps ih =>
    obtain ⟨k', v'⟩ := t
    obtain ⟨hk', hnd'⟩ := List.nodup_cons.1 hnd
    rw [finalVals]
    split
    · next hj =>
      have hne : k' ≠ k := by intro e; rw [e, hi] at hj; cases hj
      rw [ih vals hlen hnd']
      simp [hne]
    · next j hj =>
      rw [ih (vals.set j (some v')) (by simpa using hlen) hnd']
      by_cases hkk : k' = k
      · subst hkk
        obtain rfl : i = j := Option.some.inj (hi.symm.trans hj)
        have hnot : ps.find? (fun t => t.1 = k') = none :=
          List.find?_eq_none.2 fun t ht e => hk' (List.mem_map.2 ⟨t, ht, by simpa using e⟩)
        simp [hnot, slot_set_eq _ _ _ (hlen ▸ idxOf?_lt hi)]
      · have hij : j ≠ i := fun e => hkk (idxOf?_inj hj (e ▸ hi))
        simp [hkk, slot_set_ne _ _ _ _ hij]

theorem find_seriesPairs (name : Bytes) (tags : Tags) (k : Bytes) (hname : name ≠ [])
    (hk0 : k ≠ [0]) (hkf : k ≠ fieldKey) :
    ((nonEmptyTags (seriesPairs name tags)).find? (fun t => t.1 = specialKey k)).map (·.2) =
      keyValue name tags k := by
  have hne : nonEmptyTags (seriesPairs name tags) = ([0], name) :: nonEmptyTags tags := by
    simp [nonEmptyTags, seriesPairs, hname]
  rw [hne]
  unfold keyValue specialKey
  by_cases hm : k = measurementKey
  · simp [hm]
  · simp only [hm, hkf, if_false]
    have : ¬ ([0] = k) := fun e => hk0 e.symm
    simp only [List.find?_cons, this, decide_false]
    simp only [nonEmptyTags, List.find?_filter]
    congr 2
    funext t
    simp [Bool.and_comm]

theorem eval3_final (L : List Bytes) (p : Pred) (n : PNode) (h : skel L p = some n)
    (name : Bytes) (tags : Tags) (hp : PredWF p = true) (hname : name ≠ [])
    (vals : List (Option Bytes))
    (hslot : ∀ k i, L.idxOf? k = some i →
      slot vals i = ((nonEmptyTags (seriesPairs name tags)).find? (fun t => t.1 = k)).map (·.2)) :
    (eval3 vals n = .true_) ↔ evalPred name tags p = true := by
  induction p generalizing n with
  | rule k neq v =>
    obtain ⟨i, hi, rfl⟩ := skel_rule h
    simp only [PredWF, Bool.and_eq_true, decide_eq_true_eq] at hp
    have := hslot _ i hi
    rw [find_seriesPairs name tags k hname hp.1 hp.2] at this
    simp only [eval3, opVal, this, evalPred]
    cases keyValue name tags k with
    | none => simp [cmp3]
    | some x =>
      simp only [cmp3, evalCmp, respOfBool]
      cases neq <;> by_cases hxv : x = v <;> simp [hxv]
  | and l r ihl ihr =>
    obtain ⟨a, b, ha, hb, rfl⟩ := skel_and h
    simp only [PredWF, Bool.and_eq_true] at hp
    rw [evalPred, Bool.and_eq_true, ← ihl a ha hp.1, ← ihr b hb hp.2, eval3]
    cases eval3 vals a <;> simp [and3]
  | or l r ihl ihr =>
    obtain ⟨a, b, ha, hb, rfl⟩ := skel_or h
    simp only [PredWF, Bool.and_eq_true] at hp
    rw [evalPred, Bool.or_eq_true, ← ihl a ha hp.1, ← ihr b hb hp.2, eval3]
    cases eval3 vals a <;> cases eval3 vals b <;> simp [or3]

/-- invariant of a matcher compiled from `p`, kept by every `Matches` call -/
structure MInv (p : Pred) (m : Matcher) : Prop where
  locs : m.locs = collectRefs (toDataType p) []
  len : m.values.length = m.locs.length
  shape : skel m.locs p = some (strip m.root)
  gens : GenLE m.gen m.root

theorem newMatcher_spec (p : Pred) : ∃ m, newMatcher (toDataType p) = some m ∧ MInv p m := by
  obtain ⟨n, hn⟩ := skel_isSome (collectRefs (toDataType p) []) p (collectRefs_keys p [])
  obtain ⟨h1, _, h3⟩ := skel_props _ p n hn
  refine ⟨{ gen := 1, locs := collectRefs (toDataType p) [], values := (collectRefs (toDataType p) []).map (fun _ => none), root := n }, ?_, ⟨rfl, by simp, by rw [h1]; exact hn, h3 1⟩⟩
  simp [newMatcher, buildNode_toDataType, hn]

theorem MInv.wf {p m} (h : MInv p m) : WFn m.values.length m.root := by
  rw [h.len]; exact (WFn_strip _ _).1 (skel_props _ p _ h.shape).2.1

theorem MInv.kept {p m m'} (h : MInv p m) (hk : Kept m m') : MInv p m' :=
  ⟨hk.locs.trans h.locs, by rw [hk.len, hk.locs]; exact h.len, by rw [hk.locs, hk.shape]; exact h.shape,
    hk.gens h.gens⟩

/-- the part of the theorem's domain that concerns the tags -/
def tagsOK (tags : Tags) : Bool :=
  tags.all fun t => t.2 == [] || (noTrailBs t.1 && noTrailBs t.2)

theorem pairsOK_of_tagsOK {tags : Tags} (h : tagsOK tags = true) : PairsOK tags := by
  intro k v hm hv
  have := List.all_eq_true.1 h (k, v) hm
  simpa [hv] using this

/-- **`Matches` of a matcher compiled from a well-formed predicate, on a well-formed series inside
    the domain, is the reference evaluation.** -/
theorem matches_spec (p : Pred) (m : Matcher) (hinv : MInv p m) (full name : Bytes) (tags : Tags)
    (hcut : cutFieldSep full = seriesKey name tags)
    (hp : PredWF p = true) (hs : SeriesWF name tags = true)
    (hnt : noTrailBs name = true) (h61 : 61 ∉ name) (htags : tagsOK tags = true) :
    ∃ m', m.matches full = some (evalPred name tags p, m') ∧ MInv p m' := by
  simp only [SeriesWF, Bool.and_eq_true, decide_eq_true_eq] at hs
  obtain ⟨⟨hname, hnd⟩, hk0⟩ := hs
  obtain ⟨b, m', hm, hk⟩ := matches_total m full hinv.wf
  refine ⟨m', ?_, hinv.kept hk⟩
  rw [hm]
  congr 2
  -- the pairs fed to the loop: the name without value, then the pairs of the series
  obtain ⟨t, hpops⟩ := pops_seriesKey ((seriesKey name tags).contains 92) name tags hname hnt h61
    (pairsOK_of_tagsOK htags) (fun h => by simpa using h)
  rw [matches_eq_feed, hcut, hpops] at hm
  have hvals : m.reset.values = List.replicate m.values.length none := List.map_const' ..
  have hnm : eval3 m.reset.values m.root = .needMore := by
    rw [hvals, ← eval3_strip]; exact eval3_allNone _ p _ hinv.shape _
  obtain ⟨m2, hname2, hk2, hg2, hv2, hc2⟩ := feed_name m.reset t _ _ hvals ((Kept.reset m).wf hinv.wf)
    (cacheOK_of_genLE _ _ hinv.gens) hnm
  have hinv2 := (hinv.kept (Kept.reset m)).kept hk2
  -- pending pairs: distinct keys, all slots empty
  have hndP : ((nonEmptyTags (seriesPairs name tags)).map (·.1)).Nodup := by
    refine (List.Sublist.map _ List.filter_sublist).nodup (List.nodup_cons.2 ⟨fun hm => ?_, hnd⟩)
    obtain ⟨t, ht, hte⟩ := List.mem_map.1 hm
    exact of_decide_eq_true (List.all_eq_true.1 hk0 t ht) hte
  have hslot0 : ∀ i, slot m2.values i = none := fun i => by rw [hv2, hvals]; exact slot_replicate _ _
  obtain ⟨m3, hf⟩ := feed_spec m2 _ hinv2.len hinv2.wf hc2
    (by rw [eval3_congr hk2.shape, hv2]; exact hnm) ⟨hndP, fun _ _ i _ _ => hslot0 i⟩
  rw [hname2, hf] at hm
  obtain rfl := congrArg Prod.fst (Option.some.inj hm)
  -- the final slots are the series
  have := eval3_final m2.locs p _ hinv2.shape name tags hp hname _ fun k i hi => by
    rw [slot_finalVals _ _ _ k i hinv2.len hndP hi, hslot0]
    cases (nonEmptyTags (seriesPairs name tags)).find? (fun t => decide (t.1 = k)) <;> rfl
  rw [eval3_strip] at this
  exact Bool.eq_iff_iff.2 (by simpa using this)

end Influx.Model.DelPred
