/-
  Lemmas.ValuesSearch — binary search, FindRange, Exclude, Include of Model.Values.
  The binary search finds the boundary between the keys below `v` and the others;
  on a sorted array that boundary cuts it into `l ++ r`, and all positions the
  functions compute are lengths of such prefixes.
-/
import Influx.Model.Values
namespace Influx.Values
variable {V : Type}

/-- nonstrict sortedness is enough for search -/
abbrev Sorted (a : List (Pt V)) : Prop := a.Pairwise (fun p q => p.1 ≤ q.1)
abbrev SSorted (a : List (Pt V)) : Prop := a.Pairwise (fun p q => p.1 < q.1)

theorem SSorted.sorted {a : List (Pt V)} (h : SSorted a) : Sorted a :=
  h.imp (fun h => Int.le_of_lt h)

theorem mid_bounds {lo hi : Nat} (h : lo < hi) : lo ≤ (lo + hi) / 2 ∧ (lo + hi) / 2 < hi :=
  ⟨(Nat.le_div_iff_mul_le Nat.zero_lt_two).mpr (Nat.mul_two lo ▸ Nat.add_le_add_left (Nat.le_of_lt h) lo),
   (Nat.div_lt_iff_lt_mul Nat.zero_lt_two).mpr (Nat.mul_two hi ▸ Nat.add_lt_add_right h hi)⟩

/-- the loop returns the boundary `c` of the keys below `v`, wherever it starts around it
    (sortedness is only needed for such a boundary to exist). -/
theorem searchLoop_eq (a : List (Pt V)) (v : Int) (c : Nat)
    (hc : ∀ i (h : i < a.length), a[i].1 < v ↔ i < c) (lo hi : Nat) (h : hi ≤ a.length)
    (hlo : lo ≤ c) (hhi : c ≤ hi) : searchLoop a v lo hi h = c := by
  fun_induction searchLoop a v lo hi h with
  | case1 lo hi h hlt mid hm ih => exact ih ((hc mid _).mp hm) hhi
  | case2 lo hi h hlt mid hm ih => exact ih hlo (Nat.le_of_not_lt (mt (hc mid _).mpr hm))
  | case3 lo hi h hlt => exact Nat.le_antisymm hlo (Nat.le_trans hhi (Nat.le_of_not_lt hlt))

theorem search_append (l r : List (Pt V)) (v : Int) (hl : ∀ p ∈ l, p.1 < v) (hr : ∀ p ∈ r, v ≤ p.1) :
    search (l ++ r) v = l.length := by
  refine searchLoop_eq _ v _ ?_ 0 _ _ (Nat.zero_le _) (by rw [List.length_append]; exact Nat.le_add_right _ _)
  intro i h
  by_cases hi : i < l.length
  · rw [List.getElem_append_left hi]
    exact iff_of_true (hl _ (List.getElem_mem hi)) hi
  · rw [List.getElem_append_right (Nat.le_of_not_lt hi)]
    exact iff_of_false (Int.not_lt.mpr (hr _ (List.getElem_mem _))) hi

theorem sorted_split {a : List (Pt V)} (hs : Sorted a) (v : Int) :
    ∃ l r, a = l ++ r ∧ (∀ p ∈ l, p.1 < v) ∧ (∀ p ∈ r, v ≤ p.1) := by
  induction a with
  | nil => exact ⟨[], [], rfl, fun _ h => absurd h List.not_mem_nil, fun _ h => absurd h List.not_mem_nil⟩
  | cons x a ih =>
    obtain ⟨hx, ha⟩ := List.pairwise_cons.mp hs
    by_cases h : x.1 < v
    · obtain ⟨l, r, rfl, hl, hr⟩ := ih ha
      exact ⟨x :: l, r, rfl, List.forall_mem_cons.mpr ⟨h, hl⟩, hr⟩
    · exact ⟨[], x :: a, rfl, fun _ h => absurd h List.not_mem_nil, List.forall_mem_cons.mpr
        ⟨Int.not_lt.mp h, fun p hp => Int.le_trans (Int.not_lt.mp h) (hx p hp)⟩⟩

theorem search_eq_countP (a : List (Pt V)) (v : Int) (hs : Sorted a) :
    search a v = a.countP (fun p => decide (p.1 < v)) := by
  obtain ⟨l, r, rfl, hl, hr⟩ := sorted_split hs v
  rw [search_append l r v hl hr, List.countP_append,
    List.countP_eq_length.mpr (fun p hp => decide_eq_true (hl p hp)),
    List.countP_eq_zero.mpr (fun p hp h => Int.not_lt.mpr (hr p hp) (of_decide_eq_true h)), Nat.add_zero]

theorem searchLoop_le (a : List (Pt V)) (v : Int) (lo hi : Nat) (h : hi ≤ a.length) (hle : lo ≤ hi) :
    searchLoop a v lo hi h ≤ hi := by
  fun_induction searchLoop a v lo hi h with
  | case1 lo hi h hlt mid hc ih => exact ih (mid_bounds hlt).2
  | case2 lo hi h hlt mid hc ih => exact Nat.le_trans (ih (mid_bounds hlt).1) (Nat.le_of_lt (mid_bounds hlt).2)
  | case3 lo hi h hlt => exact hle

theorem search_le_length (a : List (Pt V)) (v : Int) : search a v ≤ a.length :=
  searchLoop_le a v 0 a.length _ (Nat.zero_le _)

theorem bumpMax_of_length_le (a : List (Pt V)) (mx : Int) (n : Nat) (h : a.length ≤ n) : bumpMax a mx n = n :=
  dif_neg (Nat.not_lt.mpr h)

theorem bumpMax_append_cons (l r : List (Pt V)) (y : Pt V) (mx : Int) :
    bumpMax (l ++ y :: r) mx l.length = if y.1 = mx then l.length + 1 else l.length := by
  unfold bumpMax
  rw [dif_pos (by rw [List.length_append, List.length_cons]; exact Nat.lt_add_of_pos_right (Nat.succ_pos _)),
    List.getElem_append_right (Nat.le_refl _)]
  simp only [Nat.sub_self, List.getElem_cons_zero]

/-- on a strictly sorted array the `rmax++` adjustment turns the insertion position of `mx`
    into that of `mx + 1`: the upper end of the range is an insertion position too. -/
theorem bumpMax_search (a : List (Pt V)) (mx : Int) (hs : SSorted a) :
    bumpMax a mx (search a mx) = search a (mx + 1) := by
  obtain ⟨l, r, rfl, hl, hr⟩ := sorted_split hs.sorted mx
  have hl' : ∀ p ∈ l, p.1 < mx + 1 := fun p hp => Int.lt_add_one_of_le (Int.le_of_lt (hl p hp))
  rw [search_append l r mx hl hr]
  cases r with
  | nil =>
    rw [bumpMax_of_length_le _ _ _ (Nat.le_of_eq (congrArg _ (List.append_nil l))),
      search_append l [] _ hl' (fun _ h => absurd h List.not_mem_nil)]
  | cons y r =>
    have hy := (List.pairwise_cons.mp (List.pairwise_append.mp hs).2.1).1
    have hym := hr y List.mem_cons_self
    rw [bumpMax_append_cons]
    by_cases h : y.1 = mx
    · rw [if_pos h, List.append_cons, search_append (l ++ [y]) r, List.length_append]; rfl
      · intro p hp
        rcases List.mem_append.mp hp with hp | hp
        · exact hl' p hp
        · rw [List.mem_singleton.mp hp, h]; exact Int.lt_succ mx
      · intro p hp; exact Int.add_one_le_of_lt (h ▸ hy p hp)
    · rw [if_neg h, search_append l (y :: r) _ hl']
      have hy1 : mx + 1 ≤ y.1 := Int.add_one_le_iff.mpr (Int.lt_iff_le_and_ne.mpr ⟨hym, Ne.symm h⟩)
      exact List.forall_mem_cons.mpr ⟨hy1, fun p hp => Int.le_trans hy1 (Int.le_of_lt (hy p hp))⟩

/-- a strictly sorted array is the points below, inside and above `[mn, mx]`, and the two
    positions `Exclude`/`Include` compute are where the middle part begins and ends. -/
theorem range_split (a : List (Pt V)) (mn mx : Int) (hs : SSorted a) (hle : mn ≤ mx) :
    ∃ l m r, a = l ++ (m ++ r) ∧ (∀ p ∈ l, p.1 < mn) ∧ (∀ p ∈ m, mn ≤ p.1 ∧ p.1 ≤ mx) ∧
      (∀ p ∈ r, mx < p.1) ∧ search a mn = l.length ∧ bumpMax a mx (search a mx) = l.length + m.length := by
  rw [bumpMax_search a mx hs]
  obtain ⟨l, mr, rfl, hl, hmr⟩ := sorted_split hs.sorted mn
  obtain ⟨m, r, rfl, hm, hr⟩ := sorted_split (SSorted.sorted (List.pairwise_append.mp hs).2.1) (mx + 1)
  refine ⟨l, m, r, rfl, hl, fun p hp => ⟨hmr p (List.mem_append_left _ hp), Int.le_of_lt_add_one (hm p hp)⟩,
    fun p hp => Int.add_one_le_iff.mp (hr p hp), search_append l _ mn hl hmr, ?_⟩
  rw [← List.append_assoc, search_append (l ++ m) r _ ?_ hr, List.length_append]
  intro p hp
  rcases List.mem_append.mp hp with hp | hp
  · exact Int.lt_add_one_iff.mpr (Int.le_trans (Int.le_of_lt (hl p hp)) hle)
  · exact hm p hp

theorem sorted_head_le (a : List (Pt V)) (hs : Sorted a) (f : Pt V) (hf : a.head? = some f) :
    ∀ p ∈ a, f.1 ≤ p.1 := by
  cases a with
  | nil => cases hf
  | cons x r =>
    cases hf
    exact List.forall_mem_cons.mpr ⟨Int.le_refl _, (List.pairwise_cons.mp hs).1⟩

theorem sorted_le_getLast (a : List (Pt V)) (hs : Sorted a) (l : Pt V) (hl : a.getLast? = some l) :
    ∀ p ∈ a, p.1 ≤ l.1 := by
  obtain ⟨a, rfl⟩ := List.getLast?_eq_some_iff.mp hl
  exact List.forall_mem_append.mpr ⟨fun p hp => (List.pairwise_append.mp hs).2.2 p hp l (List.mem_singleton_self l),
    fun p hp => Int.le_of_eq (congrArg _ (List.mem_singleton.mp hp))⟩

theorem findRange_eq (a : List (Pt V)) (mn mx : Int) (hs : Sorted a) :
    findRange a mn mx =
      if a = [] ∨ mn > mx ∨ (∀ p ∈ a, p.1 < mn) ∨ (∀ p ∈ a, p.1 > mx) then none
      else some (search a mn, search a mx) := by
  unfold findRange
  split
  · next f l hf hl =>
    have hL := sorted_le_getLast a hs l hl
    have hF := sorted_head_le a hs f hf
    by_cases c1 : mn > mx
    · rw [if_pos c1, if_pos (Or.inr (Or.inl c1))]
    · rw [if_neg c1]
      by_cases c2 : l.1 < mn ∨ f.1 > mx
      · rw [if_pos c2, if_pos]
        exact Or.inr (Or.inr (c2.imp (fun h p hp => Int.lt_of_le_of_lt (hL p hp) h)
          (fun h p hp => Int.lt_of_lt_of_le h (hF p hp))))
      · rw [if_neg c2, if_neg]
        rintro (h | h | h | h)
        · subst h; cases hf
        · exact c1 h
        · exact c2 (Or.inl (h l (List.mem_of_getLast? hl)))
        · exact c2 (Or.inr (h f (List.mem_of_head? hf)))
  · next hnone =>
    cases a with
    | nil => rw [if_pos (Or.inl rfl)]
    | cons x r => exact (hnone x _ rfl (List.getLast?_eq_some_getLast (List.cons_ne_nil x r))).elim

theorem exclude_include_of_none (a : List (Pt V)) (mn mx : Int) (h : findRange a mn mx = none) :
    exclude a mn mx = some a ∧ «include» a mn mx = some [] := by
  unfold exclude «include»
  rw [h]
  exact ⟨rfl, rfl⟩

theorem exclude_of_some (a : List (Pt V)) (mn mx : Int) (rmin rmax : Nat)
    (h : findRange a mn mx = some (rmin, rmax)) (hle : rmin ≤ bumpMax a mx rmax)
    (hlen : bumpMax a mx rmax ≤ a.length) :
    exclude a mn mx = some (a.take rmin ++ a.drop (bumpMax a mx rmax)) := by
  unfold exclude
  rw [h]
  simp only
  by_cases hlt : rmax < a.length
  · rw [if_pos hlt]
    by_cases hrest : a.length - bumpMax a mx rmax > 0
    · rw [if_pos hrest, if_pos (Nat.le_trans (Nat.add_le_add_right hle _) (Nat.le_of_eq (Nat.add_sub_of_le hlen)))]
    · rw [if_neg hrest, List.drop_eq_nil_of_le (Nat.le_of_sub_eq_zero (Nat.eq_zero_of_not_pos hrest)),
        List.append_nil]
  · rw [if_neg hlt, bumpMax_of_length_le a mx rmax (Nat.le_of_not_lt hlt),
      List.drop_eq_nil_of_le (Nat.le_of_not_lt hlt), List.append_nil]

theorem include_of_some (a : List (Pt V)) (mn mx : Int) (rmin rmax : Nat)
    (h : findRange a mn mx = some (rmin, rmax)) (hle : rmin ≤ bumpMax a mx rmax) :
    «include» a mn mx = some ((a.drop rmin).take (bumpMax a mx rmax - rmin)) := by
  unfold «include»
  rw [h]
  exact if_pos hle

theorem filter_of_forall {α} (Q : α → Prop) [DecidablePred Q] (s : List α) (h : ∀ p ∈ s, Q p) :
    s.filter (fun p => decide (Q p)) = s ∧ s.filter (fun p => !decide (Q p)) = [] :=
  ⟨List.filter_eq_self.mpr (fun p hp => decide_eq_true (h p hp)),
   List.filter_eq_nil_iff.mpr (fun p hp => by rw [decide_eq_true (h p hp)]; exact Bool.false_ne_true)⟩

theorem filter_of_forall_not {α} (Q : α → Prop) [DecidablePred Q] (s : List α) (h : ∀ p ∈ s, ¬Q p) :
    s.filter (fun p => decide (Q p)) = [] ∧ s.filter (fun p => !decide (Q p)) = s :=
  ⟨List.filter_eq_nil_iff.mpr (fun p hp => by rw [decide_eq_false (h p hp)]; exact Bool.false_ne_true),
   List.filter_eq_self.mpr (fun p hp => by rw [decide_eq_false (h p hp)]; rfl)⟩

theorem filter_mid {α} (Q : α → Prop) [DecidablePred Q] (l m r : List α) (hl : ∀ p ∈ l, ¬Q p)
    (hm : ∀ p ∈ m, Q p) (hr : ∀ p ∈ r, ¬Q p) :
    (l ++ (m ++ r)).filter (fun p => decide (Q p)) = m ∧
      (l ++ (m ++ r)).filter (fun p => !decide (Q p)) = l ++ r := by
  rw [List.filter_append, List.filter_append, List.filter_append, List.filter_append,
    (filter_of_forall_not Q l hl).1, (filter_of_forall_not Q l hl).2, (filter_of_forall Q m hm).1,
    (filter_of_forall Q m hm).2, (filter_of_forall_not Q r hr).1, (filter_of_forall_not Q r hr).2]
  exact ⟨List.append_nil m, rfl⟩

/-- **Exclude removes exactly the points in `[mn, mx]`** (any `mn`, `mx`, also `mn > mx`),
    **Include keeps exactly those**: they are the outer parts and the middle part of `range_split`. -/
theorem exclude_include_eq_filter (a : List (Pt V)) (mn mx : Int) (hs : SSorted a) :
    exclude a mn mx = some (a.filter (fun p => !(decide (mn ≤ p.1) && decide (p.1 ≤ mx)))) ∧
    «include» a mn mx = some (a.filter (fun p => decide (mn ≤ p.1) && decide (p.1 ≤ mx))) := by
  simp only [← Bool.decide_and]
  have hfr := findRange_eq a mn mx hs.sorted
  by_cases hc : a = [] ∨ mn > mx ∨ (∀ p ∈ a, p.1 < mn) ∨ (∀ p ∈ a, p.1 > mx)
  · rw [if_pos hc] at hfr
    have hout : ∀ p ∈ a, ¬(mn ≤ p.1 ∧ p.1 ≤ mx) := by
      intro p hp c
      rcases hc with rfl | h | h | h
      · exact List.not_mem_nil hp
      · exact Int.not_lt.mpr (Int.le_trans c.1 c.2) h
      · exact Int.not_le.mpr (h p hp) c.1
      · exact Int.not_le.mpr (h p hp) c.2
    rw [(filter_of_forall_not _ a hout).1, (filter_of_forall_not _ a hout).2]
    exact exclude_include_of_none a mn mx hfr
  · rw [if_neg hc] at hfr
    have hle : mn ≤ mx := Int.not_lt.mp (fun h => hc (Or.inr (Or.inl h)))
    obtain ⟨l, m, r, rfl, hl, hm, hr, k1, k2⟩ := range_split a mn mx hs hle
    have hf := filter_mid (fun p : Pt V => mn ≤ p.1 ∧ p.1 ≤ mx) l m r
      (fun p hp c => Int.not_le.mpr (hl p hp) c.1) hm (fun p hp c => Int.not_le.mpr (hr p hp) c.2)
    have hord : search (l ++ (m ++ r)) mn ≤ bumpMax (l ++ (m ++ r)) mx (search (l ++ (m ++ r)) mx) := by
      rw [k1, k2]; exact Nat.le_add_right _ _
    rw [hf.1, hf.2]
    constructor
    · rw [exclude_of_some _ mn mx _ _ hfr hord
        (by rw [k2, List.length_append, List.length_append, ← Nat.add_assoc]; exact Nat.le_add_right _ _),
        k1, k2, List.take_left, ← List.length_append, ← List.append_assoc, List.drop_left]
    · rw [include_of_some _ mn mx _ _ hfr hord, k1, k2, List.drop_left, Nat.add_sub_cancel_left, List.take_left]

end Influx.Values
