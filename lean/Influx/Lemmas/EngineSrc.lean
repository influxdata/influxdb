/-
  Lemmas.EngineSrc — provenance: every point the engine model holds anywhere (hot store, snapshot
  store, TSM files, tmp file, WAL records) was put there by a write operation.  Holds for EVERY
  operation of the model, without any hypothesis (also through F1/F18 histories, torn crashes,
  non-contiguous compactions): "nothing that was never written appears".
-/
import Influx.Lemmas.EngineCrash

namespace Influx.Model.Engine

def recEntries : WalEntry → Log
  | .write es => es
  | .delRange .. => []

def walEntries (segs : List Segment) : Log := (segRecs segs).flatMap recEntries

def filesData (fs : List TsmFile) : Log := fs.flatMap (·.data)

def State.entries (s : State) : Log :=
  s.hot ++ s.snap ++ filesData s.files ++ filesData s.snapTmp.toList ++ walEntries s.wal

def Src (s : State) (W : Log) : Prop := ∀ e ∈ s.entries, e ∈ W

theorem src_iff (s : State) (W : Log) :
    Src s W ↔ (∀ e ∈ s.hot, e ∈ W) ∧ (∀ e ∈ s.snap, e ∈ W) ∧ (∀ e ∈ filesData s.files, e ∈ W) ∧
      (∀ e ∈ filesData s.snapTmp.toList, e ∈ W) ∧ (∀ e ∈ walEntries s.wal, e ∈ W) := by
  simp only [Src, State.entries, List.forall_mem_append, and_assoc]

theorem Src.mono {s : State} {W W' : Log} (h : Src s W) (hw : ∀ e ∈ W, e ∈ W') : Src s W' :=
  fun e he => hw e (h e he)

theorem mem_canon {l : Log} {e : Entry} (h : e ∈ l.canon) : e ∈ l := by
  rw [Log.canon_eq, List.mem_flatMap] at h
  obtain ⟨k, _, hk⟩ := h
  simp only [chunk, List.mem_map] at hk
  obtain ⟨p, hp, rfl⟩ := hk
  have : (p.1, p.2) ∈ Log.values l k := hp
  exact Log.get_some_mem ((Log.mem_values l k p.1 p.2).mp this)

theorem mem_live {f : TsmFile} {e : Entry} (h : e ∈ f.live) : e ∈ f.data :=
  (List.mem_filter.mp h).1

theorem mem_filesLog {fs : List TsmFile} {e : Entry} (h : e ∈ filesLog fs) : e ∈ filesData fs := by
  simp only [filesLog, filesData, List.mem_flatMap] at h ⊢
  obtain ⟨f, hf, he⟩ := h
  exact ⟨f, hf, mem_live he⟩

theorem mem_filesData {fs : List TsmFile} {e : Entry} : e ∈ filesData fs ↔ ∃ f ∈ fs, e ∈ f.data := by
  simp [filesData, List.mem_flatMap]

theorem filesData_compactOut {grp : List TsmFile} {e : Entry} (h : e ∈ filesData (compactOut grp)) :
    e ∈ filesData grp := by
  unfold compactOut at h
  by_cases hc : (filesLog grp).canon.isEmpty = true
  · simp [hc, filesData] at h
  · simp only [hc, Bool.false_eq_true, if_false, filesData, List.flatMap_cons, List.flatMap_nil,
      List.append_nil] at h
    exact mem_filesLog (mem_canon h)

theorem filesData_sub {a b : List TsmFile} (h : ∀ f ∈ a, f ∈ b) {e : Entry} (he : e ∈ filesData a) :
    e ∈ filesData b := by
  obtain ⟨f, hf, hd⟩ := mem_filesData.mp he
  exact mem_filesData.mpr ⟨f, h f hf, hd⟩

theorem groupOf_sub (fs : List TsmFile) (i j : Nat) : ∀ f ∈ groupOf fs i j, f ∈ fs := fun _ hf =>
  List.mem_of_mem_drop (List.mem_of_mem_take hf)

theorem filesData_append (a b : List TsmFile) : filesData (a ++ b) = filesData a ++ filesData b := by
  simp [filesData]

theorem filesData_compactFiles {fs : List TsmFile} {i j : Nat} {e : Entry}
    (h : e ∈ filesData (compactFiles fs i j)) : e ∈ filesData fs := by
  simp only [compactFiles, filesData_append, List.mem_append] at h
  rcases h with (h | h) | h
  · exact filesData_sub (fun f hf => List.mem_of_mem_take hf) h
  · exact filesData_sub (groupOf_sub fs i j) (filesData_compactOut h)
  · exact filesData_sub (fun f hf => List.mem_of_mem_drop hf) h

theorem filesData_compactCrashFiles {fs : List TsmFile} {i j : Nat} {pt : CPoint} {n : Nat} {e : Entry}
    (h : e ∈ filesData (compactCrashFiles fs i j pt n)) : e ∈ filesData fs := by
  have hgrp : ∀ {e}, e ∈ filesData (groupOf fs i j) → e ∈ filesData fs :=
    fun h => filesData_sub (groupOf_sub fs i j) h
  rcases compactCrashFiles_cases fs i j pt n with he | he | ⟨m, he⟩ <;> rw [he] at h
  · exact h
  · exact filesData_compactFiles h
  · simp only [filesData_append, List.mem_append] at h
    rcases h with ((h | h) | h) | h
    · exact filesData_sub (fun f hf => List.mem_of_mem_take hf) h
    · exact hgrp (filesData_sub (fun f hf => List.mem_of_mem_drop hf) h)
    · exact hgrp (filesData_compactOut h)
    · exact filesData_sub (fun f hf => List.mem_of_mem_drop hf) h
theorem filesData_compactSetFiles {fs : List TsmFile} {idxs : List Nat} {e : Entry}
    (h : e ∈ filesData (compactSetFiles fs idxs)) : e ∈ filesData fs := by
  unfold compactSetFiles at h
  simp only [filesData, List.mem_flatMap] at h
  obtain ⟨f, hf, he⟩ := h
  obtain ⟨p, hp, hfp⟩ := hf
  have hzip : ∀ q ∈ fs.zipIdx, q.1 ∈ fs := by
    intro q hq
    have := List.mem_map_of_mem (f := Prod.fst) hq
    simpa using this
  have hpmem : p.1 ∈ fs := hzip p hp
  split at hfp
  · have : e ∈ filesData (compactOut ((fs.zipIdx.filter fun p => idxs.contains p.2).map (·.1))) :=
      mem_filesData.mpr ⟨f, hfp, he⟩
    apply filesData_sub _ (filesData_compactOut this)
    intro g hg
    obtain ⟨q, hq, rfl⟩ := List.mem_map.mp hg
    exact hzip q (List.mem_filter.mp hq).1
  · split at hfp
    · cases hfp
    · simp only [List.mem_singleton] at hfp
      subst hfp
      exact mem_filesData.mpr ⟨p.1, hpmem, he⟩

theorem filesData_addTomb (ss : List Nat) (lo hi : Int) (fs : List TsmFile) :
    filesData (fs.map (addTomb ss lo hi)) = filesData fs := by
  induction fs with
  | nil => rfl
  | cons f fs ih =>
    simp only [filesData, List.map_cons, List.flatMap_cons] at ih ⊢
    rw [ih]
    congr 1
    unfold addTomb; split <;> rfl

theorem walEntries_append (a b : List Segment) : walEntries (a ++ b) = walEntries a ++ walEntries b := by
  simp [walEntries, segRecs_append]

theorem mem_applyAll {c : Log} {rs : List WalEntry} {e : Entry} (h : e ∈ applyAll c rs) :
    e ∈ c ∨ e ∈ rs.flatMap recEntries := by
  induction rs generalizing c with
  | nil => exact Or.inl h
  | cons r rs ih =>
    have h' : e ∈ applyAll (applyWalEntry c r) rs := h
    rcases ih h' with h1 | h1
    · cases r with
      | write es =>
        simp only [applyWalEntry, List.mem_append] at h1
        rcases h1 with h1 | h1
        · exact Or.inl h1
        · exact Or.inr (by simp [recEntries, h1])
      | delRange keys lo hi =>
        simp only [applyWalEntry] at h1
        exact Or.inl (List.mem_filter.mp h1).1
    · exact Or.inr (by simp only [List.flatMap_cons, List.mem_append]; exact Or.inr h1)

theorem mem_replay {segs : List Segment} {e : Entry} (h : e ∈ replay segs) : e ∈ walEntries segs := by
  rcases mem_applyAll (c := []) h with h | h
  · cases h
  · exact h

theorem walEntries_sub {a b : List Segment} (h : ∀ g ∈ a, g ∈ b) {e : Entry} (he : e ∈ walEntries a) :
    e ∈ walEntries b := by
  simp only [walEntries, segRecs, List.mem_flatMap] at he ⊢
  obtain ⟨r, ⟨g, hg, hr⟩, her⟩ := he
  exact ⟨r, ⟨g, h g hg, hr⟩, her⟩

theorem segRecs_wal_walAppend (s : State) (r : WalEntry) :
    segRecs (walAppend s r).wal = segRecs s.wal ++ [r] := by
  simp only [State.wal, segRecs_append]
  have := curRecs_appendCur s.walCur s.nextSeg r
  simp only [curRecs] at this
  show segRecs s.walClosed ++ segRecs (some (appendCur s.walCur s.nextSeg r).1).toList = _
  rw [this, List.append_assoc]

theorem walEntries_walAppend (s : State) (r : WalEntry) :
    walEntries (walAppend s r).wal = walEntries s.wal ++ recEntries r := by
  simp [walEntries, segRecs_wal_walAppend]

theorem walEntries_walClose (s : State) : walEntries (walCloseSegment s).wal = walEntries s.wal := by
  rcases walClose_cases s with ⟨he, _⟩ | he <;> rw [he]
  simp [State.wal, walEntries, segRecs]

theorem walEntries_dropLastRec {closed : List Segment} {cur : Option Segment} {e : Entry}
    (h : e ∈ walEntries (closed ++ (dropLastRec cur).toList)) : e ∈ walEntries (closed ++ cur.toList) := by
  rw [walEntries_append, List.mem_append] at h ⊢
  rcases h with h | h
  · exact Or.inl h
  · right
    cases cur with
    | none => exact h
    | some c =>
      simp only [dropLastRec, Option.toList_some, walEntries, segRecs, List.flatMap_cons, List.flatMap_nil,
        List.append_nil, List.mem_flatMap] at h ⊢
      obtain ⟨r, hr, he⟩ := h
      exact ⟨r, (List.dropLast_sublist _).subset hr, he⟩

theorem src_openWith {s : State} {W : Log} (fs : List TsmFile) (segs : List Segment)
    (hf : ∀ e ∈ filesData fs, e ∈ W) (hw : ∀ e ∈ walEntries segs, e ∈ W) : Src (openWith s fs segs) W := by
  have hsub : ∀ e ∈ walEntries (segs.filter fun g => !g.recs.isEmpty), e ∈ W :=
    fun e he => hw e (walEntries_sub (fun g hg => (List.mem_filter.mp hg).1) he)
  rw [src_iff]
  refine ⟨fun e he => hsub e (mem_replay he), (fun e he => by cases he), hf, (fun e he => by cases he), ?_⟩
  intro e he
  have : (openWith s fs segs).wal = segs.filter fun g => !g.recs.isEmpty := by
    simp only [openWith, State.wal]; exact dropLast_append_getLast? _
  rw [this] at he
  exact hsub e he

theorem src_touch {s : State} {W : Log} (h : Src s W) : Src s.touch W := h

theorem src_stepSnapBegin {s : State} {W : Log} (h : Src s W) : Src (stepSnapBegin s).1 W := by
  obtain ⟨h1, h2, h3, h4, h5⟩ := (src_iff s W).mp h
  rw [← walEntries_walClose s] at h5
  have hclose : Src (walCloseSegment s) W := (src_iff _ W).mpr ⟨h1, h2, h3, h4, h5⟩
  unfold stepSnapBegin
  cases s.phase <;> simp only
  case idle => exact (src_iff _ W).mpr ⟨fun _ he => absurd he List.not_mem_nil, h1, h3, h4, h5⟩
  case replaced | cleared => exact src_touch h
  all_goals exact hclose

theorem src_stepSnapStep {s : State} {W : Log} (h : Src s W) : Src (stepSnapStep s) W := by
  obtain ⟨h1, h2, h3, h4, h5⟩ := (src_iff s W).mp h
  unfold stepSnapStep
  cases s.phase <;> simp only
  case idle | failed => exact h
  case begun =>
    split
    · exact h
    · refine (src_iff _ W).mpr ⟨h1, h2, h3, fun e he => ?_, h5⟩
      rw [Option.toList_some, filesData, List.flatMap_cons, List.flatMap_nil, List.append_nil] at he
      exact h2 e (mem_canon he)
  case written =>
    refine (src_iff _ W).mpr ⟨h1, h2, fun e he => ?_, fun _ he => absurd he List.not_mem_nil, h5⟩
    rw [filesData_append, List.mem_append] at he
    exact he.elim (h3 e) (h4 e)
  case replaced => exact (src_iff _ W).mpr ⟨h1, fun _ he => absurd he List.not_mem_nil, h3, h4, h5⟩
  case cleared =>
    refine (src_iff _ W).mpr ⟨h1, h2, h3, h4, fun e he => h5 e ?_⟩
    rw [State.wal, walEntries_append, List.mem_append] at he ⊢
    exact he.imp_left (walEntries_sub fun g hg => (List.mem_filter.mp hg).1)

theorem src_stepSnapFail {s : State} {W : Log} (h : Src s W) : Src (stepSnapFail s).1 W := by
  rcases stepSnapFail_cases s with he | ⟨he, _, _⟩ | ⟨he, _⟩
  · rw [he]; exact src_touch h
  · rw [he]; exact src_stepSnapBegin h
  · rw [he]; exact src_stepSnapBegin h

theorem src_files {s : State} {W : Log} (h : Src s W) (fs : List TsmFile)
    (hf : ∀ e ∈ filesData fs, e ∈ filesData s.files) :
    Src ({ s with files := fs, lastRec := false } : State) W := by
  obtain ⟨h1, h2, h3, h4, h5⟩ := (src_iff s W).mp h
  rw [src_iff]
  exact ⟨h1, h2, fun e he => h3 e (hf e he), h4, h5⟩

theorem walEntries_of_fields {a b : State} (h1 : a.walClosed = b.walClosed) (h2 : a.walCur = b.walCur) :
    walEntries a.wal = walEntries b.wal := by
  simp only [State.wal, h1, h2]

theorem walEntries_stepDelete {s : State} {ss : List Nat} {lo hi : Int} {e : Entry}
    (h : e ∈ walEntries (stepDelete s ss lo hi).wal) : e ∈ walEntries s.wal := by
  cases hk : (hotKeys s.hot ss).isEmpty
  case true => rw [stepDelete_eq_noKeys hk] at h; exact h
  case false =>
    have h' : e ∈ walEntries (walAppend s (.delRange (hotKeys s.hot ss) lo hi)).wal := by
      rw [stepDelete_eq_keys hk] at h; exact h
    rw [walEntries_walAppend] at h'
    exact (List.mem_append.mp h').resolve_right List.not_mem_nil

theorem src_step {s : State} {W : Log} (h : Src s W) (op : Op) :
    Src (step s op).1 (W ++ (match op with | .write es => es | _ => [])) := by
  obtain ⟨h1, h2, h3, h4, h5⟩ := (src_iff s W).mp h
  have up : ∀ {s' : State} {l : Log}, Src s' W → Src s' (W ++ l) :=
    fun h' => h'.mono fun _ he => List.mem_append_left _ he
  cases op with
  | write es =>
    refine (src_iff (stepWrite s es) (W ++ es)).mpr ⟨fun e he => ?_, fun e he => List.mem_append_left _ (h2 e he),
      fun e he => List.mem_append_left _ (h3 e he), fun e he => List.mem_append_left _ (h4 e he), fun e he => ?_⟩
    · have he' : e ∈ s.hot ++ es := he
      exact List.mem_append.mpr ((List.mem_append.mp he').imp_left (h1 e))
    · have he' : e ∈ walEntries (walAppend { s with hot := s.hot ++ es } (.write es)).wal := he
      rw [walEntries_walAppend] at he'
      exact List.mem_append.mpr ((List.mem_append.mp he').imp_left (h5 e))
  | delete ss lo hi =>
    refine up ?_
    cases hb : commitLocked s.phase
    case true => rw [step_delete_blocked hb]; exact src_touch h
    case false =>
      rw [step_delete_ok hb]
      obtain ⟨hf, hh, hs, _, ht⟩ := stepDelete_fields s ss lo hi
      rw [src_iff, hf, hh, hs, ht, filesData_addTomb]
      exact ⟨fun e he => h1 e (List.mem_filter.mp he).1, h2, h3, h4, fun e he => h5 e (walEntries_stepDelete he)⟩
  | snapBegin => exact up (src_stepSnapBegin h)
  | snapFail => exact up (src_stepSnapFail h)
  | snapStep => exact up (src_touch (src_stepSnapStep h))
  | snapTo p => exact up (src_touch (stepSnapTo_ind (P := (Src · W)) (fun _ => src_stepSnapStep) h p))
  | compact i j =>
    refine up ?_
    cases hv : validGroup s.files i j
    case true => rw [step_compact_valid hv]; exact src_files h _ fun e he => filesData_compactFiles he
    case false => rw [step_compact_bad hv]; exact src_touch h
  | compactSet idxs => exact up (src_files h _ fun e he => filesData_compactSetFiles he)
  | read | files => exact up (src_touch h)
  | crash tear =>
    refine up (src_openWith _ _ h3 fun e he => ?_)
    split at he
    · exact h5 e (walEntries_dropLastRec he)
    · exact h5 e he
  | compactCrash i j pt n =>
    refine up (src_openWith _ _ (fun e he => ?_) h5)
    split at he
    · exact h3 e (filesData_compactCrashFiles he)
    · exact h3 e he
  | deleteCrash ss lo hi =>
    refine up ?_
    cases hb : commitLocked s.phase
    case true => rw [step_deleteCrash_blocked hb]; exact src_touch h
    case false =>
      rw [step_deleteCrash_ok hb]
      exact src_openWith _ _ (fun e he => h3 e (by rwa [filesData_addTomb] at he)) h5

theorem read_row_stored (s : State) (k : Key) (lo hi : Int) (asc : Bool) (p : Pt)
    (hp : p ∈ s.read k lo hi asc) : (⟨k, p.1, p.2⟩ : Entry) ∈ s.entries := by
  have := ((s.mem_read k lo hi asc p).mp hp).2
  have hm := Log.get_some_mem this
  simp only [State.allLog, List.mem_append] at hm
  simp only [State.entries, List.mem_append]
  rcases hm with (hm | hm) | hm
  · exact Or.inl (Or.inl (Or.inr (mem_filesLog hm)))
  · exact Or.inl (Or.inl (Or.inl (Or.inr hm)))
  · exact Or.inl (Or.inl (Or.inl (Or.inl hm)))

end Influx.Model.Engine
