/-
  Lemmas.Check — helper lemmas about Model/Check.lean and Spec/C33.lean: the
  aggregation loop, the sort being a permutation, firstFailureMessage, what a
  request answers as a function of the answers it read (`respond`), and the
  concurrent statement checker's `lastDone` / `mayBe`.
-/
import Influx.Spec.C33
namespace Influx.CheckM
open Influx.Spec.C33

theorem pass_ne_fail : pass ≠ fail := by decide

/-- the repaired aggregation: "fail" exactly when some check fails -/
theorem overall_fail_iff (rs : List Res) : overall rs = fail ↔ ∃ r ∈ rs, r.status = fail := by
  suffices ∀ o, rs.foldl (fun o r => if r.status ≠ pass ∧ o ≠ fail then r.status else o) o = fail ↔
      (o = fail ∨ ∃ r ∈ rs, r.status = fail) from
    (this pass).trans (or_iff_right pass_ne_fail)
  induction rs with
  | nil => intro o; simp only [List.foldl_nil, List.not_mem_nil, false_and, exists_false, or_false]
  | cons r rs ih =>
    intro o
    rw [List.foldl_cons, ih]
    simp only [List.mem_cons, exists_eq_or_imp, ← or_assoc]
    refine or_congr_left ?_
    by_cases ho : o = fail
    · rw [if_neg (fun h => h.2 ho)]; exact ⟨Or.inl, fun _ => ho⟩
    · by_cases hr : r.status = pass
      · rw [if_neg (fun h => h.1 hr), hr]; exact ⟨Or.inl, fun h => h.resolve_right pass_ne_fail⟩
      · rw [if_pos ⟨hr, ho⟩]; exact ⟨Or.inr, fun h => h.resolve_left ho⟩

theorem overall_pass (rs : List Res) (h : ∀ r ∈ rs, r.status = pass) : overall rs = pass := by
  suffices ∀ o, rs.foldl (fun o r => if r.status ≠ pass ∧ o ≠ fail then r.status else o) o = o from this pass
  induction rs with
  | nil => intro o; rfl
  | cons r rs ih =>
    intro o
    rw [List.foldl_cons, if_neg (fun h' => h'.1 (h r List.mem_cons_self))]
    exact ih (fun x hx => h x (List.mem_cons_of_mem _ hx)) o

theorem no_fail_of_pass {rs : List Res} (h : ∀ r ∈ rs, r.status = pass) : ¬ ∃ r ∈ rs, r.status = fail :=
  fun ⟨r, hr, hf⟩ => pass_ne_fail ((h r hr).symm.trans hf)

theorem exists_fail_answers {cs : List Cell} :
    (∃ r ∈ answers cs, r.status = fail) ↔ ∃ c ∈ cs, c.res.status = fail := by
  constructor
  · rintro ⟨_, hr, hf⟩
    obtain ⟨c, hc, rfl⟩ := List.mem_map.1 hr
    exact ⟨c, hc, hf⟩
  · rintro ⟨c, hc, hf⟩
    exact ⟨c.res, List.mem_map_of_mem hc, hf⟩

theorem insertRes_perm (x : Res) (l : List Res) : (insertRes x l).Perm (x :: l) := by
  induction l with
  | nil => exact List.Perm.refl _
  | cons y ys ih =>
    unfold insertRes
    split
    · exact List.Perm.refl _
    · exact (List.Perm.cons y ih).trans (List.Perm.swap x y ys)

theorem sortRes_perm (rs : List Res) : (sortRes rs).Perm rs := by
  suffices ∀ acc, (rs.foldl (fun acc r => insertRes r acc) acc).Perm (acc ++ rs) from this []
  induction rs with
  | nil => intro acc; rw [List.append_nil]; exact List.Perm.refl _
  | cons r rs ih =>
    intro acc
    exact ((ih _).trans (List.Perm.append_right rs (insertRes_perm r acc))).trans List.perm_middle.symm

theorem failingChecks_sortRes_perm (rs : List Res) :
    (failingChecks (sortRes rs)).Perm (rs.filter (·.status == fail)) :=
  (sortRes_perm rs).filter _

theorem firstFailing_eq (l : List Res) (h : ∃ r ∈ l, r.status = fail) :
    firstFailing l = some (firstFailureMessage l) := by
  induction l with
  | nil => obtain ⟨_, hr, _⟩ := h; cases hr
  | cons r rs ih =>
    unfold firstFailing firstFailureMessage
    by_cases hr : r.status = fail
    · rw [if_pos (beq_iff_eq.2 hr), if_pos hr]
      by_cases hm : r.msg = ""
      · rw [if_pos (beq_iff_eq.2 hm), if_neg (fun h' => h' hm)]; rfl
      · rw [if_neg (fun h' => hm (beq_iff_eq.1 h')), if_pos hm]
    · rw [if_neg (fun h' => hr (beq_iff_eq.1 h')), if_neg hr]
      obtain ⟨x, hx, hf⟩ := h
      rcases List.mem_cons.1 hx with rfl | hx
      · exact absurd hf hr
      · exact ih ⟨x, hx, hf⟩

theorem respond_fail {got : List Res} (h : ∃ r ∈ got, r.status = fail) :
    respond got = ⟨503, "starting", failingChecks (sortRes got)⟩ :=
  if_pos ((overall_fail_iff got).2 h)

theorem respond_ok {got : List Res} (h : ¬ ∃ r ∈ got, r.status = fail) :
    respond got = ⟨200, "ready", []⟩ :=
  if_neg (mt (overall_fail_iff got).1 h)

theorem allPass_iff (rs : List Res) : allPass rs = true ↔ ∀ r ∈ rs, r.status = pass := by
  simp only [allPass, List.all_eq_true, beq_iff_eq]

theorem anyFail_iff (rs : List Res) : anyFail rs = true ↔ ∃ r ∈ rs, r.status = fail := by
  simp only [anyFail, List.any_eq_true, beq_iff_eq]

theorem readyOK_respond (got : List Res) :
    readyOK got ⟨(respond got).code, (respond got).checks⟩ = true := by
  unfold readyOK
  by_cases h : ∃ r ∈ got, r.status = fail
  · have hp : allPass got = false := Bool.eq_false_iff.2 fun hp => no_fail_of_pass ((allPass_iff got).1 hp) h
    rw [respond_fail h, hp, (anyFail_iff got).2 h, List.isPerm_iff.2 (failingChecks_sortRes_perm got)]
    rfl
  · rw [respond_ok h, Bool.eq_false_iff.2 (mt (anyFail_iff got).1 h)]
    simp only [beq_self_eq_true, List.isEmpty_nil, Bool.and_self, Bool.or_true, Bool.not_false, Bool.true_or]
end Influx.CheckM

namespace Influx.Props.C33
open Influx.CheckM Influx.Spec.C33

/-- `lastDone ws rinv` is the least upper bound of the starts of the writes that were over before `rinv` -/
theorem lastDone_le_iff (ws : List W) (rinv b : Nat) :
    lastDone ws rinv ≤ b ↔ ∀ w ∈ ws, w.res < rinv → w.inv ≤ b := by
  suffices ∀ m0, ws.foldl (fun m w => if w.res < rinv then max m w.inv else m) m0 ≤ b ↔
      m0 ≤ b ∧ ∀ w ∈ ws, w.res < rinv → w.inv ≤ b from
    (this 0).trans (and_iff_right (Nat.zero_le b))
  induction ws with
  | nil => intro m0; simp only [List.foldl_nil, List.not_mem_nil, false_imp_iff, implies_true, and_true]
  | cons w ws ih =>
    intro m0
    rw [List.foldl_cons, ih, List.forall_mem_cons, ← and_assoc]
    refine and_congr_left fun _ => ?_
    by_cases hw : w.res < rinv
    · rw [if_pos hw, Nat.max_le]; exact and_congr_right fun _ => ⟨fun h _ => h, fun h => h hw⟩
    · rw [if_neg hw]; exact ⟨fun h => ⟨h, fun h' => absurd h' hw⟩, And.left⟩

theorem lastDone_ge (ws : List W) (rinv : Nat) (w' : W) (hw : w' ∈ ws) (hr : w'.res < rinv) :
    w'.inv ≤ lastDone ws rinv :=
  (lastDone_le_iff ws rinv _).1 (Nat.le_refl _) w' hw hr

theorem mayBe_iff (ws : List W) (rinv rres : Nat) (v : Bool) :
    mayBe ws rinv rres v = true ↔
      ∃ w ∈ ws, w.val = v ∧ w.inv < rres ∧ ∀ w' ∈ ws, w'.res < rinv → w'.inv ≤ w.res := by
  simp only [mayBe, List.any_eq_true, Bool.and_eq_true, beq_iff_eq, decide_eq_true_eq, Bool.not_eq_true',
    decide_eq_false_iff_not, Nat.not_lt, lastDone_le_iff, and_assoc]
end Influx.Props.C33
