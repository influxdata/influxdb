/-
  Lemmas.FieldC40 — the model's write, seen through the statement checker of
  C40; invariant of the C40 model state; every operation is accepted by the
  checker (used by Props.C40).
-/
import Influx.Lemmas.FieldVerdicts
import Influx.Spec.C40

namespace Influx.Fields
open Influx.Spec.C40

/-- data of the accepted points of a verdict list, in order -/
def accE (V : List (Point × VRes)) : Store :=
  (V.filter (fun pv => pv.2.accepted)).flatMap (fun pv => pointEntries pv.1)
/-- data of all points of a verdict list -/
def allE (V : List (Point × VRes)) : Store := V.flatMap (fun pv => pointEntries pv.1)

theorem accE_cons_acc (p : Point) (v : VRes) (V) (h : v.accepted = true) :
    accE ((p, v) :: V) = pointEntries p ++ accE V := by
  simp [accE, h]

theorem accE_cons_rej (p : Point) (v : VRes) (V) (h : v.accepted = false) :
    accE ((p, v) :: V) = accE V := by
  simp [accE, h]

theorem allE_cons (p : Point) (v : VRes) (V) : allE ((p, v) :: V) = pointEntries p ++ allE V := by
  simp [allE]

theorem accE_sublist (V : List (Point × VRes)) : (accE V).Sublist (allE V) := by
  induction V with
  | nil => exact List.Sublist.refl _
  | cons a V ih =>
    obtain ⟨p, v⟩ := a
    rw [allE_cons]
    by_cases h : v.accepted = true
    · rw [accE_cons_acc _ _ _ h]; exact List.Sublist.append (List.Sublist.refl _) ih
    · have h' : v.accepted = false := by simpa using h
      rw [accE_cons_rej _ _ _ h']
      exact List.Sublist.trans ih (List.sublist_append_right _ _)

theorem accE_keys_sub (V : List (Point × VRes)) (k : EKey) (h : k ∈ (accE V).map (·.1)) :
    k ∈ (allE V).map (·.1) :=
  (List.Sublist.map _ (accE_sublist V)).subset h

theorem accepted_mem (V : List (Point × VRes)) (p : Point) (v : VRes) (hm : (p, v) ∈ V)
    (ha : v.accepted = true) (e : EKey × Val) (he : e ∈ pointEntries p) : e ∈ accE V := by
  unfold accE
  exact List.mem_flatMap.2 ⟨(p, v), List.mem_filter.2 ⟨hm, ha⟩, he⟩

theorem accE_elim {V : List (Point × VRes)} {e : EKey × Val} (h : e ∈ accE V) :
    ∃ p v f, (p, v) ∈ V ∧ v.accepted = true ∧ f ∈ p.fields ∧ f.name ≠ timeName ∧
      e = ((p.meas, p.tags, f.name, p.ts), (f.ty, f.val)) := by
  obtain ⟨pv, hpv, hpe⟩ := List.mem_flatMap.1 h
  obtain ⟨hm, ha⟩ := List.mem_filter.1 hpv
  obtain ⟨f, hf, rfl⟩ := List.mem_map.1 hpe
  obtain ⟨hf1, hf2⟩ := List.mem_filter.1 hf
  exact ⟨pv.1, pv.2, f, hm, ha, hf1, bne_iff_ne.1 hf2, rfl⟩

theorem rejected_disjoint (V : List (Point × VRes)) (hn : ((allE V).map (·.1)).Nodup)
    (p : Point) (v : VRes) (hm : (p, v) ∈ V) (hr : v.accepted = false)
    (e : EKey × Val) (he : e ∈ pointEntries p) : e.1 ∉ (accE V).map (·.1) := by
  induction V with
  | nil => cases hm
  | cons a V ih =>
    obtain ⟨q, w⟩ := a
    rw [allE_cons, List.map_append, List.nodup_append] at hn
    obtain ⟨hn1, hn2, hd⟩ := hn
    rcases List.mem_cons.1 hm with heq | hm'
    · cases heq
      rw [accE_cons_rej _ _ _ hr]
      intro hk
      exact hd e.1 (List.mem_map_of_mem (f := (·.1)) he) e.1 (accE_keys_sub V _ hk) rfl
    · by_cases hw : w.accepted = true
      · rw [accE_cons_acc _ _ _ hw, List.map_append, List.mem_append]
        rintro (hk | hk)
        · have hmem : e ∈ allE V := List.mem_flatMap.2 ⟨(p, v), hm', he⟩
          have : e.1 ∈ (allE V).map (·.1) := List.mem_map_of_mem (f := fun (x : EKey × Val) => x.1) hmem
          exact hd e.1 hk e.1 this rfl
        · exact ih hn2 hm' hk
      · have hw' : w.accepted = false := by simpa using hw
        rw [accE_cons_rej _ _ _ hw']
        exact ih hn2 hm'

theorem batchKeys_eq (V : List (Point × VRes)) : batchKeys (V.map (·.1)) = (allE V).map (·.1) := by
  simp [batchKeys, allE, List.flatMap_map]

theorem kept_entries (V : List (Point × VRes)) :
    ((V.filter (fun pv => pv.2.accepted)).map (·.1)).flatMap pointEntries = accE V := by
  simp [accE, List.flatMap_map]

theorem writePoints_state (st : State) (batch : List Point) :
    (writePoints st batch).1.data = (accE (verdicts st.sch batch).2.2).foldl upsert st.data ∧
    (writePoints st batch).1.sch = (verdicts st.sch batch).1 := by
  obtain ⟨h1, _, h3, _, _⟩ := validate_eq st.sch batch
  unfold writePoints
  simp only [engineWrite, h1, h3, kept_entries, and_self]

theorem writePoints_res (st : State) (batch : List Point) :
    ((writePoints st batch).2 = .ok ∧ countDropped (verdicts st.sch batch).2.2 = 0) ∨
    (∃ r, (writePoints st batch).2 = .partialWrite (countDropped (verdicts st.sch batch).2.2) r) := by
  obtain ⟨_, _, _, h4, _⟩ := validate_eq st.sch batch
  have hr := validate_reason st.sch batch
  unfold writePoints
  simp only
  by_cases hd : (validateTwoPhase st.sch batch).dropped > 0
  · simp only [hd, if_true]
    have := hr hd
    cases hreason : (validateTwoPhase st.sch batch).reason with
    | none => rw [hreason] at this; cases this
    | some r => right; exact ⟨r, by rw [h4]⟩
  · simp only [hd, if_false]
    have h0 : (validateTwoPhase st.sch batch).dropped = 0 := by omega
    by_cases hs : (validateTwoPhase st.sch batch).stripped = true
    · right; refine ⟨.stripped, ?_⟩; simp [hs, ← h4, h0]
    · left; simp [hs, ← h4, h0]

section stored
variable (V : List (Point × VRes)) (B : Store) (hK : ((allE V).map (·.1)).Nodup)
include hK

theorem accE_nodup : ((accE V).map (·.1)).Nodup :=
  List.Nodup.sublist (List.Sublist.map _ (accE_sublist V)) hK

theorem lookup_after_acc (p : Point) (v : VRes) (hm : (p, v) ∈ V) (ha : v.accepted = true)
    (e : EKey × Val) (he : e ∈ pointEntries p) :
    ((accE V).foldl upsert B).lookup e.1 = some e.2 := by
  rw [lookup_foldl_upsert _ _ _ (accE_nodup V hK)]
  rw [mem_lookup_of_nodup _ (accE_nodup V hK) e (accepted_mem V p v hm ha e he)]
  rfl

theorem lookup_after_rej (p : Point) (v : VRes) (hm : (p, v) ∈ V) (hr : v.accepted = false)
    (e : EKey × Val) (he : e ∈ pointEntries p) :
    ((accE V).foldl upsert B).lookup e.1 = B.lookup e.1 := by
  rw [lookup_foldl_upsert _ _ _ (accE_nodup V hK)]
  rw [lookup_none_of_not_mem _ _ (rejected_disjoint V hK p v hm hr e he)]
  rfl

theorem lookup_after_other (k : EKey) (hk : k ∉ (allE V).map (·.1)) :
    ((accE V).foldl upsert B).lookup k = B.lookup k := by
  rw [lookup_foldl_upsert _ _ _ (accE_nodup V hK)]
  rw [lookup_none_of_not_mem _ _ (fun h => hk (accE_keys_sub V k h))]
  rfl

end stored

theorem writePoints_stored (st : State) (batch : List Point) (hK : (batchKeys batch).Nodup) :
    (∀ p v, (p, v) ∈ (verdicts st.sch batch).2.2 → v.accepted = true →
      ∀ e ∈ pointEntries p, (writePoints st batch).1.data.lookup e.1 = some e.2) ∧
    (∀ p v, (p, v) ∈ (verdicts st.sch batch).2.2 → v.accepted = false →
      ∀ e ∈ pointEntries p, (writePoints st batch).1.data.lookup e.1 = st.data.lookup e.1) ∧
    (∀ k, k ∉ batchKeys batch → (writePoints st batch).1.data.lookup k = st.data.lookup k) := by
  have hK' : ((allE (verdicts st.sch batch).2.2).map (·.1)).Nodup := by
    rw [← batchKeys_eq, verdicts_map_fst]; exact hK
  rw [(writePoints_state st batch).1]
  refine ⟨lookup_after_acc _ _ hK', lookup_after_rej _ _ hK', fun k hk => lookup_after_other _ _ hK' k ?_⟩
  rw [← batchKeys_eq, verdicts_map_fst]; exact hk

theorem classify_stored (B A : Store) (p : Point) (hne : pointEntries p ≠ [])
    (h : ∀ e ∈ pointEntries p, A.lookup e.1 = some e.2) :
    classify B A p = .acc ∨ classify B A p = .amb := by
  have h1 : (pointEntries p).isEmpty = false := by
    cases h : pointEntries p with
    | nil => exact absurd h hne
    | cons _ _ => rfl
  have h2 : (pointEntries p).all (fun e => A.lookup e.1 == some e.2) = true :=
    List.all_eq_true.2 fun e he => beq_iff_eq.2 (h e he)
  unfold classify
  simp only [h1, h2, Bool.false_eq_true, if_false]
  cases (pointEntries p).all (fun e => A.lookup e.1 == B.lookup e.1) <;> simp

theorem classify_untouched (B A : Store) (p : Point)
    (h : ∀ e ∈ pointEntries p, A.lookup e.1 = B.lookup e.1) :
    classify B A p = .rej ∨ classify B A p = .amb := by
  have h2 : (pointEntries p).all (fun e => A.lookup e.1 == B.lookup e.1) = true :=
    List.all_eq_true.2 fun e he => beq_iff_eq.2 (h e he)
  unfold classify
  by_cases h1 : (pointEntries p).isEmpty = true
  · simp [h1]
  · simp only [h1, h2]
    cases (pointEntries p).all (fun e => A.lookup e.1 == some e.2) <;> simp

end Influx.Fields

namespace Influx.Fields.C40Steps
open Influx.Fields Influx.Spec.C40

/-- invariant of the model state: stored keys are pairwise different and no
    stored datum belongs to a field named `time` -/
def Inv (st : State) : Prop :=
  (st.data.map (·.1)).Nodup ∧ ∀ e ∈ st.data, e.1.2.2.1 ≠ timeName

theorem inv_init : Inv {} := by
  refine ⟨?_, ?_⟩
  · show ([] : List EKey).Nodup
    exact List.nodup_nil
  · intro e he; cases he

theorem inv_write (st : State) (batch : List Point) (h : Inv st) : Inv (writePoints st batch).1 := by
  rw [Inv, (writePoints_state st batch).1]
  refine ⟨nodup_foldl_upsert _ _ h.1, fun e he => ?_⟩
  rcases mem_foldl_upsert _ _ e he with h1 | h1
  · obtain ⟨p, v, f, _, _, _, hn, rfl⟩ := accE_elim h1
    exact hn
  · exact h.2 e h1

/-- two stores that read the same outside the keys `K`: the checker's frame test -/
theorem frame_all (K : List EKey) (X Y : Store) (hX : (X.map (·.1)).Nodup)
    (h : ∀ k, k ∉ K → X.lookup k = Y.lookup k) :
    X.all (fun e => K.contains e.1 || Y.lookup e.1 == some e.2) = true :=
  List.all_eq_true.2 fun e he => by
    by_cases hk : e.1 ∈ K
    · rw [List.contains_iff_mem.2 hk]; rfl
    · rw [← h _ hk, mem_lookup_of_nodup X hX e he, beq_self_eq_true, Bool.or_true]

theorem judge_model (st : State) (batch : List Point) (h : Inv st) :
    judge st.data batch (countDropped (verdicts st.sch batch).2.2) (writePoints st batch).1.data = none := by
  by_cases hdist : distinctBatch batch = true
  case neg => simp [judge, hdist]
  have hK : (batchKeys batch).Nodup := by simpa [distinctBatch] using hdist
  obtain ⟨hsto, hunt, hother⟩ := writePoints_stored st batch hK
  have hAn := (inv_write st batch h).1
  have hmap := verdicts_map_fst st.sch batch
  have hne := accepted_nonempty st.sch batch
  generalize (verdicts st.sch batch).2.2 = V at hsto hunt hmap hne
  generalize (writePoints st batch).1.data = A at hsto hunt hother hAn
  have hfun : functional A = true := decide_eq_true hAn
  have hacc : ∀ pv ∈ V, pv.2.accepted = true →
      classify st.data A pv.1 = .acc ∨ classify st.data A pv.1 = .amb := fun pv hpv ha =>
    classify_stored _ _ _ (hne pv.1 pv.2 hpv ha) (hsto pv.1 pv.2 hpv ha)
  have hrej : ∀ pv ∈ V, pv.2.accepted = false →
      classify st.data A pv.1 = .rej ∨ classify st.data A pv.1 = .amb := fun pv hpv hr =>
    classify_untouched _ _ _ (hunt pv.1 pv.2 hpv hr)
  have hbad : batch.any (fun p => classify st.data A p == .bad) = false := by
    rw [List.any_eq_false]
    intro p hp
    rw [← hmap] at hp
    obtain ⟨pv, hpv, rfl⟩ := List.mem_map.1 hp
    cases hacc' : pv.2.accepted with
    | true => rcases hacc pv hpv hacc' with h1 | h1 <;> simp [h1]
    | false => rcases hrej pv hpv hacc' with h1 | h1 <;> simp [h1]
  have hc1 : batch.countP (fun p => classify st.data A p == .rej) ≤ countDropped V := by
    rw [← hmap, List.countP_map]
    unfold countDropped
    apply List.countP_mono_left
    intro pv hpv hc
    cases hacc' : pv.2.accepted with
    | true =>
      rcases hacc pv hpv hacc' with h1 | h1 <;> simp [Function.comp, h1] at hc
    | false => rfl
  have hc2 : countDropped V ≤
      batch.countP (fun p => classify st.data A p == .rej || classify st.data A p == .amb) := by
    rw [← hmap, List.countP_map]
    unfold countDropped
    apply List.countP_mono_left
    intro pv hpv hc
    have hr : pv.2.accepted = false := by simpa using hc
    rcases hrej pv hpv hr with h1 | h1 <;> simp [Function.comp, h1]
  have hf1 := frame_all (batchKeys batch) A st.data hAn hother
  have hf2 := frame_all (batchKeys batch) st.data A h.1 fun k hk => (hother k hk).symm
  simp only [judge, hdist, hfun, hbad, hc1, hc2, hf1, hf2, decide_true, Bool.and_self, Bool.not_true,
    Bool.false_eq_true, if_false]

theorem writeFails_model (st : State) (batch : List Point) (h : Inv st) :
    writeFails st.data batch (writePoints st batch).2 (writePoints st batch).1.data = none := by
  have hj := judge_model st batch h
  rcases writePoints_res st batch with ⟨h1, h2⟩ | ⟨r, h1⟩
  · rw [h1]; unfold writeFails; simp only; rw [← h2]; exact hj
  · rw [h1]; unfold writeFails; exact hj

theorem sameStore_self' (d : Store) (hn : (d.map (·.1)).Nodup) : sameStore d d = true := by
  rw [sameStore, all_lookup_of d d hn fun _ _ h => h]; rfl

theorem no_time_data (st : State) (h : Inv st) :
    (rawKeys st.data).any (fun k => k.1.2.2 == timeName) = false := by
  rw [List.any_eq_false]
  intro k hk
  unfold rawKeys at hk
  rw [List.mem_eraseDups] at hk
  obtain ⟨e, he, rfl⟩ := List.mem_map.1 hk
  have := h.2 e he
  simpa using this

theorem inv_step (st : State) (op : Op40) (h : Inv st) : Inv (step40 st op).1 := by
  cases op with
  | write b => exact inv_write st b h
  | _ => exact h

theorem firstFailure_trace (st : State) (h : Inv st) (ops : List Op40) :
    firstFailure st.data (trace40 st ops) = none := by
  induction ops generalizing st with
  | nil => rfl
  | cons op ops ih =>
    have hstep : stepFails st.data (step40 st op).2 = (none, (step40 st op).1.data) := by
      cases op with
      | write b => exact congrArg (·, _) (writeFails_model st b h)
      | read => exact congrArg (·, _) (if_pos (sameStore_self' st.data h.1))
      | keys => exact congrArg (·, _) (if_neg (by rw [no_time_data st h]; exact Bool.false_ne_true))
      | _ => rfl
    rw [trace40, firstFailure, hstep]
    exact ih _ (inv_step st op h)

def run : State → List Op40 → State
  | st, [] => st
  | st, o :: os => run (step40 st o).1 os

theorem run_inv (st : State) (h : Inv st) (ops : List Op40) : Inv (run st ops) := by
  induction ops generalizing st with
  | nil => exact h
  | cons o os ih => exact ih _ (inv_step st o h)

end Influx.Fields.C40Steps
