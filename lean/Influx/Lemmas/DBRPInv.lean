/-
  Lemmas.DBRPInv — the consistency invariant of the four kv buckets of `dbrp.Service`,
  preserved by create / update / delete of stored mappings.
-/
import Influx.Lemmas.DBRP

namespace Influx.DBRP

def Sorted (l : List Mapping) : Prop := l.Pairwise (fun a b => a.ID < b.ID)

theorem insertRec_cons (m y : Mapping) (ys : List Mapping) : insertRec m (y :: ys) =
    if m.ID < y.ID then m :: y :: ys else if m.ID = y.ID then m :: ys else y :: insertRec m ys := by
  simp only [insertRec, beq_iff_eq]

theorem mem_insertRec {m x : Mapping} {l : List Mapping} (hs : Sorted l) :
    x ∈ insertRec m l ↔ x = m ∨ (x ∈ l ∧ x.ID ≠ m.ID) := by
  induction l with
  | nil => simp [insertRec]
  | cons y ys ih =>
    have hs' := List.pairwise_cons.mp hs
    rw [insertRec_cons]
    by_cases hlt : m.ID < y.ID
    · -- every record of the list has a larger id
      rw [if_pos hlt, List.mem_cons]
      refine or_congr_right (iff_self_and.mpr fun hx => ?_)
      rcases List.mem_cons.mp hx with rfl | hx
      · exact Nat.ne_of_gt hlt
      · exact Nat.ne_of_gt (Nat.lt_trans hlt (hs'.1 x hx))
    · rw [if_neg hlt]
      by_cases heq : m.ID = y.ID
      · -- `y` is replaced; the rest has larger ids
        rw [if_pos heq, List.mem_cons, List.mem_cons]
        refine or_congr_right ⟨fun hx => ⟨.inr hx, ?_⟩, ?_⟩
        · exact Nat.ne_of_gt (heq ▸ hs'.1 x hx)
        · rintro ⟨rfl | hx, hne⟩
          · exact absurd heq.symm hne
          · exact hx
      · rw [if_neg heq, List.mem_cons, ih hs'.2, List.mem_cons]
        constructor
        · rintro (rfl | h | ⟨h, hn⟩)
          · exact .inr ⟨.inl rfl, fun h => heq h.symm⟩
          · exact .inl h
          · exact .inr ⟨.inr h, hn⟩
        · rintro (h | ⟨rfl | h, hn⟩)
          · exact .inr (.inl h)
          · exact .inl rfl
          · exact .inr (.inr ⟨h, hn⟩)
theorem sorted_insertRec {m : Mapping} {l : List Mapping} (hs : Sorted l) : Sorted (insertRec m l) := by
  induction l with
  | nil => simp [insertRec, Sorted]
  | cons y ys ih =>
    have hs' := List.pairwise_cons.mp hs
    rw [insertRec_cons]
    by_cases hlt : m.ID < y.ID
    · rw [if_pos hlt]
      refine List.pairwise_cons.mpr ⟨fun x hx => ?_, hs⟩
      rcases List.mem_cons.mp hx with rfl | hx
      · exact hlt
      · exact Nat.lt_trans hlt (hs'.1 x hx)
    · rw [if_neg hlt]
      by_cases heq : m.ID = y.ID
      · rw [if_pos heq]
        exact List.pairwise_cons.mpr ⟨fun x hx => heq ▸ hs'.1 x hx, hs'.2⟩
      · rw [if_neg heq]
        refine List.pairwise_cons.mpr ⟨fun x hx => ?_, ih hs'.2⟩
        rcases (mem_insertRec hs'.2).mp hx with rfl | ⟨hx, _⟩
        · exact Nat.lt_of_le_of_ne (Nat.le_of_not_lt hlt) (Ne.symm heq)
        · exact hs'.1 x hx
theorem sorted_filter {l : List Mapping} (hs : Sorted l) (p : Mapping → Bool) : Sorted (l.filter p) :=
  List.Pairwise.filter p hs

theorem sorted_id_inj {l : List Mapping} (hs : Sorted l) {a b : Mapping} (ha : a ∈ l) (hb : b ∈ l)
    (h : a.ID = b.ID) : a = b := by
  induction l with
  | nil => simp at ha
  | cons y ys ih =>
    have hs' := List.pairwise_cons.mp hs
    rcases List.mem_cons.mp ha with h1 | h1
    · rcases List.mem_cons.mp hb with h2 | h2
      · rw [h1, h2]
      · subst h1; have := hs'.1 b h2; omega
    · rcases List.mem_cons.mp hb with h2 | h2
      · subst h2; have := hs'.1 a h1; omega
      · exact ih hs'.2 h1 h2

theorem find_id_iff {l : List Mapping} (hs : Sorted l) {id : Nat} {m : Mapping} :
    l.find? (·.ID == id) = some m ↔ m ∈ l ∧ m.ID = id := by
  constructor
  · intro h
    exact ⟨List.mem_of_find?_eq_some h, by simpa using List.find?_some h⟩
  · rintro ⟨hm, hid⟩
    cases hf : l.find? (·.ID == id) with
    | none => have := List.find?_eq_none.mp hf m hm; simp [hid] at this
    | some m' =>
      have h1 := List.mem_of_find?_eq_some hf
      have h2 : m'.ID = id := by simpa using List.find?_some hf
      rw [sorted_id_inj hs h1 hm (by rw [h2, hid])]

theorem perm_sortIds_ins (x : Nat) (l : List Nat) : (sortIds.ins x l).Perm (x :: l) := by
  induction l with
  | nil => simp [sortIds.ins]
  | cons y ys ih =>
    simp only [sortIds.ins]
    split
    · exact List.Perm.refl _
    · exact (List.Perm.cons y ih).trans (List.Perm.swap x y ys)

theorem perm_sortIds_aux (l acc : List Nat) :
    (l.foldl (fun acc x => sortIds.ins x acc) acc).Perm (l ++ acc) := by
  induction l generalizing acc with
  | nil => simp
  | cons y ys ih =>
    simp only [List.foldl_cons]
    refine (ih (sortIds.ins y acc)).trans ?_
    refine (List.Perm.append_left ys (perm_sortIds_ins y acc)).trans ?_
    simp

theorem perm_sortIds (l : List Nat) : (sortIds l).Perm l := by
  unfold sortIds
  simpa using perm_sortIds_aux l []

theorem mem_sortIds {l : List Nat} {x : Nat} : x ∈ sortIds l ↔ x ∈ l := (perm_sortIds l).mem_iff

theorem nodup_sortIds {l : List Nat} (h : l.Nodup) : (sortIds l).Nodup := (perm_sortIds l).nodup_iff.mpr h

theorem sorted_sortIds_ins {x : Nat} {l : List Nat} (hs : l.Pairwise (· < ·)) (hx : x ∉ l) :
    (sortIds.ins x l).Pairwise (· < ·) := by
  induction l with
  | nil => simp [sortIds.ins]
  | cons y ys ih =>
    have hs' := List.pairwise_cons.mp hs
    simp only [sortIds.ins]
    by_cases hle : x ≤ y
    · rw [if_pos hle]
      refine List.pairwise_cons.mpr ⟨fun z hz => ?_, hs⟩
      rcases List.mem_cons.mp hz with rfl | hz
      · exact Nat.lt_of_le_of_ne hle fun e => hx (e ▸ List.mem_cons_self ..)
      · exact Nat.lt_of_le_of_lt hle (hs'.1 z hz)
    · rw [if_neg hle]
      refine List.pairwise_cons.mpr ⟨fun z hz => ?_, ih hs'.2 fun hm => hx (List.mem_cons_of_mem _ hm)⟩
      rcases List.mem_cons.mp ((perm_sortIds_ins x ys).mem_iff.mp hz) with rfl | hz
      · exact Nat.lt_of_not_le hle
      · exact hs'.1 z hz

theorem sorted_sortIds {l : List Nat} (h : l.Pairwise (· ≠ ·)) : (sortIds l).Pairwise (· < ·) := by
  have aux : ∀ (l acc : List Nat), acc.Pairwise (· < ·) → l.Pairwise (· ≠ ·) → (∀ x ∈ l, x ∉ acc) →
      (l.foldl (fun acc x => sortIds.ins x acc) acc).Pairwise (· < ·) := by
    intro l
    induction l with
    | nil => exact fun _ hacc _ _ => hacc
    | cons y ys ih =>
      intro acc hacc hl hd
      have hl' := List.pairwise_cons.mp hl
      refine ih _ (sorted_sortIds_ins hacc (hd y (List.mem_cons_self ..))) hl'.2 fun x hx hm => ?_
      rcases List.mem_cons.mp ((perm_sortIds_ins y acc).mem_iff.mp hm) with rfl | hm
      · exact hl'.1 x hx rfl
      · exact hd x (List.mem_cons_of_mem _ hx) hm
  exact aux l [] .nil h fun _ _ => List.not_mem_nil

structure Inv (s : St) : Prop where
  sorted : Sorted s.recs
  recOK : ∀ m ∈ s.recs, m.ID % 2 = 1 ∧ m.ID < s.nextID ∧ m.Virtual = false
  idx : ∀ o db id, (o, db, id) ∈ s.idx ↔ ∃ m ∈ s.recs, m.ID = id ∧ m.OrganizationID = o ∧ m.Database = db
  idxND : s.idx.Pairwise (· ≠ ·)
  byOrg : ∀ o id, (o, id) ∈ s.byOrg ↔ ∃ m ∈ s.recs, m.ID = id ∧ m.OrganizationID = o
  byOrgND : s.byOrg.Pairwise (· ≠ ·)
  defSome : ∀ o db id, getDefault s o db = some id →
    ∃ m ∈ s.recs, m.ID = id ∧ m.OrganizationID = o ∧ m.Database = db
  defEx : ∀ m ∈ s.recs, (getDefault s m.OrganizationID m.Database).isSome = true
  uniq : ∀ m ∈ s.recs, ∀ m' ∈ s.recs, m.OrganizationID = m'.OrganizationID → m.Database = m'.Database →
    m.RetentionPolicy = m'.RetentionPolicy → m = m'
  nextOdd : s.nextID % 2 = 1
  bucketsEven : ∀ b ∈ s.buckets, b.ID % 2 = 0

theorem Inv.init : Inv St.init :=
  ⟨by simp [St.init, Sorted], by simp [St.init], by simp [St.init], by simp [St.init], by simp [St.init],
   by simp [St.init], by simp [St.init, getDefault], by simp [St.init], by simp [St.init], by simp [St.init],
   by simp [St.init]⟩

theorem getRec_iff {s : St} (h : Inv s) {id : Nat} {m : Mapping} : getRec s id = some m ↔ m ∈ s.recs ∧ m.ID = id :=
  find_id_iff h.sorted

theorem getRec_none_iff {s : St} {id : Nat} : getRec s id = none ↔ ∀ m ∈ s.recs, m.ID ≠ id := by
  unfold getRec
  rw [List.find?_eq_none]
  simp

theorem sorted_ext {l l' : List Mapping} (hs : Sorted l) (hs' : Sorted l') (hm : ∀ x, x ∈ l ↔ x ∈ l') : l = l' := by
  have hne : ∀ {a b : Mapping}, a.ID < b.ID → a ≠ b := fun hlt e => Nat.lt_irrefl _ (e ▸ hlt)
  exact List.Perm.eq_of_pairwise (fun a b _ _ h1 h2 => absurd h1 (Nat.lt_asymm h2)) hs hs'
    ((List.perm_ext_iff_of_nodup (hs.imp hne) (hs'.imp hne)).mpr hm)

/-- An index walk (keys in order, then `GetBatch`) returns the stored mappings it indexes, in key
    order: `ids` holds the id of every record satisfying `p`, once, and nothing else. -/
theorem walkIds_eq {s : St} (h : Inv s) {ids : List Nat} {p : Mapping → Bool} (hnd : ids.Pairwise (· ≠ ·))
    (hids : ∀ id, id ∈ ids ↔ ∃ m ∈ s.recs, m.ID = id ∧ p m = true) :
    (sortIds ids).filterMap (getRec s) = s.recs.filter p := by
  refine sorted_ext ?_ (sorted_filter h.sorted p) fun x => ?_
  · refine List.Pairwise.filterMap _ ?_ (sorted_sortIds hnd)
    intro a a' hlt b hb b' hb'
    rw [((getRec_iff h).mp hb).2, ((getRec_iff h).mp hb').2]
    exact hlt
  · simp only [List.mem_filterMap, mem_sortIds, hids, List.mem_filter]
    constructor
    · rintro ⟨id, ⟨m, hm, hid, hp⟩, hx⟩
      have hx := (getRec_iff h).mp hx
      rw [← sorted_id_inj h.sorted hm hx.1 (hid.trans hx.2.symm)]
      exact ⟨hm, hp⟩
    · rintro ⟨hx, hp⟩
      exact ⟨x.ID, ⟨x, hx, rfl, hp⟩, (getRec_iff h).mpr ⟨hx, rfl⟩⟩

theorem ids_nodup {α : Type} {l : List α} (hnd : l.Pairwise (· ≠ ·)) (q : α → Bool) (f : α → Nat)
    (hinj : ∀ a b, q a = true → q b = true → f a = f b → a = b) : ((l.filter q).map f).Pairwise (· ≠ ·) := by
  rw [List.pairwise_map]
  refine List.Pairwise.imp_of_mem ?_ (hnd.filter q)
  intro a b ha hb hne hid
  exact hne (hinj a b (List.mem_filter.mp ha).2 (List.mem_filter.mp hb).2 hid)

theorem walk_eq {s : St} (h : Inv s) (o : Nat) (db : String) :
    walk s o db = s.recs.filter fun m => m.OrganizationID == o && m.Database == db := by
  refine walkIds_eq h ?_ fun id => ?_
  · refine ids_nodup h.idxND _ _ ?_
    rintro ⟨a1, a2, a3⟩ ⟨b1, b2, b3⟩ ha hb hid
    simp only [Bool.and_eq_true, beq_iff_eq] at ha hb hid
    rw [ha.1, ha.2, hb.1, hb.2, hid]
  · simp only [List.mem_map, List.mem_filter, Bool.and_eq_true, beq_iff_eq]
    constructor
    · rintro ⟨⟨o', db', id'⟩, ⟨hmem, ho, hdb⟩, hid⟩
      simp only at ho hdb hid
      subst ho hdb hid
      exact (h.idx _ _ _).mp hmem
    · rintro hm
      exact ⟨(o, db, id), ⟨(h.idx o db id).mpr hm, rfl, rfl⟩, rfl⟩

theorem walkOrg_eq {s : St} (h : Inv s) (o : Nat) : walkOrg s o = s.recs.filter (·.OrganizationID == o) := by
  refine walkIds_eq h ?_ fun id => ?_
  · refine ids_nodup h.byOrgND _ _ ?_
    rintro ⟨a1, a2⟩ ⟨b1, b2⟩ ha hb hid
    simp only [beq_iff_eq] at ha hb hid
    rw [ha, hb, hid]
  · simp only [List.mem_map, List.mem_filter, beq_iff_eq]
    constructor
    · rintro ⟨⟨o', id'⟩, ⟨hmem, ho⟩, hid⟩
      simp only at ho hid
      subst ho hid
      exact (h.byOrg _ _).mp hmem
    · rintro hm
      exact ⟨(o, id), ⟨(h.byOrg o id).mpr hm, rfl⟩, rfl⟩

theorem walk_mem {s : St} (h : Inv s) {o : Nat} {db : String} {x : Mapping} :
    x ∈ walk s o db ↔ x ∈ s.recs ∧ x.OrganizationID = o ∧ x.Database = db := by
  rw [walk_eq h, List.mem_filter, Bool.and_eq_true, beq_iff_eq, beq_iff_eq]

theorem walkOrg_mem {s : St} (h : Inv s) {o : Nat} {x : Mapping} :
    x ∈ walkOrg s o ↔ x ∈ s.recs ∧ x.OrganizationID = o := by
  rw [walkOrg_eq h, List.mem_filter, beq_iff_eq]

theorem findBucket_odd {s : St} (h : Inv s) {id : Nat} (hodd : id % 2 = 1) : findBucketByID s id = none := by
  unfold findBucketByID
  rw [List.find?_eq_none]
  intro b hb e
  have := h.bucketsEven b hb
  rw [beq_iff_eq.mp e, hodd] at this
  cases this

theorem findByID_odd {s : St} (h : Inv s) {org id : Nat} (hodd : id % 2 = 1) :
    (∃ m ∈ s.recs, m.ID = id ∧ m.OrganizationID = org ∧
      findByID s org id = .ok { m with Default := getDefault s m.OrganizationID m.Database == some id }) ∨
    ((∀ m ∈ s.recs, m.ID = id → m.OrganizationID ≠ org) ∧ findByID s org id = .error .notFound) := by
  have hne : (id == 0) = false := by simp; omega
  unfold findByID
  simp only [hne, Bool.false_eq_true, ↓reduceIte, findBucket_odd h hodd]
  cases hr : getRec s id with
  | none =>
    right
    exact ⟨fun m hm hid => absurd hid (getRec_none_iff.mp hr m hm), rfl⟩
  | some m =>
    have hm := (getRec_iff h).mp hr
    by_cases ho : m.OrganizationID = org
    · left
      refine ⟨m, hm.1, hm.2, ho, ?_⟩
      simp [ho]
    · right
      refine ⟨?_, by simp [ho]⟩
      intro m' hm' hid'
      have := sorted_id_inj h.sorted hm' hm.1 (by rw [hid', hm.2])
      rw [this]; exact ho

theorem find_filter_keep {α : Type} (p q : α → Bool) (l : List α) (h : ∀ x, p x = true → q x = true) :
    (l.filter q).find? p = l.find? p := by
  induction l with
  | nil => rfl
  | cons e es ih =>
    by_cases hq : q e = true
    · simp only [List.filter_cons, hq, ↓reduceIte, List.find?_cons, ih]
    · have hp : p e = false := by
        cases hpe : p e with
        | false => rfl
        | true => exact absurd (h e hpe) hq
      simp only [List.filter_cons, hq, Bool.false_eq_true, ↓reduceIte, List.find?_cons, hp, ih]

theorem find_drop_other (l : List (Nat × String × Nat)) {o o' : Nat} {db db' : String} (h : ¬(o' = o ∧ db' = db)) :
    (l.filter fun e => !(e.1 == o && e.2.1 == db)).find? (fun e => e.1 == o' && e.2.1 == db') =
      l.find? fun e => e.1 == o' && e.2.1 == db' := by
  apply find_filter_keep
  intro e he
  simp only [Bool.and_eq_true, beq_iff_eq, Bool.not_eq_true', Bool.and_eq_false_iff, beq_eq_false_iff_ne] at he ⊢
  by_cases ho : e.1 = o
  · right; intro hd; exact h ⟨by rw [← he.1, ho], by rw [← he.2, hd]⟩
  · left; exact ho

theorem getDefault_setDefault (s : St) (o : Nat) (db : String) (id : Nat) (o' : Nat) (db' : String) :
    getDefault (setDefault s o db id) o' db' = if o' = o ∧ db' = db then some id else getDefault s o' db' := by
  unfold getDefault setDefault
  simp only
  by_cases h : o' = o ∧ db' = db
  · obtain ⟨rfl, rfl⟩ := h
    simp
  · simp only [h, ↓reduceIte]
    have h1 : ((o == o') && (db == db')) = false := by
      simp only [Bool.and_eq_false_iff, beq_eq_false_iff_ne, ne_eq]
      by_cases ho : o = o'
      · right; intro hd; exact h ⟨ho.symm, hd.symm⟩
      · left; exact ho
    simp only [List.find?_cons, h1, find_drop_other _ h]

theorem getDefault_unsetDefault (s : St) (o : Nat) (db : String) (o' : Nat) (db' : String) :
    getDefault (unsetDefault s o db) o' db' = if o' = o ∧ db' = db then none else getDefault s o' db' := by
  unfold getDefault unsetDefault
  simp only
  by_cases h : o' = o ∧ db' = db
  · obtain ⟨rfl, rfl⟩ := h
    simp only [and_self, ↓reduceIte, Option.map_eq_none_iff]
    rw [List.find?_eq_none]
    intro e he
    have := (List.mem_filter.mp he).2
    simp only [Bool.not_eq_true', Bool.and_eq_false_iff, beq_eq_false_iff_ne] at this
    simp only [Bool.and_eq_true, beq_iff_eq]
    rintro ⟨h1, h2⟩
    rcases this with h | h
    · exact h h1
    · exact h h2
  · simp only [h, ↓reduceIte, find_drop_other _ h]

def HasKey (l : List Mapping) (id o : Nat) (db : String) : Prop :=
  ∃ m ∈ l, m.ID = id ∧ m.OrganizationID = o ∧ m.Database = db

/-- `getFirstBut`: the id of another stored mapping of the database, if there is one
    (needs only the index correspondence) -/
theorem getFirstBut_some {s : St}
    (hidx : ∀ o db id, (o, db, id) ∈ s.idx ↔ HasKey s.recs id o db)
    {o : Nat} {db : String} {skip f : Nat} (hf : getFirstBut s o db skip = some f) :
    f ≠ skip ∧ HasKey s.recs f o db := by
  unfold getFirstBut at hf
  have hmem := List.mem_of_head? hf
  simp only [List.mem_filter, mem_sortIds, List.mem_map, Bool.and_eq_true, bne_iff_ne, ne_eq, beq_iff_eq] at hmem
  obtain ⟨⟨⟨o', db', id⟩, ⟨hm, ho, hdb⟩, hid⟩, _, hne⟩ := hmem
  simp only at ho hdb hid
  subst ho hdb hid
  exact ⟨hne, (hidx _ _ _).mp hm⟩

theorem getFirstBut_none {s : St} (hs : Sorted s.recs)
    (hidx : ∀ o db id, (o, db, id) ∈ s.idx ↔ HasKey s.recs id o db)
    {o : Nat} {db : String} {skip : Nat} (hf : getFirstBut s o db skip = none) :
    ∀ x ∈ s.recs, x.OrganizationID = o → x.Database = db → x.ID = skip := by
  unfold getFirstBut at hf
  rw [List.head?_eq_none_iff] at hf
  intro x hx ho hdb
  have hidx' := (hidx o db x.ID).mpr ⟨x, hx, rfl, ho, hdb⟩
  have hin : x.ID ∈ sortIds ((s.idx.filter fun e => e.1 == o && e.2.1 == db).map (·.2.2)) := by
    rw [mem_sortIds]
    simp only [List.mem_map, List.mem_filter, Bool.and_eq_true, beq_iff_eq]
    exact ⟨(o, db, x.ID), ⟨hidx', rfl, rfl⟩, rfl⟩
  have := List.filter_eq_nil_iff.mp hf x.ID hin
  simp only [Bool.and_eq_true, bne_iff_ne, ne_eq, not_and, Decidable.not_not] at this
  exact this (by unfold getRec; rw [(find_id_iff hs).mpr ⟨hx, rfl⟩]; rfl)

theorem inv_bump {s : St} (h : Inv s) : Inv { s with nextID := s.nextID + 2 } :=
  ⟨h.sorted, fun m hm => ⟨(h.recOK m hm).1, Nat.lt_add_right 2 (h.recOK m hm).2.1, (h.recOK m hm).2.2⟩,
   h.idx, h.idxND, h.byOrg, h.byOrgND, h.defSome, h.defEx, h.uniq, (Nat.add_mod_right ..).trans h.nextOdd, h.bucketsEven⟩

theorem getDefault_congr {s s' : St} (h : s'.defs = s.defs) (o : Nat) (db : String) :
    getDefault s' o db = getDefault s o db := by
  unfold getDefault; rw [h]

/-- the two clauses of `Inv` about the defaults bucket: an entry names a record of its database, and
    every database with a record has an entry -/
def DefsOK (s : St) : Prop :=
  (∀ o db id, getDefault s o db = some id → HasKey s.recs id o db) ∧
  ∀ m ∈ s.recs, (getDefault s m.OrganizationID m.Database).isSome = true

/-- The two clauses about defaults survive a step that touches the default entry of one database
    `(o₀, db₀)` only and the records of no other database, when the new entry names a record of
    the database, or is absent and the database has no record left. -/
theorem defs_step {s s' : St} (h : Inv s) (o₀ : Nat) (db₀ : String)
    (hother : ∀ o db, ¬(o = o₀ ∧ db = db₀) → getDefault s' o db = getDefault s o db ∧
      ∀ id, HasKey s'.recs id o db ↔ HasKey s.recs id o db)
    (hsome : ∀ f, getDefault s' o₀ db₀ = some f → HasKey s'.recs f o₀ db₀)
    (hnone : getDefault s' o₀ db₀ = none → ∀ x ∈ s'.recs, ¬(x.OrganizationID = o₀ ∧ x.Database = db₀)) :
    DefsOK s' := by
  constructor
  · intro o db id hg
    by_cases hc : o = o₀ ∧ db = db₀
    · obtain ⟨rfl, rfl⟩ := hc
      exact hsome id hg
    · rw [(hother o db hc).1] at hg
      exact ((hother o db hc).2 id).mpr (h.defSome o db id hg)
  · intro m hm
    by_cases hc : m.OrganizationID = o₀ ∧ m.Database = db₀
    · rw [hc.1, hc.2]
      cases hd : getDefault s' o₀ db₀ with
      | some f => rfl
      | none => exact absurd hc (hnone hd m hm)
    · obtain ⟨y, hy, _, e2, e3⟩ := ((hother _ _ hc).2 m.ID).mp ⟨m, hm, rfl, rfl, rfl⟩
      rw [(hother _ _ hc).1, ← e2, ← e3]
      exact h.defEx y hy

/-- `defs_step` for a step that enters `f`, the id of a record of the database, as its default -/
theorem defs_set {s s' : St} (h : Inv s) {o₀ : Nat} {db₀ : String} {f : Nat}
    (hd : s'.defs = (setDefault s o₀ db₀ f).defs)
    (hother : ∀ o db, ¬(o = o₀ ∧ db = db₀) → ∀ id, HasKey s'.recs id o db ↔ HasKey s.recs id o db)
    (hf : HasKey s'.recs f o₀ db₀) :
    DefsOK s' := by
  have hg : ∀ o db, getDefault s' o db = if o = o₀ ∧ db = db₀ then some f else getDefault s o db :=
    fun o db => (getDefault_congr hd o db).trans (getDefault_setDefault ..)
  refine defs_step h o₀ db₀ (fun o db hc => ⟨(hg o db).trans (if_neg hc), hother o db hc⟩) (fun f' hf' => ?_)
    (fun hn => ?_)
  · rw [hg, if_pos ⟨rfl, rfl⟩] at hf'
    exact Option.some.inj hf' ▸ hf
  · rw [hg, if_pos ⟨rfl, rfl⟩] at hn
    cases hn

/-- an operation that fails leaves the state as it was -/
theorem inv_ite_fst {α : Type} {c : Prop} [Decidable c] {s : St} {e : α} {p : St × α} (hs : Inv s)
    (hp : ¬c → Inv p.1) : Inv (if c then (s, e) else p).1 := by
  split
  · exact hs
  · exact hp ‹_›

theorem passed_isDBRPUnique {s : St} (h : Inv s) {m : Mapping} (hu : ¬(!isDBRPUnique s m) = true) :
    ∀ v ∈ s.recs, v.ID ≠ m.ID → v.OrganizationID = m.OrganizationID → v.Database = m.Database →
      v.RetentionPolicy ≠ m.RetentionPolicy := by
  intro v hv hne ho hdb
  simp only [isDBRPUnique, Bool.not_eq_true', Bool.not_eq_false, List.all_eq_true, Bool.or_eq_true, beq_iff_eq,
    bne_iff_ne, ne_eq] at hu
  exact (hu v ((walk_mem h).mpr ⟨hv, ho, hdb⟩)).resolve_left hne

/-- the state after a successful `Create` of `m` under a fresh id: `defs'` is the defaults bucket as
    it was (the database has a default) or with `m` entered as the default -/
theorem inv_add {s : St} (h : Inv s) {m : Mapping} (hodd : m.ID % 2 = 1) (hlt : m.ID < s.nextID)
    (hfresh : ∀ x ∈ s.recs, x.ID ≠ m.ID) (hv : m.Virtual = false)
    (huniq : ∀ v ∈ s.recs, v.OrganizationID = m.OrganizationID → v.Database = m.Database →
      v.RetentionPolicy ≠ m.RetentionPolicy)
    (defs' : List (Nat × String × Nat))
    (hdefs : (defs' = s.defs ∧ (getDefault s m.OrganizationID m.Database).isSome = true) ∨
      defs' = (setDefault s m.OrganizationID m.Database m.ID).defs) :
    Inv { s with recs := insertRec m s.recs, idx := s.idx ++ [(m.OrganizationID, m.Database, m.ID)],
                 byOrg := s.byOrg ++ [(m.OrganizationID, m.ID)], defs := defs' } := by
  have hmem : ∀ x, x ∈ insertRec m s.recs ↔ x = m ∨ x ∈ s.recs := fun x => by
    rw [mem_insertRec h.sorted]
    exact or_congr_right ⟨And.left, fun h1 => ⟨h1, hfresh x h1⟩⟩
  have hkey : ∀ id o db, HasKey (insertRec m s.recs) id o db ↔
      HasKey s.recs id o db ∨ (o = m.OrganizationID ∧ db = m.Database ∧ id = m.ID) := by
    intro id o db
    constructor
    · rintro ⟨x, hx, h1, h2, h3⟩
      rcases (hmem x).mp hx with rfl | hx
      · exact .inr ⟨h2.symm, h3.symm, h1.symm⟩
      · exact .inl ⟨x, hx, h1, h2, h3⟩
    · rintro (⟨x, hx, hh⟩ | ⟨rfl, rfl, rfl⟩)
      · exact ⟨x, (hmem x).mpr (.inr hx), hh⟩
      · exact ⟨m, (hmem m).mpr (.inl rfl), rfl, rfl, rfl⟩
  -- appending the key of `m` keeps an index free of duplicates: no entry has its id
  have hnd : ∀ {α : Type} (l : List α) (k : α), l.Pairwise (· ≠ ·) → k ∉ l → (l ++ [k]).Pairwise (· ≠ ·) :=
    fun l k hl hk => List.pairwise_append.mpr ⟨hl, List.pairwise_singleton .., fun a ha b hb => by
      rw [List.mem_singleton.mp hb]; exact fun e => hk (e ▸ ha)⟩
  -- records of other databases are as before
  have hother : ∀ o db, ¬(o = m.OrganizationID ∧ db = m.Database) → ∀ id,
      HasKey (insertRec m s.recs) id o db ↔ HasKey s.recs id o db := fun o db hc id => by
    rw [hkey]; exact or_iff_left fun hk => hc ⟨hk.1, hk.2.1⟩
  have hd : DefsOK { s with recs := insertRec m s.recs, idx := s.idx ++ [(m.OrganizationID, m.Database, m.ID)],
                            byOrg := s.byOrg ++ [(m.OrganizationID, m.ID)], defs := defs' } := by
    rcases hdefs with ⟨rfl, hsome⟩ | rfl
    · exact defs_step h m.OrganizationID m.Database (fun o db hc => ⟨rfl, hother o db hc⟩)
        (fun f hf => (hkey ..).mpr (.inl (h.defSome _ _ f hf)))
        (fun hn => absurd hn (Option.isSome_iff_ne_none.mp hsome))
    · exact defs_set h rfl hother ((hkey ..).mpr (.inr ⟨rfl, rfl, rfl⟩))
  refine ⟨sorted_insertRec h.sorted, ?_, ?_, ?_, ?_, ?_, hd.1, hd.2, ?_, h.nextOdd, h.bucketsEven⟩
  · intro x hx
    rcases (hmem x).mp hx with rfl | hx
    · exact ⟨hodd, hlt, hv⟩
    · exact h.recOK x hx
  · intro o db id
    show _ ↔ HasKey _ id o db
    rw [hkey, List.mem_append, h.idx, List.mem_singleton, Prod.mk.injEq, Prod.mk.injEq]
    rfl
  · refine hnd _ _ h.idxND fun hc => ?_
    obtain ⟨x, hx, h1, _⟩ := (h.idx _ _ _).mp hc
    exact hfresh x hx h1
  · intro o id
    rw [List.mem_append, h.byOrg, List.mem_singleton, Prod.mk.injEq]
    constructor
    · rintro (⟨x, hx, hh⟩ | ⟨rfl, rfl⟩)
      · exact ⟨x, (hmem x).mpr (.inr hx), hh⟩
      · exact ⟨m, (hmem m).mpr (.inl rfl), rfl, rfl⟩
    · rintro ⟨x, hx, h1, h2⟩
      rcases (hmem x).mp hx with rfl | hx
      · exact .inr ⟨h2.symm, h1.symm⟩
      · exact .inl ⟨x, hx, h1, h2⟩
  · refine hnd _ _ h.byOrgND fun hc => ?_
    obtain ⟨x, hx, h1, _⟩ := (h.byOrg _ _).mp hc
    exact hfresh x hx h1
  · intro a ha b hb h1 h2 h3
    rcases (hmem a).mp ha with rfl | ha' <;> rcases (hmem b).mp hb with rfl | hb'
    · rfl
    · exact absurd h3.symm (huniq b hb' h1.symm h2.symm)
    · exact absurd h3 (huniq a ha' h1 h2)
    · exact h.uniq a ha' b hb' h1 h2 h3

theorem idxInsert_fresh {s : St} {o id : Nat} {db : String} (h : (o, db, id) ∉ s.idx) :
    idxInsert s o db id = { s with idx := s.idx ++ [(o, db, id)] } := by
  unfold idxInsert
  rw [if_neg (by simpa using h)]

theorem byOrgInsert_fresh {s : St} {o id : Nat} (h : (o, id) ∉ s.byOrg) :
    byOrgInsert s o id = { s with byOrg := s.byOrg ++ [(o, id)] } := by
  unfold byOrgInsert
  rw [if_neg (by simpa using h)]

theorem create_fresh_inv {s : St} (h : Inv s) (m : Mapping) (hid : m.ID ≠ 0) (hodd : m.ID % 2 = 1)
    (hlt : m.ID < s.nextID) (hfresh : ∀ x ∈ s.recs, x.ID ≠ m.ID) (hv : m.Virtual = false) :
    Inv (create s m).1 := by
  unfold create
  rw [if_neg (by simpa using hid)]
  refine inv_ite_fst h fun _ => inv_ite_fst h fun _ => inv_ite_fst h fun _ => inv_ite_fst h fun huq => ?_
  have huniq := fun v hv => passed_isDBRPUnique h huq v hv (hfresh v hv)
  have hni : (m.OrganizationID, m.Database, m.ID) ∉ s.idx := fun hc => by
    obtain ⟨x, hx, hxid, _⟩ := (h.idx _ _ _).mp hc; exact hfresh x hx hxid
  have hnb : (m.OrganizationID, m.ID) ∉ s.byOrg := fun hc => by
    obtain ⟨x, hx, hxid, _⟩ := (h.byOrg _ _).mp hc; exact hfresh x hx hxid
  dsimp only
  rw [idxInsert_fresh hni, byOrgInsert_fresh (s := { s with idx := s.idx ++ [(m.OrganizationID, m.Database, m.ID)] }) hnb]
  generalize hg : getDefault _ m.OrganizationID m.Database = g
  have hg : getDefault s m.OrganizationID m.Database = g := hg
  cases g with
  | none =>
    simp only [Option.isNone_none, ↓reduceIte]
    exact inv_add h (m := { m with Default := true }) hodd hlt hfresh hv huniq _ (.inr rfl)
  | some d =>
    simp only [Option.isNone_some, Bool.false_eq_true, ↓reduceIte]
    split
    · exact inv_add h hodd hlt hfresh hv huniq _ (.inr rfl)
    · exact inv_add h hodd hlt hfresh hv huniq _ (.inl ⟨rfl, by rw [hg]; rfl⟩)

theorem create_inv {s : St} (h : Inv s) (m0 : Mapping) (h0 : m0.ID = 0) (hv : m0.Virtual = false) :
    Inv (create s m0).1 := by
  have hne : s.nextID ≠ 0 := fun e => by have := h.nextOdd; omega
  have e : create s m0 = create { s with nextID := s.nextID + 2 } { m0 with ID := s.nextID } := by
    unfold create
    rw [if_pos (by simpa using h0), if_neg (by simpa using hne)]
  rw [e]
  refine create_fresh_inv (inv_bump h) _ hne h.nextOdd (Nat.lt_add_of_pos_right (by omega)) (fun x hx => ?_) hv
  have := (h.recOK x hx).2.1
  exact Nat.ne_of_lt this

/-- replacing the record `r` by `m'` (same id, organization, database): `defs'` is the defaults bucket
    as it was, or with a record of the database entered as its default -/
theorem inv_replace {s : St} (h : Inv s) {r m' : Mapping} (hr : r ∈ s.recs) (hid : m'.ID = r.ID)
    (ho : m'.OrganizationID = r.OrganizationID) (hdb : m'.Database = r.Database) (hv : m'.Virtual = false)
    (huniq : ∀ v ∈ s.recs, v.ID ≠ r.ID → v.OrganizationID = r.OrganizationID → v.Database = r.Database →
      v.RetentionPolicy ≠ m'.RetentionPolicy)
    (defs' : List (Nat × String × Nat))
    (hdefs : defs' = s.defs ∨ ∃ f, defs' = (setDefault s r.OrganizationID r.Database f).defs ∧
      HasKey (insertRec m' s.recs) f r.OrganizationID r.Database) :
    Inv { s with recs := insertRec m' s.recs, defs := defs' } := by
  have hmem : ∀ x, x ∈ insertRec m' s.recs ↔ x = m' ∨ (x ∈ s.recs ∧ x.ID ≠ r.ID) := by
    intro x; rw [mem_insertRec h.sorted, hid]
  -- the records carry the same ids, organizations and databases as before
  have hkey : ∀ id o db, HasKey (insertRec m' s.recs) id o db ↔ HasKey s.recs id o db := by
    intro id o db
    constructor
    · rintro ⟨y, hy, h1, h2, h3⟩
      rcases (hmem y).mp hy with rfl | ⟨hy, _⟩
      · exact ⟨r, hr, hid.symm.trans h1, ho.symm.trans h2, hdb.symm.trans h3⟩
      · exact ⟨y, hy, h1, h2, h3⟩
    · rintro ⟨x, hx, h1, h2, h3⟩
      by_cases hxr : x.ID = r.ID
      · have := sorted_id_inj h.sorted hx hr hxr
        subst this
        exact ⟨m', (hmem m').mpr (Or.inl rfl), hid.trans h1, ho.trans h2, hdb.trans h3⟩
      · exact ⟨x, (hmem x).mpr (Or.inr ⟨hx, hxr⟩), h1, h2, h3⟩
  have hd : DefsOK { s with recs := insertRec m' s.recs, defs := defs' } := by
    rcases hdefs with rfl | ⟨f, rfl, hx⟩
    · exact defs_step h r.OrganizationID r.Database (fun o db _ => ⟨rfl, fun id => hkey id o db⟩)
        (fun f hf => (hkey ..).mpr (h.defSome _ _ f hf))
        (fun hn => absurd hn (Option.isSome_iff_ne_none.mp (h.defEx r hr)))
    · exact defs_set h rfl (fun o db _ id => hkey id o db) hx
  refine ⟨sorted_insertRec h.sorted, ?_, ?_, h.idxND, ?_, h.byOrgND, hd.1, hd.2, ?_, h.nextOdd, h.bucketsEven⟩
  · intro x hx
    rcases (hmem x).mp hx with rfl | ⟨hx, _⟩
    · have := h.recOK r hr
      exact ⟨hid ▸ this.1, hid ▸ this.2.1, hv⟩
    · exact h.recOK x hx
  · intro o db id
    exact (h.idx o db id).trans (hkey id o db).symm
  · intro o id
    refine (h.byOrg o id).trans ?_
    constructor
    · rintro ⟨x, hx, h1, h2⟩
      obtain ⟨y, hy, e1, e2, _⟩ := (hkey id o x.Database).mpr ⟨x, hx, h1, h2, rfl⟩
      exact ⟨y, hy, e1, e2⟩
    · rintro ⟨y, hy, h1, h2⟩
      obtain ⟨x, hx, e1, e2, _⟩ := (hkey id o y.Database).mp ⟨y, hy, h1, h2, rfl⟩
      exact ⟨x, hx, e1, e2⟩
  · intro a ha b hb h1 h2 h3
    rcases (hmem a).mp ha with rfl | ⟨ha', hane⟩
    · rcases (hmem b).mp hb with rfl | ⟨hb', hbne⟩
      · rfl
      · exact absurd h3.symm (huniq b hb' hbne (by rw [← h1, ho]) (by rw [← h2, hdb]))
    · rcases (hmem b).mp hb with rfl | ⟨hb', hbne⟩
      · exact absurd h3 (huniq a ha' hane (by rw [h1, ho]) (by rw [h2, hdb]))
      · exact h.uniq a ha' b hb' h1 h2 h3

theorem remove_idx {s : St} (h : Inv s) {r : Mapping} (hr : r ∈ s.recs) (s' : St)
    (hrecs : s'.recs = s.recs.filter (·.ID != r.ID))
    (hidx : s'.idx = s.idx.filter (· != (r.OrganizationID, r.Database, r.ID))) :
    ∀ o db id, (o, db, id) ∈ s'.idx ↔ HasKey s'.recs id o db := by
  have hmem : ∀ x, x ∈ s'.recs ↔ x ∈ s.recs ∧ x.ID ≠ r.ID := by
    intro x; rw [hrecs]; simp [List.mem_filter]
  have hrid : ∀ x ∈ s.recs, x.ID = r.ID → x = r := fun x hx hxr => sorted_id_inj h.sorted hx hr hxr
  intro o db id
  rw [hidx]
  simp only [List.mem_filter, bne_iff_ne, ne_eq, h.idx]
  constructor
  · rintro ⟨⟨x, hx, h1, h2, h3⟩, hne⟩
    refine ⟨x, (hmem x).mpr ⟨hx, ?_⟩, h1, h2, h3⟩
    intro hxr
    have := hrid x hx hxr
    subst this
    exact hne (by rw [← h1, ← h2, ← h3])
  · rintro ⟨x, hx, h1, h2, h3⟩
    have := (hmem x).mp hx
    refine ⟨⟨x, this.1, h1, h2, h3⟩, ?_⟩
    intro hc
    simp only [Prod.mk.injEq] at hc
    exact this.2 (by rw [h1, hc.2.2])

/-- removing the record `r`: `defs'` is the defaults bucket as it was (`r` was not the default), with
    another record of the database entered as its default, or without an entry for the database
    when no record of it is left -/
theorem inv_remove {s : St} (h : Inv s) {r : Mapping} (hr : r ∈ s.recs) (defs' : List (Nat × String × Nat))
    (hdefs : (defs' = s.defs ∧ getDefault s r.OrganizationID r.Database ≠ some r.ID) ∨
      (∃ f, defs' = (setDefault s r.OrganizationID r.Database f).defs ∧
        HasKey (s.recs.filter (·.ID != r.ID)) f r.OrganizationID r.Database) ∨
      (defs' = (unsetDefault s r.OrganizationID r.Database).defs ∧
        ∀ x ∈ s.recs.filter (·.ID != r.ID), ¬(x.OrganizationID = r.OrganizationID ∧ x.Database = r.Database))) :
    Inv { s with recs := s.recs.filter (·.ID != r.ID),
                 idx := s.idx.filter (· != (r.OrganizationID, r.Database, r.ID)),
                 byOrg := s.byOrg.filter (· != (r.OrganizationID, r.ID)), defs := defs' } := by
  have hmem : ∀ x, x ∈ s.recs.filter (·.ID != r.ID) ↔ x ∈ s.recs ∧ x.ID ≠ r.ID := by
    intro x; simp [List.mem_filter]
  have hrid : ∀ x ∈ s.recs, x.ID = r.ID → x = r := fun x hx hxr => sorted_id_inj h.sorted hx hr hxr
  have hkey : ∀ id o db, HasKey (s.recs.filter (·.ID != r.ID)) id o db ↔ HasKey s.recs id o db ∧ id ≠ r.ID := by
    intro id o db
    constructor
    · rintro ⟨x, hx, h1, hh⟩
      exact ⟨⟨x, ((hmem x).mp hx).1, h1, hh⟩, h1 ▸ ((hmem x).mp hx).2⟩
    · rintro ⟨⟨x, hx, h1, hh⟩, hne⟩
      exact ⟨x, (hmem x).mpr ⟨hx, h1 ▸ hne⟩, h1, hh⟩
  -- records of other databases are as before: the one removed is `r`
  have hother : ∀ o db, ¬(o = r.OrganizationID ∧ db = r.Database) → ∀ id,
      HasKey (s.recs.filter (·.ID != r.ID)) id o db ↔ HasKey s.recs id o db := by
    intro o db hc id
    rw [hkey]
    refine and_iff_left_of_imp ?_
    rintro ⟨x, hx, h1, h2, h3⟩ hid
    have := hrid x hx (h1.trans hid)
    subst this
    exact hc ⟨h2.symm, h3.symm⟩
  have hd : DefsOK { s with recs := s.recs.filter (·.ID != r.ID),
                            idx := s.idx.filter (· != (r.OrganizationID, r.Database, r.ID)),
                            byOrg := s.byOrg.filter (· != (r.OrganizationID, r.ID)), defs := defs' } := by
    rcases hdefs with ⟨rfl, hne⟩ | ⟨f, rfl, hx⟩ | ⟨rfl, hnone⟩
    · exact defs_step h r.OrganizationID r.Database (fun o db hc => ⟨rfl, hother o db hc⟩)
        (fun f hf => (hkey ..).mpr ⟨h.defSome _ _ f hf, fun e => hne (e ▸ hf)⟩)
        (fun hn => absurd hn (Option.isSome_iff_ne_none.mp (h.defEx r hr)))
    · exact defs_set h rfl hother hx
    · refine defs_step h r.OrganizationID r.Database
        (fun o db hc => ⟨(getDefault_unsetDefault ..).trans (if_neg hc), hother o db hc⟩) (fun f' hf => ?_)
        (fun _ => hnone)
      have hf : getDefault (unsetDefault s r.OrganizationID r.Database) r.OrganizationID r.Database = some f' := hf
      rw [getDefault_unsetDefault, if_pos ⟨rfl, rfl⟩] at hf
      cases hf
  refine ⟨sorted_filter h.sorted _, ?_, remove_idx h hr _ rfl rfl, h.idxND.filter _, ?_, h.byOrgND.filter _, hd.1, hd.2,
    ?_, h.nextOdd, h.bucketsEven⟩
  · intro x hx; exact h.recOK x ((hmem x).mp hx).1
  · intro o id
    simp only [List.mem_filter, bne_iff_ne, ne_eq, h.byOrg]
    constructor
    · rintro ⟨⟨x, hx, h1, h2⟩, hne⟩
      refine ⟨x, ⟨hx, ?_⟩, h1, h2⟩
      intro hxr
      have := hrid x hx hxr
      subst this
      exact hne (by rw [← h1, ← h2])
    · rintro ⟨x, ⟨hx, hxr⟩, h1, h2⟩
      refine ⟨⟨x, hx, h1, h2⟩, ?_⟩
      intro hc
      simp only [Prod.mk.injEq] at hc
      exact hxr (by rw [h1, hc.2])
  · intro a ha b hb
    exact h.uniq a ((hmem a).mp ha).1 b ((hmem b).mp hb).1

/-- the record `Update` writes: the caller's mapping with the immutable fields of the stored one -/
def updRec (m r : Mapping) : Mapping :=
  { m with ID := r.ID, OrganizationID := r.OrganizationID, BucketID := r.BucketID, Database := r.Database }

theorem update_inv {s : St} (h : Inv s) (m : Mapping) (hodd : m.ID % 2 = 1) (hv : m.Virtual = false) :
    Inv (update s m).1 := by
  unfold update
  refine inv_ite_fst h fun _ => ?_
  rcases findByID_odd h (org := m.OrganizationID) hodd with ⟨r, hr, hid, horg, hf⟩ | ⟨_, hf⟩
  · simp only [hf]
    refine inv_ite_fst (p := (_, Except.ok (updRec m r))) h fun huq => ?_
    have huniq := passed_isDBRPUnique (m := updRec m r) h huq
    -- the state with the record replaced and the defaults untouched
    have h1 : Inv (putRec s (updRec m r)) :=
      inv_replace (m' := updRec m r) h hr rfl rfl rfl hv huniq _ (Or.inl rfl)
    have hmemm : updRec m r ∈ (putRec s (updRec m r)).recs := (mem_insertRec h.sorted).mpr (Or.inl rfl)
    show Inv (if _ then _ else _)
    split
    · exact inv_replace (m' := updRec m r) h hr rfl rfl rfl hv huniq _
        (Or.inr ⟨r.ID, rfl, _, hmemm, rfl, rfl, rfl⟩)
    · split
      · split
        · next f hfb =>
          exact inv_replace (m' := updRec m r) h hr rfl rfl rfl hv huniq _
            (Or.inr ⟨f, rfl, (getFirstBut_some (s := putRec s (updRec m r)) h1.idx hfb).2⟩)
        · exact h1
      · exact h1
  · simp only [hf]; exact h

theorem delete_inv {s : St} (h : Inv s) (org id : Nat) (hodd : id % 2 = 1) : Inv (delete s org id).1 := by
  unfold delete
  rcases findByID_odd h (org := org) hodd with ⟨r, hr, hid, horg, hf⟩ | ⟨_, hf⟩
  · simp only [hf]
    refine inv_ite_fst h fun _ => ?_
    subst hid horg
    simp only
    have hidx3 := remove_idx h hr (byOrgDelete (idxDelete (delRec s r.ID) r.OrganizationID r.Database r.ID) r.OrganizationID r.ID) rfl rfl
    have hs3 : Sorted (byOrgDelete (idxDelete (delRec s r.ID) r.OrganizationID r.Database r.ID) r.OrganizationID r.ID).recs :=
      sorted_filter h.sorted _
    by_cases hd : getDefault s r.OrganizationID r.Database = some r.ID
    · simp only [hd, beq_self_eq_true, ↓reduceIte]
      split
      · next f hfb =>
        exact inv_remove h hr _ (Or.inr (Or.inl ⟨f, rfl, (getFirstBut_some hidx3 hfb).2⟩))
      · next hfb =>
        refine inv_remove h hr _ (Or.inr (Or.inr ⟨rfl, ?_⟩))
        intro x hx hc
        exact bne_iff_ne.mp (List.mem_filter.mp hx).2 (getFirstBut_none hs3 hidx3 hfb x hx hc.1 hc.2)
    · have hd' : (getDefault s r.OrganizationID r.Database == some r.ID) = false := by simpa using hd
      simp only [hd', Bool.false_eq_true, ↓reduceIte]
      exact inv_remove h hr _ (Or.inl ⟨rfl, hd⟩)
  · simp only [hf]; exact h

end Influx.DBRP
