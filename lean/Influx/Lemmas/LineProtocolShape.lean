/-
  The shape of what the key scanners accept: a component returned in front of a delimiter is
  `Guarded` against the scanner's delimiter set.  On such components `unescapeTag` is injective,
  so `point.Tags()` of an accepted point are the scanned tags with pairwise distinct keys.
-/
import Influx.Model.LineProtocolParse
import Influx.Lemmas.LineProtocolKey
import Influx.Spec.C12

namespace Influx.LP
open Influx.Generated.LineProto

/-- case split on an `if` on the left of an equation, without rewriting the rest of the goal -/
theorem ite_eq_imp {c : Prop} [Decidable c] {a b x : α} {Q : Prop}
    (ha : c → a = x → Q) (hb : ¬ c → b = x → Q) : (if c then a else b) = x → Q := by
  split
  · next hc => exact ha hc
  · next hc => exact hb hc

/-- a byte the scanner stepped over is not a bare delimiter -/
theorem notBare {D : Nat → Bool} {b prev : Nat} (h : prev ≠ cBS → D b = false) :
    D b = true → (prev == cBS) = true := fun hb =>
  Decidable.byContradiction fun hp => by rw [h fun e => hp (beq_iff_eq.mpr e)] at hb; cases hb

theorem isMeasSpecial_false {b : Nat} (h1 : b ≠ cComma) (h2 : b ≠ cSpace) : isMeasSpecial b = false := by
  simp [isMeasSpecial, h1, h2]

theorem isTagSpecial_false {b : Nat} (h1 : b ≠ cComma) (h2 : b ≠ cSpace) (h3 : b ≠ cEq) :
    isTagSpecial b = false := by
  simp [isTagSpecial, h1, h2, h3]

theorem scanMeasAux_shape (prev : Nat) (buf n : Bytes) (e : MeasEnd) : scanMeasAux prev buf = (n, e) →
    NoBare isMeasSpecial (prev == cBS) n ∧
    (∀ r, e = .tags r → lastIsBS (prev == cBS) n = false ∧ buf = n ++ cComma :: r) ∧
    (∀ r, e = .fields r → lastIsBS (prev == cBS) n = false ∧ buf = n ++ r ∧ r.head? = some cSpace) := by
  induction buf generalizing prev n e with
  | nil => rintro ⟨⟩; exact ⟨trivial, nofun, nofun⟩
  | cons b rest ih =>
    rw [scanMeasAux]
    refine ite_eq_imp (fun hc => ?_) fun hc1 => ite_eq_imp (fun hc => ?_) fun hc2 => ?_
    · rintro ⟨⟩
      exact ⟨trivial, fun r hr => by cases hr; exact ⟨beq_eq_false_iff_ne.mpr hc.1, by rw [hc.2]; rfl⟩, nofun⟩
    · rintro ⟨⟩
      exact ⟨trivial, nofun, fun r hr => by
        cases hr; exact ⟨beq_eq_false_iff_ne.mpr hc.1, rfl, by rw [hc.2]; rfl⟩⟩
    · rintro ⟨⟩
      obtain ⟨i1, i2, i3⟩ := ih b _ _ rfl
      refine ⟨⟨notBare fun hp => isMeasSpecial_false (fun e => hc1 ⟨hp, e⟩) fun e => hc2 ⟨hp, e⟩, i1⟩,
        fun r hr => ⟨(i2 r hr).1, congrArg (List.cons b) (i2 r hr).2⟩,
        fun r hr => ⟨(i3 r hr).1, congrArg (List.cons b) (i3 r hr).2.1, (i3 r hr).2.2⟩⟩

/-- what `scanMeasurement` returns when a name was scanned: where the buffer was cut, and that
    the name is non-empty, has no bare comma and does not end in a backslash (its first byte
    may be a space) -/
theorem scanMeasurement_ok (buf n : Bytes) (e : MeasEnd) (h : scanMeasurement buf = (n, e)) :
    (∀ r, e = .tags r → buf = n ++ cComma :: r) ∧
    (∀ r, e = .fields r → buf = n ++ r ∧ r.head? = some cSpace) ∧
    (∀ r, e = .tags r ∨ e = .fields r →
      n ≠ [] ∧ Guarded (· == cComma) false n) := by
  cases buf with
  | nil => cases h; exact ⟨nofun, nofun, nofun⟩
  | cons b rest =>
    rw [scanMeasurement] at h
    split at h
    · cases h; exact ⟨nofun, nofun, nofun⟩
    · next hb =>
      cases h
      obtain ⟨i1, i2, i3⟩ := scanMeasAux_shape b rest _ _ rfl
      refine ⟨fun r hr => congrArg (List.cons b) (i2 r hr).2,
        fun r hr => ⟨congrArg (List.cons b) (i3 r hr).2.1, (i3 r hr).2.2⟩,
        fun r he => ⟨nofun, ⟨fun hd => absurd (eq_of_beq hd) hb, NoBare_mono _ _ isMeasSpecial_of_comma _ _ i1⟩, ?_⟩⟩
      · rcases he with hr | hr
        · exact (i2 r hr).1
        · exact (i3 r hr).1

theorem scanTagsKeyAux_shape (prev : Nat) (buf k r : Bytes) : scanTagsKeyAux prev buf = .ok (k, r) →
    Guarded isTagSpecial (prev == cBS) k ∧ buf = k ++ cEq :: r := by
  induction buf generalizing prev k r with
  | nil => nofun
  | cons b rest ih =>
    rw [scanTagsKeyAux]
    refine ite_eq_imp (fun _ => nofun) fun hc1 => ite_eq_imp (fun hc => ?_) fun hc2 => ?_
    · rintro ⟨⟩
      exact ⟨⟨trivial, beq_eq_false_iff_ne.mpr hc.2⟩, by rw [hc.1]; rfl⟩
    · split
      · next k' r' hrec =>
        rintro ⟨⟩
        obtain ⟨i1, i3⟩ := ih b k' r hrec
        exact ⟨⟨⟨notBare fun hp => isTagSpecial_false (fun e => hc1 ⟨.inr e, hp⟩)
          (fun e => hc1 ⟨.inl e, hp⟩) fun e => hc2 ⟨e, hp⟩, i1.nb⟩, i1.tb⟩, congrArg (List.cons b) i3⟩
      · nofun

theorem scanTagsKey_shape (buf k r : Bytes) : scanTagsKey buf = .ok (k, r) →
    Guarded isTagSpecial false k ∧ buf = k ++ cEq :: r := by
  cases buf with
  | nil => nofun
  | cons b rest =>
    rw [scanTagsKey]
    refine ite_eq_imp (fun _ => nofun) fun hc => ?_
    split
    · next k' r' hrec =>
      rintro ⟨⟩
      obtain ⟨i1, i3⟩ := scanTagsKeyAux_shape b rest k' r hrec
      refine ⟨⟨⟨fun hb => ?_, i1.nb⟩, i1.tb⟩, congrArg (List.cons b) i3⟩
      rw [isTagSpecial_false (fun e => hc (.inr (.inl e))) (fun e => hc (.inl e))
        fun e => hc (.inr (.inr e))] at hb
      cases hb
    · nofun

theorem scanTagsValueAux_shape (prev : Nat) (buf v : Bytes) (e : TagEnd) :
    scanTagsValueAux prev buf = .ok (v, e) →
    Guarded isTagSpecial (prev == cBS) v ∧
    (∀ r, e = .key r → buf = v ++ cComma :: r) ∧
    (∀ r, e = .fields r → buf = v ++ r ∧ r.head? = some cSpace) := by
  induction buf generalizing prev v e with
  | nil => nofun
  | cons b rest ih =>
    rw [scanTagsValueAux]
    refine ite_eq_imp (fun _ => nofun) fun hc1 => ite_eq_imp (fun hc => ?_) fun hc2 =>
      ite_eq_imp (fun hc => ?_) fun hc3 => ?_
    · rintro ⟨⟩
      exact ⟨⟨trivial, beq_eq_false_iff_ne.mpr hc.2⟩, fun r hr => by cases hr; rw [hc.1]; rfl, nofun⟩
    · rintro ⟨⟩
      exact ⟨⟨trivial, beq_eq_false_iff_ne.mpr hc.2⟩, nofun, fun r hr => by
        cases hr; exact ⟨rfl, by rw [hc.1]; rfl⟩⟩
    · split
      · next v' e' hrec =>
        rintro ⟨⟩
        obtain ⟨i1, i3, i4⟩ := ih b v' e hrec
        exact ⟨⟨⟨notBare fun hp => isTagSpecial_false (fun e => hc2 ⟨e, hp⟩) (fun e => hc3 ⟨e, hp⟩)
          fun e => hc1 ⟨e, hp⟩, i1.nb⟩, i1.tb⟩, fun r hr => congrArg (List.cons b) (i3 r hr),
          fun r hr => ⟨congrArg (List.cons b) (i4 r hr).1, (i4 r hr).2⟩⟩
      · nofun

/-- the value part: only `,` and space matter for where it ends (its first byte may be `=`) -/
theorem scanTagsValue_shape (buf v : Bytes) (e : TagEnd) : scanTagsValue buf = .ok (v, e) →
    v ≠ [] ∧ Guarded isMeasSpecial false v ∧
    (∀ r, e = .key r → buf = v ++ cComma :: r) ∧
    (∀ r, e = .fields r → buf = v ++ r ∧ r.head? = some cSpace) := by
  cases buf with
  | nil => nofun
  | cons b rest =>
    rw [scanTagsValue]
    refine ite_eq_imp (fun _ => nofun) fun hc => ?_
    split
    · next v' e' hrec =>
      rintro ⟨⟩
      obtain ⟨i1, i3, i4⟩ := scanTagsValueAux_shape b rest v' e hrec
      refine ⟨nofun, ⟨⟨fun hb => ?_, (i1.mono isTagSpecial_of_meas).nb⟩, i1.tb⟩,
        fun r hr => congrArg (List.cons b) (i3 r hr),
        fun r hr => ⟨congrArg (List.cons b) (i4 r hr).1, (i4 r hr).2⟩⟩
      rw [isMeasSpecial_false (fun e => hc (.inl e)) fun e => hc (.inr e)] at hb
      cases hb
    · nofun

def isC (c : Nat) : Nat → Bool := fun b => b == c

theorem NoBare_any_pbs (D : Nat → Bool) (pbs pbs' : Bool) (b : Nat) (r : Bytes) (hb : D b = false)
    (h : NoBare D pbs (b :: r)) : NoBare D pbs' (b :: r) :=
  ⟨fun hd => by (rw [hb] at hd; cases hd), h.2⟩

theorem escBy_replace21 (c : Nat) (hc : c ≠ cBS) (k : Bytes) (h : NoBare (isC c) false k) :
    escBy (isC c) (replace21 cBS c c k) = k := by
  fun_induction replace21 cBS c c k with
  | case1 => rfl
  | case2 b =>
    have := NoBare_false_cons _ _ _ h
    simp [escBy_cons, this]
  | case3 a b rest hab ih =>
    obtain ⟨rfl, rfl⟩ := hab
    have hrest : NoBare (isC b) false rest := by
      have h2 := h.2.2
      have : (b == cBS) = false := by simpa using hc
      rw [this] at h2; exact h2
    have hbb : isC b b = true := by simp [isC]
    have h92 : isC b cBS = false := by simp [isC]; exact fun e => hc e.symm
    simp only [escBy_cons, hbb, h92, if_true, Bool.false_eq_true, if_false]
    rw [ih hrest]
  | case4 a b rest hab ih =>
    have ha := NoBare_false_cons _ _ _ h
    have hbr : NoBare (isC c) false (b :: rest) := by
      by_cases ha92 : a = cBS
      · have hb : isC c b = false := by
          simp only [isC, beq_eq_false_iff_ne]
          intro e; exact hab ⟨ha92, e⟩
        exact NoBare_any_pbs _ _ _ _ _ hb h.2
      · have : (a == cBS) = false := by simpa using ha92
        have h2 := h.2
        rw [this] at h2; exact h2
    simp only [escBy_cons, ha, Bool.false_eq_true, if_false]
    rw [ih hbr]

theorem NoBare_replace21 (c c' : Nat) (hcc : c' ≠ c) (k : Bytes) (pbs : Bool)
    (h : NoBare (isC c') pbs k) : NoBare (isC c') pbs (replace21 cBS c c k) := by
  fun_induction replace21 cBS c c k generalizing pbs with
  | case1 => trivial
  | case2 b => exact h
  | case3 a b rest hab ih =>
    obtain ⟨rfl, rfl⟩ := hab
    have hb : isC c' b = false := by simp [isC]; exact fun e => hcc e.symm
    refine ⟨fun hd => by (rw [hb] at hd; cases hd), ?_⟩
    exact ih _ h.2.2
  | case4 a b rest hab ih =>
    exact ⟨h.1, ih _ h.2⟩

theorem escBy_isC_eq (c : Nat) (hc : c ≠ cBS) (s : Bytes) : escBy (isC c) s = replace12 c cBS c s := by
  have h := replace12_escBy (fun _ => false) c hc rfl s
  rw [escBy_false] at h
  rw [h]
  apply escBy_congr
  intro b; simp [isC]

theorem NoBare_split (k : Bytes) (pbs : Bool) (h : NoBare isTagSpecial pbs k) :
    NoBare (isC cComma) pbs k ∧ NoBare (isC cSpace) pbs k ∧ NoBare (isC cEq) pbs k :=
  ⟨NoBare_mono _ _ (special_of_beq rfl) _ _ h, NoBare_mono _ _ (special_of_beq rfl) _ _ h,
   NoBare_mono _ _ isTagSpecial_of_eq _ _ h⟩

theorem noBare_no_bs (D : Nat → Bool) (k : Bytes) (h : NoBare D false k) (hno : cBS ∉ k) :
    ∀ b ∈ k, D b = false := by
  induction k with
  | nil => intro b hb; cases hb
  | cons a r ih =>
    have ha92 : a ≠ cBS := fun e => hno (by simp [e])
    have h2 := h.2
    have : (a == cBS) = false := by simpa using ha92
    rw [this] at h2
    intro b hb
    rcases List.mem_cons.mp hb with rfl | hb'
    · exact NoBare_false_cons _ _ _ h
    · exact ih h2 (fun hm => hno (by simp [hm])) b hb'

theorem escBy_unescapeTag (k : Bytes) (h : NoBare isTagSpecial false k) :
    escBy isTagSpecial (unescapeTag k) = k := by
  obtain ⟨h1, h2, h3⟩ := NoBare_split k false h
  unfold unescapeTag unescapeWith
  split
  · next hno =>
    -- no backslash: no delimiter either
    exact escBy_id _ _ (noBare_no_bs isTagSpecial k h (by simpa using hno))
  · unfold tagEscapeCodes
    simp only [List.foldl_cons, List.foldl_nil, replace21_guard]
    have e1 := escBy_replace21 cComma (by decide) k h1
    have n2 := NoBare_replace21 cComma cSpace (by decide) k false h2
    have n3 := NoBare_replace21 cComma cEq (by decide) k false h3
    have e2 := escBy_replace21 cSpace (by decide) _ n2
    have n3' := NoBare_replace21 cSpace cEq (by decide) _ false n3
    have e3 := escBy_replace21 cEq (by decide) _ n3'
    generalize replace21 cBS cEq cEq (replace21 cBS cSpace cSpace (replace21 cBS cComma cComma k)) = k3 at e3 ⊢
    rw [← e1, ← e2, ← e3]
    rw [escBy_isC_eq cSpace (by decide), escBy_isC_eq cComma (by decide)]
    rw [replace12_escBy (isC cEq) cSpace (by decide) (by decide),
      replace12_escBy _ cComma (by decide) (by decide)]
    apply escBy_congr
    intro b
    simp only [isTagSpecial, isC]
    cases (b == cSpace) <;> cases (b == cComma) <;> cases (b == cEq) <;> rfl

theorem unescapeTag_injective (k1 k2 : Bytes) (h1 : NoBare isTagSpecial false k1)
    (h2 : NoBare isTagSpecial false k2) (h : unescapeTag k1 = unescapeTag k2) : k1 = k2 := by
  rw [← escBy_unescapeTag k1 h1, ← escBy_unescapeTag k2 h2, h]

theorem scanTags_shape (fuel : Nat) (buf : Bytes) (raws : List Bytes) (rest : Bytes)
    (h : scanTags fuel buf = .ok (raws, rest)) :
    ∃ kvs : List (Bytes × Bytes), raws = kvs.map kvText ∧ kvs ≠ [] ∧ (∀ kv ∈ kvs, KVShape kv) ∧
      rest.head? = some cSpace ∧ ∃ X, buf = X ++ rest := by
  induction fuel generalizing buf raws rest with
  | zero => cases h
  | succ n ih =>
    rw [scanTags] at h
    split at h
    · cases h
    next k r1 hk =>
    obtain ⟨k1, k4⟩ := scanTagsKey_shape buf k r1 hk
    split at h
    · cases h
    · next v r2 hv =>
      cases h
      obtain ⟨v1, v2, _, v5⟩ := scanTagsValue_shape r1 v _ hv
      obtain ⟨e1, e2⟩ := v5 rest rfl
      refine ⟨[(k, v)], rfl, nofun, ?_, e2, k ++ cEq :: v, by rw [k4, e1]; simp⟩
      intro kv hkv
      cases List.mem_singleton.mp hkv
      exact ⟨k1, v2, v1⟩
    · next v r2 hv =>
      obtain ⟨v1, v2, v4, _⟩ := scanTagsValue_shape r1 v _ hv
      split at h
      · cases h
      · next ts r hrec =>
        cases h
        obtain ⟨kvs, rfl, _, i3, i4, X, i5⟩ := ih r2 ts rest hrec
        refine ⟨(k, v) :: kvs, rfl, nofun, ?_, i4, k ++ cEq :: (v ++ cComma :: X), by
          rw [k4, v4 r2 rfl, i5]; simp⟩
        intro kv hkv
        rcases List.mem_cons.mp hkv with rfl | hkv
        · exact ⟨k1, v2, v1⟩
        · exact i3 kv hkv

theorem rawTagKey_kvText (kv : Bytes × Bytes) (h : KVShape kv) : rawTagKey (kvText kv) = kv.1 := by
  rw [rawTagKey, kvText, scanTo_guarded cEq kv.1 _ false (h.k.mono isTagSpecial_of_eq) (.inr rfl)]

theorem checkSorted_pairwise (keys : List Bytes) (h : checkSorted keys = .ok true) :
    keys.Pairwise (fun a b => cmpBytes a b = .lt) := by
  induction keys with
  | nil => exact List.Pairwise.nil
  | cons a rest ih =>
    cases rest with
    | nil => exact List.pairwise_singleton _ _
    | cons b r =>
      rw [checkSorted] at h
      cases hc : cmpBytes a b with
      | lt =>
        rw [hc] at h
        exact pairwise_lt_cons a b r hc (ih h)
      | eq => rw [hc] at h; cases h
      | gt => rw [hc] at h; cases h

theorem pairwise_lt_ne (keys : List Bytes) (h : keys.Pairwise (fun a b => cmpBytes a b = .lt)) :
    keys.Pairwise (· ≠ ·) := by
  apply List.Pairwise.imp _ h
  intro a b hab e
  subst e
  rw [cmpBytes_refl] at hab; cases hab

theorem distinct_of_pairwise (l : List Bytes) (h : l.Pairwise (· ≠ ·)) : Spec.C12.distinct l = true := by
  induction l with
  | nil => rfl
  | cons a rest ih =>
    have hp := List.pairwise_cons.mp h
    simp only [Spec.C12.distinct, Bool.and_eq_true, Bool.not_eq_true', List.contains_eq_mem,
      decide_eq_false_iff_not]
    exact ⟨fun hm => hp.1 a hm rfl, ih hp.2⟩

structure KeyShape (key name : Bytes) (kvs : List (Bytes × Bytes)) : Prop where
  eq : key = name ++ kvsText kvs
  name_ne : name ≠ []
  name : Guarded (· == cComma) false name
  tags : ∀ kv ∈ kvs, KVShape kv
  distinct : (kvs.map (·.1)).Pairwise (· ≠ ·)

/-- the tag keys `Tags()` reports for such a key are pairwise distinct: un-escaping is injective
    on scanned keys -/
theorem KeyShape.distinct_tags {key name : Bytes} {kvs : List (Bytes × Bytes)} (h : KeyShape key name kvs) :
    Spec.C12.distinct ((walkTags key).map (·.key)) = true := by
  rw [h.eq, walkTags_kvs name kvs h.name_ne h.name h.tags]
  apply distinct_of_pairwise
  rw [List.map_map, List.pairwise_map]
  have hd := List.pairwise_map.mp h.distinct
  cases (name ++ kvsText kvs).contains cBS with
  | false => exact hd
  | true =>
    refine List.Pairwise.imp_of_mem (fun ha hb hab e => hab ?_) hd
    exact unescapeTag_injective _ _ (h.tags _ ha).k.nb (h.tags _ hb).k.nb e

end Influx.LP
