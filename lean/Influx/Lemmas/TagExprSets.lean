/-
  Lemmas.TagExprSets — the two-pointer iterators of tsdb/index.go compute set
  union / intersection / difference on strictly ascending id lists, and keep
  them strictly ascending; likewise `idSet`, the merge of the non-nil iterators
  (`MergeSeriesIDIterators`) and the nil-aware operators.
-/
import Influx.Model.TagExpr

namespace Influx.Model.TagExpr

/-- strictly ascending (what a `SeriesIDIterator` delivers). -/
abbrev Asc (l : List Nat) : Prop := List.Pairwise (· < ·) l

theorem ids_none : Itr.ids (none : Itr) = [] := rfl
theorem ids_some (l : List Nat) : Itr.ids (some l : Itr) = l := rfl

theorem Asc.head_lt {a : Nat} {l : List Nat} (h : Asc (a :: l)) : ∀ x ∈ l, a < x :=
  (List.pairwise_cons.mp h).1

theorem Asc.tail {a : Nat} {l : List Nat} (h : Asc (a :: l)) : Asc l :=
  (List.pairwise_cons.mp h).2

theorem Asc.le_head {a x : Nat} {l : List Nat} (h : Asc (a :: l)) (hx : x ∈ a :: l) : a ≤ x := by
  rcases List.mem_cons.mp hx with rfl | hx
  · exact Nat.le_refl _
  · exact Nat.le_of_lt (h.head_lt x hx)

theorem mem_cons_of_lt {a x : Nat} {l : List Nat} (h : a < x) : x ∈ a :: l ↔ x ∈ l :=
  ⟨fun hx => (List.mem_cons.mp hx).resolve_left (Nat.ne_of_gt h), List.mem_cons_of_mem _⟩

theorem mem_union (a b : List Nat) (x : Nat) : x ∈ union a b ↔ x ∈ a ∨ x ∈ b := by
  fun_induction union a b with
  | case1 l => exact (or_iff_right List.not_mem_nil).symm
  | case2 a as => exact (or_iff_left List.not_mem_nil).symm
  | case3 a as b bs h ih => rw [List.mem_cons, ih, List.mem_cons (l := as), or_assoc]
  | case4 a as b bs h1 h2 ih => rw [List.mem_cons, ih, List.mem_cons (l := bs)]; exact or_left_comm
  | case5 a as b bs h1 h2 ih =>
    obtain rfl : a = b := by omega
    rw [List.mem_cons, ih, List.mem_cons, List.mem_cons, or_or_distrib_left]

theorem asc_union {a b : List Nat} (ha : Asc a) (hb : Asc b) : Asc (union a b) := by
  fun_induction union a b with
  | case1 l => exact hb
  | case2 a as => exact ha
  | case3 a as b bs h ih =>
    refine List.pairwise_cons.mpr ⟨fun x hx => ?_, ih ha.tail hb⟩
    rcases (mem_union _ _ _).mp hx with hx | hx
    · exact ha.head_lt x hx
    · exact Nat.lt_of_lt_of_le h (hb.le_head hx)
  | case4 a as b bs h1 h2 ih =>
    refine List.pairwise_cons.mpr ⟨fun x hx => ?_, ih ha hb.tail⟩
    rcases (mem_union _ _ _).mp hx with hx | hx
    · exact Nat.lt_of_lt_of_le h2 (ha.le_head hx)
    · exact hb.head_lt x hx
  | case5 a as b bs h1 h2 ih =>
    obtain rfl : a = b := by omega
    exact List.pairwise_cons.mpr
      ⟨fun x hx => ((mem_union _ _ _).mp hx).elim (ha.head_lt x) (hb.head_lt x), ih ha.tail hb.tail⟩

theorem inter_sublist (a b : List Nat) : List.Sublist (inter a b) a := by
  fun_induction inter a b with
  | case1 => exact List.Sublist.refl _
  | case2 => exact List.nil_sublist _
  | case3 a as b bs h ih => exact List.Sublist.cons _ ih
  | case4 a as b bs h1 h2 ih => exact ih
  | case5 a as b bs h1 h2 ih => exact List.Sublist.cons_cons _ ih

theorem asc_inter {a b : List Nat} (ha : Asc a) : Asc (inter a b) :=
  List.Pairwise.sublist (inter_sublist a b) ha

theorem mem_inter {a b : List Nat} (ha : Asc a) (hb : Asc b) (x : Nat) :
    x ∈ inter a b ↔ x ∈ a ∧ x ∈ b := by
  fun_induction inter a b with
  | case1 => exact iff_of_false List.not_mem_nil (fun h => List.not_mem_nil h.1)
  | case2 => exact iff_of_false List.not_mem_nil (fun h => List.not_mem_nil h.2)
  | case3 a as b bs h ih =>
    rw [ih ha.tail hb]
    exact and_congr_left fun hx => (mem_cons_of_lt (Nat.lt_of_lt_of_le h (hb.le_head hx))).symm
  | case4 a as b bs h1 h2 ih =>
    rw [ih ha hb.tail]
    exact and_congr_right fun hx => (mem_cons_of_lt (Nat.lt_of_lt_of_le h2 (ha.le_head hx))).symm
  | case5 a as b bs h1 h2 ih =>
    obtain rfl : a = b := by omega
    rw [List.mem_cons, ih ha.tail hb.tail, List.mem_cons, List.mem_cons, or_and_left]

theorem diff_sublist (a b : List Nat) : List.Sublist (diff a b) a := by
  fun_induction diff a b with
  | case1 => exact List.Sublist.refl _
  | case2 => exact List.Sublist.refl _
  | case3 a as b bs h ih => exact List.Sublist.cons_cons _ ih
  | case4 a as b bs h1 h2 ih => exact ih
  | case5 a as b bs h1 h2 ih => exact List.Sublist.cons _ ih

theorem asc_diff {a b : List Nat} (ha : Asc a) : Asc (diff a b) :=
  List.Pairwise.sublist (diff_sublist a b) ha

theorem mem_diff {a b : List Nat} (ha : Asc a) (hb : Asc b) (x : Nat) :
    x ∈ diff a b ↔ x ∈ a ∧ x ∉ b := by
  fun_induction diff a b with
  | case1 => exact iff_of_false List.not_mem_nil (fun h => List.not_mem_nil h.1)
  | case2 => exact (and_iff_left List.not_mem_nil).symm
  | case3 a as b bs h ih =>
    have hna : a ∉ b :: bs := fun hm => Nat.lt_irrefl _ (Nat.lt_of_lt_of_le h (hb.le_head hm))
    rw [List.mem_cons, ih ha.tail hb, List.mem_cons (l := as)]
    constructor
    · rintro (rfl | ⟨h3, h4⟩)
      · exact ⟨Or.inl rfl, hna⟩
      · exact ⟨Or.inr h3, h4⟩
    · rintro ⟨rfl | h3, h4⟩
      · exact Or.inl rfl
      · exact Or.inr ⟨h3, h4⟩
  | case4 a as b bs h1 h2 ih =>
    rw [ih ha hb.tail]
    exact and_congr_right fun hx =>
      not_congr (mem_cons_of_lt (Nat.lt_of_lt_of_le h2 (ha.le_head hx))).symm
  | case5 a as b bs h1 h2 ih =>
    obtain rfl : a = b := by omega
    rw [ih ha.tail hb.tail]
    constructor
    · rintro ⟨h3, h4⟩
      exact ⟨List.mem_cons_of_mem _ h3, fun h5 => h4 ((mem_cons_of_lt (ha.head_lt x h3)).mp h5)⟩
    · rintro ⟨h3, h4⟩
      exact ⟨(List.mem_cons.mp h3).resolve_left fun e => h4 (e ▸ List.mem_cons_self),
        fun h5 => h4 (List.mem_cons_of_mem _ h5)⟩

theorem insertId_eq_union (x : Nat) (l : List Nat) : insertId x l = union [x] l := by
  fun_induction insertId x l with
  | case1 => simp [union]
  | case2 y ys h => simp [union, h]
  | case3 y ys h1 h2 ih => simp [union, h1, h2, ih]
  | case4 y ys h1 h2 =>
    obtain rfl : x = y := by omega
    simp [union]

theorem mem_idSet (l : List Nat) (y : Nat) : y ∈ idSet l ↔ y ∈ l := by
  induction l with
  | nil => exact Iff.rfl
  | cons x xs ih =>
    show y ∈ insertId x (idSet xs) ↔ _
    rw [insertId_eq_union, mem_union, ih, List.mem_singleton, List.mem_cons]

theorem asc_idSet (l : List Nat) : Asc (idSet l) := by
  induction l with
  | nil => exact List.Pairwise.nil
  | cons x xs ih =>
    show Asc (insertId x (idSet xs))
    rw [insertId_eq_union]
    exact asc_union (List.pairwise_singleton _ _) ih

theorem mem_foldl_union (xs : List (List Nat)) (acc : List Nat) (x : Nat) :
    x ∈ xs.foldl union acc ↔ x ∈ acc ∨ ∃ l ∈ xs, x ∈ l := by
  induction xs generalizing acc with
  | nil => simp
  | cons l ls ih =>
    simp only [List.foldl_cons, ih, mem_union, List.mem_cons, exists_eq_or_imp, or_assoc]

theorem asc_foldl_union (xs : List (List Nat)) (acc : List Nat) (hacc : Asc acc)
    (hxs : ∀ l ∈ xs, Asc l) : Asc (xs.foldl union acc) := by
  induction xs generalizing acc with
  | nil => exact hacc
  | cons l ls ih =>
    exact ih _ (asc_union hacc (hxs l List.mem_cons_self))
      (fun l' hl' => hxs l' (List.mem_cons_of_mem _ hl'))

theorem ids_mergeNonNil (xs : List (List Nat)) : (mergeNonNil xs).ids = xs.foldl union [] := by
  match xs with
  | [] => rfl
  | [a] => show a = union [] a; rw [union]
  | a :: b :: rest => rfl

theorem mem_merge_map {α : Type} (xs : List α) (g : α → Itr) (i : Nat) :
    i ∈ (mergeNonNil (nonNil (xs.map g))).ids ↔ ∃ x ∈ xs, i ∈ (g x).ids := by
  rw [ids_mergeNonNil, mem_foldl_union, iff_false_intro List.not_mem_nil, false_or]
  constructor
  · rintro ⟨l, hl, hi⟩
    obtain ⟨_, ho, hol⟩ := List.mem_filterMap.mp hl
    obtain ⟨x, hx, rfl⟩ := List.mem_map.mp ho
    exact ⟨x, hx, by rw [show g x = some l from hol]; exact hi⟩
  · rintro ⟨x, hx, hi⟩
    cases hg : g x with
    | none => rw [hg] at hi; exact absurd hi List.not_mem_nil
    | some l =>
      rw [hg] at hi
      exact ⟨l, List.mem_filterMap.mpr ⟨g x, List.mem_map_of_mem hx, hg⟩, hi⟩

theorem asc_merge_map {α : Type} (xs : List α) (g : α → Itr) (h : ∀ x ∈ xs, Asc (g x).ids) :
    Asc (mergeNonNil (nonNil (xs.map g))).ids := by
  rw [ids_mergeNonNil]
  refine asc_foldl_union _ _ List.Pairwise.nil fun l hl => ?_
  obtain ⟨_, ho, hol⟩ := List.mem_filterMap.mp hl
  obtain ⟨x, hx, rfl⟩ := List.mem_map.mp ho
  have := h x hx
  rwa [show g x = some l from hol] at this

theorem mem_intersectItr {a b : Itr} (ha : Asc a.ids) (hb : Asc b.ids) (x : Nat) :
    x ∈ (intersectItr a b).ids ↔ x ∈ a.ids ∧ x ∈ b.ids := by
  cases a with
  | none => exact iff_of_false List.not_mem_nil (fun h => List.not_mem_nil h.1)
  | some a =>
    cases b with
    | none => exact iff_of_false List.not_mem_nil (fun h => List.not_mem_nil h.2)
    | some b => exact mem_inter ha hb x

theorem asc_intersectItr {a b : Itr} (ha : Asc a.ids) : Asc (intersectItr a b).ids := by
  cases a with
  | none => exact List.Pairwise.nil
  | some a =>
    cases b with
    | none => exact List.Pairwise.nil
    | some b => exact asc_inter ha

theorem mem_unionItr (a b : Itr) (x : Nat) :
    x ∈ (unionItr a b).ids ↔ x ∈ a.ids ∨ x ∈ b.ids := by
  cases a with
  | none => exact (or_iff_right List.not_mem_nil).symm
  | some a =>
    cases b with
    | none => exact (or_iff_left List.not_mem_nil).symm
    | some b => exact mem_union a b x

theorem asc_unionItr {a b : Itr} (ha : Asc a.ids) (hb : Asc b.ids) : Asc (unionItr a b).ids := by
  cases a with
  | none => exact hb
  | some a =>
    cases b with
    | none => exact ha
    | some b => exact asc_union ha hb

theorem mem_differenceItr {a b : Itr} (ha : Asc a.ids) (hb : Asc b.ids) (x : Nat) :
    x ∈ (differenceItr a b).ids ↔ x ∈ a.ids ∧ x ∉ b.ids := by
  cases a with
  | none => exact iff_of_false List.not_mem_nil (fun h => List.not_mem_nil h.1)
  | some a =>
    cases b with
    | none => exact (and_iff_left List.not_mem_nil).symm
    | some b => exact mem_diff ha hb x

theorem asc_differenceItr {a b : Itr} (ha : Asc a.ids) : Asc (differenceItr a b).ids := by
  cases a with
  | none => exact List.Pairwise.nil
  | some a =>
    cases b with
    | none => exact ha
    | some b => exact asc_diff ha

end Influx.Model.TagExpr
