/-
  Lemmas.HLLAdd — what `Add` does to the normalised registers, in either representation;
  the registers of a sketch built by `NewPlus` and `Add`s.
-/
import Influx.Lemmas.HLL
import Influx.Lemmas.HLLBits

namespace Influx.Lemmas.HLLAdd
open Influx.Model.HLL Influx.Lemmas.HLL Influx.Lemmas.HLLBits

theorem supAt_map_eq (f g : Nat → Nat × Nat) (e : Nat → Nat) (l : List Nat) (i : Nat)
    (h : ∀ x, x ∈ l → g (e x) = f x) : supAt g (l.map e) i = supAt f l i := by
  induction l with
  | nil => rfl
  | cons a as ih =>
    simp only [List.map, supAt]
    rw [h a (List.mem_cons_self ..), ih (fun x hx => h x (List.mem_cons_of_mem _ hx))]

/-- **`Add`**: the normalised registers after adding hash `x` are the old ones with register
    `index(x)` raised to `rho(x)` — in the sparse representation (through `encodeHash`, the
    temporary set, `mergeSparse` and a possible `toNormal`) exactly as in the dense one. -/
theorem add_regs {h : Plus} {p : Nat} {g : Nat → Nat} (r : HasRegs h p g) (x : Nat) (hx : x < 2 ^ 64) :
    HasRegs (add h x) p fun i => max (g i) (contrib (denseIdxRho p x) i) := by
  unfold add
  by_cases hs : h.sparse = true
  · have hlo : 4 ≤ p := r.p_eq ▸ r.wf.p_lo
    have hhi : p ≤ 18 := r.p_eq ▸ r.wf.p_hi
    rw [if_pos hs]
    -- the insertion into the temporary set is where the registers change
    refine addNormal_addMerge_ind (P := fun k => HasRegs k p fun i => max (g i) (contrib (denseIdxRho p x) i))
      (h := addTmp h x) hs (hasRegs_sparse (h := addTmp h x) hs r.p_eq hlo hhi fun i hi => ?_)
      (fun _ hg rg => rg.mergeSparse hg) (fun _ hg rg => rg.toNormal hg)
    rw [← r.sup hs i hi, ← decode_encode p x hlo hhi hx, ← r.p_eq, sparseSup, sparseSup, Nat.max_assoc,
      Nat.max_comm _ (contrib _ i)]
    exact congrArg _ (supAt_insertSorted ..)
  · have hs : h.sparse = false := Bool.eq_false_iff.mpr hs
    have hsz : h.dense.size = 2 ^ p := r.p_eq ▸ r.wf.dense_size hs
    rw [if_neg (by rw [hs]; decide)]
    have hd : ∀ d : Array Nat, regs { h with dense := d } = d := fun d => regs_dense _ hs
    refine ⟨⟨r.wf.p_lo, r.wf.p_hi, fun _ => (regMax_size ..).trans (r.wf.dense_size hs)⟩, r.p_eq, fun i hi => ?_⟩
    show reg (regs { h with dense := regMax h.dense (denseIdxRho h.p x) }) i = _
    rw [hd, regMax_at _ _ i (hsz ▸ hi), ← regs_dense h hs, r.reg_eq i hi, r.p_eq]

theorem addAll_regs {h : Plus} {p : Nat} {g : Nat → Nat} (r : HasRegs h p g) (xs : List Nat)
    (hx : ∀ x, x ∈ xs → x < 2 ^ 64) :
    HasRegs (addAll h xs) p fun i => max (g i) (supAt (denseIdxRho p) xs i) := by
  induction xs generalizing h g with
  | nil => exact r.congr fun _ _ => (Nat.max_zero _).symm
  | cons x xs ih =>
    exact (ih (add_regs r x (hx x (List.mem_cons_self ..))) fun y hy => hx y (List.mem_cons_of_mem _ hy)).congr
      fun _ _ => Nat.max_assoc ..

theorem newPlus_hasRegs (p : Nat) (e : Plus) (h : newPlus p = some e) : HasRegs e p fun _ => 0 := by
  unfold newPlus at h
  split at h
  · cases h
  · next hp =>
    cases h
    exact hasRegs_sparse rfl rfl (by omega) (by omega) fun _ _ => rfl

/-- the sketch of a list of hashes: `NewPlus(p)` then `Add` each -/
theorem sketch_regs (p : Nat) (e : Plus) (he : newPlus p = some e) (xs : List Nat) (hx : ∀ x, x ∈ xs → x < 2 ^ 64) :
    HasRegs (addAll e xs) p (supAt (denseIdxRho p) xs) :=
  (addAll_regs (newPlus_hasRegs p e he) xs hx).congr fun _ _ => Nat.zero_max _

end Influx.Lemmas.HLLAdd
