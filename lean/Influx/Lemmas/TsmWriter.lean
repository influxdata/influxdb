/-
  Lemmas.TsmWriter — the stateful writer (`tsmWriter.WriteBlock` / `directIndex.Add` /
  `flush` / `WriteIndex`) run on the blocks of a well-formed list of keys produces
  exactly `serialise crc kbs`, every call answering ok.
-/
import Influx.Model.TsmFile
import Influx.Lemmas.TsmRoundtrip

namespace Influx.Tsm
open Influx.Generated.TsmLayout

def writeKey (crc : Bytes → Nat) (s : WState) (k : Key) (bs : List Blk) : WState × List WAns :=
  bs.foldl (fun acc b => let r := writeBlock crc acc.1 k b.minT b.maxT b.data; (r.1, acc.2 ++ [r.2])) (s, [])

def writeAll (crc : Bytes → Nat) (kbs : List (Key × List Blk)) : WState × List WAns :=
  kbs.foldl (fun acc kb => let r := writeKey crc acc.1 kb.1 kb.2; (r.1, acc.2 ++ r.2)) ({}, [])

/-- the writer calls for the keys `kbs` from the state `s` (`writeAll` starts from the empty one) -/
def writeFrom (crc : Bytes → Nat) (s : WState) (kbs : List (Key × List Blk)) : WState × List WAns :=
  kbs.foldl (fun acc kb => let r := writeKey crc acc.1 kb.1 kb.2; (r.1, acc.2 ++ r.2)) (s, [])

/-- a block the writer accepts: non-empty, a known block type, checksum + data in 32 bits -/
structure WBlk (b : Blk) : Prop where
  ne : b.data ≠ []
  typ : ∀ b0, b.data.head? = some b0 → b0 ≤ 4
  size : 4 + b.data.length < 4294967296

def idxBytes (s : WState) : Bytes := s.idx.reverse.flatten

/-- the index bytes once the pending key is flushed -/
def fullIdx (s : WState) : Bytes :=
  idxBytes s ++ (if s.key = [] then [] else encKeyEntry ⟨s.key, s.typ, sortEntries s.ents.reverse⟩)

/-- the state once the file header is out (`WriteBlock` writes it while `n = 0`) -/
def withHeader (s : WState) : WState :=
  if s.n = 0 then { s with body := header :: s.body, n := header.length } else s

theorem withHeader_n_ne (s : WState) : (withHeader s).n ≠ 0 := by
  unfold withHeader
  split
  · exact fun h => absurd (header_length.symm.trans h) (by decide)
  · assumption

theorem bodyBytes_cons {s s' : WState} {c : Bytes} (h : s'.body = c :: s.body) :
    bodyBytes s' = bodyBytes s ++ c := by
  rw [bodyBytes, h, List.reverse_cons, List.flatten_append, List.flatten_singleton]; rfl

theorem sortEntries_sorted (l : List IndexEntry) (h : l.Pairwise fun a b => a.MinTime ≤ b.MinTime) :
    sortEntries l = l :=
  foldl_ins_sorted (ins := insertEntry) (lt := fun a b => a.MinTime < b.MinTime) (fun _ => rfl) (fun _ _ _ => rfl)
    l (h.imp Int.not_lt.mpr)

theorem idxAdd_same {s : WState} (hk : s.key ≠ []) (t : Nat) (e : IndexEntry) :
    idxAdd s s.key t e = some { s with ents := e :: s.ents, size := u32 (s.size + indexEntrySize) } := by
  rw [idxAdd, if_neg (mt List.length_eq_zero_iff.mp hk), kcmp_refl]

/-- `k` can follow what `s` holds: no key is pending, or a smaller one with a number of entries
    that `flush` accepts -/
def NewKey (s : WState) (k : Key) : Prop :=
  (s.key = [] ∧ s.ents = []) ∨ (s.key ≠ [] ∧ kcmp s.key k = .lt ∧ s.ents.length ≤ maxIndexEntries)

theorem idxAdd_new {s : WState} {k : Key} (h : NewKey s k) (t : Nat) (e : IndexEntry) :
    ∃ s', idxAdd s k t e = some s' ∧ s'.body = s.body ∧ s'.n = s.n ∧ idxBytes s' = fullIdx s ∧
      s'.key = k ∧ s'.typ = t ∧ s'.ents = [e] ∧ s'.keyCount = s.keyCount + 1 := by
  rcases h with ⟨hk, he⟩ | ⟨hk, hlt, hle⟩
  · rw [idxAdd, if_pos (by rw [hk]; rfl)]
    refine ⟨_, rfl, rfl, rfl, ?_, rfl, rfl, by rw [he], rfl⟩
    rw [fullIdx, if_pos hk, List.append_nil]; rfl
  · have hkl : ¬ s.key.length = 0 := mt List.length_eq_zero_iff.mp hk
    rw [idxAdd, if_neg hkl, hlt, flush, if_neg hkl, if_neg (Nat.not_lt.mpr hle)]
    refine ⟨_, rfl, rfl, rfl, ?_, rfl, rfl, rfl, rfl⟩
    rw [fullIdx, if_neg hk]
    simp only [idxBytes, Option.getD_some, List.reverse_cons, List.flatten_append, List.flatten_singleton]

theorem idxEntriesLen_le (s : WState) (k : Key) : idxEntriesLen s k ≤ s.ents.length := by
  unfold idxEntriesLen
  split
  · exact Nat.zero_le _
  · split
    · exact Nat.le_refl _
    · exact Nat.zero_le _

theorem writeBlock_ok (crc : Bytes → Nat) {s s2 : WState} {k : Key} {b : Blk} (hn : s.n ≠ 0)
    (hkl : k.length ≤ maxKeyLength) (hb : WBlk b)
    (hadd : idxAdd { s with body := (be 4 (crc b.data) ++ b.data) :: s.body } k (b.data.head?.getD 0)
      ⟨b.minT, b.maxT, s.n, 4 + b.data.length⟩ = some s2)
    (hlen : s2.ents.length < maxIndexEntries) :
    writeBlock crc s k b.minT b.maxT b.data = ({ s2 with n := s2.n + (4 + b.data.length) }, .ok) := by
  have hsz := hb.size
  have htyp := hb.typ
  have hne := hb.ne
  revert hadd hsz htyp hne
  cases b.data with
  | nil => intro _ _ _ hne; exact absurd rfl hne
  | cons b0 rest =>
    intro hadd hsz htyp _
    have hu : u32 (be 4 (crc (b0 :: rest)) ++ b0 :: rest).length = 4 + (b0 :: rest).length := by
      rw [List.length_append, be_length]; exact Nat.mod_eq_of_lt hsz
    unfold writeBlock
    rw [if_neg (Nat.not_lt.mpr hkl)]
    -- `-zeta`: the header test is decided before `let s := if s.n = 0 …` is substituted into every field
    dsimp -zeta only
    rw [if_neg (show ¬ b0 > BlockUnsigned from Nat.not_lt.mpr (htyp b0 rfl)), if_neg hn]
    dsimp only
    rw [hu, show idxAdd _ k b0 _ = some s2 from hadd]
    dsimp only
    rw [List.length_append, be_length, if_neg]
    exact Nat.not_le.mpr (Nat.lt_of_le_of_lt (idxEntriesLen_le _ k) hlen)

theorem writeBlock_withHeader (crc : Bytes → Nat) (s : WState) {k : Key} {b : Blk}
    (hkl : k.length ≤ maxKeyLength) (hb : WBlk b) :
    writeBlock crc s k b.minT b.maxT b.data = writeBlock crc (withHeader s) k b.minT b.maxT b.data := by
  have htyp := hb.typ
  have hne := hb.ne
  revert htyp hne
  cases b.data with
  | nil => intro _ hne; exact absurd rfl hne
  | cons b0 rest =>
    intro htyp _
    unfold writeBlock
    have hb0 : ¬ b0 > BlockUnsigned := Nat.not_lt.mpr (htyp b0 rfl)
    have hk : ¬ k.length > maxKeyLength := Nat.not_lt.mpr hkl
    rw [if_neg hk, if_neg hk]
    dsimp -zeta only
    rw [if_neg hb0, if_neg hb0, if_neg (withHeader_n_ne s)]
    rfl

theorem writeBlock_same (crc : Bytes → Nat) (s : WState) (b : Blk)
    (hkne : s.key ≠ []) (hkl : s.key.length ≤ maxKeyLength) (hn : s.n ≠ 0) (hb : WBlk b)
    (hcnt : s.ents.length + 1 < maxIndexEntries) :
    ∃ s', writeBlock crc s s.key b.minT b.maxT b.data = (s', .ok) ∧
      s'.body = (be 4 (crc b.data) ++ b.data) :: s.body ∧ s'.idx = s.idx ∧
      s'.n = s.n + (4 + b.data.length) ∧ s'.key = s.key ∧ s'.typ = s.typ ∧
      s'.ents = ⟨b.minT, b.maxT, s.n, 4 + b.data.length⟩ :: s.ents ∧ s'.keyCount = s.keyCount :=
  ⟨_, writeBlock_ok crc hn hkl hb
    (idxAdd_same (s := { s with body := (be 4 (crc b.data) ++ b.data) :: s.body }) hkne _ _) hcnt,
    rfl, rfl, rfl, rfl, rfl, rfl, rfl⟩

theorem writeBlock_new (crc : Bytes → Nat) (s : WState) (k : Key) (b : Blk)
    (hprev : NewKey s k) (hkl : k.length ≤ maxKeyLength) (hn : s.n ≠ 0) (hb : WBlk b) :
    ∃ s', writeBlock crc s k b.minT b.maxT b.data = (s', .ok) ∧
      bodyBytes s' = bodyBytes s ++ (be 4 (crc b.data) ++ b.data) ∧ idxBytes s' = fullIdx s ∧
      s'.n = s.n + (4 + b.data.length) ∧ s'.key = k ∧ s'.typ = (b.data.head?).getD 0 ∧
      s'.ents = [⟨b.minT, b.maxT, s.n, 4 + b.data.length⟩] ∧ s'.keyCount = s.keyCount + 1 := by
  obtain ⟨s2, hadd, h1, h2, h3, h4, h5, h6, h7⟩ :=
    idxAdd_new (s := { s with body := (be 4 (crc b.data) ++ b.data) :: s.body }) hprev
      ((b.data.head?).getD 0) ⟨b.minT, b.maxT, s.n, 4 + b.data.length⟩
  exact ⟨_, writeBlock_ok crc hn hkl hb hadd (by rw [h6]; exact (by decide : 1 < maxIndexEntries)), bodyBytes_cons h1, h3,
    congrArg (· + _) h2, h4, h5, h6, h7⟩

theorem writeKey_cons (crc : Bytes → Nat) (s : WState) (k : Key) (b : Blk) (bs : List Blk) :
    writeKey crc s k (b :: bs) =
      ((writeKey crc (writeBlock crc s k b.minT b.maxT b.data).1 k bs).1,
       (writeBlock crc s k b.minT b.maxT b.data).2 :: (writeKey crc (writeBlock crc s k b.minT b.maxT b.data).1 k bs).2) := by
  have acc : ∀ (bs : List Blk) (s : WState) (pre : List WAns),
      bs.foldl (fun acc b => let r := writeBlock crc acc.1 k b.minT b.maxT b.data; (r.1, acc.2 ++ [r.2])) (s, pre) =
        ((writeKey crc s k bs).1, pre ++ (writeKey crc s k bs).2) := by
    intro bs
    induction bs with
    | nil => intro s pre; simp [writeKey]
    | cons b bs ih =>
      intro s pre
      simp only [writeKey, List.foldl_cons]
      rw [ih, ih (writeBlock crc s k b.minT b.maxT b.data).1 ([] ++ [_])]
      simp [List.append_assoc]
  exact acc bs _ _

theorem writeKey_same (crc : Bytes → Nat) (k : Key) (hkne : k ≠ []) (hkl : k.length ≤ maxKeyLength)
    (bs : List Blk) (hb : ∀ b ∈ bs, WBlk b) :
    ∀ s : WState, s.key = k → s.n ≠ 0 → s.ents.length + bs.length < maxIndexEntries →
    ∃ s', writeKey crc s k bs = (s', List.replicate bs.length .ok) ∧
      bodyBytes s' = bodyBytes s ++ encBlocks crc bs ∧ idxBytes s' = idxBytes s ∧
      s'.n = s.n + blocksLen bs ∧ s'.key = k ∧ s'.typ = s.typ ∧
      s'.ents.reverse = s.ents.reverse ++ layoutBlocks s.n bs ∧ s'.keyCount = s.keyCount := by
  induction bs with
  | nil =>
    intro s hk _ _
    exact ⟨s, rfl, (List.append_nil _).symm, rfl, rfl, hk, rfl, (List.append_nil _).symm, rfl⟩
  | cons b bs ih =>
    intro s hk hn hcnt
    subst hk
    rw [List.length_cons, ← Nat.add_assoc, Nat.add_right_comm] at hcnt
    obtain ⟨s1, hw, b1, b2, b3, b4, b5, b6, b7⟩ := writeBlock_same crc s b hkne hkl hn
      (hb b List.mem_cons_self) (Nat.lt_of_le_of_lt (Nat.le_add_right _ _) hcnt)
    obtain ⟨s', h1, h2, h3, h4, h5, h6, h7, h8⟩ := ih (fun x hx => hb x (List.mem_cons_of_mem _ hx)) s1 b4
      (by rw [b3]; exact Nat.ne_of_gt (Nat.lt_of_lt_of_le (Nat.pos_of_ne_zero hn) (Nat.le_add_right _ _)))
      (by rw [b6]; exact hcnt)
    rw [writeKey_cons, hw]
    refine ⟨s', by rw [h1]; rfl, ?_, h3.trans (congrArg (fun i => i.reverse.flatten) b2), ?_, h5,
      h6.trans b5, ?_, h8.trans b7⟩
    · rw [h2, bodyBytes_cons b1, List.append_assoc]; rfl
    · rw [h4, b3, Nat.add_assoc]; rfl
    · rw [h7, b6, b3, List.reverse_cons, List.append_assoc, ← Nat.add_assoc]; rfl

theorem writeKey_spec (crc : Bytes → Nat) (s : WState) (k : Key) (bs : List Blk)
    (hprev : NewKey s k) (hkne : k ≠ []) (hkl : k.length ≤ maxKeyLength) (hn : s.n ≠ 0) (hb : ∀ b ∈ bs, WBlk b)
    (hne : bs ≠ []) (hcnt : bs.length < maxIndexEntries) :
    ∃ s', writeKey crc s k bs = (s', List.replicate bs.length .ok) ∧
      bodyBytes s' = bodyBytes s ++ encBlocks crc bs ∧ idxBytes s' = fullIdx s ∧
      s'.n = s.n + blocksLen bs ∧ s'.key = k ∧ s'.typ = ((bs.head?.bind (·.data.head?)).getD 0) ∧
      s'.ents.reverse = layoutBlocks s.n bs ∧ s'.keyCount = s.keyCount + 1 := by
  cases bs with
  | nil => exact absurd rfl hne
  | cons b rest =>
    obtain ⟨s1, hw, a1, a2, a3, a4, a5, a6, a7⟩ :=
      writeBlock_new crc s k b hprev hkl hn (hb b List.mem_cons_self)
    obtain ⟨s', h1, h2, h3, h4, h5, h6, h7, h8⟩ :=
      writeKey_same crc k hkne hkl rest (fun x hx => hb x (List.mem_cons_of_mem _ hx)) s1 a4
        (by rw [a3]; exact Nat.ne_of_gt (Nat.lt_of_lt_of_le (Nat.pos_of_ne_zero hn) (Nat.le_add_right _ _)))
        (by rw [a6, List.length_singleton, Nat.add_comm]; exact hcnt)
    rw [writeKey_cons, hw]
    refine ⟨s', by rw [h1]; rfl, ?_, h3.trans a2, ?_, h5, ?_, ?_, h8.trans a7⟩
    · rw [h2, a1, List.append_assoc]; rfl
    · rw [h4, a3, Nat.add_assoc]; rfl
    · rw [h6, a5]; rfl
    · rw [h7, a6, a3, ← Nat.add_assoc]; rfl

/-- what the writer accepts and writes back unchanged: non-empty keys of at most 65535 bytes
    in strictly increasing order, per key 1..65534 acceptable blocks in min-time order -/
structure WFW (kbs : List (Key × List Blk)) : Prop where
  keys : kbs.Pairwise fun a b => kcmp a.1 b.1 = .lt
  kne : ∀ kb ∈ kbs, kb.1.length ≠ 0 ∧ kb.1.length ≤ 65535
  blks : ∀ kb ∈ kbs, kb.2 ≠ [] ∧ kb.2.length < 65535 ∧ ∀ b ∈ kb.2, WBlk b
  sorted : ∀ kb ∈ kbs, kb.2.Pairwise fun a b => a.minT ≤ b.minT

theorem WFW.tail {kb : Key × List Blk} {kbs : List (Key × List Blk)} (h : WFW (kb :: kbs)) : WFW kbs :=
  ⟨(List.pairwise_cons.mp h.keys).2, fun x hx => h.kne x (List.mem_cons_of_mem _ hx),
    fun x hx => h.blks x (List.mem_cons_of_mem _ hx), fun x hx => h.sorted x (List.mem_cons_of_mem _ hx)⟩

theorem layoutBlocks_minTime_ge (m : Int) (bs : List Blk) (h : ∀ x ∈ bs, m ≤ x.minT) :
    ∀ (pos : Nat), ∀ e ∈ layoutBlocks pos bs, m ≤ e.MinTime := by
  induction bs with
  | nil => intro _ e he; cases he
  | cons x l ih =>
    intro pos e he
    rcases List.mem_cons.mp he with rfl | he
    · exact h x List.mem_cons_self
    · exact ih (fun y hy => h y (List.mem_cons_of_mem _ hy)) _ e he

theorem layoutBlocks_sorted (pos : Nat) (bs : List Blk) (h : bs.Pairwise fun a b => a.minT ≤ b.minT) :
    (layoutBlocks pos bs).Pairwise fun a b => a.MinTime ≤ b.MinTime := by
  induction bs generalizing pos with
  | nil => exact List.Pairwise.nil
  | cons b bs ih =>
    have hb := List.pairwise_cons.mp h
    exact List.pairwise_cons.mpr ⟨layoutBlocks_minTime_ge b.minT bs hb.1 _, ih _ hb.2⟩

theorem writeFrom_cons (crc : Bytes → Nat) (s : WState) (kb : Key × List Blk) (kbs : List (Key × List Blk)) :
    writeFrom crc s (kb :: kbs) =
      ((writeFrom crc (writeKey crc s kb.1 kb.2).1 kbs).1,
       (writeKey crc s kb.1 kb.2).2 ++ (writeFrom crc (writeKey crc s kb.1 kb.2).1 kbs).2) := by
  have acc : ∀ (kbs : List (Key × List Blk)) (s : WState) (pre : List WAns),
      kbs.foldl (fun acc kb => let r := writeKey crc acc.1 kb.1 kb.2; (r.1, acc.2 ++ r.2)) (s, pre) =
        ((writeFrom crc s kbs).1, pre ++ (writeFrom crc s kbs).2) := by
    intro kbs
    induction kbs with
    | nil => intro s pre; simp [writeFrom]
    | cons kb kbs ih =>
      intro s pre
      simp only [writeFrom, List.foldl_cons]
      rw [ih, ih (writeKey crc s kb.1 kb.2).1 ([] ++ _)]
      simp [List.append_assoc]
  exact acc kbs _ _

theorem writeFrom_spec (crc : Bytes → Nat) (kbs : List (Key × List Blk)) (hw : WFW kbs) :
    ∀ s : WState, s.n ≠ 0 →
      ((s.key = [] ∧ s.ents = [] ∧ kbs ≠ []) ∨
       (s.key ≠ [] ∧ s.ents.length ≤ maxIndexEntries ∧ ∀ kb ∈ kbs, kcmp s.key kb.1 = .lt)) →
      ∃ s' ans, writeFrom crc s kbs = (s', ans) ∧
        (∀ a ∈ ans, a = WAns.ok) ∧
        bodyBytes s' = bodyBytes s ++ (kbs.flatMap fun kb => encBlocks crc kb.2) ∧
        fullIdx s' = fullIdx s ++ (layout s.n kbs).flatMap encKeyEntry ∧
        s'.n = s.n + totalBlocks kbs ∧ s'.keyCount = s.keyCount + kbs.length ∧
        s'.key ≠ [] ∧ s'.ents.length ≤ maxIndexEntries := by
  induction kbs with
  | nil =>
    intro s _ hs
    rcases hs with ⟨_, _, h⟩ | ⟨hk, he, _⟩
    · exact absurd rfl h
    · exact ⟨s, [], rfl, fun _ h => (List.not_mem_nil h).elim, (List.append_nil _).symm, (List.append_nil _).symm,
        rfl, rfl, hk, he⟩
  | cons kb rest ih =>
    intro s hn hs
    obtain ⟨k, bs⟩ := kb
    have hk := hw.kne (k, bs) List.mem_cons_self
    have hbk := hw.blks (k, bs) List.mem_cons_self
    have hkne : k ≠ [] := fun h => hk.1 (by rw [h]; rfl)
    obtain ⟨s1, hw1, a1, a2, a3, a4, a5, a6, a7⟩ :=
      writeKey_spec crc s k bs
        (hs.imp (fun ⟨h1, h2, _⟩ => ⟨h1, h2⟩) fun ⟨h1, h2, h3⟩ => ⟨h1, h3 (k, bs) List.mem_cons_self, h2⟩)
        hkne hk.2 hn hbk.2.2 hbk.1 hbk.2.1
    have hlen1 : s1.ents.length ≤ maxIndexEntries := by
      rw [← List.length_reverse, a6, layoutBlocks_length]; exact Nat.le_of_lt hbk.2.1
    obtain ⟨s', ans, hf, hans, b1, b2, b3, b4, b5, b6⟩ := ih hw.tail s1
      (by rw [a3]; exact Nat.ne_of_gt (Nat.lt_of_lt_of_le (Nat.pos_of_ne_zero hn) (Nat.le_add_right _ _)))
      (Or.inr ⟨a4 ▸ hkne, hlen1, a4 ▸ fun x hx => List.rel_of_pairwise_cons hw.keys hx⟩)
    have hidx1 : fullIdx s1 = fullIdx s ++ encKeyEntry ⟨k, (bs.head?.bind (·.data.head?)).getD 0,
        layoutBlocks s.n bs⟩ := by
      rw [fullIdx, a2, a4, a5, a6, if_neg hkne,
        sortEntries_sorted _ (layoutBlocks_sorted _ bs (hw.sorted (k, bs) List.mem_cons_self))]
    rw [writeFrom_cons, hw1, hf]
    refine ⟨s', _, rfl, ?_, ?_, ?_, ?_, ?_, b5, b6⟩
    · intro a ha
      rcases List.mem_append.mp ha with ha | ha
      · exact (List.mem_replicate.mp ha).2
      · exact hans a ha
    · rw [b1, a1, List.append_assoc]; rfl
    · rw [b2, hidx1, a3, List.append_assoc]; rfl
    · rw [b3, a3, Nat.add_assoc]; rfl
    · rw [b4, a7, Nat.add_assoc, Nat.add_comm 1]; rfl

theorem writeAll_withHeader (crc : Bytes → Nat) (kbs : List (Key × List Blk)) (hw : WFW kbs)
    (hne : kbs ≠ []) : writeAll crc kbs = writeFrom crc (withHeader {}) kbs := by
  show writeFrom crc {} kbs = _
  cases kbs with
  | nil => exact absurd rfl hne
  | cons kb rest =>
    obtain ⟨hne, _, hb⟩ := hw.blks kb List.mem_cons_self
    rw [writeFrom_cons, writeFrom_cons]
    cases hbs : kb.2 with
    | nil => exact absurd hbs hne
    | cons b bs =>
      rw [writeKey_cons, writeKey_cons,
        writeBlock_withHeader crc {} (hw.kne kb List.mem_cons_self).2 (hb b (hbs ▸ List.mem_cons_self))]

theorem writeIndex_pending {s : WState} (hk : s.key ≠ []) (hc : s.keyCount ≠ 0)
    (he : s.ents.length ≤ maxIndexEntries) :
    writeIndex s = (.ok, bodyBytes s ++ fullIdx s ++ be 8 s.n) := by
  have hkl : ¬ s.key.length = 0 := mt List.length_eq_zero_iff.mp hk
  rw [writeIndex, if_neg hc, flush, if_neg hkl, if_neg (Nat.not_lt.mpr he), fullIdx, if_neg hk]
  dsimp only
  rw [List.reverse_cons, List.flatten_append, List.flatten_singleton]; rfl

theorem writeAll_serialise (crc : Bytes → Nat) (kbs : List (Key × List Blk)) (hw : WFW kbs) (hne : kbs ≠ []) :
    (∀ a ∈ (writeAll crc kbs).2, a = WAns.ok) ∧
    writeIndex (writeAll crc kbs).1 = (.ok, serialise crc kbs) := by
  obtain ⟨s', ans, hf, hans, b1, b2, b3, b4, b5, b6⟩ :=
    writeFrom_spec crc kbs hw (withHeader {}) (withHeader_n_ne _) (Or.inl ⟨rfl, rfl, hne⟩)
  have hkc : s'.keyCount ≠ 0 := by
    rw [b4]; exact Nat.ne_of_gt (Nat.lt_of_lt_of_le (List.length_pos_iff.mpr hne) (Nat.le_add_left _ _))
  rw [writeAll_withHeader crc kbs hw hne, hf, writeIndex_pending b5 hkc b6, b1, b2, b3, serialise,
    allBlocks_length]
  exact ⟨hans, rfl⟩

end Influx.Tsm
