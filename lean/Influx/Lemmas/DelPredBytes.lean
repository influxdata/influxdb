/-
  Lemmas.DelPredBytes — byte-level facts behind C16: escaping (`models`) and the
  two tag-popping routines of tsm1/predicate.go are inverse to each other on the
  domain `KeyOK`; what the loop of `Matches` pops off the key of a series; where
  the field separator is cut off a composite key.
-/
import Influx.Model.DelPred

namespace Influx.Model.DelPred

def esc (S : Nat → Bool) (s : Bytes) : Bytes :=
  s.flatMap fun b => if S b then [92, b] else [b]

def tagSpecial (b : Nat) : Bool := b == 44 || b == 32 || b == 61
def measSpecial (b : Nat) : Bool := b == 44 || b == 32

@[simp] theorem esc_nil (S) : esc S [] = [] := rfl
theorem esc_cons (S b s) : esc S (b :: s) = (if S b then [92, b] else [b]) ++ esc S s := by
  simp [esc, List.flatMap_cons]

theorem esc_append (S : Nat → Bool) (x y : Bytes) : esc S (x ++ y) = esc S x ++ esc S y := by
  simp [esc, List.flatMap_append]

theorem escByte_eq_esc (c : Nat) (s : Bytes) : escByte c s = esc (fun b => b == c) s := by
  unfold escByte esc
  congr; funext b
  by_cases h : b = c <;> simp [h]

/-- one more `bytes.Replace` pass adds `c` to the class of escaped bytes -/
theorem escByte_esc (c : Nat) (S : Nat → Bool) (hc : c ≠ 92) (hS : S c = false) (s : Bytes) :
    escByte c (esc S s) = esc (fun b => S b || b == c) s := by
  unfold escByte esc
  rw [List.flatMap_assoc]
  congr; funext b
  by_cases hb : S b = true
  · have hbc : b ≠ c := fun h => by rw [h, hS] at hb; cases hb
    simp [hb, hbc, Ne.symm hc]
  · by_cases hbc : b = c
    · subst hbc; simp [hS]
    · simp [hb, hbc]

theorem escapeTag_eq (s : Bytes) : escapeTag s = esc tagSpecial s := by
  unfold escapeTag
  rw [escByte_eq_esc 44 s, escByte_esc 32 _ (by decide) (by decide), escByte_esc 61 _ (by decide) (by decide)]
  rfl

theorem escapeMeasurement_eq (s : Bytes) : escapeMeasurement s = esc measSpecial s := by
  unfold escapeMeasurement
  rw [escByte_eq_esc 44 s, escByte_esc 32 _ (by decide) (by decide)]
  rfl

theorem mem_esc {S : Nat → Bool} {s : Bytes} {x : Nat} (h : x ∈ esc S s) : x = 92 ∨ x ∈ s := by
  obtain ⟨b, hb, hx⟩ := List.mem_flatMap.1 h
  split at hx
  · rcases List.mem_cons.1 hx with rfl | hx
    · exact Or.inl rfl
    · exact Or.inr (List.mem_singleton.1 hx ▸ hb)
  · exact Or.inr (List.mem_singleton.1 hx ▸ hb)

theorem getLast?_esc (S : Nat → Bool) (s : Bytes) : (esc S s).getLast? = s.getLast? := by
  rcases List.eq_nil_or_concat s with rfl | ⟨s', b, rfl⟩
  · rfl
  · rw [List.concat_eq_append, esc_append, esc_cons]
    by_cases hb : S b = true <;> simp [hb, List.getLast?_append]

/-- "the byte before the next position is a backslash", after scanning `s` starting with `pb` -/
def endBs (pb : Bool) (s : Bytes) : Bool :=
  match s.getLast? with
  | none => pb
  | some b => b == 92

theorem endBs_nil (pb) : endBs pb [] = pb := rfl
theorem endBs_cons (pb b s) : endBs pb (b :: s) = endBs (b == 92) s := by
  cases s with
  | nil => rfl
  | cons c s =>
    unfold endBs
    rw [List.getLast?_cons_cons]
    cases h : (c :: s).getLast? with
    | none => simp at h
    | some x => rfl

theorem endBs_append (pb : Bool) (x y : Bytes) : endBs pb (x ++ y) = endBs (endBs pb x) y := by
  induction x generalizing pb with
  | nil => rfl
  | cons b x ih => rw [List.cons_append, endBs_cons, endBs_cons, ih]

def noTrailBs (s : Bytes) : Bool := s.getLast? != some 92

theorem noTrailBs_esc (S : Nat → Bool) (s : Bytes) : noTrailBs (esc S s) = noTrailBs s := by
  simp [noTrailBs, getLast?_esc]

theorem endBs_esc {S : Nat → Bool} {s : Bytes} (h : noTrailBs s = true) : endBs false (esc S s) = false := by
  unfold noTrailBs at h
  unfold endBs
  rw [getLast?_esc]
  cases hl : s.getLast? with
  | none => rfl
  | some b =>
    rw [hl] at h
    by_cases hb : b = 92
    · subst hb; simp at h
    · simp [hb]

theorem splitUnesc_eq_some {c : Nat} {pb : Bool} {s x y : Bytes} (h : splitUnesc c pb s = some (x, y)) :
    s = x ++ c :: y := by
  induction s generalizing pb x with
  | nil => cases h
  | cons b s ih =>
    rw [splitUnesc] at h
    split at h
    · next hb => cases h; rw [hb.1]; rfl
    · cases hs : splitUnesc c (b == 92) s with
      | none => rw [hs] at h; cases h
      | some v => rw [hs] at h; cases h; rw [ih hs]; rfl

theorem splitUnesc_append {c : Nat} {pb : Bool} {x : Bytes} (t : Bytes) (h : splitUnesc c pb x = none) :
    splitUnesc c pb (x ++ t) = (splitUnesc c (endBs pb x) t).map fun p => (x ++ p.1, p.2) := by
  induction x generalizing pb with
  | nil => simp [endBs_nil]
  | cons b x ih =>
    rw [splitUnesc] at h
    rw [List.cons_append, splitUnesc, endBs_cons]
    split at h
    · cases h
    · next hsep =>
      rw [if_neg hsep]
      cases hs : splitUnesc c (b == 92) x with
      | some v => rw [hs] at h; cases h
      | none =>
        rw [ih hs]
        cases splitUnesc c (endBs (b == 92) x) t <;> rfl

theorem splitUnesc_esc (S : Nat → Bool) (c : Nat) (hSc : S c = true) (hS92 : S 92 = false)
    (s : Bytes) (pb : Bool) : splitUnesc c pb (esc S s) = none := by
  have h92c : (92 : Nat) ≠ c := fun h => by rw [← h, hS92] at hSc; cases hSc
  induction s generalizing pb with
  | nil => rfl
  | cons b s ih =>
    rw [esc_cons]
    by_cases hb : S b = true
    · simp [hb, splitUnesc, h92c, ih]
    · have hbc : b ≠ c := fun h => hb (h ▸ hSc)
      simp [hb, splitUnesc, hbc, ih]

theorem splitUnesc_none_of_not_mem (c : Nat) (s : Bytes) (h : c ∉ s) (pb : Bool) :
    splitUnesc c pb s = none := by
  induction s generalizing pb with
  | nil => rfl
  | cons b s ih =>
    have hb : b ≠ c := fun e => h (by simp [e])
    have hs : c ∉ s := fun e => h (by simp [e])
    rw [splitUnesc]
    simp [hb, ih hs]

theorem unescLoop_cons (b : Nat) (X : Bytes)
    (h : b ≠ 92 ∨ ∀ x, X.head? = some x → tagSpecial x = false) :
    unescLoop (b :: X) = b :: unescLoop X := by
  cases X with
  | nil => simp [unescLoop]
  | cons x X' =>
    rw [unescLoop]
    rcases h with h | h
    · simp [h]
    · have hx := h x rfl
      simp [tagSpecial] at hx
      simp [hx]

theorem head_esc_not_special (s : Bytes) : ∀ x, (esc tagSpecial s).head? = some x → tagSpecial x = false := by
  intro x hx
  cases s with
  | nil => simp at hx
  | cons b s =>
    rw [esc_cons] at hx
    by_cases hb : tagSpecial b = true
    · simp [hb] at hx; subst hx; rfl
    · simp [hb] at hx; subst hx; simpa using hb

theorem unescLoop_esc (s : Bytes) : unescLoop (esc tagSpecial s) = s := by
  induction s with
  | nil => rfl
  | cons b s ih =>
    rw [esc_cons]
    by_cases hb : tagSpecial b = true
    · have hb92 : b ≠ 92 := by intro h; rw [h] at hb; cases hb
      simp only [hb, if_true, List.cons_append, List.nil_append]
      have hsp : b = 44 ∨ b = 32 ∨ b = 61 := by
        simp only [tagSpecial, Bool.or_eq_true, beq_iff_eq] at hb
        rcases hb with (h | h) | h <;> simp [h]
      rw [unescLoop]
      simp only [hsp, and_self, if_true]
      rw [unescLoop_cons b _ (Or.inl hb92), ih]
    · simp only [hb, Bool.false_eq_true, if_false, List.cons_append, List.nil_append]
      rw [unescLoop_cons b _ (Or.inr (head_esc_not_special s)), ih]

theorem unescLoop_id (s : Bytes) (h : 92 ∉ s) : unescLoop s = s := by
  induction s with
  | nil => rfl
  | cons b s ih =>
    have hb : b ≠ 92 := fun e => h (by simp [e])
    have hs : 92 ∉ s := fun e => h (by simp [e])
    rw [unescLoop_cons b s (Or.inl hb), ih hs]

theorem unescIfBs_esc (s : Bytes) : unescIfBs (esc tagSpecial s) = s := by
  unfold unescIfBs
  by_cases h : (esc tagSpecial s).contains 92 = true
  · rw [if_pos h]; exact unescLoop_esc s
  · rw [if_neg h]
    have h' : 92 ∉ esc tagSpecial s := by simpa using h
    rw [← unescLoop_id _ h', unescLoop_esc]

theorem unescIfBs_id {s : Bytes} (h : 92 ∉ s) : unescIfBs s = s := by
  simp [unescIfBs, h]

theorem getLast?_cons_ne_none (a : Nat) (l : Bytes) : (a :: l).getLast? ≠ none := by
  simp [List.getLast?_eq_none_iff]

theorem mem_unescByte {c : Nat} {s : Bytes} {x : Nat} (h : x ∈ unescByte c s) : x ∈ s := by
  fun_induction unescByte c s with
  | case1 => exact h
  | case2 b => exact h
  | case3 a b rest hc ih =>
    simp only [List.mem_cons] at h ⊢
    rcases h with h | h
    · exact Or.inr (Or.inl (by rw [h, hc.2]))
    · exact Or.inr (Or.inr (ih h))
  | case4 a b rest hc ih =>
    simp only [List.mem_cons] at h ⊢
    rcases h with h | h
    · exact Or.inl h
    · have := ih h
      exact Or.inr (by simpa using this)

theorem getLast?_unescByte (c : Nat) (s : Bytes) : (unescByte c s).getLast? = s.getLast? := by
  fun_induction unescByte c s with
  | case1 => rfl
  | case2 b => rfl
  | case3 a b rest hc ih =>
    cases rest with
    | nil => simp [unescByte, hc.2]
    | cons r rest =>
      rw [List.getLast?_cons_cons, List.getLast?_cons_cons]
      cases hu : unescByte c (r :: rest) with
      | nil =>
        rw [hu] at ih; exact absurd ih.symm (getLast?_cons_ne_none _ _)
      | cons u us =>
        rw [List.getLast?_cons_cons, ← hu, ih]
  | case4 a b rest hc ih =>
    rw [List.getLast?_cons_cons]
    cases hu : unescByte c (b :: rest) with
    | nil => rw [hu] at ih; exact absurd ih.symm (getLast?_cons_ne_none _ _)
    | cons u us => rw [List.getLast?_cons_cons, ← hu, ih]

theorem noTrailBs_unescapeMeasurement (s : Bytes) : noTrailBs (unescapeMeasurement s) = noTrailBs s := by
  unfold unescapeMeasurement
  split
  · simp [noTrailBs, getLast?_unescByte]
  · rfl

theorem not_mem_unescapeMeasurement {x : Nat} {s : Bytes} (h : x ∉ s) : x ∉ unescapeMeasurement s := by
  unfold unescapeMeasurement
  split
  · exact fun hx => h (mem_unescByte (mem_unescByte hx))
  · exact h

/-- what follows a pair in a key -/
def TailOK (T : Bytes) : Prop := T = [] ∨ ∃ T', T = 44 :: T'

theorem tailOK_appendHashKey (ts : List (Bytes × Bytes)) : TailOK (appendHashKey ts) := by
  induction ts with
  | nil => exact Or.inl rfl
  | cons t ts ih =>
    obtain ⟨k, v⟩ := t
    unfold appendHashKey
    split
    · exact ih
    · exact Or.inr ⟨_, rfl⟩

/-- the second half of `predicatePopTagEscape`: tag and value of one segment -/
def popKV (seg rest : Bytes) : Option Bytes × Option Bytes × Bytes :=
  ((splitUnesc 61 false seg).map fun p => (some (unescIfBs p.1), some (unescIfBs p.2), rest)).getD
    (none, none, rest)

theorem popTagEscape_eq (s : Bytes) :
    popTagEscape s = popKV ((splitUnesc 44 false s).getD (s, [])).1 ((splitUnesc 44 false s).getD (s, [])).2 := by
  unfold popTagEscape popKV
  cases splitUnesc 44 false s <;> simp only [Option.getD] <;> split <;> simp [*]

theorem popTagEscape_seg {X T : Bytes} (hX : splitUnesc 44 false X = none) (hb : endBs false X = false)
    (hT : TailOK T) : popTagEscape (X ++ T) = popKV X T.tail := by
  rw [popTagEscape_eq]
  rcases hT with rfl | ⟨T', rfl⟩
  · rw [List.append_nil, hX]; rfl
  · rw [splitUnesc_append _ hX, hb, splitUnesc]
    simp

theorem popTagEscape_pair (k v T : Bytes) (hk : noTrailBs k = true) (hv : noTrailBs v = true)
    (hT : TailOK T) :
    popTagEscape (esc tagSpecial k ++ 61 :: (esc tagSpecial v ++ T)) = (some k, some v, T.tail) := by
  have hX : splitUnesc 44 false (esc tagSpecial k ++ 61 :: esc tagSpecial v) = none := by
    rw [splitUnesc_append _ (splitUnesc_esc tagSpecial 44 rfl rfl k _), endBs_esc hk, splitUnesc,
      splitUnesc_esc tagSpecial 44 rfl rfl]
    rfl
  have hb : endBs false (esc tagSpecial k ++ 61 :: esc tagSpecial v) = false := by
    rw [endBs_append, endBs_cons]; exact endBs_esc hv
  have h61 : splitUnesc 61 false (esc tagSpecial k ++ 61 :: esc tagSpecial v) =
      some (esc tagSpecial k, esc tagSpecial v) := by
    rw [splitUnesc_append _ (splitUnesc_esc tagSpecial 61 rfl rfl k _), endBs_esc hk, splitUnesc]
    simp
  have := popTagEscape_seg hX hb hT
  rw [popKV, h61, List.append_assoc, List.cons_append] at this
  simpa [unescIfBs_esc] using this

theorem popTagEscape_name (u T : Bytes) (hu : noTrailBs u = true) (h61 : 61 ∉ u) (hT : TailOK T) :
    popTagEscape (esc measSpecial u ++ T) = (none, none, T.tail) := by
  have hm : 61 ∉ esc measSpecial u := fun h => (mem_esc h).elim (fun h => by cases h) h61
  rw [popTagEscape_seg (splitUnesc_esc measSpecial 44 rfl rfl u _) (endBs_esc hu) hT, popKV,
    splitUnesc_none_of_not_mem 61 _ hm]
  rfl

theorem cut_eq (c : Nat) (s : Bytes) : s = (cut c s).1 ++ (cut c s).2.elim [] (c :: ·) := by
  induction s with
  | nil => rfl
  | cons b s ih =>
    rw [cut]
    split
    · next h => rw [h]; rfl
    · exact congrArg (b :: ·) ih

theorem not_mem_cut {c x : Nat} {s : Bytes} (h : x ∉ s) :
    x ∉ (cut c s).1 ∧ ∀ y, (cut c s).2 = some y → x ∉ y := by
  rw [cut_eq c s] at h
  refine ⟨fun e => h (List.mem_append_left _ e), fun y hy e => h (List.mem_append_right _ ?_)⟩
  rw [hy]
  exact List.mem_cons_of_mem _ e

theorem cut_fst_of_none (c : Nat) (s : Bytes) (h : (cut c s).2 = none) : (cut c s).1 = s := by
  have := cut_eq c s
  rw [h, Option.elim, List.append_nil] at this
  exact this.symm

theorem splitUnesc_eq_cut (c : Nat) (s : Bytes) (h : 92 ∉ s) :
    splitUnesc c false s = (cut c s).2.map fun y => ((cut c s).1, y) := by
  induction s with
  | nil => rfl
  | cons b s ih =>
    have hb : (b == 92) = false := by simp; exact fun e => h (by simp [e])
    have hs : 92 ∉ s := fun e => h (by simp [e])
    rw [splitUnesc, cut, hb, ih hs]
    by_cases hbc : b = c
    · simp [hbc]
    · simp only [hbc, false_and, if_false]
      cases (cut c s).2 <;> rfl

/-- On a backslash-free key `predicatePopTag` returns what `predicatePopTagEscape` returns,
    except that a segment without `=` comes back as a tag with a nil value instead of nil/nil. -/
theorem popTag_eq_escape (s : Bytes) (h : 92 ∉ s) :
    popTag s = match popTagEscape s with
      | (none, _, rest) => (some (cut 44 s).1, none, rest)
      | (some t, v, rest) => (some t, v, rest) := by
  have h1 := (not_mem_cut (c := 44) h).1
  have h2 := not_mem_cut (c := 61) h1
  have hsr : ((cut 44 s).2.map fun y => ((cut 44 s).1, y)).getD (s, []) =
      ((cut 44 s).1, (cut 44 s).2.getD []) := by
    cases hc : (cut 44 s).2 with
    | none => rw [cut_fst_of_none 44 s hc]; rfl
    | some r => rfl
  rw [popTagEscape_eq, splitUnesc_eq_cut 44 s h, hsr, popKV, splitUnesc_eq_cut 61 _ h1]
  unfold popTag
  cases hc : (cut 61 (cut 44 s).1).2 with
  | none => simp [hc, cut_fst_of_none 61 _ hc]
  | some y => simp [hc, unescIfBs_id h2.1, unescIfBs_id (h2.2 y hc)]

/-- one iteration's pop, by the routine `Matches` chose for the key -/
def pop (em : Bool) (key : Bytes) : Option Bytes × Option Bytes × Bytes :=
  if em then popTagEscape key else popTag key

theorem pop_true (key : Bytes) : pop true key = popTagEscape key := rfl
theorem pop_false (key : Bytes) : pop false key = popTag key := rfl

theorem pop_rest_lt (em : Bool) (s : Bytes) (hs : s ≠ []) : (pop em s).2.2.length < s.length := by
  have hpos : 0 < s.length := List.length_pos_iff.2 hs
  cases em with
  | false =>
    rw [pop_false, popTag]
    have := congrArg List.length (cut_eq 44 s)
    cases hc : (cut 44 s).2 with
    | none => exact hpos
    | some y => rw [hc] at this; simp [Option.elim] at this ⊢; omega
  | true =>
    rw [pop_true, popTagEscape_eq]
    have : ∀ a r, (popKV a r).2.2 = r := fun a r => by
      unfold popKV; cases splitUnesc 61 false a <;> rfl
    rw [this]
    cases h : splitUnesc 44 false s with
    | none => exact hpos
    | some ab =>
      have := congrArg List.length (splitUnesc_eq_some h)
      simp only [List.length_append, List.length_cons] at this
      show ab.2.length < _
      omega

/-- the (tag, value) pairs the loop of `Matches` pops off a key -/
def pops (em : Bool) (key : Bytes) : List (Option Bytes × Option Bytes) :=
  if _ : key = [] then [] else
    ((pop em key).1, (pop em key).2.1) :: pops em (pop em key).2.2
termination_by key.length
decreasing_by exact pop_rest_lt em key ‹_›

theorem pops_nil (em : Bool) : pops em [] = [] := by rw [pops]; rfl

theorem pops_cons {em : Bool} {key : Bytes} (h : key ≠ []) :
    pops em key = ((pop em key).1, (pop em key).2.1) :: pops em (pop em key).2.2 := by
  rw [pops, dif_neg h]

/-- the part of the domain that concerns the tags: in a pair with a non-empty value neither key
    nor value ends in a backslash -/
def PairsOK (ts : List (Bytes × Bytes)) : Prop :=
  ∀ k v, (k, v) ∈ ts → v ≠ [] → noTrailBs k = true ∧ noTrailBs v = true

def nonEmptyTags (ts : List (Bytes × Bytes)) : List (Bytes × Bytes) := ts.filter fun t => t.2 ≠ []

/-- the pairs `Matches` sees on the key of a series -/
def seriesPairs (name : Bytes) (tags : List (Bytes × Bytes)) : List (Bytes × Bytes) := ([0], name) :: tags

theorem pops_tags (em : Bool) (ts : List (Bytes × Bytes)) (hok : PairsOK ts)
    (hesc : em = false → 92 ∉ (appendHashKey ts).tail) :
    pops em (appendHashKey ts).tail = (nonEmptyTags ts).map fun t => (some t.1, some t.2) := by
  induction ts with
  | nil => exact pops_nil em
  | cons t ts ih =>
    obtain ⟨k, v⟩ := t
    have hok' : PairsOK ts := fun k' v' hm hv => hok k' v' (List.mem_cons_of_mem _ hm) hv
    by_cases hv : v = []
    · have h1 : appendHashKey ((k, v) :: ts) = appendHashKey ts := by simp [appendHashKey, hv]
      have h2 : nonEmptyTags ((k, v) :: ts) = nonEmptyTags ts := by simp [nonEmptyTags, hv]
      rw [h1] at hesc ⊢
      rw [h2]
      exact ih hok' hesc
    · obtain ⟨hnk, hnv⟩ := hok k v List.mem_cons_self hv
      have h1 : (appendHashKey ((k, v) :: ts)).tail =
          esc tagSpecial k ++ 61 :: (esc tagSpecial v ++ appendHashKey ts) := by
        simp [appendHashKey, hv, escapeTag_eq]
      have h2 : nonEmptyTags ((k, v) :: ts) = (k, v) :: nonEmptyTags ts := by simp [nonEmptyTags, hv]
      rw [h1] at hesc ⊢
      have hp : pop em (esc tagSpecial k ++ 61 :: (esc tagSpecial v ++ appendHashKey ts)) =
          (some k, some v, (appendHashKey ts).tail) := by
        have := popTagEscape_pair k v _ hnk hnv (tailOK_appendHashKey ts)
        cases em with
        | true => exact this
        | false => rw [pop_false, popTag_eq_escape _ (hesc rfl), this]
      rw [h2, pops_cons (by simp), hp, List.map_cons]
      refine congrArg _ (ih hok' fun he hm => hesc he ?_)
      have := List.mem_of_mem_tail hm
      simp [this]

theorem seriesKey_eq (name : Bytes) (tags : List (Bytes × Bytes)) :
    seriesKey name tags =
      esc measSpecial (unescapeMeasurement name) ++ appendHashKey (seriesPairs name tags) := by
  simp [seriesKey, makeKey, escapeMeasurement_eq, seriesPairs]

/-- On the key of a series in the domain the loop first pops an entry without value (the name:
    a tag on the fast path, nothing on the escape path; the statement leaves the tag open) and
    then the pairs with a non-empty value. -/
theorem pops_seriesKey (em : Bool) (name : Bytes) (tags : List (Bytes × Bytes))
    (hname : name ≠ []) (hnt : noTrailBs name = true) (h61 : 61 ∉ name) (hok : PairsOK tags)
    (hesc : em = false → 92 ∉ seriesKey name tags) :
    ∃ t, pops em (seriesKey name tags) =
      (t, none) :: (nonEmptyTags (seriesPairs name tags)).map fun t => (some t.1, some t.2) := by
  have hokP : PairsOK (seriesPairs name tags) := by
    intro k v hm hv
    rcases List.mem_cons.1 hm with h | h
    · cases h; exact ⟨rfl, hnt⟩
    · exact hok k v h hv
  have hpe := popTagEscape_name _ _ ((noTrailBs_unescapeMeasurement name).trans hnt)
    (not_mem_unescapeMeasurement h61) (tailOK_appendHashKey (seriesPairs name tags))
  rw [← seriesKey_eq] at hpe
  have hne : seriesKey name tags ≠ [] := by
    rw [seriesKey_eq]; simp [seriesPairs, appendHashKey, hname]
  have htl : em = false → 92 ∉ (appendHashKey (seriesPairs name tags)).tail := fun he hm =>
    hesc he (by rw [seriesKey_eq]; exact List.mem_append_right _ (List.mem_of_mem_tail hm))
  obtain ⟨t, hp⟩ : ∃ t, pop em (seriesKey name tags) =
      (t, none, (appendHashKey (seriesPairs name tags)).tail) := by
    cases em with
    | true => exact ⟨none, by rw [pop_true, hpe]⟩
    | false => exact ⟨_, by rw [pop_false, popTag_eq_escape _ (hesc rfl), hpe]⟩
  exact ⟨t, by rw [pops_cons hne, hp, pops_tags em _ hokP htl]⟩

def hasSep : Bytes → Bool
  | [] => false
  | b :: bs => fieldSep.isPrefixOf (b :: bs) || hasSep bs

theorem cutFieldSep_of_not_hasSep (s : Bytes) (h : hasSep s = false) : cutFieldSep s = s := by
  induction s with
  | nil => rfl
  | cons b s ih =>
    simp only [hasSep, Bool.or_eq_false_iff] at h
    rw [cutFieldSep]
    simp [h.1, ih h.2]

theorem isPrefixOf_append_of_le {p a : Bytes} (b : Bytes) (h : p.length ≤ a.length) :
    p.isPrefixOf (a ++ b) = p.isPrefixOf a := by
  induction p generalizing a with
  | nil => rfl
  | cons x p ih =>
    cases a with
    | nil => cases h
    | cons y a =>
      rw [List.cons_append, List.isPrefixOf_cons_cons, List.isPrefixOf_cons_cons,
        ih (Nat.le_of_succ_le_succ h)]

theorem cutFieldSep_composite (s f : Bytes) (h : hasSep (s ++ [35, 33, 126]) = false) :
    cutFieldSep (compositeKey s f) = s := by
  unfold compositeKey
  induction s with
  | nil => rfl
  | cons b s ih =>
    simp only [List.cons_append, hasSep, Bool.or_eq_false_iff] at h
    -- a match at `b` would lie within `b :: s ++ "#!~"`, which is long enough to show it
    have hp : fieldSep.isPrefixOf ((b :: (s ++ [35, 33, 126])) ++ 35 :: f) = false := by
      rw [isPrefixOf_append_of_le _ (by simp [fieldSep])]; exact h.1
    have hk : (b :: (s ++ [35, 33, 126])) ++ 35 :: f = b :: (s ++ fieldSep ++ f) := by simp [fieldSep]
    rw [hk] at hp
    rw [List.cons_append, List.cons_append, cutFieldSep, ih h.2, hp]
    rfl

end Influx.Model.DelPred
