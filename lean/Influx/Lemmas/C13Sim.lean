/-
  Lemmas.C13Sim — the series file against the statement: every supported op of the model is
  accepted by the checker and keeps the relation `Rel` between the partitions' entries and the
  checker's `live` / `used`.
-/
import Influx.Lemmas.C13Global

namespace Influx.C13
open Influx.SF Influx.Spec.C13

variable {pf : Bytes → Nat} {ess : Nat → List Entry} {ps : List Part} {sp : SpecState}

theorem observe_same {k : Bytes} {y : Nat} (h : sp.idOf k = some y) (c : Bool) : observe sp k y c = (sp, none) := by
  unfold observe; rw [h]; exact if_pos rfl

theorem observe_absent {k : Bytes} (h : sp.idOf k = none) : observe sp k 0 false = (sp, none) := by
  unfold observe; rw [h]; rfl

theorem observe_fresh {k : Bytes} {x : Nat} (h : sp.idOf k = none) (hx : x ≠ 0) (hu : x ∉ sp.used) :
    observe sp k x true = ({ sp with live := (k, x) :: sp.live, used := x :: sp.used }, none) := by
  have hc : sp.used.contains x = false := by rw [Bool.eq_false_iff]; exact fun hc => hu (List.contains_iff_mem.mp hc)
  unfold observe; rw [h]
  simp only [hx, if_false, hc, Bool.false_eq_true, Bool.true_or, if_true]

def upd (ess : Nat → List Entry) (j : Nat) (es : List Entry) : Nat → List Entry :=
  fun i => if i = j then es else ess i

theorem upd_same (ess : Nat → List Entry) (j : Nat) (es : List Entry) : upd ess j es j = es := if_pos rfl
theorem upd_other (ess : Nat → List Entry) (j i : Nat) (es : List Entry) (h : i ≠ j) : upd ess j es i = ess i :=
  if_neg h

theorem PartsInv.set (h : PartsInv ess ps) {j : Nat} (hj : j < partN) {q : Part} {es' : List Entry}
    (hpid : q.pid = j) (hinv : PInv2 q es') (hseq : q.seq < 2 ^ 64) :
    PartsInv (upd ess j es') (ps.set j q) := by
  refine ⟨by rw [List.length_set, h.len], ?_, fun i hi =>
    (upd_other _ _ _ _ (Nat.ne_of_gt (Nat.lt_of_lt_of_le hj hi))).trans (h.out i hi)⟩
  intro i p hp
  by_cases hij : i = j
  · subst hij
    rw [List.getElem?_set_self (by rw [h.len]; exact hj)] at hp
    cases hp
    rw [upd_same]
    exact ⟨hpid, hinv, hseq⟩
  · rw [List.getElem?_set_ne (Ne.symm hij)] at hp
    rw [upd_other _ _ _ _ hij]
    exact h.inv i p hp

theorem PartsInv.set_same (h : PartsInv ess ps) {j : Nat} (hj : j < partN) {q : Part}
    (hpid : q.pid = j) (hinv : PInv2 q (ess j)) (hseq : q.seq < 2 ^ 64) :
    PartsInv ess (ps.set j q) := by
  have hupd : upd ess j (ess j) = ess := by
    funext i; by_cases hi : i = j
    · rw [hi, upd_same]
    · rw [upd_other _ _ _ _ hi]
  rw [← hupd]; exact h.set hj hpid hinv hseq

theorem live_snoc_insert {es : List Entry} {e : Entry} (hf : e.flag = insertFlag) (hnt : ¬ Tombed es e.id)
    (x : Entry) : Live (es ++ [e]) x ↔ Live es x ∨ x = e := by
  unfold Live
  rw [tombed_snoc, List.mem_append, List.mem_singleton]
  constructor
  · rintro ⟨h1 | h1, hfx, hntx⟩
    · exact Or.inl ⟨h1, hfx, fun ht => hntx (Or.inl ht)⟩
    · exact Or.inr h1
  · rintro (⟨hm, hfx, hntx⟩ | rfl)
    · exact ⟨Or.inl hm, hfx, fun ht => ht.elim hntx fun h1 => h1.1 hf⟩
    · exact ⟨Or.inr rfl, hf, fun ht => ht.elim hnt fun h1 => h1.1 hf⟩

theorem live_snoc_tomb {es : List Entry} {t : Entry} (hf : t.flag ≠ insertFlag)
    (x : Entry) : Live (es ++ [t]) x ↔ Live es x ∧ x.id ≠ t.id := by
  unfold Live
  rw [tombed_snoc, List.mem_append, List.mem_singleton]
  constructor
  · rintro ⟨h1 | rfl, hfx, hntx⟩
    · exact ⟨⟨h1, hfx, fun ht => hntx (Or.inl ht)⟩, fun hid => hntx (Or.inr ⟨hf, hid.symm⟩)⟩
    · exact absurd hfx hf
  · rintro ⟨⟨hm, hfx, hntx⟩, hne⟩
    exact ⟨Or.inl hm, hfx, fun ht => ht.elim hntx fun h1 => hne h1.2.symm⟩

theorem glive_upd (ess : Nat → List Entry) (j : Nat) (es' : List Entry) (k : Bytes) (id : Nat) :
    GLive pf (upd ess j es') k id ↔
      if pf k = j then ∃ e, Live es' e ∧ e.key = k ∧ e.id = id else GLive pf ess k id := by
  unfold GLive upd
  split <;> rfl

theorem glive_push_insert {j : Nat} {e : Entry} (hf : e.flag = insertFlag) (hnt : ¬ Tombed (ess j) e.id)
    (hpk : pf e.key = j) (k : Bytes) (id : Nat) :
    GLive pf (upd ess j (ess j ++ [e])) k id ↔ GLive pf ess k id ∨ (k = e.key ∧ id = e.id) := by
  rw [glive_upd]
  split
  · next hk =>
    simp only [live_snoc_insert hf hnt, GLive, hk]
    constructor
    · rintro ⟨x, hl | rfl, hke, hid⟩
      · exact Or.inl ⟨x, hl, hke, hid⟩
      · exact Or.inr ⟨hke.symm, hid.symm⟩
    · rintro (⟨x, hl, hke, hid⟩ | ⟨rfl, rfl⟩)
      · exact ⟨x, Or.inl hl, hke, hid⟩
      · exact ⟨e, Or.inr rfl, rfl, rfl⟩
  · next hk => exact ⟨Or.inl, fun h => h.elim (fun h => h) fun h => absurd (h.1 ▸ hpk) hk⟩

theorem glive_push_tomb {j : Nat} {t : Entry} (hf : t.flag ≠ insertFlag)
    (hpart : ∀ k, GLive pf ess k t.id → pf k = j) (k : Bytes) (id : Nat) :
    GLive pf (upd ess j (ess j ++ [t])) k id ↔ GLive pf ess k id ∧ id ≠ t.id := by
  rw [glive_upd]
  split
  · next hk =>
    simp only [live_snoc_tomb hf, GLive, hk]
    constructor
    · rintro ⟨x, ⟨hl, hne⟩, hke, hid⟩
      exact ⟨⟨x, hl, hke, hid⟩, hid ▸ hne⟩
    · rintro ⟨⟨x, hl, hke, hid⟩, hne⟩
      exact ⟨x, ⟨hl, hid ▸ hne⟩, hke, hid⟩
  · next hk => exact ⟨fun hg => ⟨hg, fun hid => hk (hpart k (hid ▸ hg))⟩, fun hg => hg.1⟩

theorem gissued_push (ess : Nat → List Entry) (j : Nat) (e : Entry) {x : Nat} (hx : GIssued ess x) :
    GIssued (upd ess j (ess j ++ [e])) x := by
  obtain ⟨i, hi, a, ha, r⟩ := hx
  refine ⟨i, hi, a, ?_, r⟩
  by_cases hij : i = j
  · rw [hij, upd_same]; exact List.mem_append_left _ (hij ▸ ha)
  · rw [upd_other _ _ _ _ hij]; exact ha

theorem Rel0.update (hr : Rel0 pf ess sp) {ess' : Nat → List Entry} {l : List (Bytes × Nat)} {u : List Nat}
    (hl : ∀ k id, (k, id) ∈ l ↔ GLive pf ess' k id) (hu : ∀ id ∈ u, GIssued ess' id) :
    Rel0 pf ess' { sp with live := l, used := u } :=
  ⟨hl, hu, hr.c1, hr.c2, hr.c3, hr.c4⟩

theorem PartsInv.congr (h : PartsInv ess ps) {qs : List Part} (hlen : qs.length = ps.length)
    (hq : ∀ i p q, ps[i]? = some p → qs[i]? = some q → PInv2 p (ess i) →
      PInv2 q (ess i) ∧ q.seq = p.seq ∧ q.pid = p.pid) : PartsInv ess qs := by
  refine ⟨hlen.trans h.len, fun i q hqi => ?_, h.out⟩
  have hi : i < ps.length := hlen ▸ (List.getElem?_eq_some_iff.mp hqi).1
  obtain ⟨hpid, hinv, hseq⟩ := h.inv i _ (List.getElem?_eq_getElem hi)
  obtain ⟨a, b, c⟩ := hq i _ q (List.getElem?_eq_getElem hi) hqi hinv
  exact ⟨c.trans hpid, a, b ▸ hseq⟩

theorem observe_lookup {s : SFile} (h : PartsInv ess s.parts) (hr : Rel0 pf ess sp) {k : Bytes × Nat}
    (hk : KeyOK pf k) : observe sp k.1 (s.findID k) false = (sp, none) := by
  obtain ⟨h1, h2⟩ := findID_global h hk
  by_cases h0 : s.findID k = 0
  · rw [h0]; exact observe_absent ((idOf_none_iff h hr k.1).mpr (h2 h0))
  · exact observe_same ((idOf_iff h hr k.1 _).mpr (h1 h0)) false

theorem observeAll_lookups {s : SFile} (h : PartsInv ess s.parts) (hr : Rel0 pf ess sp)
    (ks : List (Bytes × Nat)) (hk : ∀ k ∈ ks, KeyOK pf k) :
    observeAll sp false (ks.map fun k => (k.1, s.findID k)) = (sp, none) := by
  induction ks with
  | nil => rfl
  | cons k ks ih =>
    rw [List.map_cons, observeAll, observe_lookup h hr (hk k List.mem_cons_self)]
    exact ih fun k' hk' => hk k' (List.mem_cons_of_mem _ hk')

theorem observeKey_ok {s : SFile} (h : PartsInv ess s.parts) (hr : Rel0 pf ess sp) (id : Nat) :
    observeKey sp id (s.seriesKey id) = none := by
  unfold observeKey
  cases hk : sp.keyOf id with
  | none => rfl
  | some k0 =>
    have hg := (keyOf_iff h hr id k0).mp hk
    obtain ⟨hpart, hpos⟩ := glive_idPart h hg
    obtain ⟨p, hp, _, hinv, _⟩ := h.get (glive_lt h hg)
    obtain ⟨e, hl, hke, hide⟩ := hg
    have hsk : s.seriesKey id = some k0 := by
      unfold SFile.seriesKey
      rw [if_neg (Nat.ne_of_gt hpos), hpart, hp, ← hide, ← hke]
      exact seriesKey_live hinv.toPInv hl
    rw [hsk]; exact if_pos rfl

theorem seq_fresh (h : PartsInv ess ps) {j : Nat} {p : Part} (hp : ps[j]? = some p) : ¬ GIssued ess p.seq := by
  rintro ⟨i, hi, e, he, hf, hid⟩
  obtain ⟨hpid, hinv, _⟩ := h.inv _ _ hp
  obtain ⟨pi, hpi, hpidi, hinvi, _⟩ := h.get hi
  obtain ⟨_, hlt, hmod⟩ := hinvi.idPos e he hf
  have hsm := hinv.seqMod
  have hj : j < partN := h.len ▸ (List.getElem?_eq_some_iff.mp hp).1
  rw [hpidi, hid] at hmod
  rw [hpid] at hsm
  obtain rfl := succ_mod_inj i hi j hj (hmod.symm.trans hsm)
  rw [hp] at hpi; cases hpi
  exact Nat.lt_irrefl _ (hid ▸ hlt)

theorem seq_step_lt {n : Nat} (h : n < 2 ^ 63) : n + partN < 2 ^ 64 := by
  simp only [partN]; omega

theorem createOne_sim (h : PartsInv ess ps) (hr : Rel0 pf ess sp) {k : Bytes × Nat} (hk : KeyOK pf k)
    {p : Part} (hp : ps[k.2]? = some p) (hsmall : (p.createOne k.1).2 < 2 ^ 63) :
    ∃ ess' sp', PartsInv ess' (ps.set k.2 (p.createOne k.1).1) ∧
      observe sp k.1 (p.createOne k.1).2 true = (sp', none) ∧ Rel0 pf ess' sp' := by
  obtain ⟨hpid, hinv, hseq⟩ := h.inv _ _ hp
  by_cases hex : ∃ e, Live (ess k.2) e ∧ e.key = k.1
  · -- the series exists: same id, nothing changes
    obtain ⟨e, hl, hke⟩ := hex
    have hc := createOne_live hinv hl
    rw [hke] at hc
    rw [hc]
    have hgl : GLive pf ess k.1 e.id := ⟨e, by rw [← hk.part]; exact hl, hke, rfl⟩
    exact ⟨ess, sp, h.set_same hk.lt hpid hinv hseq, observe_same ((idOf_iff h hr k.1 e.id).mpr hgl) true, hr⟩
  · -- a new series: the id `seq`, never handed out before
    have hno : ∀ e, Live (ess k.2) e → e.key ≠ k.1 := fun e hl hke => hex ⟨e, hl, hke⟩
    obtain ⟨hid, hinv', hseq', hpid', _⟩ := createOne_new hinv k.1 hk.short hno hseq
    rw [hid] at hsmall ⊢
    have hnone : sp.idOf k.1 = none :=
      (idOf_none_iff h hr k.1).mpr fun id ⟨e, hl, hke, _⟩ => hno e (by rw [hk.part]; exact hl) hke
    have hfresh := seq_fresh h hp
    have hntomb : ¬ Tombed (ess k.2) (newEntry p k.1).id := fun ⟨t, ht, hft, hidt⟩ =>
      let ⟨e, he, hfe, hide, _⟩ := hinv.tombAfter t ht hft
      hfresh ⟨k.2, hk.lt, e, he, hfe, hide.trans hidt⟩
    refine ⟨upd ess k.2 (ess k.2 ++ [newEntry p k.1]), _,
      h.set hk.lt (hpid'.trans hpid) hinv' (hseq' ▸ seq_step_lt hsmall),
      observe_fresh hnone (Nat.ne_of_gt (Nat.lt_of_lt_of_le (Nat.succ_pos _) (seq_gt_max hinv).2))
        (fun hm => hfresh (hr.used _ hm)),
      hr.update (fun k' id' => ?_) fun id hm => ?_⟩
    · rw [glive_push_insert rfl hntomb hk.part.symm, List.mem_cons, Prod.mk.injEq, hr.live]
      exact Or.comm
    · rcases List.mem_cons.mp hm with rfl | hm
      · exact ⟨k.2, hk.lt, newEntry p k.1,
          by rw [upd_same]; exact List.mem_append_right _ (List.mem_singleton.mpr rfl), rfl, rfl⟩
      · exact gissued_push _ _ _ (hr.used id hm)

theorem createKeys_sim (keys : List (Bytes × Nat)) : ∀ (ps : List Part) (ess : Nat → List Entry) (sp : SpecState),
    PartsInv ess ps → Rel0 pf ess sp → (∀ k ∈ keys, KeyOK pf k) →
    (∀ id ∈ (SFile.createKeys ps keys).2, id < 2 ^ 63) →
    ∃ ess' sp', PartsInv ess' (SFile.createKeys ps keys).1 ∧
      observeAll sp true ((keys.map (·.1)).zip (SFile.createKeys ps keys).2) = (sp', none) ∧
      Rel0 pf ess' sp' ∧ (SFile.createKeys ps keys).2.length = keys.length := by
  induction keys with
  | nil => exact fun ps ess sp h hr _ _ => ⟨ess, sp, h, rfl, hr, rfl⟩
  | cons k ks ih =>
    intro ps ess sp h hr hk hsmall
    have hkk := hk k List.mem_cons_self
    obtain ⟨p, hp, _, _, _⟩ := h.get hkk.lt
    have hck : SFile.createKeys ps (k :: ks) =
        ((SFile.createKeys (ps.set k.2 (p.createOne k.1).1) ks).1,
          (p.createOne k.1).2 :: (SFile.createKeys (ps.set k.2 (p.createOne k.1).1) ks).2) := by
      rw [SFile.createKeys, hp]
    rw [hck] at hsmall ⊢
    obtain ⟨ess1, sp1, h1, ho1, hr1⟩ := createOne_sim h hr hkk hp (hsmall _ List.mem_cons_self)
    obtain ⟨ess2, sp2, h2, ho2, hr2, hl2⟩ := ih _ ess1 sp1 h1 hr1
      (fun k' hk' => hk k' (List.mem_cons_of_mem _ hk')) (fun id hid => hsmall id (List.mem_cons_of_mem _ hid))
    refine ⟨ess2, sp2, h2, ?_, hr2, by rw [List.length_cons, List.length_cons, hl2]⟩
    rw [List.map_cons, List.zip_cons_cons, observeAll, ho1]
    exact ho2

theorem _root_.Influx.SF.PInv2.with_threshold {p : Part} {es : List Entry} (h : PInv2 p es) (n : Nat) :
    PInv2 { p with threshold := n } es :=
  ⟨h.toPInv.congr rfl rfl rfl rfl ⟨rfl, rfl, rfl, rfl⟩, h.seqEq, h.boundLt⟩

theorem afterCreate_inv {old new : Part} {es : List Entry} (h : PInv2 new es) :
    PInv2 (Part.afterCreate old new) es ∧ (Part.afterCreate old new).seq = new.seq ∧
      (Part.afterCreate old new).pid = new.pid := by
  unfold Part.afterCreate
  split
  · obtain ⟨h1, h2, h3, _⟩ := compact_inv h
    exact ⟨h1, h2, h3⟩
  · exact ⟨h, rfl, rfl⟩

theorem partsInv_zipWith {old new : List Part} (hold : old.length = partN) (h : PartsInv ess new) :
    PartsInv ess (List.zipWith Part.afterCreate old new) := by
  refine h.congr (by rw [List.length_zipWith, hold, h.len, Nat.min_self]) fun i p q hp hq hinv => ?_
  rw [List.getElem?_zipWith, hp] at hq
  cases ho : old[i]? with
  | none => rw [ho] at hq; cases hq
  | some o => rw [ho] at hq; cases hq; exact afterCreate_inv hinv

theorem reopen_parts (h : PartsInv ess ps) (thr : Nat) : PartsInv ess (ps.map (·.load thr)) := by
  refine h.congr (List.length_map _) fun i p q hp hq hinv => ?_
  rw [List.getElem?_map, hp] at hq
  obtain rfl := Option.some.inj hq
  exact ⟨(load_inv hinv thr).1, (load_inv hinv thr).2.1, (load_inv hinv thr).2.2.1⟩

theorem threshold_parts (h : PartsInv ess ps) (n : Nat) :
    PartsInv ess (ps.map fun p => { p with threshold := n }) := by
  refine h.congr (List.length_map _) fun i p q hp hq hinv => ?_
  rw [List.getElem?_map, hp] at hq
  cases hq
  exact ⟨hinv.with_threshold n, rfl, rfl⟩

theorem compact_parts (h : PartsInv ess ps) {i : Nat} {p : Part} (hp : ps[i]? = some p) :
    PartsInv ess (ps.set i p.compact) := by
  have hi : i < partN := h.len ▸ (List.getElem?_eq_some_iff.mp hp).1
  obtain ⟨hpid, hinv, hseq⟩ := h.inv i p hp
  obtain ⟨h1, h2, h3, _⟩ := compact_inv hinv
  exact h.set_same hi (h3.trans hpid) h1 (h2 ▸ hseq)

structure Rel (pf : Bytes → Nat) (ess : Nat → List Entry) (s : SFile) (sp : SpecState) : Prop where
  parts : PartsInv ess s.parts
  r0 : Rel0 pf ess sp
  seen : ∀ k ∈ s.seen, KeyOK pf k

/-- the ops covered: keys arrive with the partition their hash selects; the crash ops `torn` and
    `tornDel` (see `C13_crash_segment`), the offline segment compaction and the harness ops
    `smallSeg` / `hdrSeg` of the several-segment model are excluded -/
def Op.WF (pf : Bytes → Nat) : Op → Prop
  | .create keys => ∀ k ∈ keys, KeyOK pf k
  | .delKey k => KeyOK pf k
  | .id k => KeyOK pf k
  | .torn .. => False
  | .tornDel .. => False
  | .segCompact => False
  | .smallSeg _ => False
  | .hdrSeg _ => False
  | _ => True

/-- ids stay far below 2^64 (the id sequence is a uint64 in the code) -/
def Obs.small : Obs → Prop
  | .ids xs => ∀ x ∈ xs, x < 2 ^ 63
  | _ => True

theorem see_ok (pf : Bytes → Nat) (s : SFile) (ks : List (Bytes × Nat)) (hs : ∀ k ∈ s.seen, KeyOK pf k)
    (hk : ∀ k ∈ ks, KeyOK pf k) : ∀ k ∈ (s.see ks).seen, KeyOK pf k := by
  unfold SFile.see
  simp only
  generalize s.seen = acc at hs
  induction ks generalizing acc with
  | nil => exact hs
  | cons x xs ih =>
    rw [List.foldl_cons]
    refine ih (fun k hk' => hk k (List.mem_cons_of_mem _ hk')) _ fun k hk' => ?_
    split at hk'
    · exact hs k hk'
    · rcases List.mem_append.mp hk' with h1 | h1
      · exact hs k h1
      · rw [List.mem_singleton.mp h1]; exact hk x List.mem_cons_self

theorem modPart_some {s : SFile} {i : Nat} {p : Part} (f : Part → Part) (hp : s.parts[i]? = some p) :
    s.modPart i f = { s with parts := s.parts.set i (f p) } := by
  unfold SFile.modPart; rw [hp]

theorem modPart_none {s : SFile} {i : Nat} (f : Part → Part) (hp : s.parts[i]? = none) : s.modPart i f = s := by
  unfold SFile.modPart; rw [hp]

theorem idPart_lt (id : Nat) : SFile.idPart id < partN := by
  unfold SFile.idPart; split
  · decide
  · exact Nat.mod_lt _ (by decide)

/-- `DeleteSeriesID`: the series with that id (if live) stops being live; nothing else changes -/
theorem delete_sim {s : SFile} (hR : Rel pf ess s sp) (id : Nat) {l : List (Bytes × Nat)}
    (hl : ∀ k' id', (k', id') ∈ l ↔ (k', id') ∈ sp.live ∧ id' ≠ id) :
    ∃ ess', Rel pf ess' (s.delete id) { sp with live := l } := by
  have h := hR.parts
  have hr := hR.r0
  obtain ⟨p, hp, hpid, hinv, hseq⟩ := h.get (idPart_lt id)
  rw [SFile.delete, modPart_some _ hp]
  by_cases hd : p.isDeleted id = true
  · rw [delete_noop hd]
    refine ⟨ess, h.set_same (idPart_lt id) hpid hinv hseq, hr.update (fun k' id' => ?_) hr.used, hR.seen⟩
    rw [hl, hr.live]
    refine ⟨fun hg => hg.1, fun hg => ⟨hg, fun hid => ?_⟩⟩
    subst hid
    have hpart := (glive_idPart h hg).1
    obtain ⟨e, hle, _, hide⟩ := hg
    rw [← hpart] at hle
    have := live_not_deleted hinv.toPInv hle
    rw [hide, hd] at this; cases this
  · obtain ⟨hinv', hseq', hpid', _⟩ := delete_live hinv id (Bool.eq_false_iff.mpr hd) hseq
    have hft : (tombEntry p id).flag ≠ insertFlag := (by decide : tombstoneFlag ≠ insertFlag)
    refine ⟨upd ess _ (ess _ ++ [tombEntry p id]),
      h.set (idPart_lt id) (hpid'.trans hpid) hinv' (hseq' ▸ hseq),
      hr.update (fun k' id' => ?_) (fun x hx => gissued_push _ _ _ (hr.used x hx)), hR.seen⟩
    rw [hl, hr.live]
    exact (glive_push_tomb hft (fun k hg => (glive_idPart h hg).1.symm) k' id').symm

theorem create_sim {s : SFile} (hR : Rel pf ess s sp) {keys : List (Bytes × Nat)} (hwf : ∀ k ∈ keys, KeyOK pf k)
    (hsm : Obs.small (step s (.create keys)).2) :
    ∃ ess' sp', check sp (.create keys) (step s (.create keys)).2 = (sp', none) ∧
      Rel pf ess' (step s (.create keys)).1 sp' := by
  obtain ⟨ess', sp', h', ho, hr', hlen⟩ := createKeys_sim keys s.parts ess sp hR.parts hR.r0 hwf hsm
  refine ⟨ess', sp', ?_, partsInv_zipWith hR.parts.len h', hr', see_ok pf _ keys hR.seen hwf⟩
  show (if (SFile.createKeys s.parts keys).2.length ≠ keys.length then _ else
    observeAll sp true ((keys.map (·.1)).zip (SFile.createKeys s.parts keys).2)) = (sp', none)
  rw [if_neg fun hne => hne hlen, ho]

theorem delKey_sim {s : SFile} (hR : Rel pf ess s sp) {k : Bytes × Nat} (hwf : KeyOK pf k) :
    ∃ ess' sp', check sp (.delKey k) (step s (.delKey k)).2 = (sp', none) ∧
      Rel pf ess' (step s (.delKey k)).1 sp' := by
  have h := hR.parts
  have hr := hR.r0
  obtain ⟨h1, h2⟩ := findID_global h (k := k) hwf
  have hck : check sp (.delKey k) (.id (s.findID k)) = ({ sp with live := sp.live.filter (·.1 ≠ k.1) }, none) := by
    show (match observe sp k.1 (s.findID k) false with
      | (st', none) => ({ st' with live := st'.live.filter (·.1 ≠ k.1) }, none)
      | r => r) = _
    rw [observe_lookup h hr hwf]
  have hrel : ∃ ess', Rel pf ess' (if s.findID k ≠ 0 then s.delete (s.findID k) else s)
      { sp with live := sp.live.filter (·.1 ≠ k.1) } := by
    by_cases h0 : s.findID k = 0
    · -- nothing to delete
      rw [if_neg (fun hne => hne h0)]
      refine ⟨ess, h, hr.update (fun k' id' => ?_) hr.used, hR.seen⟩
      rw [← hr.live, List.mem_filter, decide_eq_true_eq]
      exact ⟨fun hh => hh.1, fun hm => ⟨hm, fun hk' => h2 h0 id' ((hr.live _ _).mp (hk' ▸ hm))⟩⟩
    · have hg := h1 h0
      rw [if_pos h0]
      refine delete_sim hR (s.findID k) fun k' id' => ?_
      rw [List.mem_filter, decide_eq_true_eq]
      refine and_congr_right fun hm => ⟨fun hne hid => ?_, fun hne hk' => ?_⟩
      · subst hid; exact hne (glive_unique_key h ((hr.live k' _).mp hm) hg)
      · subst hk'; exact hne (glive_unique_id h ((hr.live _ id').mp hm) hg)
  obtain ⟨ess', hR'⟩ := hrel
  exact ⟨ess', _, hck, hR'⟩

theorem step_sim (pf : Bytes → Nat) (ess : Nat → List Entry) (s : SFile) (sp : SpecState) (op : Op)
    (hR : Rel pf ess s sp) (hwf : Op.WF pf op) (hsm : Obs.small (step s op).2) :
    ∃ ess' sp', check sp op (step s op).2 = (sp', none) ∧ Rel pf ess' (step s op).1 sp' := by
  have h := hR.parts
  have hr := hR.r0
  cases op with
  | create keys => exact create_sim hR hwf hsm
  | delete id =>
    obtain ⟨ess', hR'⟩ := delete_sim hR id (l := sp.live.filter (·.2 ≠ id))
      (fun k' id' => by simp only [List.mem_filter, decide_eq_true_eq])
    exact ⟨ess', _, rfl, hR'⟩
  | delKey k => exact delKey_sim hR hwf
  | id k => exact ⟨ess, sp, observe_lookup h hr hwf, hR⟩
  | key id => exact ⟨ess, sp, congrArg (Prod.mk sp) (observeKey_ok h hr id), hR⟩
  | reopen => exact ⟨ess, sp, rfl, reopen_parts h _, hr, hR.seen⟩
  | compact i =>
    refine ⟨ess, sp, rfl, ?_⟩
    show Rel pf ess (s.modPart i (·.compact)) sp
    cases hp : s.parts[i]? with
    | none => rw [modPart_none _ hp]; exact hR
    | some p => rw [modPart_some _ hp]; exact ⟨compact_parts h hp, hr, hR.seen⟩
  | threshold n => exact ⟨ess, sp, rfl, threshold_parts h n, hr, hR.seen⟩
  | segCompact => cases hwf
  | torn k cut => cases hwf
  | tornDel id cut => cases hwf
  | smallSeg id => cases hwf
  | hdrSeg i => cases hwf
  | allIDs => exact ⟨ess, sp, observeAll_lookups h hr s.seen hR.seen, hR⟩
  | allKeys =>
    refine ⟨ess, sp, ?_, hR⟩
    have : (s.issued.map fun id => (id, s.seriesKey id)).filterMap (fun x => observeKey sp x.1 x.2) = [] := by
      rw [List.filterMap_eq_nil_iff]
      intro x hx
      obtain ⟨id, _, rfl⟩ := List.mem_map.mp hx
      exact observeKey_ok h hr id
    show (sp, ((s.issued.map fun id => (id, s.seriesKey id)).filterMap fun x => observeKey sp x.1 x.2).head?) = _
    rw [this]; rfl
  | state i =>
    have h1 : (step s (.state i)).1 = s := by simp only [step]; split <;> rfl
    exact ⟨ess, sp, rfl, h1.symm ▸ hR⟩
  | dump i =>
    have h1 : (step s (.dump i)).1 = s := by simp only [step]; split <;> rfl
    exact ⟨ess, sp, rfl, h1.symm ▸ hR⟩

end Influx.C13
