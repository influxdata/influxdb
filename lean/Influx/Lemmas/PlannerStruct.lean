/-
  Lemmas.PlannerStruct — shape of the generation groups the planner builds.
  Every grouping loop of the planner cuts successive, non-overlapping blocks of
  consecutive generations out of its `generations` argument (`Blocks`); from
  that follow both facts the statement needs: the groups do not overlap (`Sub`)
  and each is contiguous (`Contig`).  The full path of `Plan` only selects a
  sub-list.
-/
import Influx.Model.Planner

namespace Influx.Planner
open Influx.Generated.Planner

theorem flatMap_sublist_of_sublist {α β} (f : α → List β) {l₁ l₂ : List α} (h : l₁.Sublist l₂) :
    (l₁.flatMap f).Sublist (l₂.flatMap f) := by
  induction h with
  | slnil => exact List.Sublist.refl _
  | cons a _ ih => rw [List.flatMap_cons]; exact ih.trans (List.sublist_append_right _ _)
  | cons_cons a _ ih => rw [List.flatMap_cons, List.flatMap_cons]; exact (List.Sublist.refl (f a)).append ih

theorem flatten_sublist_of_sublist {α} {l₁ l₂ : List (List α)} (h : l₁.Sublist l₂) :
    l₁.flatten.Sublist l₂.flatten := by
  have := flatMap_sublist_of_sublist id h
  rwa [List.flatMap_id, List.flatMap_id] at this

/-- the generation groups are non-overlapping sub-lists of `gens`, in order -/
def Sub (gens : List Gen) (gss : List (List Gen)) : Prop := gss.flatten.Sublist gens
/-- every generation group is a block of consecutive generations of `gens` -/
def Contig (gens : List Gen) (gss : List (List Gen)) : Prop := ∀ gs ∈ gss, gs <:+: gens

theorem Sub.filter {gens gss} (p : List Gen → Bool) (h : Sub gens gss) : Sub gens (gss.filter p) :=
  (flatten_sublist_of_sublist List.filter_sublist).trans h

theorem Contig.filter {gens gss} (p : List Gen → Bool) (h : Contig gens gss) : Contig gens (gss.filter p) :=
  fun gs hgs => h gs (List.mem_filter.mp hgs).1

/-- `gss` are successive blocks of `l`: each a run of consecutive elements, in
    the order of `l`, no two overlapping -/
inductive Blocks {α} : List α → List (List α) → Prop
  | nil (l) : Blocks l []
  | skip (x) {l gss} : Blocks l gss → Blocks (x :: l) gss
  | block (b) {l gss} : Blocks l gss → Blocks (b ++ l) (b :: gss)

namespace Blocks
variable {α : Type} {l l₁ l₂ : List α} {gss g₁ g₂ : List (List α)}

theorem single (b : List α) : Blocks b [b] := by
  simpa using (nil []).block b

theorem prepend (p : List α) (h : Blocks l gss) : Blocks (p ++ l) gss := by
  induction p with
  | nil => exact h
  | cons x p ih => exact ih.skip x

theorem append (h₁ : Blocks l₁ g₁) (h₂ : Blocks l₂ g₂) : Blocks (l₁ ++ l₂) (g₁ ++ g₂) := by
  induction h₁ with
  | nil l => exact h₂.prepend l
  | skip x _ ih => exact ih.skip x
  | block b _ ih => rw [List.append_assoc]; exact ih.block b

theorem append_right (r : List α) (h : Blocks l gss) : Blocks (l ++ r) gss := by
  simpa using h.append (nil r)

theorem of_infix {l' : List α} (hi : l' <:+: l) (h : Blocks l' gss) : Blocks l gss := by
  obtain ⟨s, t, rfl⟩ := hi
  exact (h.prepend s).append_right t

theorem sublist {gss' : List (List α)} (h : Blocks l gss) (hs : gss'.Sublist gss) : Blocks l gss' := by
  induction h generalizing gss' with
  | nil l => rw [List.eq_nil_of_sublist_nil hs]; exact nil l
  | skip x _ ih => exact (ih hs).skip x
  | block b _ ih =>
    cases hs with
    | cons _ hs => exact (ih hs).prepend b
    | cons_cons _ hs => exact (ih hs).block b

theorem sub (h : Blocks l gss) : gss.flatten.Sublist l := by
  induction h with
  | nil l => exact List.nil_sublist l
  | skip x _ ih => exact ih.cons x
  | block b _ ih => rw [List.flatten_cons]; exact (List.Sublist.refl b).append ih

theorem contig (h : Blocks l gss) : ∀ gs ∈ gss, gs <:+: l := by
  induction h with
  | nil l => intro gs hgs; exact absurd hgs List.not_mem_nil
  | skip x _ ih => intro gs hgs; exact List.infix_cons (ih gs hgs)
  | block b _ ih =>
    intro gs hgs
    rcases List.mem_cons.mp hgs with rfl | hgs
    · exact (List.prefix_append gs _).isInfix
    · exact (ih gs hgs).trans (List.suffix_append b _).isInfix

end Blocks

theorem flush_blocks {pre : List Gen} {groups} (cur : List Gen) (h : Blocks pre groups) :
    Blocks (pre ++ cur) (flush cur groups) := by
  unfold flush
  cases cur with
  | nil => rw [List.append_nil]; exact h
  | cons g c => exact h.append (.single (g :: c))

/-- `pre` is what the loop has passed and closed groups over, `cur` the open group -/
theorem gaLoop_blocks (inUse : List String) (test : Int → Int → Bool) (rest : List Gen) :
    ∀ (cur : List Gen) (groups : List (List Gen)) (pre : List Gen), Blocks pre groups →
      Blocks (pre ++ cur ++ rest) (gaLoop inUse test rest cur groups) := by
  induction rest with
  | nil =>
    intro cur groups pre h
    rw [gaLoop, List.append_nil]
    exact flush_blocks cur h
  | cons g rest ih =>
    intro cur groups pre h
    rw [gaLoop, List.append_cons]
    by_cases hu : isInUse inUse g = true
    · rw [if_pos hu]
      have := ih [] _ _ ((flush_blocks cur h).append_right [g])
      rwa [List.append_nil] at this
    · rw [if_neg hu]
      by_cases ht : (cur.isEmpty || (test (gensLevel cur) (level g) || orphan g rest)) = true
      · rw [if_pos ht, List.append_assoc pre]
        exact ih (cur ++ [g]) groups pre h
      · rw [if_neg ht]
        exact ih [g] _ _ (flush_blocks cur h)

theorem groupAdjacent_blocks (inUse test gens) : Blocks gens (groupAdjacent inUse test gens) :=
  gaLoop_blocks inUse test gens [] [] [] (.nil [])

theorem chunkAux_blocks (k : Nat) (l : List Gen) : ∀ s, Blocks (l.drop s) (chunkAux k s l) := by
  induction l with
  | nil => intro s; rw [chunkAux]; exact .nil _
  | cons g rest ih =>
    intro s
    cases s with
    | succ s => rw [chunkAux, List.drop_succ_cons]; exact ih s
    | zero =>
      have := (ih k).block ((g :: rest).take (k + 1))
      rwa [← List.drop_succ_cons (a := g), List.take_append_drop] at this

theorem chunk_blocks (k : Nat) (l : List Gen) : Blocks l (chunk k l) := chunkAux_blocks k l 0

theorem levelWalk_blocks (lvl : Int) (k : Nat) {l : List Gen} {groups} (h : Blocks l groups) :
    Blocks l (levelWalk lvl k groups) := by
  induction h with
  | nil l => exact .nil l
  | skip x _ ih => exact ih.skip x
  | block b _ ih =>
    rw [levelWalk]
    refine Blocks.append ?_ ih
    by_cases hl : gensLevel b = lvl
    · rw [if_pos hl]; exact (chunk_blocks k b).sublist List.filter_sublist
    · rw [if_neg hl]; exact .nil b

theorem levelGens_blocks (inUse gens lvl) : Blocks gens (levelGens inUse gens lvl) :=
  levelWalk_blocks _ _ (groupAdjacent_blocks inUse _ gens)

theorem optGens_blocks (inUse gens) : Blocks gens (optGens inUse gens) :=
  (groupAdjacent_blocks inUse _ gens).sublist List.filter_sublist

theorem l4GroupAux_blocks (inUse : List String) (l : List Gen) :
    ∀ s, Blocks (l.drop s) (l4GroupAux inUse s l) := by
  induction l with
  | nil => intro s; rw [l4GroupAux]; exact .nil _
  | cons g rest ih =>
    intro s
    cases s with
    | succ s => rw [l4GroupAux, List.drop_succ_cons]; exact ih s
    | zero =>
      have hp : ((g :: rest).take 4).takeWhile (l4Ok inUse) <+: g :: rest :=
        (List.takeWhile_prefix _).trans (List.take_prefix _ _)
      simp only [l4GroupAux, List.drop_zero]
      generalize ((g :: rest).take 4).takeWhile (l4Ok inUse) = cur at hp ⊢
      cases cur with
      | nil => exact (ih 0).skip g
      | cons c cs =>
        -- the group is `c :: cs`, a prefix of `g :: rest`; the loop resumes behind it
        obtain ⟨t, ht⟩ := hp
        rw [List.cons_append, List.cons.injEq] at ht
        obtain ⟨rfl, rfl⟩ := ht
        have := ih cs.length
        rw [List.drop_left] at this
        exact this.block (c :: cs)

theorem l4Group_blocks (inUse : List String) (l : List Gen) : Blocks l (l4Group inUse l) :=
  l4GroupAux_blocks inUse l 0

theorem l4Gens_blocks (inUse gens) : Blocks gens (l4Gens inUse gens) :=
  ((l4Group_blocks inUse _).of_infix
    ((List.drop_suffix _ _).isInfix.trans (List.take_prefix _ _).isInfix)).sublist List.filter_sublist

/-! ### Plan, full path: non-overlapping, but NOT contiguous (see Props.C05) -/

theorem fullLoop_sublist (inUse : List String) (n : Nat) (l : List Gen) : (fullLoop inUse n l).Sublist l := by
  induction l with
  | nil => exact List.Sublist.refl _
  | cons g rest ih =>
    rw [fullLoop]
    by_cases hu : isInUse inUse g = true
    · rw [if_pos hu]; exact ih.cons g
    · rw [if_neg hu]
      by_cases hs : fullSkip n g rest = true
      · rw [if_pos hs]; exact ih.cons g
      · rw [if_neg hs]; exact ih.cons_cons g

theorem fullGens_sub (inUse gens) : Sub gens (fullGens inUse gens) := by
  unfold Sub fullGens
  simp only
  split
  · exact List.nil_sublist _
  · simpa using fullLoop_sublist inUse gens.length gens

end Influx.Planner
