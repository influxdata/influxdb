/-
  Lemmas.C13Bytes — the byte level of the series segment: reading back what
  `AppendSeriesEntry` wrote (`scan_ser`, `entries_ser_tail`, `entries_fileOf`), and the structure of a
  well-formed segment (`Chain`): offsets grow, every entry is read back at its offset.

  Keys are restricted to a one-byte length prefix (`shortKey`: at most 127 bytes after the
  prefix), which is what the harness generates.
-/
import Influx.Model.SeriesFile
import Influx.Lemmas.BigEndian

namespace Influx.SF

theorem byteAt_append_left (a b : Bytes) (i : Nat) (h : i < a.length) : byteAt (a ++ b) i = byteAt a i := by
  simp [byteAt, List.getElem?_append_left h]

theorem byteAt_append_right (a b : Bytes) (i : Nat) : byteAt (a ++ b) (a.length + i) = byteAt b i := by
  simp [byteAt, List.getElem?_append_right]

theorem byteAt_ge (a : Bytes) (i : Nat) (h : a.length ≤ i) : byteAt a i = 0 := by
  simp [byteAt, List.getElem?_eq_none h]

theorem byteAt_cons_zero (b : Nat) (a : Bytes) : byteAt (b :: a) 0 = b := by simp [byteAt]
theorem byteAt_cons_succ (b : Nat) (a : Bytes) (i : Nat) : byteAt (b :: a) (i + 1) = byteAt a i := by
  simp [byteAt]

theorem byteAt_map_range (n : Nat) (f : Nat → Nat) (i : Nat) :
    byteAt ((List.range n).map f) i = if i < n then f i else 0 := by
  unfold byteAt
  by_cases h : i < n
  · rw [if_pos h, List.getElem?_eq_getElem (by rw [List.length_map, List.length_range]; exact h), List.getElem_map,
      List.getElem_range]
  · rw [if_neg h, List.getElem?_eq_none (by rw [List.length_map, List.length_range]; exact Nat.le_of_not_lt h)]

theorem ext_byteAt {f g : Bytes} (hl : f.length = g.length) (h : ∀ i, byteAt f i = byteAt g i) : f = g := by
  refine List.ext_getElem hl fun i h1 h2 => ?_
  have := h i
  rwa [byteAt, byteAt, List.getElem?_eq_getElem h1, List.getElem?_eq_getElem h2] at this

theorem uvarint_single (f : Bytes) (pos : Nat) (h : byteAt f pos < 128) :
    uvarint f pos = some (byteAt f pos, 1) := by
  simp [uvarint, uvarintGo, h]

theorem be64Bytes_length (v : Nat) : (be64Bytes v).length = 8 := by simp [be64Bytes]

/-- `Uint64(PutUint64(id)) = id` -/
theorem be64_be64Bytes (pre rest : Bytes) (id : Nat) (h : id < 2 ^ 64) :
    be64 (pre ++ (be64Bytes id ++ rest)) pre.length = id := by
  have hb : ∀ i, i < 8 →
      byteAt (pre ++ (be64Bytes id ++ rest)) (pre.length + i) = (id / 256 ^ (7 - i)) % 256 := by
    intro i hi
    rw [byteAt_append_right, byteAt_append_left _ _ _ (by simp [be64Bytes_length, hi])]
    simp [byteAt, be64Bytes, hi]
  simp only [be64, List.range, List.range.loop, List.foldl]
  rw [hb 0 (by omega), hb 1 (by omega), hb 2 (by omega), hb 3 (by omega), hb 4 (by omega),
    hb 5 (by omega), hb 6 (by omega), hb 7 (by omega)]
  simp only [Nat.sub_zero, Nat.reduceSub, Nat.pow_zero, Nat.pow_one, Nat.div_one, Nat.zero_mul, Nat.zero_add]
  exact BigEndian.horner64 id h

def shortKey (k : Bytes) : Prop := ∃ body : Bytes, k = body.length :: body ∧ 1 ≤ body.length ∧ body.length < 128

theorem shortKey.length_ge {k : Bytes} (h : shortKey k) : 2 ≤ k.length := by
  obtain ⟨body, rfl, h1, _⟩ := h; simp; omega

theorem readKey_short {f : Bytes} {pos : Nat} {k : Bytes} (h : shortKey k)
    (hb : ∀ i, i < k.length → byteAt f (pos + i) = byteAt k i) : readKey f pos = some k := by
  obtain ⟨body, rfl, h1, h2⟩ := h
  have h0 : byteAt f pos = body.length := hb 0 (Nat.succ_pos _)
  rw [readKey, uvarint_single f pos (h0 ▸ h2), Option.map_some, h0]
  refine congrArg some (ext_byteAt (by rw [List.length_map, List.length_range, List.length_cons]) fun i => ?_)
  rw [byteAt_map_range]
  split
  · next hi => exact hb i hi
  · next hi => exact (byteAt_ge _ _ (Nat.le_of_not_lt hi)).symm

/-- what the code appended for one entry -/
def Entry.wf (e : Entry) : Prop :=
  e.id < 2 ^ 64 ∧ ((e.flag = insertFlag ∧ shortKey e.key) ∨ (e.flag = tombstoneFlag ∧ e.key = []))

def Entry.bytes (e : Entry) : Bytes := entryBytes e.flag e.id e.key

theorem Entry.bytes_length {e : Entry} (h : e.wf) : e.bytes.length = e.size := by
  rcases h.2 with ⟨hf, _⟩ | ⟨hf, hk⟩
  · simp [Entry.bytes, entryBytes, hf, Entry.size, entryHdrSize, be64Bytes_length]; omega
  · simp [Entry.bytes, entryBytes, hf, hk, Entry.size, entryHdrSize, be64Bytes_length, insertFlag, tombstoneFlag]

theorem be64_congr {f g : Bytes} {p q : Nat} (h : ∀ i, i < 8 → byteAt f (p + i) = byteAt g (q + i)) :
    be64 f p = be64 g q := by
  have : ∀ (l : List Nat) (acc : Nat), (∀ i ∈ l, i < 8) →
      l.foldl (fun acc i => acc * 256 + byteAt f (p + i)) acc = l.foldl (fun acc i => acc * 256 + byteAt g (q + i)) acc := by
    intro l
    induction l with
    | nil => intros; rfl
    | cons x xs ih =>
      intro acc hl
      rw [List.foldl_cons, List.foldl_cons, h x (hl x List.mem_cons_self)]
      exact ih _ fun i hi => hl i (List.mem_cons_of_mem _ hi)
  exact this _ 0 fun i hi => List.mem_range.mp hi

theorem be64_entry (pre rest : Bytes) (e : Entry) (hid : e.id < 2 ^ 64) :
    be64 (pre ++ (e.bytes ++ rest)) (pre.length + 1) = e.id := by
  have := be64_be64Bytes (pre ++ [e.flag]) ((if e.flag = insertFlag then e.key else []) ++ rest) e.id hid
  simpa [Entry.bytes, entryBytes, List.append_assoc] using this

theorem byteAt_bytes_key {e : Entry} (hf : e.flag = insertFlag) (i : Nat) :
    byteAt e.bytes (entryHdrSize + i) = byteAt e.key i := by
  have := byteAt_append_right (e.flag :: be64Bytes e.id) e.key i
  rw [List.length_cons, be64Bytes_length] at this
  rw [Entry.bytes, entryBytes, if_pos hf]; exact this

/-- `ReadSeriesEntry` returns the entry `AppendSeriesEntry` wrote -/
theorem readEntry_bytes (pre rest : Bytes) (e : Entry) (h : e.wf) (hoff : e.off = pre.length) :
    readEntry (pre ++ (e.bytes ++ rest)) pre.length = some e := by
  obtain ⟨hid, hk⟩ := h
  have hflag : byteAt (pre ++ (e.bytes ++ rest)) pre.length = e.flag := byteAt_append_right pre (e.bytes ++ rest) 0
  have hbe := be64_entry pre rest e hid
  rcases hk with ⟨hf, hs⟩ | ⟨hf, hk0⟩
  · have hkey : readKey (pre ++ (e.bytes ++ rest)) (pre.length + entryHdrSize) = some e.key :=
      readKey_short hs fun i hi => by
        rw [Nat.add_assoc, byteAt_append_right, byteAt_append_left _ _ _ (by
          rw [Entry.bytes_length ⟨hid, Or.inl ⟨hf, hs⟩⟩]; exact Nat.add_lt_add_left hi _), byteAt_bytes_key hf]
    have hlen := hs.length_ge
    simp only [readEntry, hflag, hf, if_true, hkey, hbe]
    rw [if_neg (Nat.not_le.mpr hlen)]
    cases e; cases hf; cases hoff; rfl
  · simp only [readEntry, hflag, hf, hbe]
    rw [if_pos trivial]
    cases e; cases hf; cases hoff; cases hk0; rfl

def Chain : Nat → List Entry → Prop
  | _, [] => True
  | pos, e :: es => e.off = pos ∧ e.wf ∧ Chain (pos + e.size) es

def ser (es : List Entry) : Bytes := es.flatMap Entry.bytes

theorem ser_cons_length {e : Entry} (h : e.wf) (es : List Entry) :
    (ser (e :: es)).length = e.size + (ser es).length := by
  rw [ser, List.flatMap_cons, List.length_append, Entry.bytes_length h]; rfl

theorem ser_length : ∀ (pos : Nat) (es : List Entry), Chain pos es →
    (ser es).length = (es.map Entry.size).sum := by
  intro pos es
  induction es generalizing pos with
  | nil => exact fun _ => rfl
  | cons e es ih => exact fun h => by rw [ser_cons_length h.2.1, List.map_cons, List.sum_cons, ih _ h.2.2]

theorem Chain.snoc_iff (pos : Nat) (es : List Entry) (e : Entry) :
    Chain pos (es ++ [e]) ↔ Chain pos es ∧ e.wf ∧ e.off = pos + (ser es).length := by
  induction es generalizing pos with
  | nil => exact ⟨fun h => ⟨trivial, h.2.1, h.1⟩, fun h => ⟨h.2.2, h.2.1, trivial⟩⟩
  | cons x xs ih =>
    show (x.off = pos ∧ x.wf ∧ Chain (pos + x.size) (xs ++ [e])) ↔
      (x.off = pos ∧ x.wf ∧ Chain (pos + x.size) xs) ∧ e.wf ∧ e.off = pos + (ser (x :: xs)).length
    rw [ih (pos + x.size)]
    constructor
    · rintro ⟨h1, h2, h3, h4, h5⟩
      exact ⟨⟨h1, h2, h3⟩, h4, by rw [h5, ser_cons_length h2, Nat.add_assoc]⟩
    · rintro ⟨⟨h1, h2, h3⟩, h4, h5⟩
      exact ⟨h1, h2, h3, h4, by rw [h5, ser_cons_length h2, Nat.add_assoc]⟩

theorem Chain.append : ∀ (pos : Nat) (es : List Entry) (e : Entry), Chain pos (es ++ [e]) →
    Chain pos es ∧ e.wf ∧ e.off = pos + (ser es).length :=
  fun pos es e => (Chain.snoc_iff pos es e).mp

theorem scan_ser (es : List Entry) : ∀ (pre rest : Bytes) (fuel : Nat), Chain pre.length es →
    scan (pre ++ (ser es ++ rest)) (es.length + fuel) pre.length =
      es ++ scan (pre ++ (ser es ++ rest)) fuel (pre.length + (ser es).length) := by
  induction es with
  | nil => intro pre rest fuel _; rw [List.length_nil, Nat.zero_add]; rfl
  | cons e es ih =>
    intro pre rest fuel h
    obtain ⟨hoff, hwf, hch⟩ := h
    have hfile : pre ++ (ser (e :: es) ++ rest) = (pre ++ e.bytes) ++ (ser es ++ rest) := by
      rw [ser, List.flatMap_cons, List.append_assoc, List.append_assoc]; rfl
    have hre : readEntry (pre ++ (ser (e :: es) ++ rest)) pre.length = some e := by
      rw [hfile, List.append_assoc]; exact readEntry_bytes pre (ser es ++ rest) e hwf hoff
    have hlen : (pre ++ e.bytes).length = pre.length + e.size := by
      rw [List.length_append, Entry.bytes_length hwf]
    have ih := ih (pre ++ e.bytes) rest fuel (by rw [hlen]; exact hch)
    rw [List.length_cons, Nat.add_right_comm, scan, hre]
    show e :: scan _ _ (pre.length + e.size) = _
    rw [hfile, ← hlen, ih, hlen, ← hfile, ser_cons_length hwf, Nat.add_assoc]
    rfl

def fileOf (es : List Entry) : Bytes := hdr ++ ser es

theorem hdr_length : hdr.length = hdrSize := rfl

theorem size_pos (e : Entry) : 9 ≤ e.size := Nat.le_add_right _ _

theorem ser_length_ge (pos : Nat) (es : List Entry) (h : Chain pos es) : es.length ≤ (ser es).length := by
  induction es generalizing pos with
  | nil => exact Nat.le_refl _
  | cons e es ih =>
    rw [ser_cons_length h.2.1, List.length_cons, Nat.add_comm]
    exact Nat.add_le_add (Nat.le_trans (by decide) (size_pos e)) (ih _ h.2.2)

theorem readEntry_zero (f : Bytes) (pos : Nat) (h : byteAt f pos = 0) : readEntry f pos = none := by
  simp [readEntry, h, insertFlag, tombstoneFlag]

theorem scan_none {f : Bytes} {pos : Nat} (h : readEntry f pos = none) (fuel : Nat) : scan f fuel pos = [] := by
  cases fuel with
  | zero => rfl
  | succ n => rw [scan, h]

theorem scan_last {f : Bytes} {pos : Nat} {e : Entry} (h : readEntry f pos = some e)
    (h' : readEntry f (pos + e.size) = none) (fuel : Nat) : scan f (fuel + 1) pos = [e] := by
  rw [scan, h]
  show e :: scan f fuel (pos + e.size) = [e]
  rw [scan_none h']

/-- `ForEachEntry` over a segment that holds `es` and then `tail`: `es`, then whatever the scan makes of
    `tail` (the fuel left is at least 5: the header is there and no entry is empty) -/
theorem entries_ser_tail (es : List Entry) (tail : Bytes) (h : Chain hdrSize es) :
    ∃ fuel, entries (hdr ++ (ser es ++ tail)) =
      es ++ scan (hdr ++ (ser es ++ tail)) (fuel + 5) (hdr ++ ser es).length := by
  obtain ⟨d, hd⟩ := Nat.exists_eq_add_of_le (ser_length_ge hdrSize es h)
  refine ⟨d + tail.length + 1, ?_⟩
  have hfuel : (hdr ++ (ser es ++ tail)).length + 1 = es.length + (d + tail.length + 1 + 5) := by
    rw [List.length_append, List.length_append, hdr_length, hdrSize, hd]; omega
  rw [entries, hfuel, List.length_append]
  exact scan_ser es hdr tail _ h

/-- **round trip**: `ForEachEntry` over a segment returns exactly what was appended -/
theorem entries_fileOf (es : List Entry) (h : Chain hdrSize es) : entries (fileOf es) = es := by
  obtain ⟨fuel, hs⟩ := entries_ser_tail es [] h
  rw [List.append_nil] at hs
  rw [fileOf, hs, scan_none (readEntry_zero _ _ (byteAt_ge _ _ (Nat.le_refl _))), List.append_nil]


theorem ser_append (a b : List Entry) : ser (a ++ b) = ser a ++ ser b := by simp [ser]

theorem fileOf_snoc (es : List Entry) (e : Entry) : fileOf (es ++ [e]) = fileOf es ++ e.bytes := by
  simp [fileOf, ser_append, ser]

theorem fileOf_length (es : List Entry) : (fileOf es).length = hdrSize + (ser es).length := by
  simp [fileOf, hdr_length]

theorem Chain.split (pos : Nat) (es : List Entry) (h : Chain pos es) (e : Entry) (he : e ∈ es) :
    e.wf ∧ ∃ pre rest, ser es = pre ++ (e.bytes ++ rest) ∧ pos + pre.length = e.off := by
  induction es generalizing pos with
  | nil => cases he
  | cons x xs ih =>
    rcases List.mem_cons.mp he with rfl | he
    · exact ⟨h.2.1, [], ser xs, rfl, h.1.symm⟩
    · obtain ⟨hw, pre, rest, hs, hp⟩ := ih (pos + x.size) h.2.2 he
      refine ⟨hw, x.bytes ++ pre, rest, ?_, ?_⟩
      · rw [ser, List.flatMap_cons, ← ser, hs, List.append_assoc]
      · rw [List.length_append, Entry.bytes_length h.2.1, ← Nat.add_assoc]; exact hp

theorem Chain.off_ge (pos : Nat) (es : List Entry) (h : Chain pos es) (e : Entry) (he : e ∈ es) : pos ≤ e.off :=
  let ⟨_, pre, _, _, hp⟩ := Chain.split pos es h e he
  hp ▸ Nat.le_add_right pos pre.length

theorem Chain.off_inc (pos : Nat) (es : List Entry) (h : Chain pos es) :
    es.Pairwise (fun a b => a.off < b.off) := by
  induction es generalizing pos with
  | nil => exact List.Pairwise.nil
  | cons x xs ih =>
    refine List.pairwise_cons.mpr ⟨?_, ih _ h.2.2⟩
    intro b hb
    rw [h.1]
    exact Nat.lt_of_lt_of_le (Nat.lt_add_of_pos_right (Nat.lt_of_lt_of_le (by decide) (size_pos x)))
      (Chain.off_ge (pos + x.size) xs h.2.2 b hb)

theorem Chain.snoc (pos : Nat) (es : List Entry) (e : Entry) (h : Chain pos es) (hw : e.wf)
    (ho : e.off = pos + (ser es).length) : Chain pos (es ++ [e]) :=
  (Chain.snoc_iff pos es e).mpr ⟨h, hw, ho⟩

theorem Chain.last_end (pos : Nat) (es : List Entry) (hc : Chain pos es) (e : Entry) (h : es.getLast? = some e) :
    e.off + e.size = pos + (ser es).length := by
  obtain ⟨l, rfl⟩ := List.getLast?_eq_some_iff.mp h
  obtain ⟨_, hw, ho⟩ := Chain.append pos l e hc
  rw [ho, ser_append, List.length_append, ser_cons_length hw, Nat.add_assoc]
  rfl

theorem readEntry_fileOf (es : List Entry) (h : Chain hdrSize es) (e : Entry) (he : e ∈ es) :
    readEntry (fileOf es) e.off = some e := by
  obtain ⟨hw, pre, rest, hs, hp⟩ := Chain.split hdrSize es h e he
  have hlen : (hdr ++ pre).length = e.off := by rw [List.length_append]; exact hp
  rw [fileOf, hs, ← List.append_assoc, ← hlen]
  exact readEntry_bytes (hdr ++ pre) rest e hw hlen.symm

theorem readKey_of_readEntry {f : Bytes} {pos : Nat} {e : Entry} (h : readEntry f pos = some e)
    (hf : e.flag = insertFlag) : readKey f (pos + entryHdrSize) = some e.key := by
  unfold readEntry at h
  simp only at h
  split at h
  · split at h
    · cases h
    · next k hk =>
      split at h
      · cases h
      · obtain rfl := Option.some.inj h; exact hk
  · next hne =>
    split at h
    · obtain rfl := Option.some.inj h; exact absurd hf hne
    · cases h

theorem keyAt_fileOf (es : List Entry) (h : Chain hdrSize es) (e : Entry) (he : e ∈ es)
    (hf : e.flag = insertFlag) : readKey (fileOf es) (e.off + entryHdrSize) = some e.key :=
  readKey_of_readEntry (readEntry_fileOf es h e he) hf

end Influx.SF
