/-
  Lemmas.DBRP — the decision of `filterFunc`; the virtual-mapping merge of `FindMany`.
-/
import Influx.Model.DBRP
import Influx.Spec.C43

namespace Influx.DBRP
open Influx.Spec.C43

/-- the decision of `filterFunc` spelled out -/
def filterFuncSpec (m : Mapping) (f : Filter) : Bool :=
  (f.ID.isNone || f.ID == some m.ID) &&
  (f.OrgID.isNone || f.OrgID == some m.OrganizationID) &&
  (f.BucketID.isNone || f.BucketID == some m.BucketID) &&
  (f.Database.isNone || f.Database == some m.Database) &&
  (f.RetentionPolicy.isNone || f.RetentionPolicy == some m.RetentionPolicy) &&
  (f.Default.isNone || f.Default == some m.Default) &&
  (f.Virtual.isNone || f.Virtual == some m.Virtual)

theorem go_conj {α : Type} [DecidableEq α] (x : Option α) (y : α) :
    Go.or (some x.isNone) (Go.eq (Go.deref x) (some y)) = some (x.isNone || x == some y) := by
  cases x with
  | none => simp
  | some v => simp [Go.eq]

/-- the generated `filterFunc` never dereferences nil and decides `filterFuncSpec` -/
theorem generated_filterFunc (m : Mapping) (f : Filter) :
    Influx.Generated.DBRP.filterFunc m f = some (filterFuncSpec m f) := by
  unfold Influx.Generated.DBRP.filterFunc filterFuncSpec
  simp only [go_conj, Go.and_some_some]

theorem filterFunc_eq_spec (m : Mapping) (f : Filter) : filterFunc m f = filterFuncSpec m f := by
  unfold filterFunc
  rw [generated_filterFunc]
  cases filterFuncSpec m f <;> rfl

def samePair (a b : Mapping) : Bool := a.Database == b.Database && a.RetentionPolicy == b.RetentionPolicy

theorem samePair_comm (a b : Mapping) : samePair a b = samePair b a := by
  simp only [samePair, Bool.beq_comm (a := a.Database), Bool.beq_comm (a := a.RetentionPolicy)]

theorem pairsUnique_iff {l : List Mapping} :
    pairsUnique l = true ↔ l.Pairwise fun a b => samePair a b = false := by
  induction l with
  | nil => simp [pairsUnique]
  | cons m ms ih =>
    simp only [pairsUnique, Bool.and_eq_true, ih, List.pairwise_cons, List.all_eq_true, Bool.not_eq_true',
      samePair_comm m]
    rfl

def cnt (l : List Mapping) (db : String) : Nat := (l.filter fun m => m.Database == db && m.Default).length

theorem cnt_append (a b : List Mapping) (db : String) : cnt (a ++ b) db = cnt a db + cnt b db := by
  simp [cnt, List.filter_append]

/-- the candidate `nm` as the merge appends it after `ms`: no longer a default when an entry of its
    database is one -/
def cleared (nm : Mapping) (ms : List Mapping) : Mapping :=
  { nm with Default := nm.Default && !ms.any fun m => m.Database == nm.Database && m.Default }

theorem cleared_default {nm : Mapping} {ms : List Mapping} : (cleared nm ms).Default = true ↔
    nm.Default = true ∧ ∀ m ∈ ms, m.Database = nm.Database → m.Default = false := by
  simp [cleared]

theorem mergeOne_eq (nm : Mapping) (ms : List Mapping) :
    mergeOne nm ms = if nm.Virtual && ms.any (samePair · nm) then none else some (cleared nm ms) := by
  induction ms generalizing nm with
  | nil => simp [mergeOne, cleared]
  | cons m ms ih =>
    obtain ⟨id, db, rp, d, v, o, b⟩ := nm
    simp only [mergeOne, List.any_cons, samePair, cleared]
    split
    · next hdb =>
      split
      · next hc => simp only [hdb, hc, Bool.true_and, Bool.and_or_distrib_left, Bool.true_or, if_true]
      · next hc =>
        have e : (if (m.Default && d) = true then (⟨id, db, rp, false, v, o, b⟩ : Mapping) else ⟨id, db, rp, d, v, o, b⟩) =
            ⟨id, db, rp, d && !m.Default, v, o, b⟩ := by
          rcases Bool.eq_false_or_eq_true m.Default with h | h <;> cases d <;> simp only [h] <;> rfl
        rw [e, ih]
        simp only [samePair, cleared, hdb, Bool.true_and, Bool.and_or_distrib_left, hc, Bool.false_or, Bool.not_or,
          Bool.and_assoc]
    · next hdb =>
      rw [ih]
      simp only [samePair, cleared, hdb, Bool.false_and, Bool.false_or]
      rfl

theorem mergeOne_some_default {nm r : Mapping} {ms : List Mapping} (h : mergeOne nm ms = some r)
    (hd : r.Default = true) : nm.Default = true ∧ ∀ m ∈ ms, m.Database = nm.Database → m.Default = false := by
  rw [mergeOne_eq] at h
  split at h
  · cases h
  · cases h
    exact cleared_default.mp hd

theorem bucketToMapping_virtual (b : Bucket) : (bucketToMapping b).Virtual = true := rfl

theorem mergeVirtual_cons (f : Filter) (ms : List Mapping) (b : Bucket) (bs : List Bucket) :
    mergeVirtual f ms (b :: bs) =
      mergeVirtual f
        (if !ms.any (samePair · (bucketToMapping b)) && filterFunc (cleared (bucketToMapping b) ms) f
          then ms ++ [cleared (bucketToMapping b) ms] else ms) bs := by
  simp only [mergeVirtual, mergeOne_eq, bucketToMapping_virtual, Bool.true_and]
  rcases Bool.eq_false_or_eq_true (ms.any fun x => samePair x (bucketToMapping b)) with hany | hany <;>
    simp only [hany, Bool.not_true, Bool.not_false, Bool.false_and, Bool.true_and, Bool.false_eq_true, ↓reduceIte]

theorem mergeVirtual_induction {P : List Mapping → Prop} (f : Filter) (bs : List Bucket) (ms : List Mapping)
    (h0 : P ms)
    (hstep : ∀ acc, P acc → ∀ nm ∈ bs.map bucketToMapping, (∀ m ∈ acc, samePair m nm = false) →
      filterFunc (cleared nm acc) f = true → P (acc ++ [cleared nm acc])) :
    P (mergeVirtual f ms bs) := by
  induction bs generalizing ms with
  | nil => exact h0
  | cons b bs ih =>
    have hrest := fun acc ha nm hnm => hstep acc ha nm (List.mem_cons_of_mem _ hnm)
    rw [mergeVirtual_cons]
    split
    · next hc =>
      rw [Bool.and_eq_true] at hc
      exact ih _ (hstep ms h0 _ (List.mem_cons_self ..) (by simpa using hc.1) hc.2) hrest
    · exact ih ms h0 hrest

/-- **virtual mappings never duplicate a (database, retention policy) pair**: the merge keeps
    the pairs of the result unique, for every filter and bucket list -/
theorem mergeVirtual_pairsUnique (f : Filter) (bs : List Bucket) (ms : List Mapping)
    (h : pairsUnique ms = true) : pairsUnique (mergeVirtual f ms bs) = true := by
  refine mergeVirtual_induction (P := (pairsUnique · = true)) f bs ms h ?_
  intro acc ha nm _ hfresh _
  rw [pairsUnique_iff, List.pairwise_append]
  refine ⟨pairsUnique_iff.mp ha, List.pairwise_singleton .., ?_⟩
  intro m hm x hx
  rw [List.mem_singleton.mp hx]
  exact hfresh m hm

theorem mergeVirtual_append (f : Filter) (bs : List Bucket) (ms : List Mapping) :
    ∃ vs, mergeVirtual f ms bs = ms ++ vs ∧
      ∀ v ∈ vs, v.Virtual = true ∧ filterFunc v f = true ∧ ∃ nm ∈ bs.map bucketToMapping, ∃ acc, v = cleared nm acc := by
  refine mergeVirtual_induction (P := fun r => ∃ vs, r = ms ++ vs ∧ ∀ v ∈ vs, v.Virtual = true ∧
    filterFunc v f = true ∧ ∃ nm ∈ bs.map bucketToMapping, ∃ acc, v = cleared nm acc) f bs ms
    ⟨[], (List.append_nil ms).symm, by simp⟩ ?_
  rintro acc ⟨vs, rfl, hvs⟩ nm hnm _ hflt
  refine ⟨vs ++ [_], List.append_assoc .., ?_⟩
  intro v hv
  rcases List.mem_append.mp hv with hv | hv
  · exact hvs v hv
  · rw [List.mem_singleton.mp hv]
    obtain ⟨b, _, rfl⟩ := List.mem_map.mp hnm
    exact ⟨rfl, hflt, _, hnm, _, rfl⟩

theorem mergeVirtual_cnt (f : Filter) (db : String) (bs : List Bucket) (ms : List Mapping) (h : cnt ms db ≤ 1) :
    cnt ms db ≤ cnt (mergeVirtual f ms bs) db ∧ cnt (mergeVirtual f ms bs) db ≤ 1 := by
  refine mergeVirtual_induction (P := fun acc => cnt ms db ≤ cnt acc db ∧ cnt acc db ≤ 1) f bs ms ⟨Nat.le_refl _, h⟩ ?_
  intro acc ha nm _ _ _
  rw [cnt_append]
  by_cases hc : ((cleared nm acc).Database == db && (cleared nm acc).Default) = true
  · -- a default of `db` is appended only when the entries have none
    have hz : cnt acc db = 0 := by
      rw [Bool.and_eq_true, beq_iff_eq] at hc
      simp only [cnt, List.length_eq_zero_iff, List.filter_eq_nil_iff, Bool.and_eq_true, beq_iff_eq, not_and,
        Bool.not_eq_true]
      exact fun x hx hxdb => (cleared_default.mp hc.2).2 x hx (hxdb.trans hc.1.symm)
    have : cnt [cleared nm acc] db = 1 := by simp [cnt, hc]
    omega
  · have : cnt [cleared nm acc] db = 0 := by simp [cnt, hc]
    omega

end Influx.DBRP
