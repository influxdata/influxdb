/-
  Lemmas.ReducersDistinct — distinct of Model.Reducers against Spec.C23.distinctOK; the
  statement's permutation checkers (`permBy`, `removeAll`, also used for top/bottom) accept
  permutations.
-/
import Influx.Lemmas.ReducersSort
import Influx.Spec.C23
open Influx.Reducers Influx.Spec.C23

namespace Influx.Reducers.Lemmas
variable {V F : Type}

/-- Go `==` on the value type is symmetric and transitive (it need not be reflexive: NaN) -/
structure EqLaws (A : Arith V F) : Prop where
  symm : ∀ a b, A.vo.eq a b = true → A.vo.eq b a = true
  trans : ∀ a b c, A.vo.eq a b = true → A.vo.eq b c = true → A.vo.eq a c = true

/-- point `i` of `xs` if no earlier point carries its value -/
def firstAt (A : Arith V F) (xs : List (Pt V)) (i : Nat) : Option (Pt V) :=
  match xs[i]? with
  | some p => if (xs.take i).any (fun q => A.vo.eq q.v p.v) then none else some p
  | none => none

/-- the first occurrences, as the statement lists them -/
def firstsOf (A : Arith V F) (xs : List (Pt V)) : List (Pt V) :=
  (List.range xs.length).filterMap (firstAt A xs)

theorem firstsOf_snoc (A : Arith V F) (pre : List (Pt V)) (x : Pt V) :
    firstsOf A (pre ++ [x]) =
      if pre.any (fun q => A.vo.eq q.v x.v) then firstsOf A pre else firstsOf A pre ++ [x] := by
  have hold : ∀ i ∈ List.range pre.length, firstAt A (pre ++ [x]) i = firstAt A pre i := by
    intro i hi
    have hi' : i < pre.length := List.mem_range.mp hi
    rw [firstAt, List.getElem?_append_left hi', List.take_append_of_le_length (Nat.le_of_lt hi')]
    rfl
  have hnew : firstAt A (pre ++ [x]) pre.length =
      if pre.any (fun q => A.vo.eq q.v x.v) then none else some x := by
    simp [firstAt]
  simp only [firstsOf, List.length_append, List.length_cons, List.length_nil, Nat.zero_add, List.range_succ,
    List.filterMap_append, filterMap_congr' hold, List.filterMap_cons, List.filterMap_nil, hnew]
  by_cases hx : pre.any (fun q => A.vo.eq q.v x.v) = true <;> simp [hx]

/-- the reducer's map holds exactly the first occurrences, in arrival order; along the way,
    a value has a first occurrence iff it occurs -/
theorem distinct_fold (A : Arith V F) (h : EqLaws A) (suf : List (Pt V)) : ∀ (pre : List (Pt V)),
    (∀ v, (firstsOf A pre).any (fun q => A.vo.eq q.v v) = pre.any (fun q => A.vo.eq q.v v)) →
    suf.foldl (distinctAgg A.vo) (firstsOf A pre) = firstsOf A (pre ++ suf) := by
  induction suf with
  | nil => intro pre _; simp
  | cons x suf ih =>
    intro pre hany
    have hstep : distinctAgg A.vo (firstsOf A pre) x = firstsOf A (pre ++ [x]) := by
      rw [firstsOf_snoc, distinctAgg, hany]
    rw [List.foldl_cons, hstep, ih (pre ++ [x]), List.append_assoc, List.singleton_append]
    intro v
    rw [firstsOf_snoc]
    by_cases hx : pre.any (fun q => A.vo.eq q.v x.v) = true
    · simp only [hx, if_true, List.any_append, List.any_cons, List.any_nil, Bool.or_false, hany v]
      -- x already has a representative f with f == x; if x == v then f == v
      cases hxv : A.vo.eq x.v v with
      | false => simp
      | true =>
        simp only [Bool.or_true]
        rw [List.any_eq_true] at hx ⊢
        obtain ⟨f, hf, hfx⟩ := hx
        exact ⟨f, hf, h.trans _ _ _ hfx hxv⟩
    · simp only [hx, Bool.false_eq_true, if_false, List.any_append, hany v]

/-! ### `permBy` and `removeAll` accept permutations, `pairwiseB` is `Pairwise` -/

/-- the search both checkers make: the first point matching `a` is `a` itself, and taking it
    out of a permutation of `a :: as` leaves a permutation of `as` -/
theorem find_erase {W : Type} (eqv : W → W → Bool) (hrefl : ∀ x, eqv x x = true)
    (hexact : ∀ a b, eqv a b = true → a = b) (a : Pt W) :
    ∀ (bs as : List (Pt W)), bs.Perm (a :: as) →
      ∃ i, bs.findIdx? (fun b => decide (a.t = b.t) && eqv a.v b.v) = some i ∧ (bs.eraseIdx i).Perm as := by
  intro bs
  induction bs with
  | nil => intro as h; have := h.length_eq; simp at this
  | cons b bs ihb =>
    intro as hperm
    by_cases hb : (decide (a.t = b.t) && eqv a.v b.v) = true
    · have : b = a := by
        simp only [Bool.and_eq_true, decide_eq_true_eq] at hb
        cases a; cases b; simp only [Pt.mk.injEq]; exact ⟨hb.1.symm, (hexact _ _ hb.2).symm⟩
      subst this
      exact ⟨0, by simp [List.findIdx?_cons, hrefl], by simpa using hperm.cons_inv⟩
    · have hne : a ≠ b := fun h => hb (by simp [h, hrefl])
      have hmem : a ∈ bs := by
        rcases List.mem_cons.mp (hperm.mem_iff.mpr (List.mem_cons_self ..)) with h | h
        · exact absurd h hne
        · exact h
      -- move `a` to the front of `bs`
      obtain ⟨l1, l2, rfl⟩ := List.append_of_mem hmem
      have hrest : (b :: (l1 ++ l2)).Perm as :=
        (((List.Perm.cons b List.perm_middle).trans (List.Perm.swap a b _)).symm.trans hperm).cons_inv
      obtain ⟨i, hi, hpi⟩ := ihb (l1 ++ l2) List.perm_middle
      exact ⟨i + 1, by simp [List.findIdx?_cons, hb, hi], (List.Perm.cons b hpi).trans hrest⟩

theorem permBy_of_perm {W : Type} (eqv : W → W → Bool) (hrefl : ∀ x, eqv x x = true)
    (hexact : ∀ a b, eqv a b = true → a = b) :
    ∀ (as bs : List (Pt W)), bs.Perm as → permBy eqv as bs = true := by
  intro as
  induction as with
  | nil => intro bs h; simp [permBy, h.eq_nil]
  | cons a as ih =>
    intro bs hperm
    obtain ⟨i, hi, hpi⟩ := find_erase eqv hrefl hexact a bs as hperm
    simp only [permBy, hi]
    exact ih _ hpi

theorem removeAll_of_perm {W : Type} (eqv : W → W → Bool) (hrefl : ∀ x, eqv x x = true)
    (hexact : ∀ a b, eqv a b = true → a = b) :
    ∀ (out xs rest : List (Pt W)), (out ++ rest).Perm xs →
      ∃ rest', removeAll eqv xs out = some rest' ∧ rest'.Perm rest := by
  intro out
  induction out with
  | nil => intro xs rest h; exact ⟨xs, rfl, by simpa using h.symm⟩
  | cons o os ih =>
    intro xs rest h
    obtain ⟨i, hi, hpi⟩ := find_erase eqv hrefl hexact o xs (os ++ rest) (by simpa using h.symm)
    obtain ⟨rest', hr, hpr⟩ := ih (xs.eraseIdx i) rest hpi.symm
    exact ⟨rest', by simp [removeAll, hi, hr], hpr⟩

theorem pairwiseB_of_pairwise {α : Type} (r : α → α → Bool) (l : List α)
    (h : List.Pairwise (fun a b => r a b = true) l) : pairwiseB r l = true := by
  induction l with
  | nil => rfl
  | cons a l ih =>
    have ha := List.pairwise_cons.mp h
    simp only [pairwiseB, Bool.and_eq_true, List.all_eq_true]
    exact ⟨ha.1, ih ha.2⟩

/-- `integerPoints.Less`: by time, then by value -/
theorem ptLess_eq_lex (A : Arith V F) (a b : Pt V) :
    ptLess A.vo a b = lexLt (fun a b => decide (a.t < b.t)) (fun a b => A.vo.lt a.v b.v) a b := by
  simp only [ptLess, lexLt]
  by_cases hab : a.t = b.t
  · simp [hab]
  · by_cases hlt : a.t < b.t
    · simp [hab, hlt]
    · simp [hab, hlt]; omega

theorem ptLess_strictWeak (A : Arith V F) (h : StrictWeak A.vo.lt) : StrictWeak (ptLess A.vo) := by
  rw [show ptLess A.vo = _ from funext fun a => funext (ptLess_eq_lex A a)]
  exact lexLt_strictWeak _ _ (strictWeak_ofKey Pt.t) (h.comap Pt.v)

/-- **distinct**: each value once, represented by its first point, ordered by (time, value) -/
theorem distinct_ok (A : Arith V F) (hlt : StrictWeak A.vo.lt) (heq : EqLaws A)
    (hexact : ∀ a b, A.eqvV a b = true → a = b) (xs : List (Pt V)) :
    distinctOK A xs (distinct A.vo xs) = true := by
  have hfold : xs.foldl (distinctAgg A.vo) [] = firstsOf A xs := by
    simpa [firstsOf] using distinct_fold A heq xs [] (fun v => rfl)
  unfold distinct distinctOK
  rw [hfold]
  have hperm := insertionSort_perm (ptLess A.vo) (firstsOf A xs)
  have hsorted := insertionSort_sorted (ptLess_strictWeak A hlt) (firstsOf A xs)
  rw [Bool.and_eq_true]
  refine ⟨permBy_of_perm A.eqvV A.eqvV_refl hexact _ _ hperm, ?_⟩
  apply pairwiseB_of_pairwise
  refine hsorted.imp ?_
  intro a b hba
  simp only [ptLess] at hba
  by_cases hab : a.t = b.t
  · have : ¬ (b.t ≠ a.t) := by simp [hab]
    simp only [this, if_false] at hba
    simp [hab, hba]
  · have hne : b.t ≠ a.t := fun h => hab h.symm
    simp only [hne, ne_eq, not_false_eq_true, if_true, decide_eq_false_iff_not] at hba
    have : a.t < b.t := (Int.lt_or_lt_of_ne hab).resolve_right hba
    simp [this]

end Influx.Reducers.Lemmas
