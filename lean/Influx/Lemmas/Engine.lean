/-
  Lemmas.Engine — the engine state machine (`Model.Engine`) against its abstraction `abs`:
  what `read` returns, the snapshot invariant `Inv`, and how every step moves `abs`.
-/
import Influx.Lemmas.EngineLog
import Influx.Model.Engine

namespace Influx.Model.Engine

theorem State.abs_eq (s : State) (k : Key) (t : Int) :
    s.abs k t = (Log.get s.hot k t).or ((Log.get s.snap k t).or (Log.get (filesLog s.files) k t)) := by
  simp only [State.abs, State.allLog, Log.get_append]

def State.merged (s : State) (k : Key) : List Pt := mergeOver (s.fileValues k) (s.cacheValues k)

theorem State.sorted_merged (s : State) (k : Key) : SortedPts (s.merged k) :=
  sorted_mergeOver _ (Log.sorted_values _ _)

theorem State.lookup_merged (s : State) (k : Key) (t : Int) : lookupPt t (s.merged k) = s.abs k t := by
  rw [State.merged, lookupPt_mergeOver, State.cacheValues, lastPt_eq_lookupPt (Log.sorted_values _ _),
    State.fileValues, Log.lookupPt_values, Log.lookupPt_values, State.abs_eq, Log.get_append, Option.or_assoc]

theorem State.mem_read (s : State) (k : Key) (lo hi : Int) (asc : Bool) (p : Pt) :
    p ∈ s.read k lo hi asc ↔ (lo ≤ p.1 ∧ p.1 ≤ hi) ∧ s.abs k p.1 = some p.2 := by
  have hm : p ∈ s.read k lo hi asc ↔ p ∈ (s.merged k).filter (inRange lo hi) := by
    cases asc
    · exact List.mem_reverse
    · rfl
  rw [hm, List.mem_filter, ← s.lookup_merged, ← mem_iff_lookupPt (s.sorted_merged k), inRange,
    Bool.and_eq_true, decide_eq_true_eq, decide_eq_true_eq, and_comm]

theorem State.read_sorted_asc (s : State) (k : Key) (lo hi : Int) :
    (s.read k lo hi true).Pairwise (fun a b => a.1 < b.1) :=
  List.Pairwise.filter _ (s.sorted_merged k)

theorem State.read_sorted_desc (s : State) (k : Key) (lo hi : Int) :
    (s.read k lo hi false).Pairwise (fun a b => b.1 < a.1) :=
  List.pairwise_reverse.mpr (List.Pairwise.filter _ (s.sorted_merged k))

theorem State.read_sorted (s : State) (k : Key) (lo hi : Int) (asc : Bool) :
    (s.read k lo hi asc).Pairwise (fun a b => if asc then a.1 < b.1 else b.1 < a.1) := by
  cases asc
  · exact s.read_sorted_desc k lo hi
  · exact s.read_sorted_asc k lo hi

theorem State.read_sound (s : State) (k : Key) (lo hi : Int) (asc : Bool) :
    (s.read k lo hi asc).all (fun p => decide (lo ≤ p.1) && decide (p.1 ≤ hi) && (s.abs k p.1 == some p.2)) = true := by
  refine List.all_eq_true.mpr fun p hp => ?_
  obtain ⟨⟨h1, h2⟩, h3⟩ := (s.mem_read k lo hi asc p).mp hp
  rw [decide_eq_true h1, decide_eq_true h2, h3]
  exact beq_self_eq_true _

theorem State.read_complete (s : State) (k : Key) {lo hi t : Int} (asc : Bool) (h1 : lo ≤ t) (h2 : t ≤ hi)
    (h3 : (s.abs k t).isSome = true) : (s.read k lo hi asc).any (fun p => p.1 == t) = true := by
  obtain ⟨v, hv⟩ := Option.isSome_iff_exists.mp h3
  exact List.any_eq_true.mpr ⟨(t, v), (s.mem_read k lo hi asc _).mpr ⟨⟨h1, h2⟩, hv⟩, beq_self_eq_true t⟩

theorem filesLog_append (a b : List TsmFile) : filesLog (a ++ b) = filesLog a ++ filesLog b :=
  List.flatMap_append

theorem filesLog_nil : filesLog [] = [] := rfl

theorem live_noTombs (d : Log) (g : Nat) : TsmFile.live ⟨d, [], g⟩ = d :=
  List.filter_eq_self.mpr fun _ _ => rfl

theorem filesLog_single (f : TsmFile) : filesLog [f] = f.live := List.append_nil _

theorem get_compactOut (grp : List TsmFile) (k : Key) (t : Int) :
    Log.get (filesLog (compactOut grp)) k t = Log.get (filesLog grp) k t := by
  rw [← Log.get_canon (filesLog grp), compactOut]
  split
  · next h => rw [List.isEmpty_iff.mp h]; rfl
  · rw [filesLog_single, live_noTombs]

theorem split_group (fs : List TsmFile) {i j : Nat} (h : i ≤ j) :
    fs = fs.take i ++ groupOf fs i j ++ fs.drop (j + 1) := by
  have h1 : fs.drop (j + 1) = (fs.drop i).drop (j + 1 - i) := by
    rw [List.drop_drop, Nat.add_sub_cancel' (Nat.le_succ_of_le h)]
  rw [groupOf, h1, List.append_assoc, List.take_append_drop, List.take_append_drop]

theorem get_filesLog_compact (fs : List TsmFile) (i j : Nat) (h : i ≤ j) (k : Key) (t : Int) :
    Log.get (filesLog (compactFiles fs i j)) k t = Log.get (filesLog fs) k t := by
  conv => rhs; rw [split_group fs h]
  simp only [compactFiles, filesLog_append, Log.get_append, get_compactOut]

theorem validGroup_le {fs : List TsmFile} {i j : Nat} (h : validGroup fs i j = true) : i ≤ j := by
  simp only [validGroup, Bool.and_eq_true, decide_eq_true_eq] at h
  exact h.1.1.1

theorem live_addTomb (ss : List Nat) (lo hi : Int) (f : TsmFile) :
    (addTomb ss lo hi f).live = f.live.filter fun e => !covered ss lo hi e.key e.ts := by
  unfold addTomb
  split
  · simp only [TsmFile.live, List.filter_filter, List.any_append, List.any_cons, List.any_nil, Bool.or_false,
      Tomb.covers, Bool.not_or, Bool.and_comm]
  · next hn =>
    refine (List.filter_eq_self.mpr fun e he => ?_).symm
    cases hc : covered ss lo hi e.key e.ts
    · rfl
    · exact absurd (List.any_eq_true.mpr ⟨e, he, hc⟩) hn

theorem filesLog_addTomb (ss : List Nat) (lo hi : Int) (fs : List TsmFile) :
    filesLog (fs.map (addTomb ss lo hi)) = (filesLog fs).filter fun e => !covered ss lo hi e.key e.ts := by
  induction fs with
  | nil => rfl
  | cons f fs ih =>
    simp only [filesLog, List.map_cons, List.flatMap_cons, List.filter_append] at ih ⊢
    rw [ih, live_addTomb]

theorem get_filter_covered (l : Log) (ss : List Nat) (lo hi : Int) (k : Key) (t : Int) :
    Log.get (l.filter fun e => !covered ss lo hi e.key e.ts) k t =
      if covered ss lo hi k t then none else Log.get l k t := by
  rw [Log.get_filter l (fun k t => !covered ss lo hi k t)]
  cases covered ss lo hi k t <;> rfl

@[simp] theorem walAppend_hot (s : State) (r : WalEntry) : (walAppend s r).hot = s.hot := rfl
@[simp] theorem walAppend_snap (s : State) (r : WalEntry) : (walAppend s r).snap = s.snap := rfl
@[simp] theorem walAppend_files (s : State) (r : WalEntry) : (walAppend s r).files = s.files := rfl
@[simp] theorem walAppend_phase (s : State) (r : WalEntry) : (walAppend s r).phase = s.phase := rfl
@[simp] theorem walAppend_snapTmp (s : State) (r : WalEntry) : (walAppend s r).snapTmp = s.snapTmp := rfl
@[simp] theorem walAppend_snapClosed (s : State) (r : WalEntry) : (walAppend s r).snapClosed = s.snapClosed := rfl

@[simp] theorem walClose_hot (s : State) : (walCloseSegment s).hot = s.hot := rfl
@[simp] theorem walClose_snap (s : State) : (walCloseSegment s).snap = s.snap := rfl
@[simp] theorem walClose_files (s : State) : (walCloseSegment s).files = s.files := rfl
@[simp] theorem walClose_phase (s : State) : (walCloseSegment s).phase = s.phase := rfl
@[simp] theorem walClose_snapTmp (s : State) : (walCloseSegment s).snapTmp = s.snapTmp := rfl
@[simp] theorem walClose_snapClosed (s : State) : (walCloseSegment s).snapClosed = s.snapClosed := rfl

@[simp] theorem touch_abs (s : State) (k : Key) (t : Int) : s.touch.abs k t = s.abs k t := rfl
@[simp] theorem touch_read (s : State) (k : Key) (lo hi : Int) (asc : Bool) :
    s.touch.read k lo hi asc = s.read k lo hi asc := rfl
@[simp] theorem touch_files (s : State) : s.touch.files = s.files := rfl
@[simp] theorem touch_phase (s : State) : s.touch.phase = s.phase := rfl
@[simp] theorem touch_snap (s : State) : s.touch.snap = s.snap := rfl
@[simp] theorem touch_hot (s : State) : s.touch.hot = s.hot := rfl

theorem stepDelete_eq_noKeys {s : State} {ss : List Nat} {lo hi : Int} (h : (hotKeys s.hot ss).isEmpty = true) :
    stepDelete s ss lo hi =
      { s with files := s.files.map (addTomb ss lo hi),
               hot := s.hot.filter fun e => !covered ss lo hi e.key e.ts, lastRec := false } := if_pos h

theorem stepDelete_eq_keys {s : State} {ss : List Nat} {lo hi : Int} (h : (hotKeys s.hot ss).isEmpty = false) :
    stepDelete s ss lo hi =
      { walAppend { s with files := s.files.map (addTomb ss lo hi),
                           hot := s.hot.filter fun e => !covered ss lo hi e.key e.ts }
          (.delRange (hotKeys s.hot ss) lo hi) with lastRec := true } := if_neg (by rw [h]; nofun)

theorem stepDelete_fields (s : State) (ss : List Nat) (lo hi : Int) :
    (stepDelete s ss lo hi).files = s.files.map (addTomb ss lo hi) ∧
    (stepDelete s ss lo hi).hot = (s.hot.filter fun e => !covered ss lo hi e.key e.ts) ∧
    (stepDelete s ss lo hi).snap = s.snap ∧ (stepDelete s ss lo hi).phase = s.phase ∧
    (stepDelete s ss lo hi).snapTmp = s.snapTmp := by
  cases hk : (hotKeys s.hot ss).isEmpty
  case true => rw [stepDelete_eq_noKeys hk]; exact ⟨rfl, rfl, rfl, rfl, rfl⟩
  case false => rw [stepDelete_eq_keys hk]; exact ⟨rfl, rfl, rfl, rfl, rfl⟩

/-- `DeleteSeriesRange` (and its interrupted form) waits while the committing snapshot holds `e.mu` -/
theorem step_delete_blocked {s : State} (h : commitLocked s.phase = true) (ss : List Nat) (lo hi : Int) :
    step s (.delete ss lo hi) = (s.touch, .blocked) := if_pos h

theorem step_delete_ok {s : State} (h : commitLocked s.phase = false) (ss : List Nat) (lo hi : Int) :
    step s (.delete ss lo hi) = (stepDelete s ss lo hi, .ok) := if_neg (by rw [h]; nofun)

theorem step_deleteCrash_blocked {s : State} (h : commitLocked s.phase = true) (ss : List Nat) (lo hi : Int) :
    step s (.deleteCrash ss lo hi) = (s.touch, .blocked) := if_pos h

theorem step_deleteCrash_ok {s : State} (h : commitLocked s.phase = false) (ss : List Nat) (lo hi : Int) :
    step s (.deleteCrash ss lo hi) = (openWith s (s.files.map (addTomb ss lo hi)) s.wal, .ok) :=
  if_neg (by rw [h]; nofun)

theorem step_compact_valid {s : State} {i j : Nat} (h : validGroup s.files i j = true) :
    step s (.compact i j) = ({ s with files := compactFiles s.files i j, lastRec := false },
      .nfiles (compactFiles s.files i j).length) := if_pos h

theorem step_compact_bad {s : State} {i j : Nat} (h : validGroup s.files i j = false) :
    step s (.compact i j) = (s.touch, .badGroup) := if_neg (by rw [h]; nofun)

/-- a failing `WriteSnapshot`: nothing (busy), or `Cache.Snapshot` followed by the `Size() == 0`
    return, or by `ClearSnapshot(false)` -/
theorem stepSnapFail_cases (s : State) :
    (stepSnapFail s).1 = s.touch ∨
    (stepSnapFail s).1 = { (stepSnapBegin s).1 with phase := .idle, snapClosed := [] } ∧
        (stepSnapBegin s).1.snap = [] ∧ (s.phase = .idle ∨ s.phase = .failed) ∨
    (stepSnapFail s).1 = { (stepSnapBegin s).1 with phase := .failed } ∧ (s.phase = .idle ∨ s.phase = .failed) := by
  unfold stepSnapFail
  split
  case h_3 => exact Or.inl rfl
  all_goals
    next hp =>
    right
    simp only
    cases he : (stepSnapBegin s).1.snap.isEmpty
    · exact Or.inr ⟨rfl, by simp [hp]⟩
    · exact Or.inl ⟨rfl, List.isEmpty_iff.mp he, by simp [hp]⟩

theorem stepSnapTo_ind {P : State → Prop} (hstep : ∀ s, P s → P (stepSnapStep s)) {s : State}
    (h : P s) (p : Phase) : P (stepSnapTo s p) := by
  have h1 : ∀ s, P s → P (advance1 p.target s) := fun s hs => by
    unfold advance1; split
    · exact hstep s hs
    · exact hs
  exact h1 _ (h1 _ (h1 _ (h1 _ h)))

structure Inv (s : State) : Prop where
  idle_snap : s.phase = .idle → s.snap = []
  written_tmp : s.phase = .written → ∃ g, s.snapTmp = some ⟨s.snap.canon, [], g⟩
  replaced_le : s.phase = .replaced →
    ∀ k t v, Log.get s.snap k t = some v → Log.get (filesLog s.files) k t = some v
  cleared_snap : s.phase = .cleared → s.snap = []

theorem inv_init : Inv init := by
  constructor <;> intro h <;> first | rfl | cases h

theorem Inv.congr {s s' : State} (h : Inv s)
    (e : (s'.phase, s'.snap, s'.snapTmp) = (s.phase, s.snap, s.snapTmp))
    (hf : s.phase = .replaced → ∀ k t, Log.get (filesLog s'.files) k t = Log.get (filesLog s.files) k t) :
    Inv s' := by
  simp only [Prod.mk.injEq] at e
  obtain ⟨e1, e2, e3⟩ := e
  constructor <;> rw [e1, e2] <;> try rw [e3]
  · exact h.idle_snap
  · exact h.written_tmp
  · intro hp k t v hv; rw [hf hp]; exact h.replaced_le hp k t v hv
  · exact h.cleared_snap

theorem inv_touch {s : State} (h : Inv s) : Inv s.touch := h.congr rfl fun _ _ _ => rfl

theorem inv_openWith (s : State) (fs : List TsmFile) (segs : List Segment) : Inv (openWith s fs segs) := by
  constructor <;> intro h <;> first | rfl | cases h

theorem abs_stepWrite (s : State) (es : Log) (k : Key) (t : Int) :
    (stepWrite s es).abs k t = (Log.get es k t).or (s.abs k t) := by
  simp only [State.abs_eq, stepWrite, walAppend_hot, walAppend_snap, walAppend_files, Log.get_append,
    Option.or_assoc]

theorem inv_stepWrite {s : State} (h : Inv s) (es : Log) : Inv (stepWrite s es) :=
  h.congr rfl fun _ _ _ => rfl

theorem abs_stepSnapBegin {s : State} (h : Inv s) (k : Key) (t : Int) :
    (stepSnapBegin s).1.abs k t = s.abs k t := by
  unfold stepSnapBegin
  cases hp : s.phase <;> simp only [State.abs_eq, walClose_hot, walClose_snap, walClose_files,
    touch_hot, touch_snap, touch_files]
  -- idle: hot moves to the (empty) snapshot store
  rw [h.idle_snap hp]; rfl

theorem inv_stepSnapBegin {s : State} (h : Inv s) : Inv (stepSnapBegin s).1 := by
  unfold stepSnapBegin
  cases hp : s.phase <;> simp only
  case idle | failed => constructor <;> intro h' <;> cases h'
  all_goals exact h.congr rfl fun _ _ _ => rfl

theorem abs_stepSnapStep {s : State} (h : Inv s) (k : Key) (t : Int) :
    (stepSnapStep s).abs k t = s.abs k t := by
  unfold stepSnapStep
  cases hp : s.phase <;> simp only
  · split <;> rfl
  · -- written → replaced: the new file holds the snapshot store's content
    obtain ⟨g, hg⟩ := h.written_tmp hp
    simp only [State.abs_eq, hg, Option.toList_some, filesLog_append, filesLog_single,
      live_noTombs, Log.get_append, Log.get_canon]
    cases Log.get s.snap k t <;> rfl
  · -- replaced → cleared: the snapshot store's content is in the files
    simp only [State.abs_eq, Log.get_nil]
    cases hs : Log.get s.snap k t with
    | none => rfl
    | some v => rw [h.replaced_le hp k t v hs]; rfl
  · rfl

theorem inv_stepSnapStep {s : State} (h : Inv s) : Inv (stepSnapStep s) := by
  unfold stepSnapStep
  cases hp : s.phase <;> simp only
  case idle | failed => exact h
  case begun =>
    split
    · next he => constructor <;> intro h' <;> first | exact List.isEmpty_iff.mp he | cases h'
    · constructor <;> intro h' <;> first | exact ⟨_, rfl⟩ | cases h'
  case written =>
    constructor <;> intro h' <;> first | cases h' | skip
    intro k t v hv
    obtain ⟨g, hg⟩ := h.written_tmp hp
    rw [hg, Option.toList_some, filesLog_append, filesLog_single, live_noTombs, Log.get_append,
      Log.get_canon, hv]
    rfl
  case replaced => constructor <;> intro h' <;> first | rfl | cases h'
  case cleared => constructor <;> intro h' <;> first | exact h.cleared_snap hp | cases h'

theorem abs_stepSnapFail {s : State} (h : Inv s) (k : Key) (t : Int) :
    (stepSnapFail s).1.abs k t = s.abs k t := by
  rcases stepSnapFail_cases s with he | ⟨he, _, _⟩ | ⟨he, _⟩ <;> rw [he]
  · rfl
  · exact abs_stepSnapBegin h k t
  · exact abs_stepSnapBegin h k t

theorem inv_stepSnapFail {s : State} (h : Inv s) : Inv (stepSnapFail s).1 := by
  rcases stepSnapFail_cases s with he | ⟨he, hsn, _⟩ | ⟨he, _⟩ <;> rw [he]
  · exact inv_touch h
  · constructor <;> intro h' <;> first | exact hsn | cases h'
  · constructor <;> intro h' <;> cases h'

theorem inv_stepSnapTo {s : State} (h : Inv s) (p : Phase) : Inv (stepSnapTo s p) :=
  stepSnapTo_ind (P := Inv) (fun _ => inv_stepSnapStep) h p

theorem abs_stepSnapTo {s : State} (h : Inv s) (p : Phase) (k : Key) (t : Int) :
    (stepSnapTo s p).abs k t = s.abs k t :=
  (stepSnapTo_ind (P := fun s' => Inv s' ∧ s'.abs k t = s.abs k t)
    (fun _ h' => ⟨inv_stepSnapStep h'.1, (abs_stepSnapStep h'.1 k t).trans h'.2⟩) ⟨h, rfl⟩ p).2

theorem abs_step_compact (s : State) (i j : Nat) (k : Key) (t : Int) :
    (step s (.compact i j)).1.abs k t = s.abs k t := by
  cases hv : validGroup s.files i j
  case true =>
    rw [step_compact_valid hv]
    simp only [State.abs_eq, get_filesLog_compact _ _ _ (validGroup_le hv)]
  case false => rw [step_compact_bad hv]; rfl

def SnapClear (s : State) (ss : List Nat) (lo hi : Int) : Prop :=
  ∀ e ∈ s.snap, covered ss lo hi e.key e.ts = false

instance (s : State) (ss : List Nat) (lo hi : Int) : Decidable (SnapClear s ss lo hi) := by
  unfold SnapClear; exact inferInstance

theorem Log.get_of_clear {l : Log} {ss : List Nat} {lo hi : Int}
    (h : ∀ e ∈ l, covered ss lo hi e.key e.ts = false)
    {k : Key} {t : Int} (hc : covered ss lo hi k t = true) : Log.get l k t = none := by
  cases hg : Log.get l k t with
  | none => rfl
  | some v => rw [h _ (Log.get_some_mem hg)] at hc; cases hc

/-- **A delete removes exactly the covered cells** — provided the in-flight snapshot store
    holds none of them (`SnapClear`).  Without the proviso this is false (C03_full_fails). -/
theorem abs_stepDelete {s : State} {ss : List Nat} {lo hi : Int} (hc : SnapClear s ss lo hi)
    (k : Key) (t : Int) :
    (stepDelete s ss lo hi).abs k t = if covered ss lo hi k t then none else s.abs k t := by
  obtain ⟨hf, hh, hs, _⟩ := stepDelete_fields s ss lo hi
  simp only [State.abs_eq, hf, hh, hs, filesLog_addTomb, get_filter_covered]
  split
  · next hcv => rw [Log.get_of_clear hc hcv]; rfl
  · rfl

theorem inv_step {s : State} (h : Inv s) {op : Op} (hop : ∀ idxs, op ≠ .compactSet idxs) :
    Inv (step s op).1 := by
  cases op with
  | write es => exact inv_stepWrite h es
  | delete ss lo hi =>
    cases hl : commitLocked s.phase
    case true => rw [step_delete_blocked hl]; exact inv_touch h
    case false =>
      rw [step_delete_ok hl]
      obtain ⟨_, _, hs, hp, ht⟩ := stepDelete_fields s ss lo hi
      exact h.congr (by rw [hs, hp, ht]) fun hr => by rw [hr] at hl; cases hl
  | snapBegin => exact inv_stepSnapBegin h
  | snapFail => exact inv_stepSnapFail h
  | snapStep => exact inv_touch (inv_stepSnapStep h)
  | snapTo p => exact inv_touch (inv_stepSnapTo h p)
  | compact i j =>
    cases hv : validGroup s.files i j
    case true => rw [step_compact_valid hv]; exact h.congr rfl fun _ => get_filesLog_compact _ _ _ (validGroup_le hv)
    case false => rw [step_compact_bad hv]; exact inv_touch h
  | compactSet idxs => exact absurd rfl (hop idxs)
  | read | files => exact inv_touch h
  | crash | compactCrash => exact inv_openWith ..
  | deleteCrash ss lo hi =>
    cases hl : commitLocked s.phase
    case true => rw [step_deleteCrash_blocked hl]; exact inv_touch h
    case false => rw [step_deleteCrash_ok hl]; exact inv_openWith ..

/-- the operations a client cannot tell from doing nothing: snapshot sub-steps (also failing
    attempts), compactions of adjacent files, reads -/
def Op.silent : Op → Bool
  | .snapBegin | .snapFail | .snapStep | .snapTo _ | .compact .. | .read .. | .files => true
  | _ => false

theorem abs_step_silent {s : State} (h : Inv s) {op : Op} (hq : op.silent = true) (k : Key) (t : Int) :
    (step s op).1.abs k t = s.abs k t := by
  cases op with
  | snapBegin => exact abs_stepSnapBegin h k t
  | snapFail => exact abs_stepSnapFail h k t
  | snapStep => exact (touch_abs _ k t).trans (abs_stepSnapStep h k t)
  | snapTo p => exact (touch_abs _ k t).trans (abs_stepSnapTo h p k t)
  | compact i j => exact abs_step_compact s i j k t
  | read | files => rfl
  | _ => cases hq

theorem lastRec_stepSnapBegin (s : State) : (stepSnapBegin s).1.lastRec = false := by
  unfold stepSnapBegin; cases s.phase <;> rfl

theorem lastRec_step_silent {s : State} {op : Op} (hq : op.silent = true) : (step s op).1.lastRec = false := by
  cases op with
  | snapBegin => exact lastRec_stepSnapBegin s
  | snapFail =>
    show (stepSnapFail s).1.lastRec = false
    rcases stepSnapFail_cases s with he | ⟨he, _⟩ | ⟨he, _⟩ <;> rw [he]
    · rfl
    · exact lastRec_stepSnapBegin s
    · exact lastRec_stepSnapBegin s
  | compact i j =>
    cases hv : validGroup s.files i j
    case true => rw [step_compact_valid hv]
    case false => rw [step_compact_bad hv]; rfl
  | snapStep | snapTo | read | files => rfl
  | _ => cases hq

end Influx.Model.Engine
