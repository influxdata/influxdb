/-
  Decimal rendering and the number scanners: what `strconv.AppendInt/AppendUint` write is
  accepted by `scanNumber` and read back by `ParseInt/ParseUint` as the same value.
-/
import Influx.Model.LineProtocolPoint

namespace Influx.LP
open Influx.Generated.LineProto

theorem digitsVal_append_single (ds : Bytes) (d : Nat) : digitsVal (ds ++ [d]) = 10 * digitsVal ds + (d - 48) := by
  simp [digitsVal, List.foldl_append]

theorem natDigitsAux_spec (f n : Nat) (acc : Bytes) (h : n < f) :
    ∃ ds, natDigitsAux f n acc = ds ++ acc ∧ ds ≠ [] ∧ (∀ b ∈ ds, isDigit b = true) ∧ digitsVal ds = n := by
  induction f generalizing n acc with
  | zero => omega
  | succ f ih =>
    have hdig : ∀ m, m < 10 → isDigit (48 + m) = true := fun m hm => by
      rw [isDigit, Bool.and_eq_true, decide_eq_true_eq, decide_eq_true_eq]; omega
    rw [natDigitsAux]
    by_cases hn : n < 10
    · rw [if_pos hn]
      exact ⟨[48 + n], rfl, nofun, fun b hb => by rw [List.mem_singleton.mp hb]; exact hdig n hn,
        (Nat.zero_add _).trans (Nat.add_sub_cancel_left ..)⟩
    · rw [if_neg hn]
      obtain ⟨ds, h1, h2, h3, h4⟩ := ih (n / 10) ((48 + n % 10) :: acc)
        (Nat.lt_of_lt_of_le (Nat.div_lt_self (by omega) (by decide)) (Nat.le_of_lt_succ h))
      refine ⟨ds ++ [48 + n % 10], by rw [h1, List.append_assoc]; rfl, by simp, fun b hb => ?_, ?_⟩
      · rcases List.mem_append.mp hb with hb | hb
        · exact h3 b hb
        · rw [List.mem_singleton.mp hb]; exact hdig _ (Nat.mod_lt _ (by decide))
      · rw [digitsVal_append_single, h4, Nat.add_sub_cancel_left]; exact Nat.div_add_mod n 10

theorem natDigits_spec (n : Nat) :
    natDigits n ≠ [] ∧ (∀ b ∈ natDigits n, isDigit b = true) ∧ digitsVal (natDigits n) = n := by
  obtain ⟨ds, h1, h2, h3, h4⟩ := natDigitsAux_spec (n + 1) n [] (by omega)
  unfold natDigits
  rw [h1]; simp only [List.append_nil]
  exact ⟨h2, h3, h4⟩

theorem all_isDigit_natDigits (n : Nat) : (natDigits n).all isDigit = true := by
  simp only [List.all_eq_true]; exact (natDigits_spec n).2.1

theorem natDigits_head (n : Nat) : ∃ d r, natDigits n = d :: r ∧ isDigit d = true := by
  obtain ⟨h1, h2, _⟩ := natDigits_spec n
  cases h : natDigits n with
  | nil => exact absurd h h1
  | cons d r => exact ⟨d, r, rfl, h2 d (by simp [h])⟩

theorem parseUintGo_natDigits (n : Nat) (h : n < 2 ^ 64) : parseUintGo (natDigits n) = .ok n := by
  obtain ⟨h1, _, h3⟩ := natDigits_spec n
  unfold parseUintGo
  have he : (natDigits n).isEmpty = false := by cases hh : natDigits n <;> simp_all
  simp [he, all_isDigit_natDigits, h3, h]

theorem ne_of_isDigit {d c : Nat} (h : isDigit d = true) (hc : isDigit c = false) : d ≠ c := fun e => by
  rw [e, hc] at h; cases h

theorem parseIntGo_neg (ds : Bytes) (hne : ds.isEmpty = false) (hall : ds.all isDigit = true)
    (h : digitsVal ds ≤ 2 ^ 63) : parseIntGo (45 :: ds) = .ok (-(digitsVal ds : Int)) := by
  simp [parseIntGo, hne, hall, h]

theorem parseIntGo_pos (d : Nat) (r : Bytes) (hd : isDigit d = true) (hall : (d :: r).all isDigit = true)
    (h : digitsVal (d :: r) < 2 ^ 63) : parseIntGo (d :: r) = .ok (digitsVal (d :: r) : Int) := by
  have hd45 : d ≠ 45 := ne_of_isDigit hd rfl
  have hd43 : d ≠ 43 := ne_of_isDigit hd rfl
  simp [parseIntGo, hd45, hd43, hall, h]

theorem parseIntGo_intDigits (i : Int) (h1 : -(2 ^ 63 : Int) ≤ i) (h2 : i < 2 ^ 63) :
    parseIntGo (intDigits i) = .ok i := by
  obtain ⟨d, r, hd, hdig⟩ := natDigits_head i.natAbs
  obtain ⟨hne, _, hval⟩ := natDigits_spec i.natAbs
  have hall := all_isDigit_natDigits i.natAbs
  by_cases hneg : i < 0
  · have hn : (i.natAbs : Int) = -i := Int.ofNat_natAbs_of_nonpos (Int.le_of_lt hneg)
    rw [intDigits, if_pos hneg, parseIntGo_neg _ (by rw [hd]; rfl) hall
      (by rw [hval]; exact Int.ofNat_le.mp (by rw [hn]; omega)), hval, hn, Int.neg_neg]
  · have hn : (i.natAbs : Int) = i := Int.natAbs_of_nonneg (Int.not_lt.mp hneg)
    rw [intDigits, if_neg hneg]
    rw [hd] at hall hval ⊢
    rw [parseIntGo_pos d r hdig hall (by rw [hval]; exact Int.ofNat_lt.mp (by rw [hn]; omega)), hval, hn]

theorem scanNumberLoop_digit (st : NumSt) (a : Bool) (p d : Nat) (rest : Bytes) (h : isDigit d = true) :
    scanNumberLoop st a p (d :: rest) = scanNumberLoop st false d rest := by
  have hne : ∀ c, isDigit c = false → d ≠ c := fun c => ne_of_isDigit h
  have hnum : isNumeric d = true := by simp [isNumeric, h]
  rw [scanNumberLoop]
  simp [hne 105 rfl, hne 117 rfl, hne 46 rfl, hne 101 rfl, hne 69 rfl, hne 45 rfl, hne 43 rfl, hnum]

theorem scanNumberLoop_digits (st : NumSt) (a : Bool) (p : Nat) (ds rest : Bytes)
    (hd : ∀ b ∈ ds, isDigit b = true) (hne : ds ≠ []) :
    ∃ p', scanNumberLoop st a p (ds ++ rest) = scanNumberLoop st false p' rest := by
  induction ds generalizing a p with
  | nil => exact absurd rfl hne
  | cons d ds ih =>
    rw [List.cons_append, scanNumberLoop_digit _ _ _ _ _ (hd d (by simp))]
    cases ds with
    | nil => exact ⟨d, rfl⟩
    | cons d' ds' => exact ih false d (fun b hb => hd b (by simp [hb])) (by simp)

theorem scanNumberLoop_suffix (a : Bool) (p : Nat) (ds : Bytes) (hd : ∀ b ∈ ds, isDigit b = true) (hne : ds ≠ []) :
    scanNumberLoop {} a p (ds ++ [105]) = some { isInt := true } ∧
    scanNumberLoop {} a p (ds ++ [117]) = some { isUnsigned := true } := by
  obtain ⟨p1, h1⟩ := scanNumberLoop_digits {} a p ds [105] hd hne
  obtain ⟨p2, h2⟩ := scanNumberLoop_digits {} a p ds [117] hd hne
  exact ⟨h1.trans rfl, h2.trans rfl⟩

theorem checkNumber_of_isInt (tok b : Bytes) (i : Int)
    (hscan : scanNumberLoop {} (!decide (tok.head? = some 45)) (if tok.head? = some 45 then 45 else cEq)
      (if tok.head? = some 45 then tok.drop 1 else tok) = some { isInt := true })
    (hlast : tok.getLast? = some 105) (hdl : tok.dropLast = b)
    (hlen : (if tok.head? = some 45 then 2 else 1) < tok.length)
    (hp : parseIntGo b = .ok i) : checkNumber tok = .ok () := by
  unfold checkNumber
  simp only [hscan]
  simp [hlast, hdl, hp]
  by_cases h : tok.head? = some 45
  · rw [if_pos h] at hlen ⊢; omega
  · rw [if_neg h] at hlen ⊢; omega

theorem checkNumber_of_isUnsigned (tok b : Bytes) (u : Nat) (hneg : tok.head? ≠ some 45)
    (hscan : scanNumberLoop {} true cEq tok = some { isUnsigned := true })
    (hlast : tok.getLast? = some 117) (hdl : tok.dropLast = b) (hne : tok.length ≠ 0)
    (hp : parseUintGo b = .ok u) : checkNumber tok = .ok () := by
  unfold checkNumber
  simp [hneg, hscan, hlast, hdl, hp, hne]

theorem checkNumber_int (v : Int) (h1 : -(2 ^ 63 : Int) ≤ v) (h2 : v < 2 ^ 63) :
    checkNumber (intDigits v ++ [105]) = .ok () := by
  obtain ⟨d, r, hd, hdig⟩ := natDigits_head v.natAbs
  obtain ⟨hne, hall, _⟩ := natDigits_spec v.natAbs
  have hlen : 0 < (natDigits v.natAbs).length := List.length_pos_iff.mpr hne
  by_cases hneg : v < 0
  · have htok : intDigits v = 45 :: natDigits v.natAbs := if_pos hneg
    have h45 : (intDigits v ++ [105]).head? = some 45 := by rw [htok]; rfl
    refine checkNumber_of_isInt _ _ v ?_ List.getLast?_concat List.dropLast_concat ?_
      (parseIntGo_intDigits v h1 h2)
    · rw [if_pos h45, if_pos h45, decide_eq_true h45, htok]
      exact (scanNumberLoop_suffix _ _ _ hall hne).1
    · rw [if_pos h45, htok]
      simp only [List.length_cons, List.length_append, List.length_nil]; omega
  · have htok : intDigits v = natDigits v.natAbs := if_neg hneg
    have h45 : ¬ (intDigits v ++ [105]).head? = some 45 := by
      rw [htok, hd]; exact fun e => ne_of_isDigit hdig rfl (Option.some.inj e)
    refine checkNumber_of_isInt _ _ v ?_ List.getLast?_concat List.dropLast_concat ?_
      (parseIntGo_intDigits v h1 h2)
    · rw [if_neg h45, if_neg h45, decide_eq_false h45, htok]
      exact (scanNumberLoop_suffix _ _ _ hall hne).1
    · rw [if_neg h45, htok]
      simp only [List.length_cons, List.length_append, List.length_nil]; omega

theorem checkNumber_uint (v : Nat) (h : v < 2 ^ 64) : checkNumber (natDigits v ++ [117]) = .ok () := by
  obtain ⟨d, r, hd, hdig⟩ := natDigits_head v
  obtain ⟨hne, hall, _⟩ := natDigits_spec v
  refine checkNumber_of_isUnsigned _ _ v ?_ (scanNumberLoop_suffix _ _ _ hall hne).2 List.getLast?_concat
    List.dropLast_concat (by simp) (parseUintGo_natDigits v h)
  rw [hd]; exact fun e => ne_of_isDigit hdig rfl (Option.some.inj e)

end Influx.LP
