/-
  Lemmas.TSILog — `LogFile.open` at the level of bytes: the log is a concatenation of encoded
  entries; reading stops at the first entry that does not decode (short buffer or checksum
  mismatch). The entry codec (`appendLogEntry` / `LogEntry.UnmarshalBinary`, CRC-32) is not
  modelled here: it enters as the hypotheses of `LogCodec`, exercised on the real code by the
  correspondence run. Its framing, without the checksum function, is in `Model.TSIVarint`.
-/
import Influx.Model.TSI

namespace Influx.Model.TSI

/-- what is assumed of the entry codec. -/
structure LogCodec where
  /-- `appendLogEntry`: the bytes of one entry (body and checksum) -/
  encode : Entry → List Nat
  /-- `LogEntry.UnmarshalBinary` on a buffer: the entry at its front and its size, or an error -/
  decode : List Nat → Option (Entry × Nat)
  nonempty : ∀ e, 0 < (encode e).length
  complete : ∀ e rest, decode (encode e ++ rest) = some (e, (encode e).length)
  /-- a strict prefix of an entry never passes (short buffer, or the checksum does not match) -/
  torn : ∀ e p, p.length < (encode e).length → p = (encode e).take p.length → decode p = none

/-- `LogFile.open`'s loop: decode entries until one fails. -/
def parseLog (c : LogCodec) : Nat → List Nat → List Entry
  | 0, _ => []
  | fuel + 1, bytes =>
    match c.decode bytes with
    | none => []
    | some (e, n) => if n = 0 then [] else e :: parseLog c fuel (bytes.drop n)

/-- **open(truncate log) = the longest prefix of whole entries**: a log cut anywhere inside
    entry `e` (or at an entry boundary: `p = []`) reads back exactly the entries before it. -/
theorem parseLog_truncated (c : LogCodec) (es : List Entry) (e : Entry) (p : List Nat)
    (hp : p.length < (c.encode e).length) (hpre : p = (c.encode e).take p.length) :
    ∀ fuel, (es.flatMap c.encode ++ p).length < fuel → parseLog c fuel (es.flatMap c.encode ++ p) = es := by
  induction es with
  | nil =>
    intro fuel hf
    cases fuel with
    | zero => exact absurd hf (Nat.not_lt_zero _)
    | succ n => simp only [List.flatMap_nil, List.nil_append, parseLog, c.torn e p hp hpre]
  | cons e0 rest ih =>
    intro fuel hf
    cases fuel with
    | zero => exact absurd hf (Nat.not_lt_zero _)
    | succ n =>
      rw [List.flatMap_cons, List.append_assoc] at hf ⊢
      have hne := c.nonempty e0
      rw [List.length_append] at hf
      simp only [parseLog, c.complete e0, Nat.ne_of_gt hne, if_false, List.drop_left, ih n (by omega)]

end Influx.Model.TSI
