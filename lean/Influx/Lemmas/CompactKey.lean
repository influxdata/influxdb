/-
  Lemmas.CompactKey — one key of `tsmBatchKeyIterator`: block well-formedness,
  the read frontier, the window of `combine(dedup = true)`.

  Frontier invariant (`BlockSt T b`): of every block exactly the points with
  timestamp ≤ T have been consumed (lie inside [readMin, readMax]).
-/
import Influx.Lemmas.CompactValues

namespace Influx.Model.Compact
open Influx.Generated

variable {V : Type}

theorem read_iff (b : Block V) :
    CompactBlock.read b = true ↔ (b.readMin ≤ b.minTime ∧ b.maxTime ≤ b.readMax) := by
  simp [CompactBlock.read]

theorem overlaps_iff (b : Block V) (lo hi : Int) :
    CompactBlock.overlapsTimeRange b lo hi = true ↔ (b.minTime ≤ hi ∧ lo ≤ b.maxTime) := by
  simp [CompactBlock.overlapsTimeRange]

theorem partiallyRead_false_iff (b : Block V) :
    CompactBlock.partiallyRead b = false ↔
      ((b.readMin = maxInt64 ∧ b.readMax = minInt64) ∨ (b.readMin = b.minTime ∧ b.readMax = b.maxTime)) := by
  unfold CompactBlock.partiallyRead int64
  by_cases h : b.readMin = maxInt64 ∧ b.readMax = minInt64
  · simp [h.1, h.2]
  · have : ((b.readMin == maxInt64) && (b.readMax == minInt64)) = false := by
      simp only [Bool.and_eq_false_iff, beq_eq_false_iff_ne, ne_eq]
      by_cases h1 : b.readMin = maxInt64
      · right; intro h2; exact h ⟨h1, h2⟩
      · left; exact h1
    simp only [this, Bool.false_eq_true, if_false, Bool.or_eq_false_iff, bne_eq_false_iff_eq]
    constructor
    · intro h'; exact Or.inr h'
    · rintro (h' | h')
      · exact absurd h' h
      · exact h'

/-- timestamps strictly inside the `readMin/readMax` sentinels -/
def InR (t : Int) : Prop := minInt64 < t ∧ t < maxInt64

/-- a block as the reader delivers it: ascending non-empty values, index entry = first/last timestamp -/
structure BlockWF (b : Block V) : Prop where
  asc : Asc b.pts
  hmin : ∃ p, b.pts.head? = some p ∧ p.1 = b.minTime
  hmax : ∃ p, b.pts.getLast? = some p ∧ p.1 = b.maxTime
  inr : ∀ p ∈ b.pts, InR p.1

theorem BlockWF.mem_range {b : Block V} (w : BlockWF b) {p : Int × V} (hp : p ∈ b.pts) :
    b.minTime ≤ p.1 ∧ p.1 ≤ b.maxTime := by
  obtain ⟨a, ha, ha'⟩ := w.hmin
  obtain ⟨z, hz, hz'⟩ := w.hmax
  exact ⟨ha' ▸ asc_head_le w.asc ha p hp, hz' ▸ asc_le_last w.asc hz p hp⟩

theorem BlockWF.min_mem {b : Block V} (w : BlockWF b) : ∃ p ∈ b.pts, p.1 = b.minTime := by
  obtain ⟨a, ha, ha'⟩ := w.hmin
  exact ⟨a, List.mem_of_head? ha, ha'⟩

theorem BlockWF.max_mem {b : Block V} (w : BlockWF b) : ∃ p ∈ b.pts, p.1 = b.maxTime := by
  obtain ⟨z, hz, hz'⟩ := w.hmax
  exact ⟨z, List.mem_of_getLast? hz, hz'⟩

theorem BlockWF.min_le_max {b : Block V} (w : BlockWF b) : b.minTime ≤ b.maxTime := by
  obtain ⟨p, hp, hp'⟩ := w.min_mem
  exact hp' ▸ (w.mem_range hp).2

theorem BlockWF.ptsMax {b : Block V} (w : BlockWF b) : ptsMax b.pts = .ok b.maxTime := by
  obtain ⟨z, hz, hz'⟩ := w.hmax
  simp [Compact.ptsMax, hz, hz', pure, Except.pure]

theorem ptsMin_of_head {l : Pts V} {p : Int × V} (h : l.head? = some p) : ptsMin l = .ok p.1 := by
  simp [ptsMin, h, pure, Except.pure]

theorem ptsMax_of_last {l : Pts V} {p : Int × V} (h : l.getLast? = some p) : ptsMax l = .ok p.1 := by
  simp [ptsMax, h, pure, Except.pure]

structure BlockSt (T : Int) (b : Block V) : Prop where
  wf : BlockWF b
  cons : ∀ p ∈ b.pts, (p.1 ≤ T ↔ (b.readMin ≤ p.1 ∧ p.1 ≤ b.readMax))
  rmax : b.readMax ≤ T

def unread (b : Block V) : Pts V := vExclude b.readMin b.readMax b.pts
def live (b : Block V) : Pts V := applyTombs b.tombstones (unread b)

theorem BlockSt.unread_eq {T : Int} {b : Block V} (s : BlockSt T b) :
    unread b = b.pts.filter (fun p => decide (T < p.1)) := by
  refine List.filter_congr fun p hp => ?_
  have := s.cons p hp
  rw [Bool.eq_iff_iff]
  simp only [Bool.not_eq_true', Bool.and_eq_false_iff, decide_eq_false_iff_not, decide_eq_true_eq]
  omega

theorem BlockSt.mem_unread {T : Int} {b : Block V} (s : BlockSt T b) {p : Int × V} :
    p ∈ unread b ↔ p ∈ b.pts ∧ T < p.1 := by
  rw [s.unread_eq, List.mem_filter, decide_eq_true_eq]

theorem BlockSt.read_iff' {T : Int} {b : Block V} (s : BlockSt T b) :
    CompactBlock.read b = true ↔ b.maxTime ≤ T := by
  rw [read_iff]
  obtain ⟨a, ha, ha'⟩ := s.wf.min_mem
  obtain ⟨z, hz, hz'⟩ := s.wf.max_mem
  have := s.cons a ha
  have := s.cons z hz
  have := s.wf.min_le_max
  have := s.rmax
  omega

theorem asc_unread {b : Block V} (w : BlockWF b) : Asc (unread b) := asc_vExclude w.asc _ _
theorem asc_live {b : Block V} (w : BlockWF b) : Asc (live b) := asc_applyTombs (asc_unread w) _

theorem BlockSt.mem_live {T : Int} {b : Block V} (s : BlockSt T b) {p : Int × V} :
    p ∈ live b ↔ p ∈ b.pts ∧ T < p.1 ∧ inTombs b.tombstones p.1 = false := by
  unfold live
  rw [mem_applyTombs, s.mem_unread]
  exact and_assoc

theorem BlockSt.lookup_live {T : Int} {b : Block V} (s : BlockSt T b) (t : Int) :
    lookup (live b) t = if T < t ∧ inTombs b.tombstones t = false then lookup b.pts t else none := by
  rw [live, lookup_applyTombs, s.unread_eq, lookup_filter_time (fun t => decide (T < t))]
  cases inTombs b.tombstones t <;> by_cases h : T < t <;> simp [h]

theorem live_time_range {b : Block V} (w : BlockWF b) {t : Int} {v : V} (h : lookup (live b) t = some v) :
    b.minTime ≤ t ∧ t ≤ b.maxTime :=
  w.mem_range (mem_vExclude.mp (mem_applyTombs.mp (lookup_some_mem h)).1).1

theorem BlockSt.fresh {b : Block V} (w : BlockWF b) (h1 : b.readMin = maxInt64) (h2 : b.readMax = minInt64) :
    BlockSt minInt64 b := by
  refine ⟨w, fun p hp => ?_, Int.le_of_eq h2⟩
  have := w.inr p hp
  exact ⟨fun h => absurd h (Int.not_le.mpr this.1), fun h => absurd (h1 ▸ h.1) (Int.not_le.mpr this.2)⟩

/-- newest-in-list-order wins: the map the remaining blocks still contribute -/
def restAt : List (Block V) → Int → Option V
  | [], _ => none
  | b :: L, t => (restAt L t).or (lookup (live b) t)

theorem restAt_none_le {T : Int} {L : List (Block V)} (h : ∀ b ∈ L, BlockSt T b) {t : Int} (ht : t ≤ T) :
    restAt L t = none := by
  induction L with
  | nil => rfl
  | cons b L ih =>
    rw [restAt, ih fun b hb => h b (List.mem_cons_of_mem _ hb), (h b (List.mem_cons_self ..)).lookup_live,
      if_neg fun h => Int.not_le.mpr h.1 ht]
    rfl

/-- consecutive blocks of the sorted list: the next one does not lie entirely before
    the previous one (`¬ blocks.Less(next, prev)`); `pm` = `minTime` of the previous block -/
def AdjFrom (pm : Int) : List (Block V) → Prop
  | [] => True
  | b :: L => pm ≤ b.maxTime ∧ AdjFrom b.minTime L

def AdjOK : List (Block V) → Prop
  | [] => True
  | b :: L => AdjFrom b.minTime L

/-! ### the `if`s by which `markRead` and the window scan take a minimum or maximum -/

theorem ite_lt_le_left (a b : Int) : (if a < b then a else b) ≤ a := by
  split
  · exact Int.le_refl _
  · exact Int.not_lt.mp ‹_›

theorem ite_lt_le_right (a b : Int) : (if a < b then a else b) ≤ b := by
  split
  · exact Int.le_of_lt ‹_›
  · exact Int.le_refl _

theorem le_ite_gt_left (a b : Int) : a ≤ (if a > b then a else b) := by
  split
  · exact Int.le_refl _
  · exact Int.not_lt.mp ‹_›

theorem le_ite_gt_right (a b : Int) : b ≤ (if a > b then a else b) := by
  split
  · exact Int.le_of_lt ‹_›
  · exact Int.le_refl _

theorem ite_gt_le {a b c : Int} (ha : a ≤ c) (hb : b ≤ c) : (if a > b then a else b) ≤ c := by
  split <;> assumption

/-- the window scan meets an unread block `[a, z]` overlapping `[lo, hi]` -/
theorem window_take {T a z lo hi : Int} (hT : T < hi) (hle : lo ≤ hi) (hz : T < z) :
    ∀ lo' hi', lo' = (if a < lo then a else lo) → hi' = (if z > lo' ∧ z < hi then z else hi) →
      lo' ≤ a ∧ lo' ≤ lo ∧ hi' ≤ hi ∧ T < hi' ∧ lo' ≤ hi' := by
  intro lo' hi' h1 h2
  have h3 : lo' ≤ lo := h1 ▸ ite_lt_le_right a lo
  refine ⟨h1 ▸ ite_lt_le_left a lo, h3, ?_⟩
  rw [h2]; split
  · next h => exact ⟨Int.le_of_lt h.2, hz, Int.le_of_lt h.1⟩
  · exact ⟨Int.le_refl _, hT, Int.le_trans h3 hle⟩

/-- the window scan passes a block `[a, z]` that is read (`z ≤ T`) or does not overlap `[lo, hi]`.
    `lo ≤ pm ∨ lo ≤ T` with `pm ≤ z` (the sort's adjacency) gives `lo ≤ z` for an unread block,
    so such a block is passed only if it lies above `hi`. -/
theorem window_skip {T a z pm lo hi : Int} (hpm : pm ≤ z) (hS : lo ≤ pm ∨ lo ≤ T) (hle : lo ≤ hi)
    (hc : ¬((a ≤ hi ∧ lo ≤ z) ∧ ¬ z ≤ T)) : (lo ≤ a ∨ lo ≤ T) ∧ (¬ z ≤ T → hi < a) := by omega

/-- The window `[m, M]` of `combine(dedup)` never leaves an unread block starting below it:
    an unread block starts at or above `m`, or entirely above `M`. -/
theorem windowScan_spec {T : Int} :
    ∀ (L : List (Block V)) (pm lo hi : Int),
      (∀ b ∈ L, BlockSt T b) → AdjFrom pm L → (lo ≤ pm ∨ lo ≤ T) → T < hi → lo ≤ hi →
      ∀ m M, windowScan L lo hi = (m, M) →
        m ≤ lo ∧ M ≤ hi ∧ T < M ∧ m ≤ M ∧
        ∀ b ∈ L, CompactBlock.read b = false → (m ≤ b.minTime ∨ M < b.minTime) := by
  intro L
  induction L with
  | nil =>
    intro _ lo hi _ _ _ hT hle m M h
    obtain ⟨rfl, rfl⟩ := Prod.mk.inj h
    exact ⟨Int.le_refl _, Int.le_refl _, hT, hle, by simp⟩
  | cons b L ih =>
    intro pm lo hi hst ⟨hpm, hadj⟩ hS hT hle m M h
    have hrd := (hst b (by simp)).read_iff'
    have hst' : ∀ b ∈ L, BlockSt T b := fun x hx => hst x (List.mem_cons_of_mem _ hx)
    rw [windowScan] at h
    split at h
    · next hc =>
      rw [Bool.and_eq_true, overlaps_iff, Bool.not_eq_true', ← Bool.not_eq_true, hrd] at hc
      obtain ⟨k1, k2, k3, k4, k5⟩ :=
        window_take (a := b.minTime) hT hle (Int.not_le.mp hc.2) _ _ rfl rfl
      obtain ⟨r1, r2, r3, r4, r5⟩ := ih b.minTime _ _ hst' hadj (Or.inl k1) k4 k5 m M h
      refine ⟨Int.le_trans r1 k2, Int.le_trans r2 k3, r3, r4, fun x hx hxr => ?_⟩
      rcases List.mem_cons.mp hx with rfl | hx
      · exact Or.inl (Int.le_trans r1 k1)
      · exact r5 x hx hxr
    · next hc =>
      rw [Bool.and_eq_true, overlaps_iff, Bool.not_eq_true', ← Bool.not_eq_true, hrd] at hc
      obtain ⟨k1, k2⟩ := window_skip hpm hS hle hc
      obtain ⟨r1, r2, r3, r4, r5⟩ := ih b.minTime lo hi hst' hadj k1 hT hle m M h
      refine ⟨r1, r2, r3, r4, fun x hx hxr => ?_⟩
      rcases List.mem_cons.mp hx with rfl | hx
      · rw [← Bool.not_eq_true, hrd] at hxr
        exact Or.inr (Int.lt_of_le_of_lt r2 (k2 hxr))
      · exact r5 x hx hxr

end Influx.Model.Compact
