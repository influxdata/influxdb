/-
  Lemmas.CodecBase — round trips of the byte-level building blocks (Model.CodecBase):
  zigzag, big-endian words, varints, bit strings.
-/
import Influx.Model.CodecBase
import Influx.Lemmas.BigEndian
namespace Influx.Codec

theorem W_eq : W = 2 ^ 64 := by decide
theorem ones64_eq : ones64 = 2 ^ 64 - 1 := by decide

theorem xor_ones64 (a : Nat) (h : a < W) : a ^^^ ones64 = W - 1 - a := by
  rw [W_eq] at h ⊢
  rw [ones64_eq]
  apply Nat.eq_of_testBit_eq
  intro i
  rw [(by rw [Nat.sub_sub, Nat.add_comm] : 2 ^ 64 - 1 - a = 2 ^ 64 - (a + 1)), Nat.testBit_two_pow_sub_succ h, Nat.testBit_xor,
    Nat.testBit_two_pow_sub_one]
  by_cases hi : i < 64
  · simp [hi]
  · have : a.testBit i = false :=
      Nat.testBit_lt_two_pow (Nat.lt_of_lt_of_le h (Nat.pow_le_pow_right (by decide) (Nat.le_of_not_lt hi)))
    simp [hi, this]

/-- the complement of `2x - w` below `w` is `2 (w - 1 - x) + 1` when `w / 2 ≤ x < w`:
    with `w = x + m + 1` and `x = m + 1 + j` both sides are `m + (m + 1)` -/
theorem compl_double (w x : Nat) (hge : w ≤ x * 2) (h : x < w) : w - 1 - (x * 2 - w) = 2 * (w - 1 - x) + 1 := by
  obtain ⟨m, rfl⟩ := Nat.exists_eq_add_of_lt h
  rw [Nat.mul_two, Nat.add_assoc] at hge
  obtain ⟨j, rfl⟩ := Nat.exists_eq_add_of_le (Nat.le_of_add_le_add_left hge)
  rw [Nat.add_sub_cancel, Nat.add_sub_cancel_left, Nat.mul_two, Nat.add_assoc (m + 1 + j) m 1, Nat.add_sub_add_left,
    Nat.add_sub_cancel_left, Nat.add_right_comm, Nat.add_sub_cancel, Nat.two_mul, Nat.add_right_comm]

/-- zigzag without shifts and xors: non-negative `x` goes to `2x`, negative `x` to `2(-x) - 1` -/
theorem zigzagEnc_eq (x : Nat) (h : x < W) :
    zigzagEnc x = if x ≥ 9223372036854775808 then 2 * (W - 1 - x) + 1 else 2 * x := by
  unfold zigzagEnc
  by_cases hx : x ≥ 9223372036854775808
  · have hge : x * 2 ≥ W := Nat.mul_le_mul_right 2 hx
    have hlt : x * 2 - W < W :=
      Nat.sub_lt_left_of_lt_add hge (Nat.mul_two W ▸ Nat.mul_lt_mul_of_pos_right h (by decide))
    rw [if_pos hx, if_pos hx, xor_ones64 _ (Nat.mod_lt _ (by decide)), Nat.mod_eq_sub_mod hge, Nat.mod_eq_of_lt hlt]
    exact compl_double W x hge h
  · rw [if_neg hx, if_neg hx, Nat.xor_zero, Nat.mul_comm]
    exact Nat.mod_eq_of_lt (Nat.mul_lt_mul_of_pos_left (Nat.lt_of_not_le hx) (by decide))

theorem zigzagDec_eq (v : Nat) (h : v < W) : zigzagDec v = if v % 2 = 1 then W - 1 - v / 2 else v / 2 := by
  unfold zigzagDec
  by_cases hv : v % 2 = 1
  · rw [if_pos hv, if_pos hv]; exact xor_ones64 _ (Nat.lt_of_le_of_lt (Nat.div_le_self v 2) h)
  · rw [if_neg hv, if_neg hv]; exact Nat.xor_zero _

theorem zigzagEnc_lt (x : Nat) : zigzagEnc x < W := by
  have hlt : x * 2 % W < W := Nat.mod_lt _ (by decide)
  unfold zigzagEnc
  split
  · rw [xor_ones64 _ hlt]; exact Nat.lt_of_le_of_lt (Nat.sub_le _ _) (Nat.sub_lt (by decide) (by decide))
  · rw [Nat.xor_zero]; exact hlt

theorem zigzagDec_lt (v : Nat) (h : v < W) : zigzagDec v < W := by
  rw [zigzagDec_eq v h]
  split
  · exact Nat.lt_of_le_of_lt (Nat.sub_le _ _) (Nat.sub_lt (by decide) (by decide))
  · exact Nat.lt_of_le_of_lt (Nat.div_le_self v 2) h

theorem zigzag_roundtrip (x : Nat) (h : x < W) : zigzagDec (zigzagEnc x) = x := by
  rw [zigzagDec_eq _ (zigzagEnc_lt x), zigzagEnc_eq x h]
  by_cases hx : x ≥ 9223372036854775808
  · rw [if_pos hx, if_pos (Nat.mul_add_mod ..), Nat.mul_add_div (by decide)]
    exact Nat.sub_sub_self (Nat.le_sub_one_of_lt h)
  · rw [if_neg hx, if_neg (by rw [Nat.mul_mod_right]; decide), Nat.mul_div_cancel_left _ (by decide)]

theorem getU64_putU64 (v : Nat) (h : v < W) (rest : Bytes) : getU64 (putU64 v ++ rest) = some (v, rest) := by
  simp only [putU64, List.cons_append, List.nil_append, getU64]
  rw [BigEndian.weighted64 v h]

theorem putU64_length (v : Nat) : (putU64 v).length = 8 := rfl

theorem getUvarintAux_put (v : Nat) (rest : Bytes) :
    ∀ k i, i + k = 9 → v < 2 * 128 ^ k → getUvarintAux i (putUvarint v ++ rest) = some (v, rest) := by
  fun_induction putUvarint v with
  | case1 v hlt =>
    intro k i hi hv
    have hi10 : i ≠ 10 := Nat.ne_of_lt (Nat.lt_succ_of_le (hi ▸ Nat.le_add_right i k))
    simp only [List.cons_append, List.nil_append, getUvarintAux]
    rw [if_neg hi10, if_pos hlt, if_neg]
    -- a tenth byte is at most 1
    rintro ⟨rfl, h2⟩
    obtain rfl : k = 0 := Nat.add_left_cancel hi
    exact absurd hv (Nat.not_lt.mpr h2)
  | case2 v hge ih =>
    intro k i hi hv
    have hi10 : i ≠ 10 := Nat.ne_of_lt (Nat.lt_succ_of_le (hi ▸ Nat.le_add_right i k))
    cases k with
    | zero => exact absurd (Nat.lt_trans hv (by decide)) hge
    | succ k =>
      have hdiv : v / 128 < 2 * 128 ^ k :=
        Nat.div_lt_of_lt_mul (by rwa [Nat.pow_succ, Nat.mul_comm (128 ^ k), Nat.mul_left_comm] at hv)
      simp only [List.cons_append, getUvarintAux]
      rw [if_neg hi10, if_neg (Nat.not_lt.mpr (Nat.le_add_left _ _)), ih k (i + 1) ((Nat.add_right_comm i 1 k).trans hi) hdiv,
        Nat.add_sub_cancel]
      simp only [Nat.mod_add_div]

theorem getUvarint_put (v : Nat) (h : v < W) (rest : Bytes) : getUvarint (putUvarint v ++ rest) = some (v, rest) :=
  getUvarintAux_put v rest 9 0 rfl h

theorem putUvarint_length_le (v : Nat) : ∀ k, v < 128 ^ (k + 1) → (putUvarint v).length ≤ k + 1 := by
  fun_induction putUvarint v with
  | case1 v hlt => intro k _; exact Nat.succ_le_succ (Nat.zero_le k)
  | case2 v hge ih =>
    intro k hv
    cases k with
    | zero => exact absurd hv hge
    | succ k => exact Nat.succ_le_succ (ih k (Nat.div_lt_of_lt_mul (by rwa [Nat.pow_succ'] at hv)))

theorem putUvarint_length (v : Nat) (h : v < W) : (putUvarint v).length ≤ 10 :=
  putUvarint_length_le v 9 (Nat.lt_of_lt_of_le h (by decide))

theorem putUvarint_ne_nil (v : Nat) : putUvarint v ≠ [] := by
  unfold putUvarint; split <;> simp

theorem getU64_short (b : Bytes) (h : b.length < 8) : getU64 b = none := by
  unfold getU64
  split
  · next rest => exact absurd h (Nat.not_lt.mpr (Nat.le_add_left 8 rest.length))
  · rfl

theorem getWords_append (ws : List Nat) (hws : ∀ w ∈ ws, w < W) (rest : Bytes) (hrest : rest.length < 8) (fuel : Nat)
    (hf : fuel ≥ ws.length + 1) : getWords fuel (ws.flatMap putU64 ++ rest) = (ws, rest) := by
  induction ws generalizing fuel with
  | nil =>
    cases fuel with
    | zero => exact absurd hf (Nat.not_succ_le_zero _)
    | succ f => simp only [List.flatMap_nil, List.nil_append, getWords, getU64_short rest hrest]
  | cons w ws ih =>
    obtain ⟨hw, hws'⟩ := List.forall_mem_cons.mp hws
    cases fuel with
    | zero => exact absurd hf (Nat.not_succ_le_zero _)
    | succ f =>
      simp only [List.flatMap_cons, List.append_assoc, getWords, getU64_putU64 w hw,
        ih hws' f (Nat.le_of_succ_le_succ hf)]

theorem flatMap_putU64_length (ws : List Nat) : (ws.flatMap putU64).length = 8 * ws.length := by
  induction ws with
  | nil => rfl
  | cons w ws ih => rw [List.flatMap_cons, List.length_append, putU64_length, ih, List.length_cons, Nat.mul_succ, Nat.add_comm]

theorem words_flatMap_putU64 (ws : List Nat) (hws : ∀ w ∈ ws, w < W) : words (ws.flatMap putU64) = (ws, []) := by
  cases ws with
  | nil => rfl
  | cons w ws' =>
    have := getWords_append (w :: ws') hws [] (by decide) ((w :: ws').flatMap putU64).length
      (by rw [flatMap_putU64_length, List.length_cons]; omega)
    rwa [List.append_nil] at this

theorem natOfBits_lt (bs : List Bool) : natOfBits bs < 2 ^ bs.length := by
  induction bs with
  | nil => simp [natOfBits]
  | cons b bs ih =>
    simp only [natOfBits, List.length_cons, Nat.pow_succ, Nat.mul_two]
    cases b
    · exact Nat.lt_of_lt_of_le (Nat.add_lt_add_left ih _) (Nat.add_le_add_right (Nat.zero_le _) _)
    · exact Nat.add_lt_add_left ih _

theorem bitsOf_length (u n : Nat) : (bitsOf u n).length = n := by
  induction n with
  | zero => rfl
  | succ n ih => simp [bitsOf, ih]

theorem bitsOf_add_mul (u k n : Nat) : bitsOf (u + 2 ^ n * k) n = bitsOf u n := by
  induction n generalizing k with
  | zero => rfl
  | succ n ih =>
    simp only [bitsOf]
    have e : u + 2 ^ (n + 1) * k = u + 2 ^ n * (2 * k) := by rw [Nat.pow_succ, Nat.mul_assoc]
    rw [e, ih (2 * k)]
    congr 2
    rw [Nat.add_mul_div_left _ _ (Nat.two_pow_pos n), Nat.add_mul_mod_self_left]

theorem bitsOf_mod (u n : Nat) : bitsOf (u % 2 ^ n) n = bitsOf u n := by
  conv => rhs; rw [← Nat.mod_add_div u (2 ^ n)]
  rw [bitsOf_add_mul]

theorem bitsOf_natOfBits (bs : List Bool) : bitsOf (natOfBits bs) bs.length = bs := by
  induction bs with
  | nil => rfl
  | cons b bs ih =>
    have hlt := natOfBits_lt bs
    simp only [natOfBits, List.length_cons, bitsOf]
    cases b with
    | true =>
      simp only [if_true]
      have e1 : (2 ^ bs.length + natOfBits bs) / 2 ^ bs.length % 2 = 1 := by
        rw [Nat.add_comm, Nat.add_div_right _ (Nat.two_pow_pos _), Nat.div_eq_of_lt hlt]
      rw [e1]
      have e2 : 2 ^ bs.length + natOfBits bs = natOfBits bs + 2 ^ bs.length * 1 := by rw [Nat.mul_one, Nat.add_comm]
      rw [e2, bitsOf_add_mul, ih]; rfl
    | false =>
      simp only [Bool.false_eq_true, if_false, Nat.zero_add]
      rw [Nat.div_eq_of_lt hlt, ih]; rfl

theorem natOfBits_bitsOf (u n : Nat) : natOfBits (bitsOf u n) = u % 2 ^ n := by
  induction n with
  | zero => simp [bitsOf, natOfBits, Nat.mod_one]
  | succ n ih =>
    simp only [bitsOf, natOfBits, bitsOf_length, ih]
    have h1 : u % 2 ^ (n + 1) = u % 2 ^ n + 2 ^ n * (u / 2 ^ n % 2) := by
      rw [Nat.pow_succ, Nat.mod_mul]
    rw [h1]
    rcases Nat.mod_two_eq_zero_or_one (u / 2 ^ n) with h | h <;> rw [h]
    · exact (Nat.zero_add _).trans (by rw [Nat.mul_zero, Nat.add_zero])
    · exact (Nat.add_comm _ _).trans (by rw [Nat.mul_one]; rfl)

theorem readBits_bitsOf (u n : Nat) (rest : List Bool) : readBits n (bitsOf u n ++ rest) = some (u % 2 ^ n, rest) := by
  unfold readBits
  have hl := bitsOf_length u n
  simp only [List.take_left' hl, List.drop_left' hl, hl, Nat.lt_irrefl, if_false, natOfBits_bitsOf]

/-- a step that consumes at least one element leaves a fuelled loop enough fuel -/
theorem length_drop_le {α : Type} (l : List α) {n f : Nat} (hn : 1 ≤ n) (hl : l.length ≤ f + 1) : (l.drop n).length ≤ f := by
  rw [List.length_drop]; exact Nat.le_trans (Nat.sub_le_sub_left hn _) (Nat.sub_le_of_le_add hl)

theorem bitsOf_byteOfBits (c : List Bool) (h : c.length ≤ 8) :
    bitsOf (byteOfBits (c ++ List.replicate (8 - c.length) false)) 8 = c ++ List.replicate (8 - c.length) false := by
  have := bitsOf_natOfBits (c ++ List.replicate (8 - c.length) false)
  rwa [List.length_append, List.length_replicate, Nat.add_sub_of_le h] at this

theorem bitsOfBytes_bytesOfBits : ∀ (fuel : Nat) (bs : List Bool), bs.length ≤ fuel →
    ∃ pad, bitsOfBytes (bytesOfBits fuel bs) = bs ++ pad := by
  intro fuel
  induction fuel with
  | zero =>
    intro bs h
    obtain rfl := List.length_eq_zero_iff.mp (Nat.le_zero.mp h)
    exact ⟨[], rfl⟩
  | succ f ih =>
    intro bs hlen
    by_cases hbs : bs = []
    · subst hbs; exact ⟨[], rfl⟩
    · obtain ⟨pad, hp⟩ := ih (bs.drop 8) (length_drop_le bs (by decide) hlen)
      have hstep : bitsOfBytes (bytesOfBits (f + 1) bs) =
          (bs.take 8 ++ List.replicate (8 - (bs.take 8).length) false) ++ (bs.drop 8 ++ pad) := by
        rw [← hp, ← bitsOf_byteOfBits _ (List.length_take_le 8 bs)]
        simp only [bytesOfBits, List.isEmpty_iff, hbs, if_false, bitsOfBytes, List.flatMap_cons]
      rw [hstep]
      -- a short last chunk is all of `bs`
      by_cases h8 : 8 ≤ bs.length
      · refine ⟨pad, ?_⟩
        rw [List.length_take_of_le h8, Nat.sub_self, List.replicate_zero, List.append_nil, ← List.append_assoc,
          List.take_append_drop]
      · have hle := Nat.le_of_lt (Nat.lt_of_not_le h8)
        refine ⟨List.replicate (8 - bs.length) false ++ pad, ?_⟩
        rw [List.drop_eq_nil_of_le hle, List.take_of_length_le hle, List.nil_append, List.append_assoc]

theorem bitsOfBytes_packBits (bs : List Bool) : ∃ pad, bitsOfBytes (packBits bs) = bs ++ pad :=
  bitsOfBytes_bytesOfBits bs.length bs (Nat.le_refl _)

end Influx.Codec
