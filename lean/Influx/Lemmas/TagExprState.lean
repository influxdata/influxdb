/-
  Lemmas.TagExprState — the executable index-set views (`Index.ofSeries`,
  `Ctx.ofIndexes`) are sound for the series the state holds; the state
  invariant; the query characterisation on states; the statement checker
  `Spec.C15.holdsFrom` accepts the model's trace from any well-formed state
  related to the checker's world.
-/
import Influx.Lemmas.TagExprEval

namespace Influx.Model.TagExpr
open Influx.Spec.C15

theorem ids_mkItr (l : List Nat) : (mkItr l).ids = l := by
  cases l <;> rfl

theorem view_sound (shards : List (List Series)) (f : Index → Itr) (p : Series → Bool)
    (hf : ∀ sh, f (Index.ofSeries sh) = mkItr (idSet ((sh.filter p).map (·.id)))) :
    Asc (mergeNonNil (nonNil ((shards.map Index.ofSeries).map f))).ids ∧
      ∀ i, i ∈ (mergeNonNil (nonNil ((shards.map Index.ofSeries).map f))).ids ↔
        ∃ s ∈ shards.flatten, s.id = i ∧ p s = true := by
  refine ⟨asc_merge_map _ _ fun ix hix => ?_, fun i => ?_⟩
  · obtain ⟨sh, _, rfl⟩ := List.mem_map.mp hix
    rw [hf, ids_mkItr]; exact asc_idSet _
  rw [mem_merge_map]
  constructor
  · rintro ⟨ix, hix, hi⟩
    obtain ⟨sh, hsh, rfl⟩ := List.mem_map.mp hix
    rw [hf, ids_mkItr, mem_idSet] at hi
    obtain ⟨s, hs, hid⟩ := List.mem_map.mp hi
    obtain ⟨hs1, hs2⟩ := List.mem_filter.mp hs
    exact ⟨s, List.mem_flatten.mpr ⟨sh, hsh, hs1⟩, hid, hs2⟩
  · rintro ⟨s, hs, hid, hp⟩
    obtain ⟨sh, hsh, hs1⟩ := List.mem_flatten.mp hs
    refine ⟨_, List.mem_map_of_mem hsh, ?_⟩
    rw [hf, ids_mkItr, mem_idSet]
    exact List.mem_map.mpr ⟨s, List.mem_filter.mpr ⟨hs1, hp⟩, hid⟩

def State.seriesOf (st : State) (name : String) : List Series :=
  st.allSeries.filter (·.name = name)

theorem mem_seriesOf {st : State} {name : String} {s : Series} :
    s ∈ st.seriesOf name ↔ s ∈ st.allSeries ∧ s.name = name := by
  rw [State.seriesOf, List.mem_filter, decide_eq_true_eq]

theorem sel_seriesOf (st : State) (name : String) (Q : Series → Prop) [DecidablePred Q] (i : Nat) :
    (∃ s ∈ st.allSeries, s.id = i ∧ decide (s.name = name ∧ Q s) = true) ↔
      ∃ s ∈ st.seriesOf name, s.id = i ∧ Q s := by
  simp only [mem_seriesOf, decide_eq_true_eq]
  constructor
  · rintro ⟨s, h1, h3, h2, h4⟩; exact ⟨s, ⟨h1, h2⟩, h3, h4⟩
  · rintro ⟨s, ⟨h1, h2⟩, h3, h4⟩; exact ⟨s, h1, h3, h2, h4⟩

/-- `MergeTagValueIterators` lists every value some non-nil iterator lists. -/
theorem mem_mergeValues {L : List (List String)} {l : List String} {v : String} (hl : l ∈ L)
    (hv : v ∈ l) : ∃ vs, mergeValues L = some vs ∧ v ∈ vs := by
  match L, hl with
  | [x], hl => exact ⟨x, rfl, List.mem_singleton.mp hl ▸ hv⟩
  | a :: b :: rest, hl => exact ⟨_, rfl, List.mem_flatten.mpr ⟨l, hl, hv⟩⟩

theorem ofIndexes_tagValues (st : State) (name k : String) {s : Series} {v : String}
    (hs : s ∈ st.seriesOf name) (hl : lookupTag s.tags k = some v) :
    ∃ vs, (Ctx.ofIndexes (st.shards.map Index.ofSeries) st.fields name).tagValues k = some vs ∧
      v ∈ vs := by
  obtain ⟨hs1, hs2⟩ := mem_seriesOf.mp hs
  obtain ⟨sh, hsh, hssh⟩ := List.mem_flatten.mp hs1
  have hv : v ∈ (sh.filter (·.name = name)).filterMap (fun s => lookupTag s.tags k) :=
    List.mem_filterMap.mpr ⟨s, List.mem_filter.mpr ⟨hssh, decide_eq_true hs2⟩, hl⟩
  refine mem_mergeValues (List.mem_filterMap.mpr
    ⟨_, List.mem_map_of_mem (List.mem_map_of_mem hsh), ?_⟩) hv
  exact if_neg fun h => List.ne_nil_of_mem hv (List.isEmpty_iff.mp h)

theorem ofIndexes_sound (st : State) (name : String) :
    (Ctx.ofIndexes (st.shards.map Index.ofSeries) st.fields name).Sound (st.seriesOf name) :=
  have hm := view_sound st.shards (·.measurementSeries name) (fun s => s.name = name) fun _ => rfl
  have hk := fun k => view_sound st.shards (·.tagKeySeries name k)
    (fun s => s.name = name ∧ (lookupTag s.tags k).isSome) fun _ => rfl
  have hv := fun k v => view_sound st.shards (·.tagValueSeries name k v)
    (fun s => s.name = name ∧ lookupTag s.tags k = some v) fun _ => rfl
  { asc_m := hm.1
    mem_m := fun i => (hm.2 i).trans <| by
      simp only [mem_seriesOf, decide_eq_true_eq]
      constructor
      · rintro ⟨s, h1, h3, h2⟩; exact ⟨s, ⟨h1, h2⟩, h3⟩
      · rintro ⟨s, ⟨h1, h2⟩, h3⟩; exact ⟨s, h1, h3, h2⟩
    asc_k := fun k => (hk k).1
    mem_k := fun k i => ((hk k).2 i).trans (sel_seriesOf st name _ i)
    asc_v := fun k v => (hv k v).1
    mem_v := fun k v i => ((hv k v).2 i).trans (sel_seriesOf st name _ i)
    vals_some := fun k vs hvs s hs v hl => by
      obtain ⟨vs', h1, h2⟩ := ofIndexes_tagValues st name k hs hl
      rw [hvs] at h1
      exact Option.some.inj h1 ▸ h2
    vals_none := fun k hnone s hs => by
      cases hl : lookupTag s.tags k with
      | none => rfl
      | some v =>
        obtain ⟨_, h1, _⟩ := ofIndexes_tagValues st name k hs hl
        rw [hnone] at h1
        exact nomatch h1 }

structure State.WF (st : State) : Prop where
  ok : ∀ s ∈ st.allSeries, seriesOK s = true
  uniq : ∀ s ∈ st.allSeries, ∀ t ∈ st.allSeries, s.id = t.id → s = t

theorem lookupTag_mem {tags : List (String × String)} {k v : String}
    (h : lookupTag tags k = some v) : (k, v) ∈ tags := by
  induction tags with
  | nil => exact nomatch h
  | cons kv rest ih =>
    unfold lookupTag at h
    by_cases hk : kv.1 = k
    · rw [if_pos hk] at h
      rw [← hk, ← Option.some.inj h]; exact List.mem_cons_self
    · rw [if_neg hk] at h
      exact List.mem_cons_of_mem _ (ih h)

theorem seriesOK_vals {s : Series} (h : seriesOK s = true) (k : String) :
    lookupTag s.tags k ≠ some "" := fun hl =>
  of_decide_eq_true (List.all_eq_true.mp (Bool.and_eq_true_iff.mp h).2 _ (lookupTag_mem hl)) rfl

theorem State.WF.seriesWF {st : State} (h : st.WF) (name : String) : SeriesWF (st.seriesOf name) where
  vals s hs k := seriesOK_vals (h.ok s (mem_seriesOf.mp hs).1) k
  uniq s hs t ht hid := by
    rw [h.uniq s (mem_seriesOf.mp hs).1 t (mem_seriesOf.mp ht).1 hid]

theorem mem_addToShard (shs : List (List Series)) (i : Nat) (s t : Series) :
    t ∈ (addToShard shs i s).flatten ↔ t = s ∨ t ∈ shs.flatten := by
  fun_induction addToShard shs i s with
  | case1 s => simp
  | case2 n s ih => simpa using ih
  | case3 sh rest s => simp
  | case4 sh rest n s ih =>
    rw [List.flatten_cons, List.mem_append, ih, List.flatten_cons, List.mem_append]
    exact or_left_comm

theorem WF_init : State.WF {} :=
  ⟨fun _ hs => (nomatch hs), fun _ hs => (nomatch hs)⟩

theorem WF_step {st : State} (h : st.WF) (op : Op) : (step st op).1.WF := by
  cases op with
  | addSeries i s =>
    rw [step]
    by_cases hacc : st.accepts s = true
    · rw [if_pos hacc]
      obtain ⟨hok, hun⟩ := Bool.and_eq_true_iff.mp hacc
      have hs : ∀ t, t = s ∨ t ∈ st.allSeries → t.id = s.id → t = s := by
        rintro t (rfl | ht) hid
        · rfl
        · exact (of_decide_eq_true (List.all_eq_true.mp hun t ht)).resolve_left (fun hne => hne hid)
      refine ⟨fun t ht => ?_, fun t ht u hu hid => ?_⟩
      · rcases (mem_addToShard _ _ _ _).mp ht with rfl | ht
        · exact hok
        · exact h.ok t ht
      · have ht := (mem_addToShard _ _ _ _).mp ht
        have hu := (mem_addToShard _ _ _ _).mp hu
        rcases ht with rfl | ht'
        · exact (hs u hu hid.symm).symm
        · rcases hu with rfl | hu'
          · exact hs t (Or.inr ht') hid
          · exact h.uniq t ht' u hu' hid
    · rw [if_neg hacc]; exact h
  | delSeries id => exact ⟨h.ok, h.uniq⟩
  | addField n f => exact ⟨h.ok, h.uniq⟩
  | query name e => exact h

theorem ids_filterUndeleted (deleted : List Nat) (it : Itr) :
    (filterUndeleted deleted it).ids = it.ids.filter (fun id => !deleted.contains id) := by
  cases it <;> rfl

theorem query_mem {st : State} (h : st.WF) (name : String) (e : Expr)
    (hg : inGrammar (fun f => st.fields.contains (name, f)) e = true) (i : Nat) :
    i ∈ (st.query name e).ids ↔
      ∃ s ∈ st.allSeries, s.name = name ∧ s.id = i ∧ i ∉ st.deleted ∧ sem name s.tags e = true := by
  unfold State.query
  rw [ids_filterUndeleted, List.mem_filter, eval_mem (h.seriesWF name) (ofIndexes_sound st name) e hg i]
  simp only [Bool.not_eq_true', List.contains_eq_mem, decide_eq_false_iff_not, mem_seriesOf]
  constructor
  · rintro ⟨⟨s, ⟨h1, h2⟩, h3, h4⟩, h5⟩; exact ⟨s, h1, h2, h3, h5, h4⟩
  · rintro ⟨s, h1, h2, h3, h5, h4⟩; exact ⟨⟨s, ⟨h1, h2⟩, h3, h4⟩, h5⟩

theorem query_asc (st : State) (name : String) (e : Expr) : Asc (st.query name e).ids := by
  unfold State.query
  rw [ids_filterUndeleted]
  exact List.Pairwise.sublist List.filter_sublist (asc_eval (ofIndexes_sound st name) e)

/-- the checker's world describes the model state. -/
structure Rel (w : World) (st : State) : Prop where
  series : ∀ s, s ∈ w.series ↔ s ∈ st.allSeries
  deleted : w.deleted = st.deleted
  fields : w.fields = st.fields

theorem mem_expected (w : World) (name : String) (e : Expr) (i : Nat) :
    i ∈ expected w name e ↔
      ∃ s ∈ w.series, s.name = name ∧ s.id = i ∧ i ∉ w.deleted ∧ sem name s.tags e = true := by
  unfold expected
  simp only [List.mem_map, List.mem_filter, Bool.and_eq_true, decide_eq_true_eq,
    Bool.not_eq_true', List.contains_eq_mem, decide_eq_false_iff_not, Bool.decide_and,
    Bool.decide_eq_true]
  constructor
  · rintro ⟨s, ⟨h1, h2, h3, h4⟩, rfl⟩; exact ⟨s, h1, h2, rfl, h3, h4⟩
  · rintro ⟨s, h1, h2, rfl, h3, h4⟩; exact ⟨s, ⟨h1, h2, h3, h4⟩, rfl⟩

theorem checkQuery_model {w : World} {st : State} (h : st.WF) (r : Rel w st) (name : String)
    (e : Expr) : checkQuery w name e (.ids (st.query name e).ids) = true := by
  unfold checkQuery
  split
  · next hg =>
    rw [r.fields] at hg
    have key : ∀ i, i ∈ (st.query name e).ids ↔ i ∈ expected w name e := by
      intro i
      rw [query_mem h name e hg i, mem_expected, r.deleted]
      constructor
      · rintro ⟨s, h1, h2⟩; exact ⟨s, (r.series s).mpr h1, h2⟩
      · rintro ⟨s, h1, h2⟩; exact ⟨s, (r.series s).mp h1, h2⟩
    simp only [Bool.and_eq_true, List.all_eq_true, List.contains_eq_mem, decide_eq_true_eq]
    exact ⟨fun i hi => (key i).mp hi, fun i hi => (key i).mpr hi⟩
  · rfl

theorem step_checkOne {w : World} {st : State} (h : st.WF) (r : Rel w st) (op : Op) :
    checkOne w (op, (step st op).2) = true := by
  cases op with
  | query name e => exact checkQuery_model h r name e
  | _ => rfl

theorem step_rel {w : World} {st : State} (r : Rel w st) (op : Op) :
    Rel (advance w (op, (step st op).2)) (step st op).1 := by
  cases op with
  | addSeries i s =>
    rw [step]
    by_cases hacc : st.accepts s = true
    · rw [if_pos hacc]
      refine ⟨fun t => ?_, r.deleted, r.fields⟩
      exact List.mem_cons.trans ((or_congr_right (r.series t)).trans (mem_addToShard _ _ _ _).symm)
    · rw [if_neg hacc]; exact r
  | delSeries id => exact ⟨r.series, congrArg (id :: ·) r.deleted, r.fields⟩
  | addField n f => exact ⟨r.series, r.deleted, congrArg ((n, f) :: ·) r.fields⟩
  | query name e => exact r

theorem holdsFrom_run (ops : List Op) : ∀ (st : State) (w : World), st.WF → Rel w st →
    holdsFrom w (run st ops) = true := by
  induction ops with
  | nil => intro st w _ _; rfl
  | cons op rest ih =>
    intro st w h r
    exact Bool.and_eq_true_iff.mpr ⟨step_checkOne h r op, ih _ _ (WF_step h op) (step_rel r op)⟩

theorem rel_init : Rel {} {} :=
  ⟨fun _ => Iff.rfl, rfl, rfl⟩

def runState : State → List Op → State
  | st, [] => st
  | st, op :: rest => runState (step st op).1 rest

theorem WF_runState (ops : List Op) : ∀ st : State, st.WF → (runState st ops).WF := by
  induction ops with
  | nil => intro st h; exact h
  | cons op rest ih => intro st h; exact ih _ (WF_step h op)

end Influx.Model.TagExpr
