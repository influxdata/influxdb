/-
  Lemmas.MetaBasic — the generated leaf predicates of `Influx.Generated.Meta` as
  propositions over `Int`, and basic facts about expiry selection.
-/
import Influx.Model.MetaSM

namespace Influx.Meta
open Influx.Generated.Meta

theorem foldl_inv {α β : Type} (P : β → Prop) (f : β → α → β) (l : List α) (s : β)
    (h0 : P s) (hstep : ∀ s x, x ∈ l → P s → P (f s x)) : P (l.foldl f s) := by
  induction l generalizing s with
  | nil => exact h0
  | cons x xs ih =>
    exact ih _ (hstep s x (List.mem_cons_self ..) h0) fun s y hy => hstep s y (List.mem_cons_of_mem _ hy)

theorem ite_rule {α : Sort _} {P : α → Prop} {c : Prop} [Decidable c] {a b : α} (ha : c → P a) (hb : ¬c → P b) :
    P (if c then a else b) := by
  split
  · exact ha ‹_›
  · exact hb ‹_›

theorem forall_mem_push {α : Type} {p : α → Prop} {l : List α} {x : α} (h : ∀ y ∈ l, p y) (hx : p x) :
    ∀ y ∈ l ++ [x], p y :=
  fun y hy => (List.mem_append.mp hy).elim (h y) fun h1 => List.mem_singleton.mp h1 ▸ hx

theorem forall_mem_nil {α : Type} {p : α → Prop} : ∀ x ∈ ([] : List α), p x :=
  fun _ h => (List.not_mem_nil h).elim

@[simp] theorem before_iff (a b : Int) : Time.Before a b = true ↔ a < b := by simp [Time.Before]
@[simp] theorem after_iff (a b : Int) : Time.After a b = true ↔ b < a := by simp [Time.After]
@[simp] theorem before_false_iff (a b : Int) : Time.Before a b = false ↔ b ≤ a := by
  simp [Time.Before]
@[simp] theorem after_false_iff (a b : Int) : Time.After a b = false ↔ a ≤ b := by
  simp [Time.After]
@[simp] theorem isZero_iff (a : Int) : Time.IsZero a = true ↔ a = zeroTime := by simp [Time.IsZero]
@[simp] theorem isZero_false_iff (a : Int) : Time.IsZero a = false ↔ a ≠ zeroTime := by simp [Time.IsZero]
@[simp] theorem add_eq (a : Int) (d : Int) : Time.Add a d = a + d := rfl
@[simp] theorem unix_eq (v : Int) : Time.Unix v = v := rfl

theorem contains_iff (g : ShardGroupInfo) (t : Int) :
    Contains g t = true ↔ g.StartTime ≤ t ∧ t < g.EndTime := by
  simp [Contains]

theorem deleted_iff (g : ShardGroupInfo) : Deleted g = true ↔ g.DeletedAt ≠ zeroTime := by
  simp [Deleted]

theorem deleted_false_iff (g : ShardGroupInfo) : Deleted g = false ↔ g.DeletedAt = zeroTime := by
  simp [Deleted]

theorem truncated_iff (g : ShardGroupInfo) : Truncated g = true ↔ g.TruncatedAt ≠ zeroTime := by
  simp [Truncated]

theorem truncated_false_iff (g : ShardGroupInfo) : Truncated g = false ↔ g.TruncatedAt = zeroTime := by
  simp [Truncated]

theorem overlaps_iff (g : ShardGroupInfo) (a b : Int) :
    Overlaps g a b = true ↔ g.StartTime ≤ b ∧ a < g.EndTime := by
  simp [Overlaps]

theorem mem_expired_iff (r : RetentionPolicyInfo) (t : Int) (g : ShardGroupInfo) :
    g ∈ expiredShardGroups r t ↔
      g ∈ r.ShardGroups ∧ g.DeletedAt = zeroTime ∧ r.Duration ≠ 0 ∧ g.EndTime + r.Duration < t := by
  simp [expiredShardGroups, List.mem_filter, deleted_false_iff]

theorem mem_deleted_iff (r : RetentionPolicyInfo) (g : ShardGroupInfo) :
    g ∈ deletedShardGroups r ↔ g ∈ r.ShardGroups ∧ g.DeletedAt ≠ zeroTime := by
  simp [deletedShardGroups, List.mem_filter, deleted_iff]

end Influx.Meta
