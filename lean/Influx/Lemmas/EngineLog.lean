/-
  Lemmas.EngineLog — the newest-wins algebra of `Model.EngineLog`:
  `lookupPt` over `insertPt` / `mergeOver` / `dedup`, sortedness, `Log.get` over
  append / filter / canon, and the characterisation of `Log.values`.
-/
import Influx.Model.EngineLog

namespace Influx.Model.Engine

theorem lookupPt_insertPt (p : Pt) (t : Int) (l : List Pt) :
    lookupPt t (insertPt p l) = if p.1 = t then some p.2 else lookupPt t l := by
  induction l with
  | nil => rfl
  | cons q l ih =>
    unfold insertPt
    by_cases h1 : p.1 < q.1
    · rw [if_pos h1]; rfl
    · rw [if_neg h1]
      by_cases h2 : p.1 = q.1
      · rw [if_pos h2, lookupPt, lookupPt, ← h2]
        by_cases h3 : p.1 = t
        · rw [if_pos h3, if_pos h3]
        · rw [if_neg h3, if_neg h3, if_neg h3]
      · rw [if_neg h2, lookupPt, ih, lookupPt]
        by_cases h3 : q.1 = t
        · rw [if_pos h3, if_pos h3, if_neg (fun h => h2 (h.trans h3.symm))]
        · rw [if_neg h3, if_neg h3]

theorem SortedPts.tail {p : Pt} {l : List Pt} (h : SortedPts (p :: l)) : SortedPts l :=
  (List.pairwise_cons.mp h).2

theorem SortedPts.head_lt {p : Pt} {l : List Pt} (h : SortedPts (p :: l)) :
    ∀ q ∈ l, p.1 < q.1 := (List.pairwise_cons.mp h).1

theorem sortedPts_cons {p : Pt} {l : List Pt} (hl : SortedPts l) (h : ∀ q ∈ l, p.1 < q.1) :
    SortedPts (p :: l) := List.pairwise_cons.mpr ⟨h, hl⟩

theorem sortedPts_nil : SortedPts [] := List.Pairwise.nil

theorem mem_insertPt {p q : Pt} {l : List Pt} (h : q ∈ insertPt p l) : q = p ∨ q ∈ l := by
  induction l with
  | nil => exact Or.inl (List.mem_singleton.mp h)
  | cons r l ih =>
    unfold insertPt at h
    by_cases h1 : p.1 < r.1
    · rw [if_pos h1] at h; exact List.mem_cons.mp h
    · rw [if_neg h1] at h
      by_cases h2 : p.1 = r.1
      · rw [if_pos h2] at h
        exact (List.mem_cons.mp h).imp_right (List.mem_cons_of_mem _)
      · rw [if_neg h2] at h
        rcases List.mem_cons.mp h with h | h
        · exact Or.inr (h ▸ List.mem_cons_self)
        · exact (ih h).imp_right (List.mem_cons_of_mem _)

theorem sorted_insertPt (p : Pt) {l : List Pt} (hl : SortedPts l) : SortedPts (insertPt p l) := by
  induction l with
  | nil => exact sortedPts_cons sortedPts_nil (by simp)
  | cons r l ih =>
    unfold insertPt
    by_cases h1 : p.1 < r.1
    · rw [if_pos h1]
      apply sortedPts_cons hl
      intro q hq
      rcases List.mem_cons.mp hq with rfl | hq
      · exact h1
      · exact Int.lt_trans h1 (hl.head_lt q hq)
    · by_cases h2 : p.1 = r.1
      · rw [if_neg h1, if_pos h2]
        exact sortedPts_cons hl.tail fun q hq => h2 ▸ hl.head_lt q hq
      · rw [if_neg h1, if_neg h2]
        apply sortedPts_cons (ih hl.tail)
        intro q hq
        rcases mem_insertPt hq with rfl | hq
        · exact (Int.lt_or_gt_of_ne h2).resolve_left h1
        · exact hl.head_lt q hq

theorem sorted_mergeOver {a : List Pt} (b : List Pt) (ha : SortedPts a) : SortedPts (mergeOver a b) := by
  induction b generalizing a with
  | nil => exact ha
  | cons p b ih => exact ih (sorted_insertPt p ha)

theorem sorted_dedup (l : List Pt) : SortedPts (dedup l) := sorted_mergeOver l sortedPts_nil

theorem lookupPt_mergeOver (t : Int) (a b : List Pt) :
    lookupPt t (mergeOver a b) = (lastPt t b).or (lookupPt t a) := by
  induction b generalizing a with
  | nil => simp [mergeOver, lastPt]
  | cons p b ih =>
    have : mergeOver a (p :: b) = mergeOver (insertPt p a) b := rfl
    rw [this, ih, lookupPt_insertPt]
    simp only [lastPt]
    cases lastPt t b <;> by_cases h : p.1 = t <;> simp [h]

theorem lookupPt_dedup (t : Int) (l : List Pt) : lookupPt t (dedup l) = lastPt t l := by
  simp [dedup, lookupPt_mergeOver, lookupPt]

theorem lookupPt_none_of_lt {t : Int} {l : List Pt} (h : ∀ q ∈ l, t < q.1) : lookupPt t l = none := by
  induction l with
  | nil => rfl
  | cons q l ih =>
    have h1 := h q List.mem_cons_self
    have : ¬ q.1 = t := fun h => Int.lt_irrefl t (h ▸ h1)
    simp only [lookupPt, this, if_false]
    exact ih (fun r hr => h r (List.mem_cons_of_mem _ hr))

theorem mem_iff_lookupPt {l : List Pt} (hl : SortedPts l) (t : Int) (v : Int) :
    (t, v) ∈ l ↔ lookupPt t l = some v := by
  induction l with
  | nil => simp [lookupPt]
  | cons q l ih =>
    have hlt := hl.head_lt
    simp only [List.mem_cons, lookupPt]
    by_cases h : q.1 = t
    · simp only [h, if_true]
      constructor
      · rintro (h1 | h1)
        · rw [← h1]
        · exact absurd (hlt _ h1) (by rw [h]; exact Int.lt_irrefl t)
      · intro h1
        left
        cases h1
        exact Prod.ext h.symm rfl
    · simp only [h, if_false]
      rw [← ih hl.tail]
      constructor
      · rintro (h1 | h1)
        · exact absurd (by rw [← h1]) h
        · exact h1
      · exact Or.inr

theorem lastPt_append (t : Int) (a b : List Pt) : lastPt t (a ++ b) = (lastPt t b).or (lastPt t a) := by
  induction a with
  | nil => simp [lastPt]
  | cons p a ih =>
    simp only [List.cons_append, lastPt, ih]
    cases lastPt t b <;> simp

theorem Log.get_append (a b : Log) (k : Key) (t : Int) :
    Log.get (a ++ b) k t = (Log.get b k t).or (Log.get a k t) := by
  induction a with
  | nil => simp [Log.get]
  | cons e a ih =>
    simp only [List.cons_append, Log.get, ih]
    cases Log.get b k t <;> simp

theorem Log.get_nil (k : Key) (t : Int) : Log.get [] k t = none := rfl

theorem Log.get_eq_lastPt (l : Log) (k : Key) (t : Int) : Log.get l k t = lastPt t (Log.pts l k) := by
  induction l with
  | nil => rfl
  | cons e l ih =>
    have ih' : lastPt t ((l.filter fun e => e.key = k).map fun e => (e.ts, e.val)) = Log.get l k t := ih.symm
    simp only [Log.get, Log.pts, List.filter_cons]
    by_cases hk : e.key = k
    · simp only [hk, decide_true, if_true, List.map_cons, lastPt, ih', true_and]
    · simp only [hk, decide_false, Bool.false_eq_true, if_false, false_and, ih']
      cases Log.get l k t <;> rfl

theorem Log.sorted_values (l : Log) (k : Key) : SortedPts (Log.values l k) := sorted_dedup _

theorem Log.lookupPt_values (l : Log) (k : Key) (t : Int) : lookupPt t (Log.values l k) = Log.get l k t := by
  rw [Log.values, lookupPt_dedup, Log.get_eq_lastPt]

theorem Log.mem_values (l : Log) (k : Key) (t : Int) (v : Int) :
    (t, v) ∈ Log.values l k ↔ Log.get l k t = some v := by
  rw [mem_iff_lookupPt (l.sorted_values k), Log.lookupPt_values]

theorem Log.get_filter (l : Log) (p : Key → Int → Bool) (k : Key) (t : Int) :
    Log.get (l.filter fun e => p e.key e.ts) k t = if p k t then Log.get l k t else none := by
  induction l with
  | nil => simp [Log.get]
  | cons e l ih =>
    rw [List.filter_cons]
    by_cases hp : p e.key e.ts = true
    · rw [if_pos hp, Log.get, Log.get, ih]
      by_cases hkt : p k t = true
      · rw [if_pos hkt, if_pos hkt]
      · have : ¬ (e.key = k ∧ e.ts = t) := by rintro ⟨rfl, rfl⟩; exact hkt hp
        rw [if_neg hkt, if_neg hkt, if_neg this]
    · rw [if_neg hp, ih]
      by_cases hkt : p k t = true
      · have : ¬ (e.key = k ∧ e.ts = t) := by rintro ⟨rfl, rfl⟩; exact hp hkt
        rw [if_pos hkt, if_pos hkt, Log.get, if_neg this]
        cases Log.get l k t <;> rfl
      · rw [if_neg hkt, if_neg hkt]
theorem Log.get_some_mem {l : Log} {k : Key} {t : Int} {v : Int} (h : Log.get l k t = some v) :
    ⟨k, t, v⟩ ∈ l := by
  induction l with
  | nil => simp [Log.get] at h
  | cons e l ih =>
    simp only [Log.get] at h
    cases hg : Log.get l k t with
    | some w =>
      rw [hg] at h
      simp only [Option.some.injEq] at h
      subst h
      exact List.mem_cons_of_mem _ (ih hg)
    | none =>
      rw [hg] at h
      by_cases hkt : e.key = k ∧ e.ts = t
      · simp only [hkt, and_self, if_true, Option.some.injEq] at h
        obtain ⟨h1, h2⟩ := hkt
        have : e = ⟨k, t, v⟩ := by cases e; simp_all
        rw [this]; exact List.mem_cons_self
      · simp [hkt] at h

theorem Log.get_isSome_of_mem {l : Log} {e : Entry} (h : e ∈ l) : (Log.get l e.key e.ts).isSome = true := by
  induction l with
  | nil => cases h
  | cons e' l ih =>
    rw [Log.get]
    cases hg : Log.get l e.key e.ts with
    | some v => rfl
    | none =>
      rcases List.mem_cons.mp h with rfl | h'
      · rw [if_pos ⟨rfl, rfl⟩]; rfl
      · rw [hg] at ih; exact absurd (ih h') (by simp)

theorem Log.get_none_of_no_key {l : Log} {k : Key} (h : ∀ e ∈ l, e.key ≠ k) (t : Int) :
    Log.get l k t = none := by
  cases hg : Log.get l k t with
  | none => rfl
  | some v => exact absurd rfl (h _ (Log.get_some_mem hg))

theorem Log.mem_keys {l : Log} : ∀ {k : Key}, k ∈ Log.keys l ↔ ∃ e ∈ l, e.key = k := by
  induction l with
  | nil => intro k; simp [Log.keys]
  | cons e l ih =>
    intro k
    rw [Log.keys]
    simp only [List.mem_cons, exists_eq_or_imp]
    by_cases hc : (Log.keys l).contains e.key = true
    · rw [if_pos hc, ih]
      exact ⟨Or.inr, fun h => h.elim (fun h => h ▸ ih.mp (List.contains_iff_mem.mp hc)) id⟩
    · rw [if_neg hc, List.mem_cons, ih, eq_comm]
theorem Log.nodup_keys (l : Log) : (Log.keys l).Nodup := by
  induction l with
  | nil => simp [Log.keys]
  | cons e l ih =>
    simp only [Log.keys]
    split
    · exact ih
    · next hc =>
      have hm : ¬ e.key ∈ Log.keys l := by simpa using hc
      exact List.nodup_cons.mpr ⟨hm, ih⟩

def chunk (k : Key) (vs : List Pt) : Log := vs.map fun p => ⟨k, p.1, p.2⟩

theorem chunk_key {k : Key} {vs : List Pt} : ∀ e ∈ chunk k vs, e.key = k := by
  intro e he
  simp only [chunk, List.mem_map] at he
  obtain ⟨p, _, rfl⟩ := he
  rfl

theorem get_chunk (k : Key) (vs : List Pt) (t : Int) : Log.get (chunk k vs) k t = lastPt t vs := by
  induction vs with
  | nil => rfl
  | cons p vs ih =>
    simp only [chunk, List.map_cons, Log.get, lastPt]
    simp only [chunk] at ih
    rw [ih]
    simp

theorem lastPt_eq_lookupPt {l : List Pt} (hl : SortedPts l) (t : Int) : lastPt t l = lookupPt t l := by
  induction l with
  | nil => rfl
  | cons q l ih =>
    simp only [lastPt, lookupPt, ih hl.tail]
    by_cases h : q.1 = t
    · have : lookupPt t l = none := lookupPt_none_of_lt (fun r hr => h ▸ hl.head_lt r hr)
      simp [h, this]
    · simp only [h, if_false]
      cases lookupPt t l <;> rfl

theorem get_flatMap_chunks (f : Key → List Pt) (ks : List Key) (hks : ks.Nodup) (k : Key) (t : Int) :
    Log.get (ks.flatMap fun k' => chunk k' (f k')) k t = if k ∈ ks then lastPt t (f k) else none := by
  induction ks with
  | nil => simp [Log.get]
  | cons k' ks ih =>
    have hnd := List.nodup_cons.mp hks
    simp only [List.flatMap_cons, Log.get_append, ih hnd.2, List.mem_cons]
    by_cases hk : k = k'
    · subst hk
      simp only [hnd.1, if_false, true_or, if_true, get_chunk]
      simp
    · have h1 : Log.get (chunk k' (f k')) k t = none :=
        Log.get_none_of_no_key (fun e he => by rw [chunk_key e he]; exact fun h => hk h.symm) t
      simp only [h1, hk, false_or]
      cases (if k ∈ ks then lastPt t (f k) else none) <;> rfl

theorem Log.canon_eq (l : Log) : l.canon = (Log.keys l).flatMap fun k => chunk k (Log.values l k) := rfl

/-- A TSM file written from a log answers every cell like the log. -/
theorem Log.get_canon (l : Log) (k : Key) (t : Int) : l.canon.get k t = Log.get l k t := by
  rw [Log.canon_eq, get_flatMap_chunks (fun k => Log.values l k) _ l.nodup_keys]
  by_cases hk : k ∈ Log.keys l
  · simp only [hk, if_true]
    rw [lastPt_eq_lookupPt (l.sorted_values k), Log.lookupPt_values]
  · simp only [hk, if_false]
    symm
    apply Log.get_none_of_no_key
    intro e he hek
    exact hk (Log.mem_keys.mpr ⟨e, he, hek⟩)

theorem Log.canon_nil_iff (l : Log) : l.canon = [] ↔ l = [] := by
  constructor
  · intro h
    cases l with
    | nil => rfl
    | cons e l =>
      have hg := Log.get_isSome_of_mem (l := e :: l) List.mem_cons_self
      rw [← Log.get_canon, h] at hg
      cases hg
  · intro h; subst h; rfl

end Influx.Model.Engine
