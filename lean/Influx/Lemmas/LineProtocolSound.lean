/-
  Soundness of the parser model: what holds of every point `parsePoint` accepts.
-/
import Influx.Lemmas.LineProtocolSortPath

namespace Influx.LP
open Influx.Generated.LineProto Influx.Spec.C12

/-- how the time of an accepted point was obtained -/
def timeClause (rest2 : Bytes) (dt : Int) (prec : String) (t : Int) : Prop :=
  ∃ ts rest3, scanTime rest2 = .ok (ts, rest3) ∧
    ((ts = [] ∧ t = truncTime dt prec) ∨
     (ts ≠ [] ∧ ∃ v, parseIntGo ts = .ok v ∧ safeCalcTime v prec = .ok t))

theorem parsePoint_ok_inv (line : Bytes) (dt : Int) (prec : String) (p : Point)
    (h : parsePoint line dt prec = .ok p) :
    ∃ rest rest2, scanKey line = .ok (p.key, rest) ∧ p.key ≠ [] ∧ p.key.length ≤ MaxKeyLength ∧
      scanFields ((skipWhitespace line).take ((skipWhitespace line).length - rest.length)) rest = .ok (p.fields, rest2) ∧
      p.fields ≠ [] ∧ walkFieldsCheck p.key.length (p.fields.length + 1) p.fields = .ok () ∧
      timeClause rest2 dt prec p.time := by
  revert h
  unfold parsePoint
  split
  · nofun
  next key rest hk =>
  refine ite_eq_imp (fun _ => nofun) fun hne => ite_eq_imp (fun _ => nofun) fun hlen => ?_
  simp only []
  split
  · nofun
  next fields rest2 hf =>
  refine ite_eq_imp (fun _ => nofun) fun hfne => ?_
  split
  · nofun
  next hw =>
  split
  · nofun
  next ts rest3 hts =>
  have hne : key ≠ [] := fun e => hne (e ▸ rfl)
  have hlen : key.length ≤ MaxKeyLength := Nat.le_of_not_gt hlen
  have hfne : fields ≠ [] := fun e => hfne (e ▸ rfl)
  refine ite_eq_imp (fun htse => ?_) fun htse => ?_
  · rintro ⟨⟩
    exact ⟨rest, rest2, hk, hne, hlen, hf, hfne, hw, ts, rest3, hts, .inl ⟨by simpa using htse, rfl⟩⟩
  split
  · nofun
  next v hv =>
  split
  · nofun
  next t ht =>
  refine ite_eq_imp (fun _ => ?_) fun _ => nofun
  rintro ⟨⟩
  exact ⟨rest, rest2, hk, hne, hlen, hf, hfne, hw, ts, rest3, hts, .inr ⟨by simpa using htse, v, hv, ht⟩⟩

theorem unescape_ne_nil (s : Bytes) (h : s ≠ []) : unescape s ≠ [] := by
  match s, h with
  | [b], _ => simp [unescape]
  | a :: b :: rest, _ =>
    unfold unescape
    split <;> simp

theorem KeyShape.pointName_ne_nil {key name : Bytes} {kvs : List (Bytes × Bytes)}
    (h : KeyShape key name kvs) : pointName key ≠ [] := by
  obtain ⟨b, t, hn⟩ := List.exists_cons_of_ne_nil h.name_ne
  have hb : b ≠ cComma := by
    have := NoBare_false_cons _ b t (hn ▸ h.name.nb)
    simpa using this
  rw [h.eq, hn]
  apply unescape_ne_nil
  simp [scanTo, hb]

theorem iterFields_ne_nil (fields : Bytes) (h : fields ≠ []) :
    iterFields (fields.length + 1) fields ≠ [] := by
  cases fields with
  | nil => exact absurd rfl h
  | cons b r => simp [iterFields]

theorem unescape_length_le (s : Bytes) : (unescape s).length ≤ s.length := by
  fun_induction unescape s with
  | case1 => simp
  | case2 => simp
  | case3 a b rest h ih => simp only [List.length_cons]; omega
  | case4 a b rest h ih => simp only [List.length_cons] at ih ⊢; omega

theorem classifyValue_string (vb : Bytes) (h : (classifyValue vb).1 = .string) :
    ∃ t, vb = cQuote :: t ∧ (classifyValue vb).2 = vb := by
  have ite {c : Prop} [Decidable c] {x y : FType × Bytes} (hx : x.1 ≠ .string) (hy : y.1 ≠ .string) :
      (if c then x else y).1 ≠ .string := by split <;> assumption
  cases vb with
  | nil => cases h
  | cons c t =>
    by_cases hc : c = cQuote
    · exact ⟨t, by rw [hc], by rw [classifyValue, if_pos hc]⟩
    · rw [classifyValue, if_neg hc] at h
      exact absurd h (ite (ite nofun (ite nofun nofun)) nofun)

theorem walkFieldsCheck_bound (keyLen fuel : Nat) (fields : Bytes) :
    walkFieldsCheck keyLen fuel fields = .ok () →
    ∀ f ∈ iterFields fuel fields, keyLen + 4 + f.key.length ≤ MaxKeyLength ∧
      (f.typ = .string → 2 ≤ f.valueBuf.length) := by
  induction fuel generalizing fields with
  | zero => intro _ f hf; cases hf
  | succ n ih =>
    cases fields with
    | nil => intro _ f hf; cases hf
    | cons b r =>
      refine ite_eq_imp (fun _ => nofun) fun _ => ite_eq_imp (fun _ => nofun) fun hlen =>
        ite_eq_imp (fun _ => nofun) fun hq hrec f hf => ?_
      rcases List.mem_cons.mp hf with rfl | hf
      · constructor
        · have := unescape_length_le (scanTo cEq false (b :: r)).1
          show keyLen + 4 + (if _ then _ else _ : Bytes).length ≤ _
          split <;> omega
        · intro htyp
          obtain ⟨t, hvb, h2⟩ := classifyValue_string _ htyp
          show 2 ≤ (classifyValue _).2.length
          rw [h2, hvb]
          cases t with
          | nil => exact absurd hvb hq
          | cons d t' => simp
      · exact ih _ hrec f hf

theorem safeCalcTime_range (v : Int) (prec : String) (t : Int) (h : safeCalcTime v prec = .ok t) :
    MinNanoTime ≤ t ∧ t ≤ MaxNanoTime := by
  unfold safeCalcTime at h
  split at h
  · split at h
    · cases h
    · next hr => cases h; omega
  · cases h

theorem truncDuration_range (prec : String) :
    0 < truncDuration prec ∧ truncDuration prec ≤ 3600000000000 := by
  have ite {c : Prop} [Decidable c] {a b : Int} (ha : 0 < a ∧ a ≤ 3600000000000)
      (hb : 0 < b ∧ b ≤ 3600000000000) :
      0 < (if c then a else b) ∧ (if c then a else b) ≤ 3600000000000 := by split <;> assumption
  exact ite (by decide) (ite (by decide) (ite (by decide) (ite (by decide) (ite (by decide) (by decide)))))

theorem truncTime_range (dt : Int) (prec : String) (h : dtSane dt = true) :
    MinNanoTime ≤ truncTime dt prec ∧ truncTime dt prec ≤ MaxNanoTime := by
  simp only [dtSane, Bool.and_eq_true] at h
  have hlo := of_decide_eq_true h.1
  have hhi := of_decide_eq_true h.2
  obtain ⟨hd, hd'⟩ := truncDuration_range prec
  have h1 := Int.emod_nonneg dt (Int.ne_of_gt hd)
  have h2 := Int.emod_lt_of_pos dt hd
  simp only [truncTime, wrap64, MinNanoTime, MaxNanoTime] at hlo hhi ⊢
  omega

theorem time_range (rest2 : Bytes) (dt : Int) (prec : String) (t : Int)
    (h : timeClause rest2 dt prec t) (hdt : dtSane dt = true) : MinNanoTime ≤ t ∧ t ≤ MaxNanoTime := by
  obtain ⟨ts, rest3, _, h | h⟩ := h
  · rw [h.2]; exact truncTime_range dt prec hdt
  · obtain ⟨_, v, _, hs⟩ := h; exact safeCalcTime_range v prec t hs

theorem count_scanTo_rest (stop : Nat) (pbs : Bool) (s : Bytes) (x : Nat) :
    (scanTo stop pbs s).2.count x ≤ s.count x := by
  have h := scanTo_partition stop pbs s
  calc (scanTo stop pbs s).2.count x ≤ ((scanTo stop pbs s).1 ++ (scanTo stop pbs s).2).count x := by
        rw [List.count_append]; omega
    _ = s.count x := by rw [h]

theorem count_drop_le (l : Bytes) (x : Nat) : (l.drop 1).count x ≤ l.count x := by
  cases l with
  | nil => simp
  | cons a r => simp only [List.drop_succ_cons, List.drop_zero, List.count_cons]; split <;> omega

theorem count_scanTo_drop (stop : Nat) (pbs : Bool) (s : Bytes) :
    (scanTo stop pbs s).2 = [] ∨ ((scanTo stop pbs s).2.drop 1).count stop + 1 ≤ s.count stop := by
  have h1 := count_scanTo_rest stop pbs s stop
  rcases scanTo_rest stop pbs s with h | ⟨r, h⟩
  · exact .inl h
  · rw [h] at h1 ⊢
    rw [List.count_cons_self] at h1
    exact .inr h1

theorem walkTagsLoop_length (he : Bool) (fuel : Nat) (buf : Bytes) :
    (walkTagsLoop he fuel buf).length ≤ buf.count cComma + 1 := by
  induction fuel generalizing buf with
  | zero => exact Nat.zero_le _
  | succ n ih =>
    by_cases hb : buf = []
    · rw [hb, walkTagsLoop_nil]; exact Nat.zero_le _
    · rw [walkTagsLoop_succ he n buf hb, scanTagValue_eq]
      have h1 := count_scanTo_rest cEq false buf cComma
      have h1' := count_drop_le (scanTo cEq false buf).2 cComma
      split
      · have := ih (scanTo cComma false ((scanTo cEq false buf).2.drop 1)).2
        have := count_scanTo_rest cComma false ((scanTo cEq false buf).2.drop 1) cComma
        omega
      · rw [List.length_cons]
        rcases count_scanTo_drop cComma false ((scanTo cEq false buf).2.drop 1) with h | h
        · rw [h, List.drop_nil, walkTagsLoop_nil]; exact Nat.le_add_left 1 _
        · have := ih ((scanTo cComma false ((scanTo cEq false buf).2.drop 1)).2.drop 1)
          omega

theorem walkTags_length (buf : Bytes) : (walkTags buf).length ≤ buf.count cComma := by
  unfold walkTags
  split
  · exact Nat.zero_le _
  · simp only
    split
    · exact Nat.zero_le _
    · rcases count_scanTo_drop cComma false buf with h | h
      · rw [h, List.drop_nil, walkTagsLoop_nil]; exact Nat.zero_le _
      · have := walkTagsLoop_length (buf.contains cBS) buf.length ((scanTo cComma false buf).2.drop 1)
        omega

/-- `parseTags` (hence `point.Tags()`) returns on every byte string -/
theorem parseTags_isSome (buf : Bytes) : parseTags buf = some (walkTags buf) := by
  unfold parseTags
  simp [walkTags_length buf]

/-- `ParseKeyBytes` returns on every byte string -/
theorem parseKeyBytes_isSome (buf : Bytes) : (parseKeyBytes buf).isSome = true := by
  unfold parseKeyBytes
  split
  · rw [parseTags_isSome]; rfl
  · rfl

end Influx.LP
