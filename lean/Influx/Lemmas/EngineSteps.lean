/-
  Lemmas.EngineSteps — the step-level engine model (C39) at state level: lookups in
  stores and files (appends, the merged file of a compaction, tombstones, range
  deletes), the invariant of the snapshot protocol, what each kind of step does to
  the abstract content, and what an atomic read lists.
-/
import Influx.Model.EngineSteps

namespace Influx.Conc

theorem Store.get_nil (k : Key) (t : TS) : Store.get [] k t = none := rfl

theorem Store.get_cons (e : Key × TS × Val) (s : Store) (k : Key) (t : TS) :
    Store.get (e :: s) k t = if e.1 = k ∧ e.2.1 = t then some e.2.2 else Store.get s k t := by
  unfold Store.get
  rw [List.find?_cons]
  by_cases h : e.1 = k ∧ e.2.1 = t
  · simp only [h, beq_self_eq_true, Bool.and_self, and_self, if_true, Option.map_some]
  · rw [if_neg h]
    have : (e.1 == k && e.2.1 == t) = false := by
      rw [Bool.and_eq_false_iff]
      simpa only [beq_eq_false_iff_ne, ne_eq, Decidable.not_and_iff_not_or_not] using h
    rw [this]

theorem Store.get_some_mem {s : Store} {k : Key} {t : TS} {v : Val} (h : s.get k t = some v) :
    (k, t, v) ∈ s := by
  induction s with
  | nil => cases h
  | cons e s ih =>
    rw [Store.get_cons] at h
    split at h
    · next he =>
      obtain ⟨ek, et, ev⟩ := e
      cases he.1; cases he.2; cases h
      exact List.mem_cons_self
    · exact List.mem_cons_of_mem _ (ih h)

theorem Store.get_filter (p : Key → TS → Bool) (s : Store) (k : Key) (t : TS) :
    Store.get (s.filter fun e => p e.1 e.2.1) k t = if p k t then Store.get s k t else none := by
  induction s with
  | nil => cases p k t <;> rfl
  | cons e s ih =>
    obtain ⟨ek, et, ev⟩ := e
    rw [List.filter_cons]
    show Store.get (if p ek et = true then _ else _) k t = _
    by_cases he : ek = k ∧ et = t
    · obtain ⟨rfl, rfl⟩ := he
      cases hp : p ek et
      · rw [if_neg Bool.false_ne_true, if_neg Bool.false_ne_true, ih, hp, if_neg Bool.false_ne_true]
      · rw [if_pos rfl, if_pos rfl, Store.get_cons, Store.get_cons, if_pos ⟨rfl, rfl⟩, if_pos ⟨rfl, rfl⟩]
    · have hs : Store.get ((ek, et, ev) :: s) k t = Store.get s k t := (Store.get_cons ..).trans (if_neg he)
      rw [hs, ← ih]
      split
      · exact (Store.get_cons ..).trans (if_neg he)
      · rfl

theorem Store.get_graph (f : Key → TS → Option Val) (ps : List (Key × TS)) (k : Key) (t : TS)
    (h : ∀ v, f k t = some v → (k, t) ∈ ps) :
    Store.get (ps.filterMap fun p => (f p.1 p.2).map fun v => (p.1, p.2, v)) k t = f k t := by
  induction ps with
  | nil =>
    cases hf : f k t with
    | none => rfl
    | some v => cases h v hf
  | cons p ps ih =>
    obtain ⟨pk, pt⟩ := p
    by_cases hp : pk = k ∧ pt = t
    · obtain ⟨rfl, rfl⟩ := hp
      cases hf : f pk pt with
      | none =>
        rw [List.filterMap_cons_none (by show (f pk pt).map _ = none; rw [hf]; rfl)]
        exact (ih fun v hv => by rw [hf] at hv; cases hv).trans hf
      | some v =>
        rw [List.filterMap_cons_some (by show (f pk pt).map _ = some _; rw [hf]; rfl)]
        exact (Store.get_cons ..).trans (if_pos ⟨rfl, rfl⟩)
    · have ih' := ih fun v hv => (List.mem_cons.mp (h v hv)).resolve_left fun e => hp (by cases e; exact ⟨rfl, rfl⟩)
      cases hf : f pk pt with
      | none =>
        rw [List.filterMap_cons_none (by show (f pk pt).map _ = none; rw [hf]; rfl)]
        exact ih'
      | some w =>
        rw [List.filterMap_cons_some (by show (f pk pt).map _ = some _; rw [hf]; rfl)]
        exact (Store.get_cons ..).trans ((if_neg hp).trans ih')

theorem filesGet_append (fs gs : List CFile) (k : Key) (t : TS) :
    filesGet (fs ++ gs) k t = (filesGet gs k t).or (filesGet fs k t) := by
  induction fs with
  | nil => exact (Option.or_none).symm
  | cons f fs ih => simp only [List.cons_append, filesGet, ih, Option.or_assoc]

theorem filesGet_append_store (fs : List CFile) (st : Store) (k : Key) (t : TS) :
    filesGet (fs ++ [⟨st, []⟩]) k t = (st.get k t).or (filesGet fs k t) :=
  filesGet_append ..

theorem CFile.get_some_mem {f : CFile} {k : Key} {t : TS} {v : Val} (h : f.get k t = some v) :
    (k, t, v) ∈ f.pts := by
  unfold CFile.get at h
  split at h
  · cases h
  · exact Store.get_some_mem h

theorem filesGet_some_file {fs : List CFile} {k : Key} {t : TS} {v : Val} (h : filesGet fs k t = some v) :
    ∃ f ∈ fs, (k, t, v) ∈ f.pts := by
  induction fs with
  | nil => cases h
  | cons f fs ih =>
    rw [filesGet] at h
    cases hr : filesGet fs k t with
    | some w =>
      rw [hr] at h; cases h
      obtain ⟨g, hg, hm⟩ := ih hr
      exact ⟨g, List.mem_cons_of_mem _ hg, hm⟩
    | none =>
      rw [hr] at h
      exact ⟨f, List.mem_cons_self, CFile.get_some_mem h⟩

theorem mergeFiles_get (fs : List CFile) (k : Key) (t : TS) :
    (mergeFiles fs).get k t = filesGet fs k t := by
  refine Store.get_graph (filesGet fs) (filesPoints fs) k t fun v hv => ?_
  obtain ⟨f, hf, hm⟩ := filesGet_some_file hv
  exact List.mem_flatMap.mpr ⟨f, hf, List.mem_map.mpr ⟨_, hm, rfl⟩⟩

theorem filesGet_compact (fs : List CFile) (n : Nat) (k : Key) (t : TS) :
    filesGet ((if (mergeFiles (fs.take n)).pts.isEmpty then [] else [mergeFiles (fs.take n)]) ++ fs.drop n) k t =
      filesGet fs k t := by
  conv => rhs; rw [← List.take_append_drop n fs]
  rw [filesGet_append, filesGet_append]
  congr 1
  rw [← mergeFiles_get (fs.take n)]
  split
  · next h =>
    -- an empty merged file reads nothing
    unfold CFile.get
    rw [List.isEmpty_iff.mp h]
    split <;> rfl
  · rfl

theorem filesGet_addTomb_other (tb : Tomb) (i : Nat) (fs : List CFile) (k : Key) (t : TS)
    (h : tb.covers k t = false) : filesGet (addTomb tb i fs) k t = filesGet fs k t := by
  induction fs generalizing i with
  | nil => cases i <;> rfl
  | cons f fs ih =>
    cases i with
    | zero => simp only [addTomb, filesGet, CFile.get, List.any_cons, h, Bool.false_or]
    | succ i => simp only [addTomb, filesGet, ih]

theorem filesGet_delAll (fs : List CFile) (tb : Tomb) (k : Key) (t : TS) :
    filesGet (fs.map fun f => { f with tombs := tb :: f.tombs }) k t =
      if tb.covers k t then none else filesGet fs k t := by
  induction fs with
  | nil => split <;> rfl
  | cons f fs ih =>
    simp only [List.map_cons, filesGet, ih, CFile.get, List.any_cons]
    by_cases hc : tb.covers k t = true
    · simp only [hc, Bool.true_or, if_true]; rfl
    · rw [Bool.not_eq_true] at hc
      simp only [hc, Bool.false_or, Bool.false_eq_true, if_false]

/-- the file-level early-return test of deleteSeriesRange: no file overlaps ⇒ no point in range -/
theorem filesGet_none_of_no_overlap (fs : List CFile) (lo hi : TS)
    (h : fs.any (fun f => f.overlapsTime lo hi) = false) (k : Key) (t : TS) (h1 : lo ≤ t) (h2 : t ≤ hi) :
    filesGet fs k t = none := by
  cases hg : filesGet fs k t with
  | none => rfl
  | some v =>
    obtain ⟨f, hf, hm⟩ := filesGet_some_file hg
    have : f.overlapsTime lo hi = true := by
      unfold CFile.overlapsTime
      rw [Bool.and_eq_true, List.any_eq_true, List.any_eq_true]
      exact ⟨⟨_, hm, decide_eq_true h2⟩, ⟨_, hm, decide_eq_true h1⟩⟩
    rw [List.any_eq_false] at h
    exact absurd this (h f hf)

theorem inRange_eq_covers (k : Key) (lo hi : TS) (e : Key × TS × Val) :
    inRange k lo hi e = Tomb.covers ⟨k, lo, hi⟩ e.1 e.2.1 := by
  unfold inRange Tomb.covers
  rw [BEq.comm]

/-- `Cache.DeleteRange` -/
theorem Store.get_delRange (s : Store) (k : Key) (lo hi : TS) (k' : Key) (t' : TS) :
    Store.get (s.filter fun e => !inRange k lo hi e) k' t' =
      if Tomb.covers ⟨k, lo, hi⟩ k' t' then none else Store.get s k' t' := by
  rw [show (fun e : Key × TS × Val => !inRange k lo hi e) = fun e => !Tomb.covers ⟨k, lo, hi⟩ e.1 e.2.1 from
    funext fun e => congrArg _ (inRange_eq_covers ..), Store.get_filter fun a b => !Tomb.covers ⟨k, lo, hi⟩ a b]
  cases Tomb.covers ⟨k, lo, hi⟩ k' t' <;> rfl

theorem Tomb.covers_iff {k : Key} {lo hi : TS} {k' : Key} {t' : TS} :
    Tomb.covers ⟨k, lo, hi⟩ k' t' = true ↔ k = k' ∧ lo ≤ t' ∧ t' ≤ hi := by
  simp only [Tomb.covers, Bool.and_eq_true, beq_iff_eq, decide_eq_true_eq, and_assoc]

/-- the cache step of a delete whose tombstones are in place, no snapshot in flight -/
theorem abs_delCache (s : St) (hsnap : s.snap = []) (k : Key) (lo hi : TS)
    (hfiles : ∀ t, lo ≤ t → t ≤ hi → s.filesView k t = none) (k' : Key) (t' : TS) :
    (step s (.delCache k lo hi)).abs k' t' = if Tomb.covers ⟨k, lo, hi⟩ k' t' then none else s.abs k' t' := by
  show ((Store.get (s.cache.filter fun e => !inRange k lo hi e) k' t').or (s.snap.get k' t')).or (s.filesView k' t') = _
  rw [Store.get_delRange]
  split
  · next hc =>
    obtain ⟨rfl, h1, h2⟩ := Tomb.covers_iff.mp hc
    rw [hsnap, hfiles t' h1 h2]; rfl
  · rfl

theorem abs_delFilesAll (s : St) (k : Key) (lo hi : TS) (k' : Key) (t' : TS) :
    (delFilesAll s k lo hi).abs k' t' =
      (s.cacheView k' t').or (if Tomb.covers ⟨k, lo, hi⟩ k' t' then none else s.filesView k' t') :=
  congrArg _ (filesGet_delAll ..)

theorem abs_delete (s : St) (hsnap : s.snap = []) (k : Key) (lo hi : TS) (k' : Key) (t' : TS) :
    (step (delFilesAll s k lo hi) (.delCache k lo hi)).abs k' t' =
      if Tomb.covers ⟨k, lo, hi⟩ k' t' then none else s.abs k' t' := by
  rw [abs_delCache (delFilesAll s k lo hi) hsnap, abs_delFilesAll]
  · split <;> rfl
  · intro t h1 h2
    exact (filesGet_delAll ..).trans (if_pos (Tomb.covers_iff.mpr ⟨rfl, h1, h2⟩))

/-- `deleteSeriesRange` returns early only when the range holds nothing (no snapshot in flight) -/
theorem abs_none_of_deleteIsNoop {s : St} {lo hi : TS} (hsnap : s.snap = []) (h : s.deleteIsNoop lo hi = true)
    (k : Key) (t : TS) (h1 : lo ≤ t) (h2 : t ≤ hi) : s.abs k t = none := by
  simp only [St.deleteIsNoop, Bool.and_eq_true, Bool.not_eq_true', List.isEmpty_iff] at h
  show ((Store.get s.cache k t).or (Store.get s.snap k t)).or (filesGet s.files k t) = none
  rw [h.2, hsnap, filesGet_none_of_no_overlap _ _ _ h.1 k t h1 h2]
  rfl

/-- the invariant of the snapshot protocol -/
structure Inv (s : St) : Prop where
  /-- no snapshot in flight: the snapshot store is empty -/
  idle : s.phase = .idle → s.snap = []
  /-- after Replace, everything in the snapshot store is also read from the files -/
  replaced : s.phase = .replaced → ∀ k t v, s.snap.get k t = some v → s.filesView k t = some v

theorem Inv_init : Inv St.init := ⟨fun _ => rfl, fun h => (by cases h)⟩

theorem Inv_of_idle {s s' : St} (hi : Inv s) (hp : s.phase = .idle) (hp' : s'.phase = s.phase)
    (hs : s'.snap = s.snap) : Inv s' :=
  ⟨fun _ => by rw [hs]; exact hi.idle hp, fun h => by rw [hp', hp] at h; cases h⟩

def maintenance : Step → Bool
  | .snapBegin | .snapReplace | .snapClear | .compact _ => true
  | _ => false

/-- a step is admissible in a state: deletes do not run between Replace and Clear
    (the engine does not guarantee this — it is C03's known window; the C39 harness
    and oracle keep deletes and snapshots apart) -/
def admissible (s : St) (σ : Step) : Bool :=
  !(σ.isDelete && s.phase == .replaced)

theorem admissible_of_maintenance (s : St) {σ : Step} (hm : maintenance σ = true) : admissible s σ = true := by
  cases σ <;> first | rfl | cases hm

theorem Inv_step (s : St) (hi : Inv s) (σ : Step) (ha : admissible s σ = true) : Inv (step s σ) := by
  -- a delete runs outside phase `replaced`, where only `idle` says anything, and leaves phase and snap alone
  have hdel (hd : σ.isDelete = true) (hp : (step s σ).phase = s.phase) (hs : (step s σ).snap = s.snap) :
      Inv (step s σ) := by
    refine ⟨fun h => hs ▸ hi.idle (hp ▸ h), fun h => ?_⟩
    rw [admissible, hd, hp.symm.trans h] at ha
    cases ha
  cases σ with
  | wr k t v => exact ⟨hi.idle, hi.replaced⟩
  | delFile i k lo hi' => exact hdel rfl rfl rfl
  | delCache k lo hi' => exact hdel rfl rfl rfl
  | snapBegin =>
    simp only [step]
    split
    · exact ⟨fun h => (by cases h), fun h => (by cases h)⟩
    · exact hi
  | snapReplace =>
    simp only [step]
    split
    · split
      · next he => exact ⟨fun _ => List.isEmpty_iff.mp he, fun h => (by cases h)⟩
      · refine ⟨fun h => (by cases h), fun _ k t v hs => ?_⟩
        exact (filesGet_append_store ..).trans (by rw [hs]; rfl)
    · exact hi
  | snapClear =>
    simp only [step]
    split
    · exact ⟨fun _ => rfl, fun h => (by cases h)⟩
    · exact hi
  | compact n =>
    simp only [step]
    split
    · exact hi
    · exact ⟨hi.idle, fun hp k t v hs => (filesGet_compact ..).trans (hi.replaced hp k t v hs)⟩

theorem abs_write (s : St) (k : Key) (t : TS) (v : Val) (k' : Key) (t' : TS) :
    (step s (.wr k t v)).abs k' t' = if k' = k ∧ t' = t then some v else s.abs k' t' := by
  show ((Store.get ((k, t, v) :: s.cache) k' t').or (s.snap.get k' t')).or (s.filesView k' t') = _
  rw [Store.get_cons]
  by_cases h : k' = k ∧ t' = t
  · rw [if_pos h, if_pos ⟨h.1.symm, h.2.symm⟩]; rfl
  · rw [if_neg h, if_neg fun e => h ⟨e.1.symm, e.2.symm⟩]; rfl

theorem maintenance_invisible (s : St) (hi : Inv s) (σ : Step) (hm : maintenance σ = true)
    (k : Key) (t : TS) : (step s σ).abs k t = s.abs k t := by
  cases σ with
  | wr | delFile | delCache => cases hm
  | snapBegin =>
    simp only [step]
    split
    · next hp =>
      -- the hot store moves into the empty snapshot store
      simp only [St.abs, St.cacheView, St.filesView, hi.idle hp, Store.get_nil, Option.or_none, Option.none_or]
    · rfl
  | snapReplace =>
    simp only [step]
    split
    · split
      · rfl
      · -- the snapshot store is read twice now: from the cache view and, below it, as the newest file
        simp only [St.abs, St.cacheView, St.filesView]
        rw [filesGet_append_store]
        cases s.cache.get k t <;> cases s.snap.get k t <;> rfl
    · rfl
  | snapClear =>
    simp only [step]
    split
    · next hp =>
      -- what the snapshot store held is read from the files (`Inv.replaced`)
      simp only [St.abs, St.cacheView, St.filesView, Store.get_nil, Option.or_none]
      cases hs : s.snap.get k t with
      | none => rw [Option.or_none]
      | some v =>
        have hf : filesGet s.files k t = some v := hi.replaced hp k t v hs
        rw [hf]; cases s.cache.get k t <;> rfl
    · rfl
  | compact n =>
    simp only [step]
    split
    · rfl
    · exact congrArg _ (filesGet_compact ..)

theorem mem_insertTS {a x : TS} {l : List TS} : x ∈ insertTS a l ↔ x = a ∨ x ∈ l := by
  induction l with
  | nil => simp only [insertTS, List.mem_singleton, List.not_mem_nil, or_false]
  | cons b l ih =>
    unfold insertTS
    split
    · exact List.mem_cons
    · split
      · next h => subst h; simp only [List.mem_cons, or_self_left]
      · simp only [List.mem_cons, ih, or_left_comm]

theorem mem_sortDedup {x : TS} {l : List TS} : x ∈ sortDedup l ↔ x ∈ l := by
  induction l with
  | nil => rfl
  | cons a l ih => exact mem_insertTS.trans ((or_congr_right ih).trans List.mem_cons.symm)

theorem mem_storeTimes {s : Store} {k : Key} {t : TS} {v : Val} (h : (k, t, v) ∈ s) : t ∈ storeTimes s k :=
  List.mem_map.mpr ⟨(k, t, v), List.mem_filter.mpr ⟨h, beq_self_eq_true k⟩, rfl⟩

theorem abs_some_mem_times {s : St} {k : Key} {t : TS} {v : Val} (h : s.abs k t = some v) : t ∈ s.times k := by
  unfold St.times
  rw [mem_sortDedup, List.mem_append, List.mem_append]
  unfold St.abs St.cacheView at h
  cases hc : s.cache.get k t with
  | some w => exact .inl (.inl (mem_storeTimes (Store.get_some_mem hc)))
  | none =>
    cases hs : s.snap.get k t with
    | some w => exact .inl (.inr (mem_storeTimes (Store.get_some_mem hs)))
    | none =>
      rw [hc, hs] at h
      obtain ⟨f, hf, hm⟩ := filesGet_some_file h
      exact .inr (List.mem_flatMap.mpr ⟨f, hf, mem_storeTimes hm⟩)

theorem lookup_graph (g : TS → Option Val) (l : List TS) (t : TS) (h : ∀ v, g t = some v → t ∈ l) :
    (l.filterMap fun x => (g x).map fun v => (x, v)).lookup t = g t := by
  induction l with
  | nil =>
    cases hg : g t with
    | none => rfl
    | some v => cases h v hg
  | cons a l ih =>
    by_cases ha : t = a
    · subst ha
      cases hg : g t with
      | none =>
        rw [List.filterMap_cons_none (by rw [hg]; rfl)]
        exact (ih fun v hv => by rw [hg] at hv; cases hv).trans hg
      | some v =>
        rw [List.filterMap_cons_some (by rw [hg]; rfl), List.lookup_cons, beq_self_eq_true]
    · have ih' := ih fun v hv => (List.mem_cons.mp (h v hv)).resolve_left ha
      cases hg : g a with
      | none =>
        rw [List.filterMap_cons_none (by rw [hg]; rfl)]
        exact ih'
      | some w =>
        rw [List.filterMap_cons_some (by rw [hg]; rfl), List.lookup_cons, beq_false_of_ne ha]
        exact ih'

theorem lookup_readKey (s : St) (k : Key) (t : TS) : (s.readKey k).lookup t = s.abs k t :=
  lookup_graph (s.abs k) (s.times k) t fun _ => abs_some_mem_times

theorem mem_readKey {s : St} {k : Key} {t : TS} {v : Val} (h : (t, v) ∈ s.readKey k) : s.abs k t = some v := by
  obtain ⟨t', _, hv⟩ := List.mem_filterMap.mp h
  cases ha : s.abs k t' with
  | none => rw [ha] at hv; cases hv
  | some w => rw [ha] at hv; cases hv; exact ha

end Influx.Conc
