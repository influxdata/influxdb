/-
  Lemmas.TSIExec — what one log entry does to the views of a file (`LogFile.execEntry`),
  stated on the accessors `measFlag`, `keyElem`, `valElem`, `fileMeasSeries`, `fileValSeries`.
-/
import Influx.Lemmas.TSIBasic

namespace Influx.Model.TSI

def tagOf (tags : Tags) (k : String) : Option String :=
  match tags with
  | [] => none
  | (k', v) :: rest => if k' = k then some v else tagOf rest k

/-- `execSeriesEntry` on one tag value. -/
def updVal (isAdd : Bool) (id : Nat) (tv : TagValue) : TagValue :=
  if isAdd then { deleted := false, series := sadd tv.series id }
  else { tv with series := sdel tv.series id }

/-- `execSeriesEntry` on one tag key, for the series' value `v` of it. -/
def updKey (isAdd : Bool) (id : Nat) (tk : TagKey) (v : String) : TagKey :=
  { deleted := if isAdd then false else tk.deleted,
    values := aset tk.values v (updVal isAdd id ((alookup tk.values v).getD {})) }

theorem tagOf_cons (k₀ v₀ : String) (rest : Tags) (k : String) :
    tagOf ((k₀, v₀) :: rest) k = if k₀ = k then some v₀ else tagOf rest k := rfl

theorem tagOf_eq_alookup (tags : Tags) (k : String) : tagOf tags k = alookup tags k := by
  induction tags with
  | nil => rfl
  | cons kv rest ih =>
    obtain ⟨k₀, v₀⟩ := kv
    rw [tagOf_cons, alookup, ih]

theorem tagOf_isSome_iff (tags : Tags) (k : String) : (tagOf tags k).isSome ↔ k ∈ tags.map (·.1) := by
  rw [tagOf_eq_alookup]; exact alookup_isSome_iff tags k

theorem tagOf_eq_none {tags : Tags} {k : String} (h : k ∉ tags.map (·.1)) : tagOf tags k = none :=
  Option.not_isSome_iff_eq_none.mp fun hs => h ((tagOf_isSome_iff tags k).mp hs)

theorem tagOf_mem {tags : Tags} {k v : String} (h : tagOf tags k = some v) : (k, v) ∈ tags :=
  alookup_mem (tagOf_eq_alookup tags k ▸ h)

theorem tagOf_of_mem {tags : Tags} (hd : (tags.map (·.1)).Nodup) {k v : String} (h : (k, v) ∈ tags) :
    tagOf tags k = some v := by
  induction tags with
  | nil => simp at h
  | cons kv rest ih =>
    obtain ⟨k₀, v₀⟩ := kv
    simp only [List.map_cons, List.nodup_cons] at hd
    rw [tagOf_cons]
    rcases List.mem_cons.mp h with h | h
    · simp only [Prod.mk.injEq] at h
      simp [h.1, h.2]
    · have hne : k₀ ≠ k := by
        rintro rfl
        exact hd.1 (List.mem_map.mpr ⟨(k₀, v), h, rfl⟩)
      simp only [hne, if_false]
      exact ih hd.2 h

theorem setSeriesInTags_cons (isAdd : Bool) (id : Nat) (keys : List (String × TagKey))
    (k v : String) (rest : Tags) :
    setSeriesInTags isAdd id keys ((k, v) :: rest) =
      setSeriesInTags isAdd id (aset keys k (updKey isAdd id ((alookup keys k).getD {}) v)) rest := by
  simp only [setSeriesInTags, updKey, updVal]

theorem alookup_setSeriesInTags (isAdd : Bool) (id : Nat) (tags : Tags)
    (hd : (tags.map (·.1)).Nodup) (keys : List (String × TagKey)) (k : String) :
    alookup (setSeriesInTags isAdd id keys tags) k =
      match tagOf tags k with
      | none => alookup keys k
      | some v => some (updKey isAdd id ((alookup keys k).getD {}) v) := by
  induction tags generalizing keys with
  | nil => rfl
  | cons kv rest ih =>
    obtain ⟨k₀, v₀⟩ := kv
    rw [List.map_cons, List.nodup_cons] at hd
    rw [setSeriesInTags_cons, ih hd.2, tagOf_cons, alookup_aset]
    by_cases h : k₀ = k
    · subst h
      simp only [tagOf_eq_none hd.1, if_true]
    · have h' : ¬ k = k₀ := fun e => h e.symm
      simp only [h, h', if_false]

theorem fileMeasSeries_getMeas (d : FileData) (n : String) : fileMeasSeries n d = (getMeas d n).series := by
  unfold fileMeasSeries getMeas
  cases alookup d.mms n <;> rfl

theorem getMeas_keys (d : FileData) (n k : String) :
    alookup (getMeas d n).keys k = keyElem n k d := by
  unfold getMeas keyElem
  cases alookup d.mms n <;> rfl

theorem fileValSeries_eq (n k v : String) (f : FileData) :
    fileValSeries n k v f = ((valElem n k v f).map (·.series)).getD [] := rfl

theorem mem_fileValSeries_valElem {n k v : String} {f : FileData} {x : Nat}
    (h : x ∈ fileValSeries n k v f) : ∃ tv, valElem n k v f = some tv ∧ x ∈ tv.series := by
  unfold fileValSeries at h
  cases hv : valElem n k v f with
  | none => rw [hv] at h; exact absurd h List.not_mem_nil
  | some tv => exact ⟨tv, rfl, by rwa [hv] at h⟩

theorem valElem_keyElem {n k v : String} {f : FileData} {tv : TagValue}
    (h : valElem n k v f = some tv) : ∃ tk, keyElem n k f = some tk ∧ alookup tk.values v = some tv :=
  Option.bind_eq_some_iff.mp h

theorem keyElem_meas {n k : String} {f : FileData} {tk : TagKey}
    (h : keyElem n k f = some tk) : ∃ mm, alookup f.mms n = some mm ∧ alookup mm.keys k = some tk :=
  Option.bind_eq_some_iff.mp h

theorem accessors_congr {d d' : FileData} {n : String} (h : alookup d'.mms n = alookup d.mms n) :
    measFlag n d' = measFlag n d ∧ fileMeasSeries n d' = fileMeasSeries n d ∧
    (∀ k, keyElem n k d' = keyElem n k d) ∧ (∀ k v, valElem n k v d' = valElem n k v d) ∧
    (∀ k v, fileValSeries n k v d' = fileValSeries n k v d) := by
  simp only [measFlag, fileMeasSeries, fileValSeries, valElem, keyElem, h, implies_true, and_self]

section
variable (sf : SFile) (d : FileData) (isAdd : Bool) (id : Nat) (s : SeriesInfo)

theorem execSeries_unknown (h : sf.find id = none) : execSeries sf d isAdd id = d := by
  simp only [execSeries, h]

theorem execSeries_mms (h : sf.find id = some s) (n : String) :
    alookup (execSeries sf d isAdd id).mms n =
      if n = s.name then
        some { deleted := false,
               series := if isAdd then sadd (getMeas d s.name).series id else sdel (getMeas d s.name).series id,
               keys := setSeriesInTags isAdd id (getMeas d s.name).keys s.tags }
      else alookup d.mms n := by
  simp only [execSeries, h, alookup_aset]

theorem execSeries_measFlag (h : sf.find id = some s) (n : String) :
    measFlag n (execSeries sf d isAdd id) = if n = s.name then some false else measFlag n d := by
  unfold measFlag
  rw [execSeries_mms sf d isAdd id s h]
  split <;> rfl

theorem execSeries_fileMeasSeries (h : sf.find id = some s) (n : String) :
    fileMeasSeries n (execSeries sf d isAdd id) =
      if n = s.name then
        (if isAdd then sadd (fileMeasSeries n d) id else sdel (fileMeasSeries n d) id)
      else fileMeasSeries n d := by
  rw [fileMeasSeries, execSeries_mms sf d isAdd id s h]
  by_cases hn : n = s.name
  · rw [if_pos hn, if_pos hn, hn, fileMeasSeries_getMeas]; rfl
  · rw [if_neg hn, if_neg hn]; rfl

theorem execSeries_keyElem (h : sf.find id = some s) (hd : (s.tags.map (·.1)).Nodup) (n k : String) :
    keyElem n k (execSeries sf d isAdd id) =
      if n = s.name then
        match tagOf s.tags k with
        | none => keyElem n k d
        | some v => some (updKey isAdd id ((keyElem n k d).getD {}) v)
      else keyElem n k d := by
  rw [keyElem, execSeries_mms sf d isAdd id s h]
  by_cases hn : n = s.name
  · rw [if_pos hn, if_pos hn, hn, Option.bind_some, alookup_setSeriesInTags isAdd id s.tags hd, getMeas_keys]
  · rw [if_neg hn, if_neg hn]; rfl

theorem execSeries_valElem (h : sf.find id = some s) (hd : (s.tags.map (·.1)).Nodup) (n k v : String) :
    valElem n k v (execSeries sf d isAdd id) =
      if n = s.name ∧ tagOf s.tags k = some v then
        some (updVal isAdd id ((valElem n k v d).getD {}))
      else valElem n k v d := by
  rw [valElem, execSeries_keyElem sf d isAdd id s h hd]
  by_cases hn : n = s.name
  · rw [if_pos hn]
    cases ht : tagOf s.tags k with
    | none => simp only [reduceCtorEq, and_false, if_false]; rfl
    | some v₀ =>
      simp only [Option.bind_some, updKey, alookup_aset, hn, true_and, Option.some.injEq]
      by_cases hv : v = v₀
      · subst hv
        simp only [if_true, valElem]
        cases keyElem s.name k d <;> rfl
      · have hv' : ¬ v₀ = v := fun e => hv e.symm
        simp only [hv, hv', if_false, valElem]
        cases keyElem s.name k d <;> rfl
  · simp only [hn, false_and, if_false, valElem]

theorem execSeries_fileValSeries (h : sf.find id = some s) (hd : (s.tags.map (·.1)).Nodup)
    (n k v : String) :
    fileValSeries n k v (execSeries sf d isAdd id) =
      if n = s.name ∧ tagOf s.tags k = some v then
        (if isAdd then sadd (fileValSeries n k v d) id else sdel (fileValSeries n k v d) id)
      else fileValSeries n k v d := by
  rw [fileValSeries_eq, fileValSeries_eq, execSeries_valElem sf d isAdd id s h hd]
  split
  · cases valElem n k v d <;> cases isAdd <;> rfl
  · rfl

theorem execSeries_mem_fileMeasSeries (h : sf.find id = some s) (n : String) (x : Nat) :
    x ∈ fileMeasSeries n (execSeries sf d isAdd id) ↔
      (x ∈ fileMeasSeries n d ∧ (n = s.name → isAdd = true ∨ x ≠ id)) ∨
        (n = s.name ∧ isAdd = true ∧ x = id) := by
  rw [execSeries_fileMeasSeries sf d isAdd id s h, mem_ite_sadd_sdel]

theorem execSeries_mem_fileValSeries (h : sf.find id = some s) (hd : (s.tags.map (·.1)).Nodup)
    (n k v : String) (x : Nat) :
    x ∈ fileValSeries n k v (execSeries sf d isAdd id) ↔
      (x ∈ fileValSeries n k v d ∧ (n = s.name ∧ tagOf s.tags k = some v → isAdd = true ∨ x ≠ id)) ∨
        ((n = s.name ∧ tagOf s.tags k = some v) ∧ isAdd = true ∧ x = id) := by
  rw [execSeries_fileValSeries sf d isAdd id s h hd, mem_ite_sadd_sdel]

theorem execSeries_sset (h : sf.find id = some s) :
    (execSeries sf d isAdd id).sset = (if isAdd then sadd d.sset id else sdel d.sset id) ∧
    (execSeries sf d isAdd id).tomb = (if isAdd then sdel d.tomb id else sadd d.tomb id) := by
  simp only [execSeries, h, and_self]

end

theorem exec_delMeas_mms (sf : SFile) (d : FileData) (m n : String) :
    alookup (exec sf d (.delMeas m)).mms n =
      if n = m then some { deleted := true, series := [], keys := [] } else alookup d.mms n := by
  simp only [exec, alookup_aset]

/-- `execDeleteTagKeyEntry` on the measurement. -/
def delKeyMeas (mm : Meas) (key : String) : Meas :=
  let tk := (alookup mm.keys key).getD {}
  { mm with keys := aset mm.keys key { tk with deleted := true } }

/-- `execDeleteTagValueEntry` on the measurement. -/
def delValMeas (mm : Meas) (key value : String) : Meas :=
  let tk := (alookup mm.keys key).getD {}
  let tv := (alookup tk.values value).getD {}
  { mm with keys := aset mm.keys key { tk with values := aset tk.values value { tv with deleted := true } } }

theorem exec_delKey_mms (sf : SFile) (d : FileData) (m key n : String) :
    alookup (exec sf d (.delKey m key)).mms n =
      if n = m then some (delKeyMeas (getMeas d m) key) else alookup d.mms n := by
  simp only [exec, alookup_aset, delKeyMeas]

theorem exec_delVal_mms (sf : SFile) (d : FileData) (m key value n : String) :
    alookup (exec sf d (.delVal m key value)).mms n =
      if n = m then some (delValMeas (getMeas d m) key value) else alookup d.mms n := by
  simp only [exec, alookup_aset, delValMeas]

def entryMeas (sf : SFile) : Entry → Option String
  | .add id | .delSeries id => (sf.find id).map (·.name)
  | .delMeas m | .delKey m _ | .delVal m _ _ => some m

theorem exec_other_meas (sf : SFile) (d : FileData) (e : Entry) (n : String)
    (hn : entryMeas sf e ≠ some n) : alookup (exec sf d e).mms n = alookup d.mms n := by
  have hser : ∀ isAdd id, (sf.find id).map (·.name) ≠ some n →
      alookup (execSeries sf d isAdd id).mms n = alookup d.mms n := by
    intro isAdd id hn
    cases hf : sf.find id with
    | none => rw [execSeries_unknown sf d isAdd id hf]
    | some s =>
      rw [execSeries_mms sf d isAdd id s hf, if_neg]
      exact fun e => hn (by rw [hf, e]; rfl)
  have hne : ∀ {m : String}, some m ≠ some n → ¬ n = m := fun h e => h (e ▸ rfl)
  cases e with
  | add id => exact hser true id hn
  | delSeries id => exact hser false id hn
  | delMeas m => rw [exec_delMeas_mms, if_neg (hne hn)]
  | delKey m k => rw [exec_delKey_mms, if_neg (hne hn)]
  | delVal m k v => rw [exec_delVal_mms, if_neg (hne hn)]

theorem exec_flags_sset (sf : SFile) (d : FileData) (e : Entry)
    (he : ∀ id, e ≠ .add id ∧ e ≠ .delSeries id) :
    (exec sf d e).sset = d.sset ∧ (exec sf d e).tomb = d.tomb := by
  cases e with
  | add id => exact absurd rfl (he id).1
  | delSeries id => exact absurd rfl (he id).2
  | delMeas m => exact ⟨rfl, rfl⟩
  | delKey m k => exact ⟨rfl, rfl⟩
  | delVal m k v => exact ⟨rfl, rfl⟩

end Influx.Model.TSI
