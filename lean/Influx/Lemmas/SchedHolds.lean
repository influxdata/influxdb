/-
  Lemmas.SchedHolds — the run-time checker of Spec.C24 against the model's log: bookkeeping of
  entries vs. cursors, runs of a settle segment, the quiescence clauses, and the simulation between
  the checker and the macro model (Model/SchedMacro.lean) on plain histories.
-/
import Influx.Lemmas.SchedMacro
namespace Influx.Lemmas.Sched
open Influx.Model.Sched Influx.Spec.C24

def eids (es : List Entry) : List Nat := es.map (·.id)

/-- the checker's entries are exactly the tasks the log has a cursor for, with the same data -/
structure EntriesOK (es : List Entry) (log : List LogEv) : Prop where
  nodup : (eids es).Nodup
  some : ∀ e ∈ es, cursor e.id log = some (e.cron, e.offset, e.last)
  none : ∀ id, id ∉ eids es → cursor id log = none

theorem findEntry_of_mem {es : List Entry} (hn : (eids es).Nodup) {e : Entry} (he : e ∈ es) :
    findEntry e.id es = some e := by
  induction es with
  | nil => cases he
  | cons x xs ih =>
    obtain ⟨hx, hn⟩ : x.id ∉ eids xs ∧ (eids xs).Nodup := List.nodup_cons.mp hn
    rcases List.mem_cons.mp he with rfl | he
    · exact List.find?_cons_of_pos (beq_self_eq_true _)
    · have hne : x.id ≠ e.id := fun h => hx (h ▸ List.mem_map_of_mem he)
      exact (List.find?_cons_of_neg (by simpa using hne)).trans (ih hn he)

theorem findEntry_none {es : List Entry} {id : Nat} (h : id ∉ eids es) : findEntry id es = none :=
  List.find?_eq_none.mpr fun e he hid => h (List.mem_map.mpr ⟨e, he, by simpa using hid⟩)

theorem mem_dropEntry {id : Nat} {es : List Entry} {e : Entry} : e ∈ dropEntry id es ↔ e ∈ es ∧ e.id ≠ id := by
  simp [dropEntry]

theorem entriesOK_others {es : List Entry} {log log' : List LogEv} {id : Nat} (h : EntriesOK es log)
    (hother : ∀ i, i ≠ id → cursor i log' = cursor i log) :
    (eids (dropEntry id es)).Nodup ∧ id ∉ eids (dropEntry id es) ∧
    (∀ x ∈ dropEntry id es, cursor x.id log' = some (x.cron, x.offset, x.last)) ∧
    ∀ i, i ≠ id → i ∉ eids (dropEntry id es) → cursor i log' = none := by
  refine ⟨h.nodup.sublist (List.filter_sublist.map _), fun hm => ?_, fun x hx => ?_, fun i hid hi => ?_⟩
  · obtain ⟨x, hx, hxid⟩ := List.mem_map.mp hm
    exact (mem_dropEntry.mp hx).2 hxid
  · obtain ⟨hx1, hx2⟩ := mem_dropEntry.mp hx
    exact (hother x.id hx2).trans (h.some x hx1)
  · refine (hother i hid).trans (h.none i fun hm => hi ?_)
    obtain ⟨x, hx, rfl⟩ := List.mem_map.mp hm
    exact List.mem_map_of_mem (mem_dropEntry.mpr ⟨hx, hid⟩)

theorem entriesOK_set {es : List Entry} {log log' : List LogEv} (e : Entry) (h : EntriesOK es log)
    (hcur : cursor e.id log' = some (e.cron, e.offset, e.last))
    (hother : ∀ i, i ≠ e.id → cursor i log' = cursor i log) : EntriesOK (setEntry e es) log' :=
  let ⟨k1, k2, k3, k4⟩ := entriesOK_others h hother
  ⟨List.nodup_cons.mpr ⟨k2, k1⟩, List.forall_mem_cons.mpr ⟨hcur, k3⟩,
    fun i hi => k4 i (fun h => hi (h ▸ List.mem_cons_self)) fun hm => hi (List.mem_cons_of_mem _ hm)⟩

theorem entriesOK_drop {es : List Entry} {log log' : List LogEv} (id : Nat) (h : EntriesOK es log)
    (hcur : cursor id log' = none) (hother : ∀ i, i ≠ id → cursor i log' = cursor i log) :
    EntriesOK (dropEntry id es) log' :=
  let ⟨k1, _, k3, k4⟩ := entriesOK_others h hother
  ⟨k1, k3, fun i hi => if hid : i = id then hid ▸ hcur else k4 i hid hi⟩

def runsOfSeg (seg : List LogEv) : List Run := seg.reverse.filterMap tookRun

theorem checkRuns_append (st : St) (a b : List Run) :
    checkRuns st (a ++ b) = match checkRuns st a with
      | .error e => .error e
      | .ok st' => checkRuns st' b := by
  induction a generalizing st with
  | nil => simp [checkRuns]
  | cons r a ih =>
    simp only [List.cons_append, checkRuns]
    cases checkRun st r with
    | error e => rfl
    | ok st' => exact ih st'

/-- the part of the checker state that the plain histories never change -/
structure Plain (st : St) : Prop where
  running : st.running = []
  blocked : st.blocked = []

theorem checkRun_ok (st : St) (hp : Plain st) {log : List LogEv} (hE : EntriesOK st.entries log)
    (w : Nat) (r : Run) (now : Int) (hr : RunOK now log r) (hnow : now ≤ st.now) :
    ∃ st', checkRun st r = .ok st' ∧ EntriesOK st'.entries (LogEv.took w r now :: log) ∧
      st'.now = st.now ∧ st'.n = st.n ∧ Plain st' := by
  obtain ⟨c, off, t, hcur, hct, hat, hle⟩ := hr
  -- the task has a cursor, so the checker has an entry for it, with the cursor's data
  have hin : r.id ∈ eids st.entries :=
    Classical.byContradiction fun hni => nomatch (hE.none r.id hni).symm.trans hcur
  obtain ⟨e, he, heid⟩ := List.mem_map.mp hin
  have hfind := findEntry_of_mem hE.nodup he
  have hce := hE.some e he
  rw [heid] at hfind hce
  cases hce.symm.trans hcur
  unfold checkRun
  simp only [hfind, hct]
  rw [if_neg (fun h => h rfl), if_neg (fun h => h hat), if_neg (Int.not_lt.mpr (Int.le_trans hle hnow)),
    hp.running, hp.blocked]
  refine ⟨_, rfl, entriesOK_set { e with last := r.sf } hE ?_ fun i hi => ?_, rfl, rfl, ⟨rfl, rfl⟩⟩
  · exact (if_pos heid.symm).trans (congrArg (Option.map _) (heid ▸ hcur))
  · exact if_neg fun (h : r.id = i) => hi (h ▸ heid.symm)

theorem checkRuns_seg {blocked : List Nat} (seg : List LogEv) (L : List LogEv) (st : St) (hp : Plain st)
    (hs : SegB blocked st.now seg) (hw : WellOrdered (seg ++ L)) (hE : EntriesOK st.entries L) :
    ∃ st', checkRuns st (runsOfSeg seg) = .ok st' ∧ EntriesOK st'.entries (seg ++ L) ∧
      st'.now = st.now ∧ st'.n = st.n ∧ Plain st' := by
  induction seg with
  | nil => exact ⟨st, rfl, hE, rfl, rfl, hp⟩
  | cons ev seg ih =>
    obtain ⟨hev, hs⟩ := List.forall_mem_cons.mp hs
    obtain ⟨st1, h1, hE1, hn1, hnn1, hp1⟩ := ih hs (wellOrdered_suffix [ev] hw)
    have hsplit : runsOfSeg (ev :: seg) = runsOfSeg seg ++ (tookRun ev).toList := by
      unfold runsOfSeg
      rw [List.reverse_cons, List.filterMap_append]
      cases h : tookRun ev <;> simp [h]
    rw [hsplit, checkRuns_append, h1]
    rcases hev with ⟨w, r, n, rfl, hn⟩ | ⟨w, r, rfl, _⟩
    · obtain ⟨st2, h2, hE2, hn2, hnn2, hp2⟩ := checkRun_ok st1 hp1 hE1 w r n hw.1 (hn1 ▸ hn)
      exact ⟨st2, by simp [tookRun, checkRuns, h2], hE2, hn2.trans hn1, hnn2.trans hnn1, hp2⟩
    · exact ⟨st1, rfl, ⟨hE1.nodup, hE1.some, hE1.none⟩, hn1, hnn1, hp1⟩

theorem runsSince_seg (s : State) (seg L : List LogEv) (h : s.log = seg ++ L) :
    runsSince L.length s = runsOfSeg seg := by
  unfold runsSince runsOfSeg
  rw [h]
  simp [List.length_append]

theorem runsOfSeg_append_notook (seg pre : List LogEv) (h : pre.filterMap tookRun = []) :
    runsOfSeg (seg ++ pre) = runsOfSeg seg := by
  unfold runsOfSeg
  rw [List.reverse_append, List.filterMap_append]
  have : pre.reverse.filterMap tookRun = [] := by
    rw [← List.reverse_nil, ← h, List.filterMap_reverse]
  rw [this, List.nil_append]

theorem checkQuiescent_ok (cfg : Cfg) (s : State) (st : St) (hp : Plain st) (hG : Good cfg s)
    (hE : EntriesOK st.entries s.log) (hnow : st.now = s.now)
    (hq1 : s.mode = .idle) (hq2 : s.tick = false) (hq3 : timerExpired s = false) :
    checkQuiescent st s.when_ = .ok () := by
  obtain ⟨key3, key2⟩ := hG.t.at_rest hq1 hq2 hq3
  -- an entry with a pending due time is a queue item with that due time
  have key1 : ∀ e ∈ st.entries, ∀ d, e.due = some d → ∃ it ∈ s.queue, it.when = d := by
    intro e he d hd
    unfold Entry.due at hd
    cases hn : e.cron e.last with
    | none => rw [hn] at hd; cases hd
    | some n =>
      rw [hn] at hd
      cases hd
      have hcur := hE.some e he
      obtain ⟨it, hit, hid⟩ := mem_ids_iff.mp (hG.p e.id e.cron e.offset e.last n hcur hn)
      obtain ⟨c, off, t, h1, h2, h3, h4⟩ := hG.l.c it hit
      cases (hid ▸ h1).symm.trans hcur
      cases h4.symm.trans hn
      exact ⟨it, hit, h3 ▸ rfl⟩
  -- so it lies in the future, and `when` is set and not after it
  have key : ∀ e ∈ st.entries, ∀ d, e.due = some d → st.now < d ∧ ∃ w, s.when_ = some w ∧ w ≤ d := by
    intro e he d hd
    obtain ⟨it, hit, rfl⟩ := key1 e he d hd
    exact ⟨hnow ▸ key3 it hit, hG.t.when_le hit⟩
  have keyd : ∀ d ∈ st.entries.filterMap Entry.due, ∃ w, s.when_ = some w ∧ w ≤ d := fun d hd =>
    let ⟨e, he, hde⟩ := List.mem_filterMap.mp hd
    (key e he d hde).2
  unfold checkQuiescent
  simp only [hp.running, List.map_nil, List.contains_nil, Bool.not_false, Bool.true_and, List.isEmpty_nil,
    Bool.not_true, Bool.false_eq_true, if_false]
  split
  · next e heq =>
    have hpred := List.find?_some heq
    cases hd : e.due with
    | none => rw [hd] at hpred; cases hpred
    | some d =>
      rw [hd] at hpred
      exact absurd (of_decide_eq_true hpred) (Int.not_le.mpr (key e (List.mem_of_find?_eq_some heq) d hd).1)
  cases hw : s.when_ with
  | none =>
    have : st.entries.filterMap Entry.due = [] := List.eq_nil_iff_forall_not_mem.mpr fun d hd =>
      let ⟨w, hw', _⟩ := keyd d hd
      nomatch hw.symm.trans hw'
    simp only [this, List.isEmpty_nil, if_true]
  | some w =>
    obtain ⟨_, _, h1, h2, _⟩ := key2 w hw
    have hB : (st.entries.filterMap Entry.due).any (fun d => decide (d < w)) = false :=
      List.any_eq_false.mpr fun d hd => by
        obtain ⟨w', hw', hle⟩ := keyd d hd
        cases hw.symm.trans hw'
        exact fun h => Int.not_lt.mpr hle (of_decide_eq_true h)
    simp only [hB, if_neg (show ¬ w ≤ st.now by omega), Bool.false_eq_true, if_false]

structure Rel (st : St) (m : M) : Prop where
  plain : Plain st
  mblocked : m.blocked = []
  now : st.now = m.s.now
  t : InvT m.s
  l : InvL m.s
  p : InvP m.s
  busy : m.s.busy = []
  idle : m.s.mode = .idle
  tick : m.s.tick = false
  timer : timerExpired m.s = false
  entries : EntriesOK st.entries m.s.log

theorem rel_init : Rel {} {} :=
  { plain := ⟨rfl, rfl⟩, mblocked := rfl, now := rfl, t := invT_init, l := invL_init, p := invP_init,
    busy := rfl, idle := rfl, tick := rfl, timer := rfl,
    entries := { nodup := by simp [eids], some := by intro e he; simp at he,
                 none := by intro id _; rfl } }

/-- the settle after the model's part of an operation that the checker has applied too -/
theorem observe_ok (m : M) (hmb : m.blocked = []) (s1 : State) (pre L0 : List LogEv)
    (hlog : s1.log = pre ++ L0) (hpre : pre.filterMap tookRun = [])
    (hG : Good m.cfg s1) (st1 : St) (hp : Plain st1) (hE : EntriesOK st1.entries s1.log)
    (hnow : st1.now = s1.now) (res : Res)
    (hquiet : (observe m L0.length res s1).2.2 = true) (op : Op) (st : St) (happ : applyOp st op res = .ok st1) :
    ∃ o, (observe m L0.length res s1).2.1 = .logic o ∧ o.conc = false ∧ o.ckBad = false ∧
      ∃ st1 st2, applyOp st op o.res = .ok st1 ∧ checkRuns st1 o.runs = .ok st2 ∧
        checkQuiescent st2 o.when_ = .ok () ∧ Rel st2 (observe m L0.length res s1).1 := by
  have hS := settle_inv (P := Good m.cfg) m.cfg m.blocked (fun _ => good_finishFree _ _)
    (fun _ e h => good_step _ h e) (fun _ h => h.t.sorted) macroFuel s1 hG
  unfold observe at hquiet ⊢
  generalize settle true m.cfg m.blocked macroFuel s1 = r at hS hquiet
  obtain ⟨hG', ⟨hnow', seg, hseg, hS⟩, hend⟩ := hS
  -- nothing is held by the environment, so the settle ended at rest with all workers idle
  obtain ⟨hrest, hbusy⟩ := hend (eq_of_beq hquiet ▸ nofun)
  have hq4 : r.1.busy = [] := List.eq_nil_iff_forall_not_mem.mpr fun b hb => nomatch hmb ▸ hbusy b hb
  obtain ⟨hq1, hq2, hq3⟩ := hrest.rest hq4
  have hruns : runsSince L0.length r.1 = runsOfSeg seg := by
    rw [runsSince_seg _ (seg ++ pre) _ (by rw [hseg, hlog, List.append_assoc]), runsOfSeg_append_notook _ _ hpre]
  obtain ⟨st2, hc, hE2, hn2, hnn2, hp2⟩ :=
    checkRuns_seg seg s1.log st1 hp (hnow ▸ hS) (hseg ▸ hG'.l.w) hE
  have hn : st2.now = r.1.now := hn2.trans (hnow.trans hnow'.symm)
  exact ⟨_, rfl, rfl, rfl, st1, st2, happ, hruns ▸ hc,
    checkQuiescent_ok m.cfg _ st2 hp2 hG' (hseg ▸ hE2) hn hq1 hq2 hq3,
    { plain := hp2, mblocked := hmb, now := hn, t := hG'.t, l := hG'.l, p := hG'.p, busy := hq4, idle := hq1,
      tick := hq2, timer := hq3, entries := hseg ▸ hE2 }⟩

theorem settle_quiescent (cfg : Cfg) (s : State) (hb : s.busy = []) (h1 : s.mode = .idle) (h2 : s.tick = false)
    (h3 : timerExpired s = false) (fuel : Nat) : settle true cfg [] (fuel + 1) s = (s, .quiet) := by
  have hf : finishFree [] s = s := by
    cases s
    simp only [finishFree] at *
    simp_all
  simp only [settle, hf, h3, h1, h2]
  simp


theorem plain_with (st : St) (hp : Plain st) (n : Nat) (now : Int) (es : List Entry) :
    Plain { st with n := n, now := now, entries := es } := ⟨hp.running, hp.blocked⟩

theorem step_ok (st : St) (m : M) (hR : Rel st m) (op : Op) (hplain : plainOp op = true)
    (hq : (stepOp m op).2.2 = true) :
    ∃ o, (stepOp m op).2.1 = .logic o ∧ o.conc = false ∧ o.ckBad = false ∧
      ∃ st1 st2, applyOp st op o.res = .ok st1 ∧ checkRuns st1 o.runs = .ok st2 ∧
        checkQuiescent st2 o.when_ = .ok () ∧ Rel st2 (stepOp m op).1 := by
  have hG0 : ∀ cfg, Good cfg m.s := fun cfg => ⟨hR.t, ⟨hR.busy ▸ nofun, hR.busy ▸ .nil⟩, hR.l, hR.p⟩
  have hpl : ∀ n now es, Plain { st with n := n, now := now, entries := es } := plain_with st hR.plain
  cases op with
  | new n =>
    exact observe_ok { m with created := true, cfg := { nworkers := n, hash := xxhash64ofID } } hR.mblocked m.s []
      m.s.log rfl rfl (hG0 _) _ (hpl n _ _) hR.entries hR.now .ok hq (.new n) st rfl
  | sched id isEvery p off last =>
    simp only [stepOp] at hq ⊢
    generalize (if isEvery then alignEvery p last else last) = last' at hq ⊢
    cases hs : schedule m.s id (cronOf isEvery p) off last' with
    | none =>
      rw [hs] at hq
      exact observe_ok m hR.mblocked m.s [] m.s.log rfl rfl (hG0 _) st hR.plain hR.entries hR.now .err hq
        (.sched id isEvery p off last) st rfl
    | some s1 =>
      rw [hs] at hq
      have hG1 : Good m.cfg ((schedule m.s id (cronOf isEvery p) off last').getD m.s) :=
        good_step m.cfg (hG0 m.cfg) (.schedule id (cronOf isEvery p) off last')
      rw [hs] at hG1
      obtain ⟨nt, hnt, rfl⟩ := schedule_some hs
      exact observe_ok m hR.mblocked _ [_] m.s.log rfl rfl hG1 _ (hpl _ _ _)
        (entriesOK_set ⟨id, cronOf isEvery p, off, last'⟩ hR.entries (if_pos rfl)
          fun i hi => if_neg fun h => hi h.symm)
        (hR.now.trans (sameData_armFor m.s _).2.symm) _ hq (.sched id isEvery p off last) st rfl
  | rel id =>
    exact observe_ok m hR.mblocked (release m.s id) [_] m.s.log rfl rfl (good_step m.cfg (hG0 m.cfg) (.release id))
      _ (hpl _ _ _) (entriesOK_drop id hR.entries (if_pos rfl) fun i hi => if_neg fun h => hi h.symm) hR.now .ok hq
      (.rel id) st rfl
  | adv d =>
    have hset : settle true m.cfg m.blocked macroFuel m.s = (m.s, .quiet) :=
      hR.mblocked ▸ settle_quiescent m.cfg m.s hR.busy hR.idle hR.tick hR.timer _
    simp only [stepOp, hset] at hq ⊢
    exact observe_ok m hR.mblocked { m.s with now := m.s.now + d } [] m.s.log rfl rfl
      (good_step m.cfg (hG0 m.cfg) (.advance d)) _ (hpl _ (st.now + d) _) hR.entries
      (congrArg (· + (d : Int)) hR.now) .ok
      (by simpa using hq) (.adv d) st rfl
  | block id => cases hplain
  | unblock id =>
    exact observe_ok { m with blocked := m.blocked.filter (· ≠ id) } (congrArg (List.filter _) hR.mblocked) m.s []
      m.s.log rfl rfl (hG0 _)
      { st with blocked := st.blocked.filter (· ≠ id), running := st.running.filter (· ≠ id) }
      ⟨congrArg (List.filter _) hR.plain.running, congrArg (List.filter _) hR.plain.blocked⟩ hR.entries hR.now .ok hq
      (.unblock id) st rfl
  | spin r a b => cases hplain

theorem check_logic (st : St) (op : Op) (o : Obs) (rest : List (Op × Ans)) (hplain : plainOp op = true)
    (st1 st2 : St) (h1 : applyOp st op o.res = .ok st1) (h2 : checkRuns st1 o.runs = .ok st2)
    (hc : o.conc = false) (hk : o.ckBad = false) (h3 : checkQuiescent st2 o.when_ = .ok ()) :
    check st ((op, .logic o) :: rest) = check st2 rest := by
  cases op with
  | spin r a b => cases hplain
  | _ => simp [check, h1, h2, hc, hk, h3, bind, Except.bind]

/-- the checker accepts the model's trace of every plain history whose settles all came to rest -/
theorem check_trace (ops : List Op) (st : St) (m : M) (hR : Rel st m)
    (hplain : ∀ op ∈ ops, plainOp op = true) (hq : allQuietFrom m ops = true) :
    check st (traceFrom m ops) = .ok () := by
  induction ops generalizing st m with
  | nil => simp [traceFrom, check]
  | cons op rest ih =>
    obtain ⟨hop, hrest⟩ := List.forall_mem_cons.mp hplain
    unfold traceFrom
    unfold allQuietFrom at hq
    by_cases hadm : admissible m.created op = true
    · simp only [hadm, if_true, Bool.and_eq_true] at hq ⊢
      obtain ⟨o, ho, hc, hk, st1, st2, h1, h2, h3, hR'⟩ := step_ok st m hR op hop hq.1
      rw [ho, check_logic st op o _ hop st1 st2 h1 h2 hc hk h3]
      exact ih st2 _ hR' hrest hq.2
    · simp only [hadm] at hq ⊢
      exact ih st m hR hrest hq

end Influx.Lemmas.Sched
