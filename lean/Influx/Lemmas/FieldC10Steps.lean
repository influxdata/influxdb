/-
  Lemmas.FieldC10Steps — every operation of the persistent model keeps the
  invariant `PInv` and is accepted by the statement checker of C10
  (`Spec.C10.stepFails`); used by Props.C10.
-/
import Influx.Lemmas.FieldOpen
import Influx.Lemmas.FieldC40

namespace Influx.Fields
open Influx.Spec.C10

theorem subSchema_of (a b : Schema) (ha : ND a) (h : Sub a b) : subSchema a b = true :=
  all_lookup_of a b ha h

theorem subSchema_elim (a b : Schema) (h : subSchema a b = true) (e : FKey × FType) (he : e ∈ a) :
    b.lookup e.1 = some e.2 :=
  beq_iff_eq.1 (List.all_eq_true.1 h e he)

theorem sameSchema_of_seq (a b : Schema) (ha : ND a) (hb : ND b) (h : SEq a b) : sameSchema a b = true := by
  rw [sameSchema, subSchema_of a b ha h.sub, subSchema_of b a hb h.symm.sub]; rfl

theorem typedBy_of_typed (s : Schema) (d : Store) (h : Typed s d) : typedBy s d = true :=
  List.all_eq_true.2 fun e he => beq_iff_eq.2 (h e he)

theorem sameStore_self (d : Store) (hn : (d.map (·.1)).Nodup) : sameStore d d = true := by
  rw [sameStore, all_lookup_of d d hn fun _ _ h => h]; rfl

theorem hasMeas_false_of_lookup (s : Schema) (hs : ND s) (m : String)
    (h : ∀ k t, s.lookup k = some t → k.1 ≠ m) : hasMeas s m = false :=
  List.any_eq_false.2 fun e he hh => h e.1 e.2 (mem_lookup_of_nodup s hs e he) (beq_iff_eq.1 hh)

theorem lookup_of_hasMeas_false (s : Schema) (m : String) (h : hasMeas s m = false) (k : FKey) (t : FType)
    (hk : s.lookup k = some t) : k.1 ≠ m :=
  fun hkm => List.any_eq_false.1 h (k, t) (mem_of_lookup s k t hk) (beq_iff_eq.2 hkm)

theorem hasMeas_transfer (a b : Schema) (hb : ND b) (m : String) (ha : hasMeas a m = false)
    (h : Sub b a) : hasMeas b m = false :=
  hasMeas_false_of_lookup b hb m fun k t hk => lookup_of_hasMeas_false a m ha k t (h k t hk)

/-- The measurements the checker remembers as dropped, minus those a batch
    mentions, stay absent from a field set whose new entries the batch carries. -/
theorem dropped_after_batch (D : List String) (s s' : Schema) (b : List Point) (hs' : ND s')
    (hD : ∀ m ∈ D, hasMeas s m = false)
    (hnew : ∀ k t, s'.lookup k = some t → s.lookup k = some t ∨ carries b k t = true) :
    ∀ m ∈ D.filter (fun m => !b.any (fun p => p.meas == m)), hasMeas s' m = false := by
  intro m hm
  obtain ⟨hm1, hm2⟩ := List.mem_filter.1 hm
  refine hasMeas_false_of_lookup s' hs' m fun k t hk hkm => ?_
  rcases hnew k t hk with h1 | h1
  · exact lookup_of_hasMeas_false s m (hD m hm1) k t h1 hkm
  · obtain ⟨p, hp, hpc⟩ := List.any_eq_true.1 h1
    rw [List.any_eq_true.2 ⟨p, hp, hkm ▸ (Bool.and_eq_true_iff.1 hpc).1⟩] at hm2
    exact nomatch hm2

theorem dropped_after_drop (D : List String) (s' : Schema) (m : String)
    (hD : ∀ m' ∈ D, hasMeas s' m' = false) (hm : hasMeas s' m = false) :
    ∀ m' ∈ (if D.contains m then D else m :: D), hasMeas s' m' = false := by
  intro m' hm'
  split at hm'
  · exact hD m' hm'
  · rcases List.mem_cons.1 hm' with rfl | h1
    · exact hm
    · exact hD m' h1

namespace C10Steps

structure Rel (M : Mem) (st : PState) : Prop where
  cur : M.cur = { sch := st.mem, store := some st.data }
  dropped : ∀ m ∈ M.dropped, hasMeas st.mem m = false

/-- the checker accepts the observed step and the simulation goes on -/
def Ok (M : Mem) (r : PState × Step10) : Prop :=
  (stepFails M r.2).1 = none ∧ PInv r.1 ∧ Rel (stepFails M r.2).2 r.1

theorem seenFails_ok (st : PState) (h : PInv st) :
    seenFails { sch := st.mem, store := some st.data } = none := by
  simp only [seenFails, show functional st.mem = true from decide_eq_true h.ndMem, typedBy_of_typed _ _ h.typed, Bool.not_true,
    Bool.false_eq_true, if_false, if_true]

theorem disk_append {idx mem : Schema} {log : List ChangeSet} (h : SEq (replay idx log.flatten) mem)
    (r : ChangeSet) : SEq (replay idx (log ++ [r]).flatten) (replay mem r) := by
  rw [List.flatten_concat, replay_append]
  exact replay_congr h r

/-- `saveFieldsAndMeasurements`: the record of the created fields is appended, unless there is none -/
theorem disk_created {idx mem : Schema} {log : Option (List ChangeSet)}
    (h : SEq (replay idx (log.getD []).flatten) mem) (cr : List (FKey × FType)) :
    SEq (replay idx ((if cr.isEmpty then log else some (log.getD [] ++ [createdRecord cr])).getD []).flatten)
      (replay mem (createdRecord cr)) := by
  split
  · next he => rw [List.isEmpty_iff.1 he]; exact h
  · exact disk_append h _

theorem pWrite_eq (st : PState) (b : List Point) :
    pWrite st b =
      ({ st with
          mem := (verdicts st.mem b).1
          data := (accE (verdicts st.mem b).2.2).foldl upsert st.data
          series := touchSeries st.series b
          log := if (verdicts st.mem b).2.1.isEmpty then st.log
                 else some (st.log.getD [] ++ [createdRecord (verdicts st.mem b).2.1]) },
       (writePoints { sch := st.mem, data := st.data } b).2) := by
  obtain ⟨h1, h2, _⟩ := validate_eq st.mem b
  simp only [pWrite, h1, h2, (writePoints_state { sch := st.mem, data := st.data } b).1]
  split <;> rfl

theorem pWrite_mem (st : PState) (b : List Point) : (pWrite st b).1.mem = (verdicts st.mem b).1 := by
  rw [pWrite_eq]

theorem pWrite_sub (st : PState) (b : List Point) : Sub st.mem (pWrite st b).1.mem := by
  rw [pWrite_mem]; exact verdicts_sub b st.mem

theorem pWrite_new (st : PState) (b : List Point) (k : FKey) (t : FType)
    (h : (pWrite st b).1.mem.lookup k = some t) : st.mem.lookup k = some t ∨ carries b k t = true := by
  rw [pWrite_mem] at h; exact verdicts_new b st.mem k t h

theorem touchSeries_old (series : List String) (b : List Point) (m : String)
    (h : series.contains m = true) : (touchSeries series b).contains m = true :=
  List.contains_iff_mem.2 (List.mem_append_left _ (List.contains_iff_mem.1 h))

theorem touchSeries_new (series : List String) (b : List Point) (p : Point) (hp : p ∈ b)
    (ht : hasTimeTag p = false) : (touchSeries series b).contains p.meas = true := by
  refine List.contains_iff_mem.2 (List.mem_append.2 ?_)
  by_cases hs : p.meas ∈ series
  · exact Or.inl hs
  · refine Or.inr (List.mem_eraseDups.2 (List.mem_filter.2 ⟨List.mem_map.2 ⟨p, List.mem_filter.2 ⟨hp, ?_⟩, rfl⟩, ?_⟩))
    · rw [ht]; rfl
    · rw [List.contains_eq_mem, decide_eq_false hs]; rfl

theorem write_inv (st : PState) (b : List Point) (h : PInv st) : PInv (pWrite st b).1 := by
  rw [pWrite_eq]
  refine ⟨verdicts_nd b st.mem h.ndMem, h.ndIdx, nodup_foldl_upsert _ _ h.ndData, ?_, ?_, ?_⟩
  · intro e he
    rcases mem_foldl_upsert _ _ e he with h1 | h1
    · obtain ⟨p, v, f, hm, ha, hf, hn, rfl⟩ := accE_elim h1
      exact verdicts_typed b st.mem p v hm ha f hf hn
    · exact verdicts_sub b st.mem _ _ (h.typed e h1)
  · -- the log gains the record of the created fields, whose replay is the new field set
    have hd := disk_created h.disk (verdicts st.mem b).2.1
    rw [verdicts_replay] at hd
    exact hd
  · intro e he
    rcases mem_foldl_upsert _ _ e he with h1 | h1
    · obtain ⟨p, v, f, hm, ha, _, _, rfl⟩ := accE_elim h1
      have hp : p ∈ b := verdicts_map_fst st.mem b ▸ List.mem_map_of_mem (f := (·.1)) hm
      exact touchSeries_new _ _ p hp (accepted_no_timeTag st.mem b p v hm ha)
    · exact touchSeries_old _ _ _ (h.seriesOK e h1)

theorem conflicts_le_dropped (s : Schema) (b : List Point) :
    b.countP (conflictsWith s) ≤ countDropped (verdicts s b).2.2 := by
  conv => lhs; rw [← verdicts_map_fst s b]
  rw [List.countP_map]
  refine List.countP_mono_left fun pv hpv hc => ?_
  rw [verdicts_conflict b s pv.1 pv.2 hpv hc]; rfl

theorem write_ok (M : Mem) (st : PState) (b : List Point) (hI : PInv st) (hR : Rel M st) :
    Ok M (step10 st (.write b)) := by
  have hI' := write_inv st b hI
  show Ok M ((pWrite st b).1, .write b (pWrite st b).2 (seen (pWrite st b).1))
  rw [seen_eq _ hI']
  refine ⟨?_, hI', rfl, ?_⟩
  · have hconf := conflicts_le_dropped st.mem b
    have hsub := subSchema_of _ _ hI.ndMem (pWrite_sub st b)
    rcases writePoints_res { sch := st.mem, data := st.data } b with ⟨h1, h2⟩ | ⟨r, h1⟩
    · have h0 : b.countP (conflictsWith st.mem) = 0 := Nat.le_zero.1 (h2 ▸ hconf)
      simp only [stepFails, show (pWrite st b).2 = _ from h1, seenFails_ok _ hI', hR.cur, hsub, h0,
        gt_iff_lt, Nat.lt_irrefl, if_false, if_true, Option.or_none]
    · simp only [stepFails, show (pWrite st b).2 = _ from h1, seenFails_ok _ hI', hR.cur, hsub,
        Nat.not_lt.2 hconf, if_false, if_true, Option.or_none]
  · exact dropped_after_batch _ st.mem _ b hI'.ndMem hR.dropped (pWrite_new st b)

theorem pDrop_mem (st : PState) (m : String) :
    (pDrop st m).mem = if dropApplies st m then dropMeas st.mem m else st.mem := by
  unfold pDrop; split <;> rfl

theorem dropMeas_sub (s : Schema) (m : String) : Sub (dropMeas s m) s := by
  intro k t h
  rw [lookup_dropMeas] at h
  split at h
  · cases h
  · exact h

theorem pDrop_sub (st : PState) (m : String) : Sub (pDrop st m).mem st.mem := by
  rw [pDrop_mem]
  split
  · exact dropMeas_sub _ _
  · exact Sub.refl _

theorem hasMeas_dropMeas (s : Schema) (hs : ND s) (m : String) : hasMeas (dropMeas s m) m = false :=
  hasMeas_false_of_lookup _ (nd_dropMeas s m hs) m fun k t hk hkm => by
    rw [lookup_dropMeas, if_pos hkm] at hk; cases hk

theorem lookup_filter_meas (s : Schema) (m : String) (k : FKey) :
    (s.filter (fun e => e.1.1 != m)).lookup k = if k.1 = m then none else s.lookup k :=
  lookup_dropMeas s m k

theorem drop_inv (st : PState) (m : String) (h : PInv st) : PInv (pDrop st m) := by
  unfold pDrop
  split
  · refine ⟨nd_dropMeas _ _ h.ndMem, h.ndIdx, nodup_keys_filter _ _ h.ndData, ?_, disk_append h.disk _, ?_⟩
    · intro e he
      obtain ⟨he1, he2⟩ := List.mem_filter.1 he
      show (dropMeas st.mem m).lookup (e.1.1, e.1.2.2.1) = some e.2.1
      rw [lookup_dropMeas, if_neg (bne_iff_ne.1 he2)]
      exact h.typed e he1
    · intro e he
      obtain ⟨he1, he2⟩ := List.mem_filter.1 he
      exact List.contains_iff_mem.2 (List.mem_filter.2 ⟨List.contains_iff_mem.1 (h.seriesOK e he1), he2⟩)
  · exact h

/-- a measurement with stored values has a series and a value: the drop applies -/
theorem dropApplies_of_data (st : PState) (h : PInv st) (m : String) (e : EKey × Val) (he : e ∈ st.data)
    (hem : e.1.1 = m) : dropApplies st m = true := by
  rw [dropApplies, ← hem, h.seriesOK e he, List.isEmpty_eq_false_iff_exists_mem.2 ⟨e, he⟩]; rfl

theorem drop_ok (M : Mem) (st : PState) (m : String) (hI : PInv st) (hR : Rel M st) :
    Ok M (step10 st (.drop m)) := by
  have hI' := drop_inv st m hI
  show Ok M (pDrop st m, .drop m true (seen (pDrop st m)))
  rw [seen_eq _ hI']
  have hkeep : ∀ m' ∈ M.dropped, hasMeas (pDrop st m).mem m' = false := fun m' hm' =>
    hasMeas_transfer _ _ hI'.ndMem m' (hR.dropped m' hm') (pDrop_sub st m)
  refine ⟨?_, hI', rfl, ?_⟩
  · have hsub : subSchema (pDrop st m).mem st.mem = true := subSchema_of _ _ hI'.ndMem (pDrop_sub st m)
    have hothers : sameSchema (st.mem.filter (fun e => e.1.1 != m))
        ((pDrop st m).mem.filter (fun e => e.1.1 != m)) = true := by
      refine sameSchema_of_seq _ _ (nd_dropMeas _ _ hI.ndMem) (nd_dropMeas _ _ hI'.ndMem) fun k => ?_
      rw [pDrop_mem]
      by_cases ha : dropApplies st m = true
      · rw [if_pos ha, lookup_filter_meas, lookup_filter_meas, lookup_dropMeas]
        by_cases hk : k.1 = m
        · rw [if_pos hk, if_pos hk]
        · rw [if_neg hk, if_neg hk]
      · rw [if_neg ha]
    have hgone : (st.data.any (fun e => e.1.1 == m) && hasMeas (pDrop st m).mem m) = false := by
      cases hd : st.data.any (fun e => e.1.1 == m)
      · rfl
      · obtain ⟨e, he, hem⟩ := List.any_eq_true.1 hd
        rw [pDrop_mem, if_pos (dropApplies_of_data st hI m e he (beq_iff_eq.1 hem)), hasMeas_dropMeas _ hI.ndMem]
        rfl
    simp only [stepFails, seenFails_ok _ hI', hR.cur, storeOf, Option.getD_some, hothers, hsub, hgone,
      Bool.not_true, Bool.false_eq_true, if_false, if_true, Option.or_none]
  · show ∀ m' ∈ (if (!hasMeas (pDrop st m).mem m) = true then _ else _), _
    cases hrem : hasMeas (pDrop st m).mem m
    · exact dropped_after_drop _ _ m hkeep hrem
    · exact fun m' hm' => hkeep m' (List.mem_filter.1 hm').1

theorem look_ok (M : Mem) (st : PState) (hI : PInv st) (hR : Rel M st) : Ok M (st, .look (seen st)) := by
  rw [seen_eq _ hI]
  refine ⟨?_, hI, rfl, hR.dropped⟩
  simp only [stepFails, seenFails_ok _ hI, hR.cur, sameSchema_of_seq _ _ hI.ndMem hI.ndMem (SEq.refl _),
    storeOf, Option.getD_some, sameStore_self _ hI.ndData, if_true, Option.or_none]

/-- The files of `stc` reconstruct `st`: same data and series, and the snapshot
    with the whole log replayed over it records what `st.mem` records.  Every
    restart and every crash inside a snapshot rewrite opens such files. -/
structure Recon (st stc : PState) : Prop where
  idx : ND (stc.idx.getD [])
  data : stc.data = st.data
  series : stc.series = st.series
  seq : SEq (replay (stc.idx.getD []) (stc.log.getD []).flatten) st.mem

theorem recon_close (st : PState) (hI : PInv st) : Recon st (closeFields st) := by
  unfold closeFields
  split
  · refine ⟨?_, rfl, rfl, ?_⟩
    · show ND (Option.getD (if _ then _ else _) []); rw [snapshot_getD]; exact hI.ndMem
    · show SEq (Option.getD (if _ then _ else _) []) _; rw [snapshot_getD]; exact SEq.refl _
  · exact ⟨hI.ndIdx, rfl, rfl, hI.disk⟩

theorem replay_over_newer {idx s : Schema} {cs : List Change} (h : SEq (replay idx cs) s) :
    SEq (replay s cs) s :=
  (replay_congr h.symm cs).trans ((replay_idem idx cs).trans h)

theorem recon_crashInClose (st : PState) (hI : PInv st) (p : CrashPoint) (stc : PState)
    (hc : crashInClose st p = some stc) : Recon st stc := by
  unfold crashInClose at hc
  split at hc
  · cases hc
  · split at hc <;> split at hc <;> cases hc
    · exact ⟨hI.ndIdx, rfl, rfl, hI.disk⟩
    · exact ⟨hI.ndMem, rfl, rfl, replay_over_newer hI.disk⟩
    · next he =>
      have hnil := List.isEmpty_iff.1 he
      exact ⟨List.nodup_nil, rfl, rfl, by rw [hnil]; exact replay_nil_of_empty _ _ (hnil ▸ hI.disk)⟩

theorem recon_crashInOpen (st : PState) (hI : PInv st) (p : CrashPoint) (stc : PState)
    (hc : crashInOpen st p = some stc) : Recon st stc := by
  have hd := hI.disk
  unfold crashInOpen at hc
  dsimp only at hc
  by_cases hr : (st.log.getD []).isEmpty = true
  · rw [if_pos hr] at hc
    rw [List.isEmpty_iff.1 hr] at hd hc
    cases p <;> dsimp only at hc <;> try cases hc
    split at hc <;> cases hc
    next he =>
    rw [List.isEmpty_iff.1 he] at hd
    exact ⟨List.nodup_nil, rfl, rfl, hd⟩
  · rw [if_neg hr] at hc
    cases p <;> dsimp only at hc <;> split at hc <;> cases hc
    · exact ⟨hI.ndIdx, rfl, rfl, hd⟩
    · exact ⟨nd_replay _ _ hI.ndIdx, rfl, rfl, (replay_over_newer (SEq.refl _)).trans hd⟩
    · next he =>
      have h0 : SEq (replay (st.idx.getD []) (st.log.getD []).flatten) [] := by
        rw [List.isEmpty_iff.1 he]; exact SEq.refl _
      exact ⟨List.nodup_nil, rfl, rfl, (replay_nil_of_empty _ _ h0).trans (h0.symm.trans hd)⟩

/-- the operations that stop the shard (cleanly, by a kill, or at a crash point of a
    rewrite of fields.idx) and open it again with the whole log in the file -/
def IsRestart : Op10 → Prop
  | .reopen | .crash | .crashInClose _ | .crashInOpen _ => True
  | _ => False

theorem restart_files (st : PState) (hI : PInv st) (op : Op10) (hop : IsRestart op) :
    ∃ kind stc, step10 st op = reopened (.restart kind) stc (fullLog stc) ∧ Recon st stc := by
  have hkill : Recon st st := ⟨hI.ndIdx, rfl, rfl, hI.disk⟩
  cases op with
  | reopen => exact ⟨.clean, _, rfl, recon_close st hI⟩
  | crash => exact ⟨.kill, st, rfl, hkill⟩
  | crashInClose p =>
    rw [step10]
    split
    · next stc hc => exact ⟨_, stc, rfl, recon_crashInClose st hI p stc hc⟩
    · exact ⟨.clean, _, rfl, recon_close st hI⟩
  | crashInOpen p =>
    rw [step10]
    split
    · next stc hc => exact ⟨_, stc, rfl, recon_crashInOpen st hI p stc hc⟩
    · exact ⟨.kill, st, rfl, hkill⟩
  | _ => exact hop.elim

theorem restart_spec (st : PState) (hI : PInv st) (op : Op10) (hop : IsRestart op) :
    ∃ kind st', step10 st op = (st', .restart kind true { sch := st'.mem, store := some st'.data }) ∧
      PInv st' ∧ SEq st'.mem st.mem ∧ st'.data = st.data := by
  obtain ⟨kind, stc, he, hc⟩ := restart_files st hI op hop
  obtain ⟨st', h0, hI', hs, hd⟩ := reopen_inv (.restart kind) stc (fullLog stc) st.mem hc.idx
    (hc.data ▸ hI.ndData) (by rw [hc.data, hc.series]; exact hI.seriesOK)
    (by rw [fullLog, cutLog_full _ _ (Nat.le_refl _)]; exact hc.seq) (hc.data ▸ hI.typed)
  exact ⟨kind, st', he.trans h0, hI', hs, hd.trans hc.data⟩

theorem restart_ok (M : Mem) (st : PState) (op : Op10) (hI : PInv st) (hR : Rel M st) (hop : IsRestart op) :
    Ok M (step10 st op) := by
  obtain ⟨kind, st', he, hI', hs, hd⟩ := restart_spec st hI op hop
  have hdrop : ∀ m ∈ M.dropped, hasMeas st'.mem m = false := fun m hm =>
    hasMeas_transfer _ _ hI'.ndMem m (hR.dropped m hm) hs.sub
  rw [he]
  refine ⟨?_, hI', rfl, hdrop⟩
  have h1 : M.dropped.any (hasMeas st'.mem) = false :=
    List.any_eq_false.2 fun m hm => by rw [hdrop m hm]; exact Bool.false_ne_true
  have h3 : sameStore st.data st'.data = true := by rw [hd]; exact sameStore_self _ hI.ndData
  simp only [stepFails, seenFails_ok _ hI', h1, hR.cur, sameSchema_of_seq _ _ hI.ndMem hI'.ndMem hs.symm,
    storeOf, Option.getD_some, h3, Bool.not_true, Bool.false_eq_true, if_false, if_true, Option.or_none]

theorem torn_reopen (mk : Bool → Seen → Step10) (st stc : PState) (last : ChangeSet) (j : Int) (hI : PInv st)
    (hidx : stc.idx = st.idx) (hlog : stc.log.getD [] = st.log.getD [] ++ [last])
    (hnd : (stc.data.map (·.1)).Nodup) (hSer : ∀ e ∈ stc.data, stc.series.contains e.1.1 = true)
    (hT : Typed st.mem stc.data) (hT' : Typed (replay st.mem last) stc.data) :
    ∃ st', reopened mk stc (tornBytes (st.log.getD []) last j) =
        (st', mk true { sch := st'.mem, store := some st'.data }) ∧
      PInv st' ∧ st'.data = stc.data ∧ (SEq st'.mem st.mem ∨ SEq st'.mem (replay st.mem last)) := by
  have hopen := fun T => reopen_inv mk stc (tornBytes (st.log.getD []) last j) T (hidx ▸ hI.ndIdx) hnd hSer
  have hcut : cutLog (stc.log.getD []) (tornBytes (st.log.getD []) last j) = st.log.getD [] ∨
      cutLog (stc.log.getD []) (tornBytes (st.log.getD []) last j) = st.log.getD [] ++ [last] := by
    rw [hlog, tornBytes, cutLog_append]
    generalize (if j < 0 then _ else _ : Nat) = x
    by_cases hx : recordLen last ≤ x
    · exact Or.inr (if_pos hx)
    · exact Or.inl (if_neg hx)
  rcases hcut with hcut | hcut
  · obtain ⟨st', h0, hI', hs, hd⟩ := hopen st.mem (by rw [hcut, hidx]; exact hI.disk) hT
    exact ⟨st', h0, hI', hd, Or.inl hs⟩
  · obtain ⟨st', h0, hI', hs, hd⟩ := hopen _ (by rw [hcut, hidx]; exact disk_append hI.disk last) hT'
    exact ⟨st', h0, hI', hd, Or.inr hs⟩

theorem tornWrite_ok (M : Mem) (st : PState) (b : List Point) (st' : PState)
    (hI : PInv st) (hR : Rel M st) (hI' : PInv st') (hd : st'.data = st.data)
    (hkeep : Sub st.mem st'.mem)
    (hnew : ∀ k t, st'.mem.lookup k = some t → st.mem.lookup k = some t ∨ carries b k t = true) :
    Ok M (st', .tornWrite b true { sch := st'.mem, store := some st'.data }) := by
  have hdrop := dropped_after_batch _ st.mem _ b hI'.ndMem hR.dropped hnew
  refine ⟨?_, hI', rfl, hdrop⟩
  have h1 : (M.dropped.filter (fun m => !b.any (fun p => p.meas == m))).any (hasMeas st'.mem) = false :=
    List.any_eq_false.2 fun m hm => by rw [hdrop m hm]; exact Bool.false_ne_true
  have h3 : st'.mem.all (fun e => st.mem.lookup e.1 == some e.2 || carries b e.1 e.2) = true :=
    List.all_eq_true.2 fun e he => by
      rcases hnew e.1 e.2 (mem_lookup_of_nodup _ hI'.ndMem e he) with h | h
      · rw [h, beq_self_eq_true]; rfl
      · rw [h, Bool.or_true]
  have h4 : sameStore st.data st'.data = true := by rw [hd]; exact sameStore_self _ hI.ndData
  simp only [stepFails, seenFails_ok _ hI', h1, hR.cur, h3, h4, subSchema_of _ _ hI.ndMem hkeep,
    storeOf, Option.getD_some, Bool.not_true, Bool.false_eq_true, if_false, if_true, Option.or_none]

theorem writeTorn_ok (M : Mem) (st : PState) (j : Int) (b : List Point) (hI : PInv st) (hR : Rel M st) :
    Ok M (step10 st (.writeTorn j b)) := by
  rw [step10]
  split
  · exact write_ok M st b hI hR
  · next stc last hc =>
    rw [pWriteCrash, (validate_eq st.mem b).2.1] at hc
    split at hc
    · cases hc
    · cases hc
      obtain ⟨st', h0, hI', hd, hs⟩ := torn_reopen (.tornWrite b) st
        (appendLog { st with series := touchSeries st.series b } _) _ j hI rfl rfl hI.ndData
        (fun e he => touchSeries_old _ _ _ (hI.seriesOK e he)) hI.typed
        (fun e he => by rw [verdicts_replay]; exact verdicts_sub b st.mem _ _ (hI.typed e he))
      rw [h0, verdicts_replay] at *
      refine tornWrite_ok M st b st' hI hR hI' hd ?_ ?_
      all_goals rcases hs with hs | hs
      · exact hs.symm.sub
      · exact (verdicts_sub b st.mem).trans hs.symm.sub
      · exact fun k t hk => Or.inl (hs.sub k t hk)
      · exact fun k t hk => verdicts_new b st.mem k t (hs.sub k t hk)

theorem tornDrop_ok (M : Mem) (st : PState) (m : String) (st' : PState)
    (hI : PInv st) (hR : Rel M st) (hI' : PInv st') (hd : st'.data = st.data.filter (fun e => e.1.1 != m))
    (hsub : Sub st'.mem st.mem) (hkeep : Sub (dropMeas st.mem m) st'.mem) :
    Ok M (st', .tornDrop m true { sch := st'.mem, store := some st'.data }) := by
  have hkeepd : ∀ m' ∈ M.dropped, hasMeas st'.mem m' = false := fun m' hm' =>
    hasMeas_transfer _ _ hI'.ndMem m' (hR.dropped m' hm') hsub
  refine ⟨?_, hI', rfl, ?_⟩
  · have h1 : (M.dropped.filter (· != m)).any (hasMeas st'.mem) = false :=
      List.any_eq_false.2 fun m' hm' => by
        rw [hkeepd m' (List.mem_filter.1 hm').1]; exact Bool.false_ne_true
    have h4 : sameStore (st.data.filter (fun e => e.1.1 != m)) st'.data = true := by
      rw [hd]; exact sameStore_self _ (nodup_keys_filter _ _ hI.ndData)
    have h2 : subSchema (st.mem.filter (fun e => e.1.1 != m)) st'.mem = true :=
      subSchema_of (dropMeas st.mem m) _ (nd_dropMeas _ m hI.ndMem) hkeep
    simp only [stepFails, seenFails_ok _ hI', h1, hR.cur, h2, h4,
      subSchema_of _ _ hI'.ndMem hsub, storeOf, Option.getD_some,
      Bool.not_true, Bool.false_eq_true, if_false, if_true, Option.or_none]
  · show ∀ m' ∈ (if hasMeas st'.mem m = true then _ else _), _
    cases hh : hasMeas st'.mem m
    · exact dropped_after_drop _ _ m hkeepd hh
    · exact fun m' hm' => hkeepd m' (List.mem_filter.1 hm').1

theorem dropTorn_ok (M : Mem) (st : PState) (j : Int) (m : String) (hI : PInv st) (hR : Rel M st) :
    Ok M (step10 st (.dropTorn j m)) := by
  rw [step10]
  by_cases ha : dropApplies st m = true
  · rw [if_pos ha]
    have hI1 := drop_inv st m hI
    obtain ⟨hidx, hlog, hdat, hmem⟩ : (pDrop st m).idx = st.idx ∧
        (pDrop st m).log.getD [] = st.log.getD [] ++ [[.del m]] ∧
        (pDrop st m).data = st.data.filter (fun e => e.1.1 != m) ∧
        (pDrop st m).mem = replay st.mem [.del m] := by
      rw [pDrop, if_pos ha]; exact ⟨rfl, rfl, rfl, rfl⟩
    obtain ⟨st', h0, hI', hd, hs⟩ := torn_reopen (.tornDrop m) st (pDrop st m) [.del m] j hI hidx hlog
      hI1.ndData hI1.seriesOK (fun e he => hI.typed e (List.mem_filter.1 (hdat ▸ he)).1) (hmem ▸ hI1.typed)
    rw [h0]
    refine tornDrop_ok M st m st' hI hR hI' (hd.trans hdat) ?_ ?_
    all_goals rcases hs with hs | hs
    · exact hs.sub
    · exact hs.sub.trans (dropMeas_sub _ _)
    · exact (dropMeas_sub _ _).trans hs.symm.sub
    · exact hs.symm.sub
  · rw [if_neg ha]
    have h := drop_ok M st m hI hR
    rw [step10, pDrop, if_neg ha] at h
    exact h

theorem pWrite_not_hard (st : PState) (b : List Point) : hardErrorOf (pWrite st b).2 = none := by
  rcases writePoints_res { sch := st.mem, data := st.data } b with ⟨h1, _⟩ | ⟨r, h1⟩ <;>
    rw [show (pWrite st b).2 = _ from h1] <;> rfl

theorem allOnRecord_of (s : Schema) (b : List Point)
    (h : ∀ p ∈ b, ∀ f ∈ p.fields, f.name ≠ timeName → s.lookup (p.meas, f.name) = some f.ty) :
    allOnRecord s b = true :=
  List.all_eq_true.2 fun p hp => List.all_eq_true.2 fun f hf => by
    by_cases hn : f.name = timeName
    · rw [beq_iff_eq.2 hn]; rfl
    · rw [h p hp f hf hn, beq_self_eq_true, Bool.or_true]

theorem ok_on_record (st : PState) (b : List Point) (h : (pWrite st b).2 = .ok) :
    ∀ p ∈ b, ∀ f ∈ p.fields, f.name ≠ timeName → (pWrite st b).1.mem.lookup (p.meas, f.name) = some f.ty := by
  intro p hp f hf hn
  rw [pWrite_mem]
  rw [← verdicts_map_fst st.mem b] at hp
  obtain ⟨pv, hpv, rfl⟩ := List.mem_map.1 hp
  refine verdicts_typed b st.mem pv.1 pv.2 hpv ?_ f hf hn
  -- `ok` means that no point was refused
  rcases writePoints_res { sch := st.mem, data := st.data } b with ⟨_, h2⟩ | ⟨r, h1⟩
  · simpa using List.countP_eq_zero.1 h2 pv hpv
  · exact nomatch h.symm.trans h1

theorem race_ok (M : Mem) (st : PState) (a b : List Point) (hI : PInv st) (hR : Rel M st) :
    Ok M (step10 st (.race a b)) := by
  have hI1 := write_inv st a hI
  have hI2 := write_inv (pWrite st a).1 b hI1
  have hm2 := pWrite_sub (pWrite st a).1 b
  show Ok M ((pWrite (pWrite st a).1 b).1, .race a b (pWrite st a).2 (pWrite (pWrite st a).1 b).2 (seen _))
  rw [seen_eq _ hI2]
  refine ⟨?_, hI2, rfl, ?_⟩
  · have ha : ((pWrite st a).2 == .ok && !allOnRecord (pWrite (pWrite st a).1 b).1.mem a) = false := by
      by_cases h : (pWrite st a).2 = .ok
      · rw [allOnRecord_of _ a fun p hp f hf hn => hm2 _ _ (ok_on_record st a h p hp f hf hn)]
        exact Bool.and_false _
      · rw [beq_eq_false_iff_ne.2 h]; rfl
    have hb : ((pWrite (pWrite st a).1 b).2 == .ok && !allOnRecord (pWrite (pWrite st a).1 b).1.mem b) = false := by
      by_cases h : (pWrite (pWrite st a).1 b).2 = .ok
      · rw [allOnRecord_of _ b (ok_on_record _ b h)]; exact Bool.and_false _
      · rw [beq_eq_false_iff_ne.2 h]; rfl
    simp only [stepFails, pWrite_not_hard, seenFails_ok _ hI2, hR.cur,
      subSchema_of _ _ hI.ndMem ((pWrite_sub st a).trans hm2), ha, hb, Bool.or_self, Bool.false_eq_true,
      if_false, if_true, Option.or_none]
  · refine dropped_after_batch _ st.mem _ (a ++ b) hI2.ndMem hR.dropped fun k t hk => ?_
    rw [carries, List.any_append, Bool.or_eq_true, ← or_assoc]
    rcases pWrite_new _ b k t hk with h1 | h1
    · exact Or.inl (pWrite_new st a k t h1)
    · exact Or.inr h1

theorem step_ok (M : Mem) (st : PState) (op : Op10) (hI : PInv st) (hR : Rel M st) :
    Ok M (step10 st op) := by
  cases op with
  | write b => exact write_ok M st b hI hR
  | drop m => exact drop_ok M st m hI hR
  | reopen => exact restart_ok M st _ hI hR trivial
  | crash => exact restart_ok M st _ hI hR trivial
  | writeTorn j b => exact writeTorn_ok M st j b hI hR
  | dropTorn j m => exact dropTorn_ok M st j m hI hR
  | crashInClose p => exact restart_ok M st _ hI hR trivial
  | crashInOpen p => exact restart_ok M st _ hI hR trivial
  | race a b => exact race_ok M st a b hI hR
  | snap => exact look_ok M (flushed st) ⟨hI.ndMem, hI.ndIdx, hI.ndData, hI.typed, hI.disk, hI.seriesOK⟩ ⟨hR.cur, hR.dropped⟩
  | look => exact look_ok M st hI hR

theorem firstFailure_trace (M : Mem) (st : PState) (hI : PInv st) (hR : Rel M st) (ops : List Op10) :
    firstFailure M (trace10 st ops) = none := by
  induction ops generalizing M st with
  | nil => rfl
  | cons op ops ih =>
    obtain ⟨h1, h2, h3⟩ := step_ok M st op hI hR
    rw [trace10, firstFailure]
    split
    · next r _ hs => rw [hs] at h1; cases h1
    · next M' hs => rw [hs] at h3; exact ih M' _ h2 h3

def run : PState → List Op10 → PState
  | st, [] => st
  | st, o :: os => run (step10 st o).1 os

theorem run_inv (st : PState) (h : PInv st) (ops : List Op10) : PInv (run st ops) := by
  induction ops generalizing st with
  | nil => exact h
  | cons o os ih =>
    exact ih _ (step_ok { cur := { sch := st.mem, store := some st.data }, dropped := [] } st o h
      ⟨rfl, fun _ hm => nomatch hm⟩).2.1

end C10Steps

end Influx.Fields
