/-
  Lemmas.FieldReplay — what the operations on the in-memory field set do to
  lookups; the replay of the change log as a per-key function; idempotence and
  congruence of the replay.
-/
import Influx.Lemmas.FieldStore
import Influx.Model.FieldLog

namespace Influx.Fields

def SEq (a b : Schema) : Prop := ∀ k, a.lookup k = b.lookup k
def ND (s : Schema) : Prop := (s.map (·.1)).Nodup

theorem SEq.refl (a : Schema) : SEq a a := fun _ => rfl
theorem SEq.symm {a b : Schema} (h : SEq a b) : SEq b a := fun k => (h k).symm
theorem SEq.trans {a b c : Schema} (h1 : SEq a b) (h2 : SEq b c) : SEq a c := fun k => (h1 k).trans (h2 k)

/-- what a change does to key `k`: `none` = nothing, `some v` = sets it to `v` -/
def affect (c : Change) (k : FKey) : Option (Option FType) :=
  match c with
  | .add m f t => if k = (m, f) then some (some t) else none
  | .del m => if k.1 = m then some none else none

/-- the last change of the list that touches `k` -/
def effect : List Change → FKey → Option (Option FType)
  | [], _ => none
  | c :: cs, k => (effect cs k).or (affect c k)

def Sub (a b : Schema) : Prop := ∀ k t, a.lookup k = some t → b.lookup k = some t

theorem Sub.refl (a : Schema) : Sub a a := fun _ _ h => h
theorem Sub.trans {a b c : Schema} (h1 : Sub a b) (h2 : Sub b c) : Sub a c := fun k t h => h2 k t (h1 k t h)
theorem SEq.sub {a b : Schema} (h : SEq a b) : Sub a b := fun k _ hk => (h k).symm.trans hk

theorem lookup_dropMeas (s : Schema) (m : String) (k : FKey) :
    (dropMeas s m).lookup k = if k.1 = m then none else s.lookup k := by
  unfold dropMeas
  rw [lookup_filter_key (fun k : FKey => k.1 != m)]
  by_cases h : k.1 = m
  · rw [if_pos h, if_neg (fun hh => bne_iff_ne.1 hh h)]
  · rw [if_neg h, if_pos (bne_iff_ne.2 h)]

theorem lookup_setField (s : Schema) (k' : FKey) (t : FType) (k : FKey) :
    (setField s k' t).lookup k = if k = k' then some t else s.lookup k := by
  unfold setField
  split
  · next h => rw [h]; exact lookup_cons_eq _ _ _
  · next h => rw [lookup_cons_ne _ _ _ _ h, lookup_filter_ne s k k' h]

theorem createField_some {s : Schema} {k : FKey} {t : FType} {r : Schema × Bool}
    (h : createField s k t = some r) :
    (s.lookup k = some t ∧ r = (s, false)) ∨ (s.lookup k = none ∧ r = ((k, t) :: s, true)) := by
  unfold createField at h
  split at h
  · next t' hl =>
    split at h
    · next ht => exact Or.inl ⟨ht ▸ hl, (Option.some.inj h).symm⟩
    · cases h
  · next hl => exact Or.inr ⟨hl, (Option.some.inj h).symm⟩

theorem createField_none (s : Schema) (k : FKey) (t : FType) :
    createField s k t = none ↔ ∃ t', s.lookup k = some t' ∧ t' ≠ t := by
  unfold createField
  split
  · next t' hl =>
    split
    · next ht => exact ⟨fun h => (nomatch h), fun ⟨_, h1, h2⟩ => (h2 (ht ▸ Option.some.inj (h1.symm.trans hl))).elim⟩
    · next ht => exact ⟨fun _ => ⟨t', hl, ht⟩, fun _ => rfl⟩
  · next hl => exact ⟨fun h => (nomatch h), fun ⟨_, h1, _⟩ => nomatch h1.symm.trans hl⟩

theorem lookup_createField (s : Schema) (k' : FKey) (t : FType) (r : Schema × Bool)
    (h : createField s k' t = some r) (k : FKey) :
    r.1.lookup k = if k = k' then some t else s.lookup k := by
  rcases createField_some h with ⟨hl, rfl⟩ | ⟨_, rfl⟩
  · split
    · next hk => rw [hk]; exact hl
    · rfl
  · split
    · next hk => rw [hk]; exact lookup_cons_eq _ _ _
    · next hk => exact lookup_cons_ne _ _ _ _ hk

theorem createField_sub (s : Schema) (k : FKey) (t : FType) (r : Schema × Bool)
    (h : createField s k t = some r) : Sub s r.1 := by
  intro k' t' hk'
  rcases createField_some h with ⟨_, rfl⟩ | ⟨hl, rfl⟩
  · exact hk'
  · rw [← hk']
    exact lookup_cons_ne _ _ _ _ (fun hk => nomatch (hk ▸ hk').symm.trans hl)

theorem lookup_applyChange (s : Schema) (c : Change) (k : FKey) :
    (applyChange s c).lookup k = (affect c k).getD (s.lookup k) := by
  cases c with
  | del m =>
    rw [show applyChange s (.del m) = dropMeas s m from rfl, lookup_dropMeas]
    simp only [affect]; split <;> rfl
  | add m f t =>
    have h : (applyChange s (.add m f t)).lookup k = if k = (m, f) then some t else s.lookup k := by
      simp only [applyChange]
      split
      · next r hc => exact lookup_createField s (m, f) t r hc k
      · exact lookup_setField s (m, f) t k
    rw [h]; simp only [affect]; split <;> rfl

theorem nd_dropMeas (s : Schema) (m : String) (h : ND s) : ND (dropMeas s m) :=
  nodup_keys_filter s _ h

theorem nd_createField (s : Schema) (k : FKey) (t : FType) (r : Schema × Bool)
    (hc : createField s k t = some r) (h : ND s) : ND r.1 := by
  rcases createField_some hc with ⟨_, rfl⟩ | ⟨hl, rfl⟩
  · exact h
  · refine List.nodup_cons.2 ⟨fun hm => ?_, h⟩
    obtain ⟨x, hx, hxe⟩ := List.mem_map.1 hm
    exact bne_iff_ne.1 (List.lookup_eq_none_iff.1 hl x hx) hxe.symm

theorem nd_applyChange (s : Schema) (c : Change) (h : ND s) : ND (applyChange s c) := by
  cases c with
  | del m => exact nd_dropMeas s m h
  | add m f t =>
    simp only [applyChange]
    split
    · next r hc => exact nd_createField s (m, f) t r hc h
    · exact nodup_cons_filter s ((m, f), t) h

theorem nd_replay (s : Schema) (cs : List Change) (h : ND s) : ND (replay s cs) := by
  unfold replay
  induction cs generalizing s with
  | nil => exact h
  | cons c cs ih => exact ih _ (nd_applyChange s c h)

/-- **replay, per key**: the type recorded for `k` after the replay is decided by
    the last change touching `k`; untouched keys keep their type -/
theorem lookup_replay (s : Schema) (cs : List Change) (k : FKey) :
    (replay s cs).lookup k = (effect cs k).getD (s.lookup k) := by
  unfold replay
  induction cs generalizing s with
  | nil => rfl
  | cons c cs ih =>
    simp only [List.foldl_cons, effect]
    rw [ih, lookup_applyChange]
    cases effect cs k <;> rfl

theorem replay_congr {a b : Schema} (h : SEq a b) (cs : List Change) : SEq (replay a cs) (replay b cs) := by
  intro k; rw [lookup_replay, lookup_replay, h k]

theorem replay_idem (s : Schema) (cs : List Change) : SEq (replay (replay s cs) cs) (replay s cs) := by
  intro k
  rw [lookup_replay (replay s cs), lookup_replay s]
  cases effect cs k <;> rfl

theorem replay_append (s : Schema) (a b : List Change) : replay s (a ++ b) = replay (replay s a) b := by
  unfold replay; exact List.foldl_append

theorem replay_nil_of_empty (s : Schema) (cs : List Change) (h : SEq (replay s cs) []) : SEq (replay [] cs) [] := by
  intro k
  have := h k
  rw [lookup_replay] at this ⊢
  cases he : effect cs k with
  | none => rfl
  | some v => rw [he] at this; exact this

end Influx.Fields
