/-
  Lemmas.FieldStore — association-list facts about the abstract engine content
  (`Store`, `upsert`, `engineWrite`) used by C40 and C10.
-/
import Influx.Model.FieldSchema

namespace Influx.Fields

variable {α β : Type} [BEq α] [LawfulBEq α]

theorem lookup_cons_eq (l : List (α × β)) (k : α) (v : β) : ((k, v) :: l).lookup k = some v :=
  List.lookup_cons_self

theorem lookup_cons_ne (l : List (α × β)) (k a : α) (v : β) (h : k ≠ a) :
    ((a, v) :: l).lookup k = l.lookup k := by
  rw [List.lookup_cons, beq_false_of_ne h]

theorem lookup_filter_key (p : α → Bool) (l : List (α × β)) (k : α) :
    (l.filter (fun x => p x.1)).lookup k = if p k then l.lookup k else none := by
  induction l with
  | nil => cases p k <;> rfl
  | cons a l ih =>
    obtain ⟨a1, a2⟩ := a
    by_cases hk : k = a1
    · subst hk
      cases hp : p k
      · rw [List.filter_cons_of_neg (p := fun x : α × β => p x.1) (by rw [hp]; exact Bool.false_ne_true), ih, hp]; rfl
      · rw [List.filter_cons_of_pos (p := fun x : α × β => p x.1) hp, lookup_cons_eq, lookup_cons_eq]; rfl
    · rw [lookup_cons_ne _ _ _ _ hk, ← ih]
      cases hp : p a1
      · rw [List.filter_cons_of_neg (p := fun x : α × β => p x.1) (by rw [hp]; exact Bool.false_ne_true)]
      · rw [List.filter_cons_of_pos (p := fun x : α × β => p x.1) hp, lookup_cons_ne _ _ _ _ hk]

theorem lookup_filter_ne (l : List (α × β)) (k k' : α) (h : k ≠ k') :
    (l.filter (fun x => x.1 != k')).lookup k = l.lookup k := by
  rw [lookup_filter_key (· != k'), if_pos (bne_iff_ne.2 h)]

theorem lookup_upsert (d : Store) (e : EKey × Val) (k : EKey) :
    (upsert d e).lookup k = if k = e.1 then some e.2 else d.lookup k := by
  unfold upsert
  split
  · next h => rw [h]; exact lookup_cons_eq _ _ _
  · next h => rw [lookup_cons_ne _ _ _ _ h, lookup_filter_ne d k e.1 h]

theorem mem_lookup_of_nodup (l : List (α × β)) (hn : (l.map (·.1)).Nodup) (e : α × β) (he : e ∈ l) :
    l.lookup e.1 = some e.2 := by
  induction l with
  | nil => cases he
  | cons a l ih =>
    rw [List.map_cons, List.nodup_cons] at hn
    rcases List.mem_cons.1 he with rfl | h
    · exact lookup_cons_eq _ _ _
    · rw [lookup_cons_ne _ _ _ _ (fun hh => hn.1 (by rw [← hh]; exact List.mem_map_of_mem h))]
      exact ih hn.2 h

theorem lookup_none_of_not_mem (l : List (α × β)) (k : α) (h : k ∉ l.map (·.1)) : l.lookup k = none :=
  List.lookup_eq_none_iff.2 fun _ hp => bne_iff_ne.2 fun hk => h (hk ▸ List.mem_map_of_mem hp)

theorem mem_of_lookup (l : List (α × β)) (k : α) (v : β) (h : l.lookup k = some v) : (k, v) ∈ l := by
  obtain ⟨l₁, l₂, rfl, _⟩ := List.lookup_eq_some_iff.1 h
  exact List.mem_append_right _ List.mem_cons_self

/-- the checkers' "every entry of `a` reads the same in `b`" -/
theorem all_lookup_of [BEq β] [LawfulBEq β] (a b : List (α × β)) (ha : (a.map (·.1)).Nodup)
    (h : ∀ k v, a.lookup k = some v → b.lookup k = some v) :
    a.all (fun e => b.lookup e.1 == some e.2) = true :=
  List.all_eq_true.2 fun e he => beq_iff_eq.2 (h e.1 e.2 (mem_lookup_of_nodup a ha e he))

omit [BEq α] [LawfulBEq α] in
theorem nodup_keys_filter (l : List (α × β)) (p : α × β → Bool) (hn : (l.map (·.1)).Nodup) :
    ((l.filter p).map (·.1)).Nodup :=
  List.Nodup.sublist (List.Sublist.map _ List.filter_sublist) hn

theorem nodup_cons_filter (l : List (α × β)) (e : α × β) (hn : (l.map (·.1)).Nodup) :
    ((e :: l.filter (fun x => x.1 != e.1)).map (·.1)).Nodup := by
  rw [List.map_cons, List.nodup_cons]
  refine ⟨fun hm => ?_, nodup_keys_filter l _ hn⟩
  obtain ⟨x, hx, hxe⟩ := List.mem_map.1 hm
  exact bne_iff_ne.1 (List.mem_filter.1 hx).2 hxe

theorem nodup_foldl_upsert (es : List (EKey × Val)) (d : Store) (hn : (d.map (·.1)).Nodup) :
    ((es.foldl upsert d).map (·.1)).Nodup := by
  induction es generalizing d with
  | nil => exact hn
  | cons e es ih => exact ih _ (nodup_cons_filter d e hn)

theorem lookup_foldl_upsert (es : List (EKey × Val)) (d : Store) (k : EKey)
    (hn : (es.map (·.1)).Nodup) :
    (es.foldl upsert d).lookup k = (es.lookup k).or (d.lookup k) := by
  induction es generalizing d with
  | nil => rfl
  | cons e es ih =>
    rw [List.map_cons, List.nodup_cons] at hn
    rw [List.foldl_cons, ih _ hn.2, lookup_upsert]
    split
    · next h => rw [h, lookup_cons_eq, lookup_none_of_not_mem es e.1 hn.1]; rfl
    · next h => rw [lookup_cons_ne _ _ _ _ h]

theorem mem_foldl_upsert (es : List (EKey × Val)) (d : Store) (x : EKey × Val)
    (hx : x ∈ es.foldl upsert d) : x ∈ es ∨ x ∈ d := by
  induction es generalizing d with
  | nil => exact Or.inr hx
  | cons e es ih =>
    rcases ih _ hx with h | h
    · exact Or.inl (List.mem_cons_of_mem _ h)
    · rcases List.mem_cons.1 h with rfl | h'
      · exact Or.inl List.mem_cons_self
      · exact Or.inr (List.mem_filter.1 h').1

end Influx.Fields
