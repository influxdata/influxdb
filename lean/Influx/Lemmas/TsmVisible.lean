/-
  Lemmas.TsmVisible — consequences of `TInv`: `ContainsValue` is exactly "a block of
  the key contains t and no request for the key covers t"; the invariant holds for a
  freshly opened index.
-/
import Influx.Lemmas.TsmHidden

namespace Influx.Tsm
open Influx.Generated.TsmLayout

def hasPoint (kes : List KeyEntry) (k : Key) (t : Int) : Prop :=
  ∃ ke ∈ kes, ke.key = k ∧ ∃ e ∈ ke.entries, e.MinTime ≤ t ∧ t ≤ e.MaxTime

theorem find_of_mem_sorted {l : List KeyEntry} (hs : SortedKE l) {ke : KeyEntry} (h : ke ∈ l) :
    l.find? (fun x => x.key = ke.key) = some ke := by
  cases hf : l.find? (fun x => x.key = ke.key) with
  | none => exact absurd (List.find?_eq_none.mp hf ke h) (by simp)
  | some x =>
    exact congrArg some (sorted_key_inj hs (List.mem_of_find?_eq_some hf) h (by simpa using List.find?_some hf))

theorem mem_entriesOf {ix : Index} (h : IndexInv ix) {k : Key} {e : IndexEntry} :
    e ∈ entriesOf ix k ↔ ∃ ke ∈ ix.live, ke.key = k ∧ e ∈ ke.entries := by
  unfold entriesOf
  rw [search_eq_find h]
  constructor
  · intro he
    cases hf : ix.live.find? (fun ke => ke.key = k) with
    | none => rw [hf] at he; cases he
    | some ke =>
      rw [hf] at he
      exact ⟨ke, List.mem_of_find?_eq_some hf, by simpa using List.find?_some hf, he⟩
  · rintro ⟨ke, hke, rfl, he⟩
    rw [find_of_mem_sorted h.sortedLive hke]; exact he

theorem containsValue_live {ix : Index} (h : IndexInv ix) (k : Key) (t : Int) :
    containsValue ix k t = true ↔ hasPoint ix.live k t ∧ ¬ coveredTR (tombRange ix k) t := by
  have hany : (tombRange ix k).any (fun r => decide (r.Min ≤ t) && decide (r.Max ≥ t)) = true ↔
      coveredTR (tombRange ix k) t := by
    simp only [coveredTR, List.any_eq_true, Bool.and_eq_true, decide_eq_true_eq, ge_iff_le]
  have hent : (entryOf ix k t).isSome = true ↔ hasPoint ix.live k t := by
    unfold entryOf hasPoint
    simp only [List.find?_isSome, mem_entriesOf h, entryContains, Bool.and_eq_true, decide_eq_true_eq]
    constructor
    · rintro ⟨e, ⟨ke, hke, hk, he⟩, h12⟩; exact ⟨ke, hke, hk, e, he, h12⟩
    · rintro ⟨ke, hke, hk, e, he, h12⟩; exact ⟨e, ⟨ke, hke, hk, he⟩, h12⟩
  rw [← hent, ← hany]
  unfold containsValue
  cases entryOf ix k t <;> simp only [Option.isSome_none, Option.isSome_some, Bool.false_eq_true, false_and, true_and,
    Bool.not_eq_true', Bool.not_eq_true]

theorem containsValue_iff (ix : Index) (H : Hist) (h : TInv ix H) (k : Key) (t : Int) :
    containsValue ix k t = true ↔ hasPoint ix.all k t ∧ ¬ coveredH H k t := by
  rw [containsValue_live h.inv]
  constructor
  · rintro ⟨⟨ke, hkl, hkk, e, hem, h12⟩, hnc⟩
    refine ⟨⟨ke, h.inv.sub.subset hkl, hkk, e, hem, h12⟩, ?_⟩
    rintro ⟨r, hr, hrk, c1, c2⟩
    have hsp := (h.wf ke (h.inv.sub.subset hkl)).within e hem t h12.1 h12.2
    exact hnc (hkk ▸ h.recorded ke hkl r hr (hrk.trans hkk.symm) t c1 c2 hsp)
  · rintro ⟨⟨ke, hke, hkk, e, hem, h12⟩, hnc⟩
    have hsp := (h.wf ke hke).within e hem t h12.1 h12.2
    have hkl : ke ∈ ix.live := Decidable.by_contra fun hl => hnc (hkk ▸ h.absent ke hke hl t hsp)
    exact ⟨⟨ke, hkl, hkk, e, hem, h12⟩, fun ⟨r, hr, c⟩ => hnc ⟨(k, r.Min, r.Max), h.sound k r hr, rfl, c⟩⟩

theorem absent_covered (ix : Index) (H : Hist) (h : TInv ix H) (ke : KeyEntry) (hke : ke ∈ ix.all)
    (hgone : contains ix ke.key = false) (hne : ke.entries ≠ []) : ∀ t, spanIn ke t → coveredH H ke.key t := by
  refine h.absent ke hke fun hl => ?_
  obtain ⟨e, he⟩ := List.exists_mem_of_ne_nil _ hne
  have := (mem_entriesOf h.inv).mpr ⟨ke, hl, rfl, he⟩
  unfold contains at hgone
  cases hen : entriesOf ix ke.key with
  | nil => rw [hen] at this; cases this
  | cons a l => rw [hen] at hgone; cases hgone

theorem foldl_bound {α : Type} (R : Int → Int → Prop) (hr : ∀ a, R a a) (ht : ∀ a b c, R a b → R b c → R a c)
    (step : Int → α → Int) (hstep : ∀ m a, R (step m a) m) (l : List α) :
    ∀ m, R (l.foldl step m) m ∧ ∀ a ∈ l, ∀ b, (∀ m, R (step m a) b) → R (l.foldl step m) b := by
  induction l with
  | nil => exact fun m => ⟨hr m, fun _ ha => absurd ha List.not_mem_nil⟩
  | cons a l ih =>
    intro m
    obtain ⟨h1, h2⟩ := ih (step m a)
    refine ⟨ht _ _ _ h1 (hstep m a), fun x hx b hb => ?_⟩
    rcases List.mem_cons.mp hx with rfl | hx
    · exact ht _ _ _ h1 (hb m)
    · exact h2 x hx b hb

theorem scanMin_le (kes : List KeyEntry) : ∀ (m : Int),
    let r := kes.foldl scanMinStep m
    r ≤ m ∧ ∀ ke ∈ kes, ∀ e, ke.entries.head? = some e → r ≤ e.MinTime := by
  intro m
  obtain ⟨h1, h2⟩ := foldl_bound (· ≤ ·) Int.le_refl (fun _ _ _ => Int.le_trans) scanMinStep (fun m ke => by
    unfold scanMinStep
    split
    · split
      · exact Int.le_of_lt ‹_›
      · exact Int.le_refl _
    · exact Int.le_refl _) kes m
  refine ⟨h1, fun ke hke e he => h2 ke hke _ fun m => ?_⟩
  unfold scanMinStep
  rw [he]
  dsimp only
  split
  · exact Int.le_refl _
  · exact Int.not_lt.mp ‹_›

theorem scanMax_ge (kes : List KeyEntry) : ∀ (m : Int),
    let r := kes.foldl scanMaxStep m
    m ≤ r ∧ ∀ ke ∈ kes, ∀ e, ke.entries.getLast? = some e → e.MaxTime ≤ r := by
  intro m
  obtain ⟨h1, h2⟩ := foldl_bound (· ≥ ·) Int.le_refl (fun _ _ _ h1 h2 => Int.le_trans h2 h1) scanMaxStep (fun m ke => by
    unfold scanMaxStep
    split
    · split
      · exact Int.le_of_lt ‹_›
      · exact Int.le_refl _
    · exact Int.le_refl _) kes m
  refine ⟨h1, fun ke hke e he => h2 ke hke _ fun m => ?_⟩
  unfold scanMaxStep
  rw [he]
  dsimp only
  split
  · exact Int.le_refl _
  · exact Int.not_lt.mp ‹_›

theorem TInv_mkIndex (kes : List KeyEntry) (hs : SortedKE kes) (hwf : ∀ ke ∈ kes, WFKE ke) :
    TInv (mkIndex kes) [] := by
  refine ⟨mkIndex_inv kes hs, hwf, ?_, fun _ _ hr => (nomatch hr), fun ke hke hnl => absurd hke hnl,
    fun _ _ _ hr => (nomatch hr), fun k => List.Pairwise.nil⟩
  intro ke hke t ⟨mn, mx, hsp, h1, h2⟩
  unfold spanKE at hsp
  split at hsp
  · next e0 eN h0 hN =>
    cases hsp
    exact ⟨Int.le_trans ((scanMin_le kes maxInt64).2 ke hke e0 h0) h1,
      Int.le_trans h2 ((scanMax_ge kes minInt64).2 ke hke eN hN)⟩
  · cases hsp

end Influx.Tsm
