/-
  Lemmas.PlannerInv — the invariant that ties the planner model's state to the
  state of the statement checker (Spec.C05), and its preservation by every step.
-/
import Influx.Lemmas.PlannerStruct
import Influx.Lemmas.PlannerFind
import Influx.Spec.C05

namespace Influx.Planner
open Influx.Spec.C05

def pg (f : File) : String × Int := (f.path, f.gen)

theorem gensPaths_eq (gens : List Gen) : gensPaths gens = (gens.flatMap Gen.files).map (·.path) :=
  List.map_flatMap.symm

theorem mem_gensPaths {gens : List Gen} {p : String} :
    p ∈ gensPaths gens ↔ ∃ g ∈ gens, ∃ f ∈ g.files, f.path = p := by
  simp only [gensPaths, Gen.paths, List.mem_flatMap, List.mem_map]

theorem insertSorted_perm (x : String) (l : List String) : (insertSorted x l).Perm (x :: l) := by
  induction l with
  | nil => exact .refl _
  | cons y ys ih =>
    simp only [insertSorted]
    split
    · exact .refl _
    · exact (ih.cons y).trans (List.Perm.swap x y ys)

theorem sortStrings_perm (l : List String) : (sortStrings l).Perm l := by
  induction l with
  | nil => exact .refl _
  | cons x xs ih => exact (insertSorted_perm x _).trans (ih.cons x)

/-- file lists `F gs` with exactly the files of `gs` (`gensPaths`, or sorted as `Plan` returns them) -/
theorem files_flatten_perm {F : List Gen → List String} (hF : ∀ gs, (F gs).Perm (gensPaths gs))
    (gss : List (List Gen)) : (gss.map F).flatten.Perm (gensPaths gss.flatten) := by
  induction gss with
  | nil => exact .refl _
  | cons g rest ih =>
    rw [List.map_cons, List.flatten_cons, List.flatten_cons, gensPaths, List.flatMap_append]
    exact (hF g).append ih

theorem files_nodup {fs : List File} {gens : List Gen} {gss : List (List Gen)} {F : List Gen → List String}
    (hF : ∀ gs, (F gs).Perm (gensPaths gs)) (ok : GensOK fs gens) (hn : (fs.map (·.path)).Nodup)
    (hs : Sub gens gss) : (gss.map F).flatten.Nodup := by
  have h1 : (gensPaths gss.flatten).Sublist (gensPaths gens) := flatMap_sublist_of_sublist _ hs
  have h2 : (gensPaths gens).Perm (fs.map (·.path)) := by
    rw [gensPaths_eq]; exact ok.perm.map _
  exact (files_flatten_perm hF gss).nodup_iff.mpr (h1.nodup (h2.nodup_iff.mpr hn))

theorem lookup_pg {fs : List File} (hn : (fs.map (·.path)).Nodup) {f : File} (hf : f ∈ fs) :
    genOf (fs.map pg) f.path = some f.gen := by
  induction fs with
  | nil => exact absurd hf List.not_mem_nil
  | cons x rest ih =>
    rw [List.map_cons, List.nodup_cons] at hn
    rw [genOf, List.map_cons, pg, List.lookup_cons]
    rcases List.mem_cons.mp hf with rfl | h
    · rw [beq_self_eq_true]
    · have hne : f.path ≠ x.path := fun e => hn.1 (e ▸ List.mem_map_of_mem (f := (·.path)) h)
      rw [beq_false_of_ne hne]
      exact ih hn.2 h

theorem mem_block_of_between {pre gs post : List Gen}
    (hs : (pre ++ gs ++ post).Pairwise (fun a b => a.id < b.id)) {ga gb g : Gen} (hga : ga ∈ gs)
    (hgb : gb ∈ gs) (hg : g ∈ pre ++ gs ++ post) (h1 : ga.id ≤ g.id) (h2 : g.id ≤ gb.id) : g ∈ gs := by
  rw [List.pairwise_append] at hs
  obtain ⟨hl, _, hlr⟩ := hs
  rw [List.pairwise_append] at hl
  rcases List.mem_append.mp hg with hg | hg
  · rcases List.mem_append.mp hg with hg | hg
    · exact absurd h1 (Int.not_le.mpr (hl.2.2 g hg ga hga))
    · exact hg
  · exact absurd h2 (Int.not_le.mpr (hlr gb (List.mem_append_right _ hgb) g hg))

theorem files_contiguous {fs : List File} {gens : List Gen} {gss : List (List Gen)} {F : List Gen → List String}
    (hF : ∀ gs, (F gs).Perm (gensPaths gs)) (ok : GensOK fs gens) (hn : (fs.map (·.path)).Nodup)
    (hc : Contig gens gss) : ∀ G ∈ gss.map F, contiguousIn (fs.map pg) G = true := by
  intro G hG
  obtain ⟨gs, hgs, rfl⟩ := List.mem_map.mp hG
  obtain ⟨pre, post, rfl⟩ := hc gs hgs
  have key : ∀ p ∈ F gs, ∃ g ∈ gs, genOf (fs.map pg) p = some g.id := by
    intro p hp
    obtain ⟨g, hg, f, hf, rfl⟩ := mem_gensPaths.mp ((hF gs).mem_iff.mp hp)
    have hg' : g ∈ pre ++ gs ++ post := List.mem_append_left _ (List.mem_append_right _ hg)
    have hfs : f ∈ fs := ok.perm.subset (List.mem_flatMap.mpr ⟨g, hg', hf⟩)
    exact ⟨g, hg, by rw [lookup_pg hn hfs, ok.genOf g hg' f hf]⟩
  unfold contiguousIn
  simp only [List.all_eq_true]
  intro pa hpa pb hpb
  obtain ⟨ga, hga, ea⟩ := key pa hpa
  obtain ⟨gb, hgb, eb⟩ := key pb hpb
  rw [ea, eb]
  simp only [List.all_eq_true, Bool.or_eq_true, Bool.not_eq_true', Bool.and_eq_false_iff,
    decide_eq_false_iff_not, List.any_eq_true, beq_iff_eq]
  intro e he
  obtain ⟨f, hf, rfl⟩ := List.mem_map.mp he
  by_cases hin : ga.id ≤ f.gen ∧ f.gen ≤ gb.id
  · right
    -- the generation of `f` lies between two generations of the block, hence inside it
    obtain ⟨g, hg, hfg⟩ := List.mem_flatMap.mp (ok.perm.symm.subset hf)
    have hid : f.gen = g.id := ok.genOf g hg f hfg
    have hgs : g ∈ gs := mem_block_of_between ok.sorted hga hgb hg (hid ▸ hin.1) (hid ▸ hin.2)
    exact ⟨f.path, (hF gs).mem_iff.mpr (mem_gensPaths.mpr ⟨g, hgs, f, hfg, rfl⟩), lookup_pg hn hf⟩
  · exact Or.inl (Decidable.not_and_iff_not_or_not.mp hin)

@[simp] theorem heldOf_nil : heldOf [] = [] := rfl
theorem heldOf_cons (x : List String × Bool) (t) :
    heldOf (x :: t) = if x.2 then x.1 :: heldOf t else heldOf t := by
  obtain ⟨y, _ | _⟩ := x <;> rfl

theorem heldOf_append (a b) : heldOf (a ++ b) = heldOf a ++ heldOf b := by
  simp [heldOf]

theorem heldOf_new (groups : List (List String)) : heldOf (groups.map (·, true)) = groups := by
  induction groups with
  | nil => rfl
  | cons g rest ih => exact congrArg (g :: ·) ih

theorem heldOf_set {handed : List (List String × Bool)} {k : Nat} {g : List String}
    (h : handed[k]? = some (g, true)) :
    ∃ a b, heldOf handed = a ++ g :: b ∧ heldOf (handed.set k (g, false)) = a ++ b := by
  induction handed generalizing k with
  | nil => rw [List.getElem?_nil] at h; cases h
  | cons x t ih =>
    cases k with
    | zero =>
      rw [List.getElem?_cons_zero, Option.some.injEq] at h
      subst h
      exact ⟨[], heldOf t, rfl, rfl⟩
    | succ k =>
      rw [List.getElem?_cons_succ] at h
      obtain ⟨a, b, h1, h2⟩ := ih h
      rw [List.set_cons_succ, heldOf_cons, heldOf_cons, h1, h2]
      cases x.2
      · exact ⟨a, b, rfl, rfl⟩
      · exact ⟨x.1 :: a, b, rfl, rfl⟩

theorem acquire_some {inUse : List String} {groups : List (List String)} {iu : List String}
    (h : acquire inUse groups = some iu) :
    (∀ p ∈ groups.flatten, p ∉ inUse) ∧ ∀ p, p ∈ iu ↔ p ∈ inUse ∨ p ∈ groups.flatten := by
  unfold acquire at h
  by_cases he : groups.isEmpty = true
  · rw [if_pos he, Option.some.injEq] at h
    subst h
    rw [List.isEmpty_iff.mp he]
    exact ⟨fun _ hp => absurd hp List.not_mem_nil, fun _ => (or_iff_left List.not_mem_nil).symm⟩
  · rw [if_neg he] at h
    by_cases ha : (groups.any fun g => g.any inUse.contains) = true
    · rw [if_pos ha] at h; cases h
    · rw [if_neg ha, Option.some.injEq] at h
      subst h
      refine ⟨fun p hp hin => ha ?_, fun p => List.mem_append⟩
      obtain ⟨g, hg, hpg⟩ := List.mem_flatten.mp hp
      exact List.any_eq_true.mpr ⟨g, hg, List.any_eq_true.mpr ⟨p, hpg, by simpa using hin⟩⟩

structure Inv (s : State) (st : St) : Prop where
  store : st.store = s.stats.map pg
  statsNodup : (s.stats.map (·.path)).Nodup
  atFind : ∃ fsAt, st.atFind = fsAt.map pg ∧ s.gens = findGenerations fsAt ∧ (fsAt.map (·.path)).Nodup
  handed : st.handed = s.handed
  force : st.forcePending = s.forceFull
  dur : st.durPos = s.durPos
  inUse : ∀ p, p ∈ s.inUse ↔ p ∈ (heldOf s.handed).flatten
  heldNodup : (heldOf s.handed).flatten.Nodup

/-- a fresh planner (`new`; the initial state is `Inv.new true`) -/
theorem Inv.new (d : Bool) : Inv { durPos := d } { durPos := d } :=
  ⟨rfl, .nil, ⟨[], rfl, rfl, .nil⟩, rfl, rfl, rfl, fun _ => .rfl, .nil⟩

theorem Inv.gensOK {s : State} {st : St} (inv : Inv s st) :
    ∃ fsAt, st.atFind = fsAt.map pg ∧ GensOK fsAt s.gens ∧ (fsAt.map (·.path)).Nodup := by
  obtain ⟨fsAt, h1, h2, h3⟩ := inv.atFind
  exact ⟨fsAt, h1, h2 ▸ findGenerations_ok fsAt, h3⟩

/-- the file store is replaced (`setfs`, `add`, a finished compaction) -/
theorem Inv.setStats {s : State} {st : St} (inv : Inv s st) {files : List File}
    (hn : (files.map (·.path)).Nodup) (mf : Bool) {store : List (String × Int)} (hs : store = files.map pg) :
    Inv { s with stats := files, modFuture := mf } { st with store := store } :=
  ⟨hs, hn, inv.atFind, inv.handed, inv.force, inv.dur, inv.inUse, inv.heldNodup⟩

/-- `ForceFull` is set or consumed; `lastPlanCheck` is outside the invariant -/
theorem Inv.setForce {s : State} {st : St} (inv : Inv s st) (ff lpc : Bool) :
    Inv { s with forceFull := ff, lpcSet := lpc } { st with forcePending := ff } :=
  ⟨inv.store, inv.statsNodup, inv.atFind, inv.handed, rfl, inv.dur, inv.inUse, inv.heldNodup⟩

/-- group `k` is given back (`Release`, a finished compaction) -/
theorem Inv.release {s : State} {st : St} (inv : Inv s st) {k : Nat} {g : List String}
    (hk : s.handed[k]? = some (g, true)) :
    Inv { s with inUse := releaseFiles s.inUse g, handed := s.handed.set k (g, false) }
      { st with handed := st.handed.set k (g, false) } := by
  obtain ⟨a, b, h1, h2⟩ := heldOf_set hk
  have hn := inv.heldNodup
  have hu := inv.inUse
  simp only [h1, List.flatten_append, List.flatten_cons, List.nodup_append, List.mem_append] at hn hu
  obtain ⟨ha, ⟨_, hb, hgb⟩, hab⟩ := hn
  refine ⟨inv.store, inv.statsNodup, inv.atFind, congrArg (·.set k (g, false)) inv.handed, inv.force, inv.dur,
    fun p => ?_, ?_⟩
  · -- the held groups are pairwise disjoint, so dropping the files of `g` drops nothing else
    simp only [releaseFiles, List.mem_filter, hu, h2, List.flatten_append, List.mem_append,
      Bool.not_eq_true', List.contains_eq_mem, decide_eq_false_iff_not]
    constructor
    · rintro ⟨hp | hp | hp, hng⟩
      · exact Or.inl hp
      · exact absurd hp hng
      · exact Or.inr hp
    · rintro (hp | hp)
      · exact ⟨Or.inl hp, fun hg => hab p hp p (Or.inl hg) rfl⟩
      · exact ⟨Or.inr (Or.inr hp), fun hg => hgb p hg p hp rfl⟩
  · rw [h2, List.flatten_append, List.nodup_append]
    exact ⟨ha, hb, fun x hx y hy => hab x hx y (Or.inr hy)⟩

/-- groups are handed out (`acquire` succeeded): the statement checker finds them disjoint from
    the held ones -/
theorem Inv.handOut {s : State} {st : St} (inv : Inv s st) {groups : List (List String)} {iu : List String}
    (hacq : acquire s.inUse groups = some iu) (hnd : groups.flatten.Nodup) :
    disjointOK (heldOf st.handed) groups = true ∧
    Inv { s with inUse := iu, handed := s.handed ++ groups.map (·, true) }
      { st with handed := st.handed ++ groups.map (·, true) } := by
  obtain ⟨hfree, hiu⟩ := acquire_some hacq
  have hnew : ((heldOf s.handed).flatten ++ groups.flatten).Nodup :=
    List.nodup_append.mpr
      ⟨inv.heldNodup, hnd, fun a ha b hb hab => hfree b hb (hab ▸ (inv.inUse a).mpr ha)⟩
  refine ⟨by rw [inv.handed]; exact decide_eq_true hnew,
    inv.store, inv.statsNodup, inv.atFind, congrArg (· ++ groups.map (·, true)) inv.handed,
    inv.force, inv.dur, fun p => ?_, ?_⟩
  · simp only [heldOf_append, heldOf_new, List.flatten_append, List.mem_append, hiu, inv.inUse]
  · simpa only [heldOf_append, heldOf_new, List.flatten_append] using hnew

/-- a failure list that contains at most waived (full-path contiguity) failures -/
def OnlyFull (fs : List Fail) : Prop := ∀ f ∈ fs, f.isFullNoncontiguous = true

theorem OnlyFull.nil : OnlyFull [] := fun _ hf => absurd hf List.not_mem_nil

theorem judge_nil (st : St) (i : Nat) (full : Bool) (h : (heldOf st.handed).flatten.Nodup) :
    judge st i full [] = (st, []) := by
  simp [judge, disjointOK, h]

@[simp] theorem judge_forcePending (st : St) (i full gs) : (judge st i full gs).1.forcePending = st.forcePending := rfl

theorem judge_snd {st : St} {groups : List (List String)} (i : Nat) (full : Bool)
    (h : disjointOK (heldOf st.handed) groups = true) :
    (judge st i full groups).2 =
      if groups.all (contiguousIn st.atFind) then [] else [Fail.noncontiguous i full] := by
  simp only [judge, h, if_true, List.nil_append]

end Influx.Planner
