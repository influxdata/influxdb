/-
  What `scanKey` accepts.  The work is in its unsorted path: insertion sort of the tag suffixes,
  rebuilding the key with `scanToSpaceOr`, duplicate check among neighbours.
-/
import Influx.Lemmas.LineProtocolShape

namespace Influx.LP
open Influx.Generated.LineProto

theorem mem_foldl_insertLeft (lt : α → α → Bool) (l acc : List α) (w : α) :
    w ∈ l.foldl (fun revPre x => insertLeft lt x revPre) acc ↔ w ∈ acc ∨ w ∈ l := by
  induction l generalizing acc with
  | nil => simp
  | cons x xs ih =>
    simp only [List.foldl_cons, ih, mem_insertLeft, List.mem_cons]
    constructor
    · rintro ((h | h) | h) <;> simp [h]
    · rintro (h | h | h) <;> simp [h]

theorem mem_insertionSort (lt : α → α → Bool) (l : List α) (w : α) : w ∈ insertionSort lt l ↔ w ∈ l := by
  unfold insertionSort
  rw [List.mem_reverse, mem_foldl_insertLeft]; simp

/-- `lt` behaves like the strict part of a total preorder -/
structure LtOK (lt : α → α → Bool) : Prop where
  asymm : ∀ x y, lt x y = true → lt y x = false
  trans : ∀ a b c, lt a b = false → lt b c = false → lt a c = false

theorem pairwise_insertionSort (lt : α → α → Bool) (ok : LtOK lt) (l : List α) :
    (insertionSort lt l).Pairwise (fun a b => lt b a = false) := by
  unfold insertionSort
  rw [List.pairwise_reverse]
  have : ∀ acc : List α, acc.Pairwise (fun a b => lt a b = false) →
      (l.foldl (fun revPre x => insertLeft lt x revPre) acc).Pairwise (fun a b => lt a b = false) := by
    induction l with
    | nil => intro acc h; exact h
    | cons x xs ih => intro acc h; exact ih _ (pairwise_insertLeft lt x acc (fun y _ => ok.asymm x y) (fun _ _ hy => hy) (ok.trans x) h)
  exact this [] List.Pairwise.nil

/-- the comparison `less` of points.go -/
def keyLt (a b : Bytes) : Bool := cmpBytes (rawTagKey a) (rawTagKey b) == .lt

theorem keyLt_ok : LtOK keyLt where
  asymm := by
    intro x y h
    simp only [keyLt, beq_iff_eq] at h
    simp only [keyLt, beq_eq_false_iff_ne, ne_eq]
    intro h2
    have := (cmpBytes_gt_iff_lt _ _).mpr h
    rw [h2] at this; cases this
  trans := by
    intro a b c h1 h2
    simp only [keyLt, beq_eq_false_iff_ne, ne_eq] at h1 h2 ⊢
    intro h3
    cases hab : cmpBytes (rawTagKey a) (rawTagKey b) with
    | lt => exact h1 hab
    | eq =>
      have := (cmpBytes_eq_iff _ _).mp hab
      rw [this] at h3; exact h2 h3
    | gt =>
      have hba := (cmpBytes_gt_iff_lt _ _).mp hab
      exact h2 (cmpBytes_lt_trans _ _ _ hba h3)

theorem pairwise_ne_of_sorted (keys : List Bytes)
    (hs : keys.Pairwise (fun a b => cmpBytes b a ≠ .lt)) (hd : adjacentDup keys = false) :
    keys.Pairwise (· ≠ ·) := by
  have hlt : keys.Pairwise (fun a b => cmpBytes a b = .lt) := by
    induction keys with
    | nil => exact List.Pairwise.nil
    | cons a rest ih =>
      cases rest with
      | nil => exact List.pairwise_singleton _ _
      | cons b r =>
        have hp := List.pairwise_cons.mp hs
        simp only [adjacentDup, Bool.or_eq_false_iff, beq_eq_false_iff_ne, ne_eq] at hd
        have ht := ih hp.2 hd.2
        have hab : cmpBytes a b = .lt := by
          have h1 := hp.1 b (by simp)
          cases hc : cmpBytes a b with
          | lt => rfl
          | eq => exact absurd ((cmpBytes_eq_iff _ _).mp hc) hd.1
          | gt => exact absurd ((cmpBytes_gt_iff_lt _ _).mp hc) h1
        exact pairwise_lt_cons a b r hab ht
  exact pairwise_lt_ne keys hlt

def SuffixShape (s : Bytes) : Prop :=
  ∃ kv d X, KVShape kv ∧ s = kvText kv ++ d :: X ∧ (d = cComma ∨ d = cSpace)

theorem tagSuffixes_shape (kvs : List (Bytes × Bytes)) (rest : Bytes) (hs : ∀ kv ∈ kvs, KVShape kv)
    (hr : rest.head? = some cSpace) : ∀ s ∈ tagSuffixes (kvs.map kvText) rest, SuffixShape s := by
  induction kvs with
  | nil => intro s hs'; simp [tagSuffixes] at hs'
  | cons kv kvs ih =>
    intro s hm
    simp only [List.map_cons, tagSuffixes, List.mem_cons] at hm
    rcases hm with rfl | hm
    · cases kvs with
      | nil =>
        cases rest with
        | nil => simp at hr
        | cons d X =>
          simp at hr; subst hr
          exact ⟨kv, cSpace, X, hs kv (by simp), by simp, Or.inr rfl⟩
      | cons u us =>
        refine ⟨kv, cComma, kvText u ++ ((us.map kvText).flatMap fun t => cComma :: t) ++ rest,
          hs kv (by simp), ?_, Or.inl rfl⟩
        simp only [List.map_cons, List.flatMap_cons, List.cons_append, List.append_assoc]
    · exact ih (fun u hu => hs u (by simp [hu])) s hm

theorem scanToSpaceOrAux_guarded (s : Bytes) (prev d : Nat) (X : Bytes) (hd : d = cComma ∨ d = cSpace)
    (h : Guarded isMeasSpecial (prev == cBS) s) : scanToSpaceOrAux prev (s ++ d :: X) = some s := by
  induction s generalizing prev with
  | nil => rw [List.nil_append, scanToSpaceOrAux, if_pos ⟨h.nil_prev, hd⟩]
  | cons b r ih =>
    have hno : ¬ (prev ≠ cBS ∧ (b = cComma ∨ b = cSpace)) := fun ⟨h1, h2⟩ =>
      h1 (h.prev (c := b) (by rcases h2 with rfl | rfl <;> rfl) rfl)
    rw [List.cons_append, scanToSpaceOrAux, if_neg hno, ih b h.tail]; rfl

/-- between its neighbours a scanned tag reads as one component: the `=` is no delimiter here -/
theorem guarded_kvText (kv : Bytes × Bytes) (h : KVShape kv) : Guarded isMeasSpecial false (kvText kv) :=
  ⟨NoBare_append _ _ _ _ (h.k.mono isTagSpecial_of_meas).nb
    (by rw [h.k.tb]; exact ⟨fun hb => (nomatch hb), h.v.nb⟩),
   by rw [kvText, lastIsBS_append, h.k.tb]; exact h.v.tb⟩

theorem scanToSpaceOr_suffix (kv : Bytes × Bytes) (d : Nat) (X : Bytes) (h : KVShape kv)
    (hd : d = cComma ∨ d = cSpace) : scanToSpaceOr (kvText kv ++ d :: X) = some (kvText kv) := by
  have hg := guarded_kvText kv h
  cases hk : kvText kv with
  | nil => exact absurd hk (by simp [kvText])
  | cons b r =>
    rw [hk] at hg
    have hb' : ¬ (b = cComma ∨ b = cSpace) := fun hh =>
      Bool.false_ne_true ((NoBare_false_cons _ _ _ hg.nb).symm.trans (by rcases hh with rfl | rfl <;> rfl))
    rw [List.cons_append, scanToSpaceOr, if_neg hb', scanToSpaceOrAux_guarded r b d X hd hg.tail]; rfl

theorem rawTagKey_suffix (kv : Bytes × Bytes) (d : Nat) (X : Bytes) (h : KVShape kv) :
    rawTagKey (kvText kv ++ d :: X) = kv.1 := by
  rw [rawTagKey, kvText, List.append_assoc, List.cons_append,
    scanTo_guarded cEq kv.1 _ false (h.k.mono isTagSpecial_of_eq) (.inr rfl)]

theorem mapM_scanToSpaceOr (l : List Bytes) (h : ∀ s ∈ l, SuffixShape s) :
    ∃ kvl : List (Bytes × Bytes), l.mapM scanToSpaceOr = some (kvl.map kvText) ∧
      (∀ kv ∈ kvl, KVShape kv) ∧ l.map rawTagKey = kvl.map (·.1) := by
  induction l with
  | nil => exact ⟨[], rfl, by simp, rfl⟩
  | cons s rest ih =>
    obtain ⟨kv, d, X, hkv, rfl, hd⟩ := h s (by simp)
    obtain ⟨kvl, i1, i2, i3⟩ := ih (fun t ht => h t (by simp [ht]))
    refine ⟨kv :: kvl, ?_, ?_, ?_⟩
    · simp only [List.mapM_cons, scanToSpaceOr_suffix kv d X hkv hd, i1, List.map_cons]
      rfl
    · intro u hu
      rcases List.mem_cons.mp hu with rfl | hu
      · exact hkv
      · exact i2 u hu
    · simp only [List.map_cons, rawTagKey_suffix kv d X hkv, i3]

theorem flatMap_kvText (kvs : List (Bytes × Bytes)) :
    ((kvs.map kvText).flatMap fun t => cComma :: t) = kvsText kvs := by
  simp [kvsText, List.flatMap_map]

theorem scanKeySort_ok (name : Bytes) (kvs : List (Bytes × Bytes)) (rest key r : Bytes)
    (hs : ∀ kv ∈ kvs, KVShape kv) (hr : rest.head? = some cSpace)
    (h : scanKeySort name (kvs.map kvText) rest = .ok (key, r)) :
    r = rest ∧ ∃ kvl : List (Bytes × Bytes), key = name ++ kvsText kvl ∧
      (∀ kv ∈ kvl, KVShape kv) ∧ (kvl.map (·.1)).Pairwise (· ≠ ·) := by
  unfold scanKeySort at h
  obtain ⟨kvl, m1, m2, m3⟩ := mapM_scanToSpaceOr _ fun s hs' =>
    tagSuffixes_shape kvs rest hs hr s ((mem_insertionSort _ _ s).mp hs')
  rw [m1] at h
  simp only at h
  split at h
  · cases h
  · next hdup =>
    cases h
    refine ⟨rfl, kvl, by rw [flatMap_kvText], m2, ?_⟩
    rw [← m3]
    apply pairwise_ne_of_sorted _ _ (by simpa using hdup)
    rw [List.pairwise_map]
    refine (pairwise_insertionSort _ keyLt_ok _).imp fun hab => ?_
    simpa [keyLt] using hab

theorem scanKeyTags_ok (name r0 key rest : Bytes) (hne : name ≠ [])
    (hn : Guarded (· == cComma) false name)
    (h : scanKeyTags name r0 = .ok (key, rest)) :
    (∃ kvs, KeyShape key name kvs) ∧ rest.head? = some cSpace ∧ ∃ X, r0 = X ++ rest := by
  unfold scanKeyTags at h
  split at h
  · cases h
  next raws rest' hst =>
  obtain ⟨kvs, rfl, _, hks, hrest, hX⟩ := scanTags_shape _ _ _ _ hst
  split at h
  · cases h
  split at h
  · cases h
  · next hcs =>
    cases h
    refine ⟨⟨kvs, by rw [flatMap_kvText], hne, hn, hks, pairwise_lt_ne _ ?_⟩, hrest, hX⟩
    have hp := checkSorted_pairwise _ hcs
    rwa [List.map_map, List.map_congr_left (f := rawTagKey ∘ kvText) (g := (·.1)) fun kv hkv =>
      rawTagKey_kvText kv (hks kv hkv)] at hp
  · obtain ⟨rfl, kvl, h1, h3, h4⟩ := scanKeySort_ok name kvs rest' key rest hks hrest h
    exact ⟨⟨kvl, h1, hne, hn, h3, h4⟩, hrest, hX⟩

theorem scanKey_ok (buf key rest : Bytes) (h : scanKey buf = .ok (key, rest)) :
    (∃ name kvs, KeyShape key name kvs) ∧ rest.head? = some cSpace ∧
      ∃ X, X ≠ [] ∧ skipWhitespace buf = X ++ rest := by
  unfold scanKey at h
  split at h
  · cases h
  · cases h
  · next name r hm =>
    cases h
    obtain ⟨_, s2, s3⟩ := scanMeasurement_ok _ _ _ hm
    obtain ⟨h1, h2⟩ := s3 rest (.inr rfl)
    exact ⟨⟨key, [], (List.append_nil _).symm, h1, h2, nofun, .nil⟩,
      (s2 rest rfl).2, key, h1, (s2 rest rfl).1⟩
  · next name r0 hm =>
    obtain ⟨s1, _, s3⟩ := scanMeasurement_ok _ _ _ hm
    obtain ⟨h1, h2⟩ := s3 r0 (.inl rfl)
    obtain ⟨⟨kvs, hk⟩, hr, X, hX⟩ := scanKeyTags_ok name r0 key rest h1 h2 h
    refine ⟨⟨name, kvs, hk⟩, hr, name ++ cComma :: X, by simp, ?_⟩
    rw [s1 r0 rfl, hX, List.append_assoc, List.cons_append]

end Influx.LP
