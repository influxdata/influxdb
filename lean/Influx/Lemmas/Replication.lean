import Influx.Model.Replication
import Influx.Spec.C27
namespace Influx.Repl
open Influx.Spec.C27 Influx.Generated.Replication

theorem backoff_eq_doc (n : Nat) : (backoff n : Int) = docBackoff n := by
  unfold backoff docBackoff maximumAttempts maximumBackoffTime
  by_cases h : n > 10
  · simp [h]
  · rw [if_neg h, if_neg h]
    cases n with
    | zero => simp
    | succ m =>
      rw [if_neg (by omega)]
      have : 2 ^ (m + 1) = 2 ^ m * 2 := Nat.pow_succ 2 m
      simp only [Nat.add_sub_cancel, this]
      congr 1
      omega

/-- `writer.Write` in normal form: release, or fail with the 429 delay or the backoff. -/
theorem writeDecision_eq (drop : Bool) (a : Nat) (r : Resp) :
    writeDecision drop a r =
      if releases drop r then .ok
      else .fail (if r.kind = 0 ∧ r.status = 429 then
          (if waitFromHeader r.retryAfter ≠ 0 then waitFromHeader r.retryAfter else (backoff a : Int))
        else backoff a) := by
  unfold writeDecision releases
  by_cases hk : r.kind = 0 <;> by_cases h204 : r.status = 204 <;> by_cases h400 : r.status = 400 <;>
    by_cases h429 : r.status = 429 <;> cases drop <;> simp_all

theorem writeDecision_ok_iff (drop : Bool) (a : Nat) (r : Resp) :
    writeDecision drop a r = .ok ↔ releases drop r = true := by
  rw [writeDecision_eq]; split <;> simp [*]

theorem wrapI64_small (i : Int) (h0 : 0 ≤ i) (h1 : i < 2^63) : wrapI64 i = i := by
  unfold wrapI64; omega

/-- the delay after a 429 follows the Retry-After rules, whatever the header holds -/
theorem retryAfter_documented (f : Nat) (ra : Option String) :
    delayOk f { kind := 0, status := 429, retryAfter := ra }
      (if waitFromHeader ra ≠ 0 then waitFromHeader ra else (backoff f : Int)) = true := by
  have hb1 : docBackoff 1 ≠ 0 := by decide
  have hemp : atoi "" = none := by decide
  cases ra with
  | none => simp [delayOk, waitFromHeader, backoff_eq_doc]
  | some s =>
    by_cases h0 : s = "0"
    · simp [delayOk, waitFromHeader, h0, hb1, backoff_eq_doc]
    by_cases he : s = ""
    · simp [delayOk, waitFromHeader, he, hemp, backoff_eq_doc]
    cases hat : atoi s with
    | none => simp [delayOk, waitFromHeader, h0, he, hat, backoff_eq_doc]
    | some n =>
      simp only [delayOk, waitFromHeader, h0, he, hat, beq_self_eq_true, Bool.and_self, if_true, if_false,
        beq_iff_eq]
      by_cases hn : n > 0
      · by_cases hn9 : n ≤ 9000000000
        · have hne : n * 1000000000 ≠ 0 := by omega
          simp [hn, hn9, wrapI64_small (n * 1000000000) (by omega) (by omega), hne]
        · simp [hn, hn9]
      · by_cases hn0 : n = 0
        · simp [hn0, wrapI64, backoff_eq_doc]
        · simp [hn, hn0]

theorem delayOk_of_fail (drop : Bool) (f : Nat) (r : Resp) (w : Int)
    (h : writeDecision drop f r = .fail w) : delayOk f r w = true := by
  rw [writeDecision_eq] at h
  split at h
  · cases h
  obtain rfl := WriteRes.fail.inj h
  by_cases h429 : r.kind = 0 ∧ r.status = 429
  · obtain ⟨k, st, ra⟩ := r
    obtain ⟨rfl, rfl⟩ : k = 0 ∧ st = 429 := h429
    simpa using retryAfter_documented f ra
  · have hd : (r.kind == 0 && r.status == 429) = false := by simpa using h429
    simp [delayOk, hd, h429, backoff_eq_doc]

/-- The scan loop: it posts a prefix of the entries offered.  Either every response
    released its entry, or response `m` (counted from 0) is the first that did not and the loop
    stops there with that write's delay; the attempt counter restarts after the first release. -/
theorem sendLoop_full (drop : Bool) :
    ∀ (es : List Bytes) (script : List Resp) (failed : Nat) (posted : List Bytes),
      let res := sendLoop drop es script failed posted
      (res.2.2 = none → res.1 = posted ++ es ∧ res.2.1 = (if es = [] then failed else 0) ∧
          ∀ k, k < es.length → releases drop (respAt script k) = true) ∧
      (∀ w, res.2.2 = some w → ∃ m, m < es.length ∧ res.1 = posted ++ es.take (m + 1) ∧
          (∀ k, k < m → releases drop (respAt script k) = true) ∧
          releases drop (respAt script m) = false ∧
          writeDecision drop (if m = 0 then failed else 0) (respAt script m) = .fail w ∧
          res.2.1 = (if m = 0 then failed else 0) + 1) := by
  intro es
  induction es with
  | nil => intro script failed posted; simp [sendLoop]
  | cons e es ih =>
    intro script failed posted
    have hhd : script.headD { kind := 0, status := 204 } = respAt script 0 := by cases script <;> rfl
    have htl (k : Nat) : respAt script.tail k = respAt script (k + 1) := by
      cases script <;> simp [respAt, List.getD]
    simp only [sendLoop, hhd]
    cases hd : writeDecision drop failed (respAt script 0) with
    | ok =>
      have hrel := (writeDecision_ok_iff _ _ _).mp hd
      obtain ⟨hnone, hsome⟩ := ih script.tail 0 (posted ++ [e])
      refine ⟨fun h => ?_, fun w h => ?_⟩
      · obtain ⟨h1, h2, h3⟩ := hnone h
        refine ⟨by simp [h1], by rw [h2]; simp, fun k hk => ?_⟩
        cases k with
        | zero => exact hrel
        | succ k => rw [← htl]; exact h3 k (by simpa using hk)
      · obtain ⟨m, hm, h1, h2, h3, h4, h5⟩ := hsome w h
        simp only [htl, ite_self] at h3 h4 h5
        refine ⟨m + 1, by simpa using hm, by simp [h1], fun k hk => ?_, h3, by simpa using h4, by simpa using h5⟩
        cases k with
        | zero => exact hrel
        | succ k => rw [← htl]; exact h2 k (by omega)
    | fail w =>
      refine ⟨fun h => (nomatch h), fun w' h => ⟨0, by simp, by simp, fun k hk => by omega, ?_, ?_, rfl⟩⟩
      · cases hr : releases drop (respAt script 0) with
        | false => rfl
        | true => rw [(writeDecision_ok_iff _ failed _).mpr hr] at hd; cases hd
      · obtain rfl : w = w' := by simpa using h
        simpa using hd

theorem sendLoop_spec (drop : Bool) :
    ∀ (es : List Bytes) (script : List Resp) (failed : Nat) (posted : List Bytes),
      let res := sendLoop drop es script failed posted
      ∃ m, m ≤ es.length ∧ res.1 = posted ++ es.take m ∧
        (res.2.2 = none → m = es.length ∧
            ∀ k, k < m → releases drop (script.getD k { kind := 0, status := 204 }) = true) ∧
        (∀ w, res.2.2 = some w → m ≥ 1 ∧
            (∀ k, k < m - 1 → releases drop (script.getD k { kind := 0, status := 204 }) = true) ∧
            releases drop (script.getD (m - 1) { kind := 0, status := 204 }) = false) := by
  intro es script failed posted
  obtain ⟨hnone, hsome⟩ := sendLoop_full drop es script failed posted
  intro res
  cases hres : res.2.2 with
  | none =>
    obtain ⟨h1, _, h3⟩ := hnone hres
    exact ⟨es.length, Nat.le_refl _, by simpa using h1, fun _ => ⟨rfl, h3⟩, fun w h => (nomatch h)⟩
  | some w =>
    obtain ⟨m, hm, h1, h2, h3, _⟩ := hsome w hres
    exact ⟨m + 1, hm, h1, fun h => (nomatch h), fun _ _ => ⟨by omega, h2, h3⟩⟩

end Influx.Repl
