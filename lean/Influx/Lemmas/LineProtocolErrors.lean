/-
  The errors of the model.  "The error names exactly the rejected lines": the error text built
  by `errorText` from the per-line results is accepted by `Spec.C12.namesRejected`.
  The out-of-range outcomes (`Err.panic`) are unreachable from `parsePoint`: `NoPanic` is closed
  under the ways the scanners build their answers, and the three places that can answer
  `Err.panic` are shown to be in range.
-/
import Influx.Lemmas.LineProtocolTrace12
import Influx.Lemmas.LineProtocolSortPath

namespace Influx.LP

section
open Influx.Spec.C12

theorem stripPrefix_append (p s : Bytes) : stripPrefix p (p ++ s) = some s := by
  induction p with
  | nil => rfl
  | cons a p ih => simp [stripPrefix, ih]

/-- what follows the entries already consumed: nothing, or newline-separated entries -/
def errTail (first : Bool) (failed : List (Bytes × Err)) : Bytes :=
  match failed with
  | [] => []
  | _ :: _ => (if first then [] else [cNL]) ++ joinNL (failed.map fun f => errEntry f.1 f.2.msg)

theorem joinNL_cons (a : Bytes) (l : List Bytes) :
    joinNL (a :: l) = a ++ (match l with | [] => [] | _ :: _ => cNL :: joinNL l) := by
  cases l with
  | nil => simp [joinNL]
  | cons b r => simp [joinNL]

theorem errTail_cons (first : Bool) (c : Bytes) (e : Err) (fs : List (Bytes × Err)) :
    errTail first ((c, e) :: fs) =
      (if first then [] else [cNL]) ++ (errPrefix ++ c ++ errSep) ++ (e.msg ++ errTail false fs) := by
  cases fs with
  | nil => simp [errTail, joinNL, errEntry]
  | cons f fs' => simp [errTail, joinNL_cons, errEntry]

theorem errTail_boundary (fs : List (Bytes × Err)) :
    errTail false fs = [] ∨ ∃ r, errTail false fs = cNL :: (errPrefix ++ r) := by
  cases fs with
  | nil => left; rfl
  | cons f fs' =>
    right
    refine ⟨f.1 ++ errSep ++ (f.2.msg ++ errTail false fs'), ?_⟩
    rw [show f = (f.1, f.2) from rfl, errTail_cons]
    simp

theorem mem_boundarySuffixes (msg tail : Bytes)
    (h : tail = [] ∨ ∃ r, tail = cNL :: (errPrefix ++ r)) : tail ∈ boundarySuffixes (msg ++ tail) := by
  induction msg with
  | nil =>
    rcases h with rfl | ⟨r, rfl⟩
    · simp [boundarySuffixes]
    · simp [boundarySuffixes, stripPrefix_append]
  | cons b m ih =>
    simp only [List.cons_append, boundarySuffixes, List.mem_append]
    right; exact ih

def countOk : List (Bytes × Except Err Point) → Nat
  | [] => 0
  | (_, .ok _) :: rs => countOk rs + 1
  | (_, .error _) :: rs => countOk rs

theorem okPoints_length (rs : List (Bytes × Except Err Point)) : (okPoints rs).length = countOk rs := by
  induction rs with
  | nil => rfl
  | cons r rs ih =>
    obtain ⟨c, res⟩ := r
    cases res with
    | ok p => simp [okPoints, countOk] at ih ⊢; exact ih
    | error e => simp [okPoints, countOk] at ih ⊢; exact ih

theorem failedLines_cons_ok (c : Bytes) (p : Point) (rs) :
    failedLines ((c, .ok p) :: rs) = failedLines rs := by simp [failedLines]
theorem failedLines_cons_err (c : Bytes) (e : Err) (rs) :
    failedLines ((c, .error e) :: rs) = (c, e) :: failedLines rs := by simp [failedLines]

theorem namesRejected_model (rs : List (Bytes × Except Err Point)) (first : Bool) :
    namesRejected (rs.map (·.1)) (countOk rs) (errTail first (failedLines rs)) first = true := by
  induction rs generalizing first with
  | nil => cases first <;> rfl
  | cons r rs ih =>
    obtain ⟨c, res⟩ := r
    cases res with
    | ok p =>
      simp only [List.map_cons, countOk, failedLines_cons_ok, namesRejected]
      simp [ih first]
    | error e =>
      have hstrip : (if first = true then some (errTail first ((c, e) :: failedLines rs))
          else stripPrefix [cNL] (errTail first ((c, e) :: failedLines rs))) =
          some ((errPrefix ++ c ++ errSep) ++ (e.msg ++ errTail false (failedLines rs))) := by
        rw [errTail_cons]
        cases first <;> simp [stripPrefix]
      simp only [List.map_cons, countOk, failedLines_cons_err, namesRejected, hstrip, stripPrefix_append]
      refine Bool.or_eq_true_iff.mpr (.inr (List.any_eq_true.mpr ?_))
      exact ⟨errTail false (failedLines rs), mem_boundarySuffixes _ _ (errTail_boundary _), ih false⟩
theorem errorText_eq (failed : List (Bytes × Err)) :
    errorText failed = if failed.isEmpty then none else some (errTail true failed) := by
  unfold errorText
  cases failed with
  | nil => rfl
  | cons f fs => simp [errTail]

theorem errTail_ne_nil (f : Bytes × Err) (fs : List (Bytes × Err)) : errTail true (f :: fs) ≠ [] := by
  rw [show f = (f.1, f.2) from rfl, errTail_cons]
  simp [errPrefix, str]

end

section
open Influx.Generated.LineProto

def Err.isPanic : Err → Bool
  | .panic _ => true
  | _ => false

def NoPanic (r : Except Err α) : Prop := ∀ e, r = .error e → e.isPanic = false

theorem NoPanic.ok (a : α) : NoPanic (.ok a : Except Err α) := fun _ h => nomatch h

theorem NoPanic.error {e : Err} (h : e.isPanic = false) : NoPanic (.error e : Except Err α) :=
  fun _ h' => by cases h'; exact h

theorem NoPanic.ite {c : Prop} [Decidable c] {a b : Except Err α} (ha : NoPanic a) (hb : NoPanic b) :
    NoPanic (if c then a else b) := by
  split <;> assumption

theorem NoPanic.consOk {b : Nat} {r : Except Err (Bytes × Bytes)} (h : NoPanic r) : NoPanic (consOk b r) := by
  cases r with
  | error e => exact h
  | ok p => exact .ok _

theorem checkBoolean_noPanic (tok : Bytes) : NoPanic (checkBoolean tok) := by
  cases tok with
  | nil => exact .error rfl
  | cons c t =>
    exact .ite (.error rfl) (.ite (.ok _) (.ite (.error rfl) (.ite (.error rfl) (.ite (.ok _) (.error rfl)))))

theorem finish_noPanic (s : FSt) (rest : Bytes) : NoPanic (s.finish rest) :=
  .ite (.error rfl) (.ite (.error rfl) (.ok _))

theorem toErr_noPanic (e : NumErr) : e.toErr.isPanic = false := by cases e <;> rfl

theorem scanFieldsM_noPanic (m : FMode) (s : FSt) (buf : Bytes) : NoPanic (scanFieldsM m s buf) := by
  induction buf generalizing m s with
  | nil =>
    cases m with
    | normal => exact finish_noPanic _ _
    | skip => exact finish_noPanic _ _
    | num t =>
      rw [scanFieldsM]
      split
      · exact .error (toErr_noPanic _)
      · exact finish_noPanic _ _
    | bool t =>
      rw [scanFieldsM]
      split
      · next e he => exact .error (checkBoolean_noPanic _ e he)
      · exact finish_noPanic _ _
  | cons b rest ih =>
    cases m with
    | skip => exact .consOk (ih _ _)
    | num t =>
      refine .ite ?_ (.consOk (ih _ _))
      split
      · exact .error (toErr_noPanic _)
      · exact .ite (.consOk (ih _ _)) (finish_noPanic _ _)
    | bool t =>
      refine .ite ?_ (.consOk (ih _ _))
      split
      · next e he => exact .error (checkBoolean_noPanic _ e he)
      · exact .ite (.consOk (ih _ _)) (finish_noPanic _ _)
    | normal =>
      refine .ite (.consOk (ih _ _)) (.ite (.consOk (ih _ _))
        (.ite (.ite (.error rfl) (.ite (.error rfl) ?_)) (.ite (finish_noPanic _ _) (.consOk (ih _ _)))))
      split
      · exact .error rfl
      · exact .ite (.error rfl) (.ite (.consOk (ih _ _)) (.ite (.consOk (ih _ _)) (.consOk (ih _ _))))

theorem scanTagsKeyAux_noPanic (prev : Nat) (buf : Bytes) : NoPanic (scanTagsKeyAux prev buf) := by
  induction buf generalizing prev with
  | nil => exact .error rfl
  | cons b rest ih =>
    refine .ite (.error rfl) (.ite (.ok _) ?_)
    split
    · exact .ok _
    · next e he => exact .error (ih b e he)

theorem scanTagsKey_noPanic (buf : Bytes) : NoPanic (scanTagsKey buf) := by
  cases buf with
  | nil => exact .error rfl
  | cons b rest =>
    refine .ite (.error rfl) ?_
    split
    · exact .ok _
    · next e he => exact .error (scanTagsKeyAux_noPanic b rest e he)

theorem scanTagsValueAux_noPanic (prev : Nat) (buf : Bytes) : NoPanic (scanTagsValueAux prev buf) := by
  induction buf generalizing prev with
  | nil => exact .error rfl
  | cons b rest ih =>
    refine .ite (.error rfl) (.ite (.ok _) (.ite (.ok _) ?_))
    split
    · exact .ok _
    · next e he => exact .error (ih b e he)

theorem scanTagsValue_noPanic (buf : Bytes) : NoPanic (scanTagsValue buf) := by
  cases buf with
  | nil => exact .error rfl
  | cons b rest =>
    refine .ite (.error rfl) ?_
    split
    · exact .ok _
    · next e he => exact .error (scanTagsValueAux_noPanic b rest e he)

/-- the fuel of `scanTags` (the buffer length + 1) is never exhausted -/
theorem scanTags_noPanic (fuel : Nat) (buf : Bytes) (hf : buf.length < fuel) : NoPanic (scanTags fuel buf) := by
  induction fuel generalizing buf with
  | zero => omega
  | succ n ih =>
    rw [scanTags]
    split
    · next e he => exact .error (scanTagsKey_noPanic buf e he)
    · next k r1 hk =>
      split
      · next e he => exact .error (scanTagsValue_noPanic r1 e he)
      · exact .ok _
      · next v r2 hv =>
        have hr2 : r2.length < n := by
          have k4 := (scanTagsKey_shape buf k r1 hk).2
          have v4 := (scanTagsValue_shape r1 v _ hv).2.2.1 r2 rfl
          rw [k4, v4] at hf
          simp only [List.length_append, List.length_cons] at hf
          omega
        split
        · next e he => exact .error (ih r2 hr2 e he)
        · exact .ok _

theorem lastTwo_none (l : Bytes) (h : lastTwo l = none) : l.length < 2 := by
  rw [← List.length_reverse]
  unfold lastTwo at h
  split at h
  · cases h
  · next hn =>
    match hr : l.reverse with
    | [] => simp
    | [_] => simp
    | a :: b :: t => exact (hn a b t hr).elim

theorem skipWhitespace_length_le (l : Bytes) : (skipWhitespace l).length ≤ l.length := by
  induction l with
  | nil => exact Nat.le_refl _
  | cons b r ih =>
    rw [skipWhitespace]
    split
    · exact Nat.le_succ_of_le ih
    · exact Nat.le_refl _

/-- the look-behind of `scanFields` stays inside the buffer: a non-empty key and the space
    after it lie before the first field byte -/
theorem scanFields_noPanic (pre rest : Bytes) (hpre : pre ≠ []) (hr : rest.head? = some cSpace) :
    NoPanic (scanFields pre rest) := by
  unfold scanFields
  simp only []
  split
  · next hn =>
    obtain ⟨x, pre', rfl⟩ := List.exists_cons_of_ne_nil hpre
    match rest, hr with
    | _ :: r, rfl =>
      have h1 : skipWhitespace (cSpace :: r) = skipWhitespace r := rfl
      have h2 := skipWhitespace_length_le r
      have h3 := lastTwo_none _ hn
      rw [h1] at h3
      simp only [List.length_append, List.length_cons, List.length_take] at h3
      omega
  · exact scanFieldsM_noPanic _ _ _

theorem walkFieldsCheck_noPanic (keyLen fuel : Nat) (fields : Bytes) :
    NoPanic (walkFieldsCheck keyLen fuel fields) := by
  induction fuel generalizing fields with
  | zero => exact .ok _
  | succ n ih =>
    cases fields with
    | nil => exact .ok _
    | cons b r => exact .ite (.error rfl) (.ite (.error rfl) (.ite (.error rfl) (ih _)))

theorem scanTimeAux_noPanic (a : Bool) (buf : Bytes) : NoPanic (scanTimeAux a buf) := by
  induction buf generalizing a with
  | nil => exact .ok _
  | cons b rest ih => exact .ite (.ok _) (.ite (.consOk (ih _)) (.ite (.error rfl) (.consOk (ih _))))

theorem checkSorted_noPanic (l : List Bytes) : NoPanic (checkSorted l) := by
  induction l with
  | nil => exact .ok _
  | cons a rest ih =>
    cases rest with
    | nil => exact .ok _
    | cons b r =>
      rw [checkSorted]
      split
      · exact .ok _
      · exact .error rfl
      · exact ih

theorem safeCalcTime_noPanic (v : Int) (prec : String) : NoPanic (safeCalcTime v prec) := by
  unfold safeCalcTime
  split
  · exact .ite (.error rfl) (.ok _)
  · exact .error rfl

/-- the sorted suffixes all start with a scanned tag, so `scanToSpaceOr` stays in range -/
theorem scanKeySort_noPanic (name : Bytes) (kvs : List (Bytes × Bytes)) (rest : Bytes)
    (hs : ∀ kv ∈ kvs, KVShape kv) (hr : rest.head? = some cSpace) :
    NoPanic (scanKeySort name (kvs.map kvText) rest) := by
  unfold scanKeySort
  obtain ⟨kvl, m1, _, _⟩ := mapM_scanToSpaceOr _ fun s hs' =>
    tagSuffixes_shape kvs rest hs hr s ((mem_insertionSort _ _ s).mp hs')
  rw [m1]
  exact .ite (.error rfl) (.ok _)

theorem scanKeyTags_noPanic (name r0 : Bytes) : NoPanic (scanKeyTags name r0) := by
  unfold scanKeyTags
  split
  · next e he => exact .error (scanTags_noPanic _ _ (Nat.lt_succ_self _) e he)
  · next raws rest hst =>
    obtain ⟨kvs, rfl, _, hks, hrest, _⟩ := scanTags_shape _ _ _ _ hst
    split
    · exact .error rfl
    · split
      · next e he => exact .error (checkSorted_noPanic _ e he)
      · exact .ok _
      · exact scanKeySort_noPanic name kvs rest hks hrest

theorem scanKey_noPanic (buf : Bytes) : NoPanic (scanKey buf) := by
  unfold scanKey
  split
  · exact .error rfl
  · exact .error rfl
  · exact .ok _
  · exact scanKeyTags_noPanic _ _

/-- **no modelled panic**: `parsePoint` never answers with one of the out-of-range outcomes
    (`scanTags` index growth, `scanToSpaceOr`, `scanFields` look-behind) -/
theorem parsePoint_noPanic (line : Bytes) (dt : Int) (prec : String) : NoPanic (parsePoint line dt prec) := by
  unfold parsePoint
  split
  · next e he => exact .error (scanKey_noPanic line e he)
  · next key rest hk =>
    obtain ⟨_, hhead, X, hX, hsplit⟩ := scanKey_ok _ _ _ hk
    refine .ite (.error rfl) (.ite (.error rfl) ?_)
    simp only []
    split
    · next e he =>
      refine .error (scanFields_noPanic _ _ ?_ hhead e he)
      rw [hsplit, List.length_append, Nat.add_sub_cancel, List.take_left']
      · exact hX
      · rfl
    · refine .ite (.error rfl) ?_
      split
      · next e he => exact .error (walkFieldsCheck_noPanic _ _ _ e he)
      · split
        · next e he => exact .error (scanTimeAux_noPanic _ _ e he)
        · refine .ite (.ok _) ?_
          split
          · exact .error rfl
          · split
            · next e he => exact .error (safeCalcTime_noPanic _ _ e he)
            · exact .ite (.ok _) (.error rfl)

end

end Influx.LP
