/-
  Lemmas.Reads — facts about Model.Reads used by Props.C21: blocks / arrays flatten to
  the filtered points; insertion sort is a sorted permutation; runs of a sorted list
  are a strictly ascending partition.
-/
import Influx.Model.Reads
import Influx.Spec.C21

namespace Influx.Reads
open Influx.WindowAgg (Val Typ Pt)

theorem blocks_flatten {β : Type} (B : Nat) (hB : 1 ≤ B) (xs : List β) : (blocks B xs).flatten = xs := by
  fun_induction blocks B xs with
  | case1 xs h =>
    rcases h with h | h
    · omega
    · simp [h]
  | case2 xs h ih => simp [ih]

theorem Shard.arrays_flatten (sh : Shard) (lo hi : Int) :
    (sh.arrays lo hi).flatten = sh.chunks.flatten.filter (inRange lo hi) := by
  unfold Shard.arrays
  rw [List.flatten_filter_not_isEmpty, ← List.filter_flatten]

/-- the value condition as a predicate on points (`none`: everything passes) -/
def condOK (c : Option Cond) (p : Pt Val) : Bool :=
  match c with
  | none => true
  | some c => c.eval p.2

theorem shardArrays_flatten (B : Nat) (hB : 1 ≤ B) (c : Option Cond) (lo hi : Int) (sh : Shard) :
    (shardArrays B c lo hi sh).flatten = (sh.chunks.flatten.filter (inRange lo hi)).filter (condOK c) := by
  cases c with
  | none =>
    have : condOK none = fun _ => true := rfl
    simp only [shardArrays]
    rw [Shard.arrays_flatten, this]
    exact (List.filter_eq_self.mpr (fun _ _ => rfl)).symm
  | some c =>
    have : condOK (some c) = fun p => c.eval p.2 := rfl
    simp only [shardArrays, reblock]
    rw [blocks_flatten B hB, Shard.arrays_flatten, this]

theorem flatMap_flatten {β γ : Type} (f : β → List (List γ)) (l : List β) :
    (l.flatMap f).flatten = l.flatMap (fun x => (f x).flatten) := by
  induction l with
  | nil => rfl
  | cons x xs ih => simp [ih]

section Srt
set_option linter.unusedSectionVars false
variable {ρ κ : Type} [LT κ] [DecidableLT κ] [DecidableEq κ]

/-- what is needed of `<` on the keys -/
structure STO (κ : Type) [LT κ] : Prop where
  irrefl : ∀ a : κ, ¬ a < a
  trans : ∀ {a b c : κ}, a < b → b < c → a < c
  tri : ∀ a b : κ, a < b ∨ a = b ∨ b < a

def Le (a b : κ) : Prop := ¬ b < a

theorem insertBy_perm (k : ρ → κ) (r : ρ) (xs : List ρ) : (insertBy k r xs).Perm (r :: xs) := by
  induction xs with
  | nil => exact List.Perm.refl _
  | cons x xs ih =>
    unfold insertBy
    split
    · exact List.Perm.refl _
    · exact (List.Perm.cons x ih).trans (List.Perm.swap r x xs)

theorem sortBy_perm (k : ρ → κ) (rows : List ρ) : (sortBy k rows).Perm rows := by
  unfold sortBy
  suffices h : ∀ acc : List ρ, (rows.foldl (fun acc r => insertBy k r acc) acc).Perm (acc ++ rows) by
    simpa using h []
  induction rows with
  | nil => intro acc; simp
  | cons r rs ih =>
    intro acc
    simp only [List.foldl_cons]
    refine (ih _).trans ?_
    have := insertBy_perm k r acc
    refine (List.Perm.append_right rs this).trans ?_
    simp only [List.cons_append]
    exact (List.perm_middle (a := r) (l₁ := acc) (l₂ := rs)).symm

theorem insertBy_sorted (h : STO κ) (k : ρ → κ) (r : ρ) (xs : List ρ)
    (hs : xs.Pairwise (fun a b => Le (k a) (k b))) :
    (insertBy k r xs).Pairwise (fun a b => Le (k a) (k b)) := by
  induction xs with
  | nil => simp [insertBy]
  | cons x xs ih =>
    rw [List.pairwise_cons] at hs
    unfold insertBy
    split
    · next hlt =>
      rw [List.pairwise_cons]
      refine ⟨?_, List.pairwise_cons.mpr hs⟩
      intro b hb
      rcases List.mem_cons.mp hb with rfl | hb
      · exact fun h' => h.irrefl _ (h.trans hlt h')
      · exact fun h' => hs.1 b hb (h.trans h' hlt)
    · next hnlt =>
      rw [List.pairwise_cons]
      refine ⟨?_, ih hs.2⟩
      intro b hb
      have := (insertBy_perm k r xs).mem_iff.mp hb
      rcases List.mem_cons.mp this with rfl | hb
      · exact hnlt
      · exact hs.1 b hb

theorem sortBy_sorted (h : STO κ) (k : ρ → κ) (rows : List ρ) :
    (sortBy k rows).Pairwise (fun a b => Le (k a) (k b)) := by
  unfold sortBy
  suffices hh : ∀ acc : List ρ, acc.Pairwise (fun a b => Le (k a) (k b)) →
      (rows.foldl (fun acc r => insertBy k r acc) acc).Pairwise (fun a b => Le (k a) (k b)) by
    exact hh [] List.Pairwise.nil
  induction rows with
  | nil => intro acc ha; simpa using ha
  | cons r rs ih => intro acc ha; exact ih _ (insertBy_sorted h k r acc ha)

theorem runs_head (k : ρ → κ) (r : ρ) (rs : List ρ) : ∃ g gs, runs k (r :: rs) = (r :: g) :: gs := by
  induction rs generalizing r with
  | nil => exact ⟨[], [], rfl⟩
  | cons r' rs ih =>
    obtain ⟨g, gs, e⟩ := ih r'
    rw [runs, e]
    by_cases h : k r = k r'
    · exact ⟨r' :: g, gs, if_pos h⟩
    · exact ⟨[], (r' :: g) :: gs, if_neg h⟩

theorem runs_cons_cons (k : ρ → κ) (r r' : ρ) (rs : List ρ) :
    ∃ g gs, runs k (r' :: rs) = (r' :: g) :: gs ∧
      runs k (r :: r' :: rs) = if k r = k r' then (r :: r' :: g) :: gs else [r] :: (r' :: g) :: gs := by
  obtain ⟨g, gs, e⟩ := runs_head k r' rs
  exact ⟨g, gs, e, by rw [runs, e]⟩

theorem runs_flatten (k : ρ → κ) (l : List ρ) : (runs k l).flatten = l := by
  induction l with
  | nil => rfl
  | cons r rs ih =>
    cases rs with
    | nil => rfl
    | cons r' rs =>
      obtain ⟨g, gs, e, e'⟩ := runs_cons_cons k r r' rs
      rw [e] at ih
      rw [e', ← ih]
      by_cases h : k r = k r'
      · rw [if_pos h]; rfl
      · rw [if_neg h]; rfl

theorem runs_spec (h : STO κ) (k : ρ → κ) (l : List ρ) (hs : l.Pairwise (fun a b => Le (k a) (k b))) :
    (∀ g ∈ runs k l, g ≠ [] ∧ ∀ a ∈ g, ∀ b ∈ g, k a = k b) ∧
    (runs k l).Pairwise (fun g1 g2 => ∀ a ∈ g1, ∀ b ∈ g2, k a < k b) := by
  induction l with
  | nil => exact ⟨fun _ hg => (List.not_mem_nil hg).elim, List.Pairwise.nil⟩
  | cons r rs ih =>
    rw [List.pairwise_cons] at hs
    cases rs with
    | nil =>
      refine ⟨fun g hg => ?_, List.pairwise_singleton _ _⟩
      rw [List.mem_singleton.mp hg]
      exact ⟨List.cons_ne_nil _ _, fun a ha b hb => by rw [List.mem_singleton.mp ha, List.mem_singleton.mp hb]⟩
    | cons r' rs =>
      obtain ⟨g, gs, e, e'⟩ := runs_cons_cons k r r' rs
      obtain ⟨h1, h2⟩ := ih hs.2
      rw [e] at h1 h2
      rw [List.pairwise_cons] at h2
      -- every element of the first run of the tail has the key of `r'`
      have hconst : ∀ b ∈ r' :: g, k b = k r' := fun b hb =>
        (h1 _ List.mem_cons_self).2 b hb r' List.mem_cons_self
      rw [e']
      by_cases hk : k r = k r'
      · -- `r` joins the first run
        have hconst' : ∀ b ∈ r :: r' :: g, k b = k r' := fun b hb =>
          (List.mem_cons.mp hb).elim (fun e => e ▸ hk) (hconst b)
        rw [if_pos hk]
        refine ⟨fun g' hg' => ?_, List.pairwise_cons.mpr ⟨fun g2 hg2 a ha b hb => ?_, h2.2⟩⟩
        · rcases List.mem_cons.mp hg' with rfl | hg'
          · exact ⟨List.cons_ne_nil _ _, fun a ha b hb => (hconst' a ha).trans (hconst' b hb).symm⟩
          · exact h1 g' (List.mem_cons_of_mem _ hg')
        · rw [hconst' a ha, ← hconst r' List.mem_cons_self]
          exact h2.1 g2 hg2 r' List.mem_cons_self b hb
      · -- `r` opens a run of its own, strictly below the next one
        have hrx : k r < k r' := by
          rcases h.tri (k r) (k r') with hlt | heq | hgt
          · exact hlt
          · exact absurd heq hk
          · exact absurd hgt (hs.1 r' List.mem_cons_self)
        rw [if_neg hk]
        refine ⟨fun g' hg' => ?_, List.pairwise_cons.mpr ⟨fun g2 hg2 a ha b hb => ?_, List.pairwise_cons.mpr h2⟩⟩
        · rcases List.mem_cons.mp hg' with rfl | hg'
          · exact ⟨List.cons_ne_nil _ _, fun a ha b hb => by
              rw [List.mem_singleton.mp ha, List.mem_singleton.mp hb]⟩
          · exact h1 g' hg'
        · rw [List.mem_singleton.mp ha]
          rcases List.mem_cons.mp hg2 with rfl | hg2
          · rw [hconst b hb]; exact hrx
          · exact h.trans hrx (h2.1 g2 hg2 r' List.mem_cons_self b hb)

end Srt

theorem stringSTO : STO String where
  irrefl a := by rw [String.lt_iff]; exact List.lt_irrefl _
  trans h1 h2 := by rw [String.lt_iff] at *; exact List.lt_trans h1 h2
  tri a b := by
    rw [String.lt_iff, String.lt_iff]
    by_cases h : a.toList < b.toList
    · exact Or.inl h
    · have := List.not_lt.mp h
      rcases List.le_iff_lt_or_eq.mp this with h' | h'
      · exact Or.inr (Or.inr h')
      · exact Or.inr (Or.inl (String.toList_injective h'.symm))

end Influx.Reads
