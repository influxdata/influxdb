/-
  Lemmas.TSIInvStruct — the partition invariant through log roll, log-file compaction,
  index-file merges, the background compaction fixpoint and reopen: each replaces a run of
  adjacent files by one file that shows the same views.
-/
import Influx.Lemmas.TSIInvDrop

namespace Influx.Model.TSI

/-- `g` can stand for the adjacent files `seg` (newest first). -/
structure Replaces (sf : SFile) (seg : List File) (g : File) : Prop where
  ok : FileOK sf g
  flag : ∀ n, measFlag n g.data = firstSome (measFlag n) (seg.map (·.data))
  meas : ∀ f ∈ seg, ∀ n x, x ∈ fileMeasSeries n f.data → x ∈ fileMeasSeries n g.data
  val : ∀ f ∈ seg, ∀ n k v x, x ∈ fileValSeries n k v f.data → x ∈ fileValSeries n k v g.data
  stat : ∀ x, status x [g.data] = status x (seg.map (·.data))
  tomb : ∀ x ∈ g.data.tomb, ∃ f ∈ seg, x ∈ f.data.tomb

theorem firstSome_segment {β : Type} (get : FileData → Option β) (pre seg post : List FileData)
    (g : FileData) (h : get g = firstSome get seg) :
    firstSome get (pre ++ g :: post) = firstSome get (pre ++ (seg ++ post)) := by
  rw [firstSome_append, firstSome_append, firstSome_append, firstSome_cons, h]

theorem firstSome_singleton {β : Type} (get : FileData → Option β) (g : FileData) :
    firstSome get [g] = get g := by
  rw [firstSome_cons]; cases get g <;> rfl

theorem status_segment (x : Nat) (pre seg post : List FileData) (g : FileData)
    (h : status x [g] = status x seg) :
    status x (pre ++ g :: post) = status x (pre ++ (seg ++ post)) :=
  firstSome_segment _ pre seg post g ((firstSome_singleton _ g).symm.trans h)

theorem pinv_replace {exc : String → Prop} {sf : SFile} {live : List Nat} {i : Nat} {p q : Partition}
    (hp : PInvX exc sf live i p) (pre seg post : List File) (g : File)
    (hfiles : p.files = pre ++ (seg ++ post)) (hg : Replaces sf seg g)
    (hq : q.files = pre ++ g :: post) (hs : q.sset = p.sset)
    (hhead : ∃ a rest, q.files = a :: rest ∧ a.isLog = true) : PInvX exc sf live i q := by
  have hold : ∀ f ∈ q.files, f = g ∨ f ∈ p.files := by
    intro f hf
    rw [hfiles]
    rw [hq] at hf
    simp only [List.mem_append, List.mem_cons] at hf ⊢
    rcases hf with h | h | h
    · exact Or.inr (Or.inl h)
    · exact Or.inl h
    · exact Or.inr (Or.inr (Or.inr h))
  have hnew : ∀ f ∈ p.files, f ∈ seg ∨ f ∈ q.files := by
    intro f hf
    rw [hq]
    rw [hfiles] at hf
    simp only [List.mem_append, List.mem_cons] at hf ⊢
    rcases hf with h | h | h
    · exact Or.inr (Or.inl h)
    · exact Or.inl h
    · exact Or.inr (Or.inr (Or.inr h))
  have hseg : ∀ f ∈ seg, f ∈ p.files := fun f hf =>
    hfiles ▸ List.mem_append_right _ (List.mem_append_left _ hf)
  have hdatas0 : p.datas = pre.map (·.data) ++ (seg.map (·.data) ++ post.map (·.data)) := by
    unfold Partition.datas; rw [hfiles, List.map_append, List.map_append]
  have hdatas : q.datas = pre.map (·.data) ++ g.data :: post.map (·.data) := by
    unfold Partition.datas; rw [hq, List.map_append, List.map_cons]
  refine pinv_of_fileOK hhead (fun f hf => (hold f hf).elim (fun e => e ▸ hg.ok) (pinv_fileOK hp))
    (fun x t hx ht hpx => ?_) (fun f hf x hx hxt => ?_) (fun x => hs ▸ hp.sset x)
    (fun x => ?_) (fun x t hx ht hpx => ?_) (fun n hn => ?_)
  · obtain ⟨f, hf, hm, hv⟩ := hp.comp x t hx ht hpx
    rcases hnew f hf with hfs | hfq
    · exact ⟨g, hq ▸ List.mem_append_right _ List.mem_cons_self, hg.meas f hfs _ _ hm,
        fun k v hkv => hg.val f hfs _ _ _ _ (hv k v hkv)⟩
    · exact ⟨f, hfq, hm, hv⟩
  · rcases hold f hf with rfl | h
    · obtain ⟨f', hf', hxf'⟩ := hg.tomb x hxt
      exact hp.notomb f' (hseg f' hf') x hx hxf'
    · exact hp.notomb f h x hx hxt
  · rw [hdatas, status_segment x _ (seg.map (·.data)) _ _ (hg.stat x), ← hdatas0]
    exact hp.stat x
  · rw [hdatas, firstSome_segment (measFlag t.name) _ (seg.map (·.data)) _ _ (hg.flag t.name), ← hdatas0]
    exact hp.mflive x t hx ht hpx
  · rw [hdatas, firstSome_segment (measFlag n) _ (seg.map (·.data)) _ _ (hg.flag n), ← hdatas0] at hn
    exact hp.mfdead n hn

theorem pinv_roll {exc : String → Prop} {sf : SFile} {live : List Nat} {i : Nat} {p : Partition}
    (hp : PInvX exc sf live i p) :
    PInvX exc sf live i { p with files := newLog :: p.files, opStart := 0 } :=
  pinv_replace hp [] [] p.files newLog rfl
    ⟨fileOK_newLog sf, fun _ => rfl, fun _ h => absurd h List.not_mem_nil, fun _ h => absurd h List.not_mem_nil,
      fun _ => rfl, fun _ h => absurd h List.not_mem_nil⟩ rfl rfl ⟨newLog, p.files, rfl, rfl⟩

theorem fileOK_index {sf : SFile} {d : FileData} (level : Nat) (hnf : NoFlags d) (hs : Sound sf d)
    (htk : ∀ id ∈ d.tomb, (sf.find id).isSome) : FileOK sf { isLog := false, level := level, data := d } :=
  ⟨fun h => Bool.noConfusion h, fun _ h => absurd h List.not_mem_nil, hnf, hs, htk⟩

def logToIndex (f : File) : File := { isLog := false, level := 1, data := compactLogData f.data }

theorem replaces_compactLog {sf : SFile} {f : File} (hf : FileOK sf f) : Replaces sf [f] (logToIndex f) where
  ok := fileOK_index 1 (compactLog_noflags hf.noflags) (compactLog_sound hf.sound hf.noflags) hf.tknown
  flag n := by rw [logToIndex, compactLog_measFlag]; exact (firstSome_singleton _ _).symm
  meas f' hf' n x hx := by cases List.mem_singleton.mp hf'; rwa [logToIndex, compactLog_fileMeasSeries]
  val f' hf' n k v x hx := by
    cases List.mem_singleton.mp hf'
    rwa [logToIndex, fileValSeries_eq, compactLog_valElem_noflags hf.noflags]
  stat x := rfl
  tomb x hx := ⟨f, List.mem_singleton_self f, hx⟩

theorem status_merge (x : Nat) (ds : List FileData) : status x [mergeData ds] = status x ds := by
  obtain ⟨h1, h2⟩ := mem_mergeSets x ds
  rw [status_cons]
  show (if x ∈ (mergeSets ds).1 then _ else if x ∈ (mergeSets ds).2 then _ else _) = _
  cases h : status x ds with
  | none => rw [if_neg (fun e => by cases h1.mp e ▸ h), if_neg (fun e => by cases h2.mp e ▸ h)]; rfl
  | some b =>
    cases b
    · rw [if_neg (fun e => by cases h1.mp e ▸ h), if_pos (h2.mpr h)]
    · rw [if_pos (h1.mpr h)]

theorem replaces_merge {sf : SFile} {seg : List File} (hseg : ∀ f ∈ seg, FileOK sf f) (level : Nat) :
    Replaces sf seg { isLog := false, level := level, data := mergeData (seg.map (·.data)) } := by
  have hnf : ∀ d ∈ seg.map (·.data), NoFlags d := fun d hd => by
    obtain ⟨f, hf, rfl⟩ := List.mem_map.mp hd; exact (hseg f hf).noflags
  have hsnd : ∀ d ∈ seg.map (·.data), Sound sf d := fun d hd => by
    obtain ⟨f, hf, rfl⟩ := List.mem_map.mp hd; exact (hseg f hf).sound
  -- a tombstone of the merged file is the newest mention of its id in some input
  have htomb : ∀ x ∈ (mergeData (seg.map (·.data))).tomb, ∃ f ∈ seg, x ∈ f.data.tomb := by
    intro x hx
    obtain ⟨d, hd, hg⟩ := firstSome_eq_some ((mem_mergeSets x _).2.mp hx)
    obtain ⟨f, hf, rfl⟩ := List.mem_map.mp hd
    refine ⟨f, hf, ?_⟩
    split at hg
    · cases hg
    · split at hg
      · assumption
      · cases hg
  exact {
    ok := fileOK_index level (merge_noflags _ hnf) (merge_sound hsnd hnf) fun x hx => by
      obtain ⟨f, hf, hxf⟩ := htomb x hx
      exact (hseg f hf).tknown x hxf
    flag := fun n => merge_measFlag _ n
    meas := fun f hf n x hx => (merge_mem_fileMeasSeries _ n x).mpr ⟨f.data, List.mem_map_of_mem hf, hx⟩
    val := fun f hf n k v x hx =>
      (merge_mem_fileValSeries _ hnf n k v x).mpr ⟨f.data, List.mem_map_of_mem hf, hx⟩
    stat := fun x => status_merge x _
    tomb := htomb }

theorem compactOldestLog_go_some (l l' : List File) (h : compactOldestLog.go l = some l') :
    ∃ pre f post, l = pre ++ f :: post ∧ f.isLog = true ∧ l' = pre ++ logToIndex f :: post := by
  induction l generalizing l' with
  | nil => cases h
  | cons f fs ih =>
    unfold compactOldestLog.go at h
    cases hg : compactOldestLog.go fs with
    | some fs' =>
      rw [hg] at h
      cases h
      obtain ⟨pre, f0, post, h1, h2, h3⟩ := ih fs' hg
      exact ⟨f :: pre, f0, post, by rw [h1]; rfl, h2, by rw [h3]; rfl⟩
    | none =>
      simp only [hg] at h
      by_cases hl : f.isLog = true
      · rw [if_pos hl] at h; cases h; exact ⟨[], f, fs, rfl, hl, rfl⟩
      · rw [if_neg hl] at h; cases h

theorem compactNewestLog_go_some (l l' : List File) (h : compactNewestLog.go l = some l') :
    ∃ pre f post, l = pre ++ f :: post ∧ f.isLog = true ∧ l' = pre ++ logToIndex f :: post := by
  induction l generalizing l' with
  | nil => cases h
  | cons f fs ih =>
    unfold compactNewestLog.go at h
    by_cases hl : f.isLog = true
    · rw [if_pos hl] at h; cases h; exact ⟨[], f, fs, rfl, hl, rfl⟩
    · rw [if_neg hl] at h
      cases hg : compactNewestLog.go fs with
      | none => rw [hg] at h; cases h
      | some fs' =>
        rw [hg] at h
        cases h
        obtain ⟨pre, f0, post, h1, h2, h3⟩ := ih fs' hg
        exact ⟨f :: pre, f0, post, by rw [h1]; rfl, h2, by rw [h3]; rfl⟩

def mergedFile (level : Nat) (a b : File) : File :=
  { isLog := false, level := level + 1, data := mergeData [a.data, b.data] }

theorem mergeOldestTwo_some (level : Nat) (rev r : List File) (h : mergeOldestTwo level rev = some r) :
    ∃ postRev b a preRev, rev = postRev ++ b :: a :: preRev ∧
      r = postRev ++ mergedFile level a b :: preRev := by
  induction rev generalizing r with
  | nil => cases h
  | cons b rest ih =>
    unfold mergeOldestTwo at h
    by_cases h1 : level < b.level
    · rw [if_pos h1] at h
      obtain ⟨r', hg, rfl⟩ := Option.map_eq_some_iff.mp h
      obtain ⟨postRev, b0, a0, preRev, e1, e2⟩ := ih r' hg
      exact ⟨b :: postRev, b0, a0, preRev, by rw [e1]; rfl, by rw [e2]; rfl⟩
    · rw [if_neg h1] at h
      by_cases h2 : b.level < level
      · rw [if_pos h2] at h; cases h
      · rw [if_neg h2] at h
        cases rest with
        | nil => cases h
        | cons a rest' =>
          dsimp only at h
          by_cases h3 : a.level = level
          · rw [if_pos h3] at h; cases h; exact ⟨[], b, a, rest', rfl, rfl⟩
          · rw [if_neg h3] at h; cases h

section
variable {exc : String → Prop} {sf : SFile} {live : List Nat} {i : Nat} {p : Partition}
  (hp : PInvX exc sf live i p)
include hp

theorem pinv_logToIndex (a : File) (pre : List File) (f : File) (post : List File)
    (hfiles : p.files = a :: (pre ++ f :: post)) :
    PInvX exc sf live i { p with files := a :: (pre ++ logToIndex f :: post) } := by
  obtain ⟨_, _, h, hl⟩ := hp.head
  cases hfiles.symm.trans h
  exact pinv_replace hp (a :: pre) [f] post _ hfiles
    (replaces_compactLog (pinv_fileOK hp (hfiles ▸ by simp))) rfl rfl ⟨a, _, rfl, hl⟩

theorem pinv_compactOldestLog : PInvX exc sf live i { p with files := compactOldestLog p.files } := by
  obtain ⟨a, rest, hfiles, _⟩ := hp.head
  rw [hfiles]
  cases hg : compactOldestLog.go rest with
  | none =>
    simp only [compactOldestLog, hg, Option.getD_none]
    exact pinv_of_eq hp hfiles.symm rfl
  | some l' =>
    obtain ⟨pre, f, post, h1, _, h3⟩ := compactOldestLog_go_some rest l' hg
    simp only [compactOldestLog, hg, Option.getD_some, h3]
    exact pinv_logToIndex hp a pre f post (h1 ▸ hfiles)

theorem pinv_mergeTwo (a0 : File) (pre : List File) (a b : File) (post : List File)
    (level : Nat) (hfiles : p.files = a0 :: (pre ++ a :: b :: post)) :
    PInvX exc sf live i { p with files := a0 :: (pre ++ mergedFile level a b :: post) } := by
  obtain ⟨_, _, h, hl⟩ := hp.head
  cases hfiles.symm.trans h
  refine pinv_replace hp (a0 :: pre) [a, b] post _ hfiles (replaces_merge (fun f hf => ?_) (level + 1))
    rfl rfl ⟨a0, _, rfl, hl⟩
  apply pinv_fileOK hp
  rw [hfiles]
  simp only [List.mem_cons, List.mem_append, List.not_mem_nil, or_false] at hf ⊢
  rcases hf with rfl | rfl <;> simp

theorem pinv_compactLevel (level : Nat) :
    PInvX exc sf live i { p with files := compactLevelFiles p.files level } := by
  unfold compactLevelFiles
  split
  · exact hp
  · obtain ⟨a0, rest, hfiles, _⟩ := hp.head
    rw [hfiles]
    simp only
    cases hg : mergeOldestTwo level rest.reverse with
    | none => exact pinv_of_eq hp hfiles.symm rfl
    | some r =>
      obtain ⟨postRev, b, a, preRev, h1, h2⟩ := mergeOldestTwo_some level rest.reverse r hg
      have hrest : rest = preRev.reverse ++ a :: b :: postRev.reverse := by
        simpa using congrArg List.reverse h1
      have hr : r.reverse = preRev.reverse ++ mergedFile level a b :: postRev.reverse := by
        rw [h2]; simp
      simp only [hr]
      exact pinv_mergeTwo hp a0 preRev.reverse a b postRev.reverse level (hrest ▸ hfiles)

theorem pinv_settleStep (fs : List File) (h : settleStep p.files = some fs) :
    PInvX exc sf live i { p with files := fs } := by
  unfold settleStep at h
  cases hc : compactNewestLog p.files with
  | some l =>
    rw [hc] at h
    cases h
    obtain ⟨a, rest, hfiles, _⟩ := hp.head
    rw [hfiles] at hc
    simp only [compactNewestLog] at hc
    cases hg : compactNewestLog.go rest with
    | none => rw [hg] at hc; cases hc
    | some l' =>
      rw [hg] at hc
      cases hc
      obtain ⟨pre, f, post, h1, _, h3⟩ := compactNewestLog_go_some rest l' hg
      rw [h3]
      exact pinv_logToIndex hp a pre f post (h1 ▸ hfiles)
  | none =>
    rw [hc] at h
    cases hl : [1, 2, 3, 4, 5, 6].find? (fun l => (mergeOldestTwo l p.files.tail.reverse).isSome) with
    | none => rw [hl] at h; cases h
    | some l => rw [hl] at h; cases h; exact pinv_compactLevel hp l

end

theorem pinv_settle {exc : String → Prop} {sf : SFile} {live : List Nat} {i : Nat} (fuel : Nat) :
    ∀ {p : Partition}, PInvX exc sf live i p → PInvX exc sf live i { p with files := settle fuel p.files } := by
  induction fuel with
  | zero => exact fun hp => hp
  | succ n ih =>
    intro p hp
    unfold settle
    cases hs : settleStep p.files with
    | none => exact hp
    | some fs => exact ih (pinv_settleStep hp fs hs)

/-- **reopen** (`Index.Open`): log files are replayed, the series-id set is rebuilt from the
    files, the background compaction runs to its fixpoint — nothing the invariant speaks of
    changes. -/
theorem pinv_reopen {exc : String → Prop} {sf : SFile} {live : List Nat} {i : Nat} {p : Partition}
    (hp : PInvX exc sf live i p) : PInvX exc sf live i (p.reopen sf) := by
  have hmap : p.files.map (fun f => if f.isLog then { f with data := replay sf f.entries } else f) = p.files := by
    conv => rhs; rw [← List.map_id p.files]
    refine List.map_congr_left fun f hf => ?_
    split
    · next hl => rw [← hp.loginv f hf hl]; rfl
    · rfl
  unfold Partition.reopen
  simp only [hmap]
  -- the rebuilt id set is the old one, as a set
  exact pinv_settle (8 * p.files.length + 8)
    (p := { p with sset := buildSeriesSet (p.files.map (·.data)) })
    { hp with sset := fun x => (mem_buildSeriesSet x _).trans (hp.stat x) }

end Influx.Model.TSI
