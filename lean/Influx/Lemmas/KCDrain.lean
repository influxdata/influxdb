/-
  Lemmas.KCDrain — the cursor from seek to exhaustion, in either direction: KeyCursor.Next and
  the loop that reads block after block until the first empty one.
-/
import Influx.Lemmas.KCRead

namespace Influx.KC
open Influx.Generated.KeyCursor

variable {V : Type} {n : Nat} {B : Vector (Block V) n} {rd : Marks n} {asc : Bool}

theorem fin?_eq_some {p : Int} (h0 : 0 ≤ p) (h1 : p < n) : ∃ i : Fin n, fin? n p = some i ∧ (i.val : Int) = p := by
  unfold fin?
  rw [dif_pos ⟨h0, h1⟩]
  exact ⟨_, rfl, Int.toNat_of_nonneg h0⟩

/-- the `c.pos++` loop of nextAscending stops at the first unread location after `pos`, or
    past the end of `seeks` -/
theorem scanAsc_spec (B : Vector (Block V) n) (rd : Marks n) :
    ∀ (k : Nat) (p : Int), -1 ≤ p → 1 ≤ k → (n : Int) - p ≤ k →
      ∃ p' r, scanAsc B rd k p = some (p', r) ∧ p < p' ∧
        (∀ j : Fin n, p < j.val → j.val < p' → isRead B rd j = true) ∧
        match r with
        | none => (n : Int) ≤ p'
        | some i => p' = i.val ∧ isRead B rd i = false := by
  intro k
  induction k with
  | zero => intro p _ h; omega
  | succ k ih =>
    intro p hp _ hk
    unfold scanAsc
    simp only
    by_cases hge : p + 1 ≥ (n : Int)
    · rw [if_pos hge]
      exact ⟨p + 1, none, rfl, by omega, fun j h1 h2 => by omega, hge⟩
    · rw [if_neg hge]
      obtain ⟨i, hi, hiv⟩ := fin?_eq_some (n := n) (p := p + 1) (by omega) (by omega)
      simp only [hi]
      cases hr : isRead B rd i with
      | false => exact ⟨p + 1, some i, rfl, by omega, fun j h1 h2 => by omega, hiv.symm, hr⟩
      | true =>
        obtain ⟨p', r, h1, h0, h2, h3⟩ := ih (p + 1) (by omega) (by omega) (by omega)
        refine ⟨p', r, h1, by omega, fun j hj hj' => ?_, h3⟩
        by_cases e : p + 1 < j.val
        · exact h2 j e hj'
        · rw [show j = i from Fin.ext (by omega)]; exact hr

/-- the `c.pos--` loop of nextDescending stops at the last unread location before `pos`, or
    before the start of `seeks` -/
theorem scanDesc_spec (B : Vector (Block V) n) (rd : Marks n) :
    ∀ (k : Nat) (p : Int), p ≤ n → 1 ≤ k → p + 1 ≤ k →
      ∃ p' r, scanDesc B rd k p = some (p', r) ∧ p' < p ∧
        (∀ j : Fin n, (j.val : Int) < p → p' < j.val → isRead B rd j = true) ∧
        match r with
        | none => p' < 0
        | some i => p' = i.val ∧ isRead B rd i = false := by
  intro k
  induction k with
  | zero => intro p _ h; omega
  | succ k ih =>
    intro p hp _ hk
    unfold scanDesc
    simp only
    by_cases hlt : p - 1 < 0
    · rw [if_pos hlt]
      exact ⟨p - 1, none, rfl, by omega, fun j h1 h2 => by omega, hlt⟩
    · rw [if_neg hlt]
      obtain ⟨i, hi, hiv⟩ := fin?_eq_some (n := n) (p := p - 1) (by omega) (by omega)
      simp only [hi]
      cases hr : isRead B rd i with
      | false => exact ⟨p - 1, some i, rfl, by omega, fun j h1 h2 => by omega, hiv.symm, hr⟩
      | true =>
        obtain ⟨p', r, h1, h0, h2, h3⟩ := ih (p - 1) (by omega) (by omega) (by omega)
        refine ⟨p', r, h1, by omega, fun j hj hj' => ?_, h3⟩
        by_cases e : (j.val : Int) < p - 1
        · exact h2 j e hj'
        · rw [show j = i from Fin.ext (by omega)]; exact hr

/-- `pos` is a place the scan of Next may start from, and no location of `current` is behind it -/
def PosOK (asc : Bool) (pos : Int) (cur : List (Fin n)) : Prop :=
  if asc then 0 ≤ pos ∧ ∀ i ∈ cur, pos ≤ (i.val : Int) else pos ≤ n ∧ ∀ i ∈ cur, (i.val : Int) ≤ pos

theorem PosOK.mono {pos : Int} {cur cur' : List (Fin n)} (h : PosOK asc pos cur)
    (hs : ∀ i ∈ cur', i ∈ cur) : PosOK asc pos cur' := by
  cases asc <;> simp only [PosOK, Bool.false_eq_true, if_false, if_true] at h ⊢ <;>
    exact ⟨h.1, fun i hi => h.2 i (hs i hi)⟩

/-- `seek` sets `pos` to the first location of `current` -/
theorem PosOK.of_head : ∀ {cur : List (Fin n)}, cur.Pairwise (precedes asc) →
    PosOK asc (match cur with | [] => 0 | i :: _ => (i.val : Int)) cur
  | [], _ => by
    cases asc <;> simp only [PosOK, Bool.false_eq_true, if_false, if_true]
    · exact ⟨Int.natCast_nonneg n, fun _ h => nomatch h⟩
    · exact ⟨Int.le_refl 0, fun _ h => nomatch h⟩
  | j :: js, h => by
    have h1 := (List.pairwise_cons.1 h).1
    cases asc <;> simp only [PosOK, precedes, Bool.false_eq_true, if_false, if_true] at h1 ⊢
    · refine ⟨Int.le_of_lt (Int.ofNat_lt.2 j.isLt), fun i hi => ?_⟩
      rcases List.mem_cons.1 hi with rfl | hi
      · exact Int.le_refl _
      · exact Int.le_of_lt (Int.ofNat_lt.2 (h1 i hi))
    · refine ⟨Int.natCast_nonneg _, fun i hi => ?_⟩
      rcases List.mem_cons.1 hi with rfl | hi
      · exact Int.le_refl _
      · exact Int.le_of_lt (Int.ofNat_lt.2 (h1 i hi))

/-- KeyCursor.Next keeps the invariant (it only rebuilds `current`) -/
theorem next_spec {c : Cursor V n} (hwf : ∀ i : Fin n, BlockWF (c.blocks.get i)) {W : Int}
    (inv : Inv c.ascending c.blocks c.rd W c.current) (hpos : PosOK c.ascending c.pos c.current) :
    ∃ pos' cur', c.next = some { c with pos := pos', current := cur' } ∧
      Inv c.ascending c.blocks c.rd W cur' ∧ PosOK c.ascending pos' cur' := by
  obtain ⟨B, rd, cur, pos, asc⟩ := c
  dsimp only at hwf inv hpos ⊢
  unfold Cursor.next
  dsimp only
  cases cur with
  | nil => exact ⟨pos, [], rfl, inv, hpos⟩
  | cons f rest =>
    dsimp only
    cases hr : isRead B rd f with
    | false => exact ⟨pos, f :: rest, rfl, inv, hpos⟩
    | true =>
      simp only [Bool.not_true, Bool.false_eq_true, if_false]
      have hun : ∀ j : Fin n, curVals B rd j ≠ [] → j ∈ rest ∧ j ≠ f ∧ isRead B rd j = false := by
        intro j hj
        obtain ⟨p, hp⟩ := List.exists_mem_of_ne_nil _ hj
        have hjr := isRead_false_of_mem hwf hp
        have hjf : j ≠ f := fun e => by rw [e, hr] at hjr; cases hjr
        exact ⟨(List.mem_cons.1 (inv.cover j hj)).resolve_left hjf, hjf, hjr⟩
      obtain ⟨_, hlef⟩ := inv.shape
      cases asc
      · -- nextDescending
        simp only [PosOK, precedes, Bool.false_eq_true, if_false] at hpos hlef ⊢
        have hbefore : ∀ j : Fin n, curVals B rd j ≠ [] → (j.val : Int) < pos := fun j hj => by
          obtain ⟨h1, h2, _⟩ := hun j hj
          have := hpos.2 f (List.mem_cons_self ..)
          have : j.val < f.val := (hlef j h1).elim id fun e => absurd e.2 h2
          omega
        obtain ⟨p', r, hs, hp0, hbetween, hspec⟩ := scanDesc_spec B rd (n + 1) pos hpos.1 (by omega) (by omega)
        rw [hs]
        cases r with
        | none =>
          refine ⟨_, _, rfl, inv.recur (fun j hj => ?_) trivial,
            Int.le_of_lt (Int.lt_of_lt_of_le hp0 hpos.1), fun _ h => nomatch h⟩
          have h2 := (hun j hj).2.2
          rw [hbetween j (hbefore j hj) (Int.lt_of_lt_of_le hspec (Int.natCast_nonneg _))] at h2
          cases h2
        | some i =>
          obtain ⟨hp', hir⟩ := hspec
          have hmore : ∀ j : Fin n, j ∈ ((List.finRange n).filter fun j =>
              decide (j.val ≤ i.val) && !isRead B rd j).reverse → j.val ≤ i.val := fun j hj => by
            have := (List.mem_filter.1 (List.mem_reverse.1 hj)).2
            simp only [Bool.and_eq_true, decide_eq_true_eq] at this
            exact this.1
          refine ⟨_, _, rfl, inv.recur (fun j hj => ?_) ⟨?_, fun j hj => ?_⟩,
            Int.le_of_lt (Int.lt_of_lt_of_le hp0 hpos.1), fun j hj => ?_⟩
          · have h2 := (hun j hj).2.2
            by_cases hji : i.val < j.val
            · rw [hbetween j (hbefore j hj) (by omega)] at h2; cases h2
            · refine List.mem_cons_of_mem _ (List.mem_reverse.2 (List.mem_filter.2 ⟨List.mem_finRange j, ?_⟩))
              simp only [h2, Bool.not_false, Bool.and_true, decide_eq_true_eq]
              omega
          · exact List.pairwise_reverse.2 (((List.pairwise_lt_finRange n).filter _).imp fun h => h)
          · rcases Nat.lt_or_eq_of_le (hmore j hj) with h | h
            · exact Or.inl h
            · exact Or.inr ⟨rfl, Fin.ext h⟩
          · rcases List.mem_cons.1 hj with rfl | hj
            · omega
            · have := hmore j hj; omega
      · -- nextAscending
        simp only [PosOK, precedes, if_true] at hpos hlef ⊢
        have hafter : ∀ j : Fin n, curVals B rd j ≠ [] → pos < (j.val : Int) := fun j hj => by
          obtain ⟨h1, h2, _⟩ := hun j hj
          have := hpos.2 f (List.mem_cons_self ..)
          have : f.val < j.val := (hlef j h1).elim id fun e => nomatch e.1
          omega
        obtain ⟨p', r, hs, hp0, hbetween, hspec⟩ :=
          scanAsc_spec B rd (n + 1) pos (by omega) (by omega) (by omega)
        rw [hs]
        cases r with
        | none =>
          refine ⟨_, _, rfl, inv.recur (fun j hj => ?_) trivial,
            Int.le_of_lt (Int.lt_of_le_of_lt hpos.1 hp0), fun _ h => nomatch h⟩
          have h2 := (hun j hj).2.2
          rw [hbetween j (hafter j hj) (Int.lt_of_lt_of_le (Int.ofNat_lt.2 j.isLt) hspec)] at h2
          cases h2
        | some i =>
          obtain ⟨hp', hir⟩ := hspec
          have hmore : ∀ j : Fin n, j ∈ ((List.finRange n).filter fun j =>
              decide (i.val < j.val) && !isRead B rd j) → i.val < j.val := fun j hj => by
            have := (List.mem_filter.1 hj).2
            simp only [Bool.and_eq_true, decide_eq_true_eq] at this
            exact this.1
          refine ⟨_, _, rfl, inv.recur (fun j hj => ?_) ⟨?_, fun j hj => Or.inl (hmore j hj)⟩,
            Int.le_of_lt (Int.lt_of_le_of_lt hpos.1 hp0), fun j hj => ?_⟩
          · have h2 := (hun j hj).2.2
            by_cases hji : j.val < i.val
            · rw [hbetween j (hafter j hj) (by omega)] at h2; cases h2
            · by_cases e : j = i
              · exact e ▸ List.mem_cons_self ..
              · refine List.mem_cons_of_mem _ (List.mem_filter.2 ⟨List.mem_finRange j, ?_⟩)
                have : i.val ≠ j.val := fun e' => e (Fin.ext e'.symm)
                simp only [h2, Bool.not_false, Bool.and_true, decide_eq_true_eq]
                omega
          · exact (List.pairwise_lt_finRange n).filter _
          · rcases List.mem_cons.1 hj with rfl | hj
            · omega
            · have := hmore j hj; omega

/-- the blocks in the order of their timestamps: call order ascending, reverse call order
    descending -/
def cat (asc : Bool) (bs : List (Vals V)) : Vals V := if asc then bs.flatten else bs.reverse.flatten

theorem cat_nil (asc : Bool) : cat asc ([] : List (Vals V)) = [] := by
  cases asc <;> rfl

theorem cat_cons (asc : Bool) (v : Vals V) (bs : List (Vals V)) :
    cat asc (v :: bs) = if asc then v ++ cat asc bs else cat asc bs ++ v := by
  cases asc <;> simp [cat]

theorem mem_cat_cons {v : Vals V} {bs : List (Vals V)} {p : Int × V} :
    p ∈ cat asc (v :: bs) ↔ p ∈ v ∨ p ∈ cat asc bs := by
  rw [cat_cons]
  cases asc <;> simp only [Bool.false_eq_true, if_false, if_true, List.mem_append]
  exact Or.comm

theorem sorted_cat_cons {v : Vals V} {bs : List (Vals V)} (hv : SortedV v) (hs : SortedV (cat asc bs))
    (h : ∀ a ∈ v, ∀ b ∈ cat asc bs, beyond asc a.1 b.1) : SortedV (cat asc (v :: bs)) := by
  rw [cat_cons]
  cases asc <;> simp only [beyond, Bool.false_eq_true, if_false, if_true] at h ⊢
  · exact List.pairwise_append.2 ⟨hs, hv, fun b hb a ha => h a ha b hb⟩
  · exact List.pairwise_append.2 ⟨hv, hs, h⟩

/-- number of stored points beyond `W` (the variant of the drain loop) -/
def cnt (asc : Bool) (B : Vector (Block V) n) (W : Int) : Nat :=
  ((List.finRange n).flatMap fun i => (B.get i).vals).countP fun p => decide (beyond asc W p.1)

theorem countP_lt_of_witness {α : Type} {P Q : α → Bool} {l : List α} (himp : ∀ x, P x = true → Q x = true)
    {x : α} (hx : x ∈ l) (hq : Q x = true) (hp : P x = false) : l.countP P < l.countP Q := by
  induction l with
  | nil => cases hx
  | cons y l ih =>
    simp only [List.countP_cons]
    have hle : l.countP P ≤ l.countP Q := List.countP_mono_left fun z _ => himp z
    rcases List.mem_cons.1 hx with rfl | hx'
    · simp [hq, hp]; omega
    · have := ih hx'
      by_cases hy : P y = true
      · simp [hy, himp y hy]; omega
      · simp [hy]
        split <;> omega

theorem cnt_lt {W W' : Int} (hW : beyond asc W W') {i : Fin n} {p : Int × V}
    (hp : p ∈ (B.get i).vals) (h1 : beyond asc W p.1) (h2 : ¬ beyond asc W' p.1) : cnt asc B W' < cnt asc B W :=
  countP_lt_of_witness (x := p) (fun _ hx => decide_eq_true (beyond_trans hW (of_decide_eq_true hx)))
    (List.mem_flatMap.2 ⟨i, List.mem_finRange i, hp⟩) (decide_eq_true h1) (decide_eq_false h2)

/-- A cursor whose marks satisfy the invariant for watermark `W` delivers, block by block until
    the first empty block, exactly the newest-file-wins points beyond `W`, each once, in the
    order of travel; it neither panics nor runs out of the fuel `#points + 1`. -/
theorem drain_spec (hwf : ∀ i : Fin n, BlockWF (B.get i)) (hord : OrderOKv B) :
    ∀ (k : Nat) (c : Cursor V n) (W : Int), c.blocks = B → c.ascending = asc →
      Inv asc B c.rd W c.current → PosOK asc c.pos c.current → cnt asc B W < k →
      ∃ bs, c.drain k = some bs ∧ SortedV (cat asc bs) ∧ (∀ b ∈ bs, b ≠ []) ∧
        ∀ p, p ∈ cat asc bs ↔ IsWinner B p ∧ beyond asc W p.1 := by
  intro k
  induction k with
  | zero => intro _ _ _ _ _ _ h; omega
  | succ k ih =>
    intro c W hB hasc inv hpos hk
    unfold Cursor.drain Cursor.readBlock
    simp only [hB, hasc]
    rcases readLoop_spec hwf hord c.current c.rd W inv with
      ⟨hv, hnil⟩ | ⟨W', hW, inv', hsub, hsv, hne, hmem⟩
    · simp only [hv, List.isEmpty_nil, if_true]
      refine ⟨[], rfl, cat_nil asc ▸ SortedV.nil, (fun _ h => nomatch h), fun p => ?_⟩
      rw [cat_nil]
      refine ⟨(fun h => nomatch h), ?_⟩
      rintro ⟨⟨i, hl, _⟩, hw⟩
      have := (inv.unread i p).2 ⟨hl, hw⟩
      rw [hnil i] at this
      cases this
    · simp only [List.isEmpty_eq_false_iff.2 hne, Bool.false_eq_true, if_false]
      obtain ⟨pos', cur', hn, inv2, hpos2⟩ :=
        next_spec (c := ⟨B, (readLoop asc B c.current c.rd).1, (readLoop asc B c.current c.rd).2.1, c.pos, asc⟩)
          hwf (W := W') inv' (hpos.mono hsub)
      simp only [hn]
      -- one point at least was delivered: the variant decreases
      have hdec : cnt asc B W' < cnt asc B W := by
        obtain ⟨p, hp⟩ := List.exists_mem_of_ne_nil _ hne
        obtain ⟨⟨i, hl, _⟩, h1, h2⟩ := (hmem p).1 hp
        exact cnt_lt hW (mem_live.1 hl).1 h1 h2
      obtain ⟨bs, hd, hs, hnb, hm⟩ :=
        ih ⟨B, (readLoop asc B c.current c.rd).1, cur', pos', asc⟩ W' rfl rfl inv2 hpos2 (by omega)
      refine ⟨(readLoop asc B c.current c.rd).2.2 :: bs, by rw [hd]; rfl, ?_, ?_, fun p => ?_⟩
      · exact sorted_cat_cons hsv hs fun a ha b hb =>
          beyond_of_not_beyond ((hmem a).1 ha).2.2 ((hm b).1 hb).2
      · intro b hb
        rcases List.mem_cons.1 hb with rfl | hb
        · exact hne
        · exact hnb b hb
      · rw [mem_cat_cons, hmem p, hm p]
        constructor
        · rintro (⟨h1, h2, _⟩ | ⟨h1, h2⟩)
          · exact ⟨h1, h2⟩
          · exact ⟨h1, beyond_trans hW h2⟩
        · rintro ⟨h1, h2⟩
          by_cases h : beyond asc W' p.1
          · exact Or.inr ⟨h1, h⟩
          · exact Or.inl ⟨h1, h2, h⟩

end Influx.KC
