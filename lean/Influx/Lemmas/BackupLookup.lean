/-
  Lemmas.BackupLookup — read-path lemmas of Model.Backup: lookups distribute
  over appends, chunking does not change what a key's blocks contain, and a
  cache snapshot (flush) contains exactly what the cache held.
-/
import Influx.Model.Backup

namespace Influx.Backup

theorem mem_insertTS {a x : TS} {l : List TS} : x ∈ insertTS a l ↔ x = a ∨ x ∈ l := by
  induction l with
  | nil => simp [insertTS]
  | cons b l ih =>
    unfold insertTS
    split
    · simp
    · split
      · next h => subst h; simp
      · simp [ih, or_left_comm]

theorem mem_sortDedup {x : TS} {l : List TS} : x ∈ sortDedup l ↔ x ∈ l := by
  induction l with
  | nil => simp [sortDedup]
  | cons a l ih =>
    have : sortDedup (a :: l) = insertTS a (sortDedup l) := rfl
    rw [this, mem_insertTS, ih]; simp

theorem mem_insertKey {a x : Key} {l : List Key} : x ∈ insertKey a l ↔ x = a ∨ x ∈ l := by
  induction l with
  | nil => simp [insertKey]
  | cons b l ih =>
    unfold insertKey
    split
    · simp
    · split
      · next h => subst h; simp
      · simp [ih, or_left_comm]

theorem mem_sortKeys {x : Key} {l : List Key} : x ∈ sortKeys l ↔ x ∈ l := by
  induction l with
  | nil => simp [sortKeys]
  | cons a l ih =>
    have : sortKeys (a :: l) = insertKey a (sortKeys l) := rfl
    rw [this, mem_insertKey, ih]; simp

theorem chunkAux_flatten (n : Nat) (hn : 0 < n) :
    ∀ (fuel : Nat) (l : List α), l.length ≤ fuel → (chunkAux n fuel l).flatten = l := by
  intro fuel
  induction fuel with
  | zero => intro l h; cases l <;> simp_all [chunkAux]
  | succ fuel ih =>
    intro l h
    cases l with
    | nil => simp [chunkAux]
    | cons a l =>
      simp only [chunkAux, List.flatten_cons]
      rw [ih]
      · exact List.take_append_drop n (a :: l)
      · simp only [List.length_drop, List.length_cons] at *; omega

theorem chunk_flatten (n : Nat) (l : List α) : (chunk n l).flatten = l := by
  unfold chunk
  split
  · split
    · next h => simp at h; simp [h]
    · simp
  · next h => exact chunkAux_flatten n (Nat.pos_of_ne_zero h) _ _ (Nat.le_refl _)

theorem chunkAux_ne_nil (n : Nat) (hn : 0 < n) : ∀ (fuel : Nat) (l : List α) (c : List α),
    c ∈ chunkAux n fuel l → c ≠ [] := by
  intro fuel
  induction fuel with
  | zero => intro l c h; simp [chunkAux] at h
  | succ fuel ih =>
    intro l c h
    cases l with
    | nil => simp [chunkAux] at h
    | cons a l =>
      simp only [chunkAux, List.mem_cons] at h
      rcases h with rfl | h
      · cases n with
        | zero => omega
        | succ n => simp
      · exact ih _ _ h

theorem chunk_ne_nil (n : Nat) (l : List α) (c : List α) (h : c ∈ chunk n l) : c ≠ [] := by
  unfold chunk at h
  split at h
  · split at h
    · simp at h
    · next hne => simp at h; subst h; simpa using hne
  · next hn => exact chunkAux_ne_nil n (Nat.pos_of_ne_zero hn) _ _ _ h

theorem blocksLookup_append (as bs : List Block) (k : Key) (t : TS) :
    blocksLookup (as ++ bs) k t = (blocksLookup as k t).or (blocksLookup bs k t) := by
  simp [blocksLookup, List.findSome?_append]

theorem filesLookup_append (fs gs : List TFile) (k : Key) (t : TS) :
    filesLookup (fs ++ gs) k t = (filesLookup gs k t).or (filesLookup fs k t) := by
  induction fs with
  | nil => simp [filesLookup]
  | cons f fs ih => simp [filesLookup, ih, Option.or_assoc]

theorem filesLookupRaw_append (fs gs : List TFile) (k : Key) (t : TS) :
    filesLookupRaw (fs ++ gs) k t = (filesLookupRaw gs k t).or (filesLookupRaw fs k t) := by
  induction fs with
  | nil => simp [filesLookupRaw]
  | cons f fs ih => simp [filesLookupRaw, ih, Option.or_assoc]

theorem blocksLookup_map_mkBlock (k k' : Key) (t : TS) (cs : List (List (TS × Val))) :
    blocksLookup (cs.map (mkBlock k)) k' t = if k = k' then (cs.flatten).lookup t else none := by
  induction cs with
  | nil => simp [blocksLookup]
  | cons c cs ih =>
    have h : blocksLookup ((c :: cs).map (mkBlock k)) k' t =
        ((mkBlock k c).lookup k' t).or (blocksLookup (cs.map (mkBlock k)) k' t) := by
      simp [blocksLookup, List.findSome?_cons]
      cases (mkBlock k c).lookup k' t <;> simp
    rw [h, ih]
    by_cases hk : k = k'
    · simp [hk, Block.lookup, mkBlock, List.lookup_append]
    · simp [hk, Block.lookup, mkBlock]

theorem blocksLookup_mkBlocks (k k' : Key) (t : TS) (pts : List (TS × Val)) :
    blocksLookup (mkBlocks k pts) k' t = if k = k' then pts.lookup t else none := by
  unfold mkBlocks
  rw [blocksLookup_map_mkBlock, chunk_flatten]

theorem blocksLookup_flatMap_mkBlocks (keys : List Key) (pts : Key → List (TS × Val)) (k : Key) (t : TS) :
    blocksLookup (keys.flatMap (fun k' => mkBlocks k' (pts k'))) k t =
      if k ∈ keys then (pts k).lookup t else none := by
  induction keys with
  | nil => simp [blocksLookup]
  | cons a keys ih =>
    rw [List.flatMap_cons, blocksLookup_append, ih, blocksLookup_mkBlocks]
    by_cases ha : a = k
    · subst ha; simp
      cases (pts a).lookup t <;> simp
    · have : ¬ k = a := fun h => ha h.symm
      simp [ha, this]

theorem lookup_filterMap_graph (f : TS → Option Val) (l : List TS) (t : TS) :
    (l.filterMap (fun x => (f x).map (fun v => (x, v)))).lookup t = if t ∈ l then f t else none := by
  induction l with
  | nil => rfl
  | cons a l ih =>
    rw [List.filterMap_cons]
    by_cases hta : t = a
    · subst hta
      cases hfa : f t <;> simp [hfa, ih]
    · have hne : (t == a) = false := beq_eq_false_iff_ne.mpr hta
      cases hfa : f a <;> simp [List.lookup_cons, hne, ih, hta]

theorem blocksLookup_some {bs : List Block} {k : Key} {t : TS} {v : Val}
    (h : blocksLookup bs k t = some v) : ∃ b ∈ bs, b.lookup k t = some v := by
  unfold blocksLookup at h
  obtain ⟨b, hb, hv⟩ := List.exists_of_findSome?_eq_some h
  exact ⟨b, hb, hv⟩

theorem filesLookup_some {fs : List TFile} {k : Key} {t : TS} {v : Val}
    (h : filesLookup fs k t = some v) : ∃ f ∈ fs, f.lookup k t = some v := by
  induction fs with
  | nil => cases h
  | cons f fs ih =>
    rcases Option.or_eq_some_iff.mp h with hr | ⟨_, hf⟩
    · obtain ⟨g, hg, hl⟩ := ih hr
      exact ⟨g, List.mem_cons_of_mem _ hg, hl⟩
    · exact ⟨f, List.mem_cons_self .., hf⟩

theorem Block.lookup_some_mem {b : Block} {k : Key} {t : TS} {v : Val} (h : b.lookup k t = some v) :
    b.key = k ∧ (t, v) ∈ b.pts := by
  unfold Block.lookup at h
  split at h
  · next hk =>
    refine ⟨hk, ?_⟩
    obtain ⟨l1, l2, heq, _⟩ := List.lookup_eq_some_iff.mp h
    rw [heq]; simp
  · simp at h

theorem lookup_some_raw {f : TFile} {k : Key} {t : TS} {v : Val} (h : f.lookup k t = some v) :
    f.lookupRaw k t = some v := by
  unfold TFile.lookup at h
  split at h
  · simp at h
  · exact h

theorem le_listMin_iff {l : List TS} (hne : l ≠ []) {y : TS} : y ≤ listMin l ↔ ∀ x ∈ l, y ≤ x := by
  induction l with
  | nil => exact absurd rfl hne
  | cons a l ih =>
    cases l with
    | nil => exact ⟨fun h x hx => List.mem_singleton.mp hx ▸ h, fun h => h a (List.mem_cons_self ..)⟩
    | cons b l =>
      show y ≤ min a (listMin (b :: l)) ↔ _
      rw [Int.le_min, ih (List.cons_ne_nil _ _)]
      exact (List.forall_mem_cons (p := (y ≤ ·))).symm

theorem listMax_le_iff {l : List TS} (hne : l ≠ []) {y : TS} : listMax l ≤ y ↔ ∀ x ∈ l, x ≤ y := by
  induction l with
  | nil => exact absurd rfl hne
  | cons a l ih =>
    cases l with
    | nil => exact ⟨fun h x hx => List.mem_singleton.mp hx ▸ h, fun h => h a (List.mem_cons_self ..)⟩
    | cons b l =>
      show max a (listMax (b :: l)) ≤ y ↔ _
      rw [Int.max_le, ih (List.cons_ne_nil _ _)]
      exact (List.forall_mem_cons (p := (· ≤ y))).symm

theorem listMin_le {l : List TS} {x : TS} (h : x ∈ l) : listMin l ≤ x :=
  (le_listMin_iff (List.ne_nil_of_mem h)).mp (Int.le_refl _) x h

theorem le_listMax {l : List TS} {x : TS} (h : x ∈ l) : x ≤ listMax l :=
  (listMax_le_iff (List.ne_nil_of_mem h)).mp (Int.le_refl _) x h

theorem cacheLookup_some_mem {c : Cache} {k : Key} {t : TS} {v : Val}
    (h : cacheLookup c k t = some v) : (k, t, v) ∈ c := by
  unfold cacheLookup at h
  obtain ⟨e, he, rfl⟩ := Option.map_eq_some_iff.mp h
  have hp := List.find?_some he
  rw [Bool.and_eq_true, beq_iff_eq, beq_iff_eq] at hp
  obtain ⟨rfl, rfl⟩ := hp
  exact List.mem_of_find?_eq_some he

theorem cacheLookup_isSome_of_mem {c : Cache} {k : Key} {t : TS} {v : Val}
    (h : (k, t, v) ∈ c) : (cacheLookup c k t).isSome := by
  unfold cacheLookup
  rw [Option.isSome_map, List.find?_isSome]
  exact ⟨(k, t, v), h, by simp⟩

theorem ite_none_eq_self {p : Prop} [Decidable p] {x : Option Val} (h : ∀ v, x = some v → p) :
    (if p then x else none) = x := by
  by_cases hp : p
  · exact if_pos hp
  · rw [if_neg hp]
    cases hx : x with
    | none => rfl
    | some v => exact absurd (h v hx) hp

theorem lookup_cachePts (c : Cache) (k : Key) (t : TS) :
    (cachePts c k).lookup t = cacheLookup c k t := by
  unfold cachePts
  rw [lookup_filterMap_graph]
  refine ite_none_eq_self fun v h => ?_
  unfold cacheTimes
  rw [mem_sortDedup, List.mem_map]
  exact ⟨(k, t, v), by simp [cacheLookup_some_mem h], rfl⟩

theorem blocksLookup_flushBlocks (c : Cache) (k : Key) (t : TS) :
    blocksLookup (flushBlocks c) k t = cacheLookup c k t := by
  unfold flushBlocks
  rw [blocksLookup_flatMap_mkBlocks (cacheKeys c) (cachePts c) k t, lookup_cachePts]
  refine ite_none_eq_self fun v h => ?_
  unfold cacheKeys
  rw [mem_sortKeys, List.mem_map]
  exact ⟨(k, t, v), cacheLookup_some_mem h, rfl⟩

/-- **WriteSnapshot preserves the readable content.** -/
theorem abs_flush (s : Shard) (k : Key) (t : TS) : s.flush.abs k t = s.abs k t := by
  unfold Shard.flush
  split
  · split <;> rfl
  · next hne =>
    simp only [Shard.abs, cacheLookup, List.find?_nil, Option.map_none, Option.none_or]
    rw [filesLookup_append]
    have hnew : filesLookup (if (flushBlocks s.cache).isEmpty = true then [] else
        [{ gen := s.nextGen, seq := 1, mtime := MTime.fresh, blocks := flushBlocks s.cache,
           tombs := [], tombM := none }]) k t = cacheLookup s.cache k t := by
      rw [← blocksLookup_flushBlocks]
      split
      · next he =>
        simp only [List.isEmpty_iff] at he
        simp [filesLookup, he, blocksLookup]
      · simp [filesLookup, TFile.lookup, TFile.tombstoned]
    rw [hnew]
    rfl

end Influx.Backup
