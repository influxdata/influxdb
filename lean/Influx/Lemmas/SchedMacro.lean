/-
  Lemmas.SchedMacro — no task is lost, and what `settle` (run-to-quiescence) does: it keeps every
  invariant of the events, leaves the clock alone, adds runs and completions to the log, and, unless the
  fuel runs out, ends at rest or spinning against workers held by the environment.
-/
import Influx.Lemmas.SchedLog
import Influx.Model.SchedMacro
namespace Influx.Lemmas.Sched
open Influx.Model.Sched

/-! no task is lost: a task whose cron has a next time is in the queue -/

def InvP (s : State) : Prop :=
  ∀ id c off t n, cursor id s.log = some (c, off, t) → c t = some n → id ∈ ids s.queue

theorem invP_init : InvP init := fun _ _ _ _ _ h => nomatch h

theorem invP_processStep (cfg : Cfg) {s : State} (hL : InvL s) (hP : InvP s) : InvP (processStep cfg s) := by
  obtain ⟨tk, h⟩ := dispatch_split cfg s.now s.queue s.busy
  have hnd := List.nodup_append.mp (h.nodup hL.u.uniq)
  intro id c off t n hcur hn
  have hcur : cursor id (tooks s.now (dispatch cfg s.now s.queue s.busy).runs ++ s.log) = some (c, off, t) := hcur
  refine (ids_reinsert_perm _ _).mem_iff.mpr (List.mem_append.mpr ?_)
  by_cases hr : id ∈ runIds (dispatch cfg s.now s.queue s.busy).runs
  · -- the task ran in this pass: its next item was re-inserted
    obtain ⟨wr, hwr, rfl⟩ := List.mem_map.mp hr
    obtain ⟨y, hy, hytk, rfl, _⟩ := h.mem_runs hwr
    rw [cursor_tooks_mem s.now s.log hnd.2.1 hwr] at hcur
    obtain ⟨x, hx, hxe⟩ := Option.map_eq_some_iff.mp hcur
    obtain ⟨c1, off1, t1, h1, rfl, _⟩ := hL.c y hy
    cases hx.symm.trans h1
    cases hxe
    have : nextItem y = some { y with next := n } :=
      congrArg (Option.map fun n => ({ y with next := n } : Item)) (hn : y.cron y.next = some n)
    exact .inl (h.ins ▸ mem_ids (x := { y with next := n }) (List.mem_filterMap.mpr ⟨y, hytk, this⟩))
  · rw [cursor_append_quiet _ (quiet_tooks hr)] at hcur
    obtain ⟨y, hy, rfl⟩ := mem_ids_iff.mp (hP id c off t n hcur hn)
    rcases List.mem_append.mp (h.perm.mem_iff.mp hy) with hk | ht
    · exact .inr (mem_ids hk)
    · exact absurd (h.runIds_eq ▸ mem_ids ht) hr

theorem invP_step (r : Bool) (cfg : Cfg) {s : State} (hL : InvL s) (hP : InvP s) (e : Ev) :
    InvP (stepEv r cfg s e) := by
  refine stepEv_data (P := InvP) r cfg e (fun hP h => by unfold InvP; rw [h.1, h.2.2]; exact hP) hP ?_ ?_
    (invP_processStep cfg hL hP) (fun _ _ _ => hP)
  · intro id c off last nt _ _ id' c' off' t n hcur hn
    refine (ids_insertItem_perm _ _).mem_iff.mpr (List.mem_cons.mpr ?_)
    by_cases hid : id = id'
    · exact .inl hid.symm
    · exact .inr (mem_ids_removeId (hP id' c' off' t n ((if_neg hid).symm.trans hcur) hn) (Ne.symm hid))
  · intro id id' c' off' t n hcur hn
    by_cases hid : id = id'
    · exact nomatch (if_pos hid).symm.trans hcur
    · exact mem_ids_removeId (hP id' c' off' t n ((if_neg hid).symm.trans hcur) hn) (Ne.symm hid)

structure Good (cfg : Cfg) (s : State) : Prop where
  t : InvT s
  b : InvB cfg s
  l : InvL s
  p : InvP s

theorem good_step (cfg : Cfg) {s : State} (h : Good cfg s) (e : Ev) : Good cfg (stepEv true cfg s e) :=
  ⟨invT_step cfg h.t e, invB_step true cfg h.b e, invL_step true cfg h.l e, invP_step true cfg h.l h.p e⟩

theorem finishFree_log (blocked : List Nat) (s : State) :
    ∃ fs, (finishFree blocked s).log = fs ++ s.log ∧ ∀ ev ∈ fs, ∃ w r, ev = LogEv.finished w r ∧ r.id ∉ blocked := by
  refine ⟨_, rfl, fun ev hev => ?_⟩
  obtain ⟨b, hb, rfl⟩ := List.mem_map.mp (List.mem_reverse.mp hev)
  exact ⟨b.1, b.2, rfl, by simpa using (List.mem_filter.mp hb).2⟩

theorem finishFree_busy_blocked (blocked : List Nat) (s : State) :
    ∀ b ∈ (finishFree blocked s).busy, b.2.id ∈ blocked :=
  fun b hb => by simpa using (List.mem_filter.mp hb).2

theorem quiet_finished {blocked : List Nat} {fs : List LogEv}
    (h : ∀ ev ∈ fs, ∃ w r, ev = LogEv.finished w r ∧ r.id ∉ blocked) (id : Nat) : ∀ ev ∈ fs, Quiet id ev :=
  fun ev hev => let ⟨_, _, he, _⟩ := h ev hev; he ▸ trivial

theorem wellOrdered_append_finished {blocked : List Nat} {fs log : List LogEv}
    (h : ∀ ev ∈ fs, ∃ w r, ev = LogEv.finished w r ∧ r.id ∉ blocked) (hw : WellOrdered log) :
    WellOrdered (fs ++ log) := by
  induction fs with
  | nil => exact hw
  | cons ev fs ih =>
    obtain ⟨⟨_, _, rfl, _⟩, hfs⟩ := List.forall_mem_cons.mp h
    exact ih hfs

theorem good_finishFree (cfg : Cfg) (blocked : List Nat) {s : State} (h : Good cfg s) :
    Good cfg (finishFree blocked s) := by
  obtain ⟨fs, hlog, hfs⟩ := finishFree_log blocked s
  refine ⟨⟨h.t.sorted, h.t.k2, h.t.k4, h.t.k3⟩, invB_sublist h.b List.filter_sublist,
    ⟨⟨h.l.u.uniq⟩, fun x hx => ?_, hlog ▸ wellOrdered_append_finished hfs h.l.w⟩,
    fun id c off t n hcur => h.p id c off t n ?_⟩
  · rw [hlog, cursor_append_quiet _ (quiet_finished hfs _)]
    exact h.l.c x hx
  · rwa [hlog, cursor_append_quiet _ (quiet_finished hfs _)] at hcur

/-- what settles add to the log: runs taken at a time not after `bound`, and completions of runs
    the environment does not hold -/
def SegB (blocked : List Nat) (bound : Int) (seg : List LogEv) : Prop :=
  ∀ ev ∈ seg, (∃ w r n, ev = LogEv.took w r n ∧ n ≤ bound) ∨ (∃ w r, ev = LogEv.finished w r ∧ r.id ∉ blocked)

/-- `s'` is `s` some way into a settle -/
def Ext (blocked : List Nat) (s s' : State) : Prop :=
  s'.now = s.now ∧ ∃ seg, s'.log = seg ++ s.log ∧ SegB blocked s.now seg

theorem Ext.of_eq {blocked : List Nat} {s s' : State} (hn : s'.now = s.now) (hl : s'.log = s.log) :
    Ext blocked s s' := ⟨hn, [], hl, nofun⟩

theorem Ext.trans {blocked : List Nat} {s s1 s2 : State} (h1 : Ext blocked s s1) (h2 : Ext blocked s1 s2) :
    Ext blocked s s2 := by
  obtain ⟨n1, g1, l1, b1⟩ := h1
  obtain ⟨n2, g2, l2, b2⟩ := h2
  refine ⟨n2.trans n1, g2 ++ g1, by rw [l2, l1, List.append_assoc], fun ev hev => ?_⟩
  rcases List.mem_append.mp hev with hev | hev
  · exact n1 ▸ b2 ev hev
  · exact b1 ev hev

theorem ext_finishFree (blocked : List Nat) (s : State) : Ext blocked s (finishFree blocked s) :=
  let ⟨fs, hlog, hfs⟩ := finishFree_log blocked s
  ⟨rfl, fs, hlog, fun ev hev => .inr (hfs ev hev)⟩

theorem ext_iter (cfg : Cfg) (blocked : List Nat) (s : State) : Ext blocked s (iter true cfg s) := by
  by_cases hl : s.mode = .looping
  · rcases iter_cases true cfg s hl with ⟨_, he⟩ | ⟨it, _, _, _, he⟩ | ⟨_, _, _, _, he⟩ <;> rw [he]
    · exact .of_eq rfl rfl
    · exact .of_eq (sameData_notDue true s it).2 (sameData_notDue true s it).1.2.2
    · have h := sameData_afterProcess (processStep cfg s)
      exact ⟨h.2, tooks s.now _, h.1.2.2, fun ev hev =>
        let ⟨wr, _, he⟩ := mem_tooks hev; .inl ⟨_, _, _, he, Int.le_refl _⟩⟩
  · rw [iter_idle hl]; exact .of_eq rfl rfl

/-- the end of a settle: at rest, or spinning (something is due and every due item's worker is executing) -/
def EndOK (cfg : Cfg) (s : State) : Prop :=
  (s.mode = .idle ∧ s.tick = false ∧ timerExpired s = false) ∨
  (s.mode = .looping ∧ (∃ it ∈ s.queue, it.when ≤ s.now) ∧
    ∀ it ∈ s.queue, it.when ≤ s.now → workerBusy s.busy (cfg.wk it.id) = true)

theorem EndOK.rest {cfg : Cfg} {s : State} (h : EndOK cfg s) (hb : s.busy = []) :
    s.mode = .idle ∧ s.tick = false ∧ timerExpired s = false := by
  rcases h with h | ⟨_, ⟨it, hit, hd⟩, hall⟩
  · exact h
  · exact nomatch (hb ▸ hall it hit hd : workerBusy [] _ = true)

theorem iter_spinning (cfg : Cfg) (s : State) (hs : Sorted s.queue) (hl : s.mode = .looping)
    (h1 : (iter true cfg s).mode = .looping) (h2 : (iter true cfg s).log.length = s.log.length) :
    EndOK cfg (iter true cfg s) ∧ (iter true cfg s).busy = s.busy := by
  rcases iter_cases true cfg s hl with ⟨_, he⟩ | ⟨it, rest, _, _, he⟩ | ⟨it, rest, _, _, he⟩
  · rw [he] at h1; cases h1
  · rw [he] at h1; simp [notDue] at h1
  · rcases afterProcess_cases (processStep cfg s) with ⟨_, ha⟩ | ⟨_, _, _, _, ha⟩ | ⟨m, q, hq, hle, ha⟩
    · rw [he, ha] at h1; cases h1
    · rw [he, ha] at h1; cases h1
    · obtain ⟨tk, h⟩ := dispatch_split cfg s.now s.queue s.busy
      rw [he, ha] at h2 ⊢
      -- nothing was logged, so nothing was taken: the queue is what the pass kept
      have hr : (dispatch cfg s.now s.queue s.busy).runs = [] := by
        have : ((dispatch cfg s.now s.queue s.busy).runs.map _).reverse.length + s.log.length = s.log.length :=
          List.length_append ▸ h2
        exact List.eq_nil_of_length_eq_zero (by simpa using this)
      obtain rfl : tk = [] := List.map_eq_nil_iff.mp (h.runs ▸ hr)
      have hb : (processStep cfg s).busy = s.busy := by
        show (dispatch cfg s.now s.queue s.busy).busy = _; rw [h.busy_eq, hr]; rfl
      have hk : (processStep cfg s).queue = (dispatch cfg s.now s.queue s.busy).kept := by
        show reinsert _ _ = _; rw [h.ins]; rfl
      refine ⟨.inr ⟨hl, ⟨m, hq ▸ List.mem_cons_self, hle⟩, fun y hy hd => ?_⟩, hb⟩
      exact h.held hs y (hk ▸ hy) hd

def SettleOK (P : State → Prop) (cfg : Cfg) (blocked : List Nat) (s : State) (r : State × Settled) : Prop :=
  P r.1 ∧ Ext blocked s r.1 ∧ (r.2 ≠ .outOfFuel → EndOK cfg r.1 ∧ ∀ b ∈ r.1.busy, b.2.id ∈ blocked)

/-- `settle` keeps whatever `finishFree` and every event keep (sortedness of the queue included). -/
theorem settle_inv {P : State → Prop} (cfg : Cfg) (blocked : List Nat)
    (fin : ∀ s, P s → P (finishFree blocked s)) (step : ∀ s e, P s → P (stepEv true cfg s e))
    (sorted : ∀ s, P s → Sorted s.queue) (fuel : Nat) (s : State) (h : P s) :
    SettleOK P cfg blocked s (settle true cfg blocked fuel s) := by
  induction fuel generalizing s with
  | zero => exact ⟨h, .of_eq rfl rfl, fun h => absurd rfl h⟩
  | succ fuel ih =>
    have hu := fin s h
    have eu := ext_finishFree blocked s
    have hbusy := finishFree_busy_blocked blocked s
    have cont : ∀ s2, P s2 → Ext blocked (finishFree blocked s) s2 →
        SettleOK P cfg blocked s (settle true cfg blocked fuel s2) :=
      fun s2 h2 e2 => let ⟨a, b, c⟩ := ih s2 h2; ⟨a, (eu.trans e2).trans b, c⟩
    generalize hr : settle true cfg blocked (fuel + 1) s = res
    simp only [settle] at hr
    generalize finishFree blocked s = u at hu eu hbusy cont hr
    by_cases hx : timerExpired u = true
    · rw [if_pos hx] at hr
      refine hr ▸ cont _ (step u .timerFire hu) ?_
      show Ext blocked u (if _ then _ else _)
      split <;> exact .of_eq rfl rfl
    rw [if_neg hx] at hr
    by_cases hw : u.mode = .idle ∧ u.tick = true
    · rw [if_pos hw] at hr
      refine hr ▸ cont _ (step u .wake hu) ?_
      show Ext blocked u (if _ then _ else _)
      split <;> exact .of_eq rfl rfl
    rw [if_neg hw] at hr
    by_cases hl : u.mode = .looping
    · rw [if_pos hl] at hr
      by_cases hsp : (iter true cfg u).mode = .looping ∧ (iter true cfg u).log.length = u.log.length
      · obtain ⟨he, hb⟩ := iter_spinning cfg u (sorted u hu) hl hsp.1 hsp.2
        exact hr ▸ if_pos hsp ▸ ⟨step u .iter hu, eu.trans (ext_iter cfg blocked u), fun _ => ⟨he, hb ▸ hbusy⟩⟩
      · exact hr ▸ if_neg hsp ▸ cont _ (step u .iter hu) (ext_iter cfg blocked u)
    · rw [if_neg hl] at hr
      have hm : u.mode = .idle := by
        cases hm : u.mode with
        | idle => rfl
        | looping => exact absurd hm hl
      exact hr ▸ ⟨hu, eu, fun _ => ⟨.inl ⟨hm, Bool.eq_false_iff.mpr fun ht => hw ⟨hm, ht⟩,
        Bool.eq_false_iff.mpr hx⟩, hbusy⟩⟩

end Influx.Lemmas.Sched
