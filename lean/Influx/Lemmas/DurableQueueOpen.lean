/-
  Lemmas.DurableQueueOpen — `segment.open` / `repair` on well-formed files and
  on files torn inside the single write of an append or of a footer rewrite:
  what `newSegment` makes of them, provided the torn file does not end in
  8 bytes that pass for a head position (`TornObs.footerLike`).
-/
import Influx.Lemmas.DurableQueueSeg
namespace Influx.DQ

theorem rd64_footer (a : Bytes) (p : Nat) (hp : p < 2^64) :
    rd64 ((a ++ be64 p).drop ((a ++ be64 p).length - 8)) = p := by
  rw [List.drop_left' (by simp [be64_length])]
  exact rd64_be64 p hp

/-- second half of `open` on the file of a well-formed segment: nothing to repair.
    (`h` comes first: with `s` still unknown, unifying `s.file`, `s.pos` against a goal is very slow.) -/
theorem openAt_wf {s : Seg} {done rest} (h : SegWF s done rest) (mx : Nat) (k : Bytes → Option Seg) :
    openAt verifyAll mx k s.file s.pos = some ⟨s.file, s.pos, mx⟩ := by
  have hb : s.pos + 0 + (encRecs rest).length = s.file.length - 8 := (SegWF.boundary_le (a := []) h).1
  unfold openAt
  simp only []
  cases rest with
  | nil => rw [if_pos (show s.pos ≥ s.file.length - 8 from Nat.le_of_eq hb.symm)]
  | cons r rs =>
    have hlt : s.pos + 8 + r.length < 2^63 := h.read_head.2.2.2.2
    rw [encRecs_length_cons] at hb
    rw [if_neg (by omega)]
    have hcs : rd64 (s.file.drop s.pos) = r.length := by
      rw [h.drop_pos]; simp only [encRecs_cons, encRec, List.append_assoc]
      exact rd64_be64_append _ (by omega) _
    simp only [hcs]
    rw [if_neg (by omega)]
    simp [verifyAll]

theorem openAux_wf {s : Seg} {done rest} (h : SegWF s done rest) (mx fuel : Nat) :
    openAux verifyAll mx (fuel + 1) s.file = some ⟨s.file, s.pos, mx⟩ := by
  have hle : s.pos ≤ s.file.length - 8 := h.pos_le.1
  have h8 : 8 ≤ s.file.length := h.pos_le.2
  have hfoot : rd64 (s.file.drop (s.file.length - 8)) = s.pos := by
    rw [h.file_eq, ← List.append_assoc]
    exact rd64_footer _ _ (Nat.lt_trans h.pos_lt (by decide))
  unfold openAux
  simp only [hfoot]
  rw [if_neg (Nat.not_lt.mpr h8), if_neg (Nat.not_lt.mpr hle)]
  exact openAt_wf h mx _

/-- what `newSegment` makes of an intact segment: same file and head, `maxSize` re-derived -/
def reseat (g : Nat) (s : Seg) : Seg := ⟨s.file, s.pos, max g s.file.length⟩

theorem reseat_size (g : Nat) (s : Seg) : (reseat g s).size = s.size := rfl

theorem reseat_wf (g : Nat) {s : Seg} {d r} (h : SegWF s d r) : SegWF (reseat g s) d r := by
  refine ⟨h.file_eq, h.pos_eq, ?_, h.small⟩
  intro x hx
  have := mem_encRecs_length hx
  have := h.size_eq
  show x.length ≤ max g s.file.length
  have hsz : s.file.length = s.size := rfl
  omega

theorem newSeg_wf (mx : Nat) {s : Seg} {done rest} (h : SegWF s done rest) :
    newSeg verifyAll mx s.file = some (reseat mx s) := by
  have h8 : 8 ≤ s.file.length := h.pos_le.2
  unfold newSeg
  rw [if_neg (by omega)]
  exact openAux_wf h _ 3

theorem newSeg_nil (g : Nat) : newSeg verifyAll g [] = some (freshS g) := by
  simp [newSeg, freshS]

/-- a tail at which the repair walk stops: only a footer is left, or a record
    whose announced length runs past the end -/
def StopsWalk (tail : Bytes) : Prop :=
  tail.length = 8 ∨ ∃ n t, tail = be64 n ++ t ∧ n < 2^63 ∧ 8 + n > tail.length - 8

theorem StopsWalk.length_ge {tail : Bytes} (h : StopsWalk tail) : 8 ≤ tail.length := by
  rcases h with h | ⟨n, t, rfl, _, _⟩
  · omega
  · simp [be64_length]

/-- the walk steps over a run of complete records that fit and stops at the tail
    (`e`: where the footer starts) -/
theorem walk_recs (e : Nat) (rs : List Bytes) :
    ∀ (fuel off : Nat) (tail : Bytes),
      off + (encRecs rs).length + tail.length = e + 8 → e + 8 < 2^63 → rs.length < fuel → StopsWalk tail →
      walk (e + 8) fuel (encRecs rs ++ tail) off = some (off + (encRecs rs).length) := by
  induction rs with
  | nil =>
    intro fuel off tail hfit hsz hfuel htail
    simp only [encRecs_nil, List.length_nil, Nat.add_zero, List.nil_append] at hfit ⊢
    cases fuel with
    | zero => exact absurd hfuel (Nat.not_lt_zero _)
    | succ f =>
      rw [walk, Nat.add_sub_cancel]
      rcases htail with h | ⟨n, t, rfl, hn, hgt⟩
      · rw [if_pos (by omega)]
      · by_cases hend : off = e
        · rw [if_pos hend]
        · rw [if_neg hend, read8_be64 _ (by omega)]
          simp only []
          rw [if_neg (by omega), if_pos (by omega)]
  | cons r rs ih =>
    intro fuel off tail hfit hsz hfuel htail
    have := htail.length_ge
    rw [encRecs_length_cons] at hfit
    cases fuel with
    | zero => exact absurd hfuel (Nat.not_lt_zero _)
    | succ f =>
      have hread : read8 (encRecs (r :: rs) ++ tail) = .ok r.length := by
        simp only [encRecs_cons, encRec, List.append_assoc]
        exact read8_be64 _ (by omega) _
      have hdrop : (encRecs (r :: rs) ++ tail).drop (8 + r.length) = encRecs rs ++ tail := by
        simp only [encRecs_cons, List.append_assoc]
        exact List.drop_left' (by simp)
      rw [walk, Nat.add_sub_cancel, if_neg (by omega), hread]
      simp only []
      rw [if_neg (by omega), if_neg (by omega), hdrop,
        ih f (off + 8 + r.length) tail (by simpa only [Nat.add_assoc] using hfit) hsz (Nat.lt_of_succ_lt_succ hfuel) htail,
        encRecs_length_cons]
      simp only [Nat.add_assoc]

theorem length_le_encRecs (rs : List Bytes) : rs.length ≤ (encRecs rs).length := by
  induction rs with
  | nil => simp
  | cons r rs ih => rw [encRecs_length_cons, List.length_cons]; omega

theorem repairFile_recs (rs : List Bytes) (tail : Bytes)
    (hsz : (encRecs rs ++ tail).length < 2^63) (htail : StopsWalk tail) :
    repairFile (encRecs rs ++ tail) = some (encRecs rs ++ be64 0) := by
  have hrl := length_le_encRecs rs
  have htl := htail.length_ge
  obtain ⟨e, he⟩ : ∃ e, (encRecs rs ++ tail).length = e + 8 := ⟨(encRecs rs ++ tail).length - 8, by rw [List.length_append]; omega⟩
  unfold repairFile
  rw [he, walk_recs e rs _ 0 tail (by rw [← he]; simp) (he ▸ hsz) (by rw [List.length_append] at he; omega) htail]
  simp only [Option.map_some, Nat.zero_add]
  rw [List.take_left' rfl]

theorem newSeg_repair (mx : Nat) (rs : List Bytes) (tail : Bytes)
    (hsz : (encRecs rs ++ tail).length < 2^63) (htail : StopsWalk tail)
    (hfoot : rd64 ((encRecs rs ++ tail).drop ((encRecs rs ++ tail).length - 8))
               > (encRecs rs ++ tail).length - 8) :
    ∃ t, newSeg verifyAll mx (encRecs rs ++ tail) = some t ∧ SegWF t [] rs := by
  have htl := htail.length_ge
  have hlen : (encRecs rs ++ tail).length = (encRecs rs).length + tail.length := by simp
  have hwf : SegWF ⟨encRecs rs ++ be64 0, 0, max mx (encRecs rs ++ tail).length⟩ [] rs := by
    refine ⟨by simp, by simp, ?_, by simp [be64_length]; omega⟩
    intro b hb
    have := mem_encRecs_length hb
    show b.length ≤ max mx (encRecs rs ++ tail).length
    omega
  refine ⟨_, ?_, hwf⟩
  unfold newSeg
  rw [if_neg (by omega)]
  show openAux verifyAll _ (3 + 1) _ = _
  unfold openAux
  simp only []
  rw [if_neg (by omega), if_pos hfoot, repairFile_recs rs tail hsz htail]
  simp only [Option.bind_some]
  exact openAt_wf hwf _ _

theorem tornWrite_eq (A W : Bytes) (p k : Nat) :
    tornWrite (A ++ be64 p) (A ++ W) k = A ++ (W.take k ++ (be64 p).drop k) := by
  unfold tornWrite
  have : (A ++ be64 p).length - 8 + k = A.length + k := by simp [be64_length]
  rw [this, List.take_length_add_append, List.drop_length_add_append, List.append_assoc]

theorem tornWrite_self (f : Bytes) (k : Nat) : tornWrite f f k = f := by
  simp [tornWrite]

/-- **Crash inside the single write `W` over the footer** of a well-formed segment
    `s`; the complete write gives the well-formed `s'`.  If every proper prefix of
    `W`, completed by what is left of the old footer, stops the repair walk, then
    for every cut `k`, unless the torn file ends in bytes that pass for a head
    position, `newSegment` yields the records of `s`, those of `s'`, or (repair) all
    records on disk replayed from the start.  Nothing else, nothing lost. -/
theorem torn_recovers (mx : Nat) {s s' : Seg} {d r d' r' all : List Bytes} {W : Bytes}
    (h : SegWF s d r) (h' : SegWF s' d' r')
    (hpre : s.file = encRecs all ++ be64 s.pos) (hpost : s'.file = encRecs all ++ W) (hW8 : 8 ≤ W.length)
    (hW : ∀ k, k < W.length → StopsWalk (W.take k ++ (be64 s.pos).drop k)) (k : Nat)
    (hnf : (tornObs s.file s'.file (tornWrite s.file s'.file k)).footerLike = false) :
    ∃ t, newSeg verifyAll mx (tornWrite s.file s'.file k) = some t ∧
      (SegWF t d r ∨ SegWF t d' r' ∨ SegWF t [] all) := by
  generalize htorn : tornWrite s.file s'.file k = torn at hnf ⊢
  simp only [TornObs.footerLike, tornObs, Bool.and_eq_false_iff, beq_eq_false_iff_ne, ne_eq] at hnf
  by_cases hpreq : torn = s.file
  · rw [hpreq]; exact ⟨_, newSeg_wf mx h, .inl (reseat_wf mx h)⟩
  by_cases hposteq : torn = s'.file
  · rw [hposteq]; exact ⟨_, newSeg_wf mx h', .inr (.inl (reseat_wf mx h'))⟩
  have htorn' : torn = encRecs all ++ (W.take k ++ (be64 s.pos).drop k) := by
    rw [← htorn, hpre, hpost, tornWrite_eq]
  -- neither: the footer read must point beyond the data, so `repair` runs
  have hfoot : rd64 (torn.drop (torn.length - 8)) > torn.length - 8 := by
    rcases hnf with h1 | h1
    · simp [hpreq, hposteq] at h1
    · have := of_decide_eq_false h1; omega
  have hk : k < W.length := by
    apply Classical.byContradiction; intro hk
    apply hposteq
    rw [htorn', hpost, List.take_of_length_le (by omega),
      List.drop_eq_nil_of_le (by rw [be64_length]; omega), List.append_nil]
  have hsz : torn.length < 2^63 := by
    have := h'.small
    rw [hpost] at this
    rw [htorn']; simp [be64_length] at this ⊢; omega
  rw [htorn'] at hfoot hsz ⊢
  obtain ⟨t, ht, hwf⟩ := newSeg_repair mx _ _ hsz (hW k hk) hfoot
  exact ⟨t, ht, .inr (.inr hwf)⟩

/-- what a reopened segment may look like after a crash inside a write -/
inductive Recovered (t : Seg) (done rest : List Bytes) (extra : List Bytes) : Prop
  | absent (h : SegWF t done rest)
  | complete (h : SegWF t done (rest ++ extra))
  | replay (h : SegWF t [] (done ++ rest))

/-- **Crash inside `segment.append`.**  For every cut `k` of the single write,
    unless the torn file ends in bytes that pass for a head position, reopening
    the segment yields the old records (head unchanged or reset to the start) or
    the old records plus the new one. -/
theorem torn_append_recovers (mx : Nat) {s s' : Seg} {done rest} (h : SegWF s done rest) (b : Bytes)
    (happ : s.append b = .ok s') (hsmall : s.size + b.length + 8 < 2^63) (k : Nat)
    (hnf : (tornObs s.file s'.file (tornWrite s.file s'.file k)).footerLike = false) :
    ∃ t, newSeg verifyAll mx (tornWrite s.file s'.file k) = some t ∧ Recovered t done rest [b] := by
  have hfull : ¬ s.size > s.maxSize := by
    intro hc; simp [Seg.append, hc] at happ
  obtain ⟨s'', happ', hwf', _⟩ := append_wf h b hfull hsmall
  obtain rfl : s'' = s' := by rw [happ'] at happ; exact Except.ok.inj happ
  have hpre : s.file = encRecs (done ++ rest) ++ be64 s.pos := by
    rw [h.file_eq, encRecs_append, List.append_assoc]
  have hpost : s''.file = encRecs (done ++ rest) ++ (be64 b.length ++ (b ++ be64 s.pos)) := by
    have hp : s''.pos = s.pos := by
      simp [Seg.append, hfull] at happ'; rw [← happ']
    rw [hwf'.file_eq, hp, encRecs_append, encRecs_append]
    simp [encRec, List.append_assoc]
  -- a cut inside the length field leaves 8 bytes; a later cut leaves the whole
  -- length field in front of less than the body and footer it announces
  have hW : ∀ k, k < (be64 b.length ++ (b ++ be64 s.pos)).length →
      StopsWalk ((be64 b.length ++ (b ++ be64 s.pos)).take k ++ (be64 s.pos).drop k) := by
    intro k hk
    simp only [List.length_append, be64_length] at hk
    by_cases hk8 : k ≤ 8
    · left; simp [be64_length]; omega
    · right
      refine ⟨b.length, (b ++ be64 s.pos).take (k - 8), ?_, by omega, ?_⟩
      · have h8 : 8 ≤ k := Nat.le_of_not_le hk8
        rw [List.drop_eq_nil_of_le (by rw [be64_length]; exact h8), List.append_nil,
          show k = (be64 b.length).length + (k - 8) from (Nat.add_sub_cancel' h8).symm, List.take_length_add_append]
        simp [be64_length]
      · simp [be64_length]; omega
  obtain ⟨t, ht, hc⟩ := torn_recovers mx h hwf' hpre hpost (by simp [be64_length]) hW k hnf
  rcases hc with hc | hc | hc
  · exact ⟨t, ht, .absent hc⟩
  · exact ⟨t, ht, .complete hc⟩
  · exact ⟨t, ht, .replay hc⟩

/-- what a reopened segment may look like after a crash inside the footer write of an advance -/
inductive RecoveredAdv (t : Seg) (done : List Bytes) (r : Bytes) (rs : List Bytes) : Prop
  | absent (h : SegWF t done (r :: rs))
  | complete (h : SegWF t (done ++ [r]) rs)
  | replay (h : SegWF t [] (done ++ r :: rs))

/-- **Crash inside `segment.advanceTo`** (footer rewrite), any cut `k`: unless the
    mixed footer passes for a head position, the reopened segment stands at the old
    head, at the new head, or replays everything. -/
theorem torn_advance_recovers (mx : Nat) {s : Seg} {done r rs} (h : SegWF s done (r :: rs)) (k : Nat)
    (hnf : (tornObs s.file s.advance.1.file (tornWrite s.file s.advance.1.file k)).footerLike = false) :
    ∃ t, newSeg verifyAll mx (tornWrite s.file s.advance.1.file k) = some t ∧ RecoveredAdv t done r rs := by
  obtain ⟨hwf', _, _⟩ := advance_wf h
  have hpre : s.file = encRecs (done ++ r :: rs) ++ be64 s.pos := by
    rw [h.file_eq, encRecs_append, List.append_assoc]
  have hpost : s.advance.1.file = encRecs (done ++ r :: rs) ++ be64 s.advance.1.pos := by
    rw [hwf'.file_eq, encRecs_append, encRecs_append]; simp
  obtain ⟨t, ht, hc⟩ := torn_recovers mx h hwf' hpre hpost (by rw [be64_length]; omega)
    (fun k _ => .inl (by simp [be64_length]; omega)) k hnf
  rcases hc with hc | hc | hc
  · exact ⟨t, ht, .absent hc⟩
  · exact ⟨t, ht, .complete hc⟩
  · exact ⟨t, ht, .replay hc⟩

end Influx.DQ
