/-
  Lemmas.C36RadixMinMax — as long as no node is empty (`NE`: true until the first
  `DeletePrefix`), `Minimum`/`Maximum` are the first/last element of the walk; `Insert` keeps `NE`.
-/
import Influx.Lemmas.C36RadixDel

namespace Influx.Radix

mutual
/-- no child subtree is empty -/
def Node.NE : Node → Prop
  | .mk _ _ edges => Edges.NE edges
def Edges.NE : Edges → Prop
  | .nil => True
  | .cons _ c r => Node.rel c ≠ [] ∧ Node.NE c ∧ Edges.NE r
end

theorem getLast?_append_ne {α} (a b : List α) (h : b ≠ []) : (a ++ b).getLast? = b.getLast? := by
  rw [List.getLast?_append]
  cases hb : b.getLast? with
  | none => exact absurd (List.getLast?_eq_none_iff.mp hb) h
  | some x => rfl

theorem walk_ne_of_rel_ne (n : Node) (h : Node.rel n ≠ []) : Node.walk n ≠ [] :=
  fun hw => h (List.eq_nil_of_length_eq_zero (by rw [← Node.walk_len, hw]; rfl))

theorem Node.min_eq : ∀ (n : Node), Node.NE n → Node.min n = (Node.walk n).head?
  | .mk (some l) _ _, _ => rfl
  | .mk none _ .nil, _ => rfl
  | .mk none _ (.cons _ child r), h => by
    rw [Node.min, Node.min_eq child h.2.1]
    simp only [Node.walk, Edges.walk, List.nil_append]
    cases hwc : Node.walk child with
    | nil => exact absurd hwc (walk_ne_of_rel_ne child h.1)
    | cons x xs => rfl

theorem Edges.walk_ne : ∀ (es : Edges), Edges.NE es → es ≠ .nil → Edges.walk es ≠ []
  | .nil, _, h => absurd rfl h
  | .cons _ c r, hne, _ => by
    rw [Edges.walk]
    exact List.append_ne_nil_of_left_ne_nil (walk_ne_of_rel_ne c hne.1) _

mutual
theorem Node.max_eq : ∀ (n : Node), Node.NE n → Node.max n = (Node.walk n).getLast?
  | .mk leaf pre edges, h => by
    have hE := Edges.max_eq edges h
    simp only [Node.max, Node.walk]
    cases hm : Edges.max edges with
    | none =>
      cases edges with
      | nil => cases leaf <;> rfl
      | cons l c r => exact absurd hm (hE.1 fun h => nomatch h)
    | some res =>
      have hne : Edges.walk edges ≠ [] := Edges.walk_ne edges h fun h => by rw [h] at hm; cases hm
      rw [getLast?_append_ne _ _ hne]
      exact hE.2 res hm
theorem Edges.max_eq : ∀ (es : Edges), Edges.NE es →
    (es ≠ .nil → Edges.max es ≠ none) ∧ ∀ res, Edges.max es = some res → res = (Edges.walk es).getLast?
  | .nil, _ => ⟨fun h => absurd rfl h, fun _ h => (nomatch h)⟩
  | .cons l c .nil, h => by
    refine ⟨fun _ h => (nomatch h), fun res hres => ?_⟩
    cases hres
    rw [Node.max_eq c h.2.1, Edges.walk, Edges.walk, List.append_nil]
  | .cons l c (.cons l2 c2 r2), h => by
    obtain ⟨ih1, ih2⟩ := Edges.max_eq (.cons l2 c2 r2) h.2.2
    rw [Edges.max, Edges.walk, getLast?_append_ne _ _ (Edges.walk_ne _ h.2.2 fun h => nomatch h)]
    exact ⟨fun _ => ih1 fun h => (nomatch h), ih2⟩
end

theorem Edges.NE_add (l : Nat) (n : Node) (hr : Node.rel n ≠ []) (hn : Node.NE n) (es : Edges) :
    Edges.NE es → Edges.NE (Edges.add l n es) := by
  induction es using Edges.list_induction with
  | nil => exact fun _ => ⟨hr, hn, trivial⟩
  | cons l' n' r ih =>
    intro h
    rw [Edges.add]
    split
    · exact ⟨h.1, h.2.1, ih h.2.2⟩
    · exact ⟨hr, hn, h⟩

theorem Edges.NE_add_leaf (c : Nat) (rest s : Key) (v : Int) (es : Edges) (h : Edges.NE es) :
    Edges.NE (Edges.add c (.mk (some ⟨s, v⟩) (c :: rest) .nil) es) ∧
    Edges.rel (Edges.add c (.mk (some ⟨s, v⟩) (c :: rest) .nil) es) ≠ [] :=
  ⟨Edges.NE_add c (.mk (some ⟨s, v⟩) (c :: rest) .nil) (List.cons_ne_nil _ _) trivial es h, 
    fun h0 => nomatch (h0 ▸ Edges.rel_add_leaf c rest s v es).nil_eq⟩

theorem Edges.rel_cons_ne_nil (l : Nat) (c : Node) (r : Edges) (h : Node.rel c ≠ []) :
    Edges.rel (.cons l c r) ≠ [] := by
  rw [Edges.rel]
  exact List.append_ne_nil_of_left_ne_nil (mt List.map_eq_nil_iff.mp h) _

theorem splitNode_NE (child : Node) (common restS : Key) (y : Nat) (ys s : Key) (v : Int)
    (hc : Node.NE child) (hr : Node.rel child ≠ []) :
    Node.NE (splitNode child common restS y ys s v) ∧ Node.rel (splitNode child common restS y ys s v) ≠ [] := by
  obtain ⟨leaf, pre, edges⟩ := child
  have hold : Edges.NE (.cons y (.mk leaf (y :: ys) edges) .nil) := ⟨hr, hc, trivial⟩
  cases restS with
  | nil => exact ⟨hold, List.cons_ne_nil _ _⟩
  | cons x xs => exact Edges.NE_add_leaf x xs s v _ hold

theorem insert_keeps_NE :
    (∀ n search s v, Node.NE n → Node.NE (Node.insert n search s v).1 ∧ Node.rel (Node.insert n search s v).1 ≠ []) ∧
    (∀ es c search s v, Edges.NE es → ∀ es' res, Edges.insertAt es c search s v = some (es', res) →
      Edges.NE es' ∧ Edges.rel es' ≠ []) := by
  refine Node.insert.mutual_induct_unfolding
    (motive_1 := fun n _ _ _ r => Node.NE n → Node.NE r.1 ∧ Node.rel r.1 ≠ [])
    (motive_2 := fun es _ _ _ _ r => Edges.NE es → ∀ es' res, r = some (es', res) → Edges.NE es' ∧ Edges.rel es' ≠ [])
    ?_ ?_ ?_ ?_ ?_ ?_ ?_ ?_ ?_
  · exact fun _ _ _ _ _ h => ⟨h, List.cons_ne_nil _ _⟩
  · exact fun _ _ _ _ h => ⟨h, List.cons_ne_nil _ _⟩
  · intro leaf pre edges s v c rest edges' r hi ih h
    exact ⟨(ih h _ _ hi).1, List.append_ne_nil_of_right_ne_nil _ (ih h _ _ hi).2⟩
  · intro leaf pre edges s v c rest _ _ h
    have := Edges.NE_add_leaf c rest s v edges h
    exact ⟨this.1, List.append_ne_nil_of_right_ne_nil _ this.2⟩
  · exact fun _ _ _ _ _ _ _ h => nomatch h
  · intro child r c search s v common restS hsc child' res hins ih h es' res' he
    cases he
    rw [hins] at ih
    exact ⟨⟨(ih h.2.1).2, (ih h.2.1).1, h.2.2⟩, Edges.rel_cons_ne_nil _ _ _ (ih h.2.1).2⟩
  · intro child r c search s v common restS y ys hsc old mid h es' res' he
    cases he
    have := splitNode_NE child common restS y ys s v h.2.1 h.1
    exact ⟨⟨this.2, this.1, h.2.2⟩, Edges.rel_cons_ne_nil _ _ _ this.2⟩
  · intro l child r c search s v _ edges' r1 hi ih h es' res he
    cases he
    exact ⟨⟨h.1, h.2.1, (ih h.2.2 _ _ hi).1⟩, Edges.rel_cons_ne_nil _ _ _ h.1⟩
  · exact fun _ _ _ _ _ _ _ _ _ _ _ _ _ h => nomatch h

theorem Edges.insertAt_NE : ∀ (es : Edges) (c : Nat) (rest s : Key) (v : Int), Edges.NE es →
    match Edges.insertAt es c (c :: rest) s v with
    | none => True
    | some (es', _) => Edges.NE es' ∧ Edges.rel es' ≠ [] := by
  intro es c rest s v hne
  cases hi : Edges.insertAt es c (c :: rest) s v with
  | none => trivial
  | some r => exact insert_keeps_NE.2 es c (c :: rest) s v hne r.1 r.2 hi

end Influx.Radix
