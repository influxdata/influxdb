/-
  Lemmas.CompactSortL — what `sort.Stable(k.blocks)` guarantees while it stays in its
  insertion-sort regime (at most 20 blocks): the result is a permutation in which no
  block lies entirely before its predecessor (`AdjOK`), and only blocks with disjoint
  time ranges were exchanged, so the newest-wins content (`restAt`) is unchanged.
-/
import Influx.Lemmas.CompactDedup

namespace Influx.Model.Compact
open Influx.Generated

variable {V : Type}

theorem insertRev_decomp {α : Type} (less : α → α → Bool) (x : α) (acc : List α) :
    ∃ hi lo, acc = hi ++ lo ∧ Sort.insertRev less x acc = hi ++ x :: lo ∧
      (∀ p ∈ hi, less x p = true) ∧ (∀ q, lo.head? = some q → less x q = false) := by
  induction acc with
  | nil => exact ⟨[], [], rfl, rfl, by simp, by simp⟩
  | cons p ps ih =>
    rw [Sort.insertRev]
    split
    · next h =>
      obtain ⟨hi, lo, e1, e2, e3, e4⟩ := ih
      exact ⟨p :: hi, lo, by rw [e1]; rfl, by rw [e2]; rfl, List.forall_mem_cons.mpr ⟨h, e3⟩, e4⟩
    · next h =>
      refine ⟨[], p :: ps, rfl, rfl, by simp, fun q hq => ?_⟩
      obtain rfl := Option.some.inj hq
      simpa using h

theorem insertionSortAux_perm {α : Type} (less : α → α → Bool) (l acc : List α) :
    (Sort.insertionSortAux less acc l).Perm (acc ++ l) := by
  induction l generalizing acc with
  | nil => rw [Sort.insertionSortAux, List.append_nil]; exact List.reverse_perm acc
  | cons x xs ih =>
    obtain ⟨hi, lo, e1, e2, _⟩ := insertRev_decomp less x acc
    rw [Sort.insertionSortAux]
    have p1 : (Sort.insertRev less x acc).Perm (x :: acc) := by rw [e2, e1]; exact List.perm_middle
    exact (ih _).trans ((p1.append_right xs).trans (List.perm_middle (a := x) (l₁ := acc) (l₂ := xs)).symm)

theorem stable_eq_insertionSort {α : Type} [Inhabited α] (less : α → α → Bool) (l : List α)
    (h : l.length ≤ 20) : Sort.stable less l = Sort.insertionSort less l := by
  unfold Sort.stable
  have h1 : Sort.insertionBlocks less 20 (l.length + 1) l = Sort.insertionSort less l := by
    cases l with
    | nil => rfl
    | cons x xs =>
      have ht : (x :: xs).take 20 = x :: xs := List.take_of_length_le h
      have hd : (x :: xs).drop 20 = [] := List.drop_of_length_le h
      simp only [Sort.insertionBlocks, List.isEmpty_cons, Bool.false_eq_true, if_false, ht, hd]
      cases xs <;> simp [Sort.insertionBlocks]
  have h2 : (Sort.insertionSort less l).length = l.length := (insertionSortAux_perm less l []).length_eq
  rw [h1, Sort.mergeLoop, if_neg (by omega)]

theorem restAt_append (A B : List (Block V)) (t : Int) :
    restAt (A ++ B) t = (restAt B t).or (restAt A t) := by
  induction A with
  | nil => simp [restAt]
  | cons a A ih => simp only [List.cons_append, restAt, ih, Option.or_assoc]

theorem restAt_some_range {L : List (Block V)} (hw : ∀ b ∈ L, BlockWF b) {t : Int} {v : V}
    (h : restAt L t = some v) : ∃ b ∈ L, b.minTime ≤ t ∧ t ≤ b.maxTime := by
  induction L generalizing v with
  | nil => simp [restAt] at h
  | cons b L ih =>
    simp only [restAt] at h
    cases hr : restAt L t with
    | some w =>
      obtain ⟨x, hx, hx'⟩ := ih (fun b hb => hw b (List.mem_cons_of_mem _ hb)) hr
      exact ⟨x, List.mem_cons_of_mem _ hx, hx'⟩
    | none =>
      rw [hr] at h
      simp only [Option.none_or] at h
      exact ⟨b, by simp, live_time_range (hw b (by simp)) h⟩

theorem adjFrom_iff {pm : Int} {L : List (Block V)} :
    AdjFrom pm L ↔ (∀ b, L.head? = some b → pm ≤ b.maxTime) ∧ AdjOK L := by
  cases L with
  | nil => simp [AdjFrom, AdjOK]
  | cons b L => simp [AdjFrom, AdjOK]

theorem adjOK_append {A B : List (Block V)} :
    AdjOK (A ++ B) ↔ AdjOK A ∧ AdjOK B ∧
      ∀ a b, A.getLast? = some a → B.head? = some b → a.minTime ≤ b.maxTime := by
  induction A with
  | nil => simp [AdjOK]
  | cons a A ih =>
    cases A with
    | nil =>
      show AdjFrom a.minTime B ↔ _
      rw [adjFrom_iff]
      constructor
      · rintro ⟨h1, h2⟩
        exact ⟨trivial, h2, fun a' b ha hb => by obtain rfl := Option.some.inj ha; exact h1 b hb⟩
      · rintro ⟨_, h2, h3⟩
        exact ⟨fun b hb => h3 a b rfl hb, h2⟩
    | cons a' A =>
      show a.minTime ≤ a'.maxTime ∧ AdjFrom a'.minTime (A ++ B) ↔
        (a.minTime ≤ a'.maxTime ∧ AdjFrom a'.minTime A) ∧ _
      rw [List.getLast?_cons_cons, and_assoc]
      exact and_congr_right fun _ => ih

theorem blkLess_iff {a b : Block V} (wa : BlockWF a) : blkLess a b = true ↔ a.maxTime < b.minTime := by
  have := wa.min_le_max
  simp only [blkLess, Bool.and_eq_true, decide_eq_true_eq]
  constructor
  · intro h; exact h.2
  · intro h; exact ⟨by omega, h⟩

/-- forward view of one insertion: `lo.reverse ++ hi.reverse ++ [x]` becomes `lo.reverse ++ x :: hi.reverse` -/
theorem insert_restAt {x : Block V} {hi lo : List (Block V)} (wx : BlockWF x)
    (whi : ∀ p ∈ hi, BlockWF p) (hless : ∀ p ∈ hi, blkLess x p = true) (t : Int) :
    restAt (lo.reverse ++ x :: hi.reverse) t = restAt ((lo.reverse ++ hi.reverse) ++ [x]) t := by
  rw [restAt_append, restAt_append, restAt_append]
  simp only [restAt]
  cases hx : lookup (live x) t with
  | none => simp
  | some v =>
    have hxr := live_time_range wx hx
    have : restAt hi.reverse t = none := by
      cases hr : restAt hi.reverse t with
      | none => rfl
      | some w =>
        obtain ⟨p, hp, hp'⟩ := restAt_some_range (fun b hb => whi b (List.mem_reverse.mp hb)) hr
        have hp2 := List.mem_reverse.mp hp
        have := (blkLess_iff wx).mp (hless p hp2)
        omega
    simp [this]

theorem insert_adj {x : Block V} {hi lo : List (Block V)} (wx : BlockWF x)
    (whi : ∀ p ∈ hi, BlockWF p)
    (hless : ∀ p ∈ hi, blkLess x p = true) (hlo : ∀ q, lo.head? = some q → blkLess x q = false)
    (h : AdjOK (lo.reverse ++ hi.reverse)) : AdjOK (lo.reverse ++ x :: hi.reverse) := by
  have hxmm := wx.min_le_max
  obtain ⟨h1, h2, _⟩ := adjOK_append.mp h
  refine adjOK_append.mpr ⟨h1, adjFrom_iff.mpr ⟨fun p hp => ?_, h2⟩, fun q y hq hy => ?_⟩
  · -- `x` lies entirely before every block of `hi`
    have hp' : p ∈ hi := List.mem_reverse.mp (List.mem_of_head? hp)
    have := (blkLess_iff wx).mp (hless p hp')
    have := (whi p hp').min_le_max
    omega
  · -- `x` does not lie entirely before the block it stopped at
    obtain rfl := Option.some.inj hy
    have := hlo q (by rw [← List.getLast?_reverse]; exact hq)
    simp only [blkLess, Bool.and_eq_false_iff, decide_eq_false_iff_not] at this
    omega

theorem insertionSortAux_spec :
    ∀ (l acc : List (Block V)), (∀ b ∈ acc, BlockWF b) → (∀ b ∈ l, BlockWF b) → AdjOK acc.reverse →
      AdjOK (Sort.insertionSortAux blkLess acc l) ∧
      (∀ t, restAt (Sort.insertionSortAux blkLess acc l) t = restAt (acc.reverse ++ l) t) := by
  intro l
  induction l with
  | nil => exact fun acc _ _ hadj => ⟨hadj, fun t => by rw [List.append_nil]; rfl⟩
  | cons x xs ih =>
    intro acc hacc hl hadj
    rw [Sort.insertionSortAux]
    have wx := hl x (List.mem_cons_self ..)
    obtain ⟨hi, lo, e1, e2, e3, e4⟩ := insertRev_decomp blkLess x acc
    have whi : ∀ p ∈ hi, BlockWF p := fun p hp => hacc p (e1 ▸ List.mem_append_left _ hp)
    have hrev : (Sort.insertRev blkLess x acc).reverse = lo.reverse ++ x :: hi.reverse := by
      rw [e2]; simp
    obtain ⟨r1, r2⟩ := ih (Sort.insertRev blkLess x acc)
      (fun b hb => (List.mem_cons.mp ((List.Perm.mem_iff (e2 ▸ List.perm_middle)).mp hb)).elim (· ▸ wx)
        fun h => hacc b (e1 ▸ h))
      (fun b hb => hl b (List.mem_cons_of_mem _ hb))
      (by rw [hrev]; apply insert_adj wx whi e3 e4; rw [e1] at hadj; simpa using hadj)
    refine ⟨r1, fun t => ?_⟩
    rw [r2 t, hrev, restAt_append, insert_restAt wx whi e3 t, restAt_append acc.reverse (x :: xs), e1,
      List.reverse_append, restAt_append _ [x]]
    show _ = ((restAt xs t).or (restAt [x] t)).or _
    rw [Option.or_assoc]

theorem insertionSort_spec (l : List (Block V)) (hw : ∀ b ∈ l, BlockWF b) :
    AdjOK (Sort.insertionSort blkLess l) ∧
    (∀ t, restAt (Sort.insertionSort blkLess l) t = restAt l t) ∧
    (∀ b, b ∈ Sort.insertionSort blkLess l ↔ b ∈ l) ∧
    (Sort.insertionSort blkLess l).length = l.length :=
  have hp := insertionSortAux_perm blkLess l []
  have hs := insertionSortAux_spec l [] (by simp) hw trivial
  ⟨hs.1, hs.2, fun _ => hp.mem_iff, hp.length_eq⟩

/-- `sort.Stable(k.blocks)` for at most 20 blocks -/
theorem stable_spec (l : List (Block V)) (hw : ∀ b ∈ l, BlockWF b) (hlen : l.length ≤ 20) :
    AdjOK (Sort.stable blkLess l) ∧
    (∀ t, restAt (Sort.stable blkLess l) t = restAt l t) ∧
    (∀ b, b ∈ Sort.stable blkLess l ↔ b ∈ l) ∧
    (Sort.stable blkLess l).length = l.length := by
  rw [stable_eq_insertionSort blkLess l hlen]
  exact insertionSort_spec l hw

end Influx.Model.Compact
