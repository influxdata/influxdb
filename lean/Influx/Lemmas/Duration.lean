/-
  Lemmas.Duration — `time.ParseDuration` reads back what `time.Duration.String` writes
  (`Model.Toml.parseDuration` / `durString`), for every int64.
-/
import Influx.Lemmas.Toml
import Influx.Lemmas.Float

namespace Influx.Lemmas.Duration
open Influx.Model.Toml Influx.Lemmas.Toml Influx.Model

theorem mod_pow_succ10 (v j : Nat) : v % 10 ^ (j + 1) = v % 10 + 10 * (v / 10 % 10 ^ j) := by
  rw [Nat.pow_succ, Nat.mul_comm, Nat.mod_mul]

theorem div_pow_succ10 (v j : Nat) : v / 10 ^ (j + 1) = v / 10 / 10 ^ j := by
  rw [Nat.pow_succ, Nat.mul_comm, Nat.div_div_eq_div_mul]

theorem fmtFrac_go_spec (j v : Nat) (pr : Bool) (acc : Bytes) :
    ∃ D z, fmtFrac.go j v pr acc = (D ++ acc, v / 10 ^ j, pr || !D.isEmpty) ∧ D.all isDigit = true ∧
      D.length + z = j ∧ (pr = true → z = 0) ∧ (pr = false → v % 10 ^ j = 0 → D = []) ∧
      dval D 0 * 10 ^ z = v % 10 ^ j := by
  induction j generalizing v pr acc with
  | zero => exact ⟨[], 0, by simp [fmtFrac.go], rfl, rfl, fun _ => rfl, fun _ _ => rfl, by simp [dval, Nat.mod_one]⟩
  | succ j ih =>
    obtain ⟨hc1, hc2⟩ := digitChar_spec (v % 10) (Nat.mod_lt _ (by decide))
    have hm := mod_pow_succ10 v j
    rw [fmtFrac.go, div_pow_succ10]
    cases hp : (pr || v % 10 != 0)
    · obtain ⟨hpr, hz⟩ : pr = false ∧ v % 10 = 0 := by simpa using hp
      rw [hz, Nat.zero_add] at hm
      obtain ⟨D, z, e, hD, hl, _, h0, hv⟩ := ih (v / 10) false acc
      refine ⟨D, z + 1, by simpa [hpr] using e, hD, congrArg (· + 1) hl, by simp [hpr], fun _ h => h0 rfl ?_, ?_⟩
      · rw [hm] at h; exact (Nat.mul_eq_zero.mp h).resolve_left (by decide)
      · rw [Nat.pow_succ, ← Nat.mul_assoc, hv, hm, Nat.mul_comm]
    · obtain ⟨D, z, e, hD, hl, hz, _, hv⟩ := ih (v / 10) true (digitChar (v % 10) :: acc)
      rw [hz rfl] at hl hv
      have hne : (D ++ [digitChar (v % 10)]).isEmpty = false := by cases D <;> rfl
      refine ⟨D ++ [digitChar (v % 10)], 0, by simpa [hne] using e, by simp [hD, hc1], by simp [← hl],
        fun _ => rfl, ?_, ?_⟩
      · intro hpr h
        rw [hpr, Bool.false_or, bne_iff_ne] at hp
        rw [hm] at h; exact absurd (Nat.eq_zero_of_add_eq_zero_right h) hp
      · rw [Nat.pow_zero, Nat.mul_one] at hv ⊢
        rw [dval_append, hv, hc2, hm, Nat.mul_comm, Nat.add_comm]

theorem leadingInt_go (l R : Bytes) (x : Nat) (hl : l.all isDigit = true)
    (hR : ∀ c, R.head? = some c → isDigit c = false) (hb : dval l x ≤ 2 ^ 63) :
    leadingInt.go (l ++ R) x = some (dval l x, R) := by
  refine (digit_loop (fun s x _ => leadingInt.go s x) (2 ^ 63) (fun c cs x _ hc hx => ?_) l R x 0 hl hb).trans ?_
  · simp only [leadingInt.go, hc, Bool.not_true, Bool.false_eq_true, if_false]
    rw [if_neg (by omega), if_neg (by omega)]
  · cases R with
    | nil => rfl
    | cons c cs => simp [leadingInt.go, hR c rfl]

theorem leadingInt_fmtNat (n : Nat) (R : Bytes) (hR : ∀ c, R.head? = some c → isDigit c = false)
    (hn : n ≤ 2 ^ 63) : leadingInt (fmtNat n ++ R) = some (n, R) := by
  unfold leadingInt
  rw [leadingInt_go _ _ _ (fmtNat_all_digits n) hR (by rw [dval_fmtNat]; exact hn), dval_fmtNat]

theorem leadingFraction_go (l R : Bytes) (x k : Nat) (hl : l.all isDigit = true)
    (hR : ∀ c, R.head? = some c → isDigit c = false) (hb : dval l x ≤ 2 ^ 63) :
    leadingFraction.go (l ++ R) x k false = (dval l x, k + l.length, R) := by
  refine (digit_loop (fun s x k => leadingFraction.go s x k false) (2 ^ 63) (fun c cs x _ hc hx => ?_)
    l R x k hl hb).trans ?_
  · simp only [leadingFraction.go, hc, Bool.not_true, Bool.false_eq_true, if_false]
    rw [if_neg (by omega), if_neg (by omega)]
  · cases R with
    | nil => rfl
    | cons c cs => simp [leadingFraction.go, hR c rfl]

open Influx.Lemmas.Float in
/-- `uint64(float64(f) * (float64(unit) / scale))` is exact when `scale = 10^k` divides `unit` and
    `unit` and the result stay below 2^53 -/
theorem fracNanos_exact (f k Dv : Nat) (hDv : 0 < Dv) (hu : Dv * 10 ^ k < 2 ^ 53) (hfd : f * Dv < 2 ^ 53) :
    fracNanos f (Dv * 10 ^ k) k = some (f * Dv) := by
  have hk : 0 < 10 ^ k := Nat.pow_pos (by decide)
  obtain ⟨ff, e1, n1, d1⟩ := ofNat_exact f (Nat.lt_of_le_of_lt (Nat.le_mul_of_pos_right f hDv) hfd)
  obtain ⟨fu, e2, n2, d2⟩ := ofNat_exact _ hu
  obtain ⟨fs, e3, n3, d3⟩ := ofNat_exact (10 ^ k) (Nat.lt_of_le_of_lt (Nat.le_mul_of_pos_left _ hDv) hu)
  obtain ⟨q, e4, n4, d4⟩ := div_exact fu fs _ (10 ^ k) Dv n2 n3 d2 d3 hk rfl
    (Nat.lt_of_le_of_lt (Nat.le_mul_of_pos_right Dv hk) hu)
  obtain ⟨p, e5, n5, d5⟩ := mul_exact ff q f Dv n1 n4 d1 d4 hfd
  unfold fracNanos
  simp [e1, e2, e3, e4, e5, trunc_exact p (f * Dv) n5 d5]

/-- `F` is what `Duration.format` may put between the integer part and a unit of `unit` ns, and
    `ParseDuration` reads it as `add` ns: nothing, or `.` and digits whose float64 scaling is `add` -/
inductive Frac (unit : Nat) : Bytes → Nat → Prop
  | none : Frac unit [] 0
  | digits (D : Bytes) (add : Nat) (hD : D.all isDigit = true) (hne : D ≠ []) (hpos : 0 < dval D 0)
      (hb : dval D 0 ≤ 2 ^ 63) (hadd : fracNanos (dval D 0) unit D.length = some add) : Frac unit (46 :: D) add

theorem fmtFrac_snd (v prec : Nat) : (fmtFrac v prec).2 = v / 10 ^ prec := by
  obtain ⟨D, z, e, _⟩ := fmtFrac_go_spec prec v false []
  simp [fmtFrac, e]

theorem frac_fmtFrac (v j : Nat) (hj : j ≤ 9) : Frac (10 ^ j) (fmtFrac v j).1 (v % 10 ^ j) := by
  obtain ⟨D, z, e, hD, hl, _, h0, hv⟩ := fmtFrac_go_spec j v false []
  have ht : (fmtFrac v j).1 = if D.isEmpty then [] else 46 :: D := by
    simp only [fmtFrac, e, List.append_nil, Bool.false_or]; cases D <;> rfl
  rw [ht]
  cases D with
  | nil => rw [← hv]; simp only [dval_nil, Nat.zero_mul]; exact .none
  | cons c D =>
    have hlt : v % 10 ^ j < 2 ^ 53 :=
      Nat.lt_of_lt_of_le (Nat.mod_lt _ (Nat.pow_pos (by decide)))
        (Nat.le_trans (Nat.pow_le_pow_right (by decide) hj) (by decide))
    have hsplit : 10 ^ z * 10 ^ (c :: D).length = 10 ^ j := by rw [← Nat.pow_add, Nat.add_comm, hl]
    have hpos : 0 < 10 ^ z := Nat.pow_pos (by decide)
    have hle : dval (c :: D) 0 ≤ v % 10 ^ j := hv ▸ Nat.le_mul_of_pos_right _ hpos
    have hfpos : 0 < dval (c :: D) 0 :=
      Nat.pos_of_ne_zero fun hz => List.cons_ne_nil _ _ (h0 rfl (by rw [← hv, hz, Nat.zero_mul]))
    have hadd := fracNanos_exact (dval (c :: D) 0) (c :: D).length _ hpos
      (by rw [hsplit]; exact Nat.lt_of_le_of_lt (Nat.pow_le_pow_right (by decide) hj) (by decide))
      (by rw [hv]; exact hlt)
    rw [hsplit, hv] at hadd
    exact .digits _ _ hD (List.cons_ne_nil _ _) hfpos
      (Nat.le_trans hle (Nat.le_of_lt (Nat.lt_trans hlt (by decide)))) hadd

theorem numStart_facts (c : UInt8) (h : isNumStart c = false) : isDigit c = false ∧ c ≠ 46 := by
  unfold isNumStart at h
  simp only [Bool.or_eq_false_iff, beq_eq_false_iff_ne, ne_eq] at h
  exact ⟨h.2, h.1⟩

theorem digit_numStart (c : UInt8) (h : isDigit c = true) : isNumStart c = true := by
  simp [isNumStart, h]

/-- `U` is a unit name of `ParseDuration`, worth `unit` ns -/
def IsUnit (U : Bytes) (unit : Nat) : Prop :=
  U ≠ [] ∧ U.all (fun x => !isNumStart x) = true ∧ unitMap U = some unit ∧ 0 < unit

/-- the unit names `Duration.format` writes -/
theorem unit_consts :
    IsUnit (str "ns") 1 ∧ IsUnit [0xC2, 0xB5, 115] (10 ^ 3) ∧ IsUnit (str "ms") (10 ^ 6) ∧
    IsUnit (str "s") (10 ^ 9) ∧ IsUnit (str "m") (60 * 10 ^ 9) ∧ IsUnit (str "h") (60 * (60 * 10 ^ 9)) := by
  unfold IsUnit; decide +kernel

theorem wrapU_small (x : Nat) (h : x ≤ 2 ^ 63) : wrapU x = x := Nat.mod_eq_of_lt (by omega)

theorem length_bne_append (L S : Bytes) (h : L ≠ []) : (S.length != (L ++ S).length) = true := by
  have := List.length_pos_iff.mpr h
  simp only [List.length_append, bne_iff_ne, ne_eq]; omega

/-- one iteration of the loop of `ParseDuration`, over a component `<n>[.<digits>]<unit>` as
    `Duration.format` writes it.  The one bound `hd` is what all the overflow tests of the loop check. -/
theorem parseDurLoop_component (fuel n unit d add : Nat) (F U R : Bytes) (hF : Frac unit F add) (hU : IsUnit U unit)
    (hR : ∀ x, R.head? = some x → isNumStart x = true) (hd : d + (n * unit + add) ≤ 2 ^ 63) :
    parseDurLoop (fuel + 1) (fmtNat n ++ (F ++ (U ++ R))) d = parseDurLoop fuel R (d + (n * unit + add)) := by
  obtain ⟨hU, hUa, hunit, hu0⟩ := hU
  obtain ⟨c, U, rfl⟩ := List.exists_cons_of_ne_nil hU
  have hc : isNumStart c = false := by
    simp only [List.all_cons, Bool.and_eq_true, Bool.not_eq_true'] at hUa; exact hUa.1
  obtain ⟨hcd, hc46⟩ := numStart_facts c hc
  have h1 : n * unit + add ≤ 2 ^ 63 := Nat.le_trans (Nat.le_add_left _ _) hd
  have h2 : n * unit ≤ 2 ^ 63 := Nat.le_trans (Nat.le_add_right _ _) h1
  have hn : n ≤ 2 ^ 63 := Nat.le_trans (Nat.le_mul_of_pos_right n hu0) h2
  have hnu : ¬ n > 2 ^ 63 / unit := Nat.not_lt.mpr ((Nat.le_div_iff_mul_le hu0).mpr h2)
  obtain ⟨c0, rest0, hf, hc0⟩ := fmtNat_head n
  have h46 : isDigit 46 = false := by decide
  have hli := leadingInt_fmtNat n (F ++ ((c :: U) ++ R)) (by cases hF <;> simp [hcd, h46]) hn
  have hlen := length_bne_append (fmtNat n) (F ++ ((c :: U) ++ R)) (fmtNat_ne_nil n)
  obtain ⟨ht, hdw⟩ := takeWhile_append_stop (fun x => !isNumStart x) (c :: U) R hUa (by
    intro x hx; simp [hR x hx])
  rw [parseDurLoop.eq_def]
  rw [hf] at hli hlen ⊢
  simp only [List.cons_append, digit_numStart c0 hc0, Bool.not_true, Bool.false_eq_true, if_false]
  simp only [List.cons_append] at hli hlen ht hdw
  rw [hli]
  simp only [hlen]
  cases hF with
  | none =>
    rw [List.nil_append]
    split
    · next rest heq => exact absurd (List.head_eq_of_cons_eq heq) hc46
    · simp only [Bool.not_true, Bool.false_and, Bool.false_eq_true, if_false, ht, hdw, List.isEmpty_cons, hunit,
        hnu, Nat.lt_irrefl, Nat.add_zero] at hd ⊢
      rw [wrapU_small _ hd, if_neg (Nat.not_lt.mpr hd)]
  | digits D add hD hne hpos hb hadd =>
    have hlf := leadingFraction_go D ((c :: U) ++ R) 0 0 hD (by simp [hcd]) hb
    have hpost := length_bne_append D ((c :: U) ++ R) hne
    simp only [List.cons_append] at hlf hpost
    simp only [List.cons_append, leadingFraction, hlf, hpost, Nat.zero_add]
    simp only [Bool.not_true, Bool.false_and, Bool.false_eq_true, if_false, ht, hdw, List.isEmpty_cons, hunit, hnu,
      hpos, if_true, hadd, wrapU_small _ h1, Nat.not_lt.mpr h1, wrapU_small _ hd, Nat.not_lt.mpr hd]

/-- `s` is a sequence of components worth `X` ns in all: from any running total `d` that leaves room
    for `X`, the loop of `ParseDuration` ends with `d + X`; and `s`, if not empty, begins with a digit -/
def Worth (fuel : Nat) (s : Bytes) (X : Nat) : Prop :=
  (∀ x, s.head? = some x → isDigit x = true) ∧ ∀ d, d + X ≤ 2 ^ 63 → parseDurLoop fuel s d = some (d + X)

theorem parseDurLoop_nil (fuel d : Nat) : parseDurLoop (fuel + 1) [] d = some d := by
  rw [parseDurLoop.eq_def]

theorem Worth.nil (fuel : Nat) : Worth (fuel + 1) [] 0 :=
  ⟨by simp, fun d _ => parseDurLoop_nil fuel d⟩

theorem Worth.comp {fuel unit add X : Nat} {F U R : Bytes} (n : Nat) (hF : Frac unit F add) (hU : IsUnit U unit)
    (hR : Worth fuel R X) : Worth (fuel + 1) (fmtNat n ++ (F ++ (U ++ R))) (n * unit + add + X) := by
  refine ⟨fun x hx => ?_, fun d hd => ?_⟩
  · obtain ⟨c, rest, hf, hc⟩ := fmtNat_head n
    rw [hf] at hx; injection hx with hx; exact hx ▸ hc
  · rw [← Nat.add_assoc] at hd
    rw [parseDurLoop_component fuel n unit d add F U R hF hU (fun x hx => digit_numStart x (hR.1 x hx))
      (Nat.le_trans (Nat.le_add_right _ _) hd), hR.2 _ hd, Nat.add_assoc]

theorem Worth.int {fuel unit X : Nat} {U R : Bytes} (n : Nat) (hU : IsUnit U unit) (hR : Worth fuel R X) :
    Worth (fuel + 1) (fmtNat n ++ (U ++ R)) (n * unit + X) :=
  Worth.comp n .none hU hR

theorem Worth.cast {fuel X Y : Nat} {s : Bytes} (h : Worth fuel s X) (e : X = Y) : Worth fuel s Y := e ▸ h

theorem div_mul_add_mod_mul (a b c : Nat) : a / b * (b * c) + a % b * c = a * c := by
  rw [← Nat.mul_assoc, ← Nat.add_mul, Nat.div_add_mod']

theorem mod_of_div_not_pos {a b : Nat} (hb : 0 < b) (h : ¬ a / b > 0) : a % b = a :=
  Nat.mod_eq_of_lt (Nat.lt_of_not_le fun hle => h (Nat.div_pos_iff.mpr ⟨hb, hle⟩))

theorem durBody_worth (u fuel : Nat) (hu0 : 0 < u) : Worth (fuel + 4) (durBody u) u := by
  obtain ⟨i_ns, i_us, i_ms, i_s, i_m, i_h⟩ := unit_consts
  unfold durBody
  by_cases hlt : u < 10 ^ 9
  · rw [if_pos hlt, if_neg (Nat.ne_of_gt hu0)]
    split
    · rw [← List.append_nil (str "ns")]
      exact (Worth.int u i_ns (.nil _)).cast (by rw [Nat.mul_one]; rfl)
    · split
      · rw [fmtFrac_snd]
        exact (Worth.comp _ (frac_fmtFrac u 3 (by decide)) i_us (.nil _)).cast
          (by rw [Nat.add_zero]; exact Nat.div_add_mod' u _)
      · rw [fmtFrac_snd]
        exact (Worth.comp _ (frac_fmtFrac u 6 (by decide)) i_ms (.nil _)).cast
          (by rw [Nat.add_zero]; exact Nat.div_add_mod' u _)
  · rw [if_neg hlt]
    simp only [fmtFrac_snd]
    -- seconds, minutes and hours are the digits of `u / 10^9` in base 60; a leading zero digit is not written
    have hS := fun f => Worth.comp (u / 10 ^ 9 % 60) (frac_fmtFrac u 9 (by decide)) i_s (.nil f)
    split
    · have hM := fun f => Worth.int (u / 10 ^ 9 / 60 % 60) i_m (hS f)
      split
      · exact (Worth.int (u / 10 ^ 9 / 60 / 60) i_h (hM _)).cast (by
          rw [Nat.add_zero, ← Nat.add_assoc, ← Nat.add_assoc, div_mul_add_mod_mul, div_mul_add_mod_mul,
            Nat.div_add_mod'])
      · next hh => exact (hM _).cast (by
          rw [Nat.add_zero, ← Nat.add_assoc, mod_of_div_not_pos (by decide) hh, div_mul_add_mod_mul, Nat.div_add_mod'])
    · next hm => exact (hS _).cast (by rw [Nat.add_zero, mod_of_div_not_pos (by decide) hm, Nat.div_add_mod'])

theorem parseDurLoop_zero_only (fuel : Nat) : parseDurLoop (fuel + 4) [48] 0 = none := by
  rw [parseDurLoop.eq_def]
  have h1 : leadingInt [48] = some (0, []) := by decide +kernel
  have h2 : isNumStart 48 = true := by decide +kernel
  simp [h1, h2]

/-- **`time.ParseDuration(d.String()) == d` for every `int64` duration**, hence
    `toml.Duration.UnmarshalText(MarshalText(d)) = d`. -/
theorem duration_roundtrip (d : Int) (hd : -(2 ^ 63 : Int) ≤ d ∧ d < 2 ^ 63) :
    durUnmarshal (durString d) = some d := by
  by_cases h0 : d = 0
  · subst h0; decide +kernel
  · have W := durBody_worth d.natAbs (durBody d.natAbs).length (by omega)
    have hlen := W.2 0 (by omega)
    rw [Nat.zero_add] at hlen
    -- the text is neither empty nor "0": the loop reads the one as 0 and rejects the other
    obtain ⟨c, rest, hb, hc⟩ : ∃ c rest, durBody d.natAbs = c :: rest ∧ isDigit c = true := by
      cases hb : durBody d.natAbs with
      | nil => rw [hb, parseDurLoop_nil] at hlen; injection hlen; omega
      | cons c rest => exact ⟨c, rest, rfl, W.1 c (by rw [hb]; rfl)⟩
    obtain ⟨h43, h45⟩ := digit_not_sign c hc
    have hne48 : (durBody d.natAbs == [48]) = false := by
      apply Bool.eq_false_iff.mpr
      intro h
      rw [eq_of_beq h, parseDurLoop_zero_only] at hlen
      cases hlen
    unfold durUnmarshal durString
    by_cases hneg : d < 0
    · rw [if_pos hneg]
      simp only [List.isEmpty_cons, Bool.false_eq_true, if_false, parseDuration,
        show ((45 : UInt8) == 45) = true from rfl, Bool.true_or, if_true, hne48]
      rw [if_neg (by rw [hb]; simp), hlen]
      exact congrArg some (by omega)
    · rw [if_neg hneg, if_neg (by rw [hb]; simp)]
      unfold parseDuration
      rw [hb] at hne48 hlen ⊢
      simp only [h45, h43, Bool.or_self, Bool.false_eq_true, if_false, hne48, List.isEmpty_cons, hlen]
      rw [if_neg (by omega)]
      exact congrArg some (by omega)

end Influx.Lemmas.Duration
