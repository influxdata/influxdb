/-
  `walkFields`, the field iterator and `Fields()` on the field text written by
  `Fields.MarshalBinary`: the same keys, types and values, sorted by key.  The two sorts involved
  (`sort.Strings` on field names in MarshalBinary, the specification's `sortByKey`) agree, and
  sorted distinct keys are strictly increasing.
-/
import Influx.Lemmas.LineProtocolFields

namespace Influx.LP
open Influx.Generated.LineProto Influx.Spec.C11

section

attribute [local simp] cBS_val cComma_val cSpace_val cEq_val cQuote_val cNL_val

theorem escapeString_eq (s : Bytes) : escapeString s = escBy isEscapeChar s := by
  induction s with
  | nil => rfl
  | cons b r ih => simp only [escapeString, escBy_cons, ih]

theorem escapeStringField_eq (s : Bytes) :
    escapeStringField s = escBy (fun b => b == cQuote || b == cBS) s := by
  induction s with
  | nil => rfl
  | cons b r ih =>
    simp only [escapeStringField, escBy_cons, ih]
    by_cases h : b = cQuote ∨ b = cBS
    · have : (b == cQuote || b == cBS) = true := by rcases h with h | h <;> simp [h]
      simp [h, this]
    · have : (b == cQuote || b == cBS) = false := by
        simp only [not_or] at h; simp [h.1, h.2]
      simp [h, this]

theorem scanFieldValue_plain (tok tail : Bytes) (h : ∀ b ∈ tok, b ≠ cQuote ∧ b ≠ cBS ∧ b ≠ cComma)
    (ht : tail = [] ∨ tail.head? = some cComma) :
    scanFieldValue false false (tok ++ tail) = (tok, tail) := by
  induction tok with
  | nil =>
    rcases ht with rfl | ht
    · rfl
    · cases tail with
      | nil => simp at ht
      | cons b r => simp at ht; subst ht; simp [scanFieldValue]
  | cons b t ih =>
    obtain ⟨h1, h2, h3⟩ := h b (by simp)
    rw [List.cons_append, scanFieldValue]
    simp [h1, h2, h3, ih (fun c hc => h c (by simp [hc]))]

theorem scanFieldValue_body (str tail : Bytes) :
    scanFieldValue false true (escapeStringField str ++ cQuote :: tail) =
      (escapeStringField str ++ cQuote :: (scanFieldValue false false tail).1, (scanFieldValue false false tail).2) := by
  induction str with
  | nil =>
    simp only [escapeStringField, List.nil_append]
    rw [scanFieldValue]
    have : ¬ (cQuote = cBS ∧ (tail.head? = some cQuote ∨ tail.head? = some cBS)) := by
      intro h; exact absurd h.1 (by decide)
    simp [this]
  | cons b r ih =>
    by_cases hb : b = cQuote ∨ b = cBS
    · have : escapeStringField (b :: r) = cBS :: b :: escapeStringField r := by
        rw [escapeStringField, if_pos hb]
      rw [this]
      simp only [List.cons_append]
      rw [scanFieldValue]
      have hh : (cBS = cBS ∧ ((b :: (escapeStringField r ++ cQuote :: tail)).head? = some cQuote ∨
          (b :: (escapeStringField r ++ cQuote :: tail)).head? = some cBS)) := by
        refine ⟨rfl, ?_⟩; rcases hb with h | h <;> simp [h]
      rw [if_pos hh, scanFieldValue, ih]
    · have : escapeStringField (b :: r) = b :: escapeStringField r := by
        rw [escapeStringField, if_neg hb]
      rw [this]
      simp only [List.cons_append, not_or] at hb ⊢
      rw [scanFieldValue]
      have h1 : ¬ (b = cBS ∧ ((escapeStringField r ++ cQuote :: tail).head? = some cQuote ∨
          (escapeStringField r ++ cQuote :: tail).head? = some cBS)) := fun h => hb.2 h.1
      rw [if_neg h1, if_neg hb.1]
      simp [ih]

theorem scanFieldValue_string (str tail : Bytes) (ht : tail = [] ∨ tail.head? = some cComma) :
    scanFieldValue false false ((cQuote :: escapeStringField str ++ [cQuote]) ++ tail) =
      (cQuote :: escapeStringField str ++ [cQuote], tail) := by
  simp only [List.cons_append, List.append_assoc, List.nil_append]
  rw [scanFieldValue]
  have h1 : ¬ (cQuote = cBS ∧ ((escapeStringField str ++ cQuote :: tail).head? = some cQuote ∨
      (escapeStringField str ++ cQuote :: tail).head? = some cBS)) := fun h => absurd h.1 (by decide)
  rw [if_neg h1, if_pos rfl]
  simp only [Bool.not_false, scanFieldValue_body]
  have : scanFieldValue false false tail = ([], tail) := by
    simpa using scanFieldValue_plain [] tail (by simp) ht
  rw [this]

def plainTok (tok : Bytes) : Prop := ∀ b ∈ tok, b ≠ cQuote ∧ b ≠ cBS ∧ b ≠ cComma ∧ b ≠ cSpace ∧ b ≠ cNL

theorem plainTok_digits (ds : Bytes) (h : ∀ b ∈ ds, isDigit b = true ∨ b = 45 ∨ b = 46) : plainTok ds := by
  intro b hb
  rcases h b hb with h | h | h
  · exact ⟨ne_of_isDigit h rfl, ne_of_isDigit h rfl, ne_of_isDigit h rfl, ne_of_isDigit h rfl, ne_of_isDigit h rfl⟩
  · subst h; decide
  · subst h; decide

theorem plainTok_append (a b : Bytes) (ha : plainTok a) (hb : plainTok b) : plainTok (a ++ b) := by
  intro x hx
  rcases List.mem_append.mp hx with h | h
  · exact ha x h
  · exact hb x h

theorem plainTok_fvText (v : FV) (hv : fieldValOK v = true) (hs : ∀ s, v ≠ .str s) : plainTok (fvText v) := by
  cases v with
  | float bits text =>
    exact plainTok_digits text (FloatTextOK.of hv).bytes
  | int i =>
    apply plainTok_append
    · apply plainTok_digits
      intro b hb
      rcases intDigits_bytes i b hb with h | h
      · exact Or.inl h
      · exact Or.inr (Or.inl h)
    · intro b hb; simp at hb; subst hb; decide
  | uint u =>
    apply plainTok_append
    · apply plainTok_digits
      intro b hb
      exact Or.inl ((natDigits_spec u).2.1 b hb)
    · intro b hb; simp at hb; subst hb; decide
  | bool b => cases b <;> (intro x hx; revert x hx; decide)
  | str s => exact absurd rfl (hs s)

theorem scanFieldValue_fvText (v : FV) (hv : fieldValOK v = true) (tail : Bytes)
    (ht : tail = [] ∨ tail.head? = some cComma) :
    scanFieldValue false false (fvText v ++ tail) = (fvText v, tail) := by
  by_cases hs : ∃ s, v = .str s
  · obtain ⟨s, rfl⟩ := hs
    exact scanFieldValue_string s tail ht
  · have hp := plainTok_fvText v hv (fun s h => hs ⟨s, h⟩)
    exact scanFieldValue_plain _ _ (fun b hb => ⟨(hp b hb).1, (hp b hb).2.1, (hp b hb).2.2.1⟩) ht

theorem fvText_ne_nil (v : FV) (hv : fieldValOK v = true) : fvText v ≠ [] := by
  cases v with
  | float bits text =>
    exact (FloatTextOK.of hv).ne
  | int i => simp [fvText]
  | uint u => simp [fvText]
  | bool b => cases b <;> decide
  | str s => simp [fvText]

theorem fvText_ne_quote (v : FV) (hv : fieldValOK v = true) : fvText v ≠ [cQuote] := by
  by_cases hs : ∃ s, v = .str s
  · obtain ⟨s, rfl⟩ := hs
    simp [fvText]
  · have hp := plainTok_fvText v hv (fun s h => hs ⟨s, h⟩)
    intro e
    have := hp cQuote (by rw [e]; simp)
    exact this.1 rfl

def fieldsText (fs : List (Bytes × FV)) : Bytes := joinCommaB (fs.map fun f => appendField f.1 f.2)

def fieldsTail (rest : List (Bytes × FV)) : Bytes :=
  match rest with
  | [] => []
  | _ :: _ => cComma :: fieldsText rest

theorem fieldsText_cons (f : Bytes × FV) (rest : List (Bytes × FV)) :
    fieldsText (f :: rest) = appendField f.1 f.2 ++ fieldsTail rest := by
  cases rest with
  | nil => simp [fieldsText, fieldsTail, joinCommaB]
  | cons g r => simp [fieldsText, fieldsTail, joinCommaB]

theorem fieldsTail_isTail (rest : List (Bytes × FV)) :
    fieldsTail rest = [] ∨ (fieldsTail rest).head? = some cComma := by
  cases rest with
  | nil => left; rfl
  | cons g r => right; rfl

theorem fieldsTail_drop (rest : List (Bytes × FV)) : (fieldsTail rest).drop 1 = fieldsText rest := by
  cases rest with
  | nil => rfl
  | cons g r => rfl

theorem scanTo_field (k : Bytes) (v : FV) (hk : noTB k) (tail : Bytes) :
    scanTo cEq false (appendField k v ++ tail) = (escapeString k, cEq :: (fvText v ++ tail)) := by
  rw [appendField, escapeString_eq, List.append_assoc]
  exact scanTo_escBy isEscapeChar cEq (by decide) (by decide) k _ hk (Or.inr rfl)

theorem walkFieldsCheck_succ (keyLen fuel : Nat) (buf : Bytes) (h : buf ≠ []) :
    walkFieldsCheck keyLen (fuel + 1) buf =
      if (scanTo cEq false buf).2.length < 2 then .error (.invalidValue (scanTo cEq false buf).1)
      else if keyLen + 4 + (scanTo cEq false buf).1.length > MaxKeyLength then
        .error (.maxKey (keyLen + 4 + (scanTo cEq false buf).1.length))
      else if (scanFieldValue false false ((scanTo cEq false buf).2.drop 1)).1 = [cQuote] then .error .unbalancedQuotes
      else walkFieldsCheck keyLen fuel ((scanFieldValue false false ((scanTo cEq false buf).2.drop 1)).2.drop 1) := by
  cases buf with
  | nil => exact absurd rfl h
  | cons b r => rfl

theorem appendField_ne_nil (k : Bytes) (v : FV) : appendField k v ≠ [] := by simp [appendField]

theorem walkFieldsCheck_nil (keyLen fuel : Nat) : walkFieldsCheck keyLen fuel [] = .ok () := by
  cases fuel <;> rfl

theorem walkFieldsCheck_fields (fs : List (Bytes × FV)) (keyLen : Nat)
    (hall : ∀ f ∈ fs, noTB f.1 ∧ fieldValOK f.2 = true ∧ keyLen + 4 + (escapeString f.1).length ≤ MaxKeyLength)
    (fuel : Nat) (hf : fs.length ≤ fuel) : walkFieldsCheck keyLen fuel (fieldsText fs) = .ok () := by
  induction fs generalizing fuel with
  | nil => simp [fieldsText, joinCommaB, walkFieldsCheck_nil]
  | cons f rest ih =>
    obtain ⟨n, rfl⟩ : ∃ n, fuel = n + 1 := ⟨fuel - 1, by simp at hf; omega⟩
    obtain ⟨hk, hv, hlen⟩ := hall f (by simp)
    rw [fieldsText_cons, walkFieldsCheck_succ _ _ _ (by simp [appendField_ne_nil]), scanTo_field f.1 f.2 hk]
    have hvne := fvText_ne_nil f.2 hv
    have h2 : ¬ (cEq :: (fvText f.2 ++ fieldsTail rest)).length < 2 := by
      cases hh : fvText f.2 with
      | nil => exact absurd hh hvne
      | cons c t => simp
    simp only [h2, if_false, List.drop_succ_cons, List.drop_zero]
    rw [if_neg (by omega), scanFieldValue_fvText f.2 hv _ (fieldsTail_isTail rest), fieldsTail_drop]
    simp only
    rw [if_neg (fvText_ne_quote f.2 hv)]
    exact ih (fun g hg => hall g (by simp [hg])) n (by simp at hf; omega)

/-- the iterator's view of a rendered field -/
def rawFieldOf (f : Bytes × FV) : RawField :=
  ⟨f.1, (classifyValue (fvText f.2)).1, (classifyValue (fvText f.2)).2⟩

theorem unescape_cons_keep (a : Nat) (l : Bytes) (h : ¬ (a = cBS ∧ ∃ x, l.head? = some x ∧ isEscapeChar x = true)) :
    unescape (a :: l) = a :: unescape l := by
  cases l with
  | nil => rfl
  | cons b r =>
    rw [unescape]
    have : ¬ (a = cBS ∧ isEscapeChar b = true) := fun hh => h ⟨hh.1, b, rfl, hh.2⟩
    rw [if_neg this]

/-- `escape.Unescape ∘ escape.String = id` on every byte string -/
theorem unescape_escapeString (k : Bytes) : unescape (escapeString k) = k := by
  rw [escapeString_eq]
  induction k with
  | nil => rfl
  | cons b r ih =>
    simp only [escBy_cons]
    by_cases hb : isEscapeChar b = true
    · simp only [hb, if_true]
      rw [unescape, if_pos ⟨rfl, hb⟩, ih]
    · simp only [hb, Bool.false_eq_true, if_false]
      rw [unescape_cons_keep, ih]
      intro ⟨_, x, hx, hxe⟩
      rcases escBy_head isEscapeChar r x hx with rfl | ⟨_, h⟩
      · cases hxe
      · rw [h] at hxe; cases hxe

theorem unescape_not_escaped (s : Bytes) (h : isEscaped s = false) : unescape s = s := by
  fun_induction isEscaped s with
  | case1 => rfl
  | case2 => rfl
  | case3 a b rest ih =>
    simp only [Bool.or_eq_false_iff, Bool.and_eq_false_iff] at h
    rw [unescape]
    have : ¬ (a = cBS ∧ isEscapeChar b = true) := by
      intro ⟨h1, h2⟩; rcases h.1 with h | h <;> simp_all
    rw [if_neg this, ih h.2]

theorem iterKey_eq (k : Bytes) :
    (if isEscaped (escapeString k) then unescape (escapeString k) else escapeString k) = k := by
  split
  · exact unescape_escapeString k
  · next h =>
    have h1 := unescape_not_escaped (escapeString k) (by simpa using h)
    rw [← h1]; exact unescape_escapeString k

theorem iterFields_succ (fuel : Nat) (buf : Bytes) (h : buf ≠ []) :
    iterFields (fuel + 1) buf =
      ⟨if isEscaped (scanTo cEq false buf).1 then unescape (scanTo cEq false buf).1 else (scanTo cEq false buf).1,
        (classifyValue (scanFieldValue false false ((scanTo cEq false buf).2.drop 1)).1).1,
        (classifyValue (scanFieldValue false false ((scanTo cEq false buf).2.drop 1)).1).2⟩ ::
      iterFields fuel ((scanFieldValue false false ((scanTo cEq false buf).2.drop 1)).2.drop 1) := by
  cases buf with
  | nil => exact absurd rfl h
  | cons b r => rfl

theorem iterFields_nil (fuel : Nat) : iterFields fuel [] = [] := by cases fuel <;> rfl

theorem iterFields_fields (fs : List (Bytes × FV))
    (hall : ∀ f ∈ fs, noTB f.1 ∧ fieldValOK f.2 = true) (fuel : Nat) (hf : fs.length ≤ fuel) :
    iterFields fuel (fieldsText fs) = fs.map rawFieldOf := by
  induction fs generalizing fuel with
  | nil => simp [fieldsText, joinCommaB, iterFields_nil]
  | cons f rest ih =>
    obtain ⟨n, rfl⟩ : ∃ n, fuel = n + 1 := ⟨fuel - 1, by simp at hf; omega⟩
    obtain ⟨hk, hv⟩ := hall f (by simp)
    rw [fieldsText_cons, iterFields_succ _ _ (by simp [appendField_ne_nil]), scanTo_field f.1 f.2 hk]
    simp only [List.drop_succ_cons, List.drop_zero]
    rw [scanFieldValue_fvText f.2 hv _ (fieldsTail_isTail rest), fieldsTail_drop, iterKey_eq,
      ih (fun g hg => hall g (by simp [hg])) n (by simp at hf; omega)]
    rfl

def pvalOf : FV → PVal
  | .float _ t => .float t
  | .int v => .int v
  | .uint v => .uint v
  | .bool b => .bool b
  | .str s => .str s

theorem unescapeStringField_escape (s : Bytes) : unescapeStringField (escapeStringField s) = s := by
  induction s with
  | nil => rfl
  | cons b r ih =>
    by_cases hb : b = cQuote ∨ b = cBS
    · have : escapeStringField (b :: r) = cBS :: b :: escapeStringField r := by
        rw [escapeStringField, if_pos hb]
      rw [this, unescapeStringField, if_pos ⟨rfl, hb.symm⟩, ih]
    · have : escapeStringField (b :: r) = b :: escapeStringField r := by
        rw [escapeStringField, if_neg hb]
      rw [this]
      simp only [not_or] at hb
      cases h : escapeStringField r with
      | nil =>
        have : r = [] := by
          cases r with
          | nil => rfl
          | cons c r' => simp only [escapeStringField] at h; split at h <;> cases h
        subst this; rfl
      | cons x E =>
        rw [unescapeStringField, if_neg (fun hh => hb.2 hh.1), ← h, ih]

theorem digit_in_set (c : Nat) (h : isDigit c = true ∨ c = 45 ∨ c = 46) :
    (str "0123456789-.nNiIu").contains c = true := by
  have hc : c < 58 := by simp only [isDigit, Bool.and_eq_true, decide_eq_true_eq] at h; omega
  revert h
  revert c
  decide +kernel

theorem classifyValue_num (vb : Bytes) (c : Nat) (t : Bytes) (hvb : vb = c :: t)
    (hc : isDigit c = true ∨ c = 45 ∨ c = 46) :
    classifyValue vb = if vb.getLast? = some 105 then (.integer, vb.dropLast)
      else if vb.getLast? = some 117 then (.unsigned, vb.dropLast) else (.float, vb) := by
  have hq : c ≠ cQuote := by
    rcases hc with h | rfl | rfl
    · exact ne_of_isDigit h rfl
    · decide
    · decide
  subst hvb
  rw [classifyValue, if_neg hq, if_pos (digit_in_set c hc)]

theorem classifyValue_quote (t : Bytes) : classifyValue (cQuote :: t) = (.string, cQuote :: t) := by
  rw [classifyValue, if_pos rfl]

theorem classify_int (i : Int) :
    classifyValue (intDigits i ++ [105]) = (.integer, intDigits i) := by
  obtain ⟨c, t, hc, hg⟩ := intDigits_head i
  rw [classifyValue_num _ c (t ++ [105]) (by rw [hc]; rfl) (hg.imp_right .inl), List.getLast?_concat,
    if_pos rfl, List.dropLast_concat]

theorem classify_uint (u : Nat) :
    classifyValue (natDigits u ++ [117]) = (.unsigned, natDigits u) := by
  obtain ⟨c, t, hc, hg⟩ := natDigits_head u
  rw [classifyValue_num _ c (t ++ [117]) (by rw [hc]; rfl) (.inl hg), List.getLast?_concat,
    if_neg (by decide), if_pos rfl, List.dropLast_concat]

theorem classify_float (text : Bytes) (hne : text ≠ [])
    (hall : ∀ b ∈ text, isDigit b = true ∨ b = 45 ∨ b = 46) : classifyValue text = (.float, text) := by
  obtain ⟨c, t, rfl⟩ := List.exists_cons_of_ne_nil hne
  have hlast : ∀ x, x ≠ 45 → x ≠ 46 → isDigit x = false → (c :: t).getLast? ≠ some x := fun x h1 h2 h3 e => by
    rcases hall x (List.mem_of_getLast? e) with h | h | h
    · rw [h3] at h; cases h
    · exact h1 h
    · exact h2 h
  rw [classifyValue_num _ c t rfl (hall c (List.mem_cons_self ..)),
    if_neg (hlast 105 (by decide) (by decide) (by decide)), if_neg (hlast 117 (by decide) (by decide) (by decide))]

theorem rawFieldOf_eq (k : Bytes) (v : FV) (t : FType) (b : Bytes) (h : classifyValue (fvText v) = (t, b)) :
    rawFieldOf (k, v) = ⟨k, t, b⟩ := by
  rw [rawFieldOf, h]

theorem fieldValue_rawFieldOf (k : Bytes) (v : FV) (hv : fieldValOK v = true) :
    fieldValue (rawFieldOf (k, v)) = some (.ok (pvalOf v)) := by
  cases v with
  | float bits text =>
    have ht := FloatTextOK.of hv
    rw [rawFieldOf_eq k (.float bits text) _ _ (classify_float text ht.ne ht.bytes)]
    exact congrArg some (if_pos ht.parse)
  | int i =>
    simp only [fieldValOK, Bool.and_eq_true, decide_eq_true_eq] at hv
    rw [rawFieldOf_eq k (.int i) _ _ (classify_int i)]
    dsimp only [fieldValue]
    rw [parseIntGo_intDigits i hv.1 hv.2]; rfl
  | uint u =>
    rw [rawFieldOf_eq k (.uint u) _ _ (classify_uint u)]
    dsimp only [fieldValue]
    rw [parseUintGo_natDigits u (of_decide_eq_true hv)]; rfl
  | bool b =>
    have h : ∀ b, classifyValue (fvText (.bool b)) = (.boolean, fvText (.bool b)) ∧
        parseBoolGo (fvText (.bool b)) = some b := by decide +kernel
    rw [rawFieldOf_eq k _ _ _ (h b).1]
    dsimp only [fieldValue]
    rw [(h b).2]; rfl
  | str s =>
    rw [rawFieldOf_eq k (.str s) .string (cQuote :: (escapeStringField s ++ [cQuote]))
      (classifyValue_quote _)]
    dsimp only [fieldValue]
    rw [if_neg (by simp), List.drop_succ_cons, List.drop_zero, List.dropLast_concat, unescapeStringField_escape]; rfl

theorem mapInsert_append (k : Bytes) (v : β) (acc : List (Bytes × β))
    (h : ∀ x ∈ acc, cmpBytes k x.1 = .gt) : mapInsert k v acc = acc ++ [(k, v)] := by
  induction acc with
  | nil => rfl
  | cons a rest ih =>
    obtain ⟨k', v'⟩ := a
    have := h (k', v') (by simp)
    simp only at this
    simp only [mapInsert, this, List.cons_append]
    rw [ih (fun x hx => h x (by simp [hx]))]

def SortedKeys {β : Type} (l : List (Bytes × β)) : Prop := l.Pairwise (fun a b => cmpBytes a.1 b.1 = .lt)

theorem pointFieldsAux_sorted (fs : List (Bytes × FV)) (acc : List (Bytes × PVal))
    (hv : ∀ f ∈ fs, f.1 ≠ [] ∧ fieldValOK f.2 = true) (hs : SortedKeys fs)
    (hacc : ∀ a ∈ acc, ∀ f ∈ fs, cmpBytes a.1 f.1 = .lt) :
    pointFieldsAux (fs.map rawFieldOf) acc = .ok (acc ++ fs.map fun f => (f.1, pvalOf f.2)) := by
  induction fs generalizing acc with
  | nil => simp [pointFieldsAux]
  | cons f rest ih =>
    obtain ⟨k, v⟩ := f
    obtain ⟨hne, hval⟩ := hv (k, v) (by simp)
    simp only at hne hval
    have hemp : (rawFieldOf (k, v)).key.isEmpty = false := by
      simp only [rawFieldOf]
      cases h : k with
      | nil => exact absurd h hne
      | cons _ _ => rfl
    rw [List.map_cons, pointFieldsAux]
    simp only [hemp, Bool.false_eq_true, if_false]
    rw [fieldValue_rawFieldOf k v hval]
    simp only []
    have hkey : (rawFieldOf (k, v)).key = k := rfl
    rw [hkey, mapInsert_append _ _ _ (fun x hx => (cmpBytes_gt_iff_lt _ _).mpr (hacc x hx (k, v) (by simp)))]
    have hs' := List.pairwise_cons.mp hs
    rw [ih (acc ++ [(k, pvalOf v)]) (fun g hg => hv g (by simp [hg])) hs'.2]
    · simp
    · intro a ha g hg
      rcases List.mem_append.mp ha with h | h
      · exact hacc a h g (by simp [hg])
      · simp at h; subst h; exact hs'.1 g hg

end

theorem insertByKey_eq (x : Bytes × FV) (l : List (Bytes × FV)) :
    insertByKey x l = insertLeft (fun a b => cmpBytes a.1 b.1 == .gt) x l := by
  induction l with
  | nil => rfl
  | cons y ys ih => rw [insertByKey, insertLeft, ih]

theorem mem_insertByKey (x w : Bytes × FV) (l : List (Bytes × FV)) :
    w ∈ insertByKey x l ↔ w = x ∨ w ∈ l := by
  rw [insertByKey_eq]; exact mem_insertLeft ..

theorem mem_sortFields (w : Bytes × FV) (fs : List (Bytes × FV)) : w ∈ sortFields fs ↔ w ∈ fs := by
  induction fs with
  | nil => simp [sortFields]
  | cons f rest ih =>
    have : sortFields (f :: rest) = insertByKey f (sortFields rest) := rfl
    rw [this, mem_insertByKey, ih]; simp

theorem length_insertByKey (x : Bytes × FV) (l : List (Bytes × FV)) :
    (insertByKey x l).length = l.length + 1 := by
  induction l with
  | nil => rfl
  | cons y ys ih => simp only [insertByKey]; split <;> simp [ih]

theorem length_sortFields (fs : List (Bytes × FV)) : (sortFields fs).length = fs.length := by
  induction fs with
  | nil => rfl
  | cons f rest ih =>
    have : sortFields (f :: rest) = insertByKey f (sortFields rest) := rfl
    rw [this, length_insertByKey, ih]; rfl

theorem sortedKeys_insertByKey (x : Bytes × FV) (l : List (Bytes × FV)) (hs : SortedKeys l)
    (hne : ∀ y ∈ l, y.1 ≠ x.1) : SortedKeys (insertByKey x l) := by
  rw [insertByKey_eq]
  exact pairwise_insertLeft _ x l (fun y _ hy => (cmpBytes_gt_iff_lt _ _).mp (beq_iff_eq.mp hy))
    (fun y hy h => cmpBytes_lt_of_ne _ _ (beq_eq_false_iff_ne.mp h) (hne y hy).symm)
    (fun y w => cmpBytes_lt_trans _ _ _) hs

theorem sortedKeys_sortFields (fs : List (Bytes × FV)) (hd : distinct (fs.map (·.1)) = true) :
    SortedKeys (sortFields fs) := by
  induction fs with
  | nil => simp [sortFields, SortedKeys]
  | cons f rest ih =>
    simp only [List.map_cons, distinct, Bool.and_eq_true, Bool.not_eq_true'] at hd
    have : sortFields (f :: rest) = insertByKey f (sortFields rest) := rfl
    rw [this]
    apply sortedKeys_insertByKey _ _ (ih hd.2)
    intro y hy e
    have hy' := (mem_sortFields y rest).mp hy
    have : (rest.map (·.1)).contains f.1 = true := by
      simp only [List.contains_iff_mem, List.mem_map]
      exact ⟨y, hy', e⟩
    rw [this] at hd; cases hd.1

/-- the specification's sort on the expected fields is `sort.Strings` of MarshalBinary -/
theorem sortByKey_map (g : FV → γ) (fs : List (Bytes × FV)) :
    sortByKey (fun (x : Bytes × γ) => x.1) (fs.map fun f => (f.1, g f.2)) = (sortFields fs).map fun f => (f.1, g f.2) := by
  have hins : ∀ (x : Bytes × FV) (l : List (Bytes × FV)),
      insertSorted (fun (x : Bytes × γ) => x.1) (x.1, g x.2) (l.map fun f => (f.1, g f.2)) =
        (insertByKey x l).map fun f => (f.1, g f.2) := by
    intro x l
    induction l with
    | nil => rfl
    | cons y ys ih =>
      simp only [List.map_cons, insertSorted, insertByKey]
      by_cases hle : bytesLe x.1 y.1 = true
      · have : ¬ (cmpBytes x.1 y.1 == .gt) = true := by
          have := (bytesLe_iff x.1 y.1).mp hle; simpa using this
        simp [hle, this]
      · have : (cmpBytes x.1 y.1 == .gt) = true := by
          have h := mt (bytesLe_iff x.1 y.1).mpr hle
          simp only [ne_eq, Decidable.not_not] at h
          simp [h]
        simp [hle, this, ih]
  induction fs with
  | nil => rfl
  | cons f rest ih =>
    have h1 : sortFields (f :: rest) = insertByKey f (sortFields rest) := rfl
    have h2 : sortByKey (fun (x : Bytes × γ) => x.1) ((f :: rest).map fun f => (f.1, g f.2)) =
        insertSorted (fun (x : Bytes × γ) => x.1) (f.1, g f.2)
          (sortByKey (fun (x : Bytes × γ) => x.1) (rest.map fun f => (f.1, g f.2))) := rfl
    rw [h1, h2, ih, hins]

theorem sortByKey_sorted (key : α → Bytes) (l : List α) (h : strictlySorted key l = true) :
    sortByKey key l = l := by
  induction l with
  | nil => rfl
  | cons a rest ih =>
    cases rest with
    | nil => rfl
    | cons b r =>
      simp only [strictlySorted, Bool.and_eq_true] at h
      have : sortByKey key (a :: b :: r) = insertSorted key a (sortByKey key (b :: r)) := rfl
      rw [this, ih h.2]
      simp [insertSorted, h.1.1]

end Influx.LP
