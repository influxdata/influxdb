/-
  Lemmas.MetaBounds — int64 wrap, `Truncate`, the clipping loop of `CreateShardGroup`.
-/
import Influx.Lemmas.MetaBasic

namespace Influx.Meta
open Influx.Generated.Meta

theorem wrap64_id (x : Int) (h1 : -9223372036854775808 ≤ x) (h2 : x ≤ 9223372036854775807) :
    wrap64 x = x := by
  unfold wrap64
  rw [BitVec.toInt_ofInt]
  exact Int.bmod_eq_of_le (by omega) (by omega)

theorem wrap64_range (x : Int) : -9223372036854775808 ≤ wrap64 x ∧ wrap64 x ≤ 9223372036854775807 := by
  have h1 := BitVec.le_toInt (BitVec.ofInt 64 x)
  have h2 := @BitVec.toInt_lt 64 (BitVec.ofInt 64 x)
  unfold wrap64
  omega

theorem truncate_spec (t d : Int) (hd : 0 < d) :
    Time.Truncate t d ≤ t ∧ t < Time.Truncate t d + d := by
  unfold Time.Truncate
  have h1 := Int.emod_nonneg (t - zeroTime) (Int.ne_of_gt hd)
  have h2 := Int.emod_lt_of_pos (t - zeroTime) hd
  split <;> omega

theorem initialBounds_spec (sgd ts : Int) (hd : 0 < sgd) (h1 : MinNanoTime ≤ ts) (h2 : ts ≤ MaxNanoTime) :
    (initialBounds sgd ts).1 ≤ ts ∧ ts < (initialBounds sgd ts).2 ∧
    MinNanoTime ≤ (initialBounds sgd ts).1 ∧ (initialBounds sgd ts).2 ≤ MaxNanoTime + 1 := by
  have ht := truncate_spec ts sgd hd
  simp only [initialBounds, add_eq, unix_eq, after_iff, before_iff]
  unfold MinNanoTime MaxNanoTime at *
  refine ⟨?_, ?_, ?_, ?_⟩
  · split <;> omega
  · split <;> omega
  · split <;> omega
  · split <;> omega

/-- the start after clipping against a range ending at `e` -/
theorem clip_lo {a e ts : Int} (h : a ≤ ts) :
    a ≤ (if e ≤ ts ∧ a < e then e else a) ∧ (if e ≤ ts ∧ a < e then e else a) ≤ ts ∧
    (e ≤ ts → e ≤ if e ≤ ts ∧ a < e then e else a) := by
  split
  · next c => exact ⟨Int.le_of_lt c.2, c.1, fun _ => Int.le_refl e⟩
  · next c => exact ⟨Int.le_refl a, h, fun he => Int.not_lt.mp fun hlt => c ⟨he, hlt⟩⟩

/-- the end after clipping against a range starting at `st` -/
theorem clip_hi {b st ts : Int} (h : ts < b) :
    (if ts < st ∧ st < b then st else b) ≤ b ∧ ts < (if ts < st ∧ st < b then st else b) ∧
    (ts < st → (if ts < st ∧ st < b then st else b) ≤ st) := by
  split
  · next c => exact ⟨Int.le_of_lt c.2, c.1, fun _ => Int.le_refl st⟩
  · next c => exact ⟨Int.le_refl b, h, fun hs => Int.not_lt.mp fun hlt => c ⟨hs, hlt⟩⟩

theorem clipStep_eq (ts : Int) (p : Int × Int) (g : ShardGroupInfo) :
    clipStep ts p g = if Deleted g then p else
      (if !Time.Before ts (effEnd g) && Time.After (effEnd g) p.1 then effEnd g else p.1,
       if Time.After g.StartTime ts && Time.Before g.StartTime p.2 then g.StartTime else p.2) := rfl

theorem clipStep_spec (ts : Int) (p : Int × Int) (g : ShardGroupInfo) (h : p.1 ≤ ts ∧ ts < p.2) :
    (clipStep ts p g).1 ≤ ts ∧ ts < (clipStep ts p g).2 ∧ p.1 ≤ (clipStep ts p g).1 ∧ (clipStep ts p g).2 ≤ p.2 ∧
    (g.DeletedAt = zeroTime → ¬(g.StartTime ≤ ts ∧ ts < effEnd g) →
      (clipStep ts p g).2 ≤ g.StartTime ∨ effEnd g ≤ (clipStep ts p g).1) := by
  rw [clipStep_eq]
  split
  · next hd => exact ⟨h.1, h.2, Int.le_refl _, Int.le_refl _, fun hl => absurd hl ((deleted_iff g).mp hd)⟩
  · simp only [Bool.and_eq_true, Bool.not_eq_true', before_false_iff, after_iff, before_iff]
    have lo := clip_lo (e := effEnd g) h.1
    have hi := clip_hi (st := g.StartTime) h.2
    refine ⟨lo.2.1, hi.2.1, lo.1, hi.1, fun _ hn => ?_⟩
    by_cases hs : ts < g.StartTime
    · exact .inl (hi.2.2 hs)
    · exact .inr (lo.2.2 (Int.not_lt.mp fun he => hn ⟨Int.not_lt.mp hs, he⟩))

theorem foldl_clip_spec (ts : Int) (gs : List ShardGroupInfo) (p : Int × Int) (h : p.1 ≤ ts ∧ ts < p.2) :
    (gs.foldl (clipStep ts) p).1 ≤ ts ∧ ts < (gs.foldl (clipStep ts) p).2 ∧
    p.1 ≤ (gs.foldl (clipStep ts) p).1 ∧ (gs.foldl (clipStep ts) p).2 ≤ p.2 ∧
    ∀ g ∈ gs, g.DeletedAt = zeroTime → ¬(g.StartTime ≤ ts ∧ ts < effEnd g) →
      (gs.foldl (clipStep ts) p).2 ≤ g.StartTime ∨ effEnd g ≤ (gs.foldl (clipStep ts) p).1 := by
  induction gs generalizing p with
  | nil => exact ⟨h.1, h.2, Int.le_refl _, Int.le_refl _, forall_mem_nil⟩
  | cons x xs ih =>
    obtain ⟨a1, a2, a3, a4, a5⟩ := clipStep_spec ts p x h
    obtain ⟨b1, b2, b3, b4, b5⟩ := ih (clipStep ts p x) ⟨a1, a2⟩
    rw [List.foldl_cons]
    refine ⟨b1, b2, Int.le_trans a3 b3, Int.le_trans b4 a4, fun g hg hl hn => ?_⟩
    rcases List.mem_cons.mp hg with rfl | hg
    · exact (a5 hl hn).imp (Int.le_trans b4) fun h => Int.le_trans h b3
    · exact b5 g hg hl hn

theorem effEnd_of_untruncated {g : ShardGroupInfo} (h : g.TruncatedAt = zeroTime) : effEnd g = g.EndTime := by
  rw [effEnd, (truncated_false_iff g).mpr h]
  rfl

theorem newBounds_spec (r : RetentionPolicyInfo) (ts : Int) (hd : 0 < r.ShardGroupDuration)
    (h1 : MinNanoTime ≤ ts) (h2 : ts ≤ MaxNanoTime) :
    (newBounds r ts).1 ≤ ts ∧ ts < (newBounds r ts).2 ∧
    MinNanoTime ≤ (newBounds r ts).1 ∧ (newBounds r ts).2 ≤ MaxNanoTime + 1 := by
  obtain ⟨i1, i2, i3, i4⟩ := initialBounds_spec r.ShardGroupDuration ts hd h1 h2
  obtain ⟨f1, f2, f3, f4, _⟩ := foldl_clip_spec ts r.ShardGroups _ ⟨i1, i2⟩
  exact ⟨f1, f2, Int.le_trans i3 f3, Int.le_trans f4 i4⟩

theorem newBounds_disjoint (r : RetentionPolicyInfo) (ts : Int) (hd : 0 < r.ShardGroupDuration)
    (h1 : MinNanoTime ≤ ts) (h2 : ts ≤ MaxNanoTime)
    (g : ShardGroupInfo) (hg : g ∈ r.ShardGroups) (hlive : g.DeletedAt = zeroTime) (htr : g.TruncatedAt = zeroTime)
    (hnot : ¬(g.StartTime ≤ ts ∧ ts < g.EndTime)) :
    (newBounds r ts).2 ≤ g.StartTime ∨ g.EndTime ≤ (newBounds r ts).1 := by
  obtain ⟨i1, i2, _⟩ := initialBounds_spec r.ShardGroupDuration ts hd h1 h2
  have := (foldl_clip_spec ts r.ShardGroups _ ⟨i1, i2⟩).2.2.2.2 g hg hlive
  rw [effEnd_of_untruncated htr] at this
  exact this hnot

end Influx.Meta
