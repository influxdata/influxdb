/-
  Lemmas.PlannerFind — what `FindGenerations` guarantees about its result:
  strictly ascending ids, every file in the generation its `Generation` field
  names, and exactly the files of `Stats()`.
-/
import Influx.Model.Planner

namespace Influx.Planner

/-- the invariant of `FindGenerations`' result for the stats `fs` -/
structure GensOK (fs : List File) (gens : List Gen) : Prop where
  sorted : gens.Pairwise (fun a b => a.id < b.id)
  genOf : ∀ g ∈ gens, ∀ f ∈ g.files, f.gen = g.id
  perm : (gens.flatMap Gen.files).Perm fs

/-- `insertFile` opens a generation for `f` or appends `f` to the generation of its id, and
    leaves the others as they are -/
theorem insertFile_forall {P : Gen → Prop} {f : File} (hnew : P ⟨f.gen, f, []⟩)
    (happ : ∀ g, f.gen = g.id → P g → P ⟨g.id, g.first, g.rest ++ [f]⟩) {gens : List Gen}
    (h : ∀ g ∈ gens, P g) : ∀ g ∈ insertFile f gens, P g := by
  induction gens with
  | nil => exact List.forall_mem_cons.mpr ⟨hnew, h⟩
  | cons g rest ih =>
    rw [insertFile]
    obtain ⟨hg, hr⟩ := List.forall_mem_cons.mp h
    by_cases he : f.gen = g.id
    · rw [if_pos he]; exact List.forall_mem_cons.mpr ⟨happ g he hg, hr⟩
    · rw [if_neg he]
      by_cases hl : f.gen < g.id
      · rw [if_pos hl]; exact List.forall_mem_cons.mpr ⟨hnew, h⟩
      · rw [if_neg hl]; exact List.forall_mem_cons.mpr ⟨hg, ih hr⟩

theorem insertFile_sorted (f : File) {gens : List Gen} (hs : gens.Pairwise (fun a b => a.id < b.id)) :
    (insertFile f gens).Pairwise (fun a b => a.id < b.id) := by
  induction gens with
  | nil => exact List.pairwise_singleton _ _
  | cons g rest ih =>
    rw [insertFile]
    obtain ⟨h1, h2⟩ := List.pairwise_cons.mp hs
    by_cases he : f.gen = g.id
    · rw [if_pos he]; exact List.pairwise_cons.mpr ⟨h1, h2⟩
    · rw [if_neg he]
      by_cases hl : f.gen < g.id
      · rw [if_pos hl]
        exact List.pairwise_cons.mpr
          ⟨List.forall_mem_cons.mpr ⟨hl, fun x hx => Int.lt_trans hl (h1 x hx)⟩, hs⟩
      · rw [if_neg hl]
        have hgt : g.id < f.gen := Int.lt_iff_le_and_ne.mpr ⟨Int.not_lt.mp hl, fun h => he h.symm⟩
        exact List.pairwise_cons.mpr ⟨insertFile_forall (P := fun x => g.id < x.id) hgt (fun _ _ h => h) h1, ih h2⟩

theorem insertFile_perm (f : File) (gens : List Gen) :
    ((insertFile f gens).flatMap Gen.files).Perm (gens.flatMap Gen.files ++ [f]) := by
  induction gens with
  | nil => exact .refl _
  | cons g rest ih =>
    rw [insertFile]
    by_cases he : f.gen = g.id
    · rw [if_pos he]
      simp only [List.flatMap_cons, Gen.files, List.cons_append, List.nil_append, List.append_assoc]
      exact ((List.perm_append_comm (l₁ := [f])).append_left _).cons _
    · rw [if_neg he]
      by_cases hl : f.gen < g.id
      · rw [if_pos hl]; exact List.perm_append_comm (l₁ := [f])
      · rw [if_neg hl, List.flatMap_cons, List.flatMap_cons, List.append_assoc]
        exact ih.append_left _

theorem insertFile_ok (f : File) (fs : List File) (gens : List Gen) (h : GensOK fs gens) :
    GensOK (fs ++ [f]) (insertFile f gens) := by
  refine ⟨insertFile_sorted f h.sorted, insertFile_forall ?_ ?_ h.genOf,
    (insertFile_perm f gens).trans (h.perm.append_right [f])⟩
  · intro f' hf'
    rw [List.mem_singleton.mp hf']
  · intro g he hg f' hf'
    rcases List.mem_cons.mp hf' with rfl | hf'
    · exact hg _ List.mem_cons_self
    · rcases List.mem_append.mp hf' with hf' | hf'
      · exact hg _ (List.mem_cons_of_mem _ hf')
      · rw [List.mem_singleton.mp hf']; exact he

theorem foldl_insertFile_ok (rest : List File) : ∀ (acc : List File) (gens : List Gen),
    GensOK acc gens → GensOK (acc ++ rest) (rest.foldl (fun gs f => insertFile f gs) gens) := by
  induction rest with
  | nil => intro acc gens h; rwa [List.append_nil]
  | cons f rest ih =>
    intro acc gens h
    have := ih (acc ++ [f]) (insertFile f gens) (insertFile_ok f acc gens h)
    rwa [List.append_assoc] at this

theorem findGenerations_ok (fs : List File) : GensOK fs (findGenerations fs) :=
  foldl_insertFile_ok fs [] [] ⟨.nil, fun _ h => absurd h List.not_mem_nil, .refl _⟩

end Influx.Planner
