/-
  Lemmas.StoreDelC42 — the metadata queries of the store model return sorted, duplicate-free
  lists; `MeasurementNames` returns exactly the names with a live authorized series satisfying
  the condition, for conditions on which measurement-level and per-series evaluation coincide
  and an index without lingering entries.
-/
import Influx.Lemmas.StoreDelOrder
import Influx.Spec.C42

namespace Influx.Model.StoreDel
open Influx.Model.DelPred (Bytes)
open Influx.Spec.C42 (holdsOf)

theorem strictAsc_measNames (shs : List Shard) : StrictAsc (measNames shs) := strictAsc_sortDedup _

theorem strictAsc_namesByExpr (a : Auth) (shs : List Shard) (c : Cond) : StrictAsc (namesByExpr a shs c) := by
  induction c with
  | cmp key neq val =>
    rw [namesByExpr]
    split <;> exact strictAsc_filter _ _ (strictAsc_measNames shs)
  | re key neg vals =>
    rw [namesByExpr]
    split <;> exact strictAsc_filter _ _ (strictAsc_measNames shs)
  | and l r ihl _ => exact strictAsc_filter _ _ ihl
  | or l r _ _ => exact strictAsc_sortDedup _

theorem strictAsc_measurementNames (a : Auth) (shs : List Shard) (c : Option Cond) :
    StrictAsc (measurementNames a shs c) := by
  cases c with
  | none => exact strictAsc_filter _ _ (strictAsc_measNames shs)
  | some c => exact strictAsc_namesByExpr a shs c

theorem strictAsc_selectedKeys (shs : List Shard) (m : Bytes) (kc : Option (Bool × Bytes)) :
    StrictAsc (selectedKeys shs m kc) := by
  unfold selectedKeys
  split
  · exact strictAsc_sortDedup _
  · exact strictAsc_filter _ _ (strictAsc_sortDedup _)

def LiveAuth (a : Auth) (shs : List Shard) (m : Bytes) (P : Series → Prop) : Prop :=
  ∃ sh ∈ shs, ∃ s ∈ sh.series, s.name = m ∧ a.allows s.name s.tags = true ∧ P s

theorem LiveAuth.congr {a : Auth} {shs : List Shard} {m : Bytes} {P Q : Series → Prop} (h : ∀ s, P s ↔ Q s) :
    LiveAuth a shs m P ↔ LiveAuth a shs m Q := by
  unfold LiveAuth
  simp only [h]

theorem mem_measNames {shs : List Shard} {m : Bytes} :
    m ∈ measNames shs ↔ ∃ sh ∈ shs, ∃ s ∈ sh.series, s.name = m := by
  simp only [measNames, mem_sortDedup, List.mem_flatMap, List.mem_map]

theorem mem_liveSeries {shs : List Shard} {m : Bytes} {s : Series} :
    s ∈ liveSeries shs m ↔ ∃ sh ∈ shs, s ∈ sh.series ∧ s.name = m := by
  simp only [liveSeries, List.mem_flatMap, List.mem_filter, decide_eq_true_eq]

theorem allows_of_open {a : Auth} (h : a.isOpen = true) (name : Bytes) (tags : Tags) : a.allows name tags = true := by
  cases a <;> simp [Auth.isOpen] at h <;> rfl

theorem measAuthorized_iff (a : Auth) (shs : List Shard) (m : Bytes) (hm : m ∈ measNames shs) :
    measAuthorized a shs m = true ↔ LiveAuth a shs m (fun _ => True) := by
  unfold measAuthorized LiveAuth
  simp only [Bool.or_eq_true, List.any_eq_true, mem_liveSeries]
  constructor
  · rintro (ho | ⟨s, ⟨sh, hsh, hs, hn⟩, hal⟩)
    · obtain ⟨sh, hsh, s, hs, hn⟩ := mem_measNames.1 hm
      exact ⟨sh, hsh, s, hs, hn, allows_of_open ho _ _, trivial⟩
    · exact ⟨sh, hsh, s, hs, hn, hal, trivial⟩
  · rintro ⟨sh, hsh, s, hs, hn, hal, _⟩
    exact Or.inr ⟨s, ⟨sh, hsh, hs, hn⟩, hal⟩

theorem mem_measurementNames_none (a : Auth) (shs : List Shard) (m : Bytes) :
    m ∈ measurementNames a shs none ↔ LiveAuth a shs m (fun _ => True) := by
  simp only [measurementNames, List.mem_filter]
  constructor
  · rintro ⟨hm, ha⟩; exact (measAuthorized_iff a shs m hm).1 ha
  · intro h
    have hm : m ∈ measNames shs := by
      obtain ⟨sh, hsh, s, hs, hn, _⟩ := h
      exact mem_measNames.2 ⟨sh, hsh, s, hs, hn⟩
    exact ⟨hm, (measAuthorized_iff a shs m hm).2 h⟩

def IndexExact (shs : List Shard) : Prop :=
  ∀ sh ∈ shs, ∀ m k v, (m, k, v) ∈ sh.tagvals ↔ ∃ s ∈ sh.series, s.name = m ∧ (k, v) ∈ s.tags

/-- tags as the storage layer keeps them: one value per key -/
def TagsFn (shs : List Shard) : Prop :=
  ∀ sh ∈ shs, ∀ s ∈ sh.series, ∀ k v, (k, v) ∈ s.tags ↔ tagGet s.tags k = some v

theorem mem_idxTagValues {shs : List Shard} {m k v : Bytes} :
    v ∈ idxTagValues shs m k ↔ ∃ sh ∈ shs, (m, k, v) ∈ sh.tagvals := by
  simp only [idxTagValues, mem_sortDedup, List.mem_flatMap, List.mem_map, List.mem_filter, decide_eq_true_eq]
  constructor
  · rintro ⟨sh, hsh, ⟨_, _, _⟩, ⟨he, rfl, rfl⟩, rfl⟩
    exact ⟨sh, hsh, he⟩
  · rintro ⟨sh, hsh, he⟩
    exact ⟨sh, hsh, (m, k, v), ⟨he, rfl, rfl⟩, rfl⟩

theorem mem_idxTagKeys {shs : List Shard} {m k : Bytes} :
    k ∈ idxTagKeys shs m ↔ ∃ sh ∈ shs, ∃ v, (m, k, v) ∈ sh.tagvals := by
  simp only [idxTagKeys, mem_sortDedup, List.mem_flatMap, List.mem_map, List.mem_filter, decide_eq_true_eq]
  constructor
  · rintro ⟨sh, hsh, ⟨_, _, e3⟩, ⟨he, rfl⟩, rfl⟩
    exact ⟨sh, hsh, e3, he⟩
  · rintro ⟨sh, hsh, v, he⟩
    exact ⟨sh, hsh, (m, k, v), ⟨he, rfl⟩, rfl⟩

theorem holdsOf_nameOnly {c : Cond} (hc : nameOnly c = true) (name : Bytes) (t1 t2 : Tags) :
    holdsOf name t1 c = holdsOf name t2 c := by
  induction c with
  | cmp k neq v =>
    simp only [nameOnly, decide_eq_true_eq] at hc
    simp [holdsOf, hc]
  | re k neg vals =>
    simp only [nameOnly, decide_eq_true_eq] at hc
    simp [holdsOf, hc]
  | and l r ihl ihr =>
    simp only [nameOnly, Bool.and_eq_true] at hc
    simp [holdsOf, ihl hc.1, ihr hc.2]
  | or l r ihl ihr =>
    simp only [nameOnly, Bool.and_eq_true] at hc
    simp [holdsOf, ihl hc.1, ihr hc.2]

theorem mem_namesByNameFilter (a : Auth) (shs : List Shard) (neq : Bool) (mtch : Bytes → Bool) (m : Bytes) :
    m ∈ namesByNameFilter a shs neq mtch ↔ LiveAuth a shs m (fun s => (mtch s.name != neq) = true) := by
  simp only [namesByNameFilter, List.mem_filter, Bool.and_eq_true]
  constructor
  · rintro ⟨hm, hcmp, hauth⟩
    obtain ⟨sh, hsh, s, hs, hn, hal, _⟩ := (measAuthorized_iff a shs m hm).1 hauth
    exact ⟨sh, hsh, s, hs, hn, hal, by simp only; rw [hn]; exact hcmp⟩
  · rintro ⟨sh, hsh, s, hs, hn, hal, hh⟩
    have hm : m ∈ measNames shs := mem_measNames.2 ⟨sh, hsh, s, hs, hn⟩
    exact ⟨hm, by have hh' : (mtch s.name != neq) = true := hh; rw [← hn]; exact hh', (measAuthorized_iff a shs m hm).2 ⟨sh, hsh, s, hs, hn, hal, trivial⟩⟩

theorem mem_namesByTagFilter (a : Auth) (shs : List Shard) (hidx : IndexExact shs) (htags : TagsFn shs)
    (key : Bytes) (mtch : Bytes → Bool) (hempty : mtch [] = false) (m : Bytes) :
    m ∈ namesByTagFilter a shs false key mtch ↔
      LiveAuth a shs m (fun s => mtch ((tagGet s.tags key).getD []) = true) := by
  have hval : ∀ v, v ∈ idxTagValues shs m key ↔
      ∃ sh ∈ shs, ∃ s ∈ sh.series, s.name = m ∧ tagGet s.tags key = some v := by
    intro v
    rw [mem_idxTagValues]
    constructor
    · rintro ⟨sh, hsh, he⟩
      obtain ⟨s, hs, hn, hkv⟩ := (hidx sh hsh m key v).1 he
      exact ⟨sh, hsh, s, hs, hn, (htags sh hsh s hs key v).1 hkv⟩
    · rintro ⟨sh, hsh, s, hs, hn, hg⟩
      exact ⟨sh, hsh, (hidx sh hsh m key v).2 ⟨s, hs, hn, (htags sh hsh s hs key v).2 hg⟩⟩
  -- a live series with a value for `key` puts `key` among the index's keys of `m`
  have hkeyOf : ∀ v, v ∈ idxTagValues shs m key → (idxTagKeys shs m).contains key = true := fun v hv => by
    obtain ⟨sh, hsh, he⟩ := mem_idxTagValues.1 hv
    exact List.contains_iff_mem.2 (mem_idxTagKeys.2 ⟨sh, hsh, v, he⟩)
  -- the empty value is rejected, so a series of which the comparison holds has a value for `key`
  have hhas : ∀ s : Series, mtch ((tagGet s.tags key).getD []) = true →
      ∃ v, tagGet s.tags key = some v ∧ mtch v = true := fun s hh => by
    cases hgt : tagGet s.tags key with
    | none => rw [hgt] at hh; exact absurd (hempty.symm.trans hh) Bool.false_ne_true
    | some v => rw [hgt] at hh; exact ⟨v, rfl, hh⟩
  simp only [namesByTagFilter, List.mem_filter]
  by_cases hkey : (idxTagKeys shs m).contains key = true
  · rw [hkey]
    simp only [Bool.not_true, Bool.false_eq_true, if_false, Bool.false_and, Bool.not_false, Bool.and_eq_true,
      beq_iff_eq, Bool.not_eq_true', List.isEmpty_eq_false_iff, Bool.or_eq_true, List.any_eq_true,
      decide_eq_true_eq, mem_liveSeries, List.mem_filter]
    constructor
    · rintro ⟨_, hne, ho | ⟨v, ⟨hv, hmv⟩, s, ⟨sh, hsh, hs, hn⟩, hg, hal⟩⟩
      · obtain ⟨v, hv⟩ := List.exists_mem_of_ne_nil _ hne
        obtain ⟨hv1, hmv⟩ := List.mem_filter.1 hv
        obtain ⟨sh, hsh, s, hs, hn, hg⟩ := (hval v).1 hv1
        exact ⟨sh, hsh, s, hs, hn, allows_of_open ho _ _, by simp only; rw [hg]; exact hmv⟩
      · exact ⟨sh, hsh, s, hs, hn, hal, by simp only; rw [hg]; exact hmv⟩
    · rintro ⟨sh, hsh, s, hs, hn, hal, hh⟩
      obtain ⟨v, hg, hmv⟩ := hhas s hh
      have hvm : v ∈ (idxTagValues shs m key).filter mtch :=
        List.mem_filter.2 ⟨(hval v).2 ⟨sh, hsh, s, hs, hn, hg⟩, hmv⟩
      exact ⟨mem_measNames.2 ⟨sh, hsh, s, hs, hn⟩, List.ne_nil_of_mem hvm,
        Or.inr ⟨v, List.mem_filter.1 hvm, s, ⟨sh, hsh, hs, hn⟩, hg, hal⟩⟩
  · rw [Bool.not_eq_true] at hkey
    rw [hkey]
    refine ⟨fun h => absurd h.2 Bool.false_ne_true, fun ⟨sh, hsh, s, hs, hn, _, hh⟩ => ?_⟩
    obtain ⟨v, hg, _⟩ := hhas s hh
    exact absurd ((hkeyOf v ((hval v).2 ⟨sh, hsh, s, hs, hn, hg⟩)).symm.trans hkey) (by decide)

theorem mem_namesByExpr (a : Auth) (shs : List Shard) (hidx : IndexExact shs) (htags : TagsFn shs)
    (c : Cond) (hc : condOK c = true) (m : Bytes) :
    m ∈ namesByExpr a shs c ↔ LiveAuth a shs m (fun s => holdsOf s.name s.tags c = true) := by
  induction c generalizing m with
  | cmp key neq val =>
    rw [namesByExpr]
    by_cases hk : key = nameKey
    · rw [if_pos hk, mem_namesByNameFilter]
      refine LiveAuth.congr fun s => ?_
      cases neq <;> simp [holdsOf, hk]
    · simp only [condOK, hk, decide_false, Bool.false_or, Bool.and_eq_true, Bool.not_eq_true',
        decide_eq_true_eq] at hc
      obtain ⟨hneq, hval⟩ := hc
      subst hneq
      rw [if_neg hk, mem_namesByTagFilter a shs hidx htags key _ (decide_eq_false fun e => hval e.symm)]
      refine LiveAuth.congr fun s => ?_
      simp only [holdsOf, hk, if_false, Bool.false_eq_true, decide_eq_true_eq]
  | re key neg vals =>
    rw [namesByExpr]
    by_cases hk : key = nameKey
    · rw [if_pos hk, mem_namesByNameFilter]
      refine LiveAuth.congr fun s => ?_
      simp only [holdsOf, hk, if_true]
    · simp only [condOK, hk, decide_false, Bool.false_or, Bool.and_eq_true, Bool.not_eq_true'] at hc
      obtain ⟨hneg, hval⟩ := hc
      subst hneg
      rw [if_neg hk, mem_namesByTagFilter a shs hidx htags key _ hval]
      refine LiveAuth.congr fun s => ?_
      simp only [holdsOf, hk, if_false, Bool.bne_false]
  | and l r ihl ihr =>
    simp only [condOK, Bool.and_eq_true, Bool.or_eq_true] at hc
    obtain ⟨⟨hl, hr⟩, hno⟩ := hc
    simp only [namesByExpr, interSorted, List.mem_filter, List.contains_eq_mem, decide_eq_true_eq,
      ihl hl, ihr hr]
    constructor
    · rintro ⟨⟨sh1, hsh1, s1, hs1, hn1, hal1, hh1⟩, ⟨sh2, hsh2, s2, hs2, hn2, hal2, hh2⟩⟩
      rcases hno with hno | hno
      · refine ⟨sh2, hsh2, s2, hs2, hn2, hal2, ?_⟩
        simp only [holdsOf, Bool.and_eq_true]
        refine ⟨?_, hh2⟩
        rw [hn2, ← hn1, holdsOf_nameOnly hno s1.name s2.tags s1.tags]; exact hh1
      · refine ⟨sh1, hsh1, s1, hs1, hn1, hal1, ?_⟩
        simp only [holdsOf, Bool.and_eq_true]
        refine ⟨hh1, ?_⟩
        rw [hn1, ← hn2, holdsOf_nameOnly hno s2.name s1.tags s2.tags]; exact hh2
    · rintro ⟨sh, hsh, s, hs, hn, hal, hh⟩
      simp only [holdsOf, Bool.and_eq_true] at hh
      exact ⟨⟨sh, hsh, s, hs, hn, hal, hh.1⟩, ⟨sh, hsh, s, hs, hn, hal, hh.2⟩⟩
  | or l r ihl ihr =>
    simp only [condOK, Bool.and_eq_true] at hc
    simp only [namesByExpr, unionSorted, mem_sortDedup, List.mem_append, ihl hc.1, ihr hc.2]
    constructor
    · rintro (⟨sh, hsh, s, hs, hn, hal, hh⟩ | ⟨sh, hsh, s, hs, hn, hal, hh⟩)
      · exact ⟨sh, hsh, s, hs, hn, hal, by simp [holdsOf, hh]⟩
      · exact ⟨sh, hsh, s, hs, hn, hal, by simp [holdsOf, hh]⟩
    · rintro ⟨sh, hsh, s, hs, hn, hal, hh⟩
      simp only [holdsOf, Bool.or_eq_true] at hh
      rcases hh with hh | hh
      · exact Or.inl ⟨sh, hsh, s, hs, hn, hal, hh⟩
      · exact Or.inr ⟨sh, hsh, s, hs, hn, hal, hh⟩

end Influx.Model.StoreDel
