/-
  Lemmas.DurableQueueSim — the C26 model refines the statement checker
  `Spec.C26`: simulation between the byte-level queue and one abstract queue
  (`World`) kept by the checker, for every operation including torn appends /
  torn footer rewrites that are not footer-like.
-/
import Influx.Lemmas.DurableQueueQ
import Influx.Spec.C26
namespace Influx.DQ
open Influx.Spec.C26

/-- bytes an operation may add to a segment file -/
def opCost : Op → Nat
  | .append b => b.length + 16
  | .crashAppend b _ => b.length + 16
  | _ => 0

def cost (ops : List Op) : Nat := (ops.map opCost).sum

/-- what a case must respect: segment size at least a footer; entries non-empty
    (the scanner skips zero-length records) -/
def ValidOp : Op → Prop
  | .openQ _ g => 8 ≤ g
  | .append b => b ≠ []
  | .crashAppend b _ => b ≠ []
  | _ => True

/-- the crash leaves a file whose last 8 bytes do NOT pass for a head position
    (`TearNotFooterLike`: the negation of the known finding F10) -/
def GoodCrash : State → Op → Prop
  | some q, .crashAppend b k => ∀ o, (q.crashAppendFiles b k).2 = some o → o.footerLike = false
  | some q, .crashAdv k => ∀ o, (q.crashAdvFiles verifyAll k).2 = some o → o.footerLike = false
  | some q, .crashSeg b k => ∀ o, (q.crashSegFiles b k).2 = some o → o.same ≠ 0
  | _, _ => True

def GoodRun : State → List Op → Prop
  | _, [] => True
  | s, op :: ops => GoodCrash s op ∧ GoodRun (step s op).1 ops

/-- The model queue `q` is explained by the abstract queue `w`: the log is what
    was delivered before (`pre`), the consumed records still on disk, then the
    unconsumed ones; the cursor stands between the last two. -/
structure Sim (q : Q) (w : World) (B : Nat) : Prop where
  ex : ∃ pre done R, Holds q done R B ∧ w.log = pre ++ (done ++ R) ∧ w.cur = pre.length + done.length
  lo : w.cur ≤ w.lo
  ne : ∀ y ∈ w.log, y ≠ []

def Rel (B : Nat) : State → SpecState → Prop
  | none, none => True
  | some q, some ws => ∃ w, w ∈ ws ∧ Sim q w B
  | _, _ => False

theorem Sim.mono {q : Q} {w : World} {B B' : Nat} (h : Sim q w B) (hB : B' ≤ B) : Sim q w B' :=
  let ⟨pre, done, R, hq, rest⟩ := h.ex; ⟨⟨pre, done, R, hq.mono hB, rest⟩, h.lo, h.ne⟩

theorem mem_flatMap_of {ws : List World} {w w' : World} {f : World → List World}
    (hw : w ∈ ws) (hw' : w' ∈ f w) : w' ∈ ws.flatMap f := List.mem_flatMap.mpr ⟨w, hw, hw'⟩

/-- The model has moved on to `done'`, `R'`, skipping a prefix `p` of what it held
    (plus `extra`): a world whose cursor stands behind `p ++ done'` explains it. -/
theorem sim_move {w w' : World} {pre done R extra p done' R' : List Bytes} {q' : Q} {B' : Nat}
    (hlog : w.log = pre ++ (done ++ R)) (hsplit : done ++ R ++ extra = p ++ (done' ++ R'))
    (hq' : Holds q' done' R' B') (hlog' : w'.log = w.log ++ extra)
    (hcur' : w'.cur = pre.length + (p.length + done'.length)) (hlo' : w'.cur ≤ w'.lo)
    (hne : ∀ y ∈ w'.log, y ≠ []) : Sim q' w' B' := by
  refine ⟨⟨pre ++ p, done', R', hq', ?_, by rw [hcur', List.length_append]; omega⟩, hlo', hne⟩
  rw [hlog', hlog, List.append_assoc, hsplit]
  simp only [List.append_assoc]

theorem sim_append {q : Q} {w : World} {B : Nat} (h : Sim q w B) (b : Bytes) (hb : b ≠ []) (hB : b.length + 16 ≤ B) :
    ∃ w', w' ∈ wstep w (.append b) (step (some q) (.append b)).2 ∧ Sim (q.append b).1 w' (B - (b.length + 16)) := by
  obtain ⟨pre, done, R, hq, hlog, hcur⟩ := h.ex
  show ∃ w', w' ∈ wstep w (.append b) (match (q.append b).2 with | .ok => .ok | .full => .full | .err => .err) ∧ _
  rcases holds_append hq b hB with hfull | ⟨hres, hq'⟩
  · rw [hfull]
    exact ⟨w, by simp [wstep], h.mono (Nat.sub_le _ _)⟩
  · rw [hres]
    refine ⟨{ w with log := w.log ++ [b] }, by simp [wstep],
      sim_move (p := []) hlog (by simp) hq' rfl (by simpa using hcur) h.lo ?_⟩
    intro y hy
    rcases List.mem_append.mp hy with hy | hy
    · exact h.ne y hy
    · rw [List.mem_singleton.mp hy]; exact hb

theorem sim_cur {q : Q} {w : World} {B : Nat} (h : Sim q w B) :
    w ∈ wstep w .cur (step (some q) .cur).2 := by
  obtain ⟨pre, done, R, hq, hlog, hcur⟩ := h.ex
  show w ∈ wstep w .cur (match q.current with | .ok b => .val b | .error .eof => .eof | .error .other => .err)
  rw [holds_current hq]
  cases R with
  | nil =>
    have : w.cur = w.log.length := by simp [hlog, hcur]
    simp [wstep, this]
  | cons x R' =>
    have : w.log[w.cur]? = some x := by
      have e : w.log = (pre ++ done) ++ x :: R' := by rw [hlog, List.append_assoc]
      have c : w.cur = (pre ++ done).length := by rw [hcur, List.length_append]
      rw [e, c]; simp
    simp [wstep, this]

theorem sim_consume {q q' : Q} {w : World} {B : Nat} {pre done ys R' done' p : List Bytes}
    (h : Sim q w B) (hlog : w.log = pre ++ (done ++ (ys ++ R'))) (hcur : w.cur = pre.length + done.length)
    (hq' : Holds q' done' R' B) (hp : done ++ ys = p ++ done') : Sim q' (w.advBy ys.length) B := by
  have hlen := congrArg List.length hp
  simp only [List.length_append] at hlen
  have hsplit : done ++ (ys ++ R') ++ [] = p ++ (done' ++ R') := by
    rw [List.append_nil, ← List.append_assoc, hp, List.append_assoc]
  exact sim_move hlog hsplit hq' (List.append_nil _).symm
    (by show w.cur + ys.length = _; rw [hcur, Nat.add_assoc, hlen]) (Nat.le_max_right _ _) h.ne

theorem sim_adv {q : Q} {w : World} {B : Nat} (h : Sim q w B) :
    ∃ w', w' ∈ wstep w .adv (step (some q) .adv).2 ∧ Sim q.advance w' B := by
  obtain ⟨pre, done, R, hq, hlog, hcur⟩ := h.ex
  obtain ⟨done', p, hq', hp⟩ := holds_advance hq
  cases R with
  | nil =>
    have hend : ¬ w.cur < w.log.length := by simp [hlog, hcur]
    have hlen := congrArg List.length hp
    simp only [List.length_append, List.take_nil, List.length_nil] at hlen
    exact ⟨w, by simp [wstep, step, hend], sim_move (extra := []) hlog (by simpa using hp) hq'
      (List.append_nil _).symm (by omega) h.lo h.ne⟩
  | cons x R' =>
    have hlt : w.cur < w.log.length := by simp [hlog, hcur]
    exact ⟨w.advBy 1, by simp [wstep, step, hlt], sim_consume (ys := [x]) h hlog hcur hq' hp⟩

theorem sim_scan {q : Q} {w : World} {B : Nat} (h : Sim q w B) (n : Nat) :
    ∃ w', w' ∈ wstep w (.scan n) (step (some q) (.scan n)).2 ∧ Sim (q.scan n).1 w' B := by
  obtain ⟨pre, done, R, hq, hlog, hcur⟩ := h.ex
  show ∃ w', w' ∈ wstep w (.scan n) (match (q.scan n).2 with | .eof => .eof | .got ys ok => .scanned ys ok) ∧ _
  by_cases hR : R = []
  · subst hR
    rw [holds_scan_nil hq]
    have : w.cur = w.log.length := by simp [hlog, hcur]
    exact ⟨w, by simp [wstep, this], h⟩
  · obtain ⟨ys, R', done', p, hres, rfl, hn, hys, hq', hp⟩ :=
      holds_scan hq n hR (fun y hy => h.ne y (by rw [hlog]; simp [hy]))
    rw [hres]
    have hdrop : w.log.drop w.cur = ys ++ R' := by
      have e : w.log = (pre ++ done) ++ (ys ++ R') := by rw [hlog, List.append_assoc]
      have c : w.cur = (pre ++ done).length := by rw [hcur, List.length_append]
      rw [e, c]; simp
    have hcond : ys.length ≤ n ∧ (w.log.drop w.cur).take ys.length = ys ∧
        (ys ≠ [] ∨ n = 0 ∨ w.cur = w.log.length) :=
      ⟨hn, by rw [hdrop]; exact List.take_left' rfl, hys.elim .inl (fun h => .inr (.inl h))⟩
    simp only [wstep]
    rw [if_pos hcond]
    exact ⟨_, List.mem_singleton.mpr rfl, sim_consume h hlog hcur hq' hp⟩

theorem mem_reopenAt (log : List (List Nat)) (lo bound c : Nat) (hc : c ≤ bound) :
    ({ log := log, cur := c, lo := max lo c } : World) ∈ reopenAt log lo bound := by
  simp only [reopenAt, List.mem_map, List.mem_range]
  exact ⟨c, by omega, rfl⟩

/-- A reopen that keeps the records (`Reopens`) is explained by the checker's world
    with the cursor moved back to where the recovered queue resumes. -/
theorem sim_reopens {q : Q} {w : World} {B B' slack : Nat} {files : List Bytes} {bs : List Bytes}
    (h : Sim q w B) (hb : ∀ y ∈ bs, y ≠ [])
    (hre : ∀ done R, Holds q done R B → Reopens q files done R bs slack B') :
    ∃ q' extra c, qOpen verifyAll q.maxSize q.maxSeg files = some q' ∧ (extra = [] ∨ extra = bs) ∧
      c ≤ w.cur + slack ∧ c ≤ w.log.length + extra.length ∧ Sim q' ⟨w.log ++ extra, c, max w.lo c⟩ B' := by
  obtain ⟨pre, done, R, hq, hlog, hcur⟩ := h.ex
  obtain ⟨q', done', R', p, extra, hopen, hq', hex, hsplit, hle⟩ := hre done R hq
  have hlen := congrArg List.length hsplit
  simp only [List.length_append] at hlen
  refine ⟨q', extra, pre.length + (p.length + done'.length), hopen, hex,
    by rw [hcur, Nat.add_assoc]; exact Nat.add_le_add_left hle _,
    by rw [hlog]; simp only [List.length_append]; omega,
    sim_move hlog hsplit hq' rfl rfl (Nat.le_max_right _ _) ?_⟩
  intro y hy
  rcases List.mem_append.mp hy with hy | hy
  · exact h.ne y hy
  · rcases hex with rfl | rfl
    · cases hy
    · exact hb y hy

theorem reopenWith_some {q q' : Q} {files : List Bytes} (o : Option TornObs)
    (h : qOpen verifyAll q.maxSize q.maxSeg files = some q') :
    ∃ sz f sm, reopenWith q files o = (some q', .crashed true sz f sm) := by
  simp only [reopenWith, h]
  cases o <;> exact ⟨_, _, _, rfl⟩

theorem sim_step (B : Nat) (s : State) (ss : SpecState) (op : Op) (hr : Rel B s ss) (hv : ValidOp op)
    (hg : GoodCrash s op) (hB : opCost op ≤ B) (hB8 : 8 + B < 2^63) :
    Rel (B - opCost op) (step s op).1 (sstep ss (op, (step s op).2)) := by
  cases s with
  | none =>
    cases ss with
    | some ws => exact absurd hr (by simp [Rel])
    | none =>
      cases op with
      | openQ m g =>
        simp only [step]
        by_cases hm : m < 2 * g
        · have : qOpen verifyAll m g [] = none := by simp [qOpen, hm]
          simp [this, sstep, Rel]
        · obtain ⟨q, done', p, hq, hh, hp⟩ := qOpen_core m g (B - opCost (.openQ m g)) [] [] [] [] rfl trivial hv hm
            hB8 (fun _ h => nomatch h)
          obtain rfl : done' = [] := (List.append_eq_nil_iff.mp hp.symm).2
          simp only [hq, sstep]
          exact ⟨initWorld, by simp, ⟨[], [], [], hh, rfl, rfl⟩, Nat.le_refl _, by simp [initWorld]⟩
      | _ => simp [step, sstep, Rel]
  | some q =>
    cases ss with
    | none => exact absurd hr (by simp [Rel])
    | some ws =>
      obtain ⟨w, hw, hsim⟩ := hr
      have hlo := hsim.lo
      cases op with
      | openQ m g => exact ⟨w, hw, hsim.mono (Nat.sub_le _ _)⟩
      | append b =>
        obtain ⟨w', hw', hs'⟩ := sim_append hsim b hv hB
        exact ⟨w', mem_flatMap_of hw hw', hs'⟩
      | cur => exact ⟨w, mem_flatMap_of hw (sim_cur hsim), hsim.mono (Nat.sub_le _ _)⟩
      | adv =>
        obtain ⟨w', hw', hs'⟩ := sim_adv hsim
        exact ⟨w', mem_flatMap_of hw hw', hs'⟩
      | scan n =>
        obtain ⟨w', hw', hs'⟩ := sim_scan hsim n
        exact ⟨w', mem_flatMap_of hw hw', hs'⟩
      | stat => exact ⟨w, mem_flatMap_of hw (List.mem_singleton.mpr rfl), hsim.mono (Nat.sub_le _ _)⟩
      | reopen =>
        obtain ⟨q', extra, c, hopen, hex, hc, _, hs'⟩ :=
          sim_reopens (bs := []) hsim (by simp) (fun _ _ hq => holds_reopen hq [])
        obtain rfl : extra = [] := hex.elim id id
        rw [List.append_nil] at hs'
        simp only [step, hopen]
        exact ⟨_, mem_flatMap_of hw (mem_reopenAt _ _ _ _ (by omega)), hs'⟩
      | crashAppend b k =>
        obtain ⟨q', extra, c, hopen, hex, hc, _, hs'⟩ :=
          sim_reopens (bs := [b]) hsim (fun y hy => List.mem_singleton.mp hy ▸ hv) (fun _ _ hq => holds_crashAppend hq b k hB hg)
        obtain ⟨sz, f, sm, hstep⟩ := reopenWith_some (q.crashAppendFiles b k).2 hopen
        rw [show step (some q) (.crashAppend b k) = _ from hstep]
        refine ⟨_, mem_flatMap_of hw ?_, hs'⟩
        rcases hex with rfl | rfl
        · rw [List.append_nil]; exact List.mem_append_left _ (mem_reopenAt _ _ _ _ (by omega))
        · exact List.mem_append_right _ (mem_reopenAt _ _ _ _ (by omega))
      | crashAdv k =>
        obtain ⟨q', extra, c, hopen, hex, hc, hc', hs'⟩ :=
          sim_reopens (bs := []) hsim (by simp) (fun _ _ hq => holds_crashAdv hq k hg)
        obtain rfl : extra = [] := hex.elim id id
        rw [List.append_nil] at hs'
        obtain ⟨sz, f, sm, hstep⟩ := reopenWith_some (q.crashAdvFiles verifyAll k).2 hopen
        rw [show step (some q) (.crashAdv k) = _ from hstep]
        refine ⟨_, mem_flatMap_of hw (mem_reopenAt _ _ _ _ ?_), hs'⟩
        simp only [List.length_nil, Nat.add_zero] at hc'
        split <;> omega
      | crashSeg b k =>
        obtain ⟨q', extra, c, hopen, hex, hc, _, hs'⟩ :=
          sim_reopens (bs := []) hsim (by simp) (fun _ _ hq => holds_crashSeg hq b k hg)
        obtain rfl : extra = [] := hex.elim id id
        rw [List.append_nil] at hs'
        obtain ⟨sz, f, sm, hstep⟩ := reopenWith_some (q.crashSegFiles b k).2 hopen
        rw [show step (some q) (.crashSeg b k) = _ from hstep]
        exact ⟨_, mem_flatMap_of hw (mem_reopenAt _ _ _ _ (by omega)), hs'⟩

theorem sim_trace (ops : List Op) : ∀ (B : Nat) (s : State) (ss : SpecState), Rel B s ss →
    (∀ op ∈ ops, ValidOp op) → GoodRun s ops → cost ops ≤ B → 8 + B < 2^63 →
    ∃ B' s', Rel B' s' ((trace s ops).foldl sstep ss) := by
  induction ops with
  | nil => intro B s ss hr _ _ _ _; exact ⟨B, s, by simpa [trace] using hr⟩
  | cons op ops ih =>
    intro B s ss hr hv hg hB hB8
    simp only [trace, List.foldl_cons]
    have hc : cost (op :: ops) = opCost op + cost ops := by simp [cost]
    exact ih (B - opCost op) _ _ (sim_step B s ss op hr (hv op (by simp)) hg.1 (by omega) hB8)
      (fun o ho => hv o (by simp [ho])) hg.2 (by omega) (by omega)

/-- executable form of `GoodCrash` -/
def goodCrashB : State → Op → Bool
  | some q, .crashAppend b k => match (q.crashAppendFiles b k).2 with
    | none => true
    | some o => !o.footerLike
  | some q, .crashAdv k => match (q.crashAdvFiles verifyAll k).2 with
    | none => true
    | some o => !o.footerLike
  | some q, .crashSeg b k => match (q.crashSegFiles b k).2 with
    | none => true
    | some o => o.same != 0
  | _, _ => true

def goodRunB : State → List Op → Bool
  | _, [] => true
  | s, op :: ops => goodCrashB s op && goodRunB (step s op).1 ops

theorem goodCrash_of_B (s : State) (op : Op) (h : goodCrashB s op = true) : GoodCrash s op := by
  cases s <;> cases op <;> try trivial
  all_goals
    simp only [goodCrashB] at h
    intro o ho
    rw [ho] at h
    simpa using h

theorem goodRun_of_B : ∀ (ops : List Op) (s : State), goodRunB s ops = true → GoodRun s ops
  | [], _, _ => trivial
  | op :: ops, s, h => by
    simp only [goodRunB, Bool.and_eq_true] at h
    exact ⟨goodCrash_of_B s op h.1, goodRun_of_B ops _ h.2⟩

def noCrash : List Op → Bool
  | [] => true
  | .crashAppend _ _ :: _ => false
  | .crashAdv _ :: _ => false
  | .crashSeg _ _ :: _ => false
  | _ :: ops => noCrash ops

theorem goodRun_of_noCrash : ∀ (ops : List Op) (s : State), noCrash ops = true → GoodRun s ops
  | [], _, _ => trivial
  | op :: ops, s, h => by
    have : GoodCrash s op ∧ noCrash ops = true := by
      cases op <;> cases s <;> simp_all [noCrash, GoodCrash]
    exact ⟨this.1, goodRun_of_noCrash ops _ this.2⟩

/-- executable form of `ValidOp` -/
def validOpB : Op → Bool
  | .openQ _ g => decide (8 ≤ g)
  | .append b => !b.isEmpty
  | .crashAppend b _ => !b.isEmpty
  | _ => true

theorem validOp_of_B (op : Op) (h : validOpB op = true) : ValidOp op := by
  cases op <;> simp_all [validOpB, ValidOp]

end Influx.DQ
