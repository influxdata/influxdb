/-
  Lemmas.TSIFile — per-file invariants of the tsi1 model and their preservation by log
  entries, log compaction and index-file merges.

  `Sound sf d`: every id listed under a measurement / tag value in the file is a series of
  the series file with that measurement name / that tag pair.
-/
import Influx.Lemmas.TSIMerge

namespace Influx.Model.TSI

structure SFOK (sf : SFile) : Prop where
  nodup : ∀ s ∈ sf.known, (s.tags.map (·.1)).Nodup
  uniq : ∀ s ∈ sf.known, ∀ t ∈ sf.known, s.id = t.id → s = t

theorem find_some_mem {sf : SFile} {id : Nat} {s : SeriesInfo} (h : sf.find id = some s) :
    s ∈ sf.known ∧ s.id = id := by
  unfold SFile.find at h
  exact ⟨List.mem_of_find?_eq_some h, by simpa using List.find?_some h⟩

theorem find_of_mem {sf : SFile} (hok : SFOK sf) {s : SeriesInfo} (hs : s ∈ sf.known) :
    sf.find s.id = some s := by
  cases hf : sf.find s.id with
  | none => exact absurd (List.find?_eq_none.mp hf s hs) (by simp)
  | some t =>
    obtain ⟨ht, hid⟩ := find_some_mem hf
    rw [hok.uniq t ht s hs hid]

structure Sound (sf : SFile) (d : FileData) : Prop where
  meas : ∀ n x, x ∈ fileMeasSeries n d → ∃ s, sf.find x = some s ∧ s.name = n
  val : ∀ n k v x, x ∈ fileValSeries n k v d → ∃ s, sf.find x = some s ∧ s.name = n ∧ tagOf s.tags k = some v

theorem sound_anti {sf : SFile} {d d' : FileData} (h : Sound sf d)
    (hm : ∀ n x, x ∈ fileMeasSeries n d' → x ∈ fileMeasSeries n d)
    (hv : ∀ n k v x, x ∈ fileValSeries n k v d' → x ∈ fileValSeries n k v d) : Sound sf d' :=
  ⟨fun n x hx => h.meas n x (hm n x hx), fun n k v x hx => h.val n k v x (hv n k v x hx)⟩

theorem sound_empty (sf : SFile) : Sound sf {} :=
  ⟨fun _ _ h => absurd h List.not_mem_nil, fun _ _ _ _ h => absurd h List.not_mem_nil⟩

theorem noflags_empty : NoFlags {} :=
  ⟨fun _ _ _ h => absurd h (by simp [keyElem, alookup]), fun _ _ _ _ h => absurd h (by simp [valElem, keyElem, alookup])⟩

theorem execSeries_sound {sf : SFile} (hok : SFOK sf) {d : FileData} (h : Sound sf d) (isAdd : Bool)
    (id : Nat) : Sound sf (execSeries sf d isAdd id) := by
  cases hf : sf.find id with
  | none => rw [execSeries_unknown sf d isAdd id hf]; exact h
  | some s =>
    have hd := hok.nodup s (find_some_mem hf).1
    -- a listed id was listed before, or is `id` itself under its own measurement / tag pair
    refine ⟨fun n x hx => ?_, fun n k v x hx => ?_⟩
    · rcases (execSeries_mem_fileMeasSeries sf d isAdd id s hf n x).mp hx with ⟨h0, _⟩ | ⟨hn, _, hx⟩
      · exact h.meas n x h0
      · exact ⟨s, hx ▸ hf, hn.symm⟩
    · rcases (execSeries_mem_fileValSeries sf d isAdd id s hf hd n k v x).mp hx with ⟨h0, _⟩ | ⟨hn, _, hx⟩
      · exact h.val n k v x h0
      · exact ⟨s, hx ▸ hf, hn.1.symm, hn.2⟩

theorem execSeries_noflags {sf : SFile} (hok : SFOK sf) {d : FileData} (h : NoFlags d) (isAdd : Bool)
    (id : Nat) : NoFlags (execSeries sf d isAdd id) := by
  cases hf : sf.find id with
  | none => rw [execSeries_unknown sf d isAdd id hf]; exact h
  | some s =>
    have hd := hok.nodup s (find_some_mem hf).1
    refine ⟨fun n k tk hk => ?_, fun n k v tv hv => ?_⟩
    · rw [execSeries_keyElem sf d isAdd id s hf hd] at hk
      split at hk
      · split at hk
        · exact h.key n k tk hk
        · -- the updated key carries the old flag (removal) or none (add)
          cases hk
          cases isAdd
          · cases hk0 : keyElem n k d with
            | none => rfl
            | some tk0 => exact h.key n k tk0 hk0
          · rfl
      · exact h.key n k tk hk
    · rw [execSeries_valElem sf d isAdd id s hf hd] at hv
      split at hv
      · cases hv
        cases isAdd
        · cases hv0 : valElem n k v d with
          | none => rfl
          | some tv0 => exact h.val n k v tv0 hv0
        · rfl
      · exact h.val n k v tv hv

theorem exec_delMeas_fileMeasSeries (sf : SFile) (d : FileData) (m n : String) :
    fileMeasSeries n (exec sf d (.delMeas m)) = if n = m then [] else fileMeasSeries n d := by
  unfold fileMeasSeries
  rw [exec_delMeas_mms]
  split <;> rfl

theorem exec_delMeas_keyElem (sf : SFile) (d : FileData) (m n k : String) :
    keyElem n k (exec sf d (.delMeas m)) = if n = m then none else keyElem n k d := by
  unfold keyElem
  rw [exec_delMeas_mms]
  split <;> rfl

theorem exec_delMeas_measFlag (sf : SFile) (d : FileData) (m n : String) :
    measFlag n (exec sf d (.delMeas m)) = if n = m then some true else measFlag n d := by
  unfold measFlag
  rw [exec_delMeas_mms]
  split <;> rfl

theorem exec_delMeas_valElem (sf : SFile) (d : FileData) (m n k v : String) :
    valElem n k v (exec sf d (.delMeas m)) = if n = m then none else valElem n k v d := by
  unfold valElem
  rw [exec_delMeas_keyElem]
  split <;> rfl

section
variable {d d' : FileData} {m : String} {mm' : Meas}
  (hmms : ∀ n, alookup d'.mms n = if n = m then some mm' else alookup d.mms n)
include hmms

theorem fileMeasSeries_of_mms (hser : mm'.series = (getMeas d m).series) (n : String) :
    fileMeasSeries n d' = fileMeasSeries n d := by
  rw [fileMeasSeries, hmms]
  by_cases h : n = m
  · rw [if_pos h, h, fileMeasSeries_getMeas, ← hser]; rfl
  · rw [if_neg h]; rfl

theorem keyElem_of_mms {key : String} {T : TagKey → TagKey}
    (hkeys : mm'.keys = aset (getMeas d m).keys key (T ((alookup (getMeas d m).keys key).getD {})))
    (n k : String) :
    keyElem n k d' = if n = m ∧ k = key then some (T ((keyElem n k d).getD {})) else keyElem n k d := by
  rw [keyElem, hmms]
  by_cases h : n = m
  · subst h
    rw [if_pos rfl, Option.bind_some, hkeys, alookup_aset, getMeas_keys]
    by_cases hk : k = key
    · subst hk; rw [if_pos rfl, if_pos ⟨rfl, rfl⟩]
    · rw [if_neg hk, if_neg (fun h => hk h.2), getMeas_keys]
  · rw [if_neg h, if_neg (fun h' => h h'.1)]; rfl

end

theorem exec_delKey_fileMeasSeries (sf : SFile) (d : FileData) (m key n : String) :
    fileMeasSeries n (exec sf d (.delKey m key)) = fileMeasSeries n d :=
  fileMeasSeries_of_mms (exec_delKey_mms sf d m key) rfl n

theorem exec_delVal_fileMeasSeries (sf : SFile) (d : FileData) (m key value n : String) :
    fileMeasSeries n (exec sf d (.delVal m key value)) = fileMeasSeries n d :=
  fileMeasSeries_of_mms (exec_delVal_mms sf d m key value) rfl n

theorem exec_delKey_keyElem (sf : SFile) (d : FileData) (m key n k : String) :
    keyElem n k (exec sf d (.delKey m key)) =
      if n = m ∧ k = key then some { ((keyElem n k d).getD {}) with deleted := true }
      else keyElem n k d :=
  keyElem_of_mms (T := fun tk => { tk with deleted := true }) (exec_delKey_mms sf d m key) rfl n k

theorem exec_delKey_valElem (sf : SFile) (d : FileData) (m key n k v : String) :
    valElem n k v (exec sf d (.delKey m key)) = valElem n k v d := by
  unfold valElem
  rw [exec_delKey_keyElem]
  split
  · cases keyElem n k d <;> rfl
  · rfl

theorem exec_delVal_keyElem (sf : SFile) (d : FileData) (m key value n k : String) :
    keyElem n k (exec sf d (.delVal m key value)) =
      if n = m ∧ k = key then
        some { ((keyElem n k d).getD {}) with values := (aset ((keyElem n k d).getD {}).values value
          { ((alookup ((keyElem n k d).getD {}).values value).getD {}) with deleted := true }) }
      else keyElem n k d :=
  keyElem_of_mms
    (T := fun tk => { tk with values := aset tk.values value { ((alookup tk.values value).getD {}) with deleted := true } })
    (exec_delVal_mms sf d m key value) rfl n k

theorem exec_delVal_keyElem_deleted (sf : SFile) (d : FileData) (m key value n k : String) (tk : TagKey)
    (h : keyElem n k (exec sf d (.delVal m key value)) = some tk) :
    tk.deleted = ((keyElem n k d).getD {}).deleted := by
  rw [exec_delVal_keyElem] at h
  split at h
  · cases h; rfl
  · rw [h]; rfl

theorem exec_delVal_fileValSeries (sf : SFile) (d : FileData) (m key value n k v : String) :
    fileValSeries n k v (exec sf d (.delVal m key value)) = fileValSeries n k v d := by
  rw [fileValSeries_eq, fileValSeries_eq, valElem, exec_delVal_keyElem, valElem]
  split
  · simp only [Option.bind_some, alookup_aset]
    split
    · next hv =>
      rw [hv]
      cases keyElem n k d with
      | none => rfl
      | some tk => simp only [Option.getD_some, Option.bind_some]; cases alookup tk.values value <;> rfl
    · cases keyElem n k d <;> rfl
  · rfl

theorem exec_delKey_sound {sf : SFile} {d : FileData} (h : Sound sf d) (m key : String) :
    Sound sf (exec sf d (.delKey m key)) :=
  sound_anti h (fun n x hx => by rwa [exec_delKey_fileMeasSeries] at hx)
    (fun n k v x hx => by rwa [fileValSeries_eq, exec_delKey_valElem] at hx)

theorem exec_delVal_sound {sf : SFile} {d : FileData} (h : Sound sf d) (m key value : String) :
    Sound sf (exec sf d (.delVal m key value)) :=
  sound_anti h (fun n x hx => by rwa [exec_delVal_fileMeasSeries] at hx)
    (fun n k v x hx => by rwa [exec_delVal_fileValSeries] at hx)

theorem exec_delMeas_sound {sf : SFile} {d : FileData} (h : Sound sf d) (m : String) :
    Sound sf (exec sf d (.delMeas m)) := by
  refine sound_anti h (fun n x hx => ?_) (fun n k v x hx => ?_)
  · rw [exec_delMeas_fileMeasSeries] at hx
    split at hx
    · exact absurd hx List.not_mem_nil
    · exact hx
  · rw [fileValSeries_eq, exec_delMeas_valElem] at hx
    split at hx
    · exact absurd hx List.not_mem_nil
    · exact hx

theorem exec_sound {sf : SFile} (hok : SFOK sf) {d : FileData} (h : Sound sf d) (e : Entry) :
    Sound sf (exec sf d e) := by
  cases e with
  | add id => exact execSeries_sound hok h true id
  | delSeries id => exact execSeries_sound hok h false id
  | delMeas m => exact exec_delMeas_sound h m
  | delKey m k => exact exec_delKey_sound h m k
  | delVal m k v => exact exec_delVal_sound h m k v

theorem compactLog_sound {sf : SFile} {d : FileData} (h : Sound sf d) (hnf : NoFlags d) :
    Sound sf (compactLogData d) :=
  sound_anti h (fun n x hx => by rwa [compactLog_fileMeasSeries] at hx)
    (fun n k v x hx => by rwa [fileValSeries_eq, compactLog_valElem_noflags hnf] at hx)

theorem merge_sound {sf : SFile} {fs : List FileData} (h : ∀ f ∈ fs, Sound sf f)
    (hnf : ∀ f ∈ fs, NoFlags f) : Sound sf (mergeData fs) where
  meas n x hx := by
    obtain ⟨f, hf, hxf⟩ := (merge_mem_fileMeasSeries fs n x).mp hx
    exact (h f hf).meas n x hxf
  val n k v x hx := by
    obtain ⟨f, hf, hxf⟩ := (merge_mem_fileValSeries fs hnf n k v x).mp hx
    exact (h f hf).val n k v x hxf

end Influx.Model.TSI
