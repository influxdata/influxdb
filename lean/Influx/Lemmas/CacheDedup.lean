/-
  Lemmas.CacheDedup — `Values.Deduplicate` (stable sort + collapse, or nothing when
  already strictly ascending) computes the newest-wins canonical form `Spec.C09.canon`:
  both are strictly ascending and answer `lastAt` like the input, and a strictly
  ascending list is determined by its `lastAt`.
-/
import Influx.Spec.C09

namespace Influx.Cache
open Influx.Spec.C09

def SortedLt (l : List Value) : Prop := l.Pairwise (fun a b => a.t < b.t)
def SortedLe (l : List Value) : Prop := l.Pairwise (fun a b => a.t ≤ b.t)

theorem SortedLt.le {l} (h : SortedLt l) : SortedLe l := h.imp (fun h => Int.le_of_lt h)

theorem lastAt_nil (t : Int) : lastAt [] t = none := rfl

theorem lastAt_append (a b : List Value) (t : Int) :
    lastAt (a ++ b) t = (lastAt b t).or (lastAt a t) := by
  unfold lastAt
  rw [List.filter_append, List.getLast?_append]

theorem lastAt_cons (x : Value) (l : List Value) (t : Int) :
    lastAt (x :: l) t = (lastAt l t).or (if x.t = t then some x else none) := by
  rw [← List.singleton_append, lastAt_append]
  congr 1
  unfold lastAt
  by_cases h : x.t = t <;> simp [h]

theorem lastAt_some_t {l : List Value} {t : Int} {v : Value} (h : lastAt l t = some v) : v.t = t ∧ v ∈ l := by
  have := List.mem_filter.mp (List.mem_of_getLast? h)
  exact ⟨of_decide_eq_true this.2, this.1⟩

theorem lastAt_none_iff {l : List Value} {t : Int} : lastAt l t = none ↔ ∀ v ∈ l, v.t ≠ t := by
  unfold lastAt
  rw [List.getLast?_eq_none_iff, List.filter_eq_nil_iff]
  simp

theorem mem_iff_lastAt {l : List Value} (h : SortedLt l) {v : Value} : v ∈ l ↔ lastAt l v.t = some v := by
  refine ⟨fun hv => ?_, fun e => (lastAt_some_t e).2⟩
  induction l with
  | nil => cases hv
  | cons x rest ih =>
    have hp := List.pairwise_cons.mp h
    rw [lastAt_cons]
    rcases List.mem_cons.mp hv with rfl | hv'
    · rw [lastAt_none_iff.mpr fun w hw => Int.ne_of_gt (hp.1 w hw), if_pos rfl]; rfl
    · rw [ih hp.2 hv']; rfl

theorem eq_of_lastAt_eq {a b : List Value} (ha : SortedLt a) (hb : SortedLt b)
    (h : ∀ t, lastAt a t = lastAt b t) : a = b :=
  have nodup {l : List Value} (hl : SortedLt l) : l.Nodup :=
    List.Pairwise.imp (S := (· ≠ ·)) (fun {_ b} hlt e => Int.lt_irrefl b.t (e ▸ hlt)) hl
  List.Perm.eq_of_pairwise (fun _ _ _ _ h1 h2 => absurd h1 (Int.lt_asymm h2)) ha hb
    ((List.perm_ext_iff_of_nodup (nodup ha) (nodup hb)).mpr fun v => by
      rw [mem_iff_lastAt ha, mem_iff_lastAt hb, h])

theorem insertByTime_perm (v : Value) (l : List Value) : (insertByTime v l).Perm (v :: l) := by
  induction l with
  | nil => exact .refl _
  | cons x xs ih =>
    rw [insertByTime]
    split
    · exact .refl _
    · exact (ih.cons x).trans (.swap v x xs)

theorem insertByTime_sorted (v : Value) (l : List Value) (h : SortedLe l) : SortedLe (insertByTime v l) := by
  induction l with
  | nil => exact List.pairwise_singleton ..
  | cons x xs ih =>
    have hp := List.pairwise_cons.mp h
    rw [insertByTime]
    split
    · rename_i hlt
      refine List.pairwise_cons.mpr ⟨fun w hw => ?_, h⟩
      rcases List.mem_cons.mp hw with rfl | hw
      · exact Int.le_of_lt hlt
      · exact Int.le_trans (Int.le_of_lt hlt) (hp.1 w hw)
    · rename_i hge
      refine List.pairwise_cons.mpr ⟨fun w hw => ?_, ih hp.2⟩
      rcases List.mem_cons.mp ((insertByTime_perm v xs).subset hw) with rfl | hw
      · exact Int.not_lt.mp hge
      · exact hp.1 w hw

/-- the insertion is stable: the new value goes behind those of its timestamp -/
theorem lastAt_insertByTime (v : Value) {l : List Value} (h : SortedLe l) (t : Int) :
    lastAt (insertByTime v l) t = if v.t = t then some v else lastAt l t := by
  induction l with
  | nil => rw [insertByTime, lastAt_cons, lastAt_nil]; split <;> rfl
  | cons x xs ih =>
    have hp := List.pairwise_cons.mp h
    rw [insertByTime]
    split
    · rename_i hlt
      rw [lastAt_cons v]
      split
      · -- everything from `x` on is later than `v`
        rename_i hv
        rw [lastAt_none_iff.mpr fun w hw => ?_]; rfl
        have hlt' : t < x.t := hv ▸ hlt
        rcases List.mem_cons.mp hw with rfl | hw
        · exact Int.ne_of_gt hlt'
        · exact Int.ne_of_gt (Int.lt_of_lt_of_le hlt' (hp.1 w hw))
      · exact Option.or_none
    · rw [lastAt_cons x, ih hp.2, lastAt_cons x]
      split <;> rfl

theorem sortStable_aux (a : List Value) : ∀ acc, SortedLe acc →
    SortedLe (a.foldl (fun acc v => insertByTime v acc) acc) ∧
    (a.foldl (fun acc v => insertByTime v acc) acc).Perm (acc ++ a) ∧
    ∀ t, lastAt (a.foldl (fun acc v => insertByTime v acc) acc) t = (lastAt a t).or (lastAt acc t) := by
  induction a with
  | nil => exact fun acc h => ⟨h, by simp, fun t => rfl⟩
  | cons v rest ih =>
    intro acc h
    obtain ⟨h1, h2, h3⟩ := ih (insertByTime v acc) (insertByTime_sorted v acc h)
    refine ⟨h1, h2.trans (((insertByTime_perm v acc).append_right rest).trans List.perm_middle.symm), fun t => ?_⟩
    rw [List.foldl_cons, h3 t, lastAt_insertByTime v h, lastAt_cons]
    split <;> simp

theorem sortStable_sorted (a : List Value) : SortedLe (sortStable a) :=
  (sortStable_aux a [] .nil).1

theorem sortStable_perm (a : List Value) : (sortStable a).Perm a :=
  (sortStable_aux a [] .nil).2.1

theorem lastAt_sortStable (a : List Value) (t : Int) : lastAt (sortStable a) t = lastAt a t :=
  ((sortStable_aux a [] .nil).2.2 t).trans Option.or_none

theorem collapse_sublist (l : List Value) : (collapse l).Sublist l := by
  induction l with
  | nil => exact .slnil
  | cons a rest ih =>
    cases rest with
    | nil => exact .refl _
    | cons b rest' =>
      rw [collapse]
      split
      · exact ih.cons a
      · exact ih.cons_cons a

theorem collapse_sorted (l : List Value) (h : SortedLe l) : SortedLt (collapse l) := by
  induction l with
  | nil => exact .nil
  | cons a rest ih =>
    cases rest with
    | nil => exact List.pairwise_singleton ..
    | cons b rest' =>
      have hp := List.pairwise_cons.mp h
      rw [collapse]
      split
      · exact ih hp.2
      · rename_i hne
        refine List.pairwise_cons.mpr ⟨fun w hw => ?_, ih hp.2⟩
        have h1 : a.t < b.t := Int.lt_iff_le_and_ne.mpr ⟨hp.1 b List.mem_cons_self, hne⟩
        rcases List.mem_cons.mp ((collapse_sublist _).subset hw) with rfl | hm
        · exact h1
        · exact Int.lt_of_lt_of_le h1 ((List.pairwise_cons.mp hp.2).1 w hm)

theorem lastAt_collapse (l : List Value) (h : SortedLe l) (t : Int) : lastAt (collapse l) t = lastAt l t := by
  induction l with
  | nil => rfl
  | cons a rest ih =>
    cases rest with
    | nil => rfl
    | cons b rest' =>
      have hp := List.pairwise_cons.mp h
      rw [collapse]
      split
      · rename_i heq
        rw [ih hp.2, lastAt_cons a]
        split
        · -- `b` has the same timestamp as `a` and comes later
          cases hl : lastAt (b :: rest') t with
          | none => exact absurd (heq.symm.trans ‹a.t = t›) (lastAt_none_iff.mp hl b List.mem_cons_self)
          | some w => rfl
        · exact Option.or_none.symm
      · rw [lastAt_cons a, lastAt_cons a, ih hp.2]

theorem ordered_iff (l : List Value) : ordered l = true ↔ SortedLt l := by
  induction l with
  | nil => simp [ordered, SortedLt]
  | cons a rest ih =>
    cases rest with
    | nil => simp [ordered, SortedLt]
    | cons b rest' =>
      simp only [ordered, Bool.and_eq_true, decide_eq_true_eq, ih, SortedLt]
      constructor
      · rintro ⟨hab, hr⟩
        refine List.pairwise_cons.mpr ⟨?_, hr⟩
        intro w hw
        rcases List.mem_cons.mp hw with rfl | hw
        · exact hab
        · exact Int.lt_trans hab ((List.pairwise_cons.mp hr).1 w hw)
      · intro h
        have hp := List.pairwise_cons.mp h
        exact ⟨hp.1 b (by simp), hp.2⟩

/-- the two ways `Values.Deduplicate` takes -/
theorem dedup_cases (a : List Value) : dedup a = a ∧ SortedLt a ∨ dedup a = collapse (sortStable a) := by
  unfold dedup
  split
  · rename_i h
    refine .inl ⟨rfl, ?_⟩
    cases a with
    | nil => exact .nil
    | cons x xs =>
      cases xs with
      | nil => exact List.pairwise_singleton ..
      | cons y ys => exact absurd (Nat.le_of_succ_le_succ h) (Nat.not_succ_le_zero _)
  · split
    · rename_i h; exact .inl ⟨rfl, (ordered_iff a).mp h⟩
    · exact .inr rfl

theorem dedup_sorted (a : List Value) : SortedLt (dedup a) := by
  rcases dedup_cases a with h | h
  · rw [h.1]; exact h.2
  · rw [h]; exact collapse_sorted _ (sortStable_sorted a)

theorem lastAt_dedup (a : List Value) (t : Int) : lastAt (dedup a) t = lastAt a t := by
  rcases dedup_cases a with h | h
  · rw [h.1]
  · rw [h, lastAt_collapse _ (sortStable_sorted a), lastAt_sortStable]

theorem dedup_sub_perm (a : List Value) : ∃ p, p.Perm a ∧ (dedup a).Sublist p := by
  rcases dedup_cases a with h | h
  · exact ⟨a, .refl _, by rw [h.1]; exact .refl _⟩
  · exact ⟨_, sortStable_perm a, by rw [h]; exact collapse_sublist _⟩

theorem valuesSize_perm {a b : List Value} (h : a.Perm b) : valuesSize a = valuesSize b :=
  (h.map _).sum_nat

theorem valuesSize_sublist {a b : List Value} (h : a.Sublist b) : valuesSize a ≤ valuesSize b := by
  unfold valuesSize
  induction h with
  | slnil => exact Nat.le_refl _
  | cons x _ ih => rw [List.map_cons, List.sum_cons]; exact Nat.le_trans ih (Nat.le_add_left ..)
  | cons_cons x _ ih => rw [List.map_cons, List.sum_cons, List.map_cons, List.sum_cons]; exact Nat.add_le_add_left ih _

theorem valuesSize_dedup_le (a : List Value) : valuesSize (dedup a) ≤ valuesSize a :=
  let ⟨_, hp, hs⟩ := dedup_sub_perm a
  Nat.le_trans (valuesSize_sublist hs) (Nat.le_of_eq (valuesSize_perm hp))

theorem dedup_subset (a : List Value) : ∀ v ∈ dedup a, v ∈ a :=
  let ⟨_, hp, hs⟩ := dedup_sub_perm a
  fun _ hv => hp.subset (hs.subset hv)

theorem dedup_length_le (a : List Value) : (dedup a).length ≤ a.length :=
  let ⟨_, hp, hs⟩ := dedup_sub_perm a
  Nat.le_trans hs.length_le (Nat.le_of_eq hp.length_eq)

theorem dedup_size_eq_of_length (a : List Value) (h : ¬ (dedup a).length < a.length) :
    valuesSize (dedup a) = valuesSize a := by
  obtain ⟨p, hp, hs⟩ := dedup_sub_perm a
  rw [hs.eq_of_length (by have := hs.length_le; have := hp.length_eq; omega)]
  exact valuesSize_perm hp

theorem dedup_ne_nil {a : List Value} (h : a ≠ []) : dedup a ≠ [] := by
  obtain ⟨v, rest, rfl⟩ := List.exists_cons_of_ne_nil h
  intro hd
  have := lastAt_dedup (v :: rest) v.t
  rw [hd, lastAt_nil, eq_comm, lastAt_none_iff] at this
  exact this v List.mem_cons_self rfl

theorem mem_insertTime {x t : Int} {l : List Int} : x ∈ insertTime t l ↔ x = t ∨ x ∈ l := by
  induction l with
  | nil => simp [insertTime]
  | cons y ys ih =>
    rw [insertTime]
    split
    · simp
    · split
      · rename_i h; simp [h]
      · simp [ih, or_left_comm]

theorem insertTime_sorted (t : Int) {l : List Int} (h : l.Pairwise (· < ·)) :
    (insertTime t l).Pairwise (· < ·) := by
  induction l with
  | nil => exact List.pairwise_singleton ..
  | cons y ys ih =>
    have hp := List.pairwise_cons.mp h
    rw [insertTime]
    split
    · rename_i hlt
      refine List.pairwise_cons.mpr ⟨fun w hw => ?_, h⟩
      rcases List.mem_cons.mp hw with rfl | hw
      · exact hlt
      · exact Int.lt_trans hlt (hp.1 w hw)
    · rename_i hnlt
      split
      · exact h
      · rename_i hne
        refine List.pairwise_cons.mpr ⟨fun w hw => ?_, ih hp.2⟩
        rcases mem_insertTime.mp hw with rfl | hw
        · exact Int.lt_iff_le_and_ne.mpr ⟨Int.not_lt.mp hnlt, Ne.symm hne⟩
        · exact hp.1 w hw

theorem times_sorted (l : List Value) : (times l).Pairwise (· < ·) := by
  induction l with
  | nil => exact .nil
  | cons v rest ih => exact insertTime_sorted v.t ih

theorem mem_times {l : List Value} {t : Int} : t ∈ times l ↔ ∃ v ∈ l, v.t = t := by
  induction l with
  | nil => simp [times]
  | cons v rest ih =>
    rw [show times (v :: rest) = insertTime v.t (times rest) from rfl, mem_insertTime, ih]
    simp [eq_comm]

theorem canon_nil : canon [] = [] := rfl

theorem mem_canon {l : List Value} {v : Value} : v ∈ canon l ↔ lastAt l v.t = some v := by
  rw [canon, List.mem_filterMap]
  constructor
  · rintro ⟨t, _, ht⟩
    rw [(lastAt_some_t ht).1, ht]
  · intro h
    exact ⟨v.t, mem_times.mpr ⟨v, (lastAt_some_t h).2, rfl⟩, h⟩

theorem canon_sorted (l : List Value) : SortedLt (canon l) :=
  (times_sorted l).filterMap _ fun a a' h b hb b' hb' => by
    rw [(lastAt_some_t hb).1, (lastAt_some_t hb').1]; exact h

theorem lastAt_canon (l : List Value) (t : Int) : lastAt (canon l) t = lastAt l t := by
  cases h : lastAt l t with
  | none =>
    refine lastAt_none_iff.mpr fun w hw hwt => ?_
    rw [← hwt, mem_canon.mp hw] at h
    cases h
  | some v =>
    obtain ⟨rfl, -⟩ := lastAt_some_t h
    exact (mem_iff_lastAt (canon_sorted l)).mp (mem_canon.mpr h)

/-- **`Values.Deduplicate` is the newest-wins canonical form** -/
theorem dedup_eq_canon (a : List Value) : dedup a = canon a :=
  eq_of_lastAt_eq (dedup_sorted a) (canon_sorted a) (fun t => by rw [lastAt_dedup, lastAt_canon])

/-- the merged read: deduplicating the two deduplicated parts is the canonical form of the union -/
theorem dedup_union (s h : List Value) : dedup (dedup s ++ dedup h) = canon (s ++ h) :=
  eq_of_lastAt_eq (dedup_sorted _) (canon_sorted _) (fun t => by
    rw [lastAt_dedup, lastAt_append, lastAt_dedup, lastAt_dedup, lastAt_canon, lastAt_append])

theorem canon_of_sorted {l : List Value} (h : SortedLt l) : canon l = l :=
  eq_of_lastAt_eq (canon_sorted l) h (lastAt_canon l)

end Influx.Cache
