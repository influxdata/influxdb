/-
  Lemmas.CompactRun — `tsmBatchKeyIterator.Next` and the write loop over it:
  the emitted block sequence is, key after key in ascending key order, the
  newest-wins content of that key's input blocks.
-/
import Influx.Lemmas.CompactLoad

namespace Influx.Model.Compact
open Influx.Generated

variable {V : Type}

def LenOK (bound : Option Nat) (n : Nat) : Prop := ∀ m, bound = some m → n ≤ m

theorem lenOK_mono {bound : Option Nat} {n n' : Nat} (h : n' ≤ n) (hn : LenOK bound n) : LenOK bound n' :=
  fun m hm => Nat.le_trans h (hn m hm)

def SortLaw (cfg : Cfg) (bound : Option Nat) : Prop :=
  ∀ {V : Type} (l : List (Block V)), LenOK bound l.length → SortSpecAt cfg l

/-- a block as the reader hands it to the iterator: well formed, nothing read yet -/
def Fresh (b : Block V) : Prop := BlockWF b ∧ b.readMin = maxInt64 ∧ b.readMax = minInt64

/-- what is known about one emitted block: a re-encoded block of 1..size values, or an
    input block of the key forwarded as is -/
def BlockFact (size : Nat) (orig : List (Block V)) (o : OBlk V) : Prop :=
  OBlkOK o ∧ ((1 ≤ o.pts.length ∧ o.pts.length ≤ size) ∨ ∃ b0 ∈ orig, o = passThrough b0)

/-- `outs` completes the values `O` already written for a key to the key's content `target` -/
structure KeyTail (size : Nat) (orig : List (Block V)) (target : Int → Option V) (O : Pts V)
    (outs : List (OBlk V)) : Prop where
  asc : Asc (O ++ outPts outs)
  content : ∀ t, target t = lookup (O ++ outPts outs) t
  blocks : ∀ o ∈ outs, BlockFact size orig o

/-- the input files as the readers present them: per file ascending non-empty keys,
    fresh well-formed blocks, and at most `bound` blocks per key over all files
    (with 20, `sort.Stable` stays an insertion sort) -/
structure FilesOK (bound : Option Nat) (files : List (FileRuns V)) : Prop where
  rwf : ∀ f ∈ files, RunsWF f
  fresh : ∀ k, ∀ b ∈ blocksFor files k, Fresh b
  cap : ∀ k, LenOK bound (blocksFor files k).length

structure RunsInv (bound : Option Nat) (k : Iter V) : Prop where
  lens : k.its.length = k.buf.length
  files : FilesOK bound (allRuns k.its k.buf)
  above : ∀ f ∈ allRuns k.its k.buf, ∀ r ∈ f, keyLt k.key r.1 = true

theorem RunsInv.load {bound : Option Nat} {k : Iter V} (ri : RunsInv bound k)
    {its' : List (FileRuns V)} {buf' : List (Key × List (Block V))} {key' : Key} {bl : List (Block V)}
    (hl : load k.its k.buf = (its', buf', key', bl)) (st : KSt V) :
    RunsInv bound ⟨its', buf', key', st⟩ ∧ (bl ≠ [] → keyLt k.key key' = true) ∧
    bl = blocksFor (allRuns k.its k.buf) key' ∧
    (∀ k'', blocksFor (allRuns its' buf') k'' = if k'' = key' then [] else blocksFor (allRuns k.its k.buf) k'') ∧
    (bl = [] → ∀ k'', blocksFor (allRuns k.its k.buf) k'' = []) := by
  obtain ⟨l1, l2, l3, l4, l5, l7⟩ := load_spec k.its k.buf ri.lens ri.files.rwf its' buf' key' bl hl
  refine ⟨⟨l1, ⟨l2, fun k'' b hb => ?_, fun k'' => ?_⟩, l7⟩, fun hbl => ?_, l3, l4, l5⟩
  · rw [l4 k''] at hb
    split at hb
    · cases hb
    · exact ri.files.fresh k'' b hb
  · show LenOK bound (blocksFor (allRuns its' buf') k'').length
    rw [l4 k'']
    split
    · exact fun m _ => Nat.zero_le m
    · exact ri.files.cap k''
  · obtain ⟨x, hx⟩ := List.exists_mem_of_ne_nil bl hbl
    obtain ⟨f, hf, r, hr, hrk, _⟩ := mem_blocksFor (l3 ▸ hx)
    exact hrk ▸ ri.above f hf r hr

structure Held (bound : Option Nat) (orig bl : List (Block V)) : Prop where
  len : LenOK bound bl.length
  same : ∀ b ∈ bl, ∃ b0 ∈ orig, SameStatic b b0

/-- the per-key invariant at a call of `Next`: `Oe` = values of the key already written
    (including the block `Read` returned last, the head of `k.merged`) -/
structure CurInv (cfg : Cfg) (bound : Option Nat) (k : Iter V) (Oe : Pts V) (target : Int → Option V) (orig : List (Block V)) : Prop where
  inv : ∃ T, KInv T k.st (Oe ++ outPts k.st.merged.tail) target
  pend : ∀ o ∈ k.st.merged.tail, BlockFact cfg.size orig o
  held : Held bound orig k.st.blocks
  runs : RunsInv bound k

/-- the iterator left the current key: which keys disappeared from the files -/
structure Moved (cfg : Cfg) (bound : Option Nat) (R : List (FileRuns V)) (key0 : Key) (more : Bool) (k' : Iter V) : Prop where
  runs : ∀ k'', blocksFor (allRuns k'.its k'.buf) k'' = blocksFor R k'' ∨
      (blocksFor (allRuns k'.its k'.buf) k'' = [] ∧
        ((more = true ∧ k'' = k'.key) ∨ ∀ t, restAt (blocksFor R k'') t = none))
  next : more = true → keyLt key0 k'.key = true ∧ ∃ o ms, k'.st.merged = o :: ms ∧
      BlockFact cfg.size (blocksFor R k'.key) o ∧
      CurInv cfg bound k' o.pts (restAt (blocksFor R k'.key)) (blocksFor R k'.key)
  done : more = false → ∀ k'', blocksFor (allRuns k'.its k'.buf) k'' = []

def NextOK (cfg : Cfg) (bound : Option Nat) (k : Iter V) (Oe : Pts V) (target : Int → Option V) (orig : List (Block V))
    (more : Bool) (k' : Iter V) : Prop :=
  (more = true ∧ k'.key = k.key ∧ allRuns k'.its k'.buf = allRuns k.its k.buf ∧
    ∃ o ms, k'.st.merged = o :: ms ∧ BlockFact cfg.size orig o ∧ CurInv cfg bound k' (Oe ++ o.pts) target orig)
  ∨ (KeyTail cfg.size orig target Oe [] ∧ Moved cfg bound (allRuns k.its k.buf) k.key more k')

theorem passThrough_same {b b0 : Block V} (h : SameStatic b b0) : passThrough b = passThrough b0 := by
  obtain ⟨h1, h2, h3, _⟩ := h
  simp [passThrough, h1, h2, h3]

theorem stepOut_facts {size : Nat} {bound : Option Nat} {T : Int} {st st' : KSt V} {O : Pts V} {target : Int → Option V}
    {orig : List (Block V)} (so : StepOut size T st st' O target) (hh : Held bound orig st.blocks) :
    (∀ o ∈ st'.merged, BlockFact size orig o) ∧ Held bound orig st'.blocks := by
  refine ⟨fun o ho => ?_, lenOK_mono so.hlen hh.len, fun b hb => ?_⟩
  · obtain ⟨h1, h2⟩ := so.hout o ho
    refine ⟨h1, ?_⟩
    rcases h2 with h2 | ⟨b, hb, _, rfl⟩
    · exact Or.inl h2
    · obtain ⟨b0, hb0, hs⟩ := hh.same b hb
      exact Or.inr ⟨b0, hb0, passThrough_same hs⟩
  · obtain ⟨b1, hb1, hs1⟩ := so.hsame b hb
    obtain ⟨b0, hb0, hs0⟩ := hh.same b1 hb1
    exact ⟨b0, hb0, hs1.1.trans hs0.1, hs1.2.1.trans hs0.2.1, hs1.2.2.1.trans hs0.2.2.1, hs1.2.2.2.trans hs0.2.2.2⟩

theorem kinv_fresh (bl : List (Block V)) (hf : ∀ b ∈ bl, Fresh b) :
    KInv minInt64 (⟨bl, [], []⟩ : KSt V) [] (restAt bl) := by
  refine ⟨fun b hb => BlockSt.fresh (hf b hb).1 (hf b hb).2.1 (hf b hb).2.2, ?_, by simp, ?_⟩
  · simpa using asc_nil
  · intro t; simp

theorem popMerged_eq (st : KSt V) : popMerged st = ⟨st.blocks, st.mv, st.merged.tail⟩ := by
  unfold popMerged
  split
  · rfl
  · next hn =>
    obtain ⟨b, m, mg⟩ := st
    have : mg = [] := List.length_eq_zero_iff.mp (Nat.eq_zero_of_not_pos hn)
    subst this; rfl

/-- a block at the head of `k.merged` is what `Read` returns next -/
theorem curInv_of_merged {cfg : Cfg} {bound : Option Nat} {k : Iter V} {Oe : Pts V} {target : Int → Option V}
    {orig : List (Block V)} (ri : RunsInv bound k) {T : Int} {o : OBlk V} {ms : List (OBlk V)}
    (hmg : k.st.merged = o :: ms) (inv : KInv T k.st (Oe ++ outPts k.st.merged) target)
    (fact : ∀ o ∈ k.st.merged, BlockFact cfg.size orig o) (hh : Held bound orig k.st.blocks) :
    BlockFact cfg.size orig o ∧ CurInv cfg bound k (Oe ++ o.pts) target orig := by
  rw [hmg] at inv fact
  refine ⟨fact o (List.mem_cons_self ..), ⟨T, ?_⟩, fun x hx => ?_, hh, ri⟩
  · rw [hmg, List.tail_cons, List.append_assoc, ← outPts_cons]; exact inv
  · rw [hmg] at hx; exact fact x (List.mem_cons_of_mem _ hx)

/-- `Next` returns with a block of the current key at the head of `k.merged` -/
theorem caseA_of_merged (cfg : Cfg) (bound : Option Nat) {k : Iter V} {Oe : Pts V} {target : Int → Option V} {orig : List (Block V)}
    (ri : RunsInv bound k) {T2 : Int} {st2 : KSt V} {o : OBlk V} {ms : List (OBlk V)}
    (hmg : st2.merged = o :: ms)
    (inv2 : KInv T2 st2 (Oe ++ outPts st2.merged) target)
    (fact2 : ∀ o ∈ st2.merged, BlockFact cfg.size orig o) (hh2 : Held bound orig st2.blocks) :
    NextOK cfg bound k Oe target orig true { k with st := st2 } :=
  Or.inl ⟨rfl, rfl, rfl, o, ms, hmg,
    curInv_of_merged (k := { k with st := st2 }) ⟨ri.lens, ri.files, ri.above⟩ hmg inv2 fact2 hh2⟩

/-- One `if cond { k.merge() }` of `Next` with the return that follows it: either `Next` returns
    here with a block of the current key, or it goes on (`rest`) with nothing merged. -/
theorem phase_spec (cfg : Cfg) (bound : Option Nat) (law : SortLaw cfg bound) (hs : 0 < cfg.size) {k : Iter V}
    (ri : RunsInv bound k) {T : Int} {st : KSt V} {Oe : Pts V} {target : Int → Option V} {orig : List (Block V)}
    (cond : Bool) (inv : KInv T st Oe target) (hm : st.merged = []) (hh : Held bound orig st.blocks)
    {rest : KSt V → M (Bool × Iter V)} {more : Bool} {k' : Iter V}
    (h : Except.bind (mergeIf cfg cond st) (fun v =>
      if cond = true ∧ (v.merged.length > 0 ∨ v.mv.length > 0) then Except.ok (true, { k with st := v })
      else rest v) = Except.ok (more, k')) :
    NextOK cfg bound k Oe target orig more k' ∨
    ∃ st' T', rest st' = Except.ok (more, k') ∧ KInv T' st' Oe target ∧ st'.merged = [] ∧
      (cond = true → st'.mv = [] ∧ st'.blocks = []) ∧ (cond = false → st' = st) ∧ Held bound orig st'.blocks := by
  cases h2 : mergeIf cfg cond st with
  | error e => rw [h2] at h; cases h
  | ok st2 =>
    rw [h2] at h
    simp only [Except.bind] at h
    unfold mergeIf at h2
    cases cond with
    | false =>
      obtain rfl := Except.ok.inj h2
      rw [if_neg (fun hc => Bool.false_ne_true hc.1)] at h
      exact Or.inr ⟨st, T, h, inv, hm, fun hc => absurd hc Bool.false_ne_true, fun _ => rfl, hh⟩
    | true =>
      rw [if_pos rfl] at h2
      have so := mergeStep_spec cfg inv hm (law _ hh.len) h2
      obtain ⟨fact2, hh2⟩ := stepOut_facts so hh
      obtain ⟨T2, _, inv2⟩ := so.hex
      cases hmg : st2.merged with
      | cons o ms =>
        rw [if_pos ⟨rfl, Or.inl (by rw [hmg]; exact Nat.succ_pos _)⟩] at h
        obtain ⟨rfl, rfl⟩ := Prod.mk.inj (Except.ok.inj h)
        exact Or.inl (caseA_of_merged cfg bound ri hmg inv2 fact2 hh2)
      | nil =>
        -- `merge` left nothing at all
        have he := so.hempty hs hmg
        rw [hmg, he.1, if_neg (by simp)] at h
        exact Or.inr ⟨st2, T2, h, inv2.congr rfl (by rw [hmg, outPts_nil, List.append_nil]), hmg,
          fun _ => he, fun hc => absurd hc.symm Bool.false_ne_true, hh2⟩

theorem kst_eta (st : KSt V) (h1 : st.blocks = []) (h2 : st.mv = []) (h3 : st.merged = []) :
    st = ⟨[], [], []⟩ := by
  cases st; simp_all

/-- `tsmBatchKeyIterator.Next` -/
theorem next_spec (cfg : Cfg) (bound : Option Nat) (law : SortLaw cfg bound) (hs : 0 < cfg.size) :
    ∀ (fuel : Nat) (k : Iter V) (Oe : Pts V) (target : Int → Option V) (orig : List (Block V)),
      CurInv cfg bound k Oe target orig →
      ∀ more k', Iter.next cfg fuel k = .ok (more, k') → NextOK cfg bound k Oe target orig more k' := by
  intro fuel
  induction fuel with
  | zero => intro k Oe target orig _ more k' h; simp [Iter.next, throw, throwThe, MonadExceptOf.throw] at h
  | succ fuel ih =>
    intro k Oe target orig ci more k' h
    obtain ⟨T, inv⟩ := ci.inv
    unfold Iter.next at h
    rw [popMerged_eq] at h
    -- the state after the pop, `k.merged[1:]` still to be returned
    have inv1 : KInv T ⟨k.st.blocks, k.st.mv, k.st.merged.tail⟩ (Oe ++ outPts k.st.merged.tail) target :=
      inv.congr rfl rfl
    generalize hst1 : (⟨k.st.blocks, k.st.mv, k.st.merged.tail⟩ : KSt V) = st1 at h inv1
    simp only [bind, pure, Except.pure] at h
    have hm1 : k.st.merged.tail = st1.merged := by rw [← hst1]
    have hh1 : Held bound orig st1.blocks := by rw [← hst1]; exact ci.held
    have pend1 : ∀ o ∈ st1.merged, BlockFact cfg.size orig o := hm1 ▸ ci.pend
    rw [hm1] at inv1
    by_cases hp : st1.merged.length > 0
    · rw [if_pos hp] at h
      obtain ⟨rfl, rfl⟩ := Prod.mk.inj (Except.ok.inj h)
      cases hmg : st1.merged with
      | nil => rw [hmg] at hp; cases hp
      | cons o ms => exact caseA_of_merged cfg bound ci.runs hmg inv1 pend1 hh1
    · rw [if_neg hp] at h
      -- nothing pending: Oe is everything written so far
      have hst1 : st1.merged = [] := List.length_eq_zero_iff.mp (Nat.eq_zero_of_not_pos hp)
      replace inv1 : KInv T st1 Oe target := inv1.congr rfl (by rw [hst1, outPts_nil, List.append_nil])
      -- merged values pending?
      rcases phase_spec cfg bound law hs ci.runs _ inv1 hst1 hh1 h with hA | ⟨st2, T2, h, inv2, hm2, e2, k2, hh2⟩
      · exact hA
      have hmv2 : st2.mv = [] := by
        by_cases hcond : decide (st1.mv.length > 0) = true
        · exact (e2 hcond).1
        · rw [k2 (by simpa using hcond)]
          exact List.length_eq_zero_iff.mp (Nat.eq_zero_of_not_pos (by simpa using hcond))
      -- blocks left from the last read?
      rcases phase_spec cfg bound law hs ci.runs _ inv2 hm2 hh2 h with hA | ⟨st3, T3, h, inv3, hm3, e3, k3, _⟩
      · exact hA
      have hm3 : st3.merged = [] ∧ st3.mv = [] ∧ st3.blocks = [] := by
        by_cases hcond : decide (st2.blocks.length > 0) = true
        · exact ⟨hm3, e3 hcond⟩
        · rw [k3 (by simpa using hcond)]
          exact ⟨hm2, hmv2, List.length_eq_zero_iff.mp (Nat.eq_zero_of_not_pos (by simpa using hcond))⟩
      have hst3 := kst_eta st3 hm3.2.2 hm3.2.1 hm3.1
      subst hst3
      -- the current key is complete
      have ktail : KeyTail cfg.size orig target Oe [] := by
        refine ⟨by simpa using inv3.hasc, ?_, by simp⟩
        intro t
        have := inv3.hc t
        simpa [restAt] using this
      right
      refine ⟨ktail, ?_⟩
      cases hl : load k.its k.buf with
      | mk its' r1 =>
      obtain ⟨buf', key', bl⟩ := r1
      rw [hl] at h
      simp only [List.nil_append] at h
      by_cases hb0 : bl.length = 0
      · rw [if_pos hb0] at h
        obtain ⟨rfl, rfl⟩ := Prod.mk.inj (Except.ok.inj h)
        obtain ⟨_, _, _, l4, l5⟩ := ci.runs.load hl k.st
        have hall := l5 (List.length_eq_zero_iff.mp hb0)
        have hR' : ∀ k'', blocksFor (allRuns its' buf') k'' = [] := fun k'' => by
          rw [l4 k'', hall k'', ite_self]
        exact ⟨fun k'' => Or.inr ⟨hR' k'', Or.inr fun t => by rw [hall k'']; rfl⟩, by simp, fun _ => hR'⟩
      · rw [if_neg hb0] at h
        cases h5 : mergeStep cfg (⟨bl, [], []⟩ : KSt V) with
        | error e => rw [h5] at h; cases h
        | ok st5 =>
        rw [h5] at h
        simp only [Except.bind] at h
        obtain ⟨ri', hkey, l3, l4, _⟩ := ci.runs.load hl st5
        have hkey := hkey fun h0 => hb0 (by rw [h0]; rfl)
        have len4 : LenOK bound bl.length := l3 ▸ ci.runs.files.cap key'
        have so5 := mergeStep_spec cfg
          (kinv_fresh bl fun b hb => ci.runs.files.fresh key' b (l3 ▸ hb)) rfl (law _ len4) h5
        obtain ⟨fact5, hh5⟩ := stepOut_facts (bound := bound) (orig := bl) so5
          ⟨len4, fun b hb => ⟨b, hb, SameStatic.refl b⟩⟩
        obtain ⟨T5, _, inv5⟩ := so5.hex
        have hR'key : blocksFor (allRuns its' buf') key' = [] := by rw [l4 key', if_pos rfl]
        by_cases hm5 : st5.merged.length = 0
        · -- the key produced nothing: RETRY
          rw [if_pos hm5] at h
          have hmg5 : st5.merged = [] := List.length_eq_zero_iff.mp hm5
          have he5 := so5.hempty hs hmg5
          rw [hmg5] at inv5
          have ci5 : CurInv cfg bound ({ its := its', buf := buf', key := key', st := st5 } : Iter V) []
              (restAt bl) bl :=
            ⟨⟨T5, by rw [hmg5]; exact inv5⟩, by rw [hmg5]; simp, hh5, ri'⟩
          -- the skipped key has no content
          have hnone : ∀ t, restAt (blocksFor (allRuns k.its k.buf) key') t = none := fun t => by
            have := inv5.hc t
            rw [he5.1, he5.2] at this
            rw [← l3, this]; rfl
          rcases ih _ [] (restAt bl) bl ci5 more k' h with ⟨hmore, hk', hR', o, ms, hmg, hfact, hci⟩ | ⟨_, mv⟩
          · -- continues with the same (new) key
            simp only at hk' hR'
            refine ⟨fun k'' => ?_, fun _ => ?_, by simp [hmore]⟩
            · rw [hR', l4 k'']
              split
              · next hk => exact Or.inr ⟨rfl, Or.inl ⟨hmore, hk.trans hk'.symm⟩⟩
              · exact Or.inl rfl
            · rw [hk', ← l3]
              exact ⟨hkey, o, ms, hmg, hfact, hci⟩
          · -- moved on past further keys
            refine ⟨fun k'' => ?_, fun hmore => ?_, mv.done⟩
            · have hk'' := mv.runs k''
              simp only [l4 k''] at hk''
              split at hk''
              · next hk => exact Or.inr ⟨hk''.elim id (·.1), Or.inr (hk ▸ hnone)⟩
              · exact hk''
            · obtain ⟨n1, o, ms, n2, n3, n4⟩ := mv.next hmore
              simp only at n1 n3 n4
              have hne : k'.key ≠ key' := ne_of_keyLt n1
              rw [l4 k'.key, if_neg hne] at n3 n4
              exact ⟨keyLt_trans hkey n1, o, ms, n2, n3, n4⟩
        · rw [if_neg hm5] at h
          obtain ⟨rfl, rfl⟩ := Prod.mk.inj (Except.ok.inj h)
          cases hmg : st5.merged with
          | nil => rw [hmg] at hm5; exact absurd rfl hm5
          | cons o ms =>
            refine ⟨fun k'' => ?_, fun _ => ?_, by simp⟩
            · show blocksFor (allRuns its' buf') k'' = _ ∨ _
              rw [l4 k'']
              split
              · next hk => exact Or.inr ⟨rfl, Or.inl ⟨rfl, hk⟩⟩
              · exact Or.inl rfl
            · show keyLt k.key key' = true ∧ _
              rw [← l3]
              obtain ⟨c1, c2⟩ := curInv_of_merged (k := ⟨its', buf', key', st5⟩) (Oe := []) ri' hmg inv5 fact5 hh5
              exact ⟨hkey, o, ms, hmg, c1, c2⟩

def seqOf (k : Key) (seq : List (Key × OBlk V)) : List (OBlk V) :=
  (seq.filter (fun e => decide (e.1 = k))).map (·.2)

theorem seqOf_append (k : Key) (a b : List (Key × OBlk V)) : seqOf k (a ++ b) = seqOf k a ++ seqOf k b := by
  simp [seqOf]

theorem seqOf_nil_of_ne {k : Key} {seq : List (Key × OBlk V)} (h : ∀ e ∈ seq, e.1 ≠ k) : seqOf k seq = [] := by
  simp only [seqOf, List.map_eq_nil_iff, List.filter_eq_nil_iff, decide_eq_true_eq]
  exact h

theorem seqOf_map_same (k : Key) (outs : List (OBlk V)) : seqOf k (outs.map (fun o => (k, o))) = outs := by
  rw [seqOf, List.filter_eq_self.mpr, List.map_map]
  · exact List.map_id' _
  · intro e he
    obtain ⟨o, _, rfl⟩ := List.mem_map.mp he
    exact decide_eq_true rfl

theorem seqOf_map_other {k k' : Key} (h : k ≠ k') (outs : List (OBlk V)) :
    seqOf k' (outs.map (fun o => (k, o))) = [] :=
  seqOf_nil_of_ne fun e he => by
    obtain ⟨o, _, rfl⟩ := List.mem_map.mp he
    exact h

def KeysSorted (seq : List (Key × OBlk V)) : Prop := seq.Pairwise (fun a b => keyLt b.1 a.1 = false)

/-- what follows the current key: keys above `key`, sorted, every key with its newest-wins content -/
structure RestOK (cfg : Cfg) (R : List (FileRuns V)) (key : Key) (rest : List (Key × OBlk V)) : Prop where
  above : ∀ e ∈ rest, keyLt key e.1 = true
  sorted : KeysSorted rest
  keys : ∀ k', KeyTail cfg.size (blocksFor R k') (restAt (blocksFor R k')) [] (seqOf k' rest)

theorem KeyTail.cons {size : Nat} {orig : List (Block V)} {target : Int → Option V} {O : Pts V} {o : OBlk V}
    {outs : List (OBlk V)} (kt : KeyTail size orig target (O ++ o.pts) outs) (hf : BlockFact size orig o) :
    KeyTail size orig target O (o :: outs) :=
  ⟨by simpa using kt.asc, fun t => by simpa using kt.content t, List.forall_mem_cons.mpr ⟨hf, kt.blocks⟩⟩

theorem keyTail_none {size : Nat} {orig : List (Block V)} {target : Int → Option V}
    (h : ∀ t, target t = none) : KeyTail size orig target [] [] :=
  ⟨by simpa using asc_nil, fun t => by simpa using h t, by simp⟩

theorem keyTail_outs_nil {size : Nat} {orig : List (Block V)} {target : Int → Option V} {outs : List (OBlk V)}
    (kt : KeyTail size orig target [] outs) (h : ∀ t, target t = none) : outs = [] := by
  cases outs with
  | nil => rfl
  | cons o os =>
    exfalso
    obtain ⟨a, _, ha, _⟩ := (kt.blocks o (by simp)).1
    have hmem : a ∈ [] ++ outPts (o :: os) := by
      simp only [List.nil_append, outPts_cons]
      exact List.mem_append_left _ (List.mem_of_head? ha)
    have := lookup_of_mem_asc kt.asc hmem
    rw [← kt.content a.1, h a.1] at this
    cases this

theorem runIter_spec (cfg : Cfg) (bound : Option Nat) (law : SortLaw cfg bound) (hs : 0 < cfg.size) (rf : Nat) :
    ∀ (n : Nat) (k : Iter V) (Oe : Pts V) (target : Int → Option V) (orig : List (Block V)),
      CurInv cfg bound k Oe target orig →
      ∀ seq, runIter cfg rf n k = .ok seq →
        ∃ outs rest, seq = outs.map (fun o => (k.key, o)) ++ rest ∧
          KeyTail cfg.size orig target Oe outs ∧ RestOK cfg (allRuns k.its k.buf) k.key rest := by
  intro n
  induction n with
  | zero => intro k Oe target orig _ seq h; simp [runIter, throw, throwThe, MonadExceptOf.throw] at h
  | succ n ih =>
    intro k Oe target orig ci seq h
    unfold runIter at h
    simp only [bind, Except.bind, pure, Except.pure] at h
    cases hn : Iter.next cfg rf k with
    | error e => rw [hn] at h; simp at h
    | ok r =>
    obtain ⟨more, k'⟩ := r
    rw [hn] at h
    simp only at h
    have nx := next_spec cfg bound law hs rf k Oe target orig ci more k' hn
    cases more with
    | false =>
      simp only [Bool.not_false, if_true, Except.ok.injEq] at h
      subst h
      rcases nx with ⟨hm, _⟩ | ⟨kt, mv⟩
      · cases hm
      · refine ⟨[], [], rfl, kt, by simp, List.Pairwise.nil, ?_⟩
        intro k''
        apply keyTail_none
        intro t
        rcases mv.runs k'' with h1 | ⟨_, h2⟩
        · rw [← h1, mv.done rfl k'']; rfl
        · rcases h2 with ⟨hf, _⟩ | h2
          · cases hf
          · exact h2 t
    | true =>
      simp only [Bool.not_true, Bool.false_eq_true, if_false] at h
      cases hr : runIter cfg rf n k' with
      | error e => rw [hr] at h; simp at h
      | ok rest' =>
      rw [hr] at h
      simp only at h
      rcases nx with ⟨_, hk', hR', o, ms, hmg, hfact, hci⟩ | ⟨kt, mv⟩
      · -- same key
        rw [hmg] at h
        obtain rfl := Except.ok.inj h
        obtain ⟨outs', rest'', e1, kt', ro'⟩ := ih k' (Oe ++ o.pts) target orig hci rest' hr
        rw [hk'] at e1
        rw [hk', hR'] at ro'
        exact ⟨o :: outs', rest'', by rw [hk', e1]; rfl, kt'.cons hfact, ro'⟩
      · -- a new key
        obtain ⟨hlt, o, ms, hmg, hfact, hci⟩ := mv.next rfl
        rw [hmg] at h
        obtain rfl := Except.ok.inj h
        obtain ⟨outs', rest'', rfl, kt', ro'⟩ := ih k' o.pts _ _ hci rest' hr
        refine ⟨[], _, rfl, kt, ?_⟩
        show RestOK cfg _ k.key ((o :: outs').map (fun o => (k'.key, o)) ++ rest'')
        have hmap : ∀ e ∈ (o :: outs').map (fun o => (k'.key, o)), e.1 = k'.key := fun e he => by
          obtain ⟨x, _, rfl⟩ := List.mem_map.mp he; rfl
        refine ⟨fun e he => ?_, List.pairwise_append.mpr ⟨?_, ro'.sorted, fun a ha b hb => ?_⟩, fun k'' => ?_⟩
        · rcases List.mem_append.mp he with h1 | h1
          · rw [hmap e h1]; exact hlt
          · exact keyLt_trans hlt (ro'.above e h1)
        · exact List.pairwise_map.mpr (List.pairwise_of_forall fun _ _ => keyLt_irrefl _)
        · rw [hmap a ha]; exact keyLt_asymm (ro'.above b hb)
        · rw [seqOf_append]
          by_cases hk : k'' = k'.key
          · -- the new current key
            rw [hk, seqOf_map_same, seqOf_nil_of_ne fun e he heq => ?_, List.append_nil]
            · exact (KeyTail.cons (O := []) kt' hfact)
            · exact ne_of_keyLt (ro'.above e he) heq
          · -- any other key: nothing of it in the current key's output
            rw [seqOf_map_other (fun h => hk h.symm), List.nil_append]
            have hk'' := ro'.keys k''
            rcases mv.runs k'' with h1 | ⟨h1, h2⟩
            · rw [h1] at hk''; exact hk''
            · rw [h1] at hk''
              rw [keyTail_outs_nil hk'' (fun t => rfl)]
              exact keyTail_none (h2.resolve_left fun h => hk h.2)

theorem allRuns_init (files : List (FileRuns V)) :
    allRuns files (files.map (fun _ => (([] : Key), ([] : List (Block V))))) = files := by
  induction files with
  | nil => rfl
  | cons f fs ih => simp [allRuns, runsOf, ih]

/-- **the compaction iterator**: the written sequence has ascending keys and holds, for
    every key, exactly the newest-wins content of that key's blocks (minus tombstones). -/
theorem compactSeq_spec (cfg : Cfg) (bound : Option Nat) (law : SortLaw cfg bound) (hs : 0 < cfg.size)
    (files : List (FileRuns V)) (ok : FilesOK bound files)
    (seq : List (Key × OBlk V)) (h : compactSeq cfg files = .ok seq) :
    RestOK cfg files [] seq := by
  unfold compactSeq at h
  have hR : allRuns (Iter.init files).its (Iter.init files).buf = files := allRuns_init files
  have ci : CurInv cfg bound (Iter.init files) [] (fun _ => none) [] := by
    refine ⟨⟨0, ?_⟩, by simp [Iter.init], ⟨by intro m _; simp [Iter.init], by simp [Iter.init]⟩,
      by simp [Iter.init], by rw [hR]; exact ok, ?_⟩
    · refine ⟨by simp [Iter.init], by simpa [Iter.init] using asc_nil, by simp [Iter.init], ?_⟩
      intro t; simp [Iter.init, restAt]
    · rw [hR]
      show ∀ f ∈ files, ∀ r ∈ f, keyLt [] r.1 = true
      intro f hf r hr
      have := ((ok.rwf f hf).2 r hr).1
      cases hk : r.1 with
      | nil => exact absurd hk this
      | cons a as => rfl
  obtain ⟨outs, rest, e1, kt, ro⟩ := runIter_spec cfg bound law hs _ _ (Iter.init files) [] _ [] ci seq h
  have : outs = [] := keyTail_outs_nil kt (fun _ => rfl)
  subst this
  simp only [List.map_nil, List.nil_append] at e1
  subst e1
  rw [hR] at ro
  exact ro

/-- the code's `sort.Stable(k.blocks)` is good for at most 20 blocks per key -/
theorem stableLaw (size : Nat) (fast : Bool) : SortLaw { size := size, fast := fast } (some 20) := by
  intro V l hl hw
  exact stable_spec l hw (hl 20 rfl)

/-- the same iterator with an insertion sort in place of `sort.Stable` -/
def insertionCfg (size : Nat) (fast : Bool) : Cfg :=
  { size := size, fast := fast, sort := fun _ => Sort.insertionSort blkLess }

theorem insertionLaw (size : Nat) (fast : Bool) : SortLaw (insertionCfg size fast) none :=
  fun l _ hw => insertionSort_spec l hw

end Influx.Model.Compact
