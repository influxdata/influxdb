/-
  Lemmas.FieldVerdicts — validation of a batch.  The two-loop
  `validateSeriesAndFields` of the code and the one-pass `verdicts` decide the
  same thing; the field set after a batch is reached by successful
  `CreateFieldIfNotExists` calls for fields of the batch (so recorded types never
  change and new entries come from the batch); accepted points are fully on
  record; replaying the created fields reproduces the new field set.
-/
import Influx.Lemmas.FieldReplay
import Influx.Spec.C10

namespace Influx.Fields
open Influx.Generated.FieldsConsts (MaxFieldValueLength)

@[simp] theorem accepted_drop (r : Reason) : (VRes.drop r).accepted = false := rfl
@[simp] theorem accepted_ok : VRes.ok.accepted = true := rfl
@[simp] theorem accepted_stripped : VRes.stripped.accepted = true := rfl

/-- what `verdicts` does with one point against the field set `s` -/
def pointVerdict (s : Schema) (p : Point) : Schema × List (FKey × FType) × VRes :=
  if hasTimeTag p then (s, [], .drop .tagTime)
  else if onlyTimeFields p then (s, [], .drop .fieldTime)
  else validateFields p.meas s p.fields false

theorem verdicts_cons (s : Schema) (p : Point) (ps : List Point) :
    verdicts s (p :: ps) =
      ((verdicts (pointVerdict s p).1 ps).1,
       (pointVerdict s p).2.1 ++ (verdicts (pointVerdict s p).1 ps).2.1,
       (p, (pointVerdict s p).2.2) :: (verdicts (pointVerdict s p).1 ps).2.2) := by
  rw [verdicts, pointVerdict]
  cases hasTimeTag p <;> cases onlyTimeFields p <;> rfl

theorem phase2_cons (s : Schema) (p : Point) (ps : List Point) (h : hasTimeTag p = false) :
    phase2 s (p :: ps) =
      ((phase2 (pointVerdict s p).1 ps).1,
       (pointVerdict s p).2.1 ++ (phase2 (pointVerdict s p).1 ps).2.1,
       (p, (pointVerdict s p).2.2) :: (phase2 (pointVerdict s p).1 ps).2.2) := by
  rw [phase2, pointVerdict, h]
  cases onlyTimeFields p <;> rfl

theorem verdicts_map_fst (s : Schema) (pts : List Point) :
    (verdicts s pts).2.2.map (·.1) = pts := by
  induction pts generalizing s with
  | nil => rfl
  | cons p ps ih => rw [verdicts_cons, List.map_cons, ih]

theorem countDropped_cons (pv : Point × VRes) (vs : List (Point × VRes)) :
    countDropped (pv :: vs) = countDropped vs + if pv.2.accepted then 0 else 1 := by
  unfold countDropped
  rw [List.countP_cons]
  cases pv.2.accepted <;> rfl

/-- Loop 2 over the points without `time` tag yields the field set and created
    fields of `verdicts`; its verdict list `W` lacks the `time`-tagged points,
    which are all refused. -/
theorem phase2_filter (s : Schema) (pts : List Point) :
    ∃ W, phase2 s (pts.filter (fun p => !hasTimeTag p)) = ((verdicts s pts).1, (verdicts s pts).2.1, W) ∧
      W.filter (fun pv => pv.2.accepted) = (verdicts s pts).2.2.filter (fun pv => pv.2.accepted) ∧
      pts.countP hasTimeTag + countDropped W = countDropped (verdicts s pts).2.2 ∧
      W.any (fun pv => pv.2 == .stripped) = (verdicts s pts).2.2.any (fun pv => pv.2 == .stripped) := by
  induction pts generalizing s with
  | nil => exact ⟨[], rfl, rfl, rfl, rfl⟩
  | cons p ps ih =>
    rw [verdicts_cons, countDropped_cons, List.countP_cons]
    cases ht : hasTimeTag p
    · obtain ⟨W, hW, h3, h4, h5⟩ := ih (pointVerdict s p).1
      rw [List.filter_cons_of_pos (by rw [ht]; rfl), phase2_cons s p _ ht, hW]
      refine ⟨_, rfl, ?_, ?_, ?_⟩
      · rw [List.filter_cons, List.filter_cons, h3]
      · rw [countDropped_cons, ← h4]; exact (Nat.add_assoc _ _ _).symm
      · rw [List.any_cons, List.any_cons, h5]
    · rw [show pointVerdict s p = (s, [], .drop .tagTime) by rw [pointVerdict, ht]; rfl]
      obtain ⟨W, hW, h3, h4, h5⟩ := ih s
      rw [List.filter_cons_of_neg (by rw [ht]; exact Bool.false_ne_true), hW]
      exact ⟨W, rfl, h3, by rw [← h4]; exact Nat.add_right_comm _ _ _, h5⟩

theorem validate_eq (s : Schema) (pts : List Point) :
    (validateTwoPhase s pts).sch = (verdicts s pts).1 ∧
    (validateTwoPhase s pts).created = (verdicts s pts).2.1 ∧
    (validateTwoPhase s pts).kept = ((verdicts s pts).2.2.filter (fun pv => pv.2.accepted)).map (·.1) ∧
    (validateTwoPhase s pts).dropped = countDropped (verdicts s pts).2.2 ∧
    (validateTwoPhase s pts).stripped = (verdicts s pts).2.2.any (fun pv => pv.2 == .stripped) := by
  obtain ⟨W, hW, h3, h4, h5⟩ := phase2_filter s pts
  simp only [validateTwoPhase, hW, h3, h4, h5, and_self]

theorem firstReason_isSome (vs : List (Point × VRes)) :
    (firstReason vs).isSome = true ↔ countDropped vs > 0 := by
  induction vs with
  | nil => exact ⟨fun h => (nomatch h), fun h => absurd h (Nat.lt_irrefl 0)⟩
  | cons a vs ih =>
    obtain ⟨p, v⟩ := a
    rw [countDropped_cons]
    cases v with
    | drop r => exact ⟨fun _ => Nat.succ_pos _, fun _ => rfl⟩
    | ok => exact ih
    | stripped => exact ih

/-- a refusal always has a reason (the `hardError` branch of `writePoints` is dead) -/
theorem validate_reason (s : Schema) (pts : List Point) (h : (validateTwoPhase s pts).dropped > 0) :
    (validateTwoPhase s pts).reason.isSome = true := by
  unfold validateTwoPhase at h ⊢
  by_cases h1 : List.countP hasTimeTag pts > 0
  · simp only [h1, if_true]; rfl
  · simp only [h1, if_false]
    rw [firstReason_isSome]
    simp only at h
    omega

/-- A property of field sets that every successful `CreateFieldIfNotExists` of a
    (non-`time`) field of the point keeps holds after the validation of the point. -/
theorem validateFields_invariant (P : Schema → Prop) (m : String) (fs : List FieldV)
    (step : ∀ f ∈ fs, f.name ≠ timeName → ∀ s r, P s → createField s (m, f.name) f.ty = some r → P r.1)
    (s : Schema) (st : Bool) (h : P s) : P (validateFields m s fs st).1 := by
  fun_induction validateFields m s fs st with
  | case1 | case2 | case4 => exact h
  | case3 s f fs st _ _ ih => exact ih (fun g hg => step g (List.mem_cons_of_mem _ hg)) h
  | case5 s f fs st _ hn s' c hc r ih =>
    exact ih (fun g hg => step g (List.mem_cons_of_mem _ hg)) (step f List.mem_cons_self hn s _ h hc)

theorem pointVerdict_invariant (P : Schema → Prop) (p : Point)
    (step : ∀ f ∈ p.fields, f.name ≠ timeName → ∀ s r, P s → createField s (p.meas, f.name) f.ty = some r → P r.1)
    (s : Schema) (h : P s) : P (pointVerdict s p).1 := by
  unfold pointVerdict
  split
  · exact h
  · split
    · exact h
    · exact validateFields_invariant P _ _ step s false h

theorem verdicts_invariant (P : Schema → Prop) (b : List Point)
    (step : ∀ p ∈ b, ∀ f ∈ p.fields, f.name ≠ timeName →
      ∀ s r, P s → createField s (p.meas, f.name) f.ty = some r → P r.1)
    (s : Schema) (h : P s) : P (verdicts s b).1 := by
  induction b generalizing s with
  | nil => exact h
  | cons p ps ih =>
    rw [verdicts_cons]
    exact ih (fun q hq => step q (List.mem_cons_of_mem _ hq)) _
      (pointVerdict_invariant P p (step p List.mem_cons_self) s h)

theorem validateFields_sub (m : String) (fs : List FieldV) (s : Schema) (st : Bool) :
    Sub s (validateFields m s fs st).1 := fun k t h =>
  validateFields_invariant (·.lookup k = some t) m fs
    (fun _ _ _ s' r hs hc => createField_sub s' _ _ r hc k t hs) s st h

theorem verdicts_sub (b : List Point) (s : Schema) : Sub s (verdicts s b).1 := fun k t h =>
  verdicts_invariant (·.lookup k = some t) b
    (fun _ _ _ _ _ s' r hs hc => createField_sub s' _ _ r hc k t hs) s h

theorem verdicts_nd (b : List Point) (s : Schema) (h : ND s) : ND (verdicts s b).1 :=
  verdicts_invariant ND b (fun _ _ _ _ _ s' r hs hc => nd_createField s' _ _ r hc hs) s h

theorem carries_of_mem (b : List Point) (p : Point) (hp : p ∈ b) (f : FieldV) (hf : f ∈ p.fields)
    (hn : f.name ≠ timeName) : Spec.C10.carries b (p.meas, f.name) f.ty = true :=
  List.any_eq_true.2 ⟨p, hp, Bool.and_eq_true_iff.2 ⟨beq_self_eq_true _,
    List.any_eq_true.2 ⟨f, hf, by simp [hn]⟩⟩⟩

theorem verdicts_new (b : List Point) (s : Schema) (k : FKey) (t : FType)
    (h : (verdicts s b).1.lookup k = some t) :
    s.lookup k = some t ∨ Spec.C10.carries b k t = true := by
  refine verdicts_invariant (fun s' => s'.lookup k = some t → s.lookup k = some t ∨ Spec.C10.carries b k t = true)
    b ?_ s Or.inl h
  intro p hp f hf hn s' r hs hc hk
  rw [lookup_createField s' _ _ r hc k] at hk
  split at hk
  · next hkf => rw [hkf, ← Option.some.inj hk]; exact Or.inr (carries_of_mem b p hp f hf hn)
  · exact hs hk

theorem validateFields_typed (m : String) (fs : List FieldV) (s : Schema) (st : Bool)
    (ha : (validateFields m s fs st).2.2.accepted = true) (f : FieldV) (hf : f ∈ fs)
    (hn : f.name ≠ timeName) : (validateFields m s fs st).1.lookup (m, f.name) = some f.ty := by
  fun_induction validateFields m s fs st with
  | case1 => cases hf
  | case2 | case4 => cases ha
  | case3 s g fs st _ htime ih =>
    rcases List.mem_cons.1 hf with rfl | hf'
    · exact absurd htime hn
    · exact ih ha hf'
  | case5 s g fs st _ _ s' c hc r ih =>
    rcases List.mem_cons.1 hf with rfl | hf'
    · exact validateFields_sub _ _ _ _ _ _ (by rw [lookup_createField s _ _ _ hc, if_pos rfl])
    · exact ih ha hf'

theorem pointVerdict_accepted (s : Schema) (p : Point) (ha : (pointVerdict s p).2.2.accepted = true) :
    hasTimeTag p = false ∧ onlyTimeFields p = false ∧
      pointVerdict s p = validateFields p.meas s p.fields false := by
  unfold pointVerdict at ha ⊢
  split at ha
  · cases ha
  · next h1 =>
    split at ha
    · cases ha
    · next h2 =>
      rw [if_neg h1, if_neg h2]
      exact ⟨Bool.eq_false_iff.2 h1, Bool.eq_false_iff.2 h2, rfl⟩

theorem verdicts_mem (b : List Point) (s : Schema) (p : Point) (v : VRes)
    (hm : (p, v) ∈ (verdicts s b).2.2) :
    ∃ s0, v = (pointVerdict s0 p).2.2 ∧ Sub (pointVerdict s0 p).1 (verdicts s b).1 := by
  induction b generalizing s with
  | nil => cases hm
  | cons q ps ih =>
    rw [verdicts_cons] at hm ⊢
    rcases List.mem_cons.1 hm with heq | hm'
    · cases heq; exact ⟨s, rfl, verdicts_sub ps _⟩
    · exact ih _ hm'

theorem verdicts_typed (b : List Point) (s : Schema) (p : Point) (v : VRes)
    (hm : (p, v) ∈ (verdicts s b).2.2) (ha : v.accepted = true) (f : FieldV) (hf : f ∈ p.fields)
    (hn : f.name ≠ timeName) : (verdicts s b).1.lookup (p.meas, f.name) = some f.ty := by
  obtain ⟨s0, rfl, hsub⟩ := verdicts_mem b s p v hm
  obtain ⟨_, _, he⟩ := pointVerdict_accepted s0 p ha
  rw [he] at ha hsub
  exact hsub _ _ (validateFields_typed _ _ _ _ ha f hf hn)

theorem conflictsWith_elim (s : Schema) (p : Point) (h : Spec.C10.conflictsWith s p = true) :
    ∃ f ∈ p.fields, f.name ≠ timeName ∧ ∃ t, s.lookup (p.meas, f.name) = some t ∧ t ≠ f.ty := by
  obtain ⟨f, hf, hcf⟩ := List.any_eq_true.1 h
  rw [Bool.and_eq_true] at hcf
  refine ⟨f, hf, bne_iff_ne.1 hcf.1, ?_⟩
  split at hcf
  · next t hl => exact ⟨t, hl, bne_iff_ne.1 hcf.2⟩
  · exact nomatch hcf.2

/-- A point that carries another type for a field on record is refused: were it
    accepted, its type would be on record too, next to the one that stays. -/
theorem verdicts_conflict (b : List Point) (s : Schema) (p : Point) (v : VRes)
    (hm : (p, v) ∈ (verdicts s b).2.2) (hc : Spec.C10.conflictsWith s p = true) : v.accepted = false := by
  obtain ⟨f, hf, hn, t, hl, hne⟩ := conflictsWith_elim s p hc
  cases ha : v.accepted
  · rfl
  · have h1 := verdicts_typed b s p v hm ha f hf hn
    rw [verdicts_sub b s _ t hl] at h1
    exact absurd (Option.some.inj h1) hne

theorem accepted_no_timeTag (s : Schema) (pts : List Point) (p : Point) (v : VRes)
    (hm : (p, v) ∈ (verdicts s pts).2.2) (ha : v.accepted = true) : hasTimeTag p = false := by
  obtain ⟨s0, rfl, _⟩ := verdicts_mem pts s p v hm
  exact (pointVerdict_accepted s0 p ha).1

theorem accepted_nonempty (s : Schema) (pts : List Point) (p : Point) (v : VRes)
    (hm : (p, v) ∈ (verdicts s pts).2.2) (ha : v.accepted = true) : pointEntries p ≠ [] := by
  obtain ⟨s0, rfl, _⟩ := verdicts_mem pts s p v hm
  have h2 := (pointVerdict_accepted s0 p ha).2.1
  intro hnil
  rw [pointEntries, List.map_eq_nil_iff, List.filter_eq_nil_iff] at hnil
  rw [onlyTimeFields, List.all_eq_false] at h2
  obtain ⟨f, hf, hft⟩ := h2
  exact hnil f hf (bne_iff_ne.2 fun h => hft (beq_iff_eq.2 h))

theorem createdRecord_append (a b : List (FKey × FType)) :
    createdRecord (a ++ b) = createdRecord a ++ createdRecord b :=
  List.map_append

theorem validateFields_replay (m : String) (fs : List FieldV) (s : Schema) (st : Bool) :
    replay s (createdRecord (validateFields m s fs st).2.1) = (validateFields m s fs st).1 := by
  fun_induction validateFields m s fs st with
  | case1 | case2 | case4 => rfl
  | case3 s g fs st _ _ ih => exact ih
  | case5 s g fs st _ _ s' c hc r ih =>
    rcases createField_some hc with ⟨_, h⟩ | ⟨_, h⟩
    · cases h; exact ih
    · cases h
      show replay (applyChange s (.add m g.name g.ty)) _ = _
      rw [applyChange, hc]
      exact ih

theorem verdicts_replay (b : List Point) (s : Schema) :
    replay s (createdRecord (verdicts s b).2.1) = (verdicts s b).1 := by
  induction b generalizing s with
  | nil => rfl
  | cons p ps ih =>
    have hp : replay s (createdRecord (pointVerdict s p).2.1) = (pointVerdict s p).1 := by
      unfold pointVerdict
      split
      · rfl
      · split
        · rfl
        · exact validateFields_replay _ _ _ _
    rw [verdicts_cons, createdRecord_append, replay_append, hp]
    exact ih _

end Influx.Fields
