/-
  Lemmas.C36RHHMap — `insert`, `Grow`, `NewHashMap`, `Put`, `Get`, `Reset` of the robin-hood map
  as operations of a finite map, for an arbitrary hash function: first on the stored entries
  (`Mem`), then as the function `k ↦ m.get (hf k) k` that a map satisfying `Map.Inv` stands for.
-/
import Influx.Lemmas.C36RHHInsert

namespace Influx.RHH

theorem lt_fuelFor {n c : Nat} (h : n < c) : n < fuelFor c := by unfold fuelFor; omega

theorem insert_spec {hf : Key → Nat} {s : Slots} (hw : WF hf s) (x : Entry) (hx : x.hash = hf x.key)
    (hroom : (∀ e, Mem s e → e.key ≠ x.key) → count s < s.length) :
    ∃ s' ow, insert s x = some (s', ow) ∧ WF hf s' ∧ s'.length = s.length ∧
      (∀ e, Mem s' e ↔ (Mem s e ∧ e.key ≠ x.key) ∨ e = x) ∧
      (ow = true ↔ ∃ e, Mem s e ∧ e.key = x.key) ∧
      count s' = count s + (if ow then 0 else 1) := by
  have hc := hw.pos
  have hhome : x.hash % s.length < s.length := Nat.mod_lt _ hc
  by_cases hex : ∃ e, Mem s e ∧ e.key = x.key
  · obtain ⟨e0, ⟨p, hp⟩, hk⟩ := hex
    have hh : e0.hash = x.hash := by rw [hw.hash p e0 hp, hk, hx]
    have hrun := insertLoop_existing hw x hp hk _ (fuelFor s.length) (e0.hash % s.length) (hh ▸ hhome)
      (by rw [dist_home _ _ hc]; exact Nat.zero_add _)
      (lt_fuelFor (dist_lt e0.hash p s.length hc))
    rw [dist_home _ _ hc, hh] at hrun
    refine ⟨s.set p (some x), true, hrun, ?_, List.length_set, fun e => ?_, ?_, ?_⟩
    · -- overwriting keeps every distance
      refine hw.set hp.lt hx (fun i e hi hke => hw.uniq i p e e0 hi hp (hke.trans hk.symm)) ?_ ?_
      · intro i hi hnp
        rw [← hh]
        subst hnp
        exact hw.rh i e0 hi hp
      · intro y hy
        rw [← At.inj hp hy, hh]
        exact Nat.le_refl _
    · constructor
      · rintro ⟨i, hi⟩
        rcases (at_set hp.lt i x e).mp hi with ⟨_, rfl⟩ | ⟨hip, h⟩
        · exact Or.inr rfl
        · exact Or.inl ⟨⟨i, h⟩, fun hke => hip (hw.uniq i p e e0 h hp (hke.trans hk.symm))⟩
      · rintro (⟨⟨i, hi⟩, hne⟩ | rfl)
        · exact ⟨i, (at_set hp.lt i x e).mpr (Or.inr ⟨fun h => hne (At.inj (h ▸ hi) hp ▸ hk), hi⟩)⟩
        · exact ⟨p, at_set_self hp.lt e⟩
    · exact iff_of_true rfl ⟨e0, ⟨p, hp⟩, hk⟩
    · exact count_set_at x hp
  · have hfresh : ∀ e, Mem s e → e.key ≠ x.key := fun e hm hk => hex ⟨e, hm, hk⟩
    obtain ⟨q, hq, hfq⟩ := exists_free s (hroom hfresh)
    have hI : LoopInv hf s (x.hash % s.length) 0 x :=
      ⟨hw, hx, hfresh, hhome, (dist_home _ _ hc).symm, fun _ _ _ h => absurd rfl h,
        ⟨q, hq, hfq, (Nat.zero_add _).symm ▸ dist_lt (x.hash % s.length) q s.length hc⟩⟩
    obtain ⟨s', hrun, hwf', hlen', hmem, hcnt⟩ := insertLoop_new (fuelFor s.length) s _ 0 x hI
      (fun q' _ _ => lt_fuelFor (dist_lt (x.hash % s.length) q' s.length hc))
    refine ⟨s', false, hrun, hwf', hlen', fun e => ?_, ?_, hcnt⟩
    · rw [hmem e]
      exact or_congr_left ⟨fun h => ⟨h, hfresh e h⟩, And.left⟩
    · exact iff_of_false Bool.false_ne_true hex

theorem at_replicate_none (c i : Nat) (e : Entry) : ¬ At (List.replicate c none) i e := by
  intro h
  have := (List.getElem?_eq_some_iff.mp h).2
  rw [List.getElem_replicate] at this
  cases this

theorem mem_empty (c : Nat) (e : Entry) : ¬ Mem (List.replicate c none) e :=
  fun ⟨i, h⟩ => at_replicate_none c i e h

theorem wf_empty (hf : Key → Nat) (c : Nat) (hc : 0 < c) : WF hf (List.replicate c none) :=
  ⟨by rw [List.length_replicate]; exact hc, fun i e _ h _ => absurd h (at_replicate_none _ _ _),
    fun i j e e' h _ _ => absurd h (at_replicate_none _ _ _),
    fun i e h => absurd h (at_replicate_none _ _ _)⟩

theorem count_empty (c : Nat) : count (List.replicate c (none : Option Entry)) = 0 := by
  simp [count]

def occupied (s : Slots) : List Entry := s.filterMap id

theorem mem_occupied (s : Slots) (e : Entry) : e ∈ occupied s ↔ Mem s e := by
  simp only [occupied, List.mem_filterMap, id]
  constructor
  · rintro ⟨o, ho, rfl⟩
    obtain ⟨i, hi, heq⟩ := List.getElem_of_mem ho
    exact ⟨i, by rw [At, List.getElem?_eq_getElem hi, heq]⟩
  · rintro ⟨i, hi⟩
    exact ⟨some e, List.mem_of_getElem? hi, rfl⟩

theorem count_eq_occupied (s : Slots) : count s = (occupied s).length := by
  induction s with
  | nil => rfl
  | cons a s ih =>
    cases a <;> simp_all [count, occupied]

theorem occupied_pairwise {hf : Key → Nat} {s : Slots} (hw : WF hf s) :
    (occupied s).Pairwise (fun a b => a.key ≠ b.key) := by
  have huniq := hw.uniq
  clear hw
  induction s with
  | nil => exact List.Pairwise.nil
  | cons a s ih =>
    have ih' := ih (fun i j e e' hi hj hk => Nat.succ.inj (huniq (i + 1) (j + 1) e e' hi hj hk))
    cases a with
    | none => exact ih'
    | some x =>
      refine List.pairwise_cons.mpr ⟨fun b hb hk => ?_, ih'⟩
      obtain ⟨j, hj⟩ := (mem_occupied s b).mp hb
      cases huniq 0 (j + 1) x b rfl hj hk

theorem reinsert_spec {hf : Key → Nat} :
    ∀ (old : List (Option Entry)) (acc : Slots), WF hf acc →
      (∀ e ∈ occupied old, e.hash = hf e.key) →
      (occupied old).Pairwise (fun a b => a.key ≠ b.key) →
      (∀ e ∈ occupied old, ∀ e', Mem acc e' → e'.key ≠ e.key) →
      count acc + (occupied old).length < acc.length →
      ∃ s', Map.reinsert old acc = some s' ∧ WF hf s' ∧ s'.length = acc.length ∧
        (∀ e, Mem s' e ↔ Mem acc e ∨ e ∈ occupied old) ∧
        count s' = count acc + (occupied old).length := by
  intro old
  induction old with
  | nil => exact fun acc hw _ _ _ _ => ⟨acc, rfl, hw, rfl, fun e => (or_iff_left List.not_mem_nil).symm, rfl⟩
  | cons o r ih =>
    intro acc hw hh hp hfr hroom
    cases o with
    | none => exact ih acc hw hh hp hfr hroom
    | some x =>
      have hocc : occupied (some x :: r) = x :: occupied r := rfl
      rw [hocc] at hh hp hfr hroom ⊢
      rw [List.length_cons] at hroom ⊢
      have hxfresh : ∀ e', Mem acc e' → e'.key ≠ x.key := hfr x List.mem_cons_self
      obtain ⟨s1, ow, hins, hw1, hlen1, hmem1, how, hcnt1⟩ :=
        insert_spec hw x (hh x List.mem_cons_self) (fun _ => Nat.lt_of_le_of_lt (Nat.le_add_right _ _) hroom)
      cases ow with
      | true => obtain ⟨e, hm, hk⟩ := how.mp rfl; exact absurd hk (hxfresh e hm)
      | false =>
        have hcnt1 : count s1 = count acc + 1 := hcnt1
        have hpair := List.pairwise_cons.mp hp
        obtain ⟨s', hre, hw', hlen', hmem', hcnt'⟩ := ih s1 hw1
          (fun e he => hh e (List.mem_cons_of_mem _ he)) hpair.2
          (fun e he e' hm' => by
            rcases (hmem1 e').mp hm' with ⟨hm, _⟩ | rfl
            · exact hfr e (List.mem_cons_of_mem _ he) e' hm
            · exact hpair.1 e he)
          (by rw [hlen1, hcnt1, Nat.add_assoc, Nat.add_comm 1]; exact hroom)
        refine ⟨s', ?_, hw', hlen'.trans hlen1, fun e => ?_, by rw [hcnt', hcnt1, Nat.add_assoc, Nat.add_comm 1]⟩
        · rw [Map.reinsert, hins]; exact hre
        · rw [hmem' e, hmem1 e, List.mem_cons]
          constructor
          · rintro ((⟨h, _⟩ | h) | h)
            · exact Or.inl h
            · exact Or.inr (Or.inl h)
            · exact Or.inr (Or.inr h)
          · rintro (h | h | h)
            · exact Or.inl (Or.inl ⟨h, hxfresh e h⟩)
            · exact Or.inl (Or.inr h)
            · exact Or.inr h

theorem pow2_spec {v c : Nat} (h : pow2 v = some c) : v ≤ c ∧ 2 ≤ c := by
  unfold pow2 at h
  have hv := List.find?_some h
  obtain ⟨i, _, rfl⟩ := List.mem_map.mp (List.mem_of_find?_eq_some h)
  exact ⟨of_decide_eq_true hv, by rw [Nat.pow_succ]; have := Nat.one_le_two_pow (n := i); omega⟩

theorem pow2_some {v : Nat} (h : v ≤ 2 ^ 61) : ∃ c, pow2 v = some c := by
  unfold pow2
  cases hf : List.find? (fun p => decide (v ≤ p)) ((List.range 61).map fun i => 2 ^ (i + 1)) with
  | some c => exact ⟨c, rfl⟩
  | none =>
    have := List.find?_eq_none.mp hf (2 ^ 61) (List.mem_map.mpr ⟨60, by simp, rfl⟩)
    exact absurd (decide_eq_true h) this

/-- invariant of a hash map: robin-hood slots, `n` counts the occupied slots, and the load
    factor does not exceed 100 % (otherwise `put` can fill the table and `insert` spins) -/
structure Map.Inv (hf : Key → Nat) (m : Map) : Prop where
  wf : WF hf m.slots
  n_eq : m.n = count m.slots
  lf : m.lf ≤ 100

theorem Map.inv_empty (hf : Key → Nat) {c lf : Nat} (hc : 0 < c) (hlf : lf ≤ 100) :
    Map.Inv hf { slots := List.replicate c none, n := 0, lf := lf } :=
  ⟨wf_empty hf c hc, (count_empty c).symm, hlf⟩

theorem Map.new_inv (hf : Key → Nat) {capacity lf : Nat} {m : Map} (h : Map.new capacity lf = some m)
    (hlf : lf ≤ 100) : m.Inv hf ∧ m.n = 0 ∧ ∀ e, ¬ Mem m.slots e := by
  obtain ⟨c, hp, rfl⟩ := Option.map_eq_some_iff.mp h
  exact ⟨Map.inv_empty hf (Nat.lt_of_lt_of_le Nat.zero_lt_two (pow2_spec hp).2) hlf, rfl, mem_empty c⟩

theorem Map.reset_inv {hf : Key → Nat} {m : Map} (h : m.Inv hf) :
    m.reset.Inv hf ∧ m.reset.n = 0 ∧ ∀ e, ¬ Mem m.reset.slots e :=
  ⟨Map.inv_empty hf h.wf.pos h.lf, rfl, mem_empty _⟩

theorem Map.grow_some {hf : Key → Nat} {m : Map} (h : m.Inv hf) {sz c : Nat} (hp : pow2 sz = some c) :
    ∃ m', m.grow sz = some m' ∧ m'.Inv hf ∧ (∀ e, Mem m'.slots e ↔ Mem m.slots e) ∧ m'.n = m.n ∧
      m.cap ≤ m'.cap ∧ c ≤ m'.cap := by
  simp only [Map.grow, hp]
  by_cases hle : c ≤ m.cap
  · rw [if_pos hle]
    exact ⟨m, rfl, h, fun _ => Iff.rfl, rfl, Nat.le_refl _, hle⟩
  · rw [if_neg hle]
    have hlt : m.slots.length < c := Nat.lt_of_not_le hle
    obtain ⟨s', hre, hw', hlen', hmem', hcnt'⟩ := reinsert_spec m.slots (List.replicate c none)
      (wf_empty hf c (Nat.lt_of_lt_of_le Nat.zero_lt_two (pow2_spec hp).2))
      (fun e he => (mem_occupied m.slots e).mp he |>.elim fun i hi => h.wf.hash i e hi)
      (occupied_pairwise h.wf)
      (fun e _ e' hm' => absurd hm' (mem_empty c e'))
      (by rw [count_empty, ← count_eq_occupied, List.length_replicate, Nat.zero_add]
          exact Nat.lt_of_le_of_lt (count_le m.slots) hlt)
    rw [count_empty, ← count_eq_occupied, Nat.zero_add] at hcnt'
    rw [List.length_replicate] at hlen'
    refine ⟨{ m with slots := s' }, by rw [hre]; rfl, ⟨hw', h.n_eq.trans hcnt'.symm, h.lf⟩, fun e => ?_, rfl, ?_, ?_⟩
    · rw [hmem' e, mem_occupied]
      exact or_iff_right (mem_empty c e)
    · exact Nat.le_of_lt (Nat.lt_of_lt_of_eq hlt hlen'.symm)
    · exact Nat.le_of_eq hlen'.symm

theorem Map.grow_spec {hf : Key → Nat} {m m' : Map} (h : m.Inv hf) {sz : Nat} (hg : m.grow sz = some m') :
    m'.Inv hf ∧ (∀ e, Mem m'.slots e ↔ Mem m.slots e) ∧ m'.n = m.n := by
  cases hp : pow2 sz with
  | none => rw [Map.grow, hp] at hg; cases hg
  | some c =>
    obtain ⟨m1, hg1, hI, hmem, hn, _⟩ := Map.grow_some h hp
    cases hg1.symm.trans hg
    exact ⟨hI, hmem, hn⟩

theorem threshold_le {m : Map} (hlf : m.lf ≤ 100) : m.threshold ≤ m.cap :=
  Nat.div_le_of_le_mul (Nat.mul_comm 100 m.cap ▸ Nat.mul_le_mul_left _ hlf)

/-- the first half of `put`: `Grow` to twice the capacity once the threshold is reached -/
def Map.grown (m : Map) : Option Map := if m.threshold < m.n + 1 then m.grow (m.cap * 2) else some m

theorem Map.put_eq (m : Map) (h : Nat) (k : Key) (v : Int) :
    m.put h k v = match m.grown with
      | none => none
      | some m1 => match insert m1.slots ⟨h, k, v⟩ with
        | none => none
        | some (s, ow) => some { m1 with slots := s, n := if ow then m.n + 1 - 1 else m.n + 1 } := rfl

theorem Map.grown_spec {hf : Key → Nat} {m m1 : Map} (h : m.Inv hf) (hs : m.grown = some m1) :
    m1.Inv hf ∧ (∀ e, Mem m1.slots e ↔ Mem m.slots e) ∧ m1.n = m.n ∧ count m1.slots < m1.slots.length := by
  have hn : m.n ≤ m.slots.length := h.n_eq ▸ count_le m.slots
  unfold Map.grown at hs
  split at hs
  · cases hp : pow2 (m.cap * 2) with
    | none => rw [Map.grow, hp] at hs; cases hs
    | some c =>
      obtain ⟨m', hg, hI, hmem, hn', _, hcap⟩ := Map.grow_some h hp
      cases hg.symm.trans hs
      refine ⟨hI, hmem, hn', ?_⟩
      -- the new capacity is at least twice the old one
      rw [← hI.n_eq, hn']
      exact Nat.lt_of_le_of_lt hn (Nat.lt_of_lt_of_le
        ((Nat.lt_mul_iff_one_lt_right h.wf.pos).mpr Nat.one_lt_two) (Nat.le_trans (pow2_spec hp).1 hcap))
  · next hth =>
    cases hs
    rw [← h.n_eq]
    exact ⟨h, fun _ => Iff.rfl, rfl, Nat.lt_of_lt_of_le (Nat.lt_of_succ_le (Nat.le_of_not_lt hth)) (threshold_le h.lf)⟩

theorem Map.grown_some {hf : Key → Nat} {m : Map} (h : m.Inv hf) (hcap : m.cap * 2 ≤ 2 ^ 61) :
    ∃ m1, m.grown = some m1 := by
  unfold Map.grown
  split
  · obtain ⟨c, hc⟩ := pow2_some hcap
    obtain ⟨m1, hg, _⟩ := Map.grow_some h hc
    exact ⟨m1, hg⟩
  · exact ⟨m, rfl⟩

theorem Map.put_spec {hf : Key → Nat} {m m' : Map} (h : m.Inv hf) (k : Key) (v : Int)
    (hp : m.put (hf k) k v = some m') :
    m'.Inv hf ∧ (∀ e, Mem m'.slots e ↔ (Mem m.slots e ∧ e.key ≠ k) ∨ e = ⟨hf k, k, v⟩) ∧
      ((∃ e, Mem m.slots e ∧ e.key = k) → m'.n = m.n) ∧
      ((∀ e, Mem m.slots e → e.key ≠ k) → m'.n = m.n + 1) := by
  rw [Map.put_eq] at hp
  cases hs : m.grown with
  | none => rw [hs] at hp; cases hp
  | some m1 =>
    obtain ⟨hI1, hmem1, hn1, hroom⟩ := Map.grown_spec h hs
    obtain ⟨s', ow, hins, hw', _, hmem', how, hcnt'⟩ :=
      insert_spec hI1.wf ⟨hf k, k, v⟩ rfl (fun _ => hroom)
    rw [hs] at hp
    simp only [hins, Option.some.injEq] at hp
    subst hp
    rw [← hI1.n_eq, hn1] at hcnt'
    have hex : ow = true ↔ ∃ e, Mem m.slots e ∧ e.key = k :=
      how.trans (exists_congr fun e => and_congr_left fun _ => hmem1 e)
    refine ⟨⟨hw', ?_, hI1.lf⟩, fun e => by rw [← hmem1 e]; exact hmem' e, fun hh => ?_, fun hh => ?_⟩
    · rw [hcnt']; cases ow <;> rfl
    · rw [hex.mpr hh]; rfl
    · cases ow with
      | false => rfl
      | true => obtain ⟨e, hm, hk⟩ := hex.mp rfl; exact absurd hk (hh e hm)

theorem Map.put_total {hf : Key → Nat} {m : Map} (h : m.Inv hf) (k : Key) (v : Int)
    (hcap : m.cap * 2 ≤ 2 ^ 61) : ∃ m', m.put (hf k) k v = some m' := by
  obtain ⟨m1, hs⟩ := Map.grown_some h hcap
  obtain ⟨s', ow, hins, _⟩ :=
    insert_spec (Map.grown_spec h hs).1.wf ⟨hf k, k, v⟩ rfl (fun _ => (Map.grown_spec h hs).2.2.2)
  rw [Map.put_eq, hs]
  simp only [hins]
  exact ⟨_, rfl⟩

theorem Map.get_spec {hf : Key → Nat} {m : Map} (h : m.Inv hf) (k : Key) (v : Int) :
    m.get (hf k) k = some v ↔ ∃ e, Mem m.slots e ∧ e.key = k ∧ e.val = v := by
  rw [Map.get, Option.map_eq_some_iff]
  exact exists_congr fun e => by rw [lookup_some_iff h.wf k e, and_assoc]

theorem Map.get_none {hf : Key → Nat} {m : Map} (h : m.Inv hf) (k : Key) :
    m.get (hf k) k = none ↔ ∀ e, Mem m.slots e → e.key ≠ k := by
  rw [Map.get, Option.map_eq_none_iff]
  constructor
  · intro hg e hm hk
    cases ((lookup_some_iff h.wf k e).mpr ⟨hm, hk⟩).symm.trans hg
  · exact lookup_absent m.slots (hf k) k

theorem Map.get_congr {hf : Key → Nat} {m m' : Map} (h : m.Inv hf) (h' : m'.Inv hf) (k : Key)
    (hmem : ∀ e, e.key = k → (Mem m'.slots e ↔ Mem m.slots e)) : m'.get (hf k) k = m.get (hf k) k :=
  Option.ext fun v => by
    rw [Map.get_spec h, Map.get_spec h']
    exact exists_congr fun e => and_congr_left fun hk => hmem e hk.1

theorem Map.get_empty {hf : Key → Nat} {m : Map} (h : m.Inv hf) (hemp : ∀ e, ¬ Mem m.slots e) (k : Key) :
    m.get (hf k) k = none :=
  (Map.get_none h k).mpr fun e he => absurd he (hemp e)

theorem Map.put_get {hf : Key → Nat} {m m' : Map} (h : m.Inv hf) (k : Key) (v : Int)
    (hp : m.put (hf k) k v = some m') :
    m'.Inv hf ∧ m'.get (hf k) k = some v ∧
      (∀ k', k' ≠ k → m'.get (hf k') k' = m.get (hf k') k') ∧
      ((∃ e, Mem m.slots e ∧ e.key = k) → m'.n = m.n) ∧
      ((∀ e, Mem m.slots e → e.key ≠ k) → m'.n = m.n + 1) := by
  obtain ⟨hI', hmem, hn⟩ := Map.put_spec h k v hp
  refine ⟨hI', (Map.get_spec hI' k v).mpr ⟨⟨hf k, k, v⟩, (hmem _).mpr (Or.inr rfl), rfl, rfl⟩,
    fun k' hk' => Map.get_congr h hI' k' fun e hke => ?_, hn⟩
  rw [hmem e]
  constructor
  · rintro (he | rfl)
    · exact he.1
    · exact absurd hke.symm hk'
  · exact fun he => Or.inl ⟨he, hke ▸ hk'⟩

theorem Map.grow_get {hf : Key → Nat} {m m' : Map} (h : m.Inv hf) {sz : Nat} (hg : m.grow sz = some m') :
    m'.Inv hf ∧ (∀ k, m'.get (hf k) k = m.get (hf k) k) ∧ m'.n = m.n := by
  obtain ⟨hI', hmem, hn⟩ := Map.grow_spec h hg
  exact ⟨hI', fun k => Map.get_congr h hI' k fun e _ => hmem e, hn⟩

end Influx.RHH
