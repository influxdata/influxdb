/-
  Lemmas.HLLBits — bit-length arithmetic and the theorem that the sparse hash coding of
  `hll.Plus` (`encodeHash`/`decodeHash` at p′ = 25) yields exactly the dense `(index, rho)`.

  A 64-bit hash is split once, `x = a·2^39 + low`: `a` is the 25 bits the sparse coding keeps, its top
  `p` bits `a / 2^(25-p)` the index, its other bits `a % 2^(25-p)` the "middle".  Each of `encodeHash`,
  `decodeHash` (on the two key shapes) and `denseIdxRho` is evaluated on that form.
-/
import Influx.Model.HLL

namespace Influx.Lemmas.HLLBits
open Influx.Model.HLL

theorem bitLen_zero : bitLen 0 = 0 := rfl

theorem bitLen_eq (c k : Nat) (h1 : 2 ^ k ≤ c) (h2 : c < 2 ^ (k + 1)) : bitLen c = k + 1 := by
  have hc : c ≠ 0 := Nat.ne_of_gt (Nat.lt_of_lt_of_le (Nat.pow_pos (by decide)) h1)
  have a : Nat.log2 c < k + 1 := (Nat.log2_lt hc).mpr h2
  have b : ¬ Nat.log2 c < k := fun h => Nat.not_le_of_lt ((Nat.log2_lt hc).mp h) h1
  rw [bitLen, if_neg hc]
  omega

theorem bitLen_le (c k : Nat) (h : c < 2 ^ k) : bitLen c ≤ k := by
  unfold bitLen
  split
  · exact Nat.zero_le k
  · next hc => exact (Nat.log2_lt hc).mpr h

theorem bitLen_shift (c j d : Nat) (hc : 0 < c) (hd : d < 2 ^ j) : bitLen (c * 2 ^ j + d) = bitLen c + j := by
  have hc0 : c ≠ 0 := Nat.ne_of_gt hc
  have lo : 2 ^ (Nat.log2 c + j) ≤ c * 2 ^ j + d := by
    rw [Nat.pow_add]
    exact Nat.le_trans (Nat.mul_le_mul_right _ (Nat.log2_self_le hc0)) (Nat.le_add_right ..)
  have hi : c * 2 ^ j + d < 2 ^ (Nat.log2 c + j + 1) := by
    rw [Nat.add_right_comm, Nat.pow_add]
    calc c * 2 ^ j + d < c * 2 ^ j + 2 ^ j := Nat.add_lt_add_left hd _
      _ = (c + 1) * 2 ^ j := (Nat.succ_mul ..).symm
      _ ≤ 2 ^ (Nat.log2 c + 1) * 2 ^ j := Nat.mul_le_mul_right _ Nat.lt_log2_self
  rw [bitLen_eq _ _ lo hi, bitLen, if_neg hc0]
  omega

theorem bitLen_pow (j : Nat) : bitLen (2 ^ j) = j + 1 :=
  bitLen_eq _ j (Nat.le_refl _) (Nat.pow_lt_pow_right (by decide) (Nat.lt_succ_self j))

theorem bitLen_ones (j : Nat) : bitLen (2 ^ j - 1) = j := by
  cases j with
  | zero => rfl
  | succ j =>
    have hp := Nat.pow_pos (n := j) (by decide : 0 < 2)
    have := Nat.pow_succ 2 j
    apply bitLen_eq <;> omega

theorem bitLen_shift_fill (c j d : Nat) (hd : d < 2 ^ j) (hj : bitLen d = j) :
    bitLen (c * 2 ^ j + d) = bitLen c + j := by
  by_cases hc : c = 0
  · rw [hc, Nat.zero_mul, Nat.zero_add, hj, bitLen_zero, Nat.zero_add]
  · exact bitLen_shift c j d (Nat.pos_of_ne_zero hc) hd

/-- `LeadingZeros64 + 1` of a word made of `y` above a `j`-bit fill -/
theorem clz64_fill (y j d : Nat) (hj : j ≤ 64) (hy : y < 2 ^ (64 - j)) (hd : d < 2 ^ j) (hb : bitLen d = j) :
    clz64 (y * 2 ^ j + d) + 1 = 65 - j - bitLen y := by
  rw [clz64, bitLen_shift_fill y j d hd hb, ← Nat.sub_add_comm (Nat.add_le_of_le_sub hj (bitLen_le y _ hy)),
    Nat.add_comm (bitLen y), Nat.sub_add_eq]

theorem bextr_eq (v s l : Nat) : bextr v s l = v / 2 ^ s % 2 ^ l := by
  unfold bextr; rw [Nat.and_two_pow_sub_one_eq_mod, Nat.shiftRight_eq_div_pow]

theorem and_one (k : Nat) : k &&& 1 = k % 2 := Nat.and_two_pow_sub_one_eq_mod k 1

theorem shl_or (a k b : Nat) (hb : b < 2 ^ k) : (a * 2 ^ k) ||| b = a * 2 ^ k + b := by
  rw [← Nat.shiftLeft_eq, Nat.shiftLeft_add_eq_or_of_lt hb]

theorem div_low (a r c : Nat) (hr : r < 2 ^ c) : (a * 2 ^ c + r) / 2 ^ c = a := by
  rw [Nat.mul_comm, Nat.mul_add_div (Nat.pow_pos (by decide)), Nat.div_eq_of_lt hr, Nat.add_zero]

theorem div_high (a r c q : Nat) (hr : r < 2 ^ c) : (a * 2 ^ c + r) / 2 ^ (c + q) = a / 2 ^ q := by
  rw [Nat.pow_add, ← Nat.div_div_eq_div_mul, div_low a r c hr]

theorem mod_high (a r c q : Nat) (hr : r < 2 ^ c) : (a * 2 ^ c + r) % 2 ^ (c + q) = a % 2 ^ q * 2 ^ c + r := by
  rw [Nat.pow_add, Nat.mod_mul, Nat.mul_add_mod_of_lt hr, div_low a r c hr, Nat.add_comm, Nat.mul_comm]

theorem shl_mod (a k n : Nat) : (a * 2 ^ k) % 2 ^ (n + k) = a % 2 ^ n * 2 ^ k := by
  rw [Nat.pow_add, Nat.mul_mod_mul_right]

theorem u32_shl (a k : Nat) (h : a * 2 ^ k < 2 ^ 32) : u32 (a <<< k) = a * 2 ^ k := by
  rw [u32, Nat.shiftLeft_eq, Nat.mod_eq_of_lt h]

theorem dense_arith (p x : Nat) (hp1 : 1 ≤ p) (hp : p ≤ 64) (hx : x < 2 ^ 64) :
    denseIdxRho p x = (x / 2 ^ (64 - p), (65 - p - bitLen (x % 2 ^ (64 - p))) % 256) := by
  have h64 : 2 ^ 64 = 2 ^ (64 - p + p) := congrArg (2 ^ ·) (Nat.sub_add_cancel hp).symm
  have hi : x / 2 ^ (64 - p) < 2 ^ p := by
    rw [Nat.div_lt_iff_lt_mul (Nat.pow_pos (by decide)), Nat.mul_comm, ← Nat.pow_add, ← h64]; exact hx
  have hw : u64 (x <<< p) = x % 2 ^ (64 - p) * 2 ^ p := by
    rw [u64, Nat.shiftLeft_eq, h64, shl_mod]
  unfold denseIdxRho
  simp only [bextr_eq, Nat.mod_eq_of_lt hi, hw,
    shl_or _ p _ (Nat.pow_lt_pow_right Nat.one_lt_two (Nat.sub_lt hp1 Nat.one_pos)),
    clz64_fill _ p _ hp (Nat.mod_lt x (Nat.pow_pos (by decide)))
      (Nat.pow_lt_pow_right Nat.one_lt_two (Nat.sub_lt hp1 Nat.one_pos))
      ((bitLen_pow _).trans (Nat.sub_add_cancel hp1))]

theorem idx_lt (p a : Nat) (hp : p ≤ 25) (ha : a < 2 ^ 25) : a / 2 ^ (25 - p) < 2 ^ p := by
  rw [Nat.div_lt_iff_lt_mul (Nat.pow_pos (by decide)), ← Nat.pow_add, Nat.add_sub_cancel' hp]
  exact ha

theorem dense_parts (p a low : Nat) (hp1 : 1 ≤ p) (hp : p ≤ 25) (ha : a < 2 ^ 25) (hlow : low < 2 ^ 39) :
    denseIdxRho p (a * 2 ^ 39 + low) =
      (a / 2 ^ (25 - p), (65 - p - bitLen (a % 2 ^ (25 - p) * 2 ^ 39 + low)) % 256) := by
  rw [dense_arith p _ hp1 (Nat.le_trans hp (by decide)) (by omega),
    show 64 - p = 39 + (25 - p) from Nat.add_sub_assoc hp 39,
    div_high a low 39 _ hlow, mod_high a low 39 _ hlow]

/-- `zeros` of `encodeHash`: the leading zeros of the low 39 bits, plus one -/
theorem zeros_eq (low : Nat) (h : low < 2 ^ 39) :
    clz64 (u64 (low <<< 25) ||| (2 ^ 25 - 1)) + 1 = 40 - bitLen low := by
  have e : u64 (low <<< 25) = low * 2 ^ 25 := by
    rw [u64, Nat.shiftLeft_eq]; exact Nat.mod_eq_of_lt (Nat.mul_lt_mul_of_pos_right h (by decide))
  rw [e, shl_or _ _ _ (by decide)]
  exact clz64_fill low 25 _ (by decide) h (by decide) (bitLen_ones 25)

/-- the key with the `zeros` field: index bits, 6 bits of `z`, flag 1 -/
theorem key_odd (a z : Nat) (ha : a < 2 ^ 25) (hz : z < 64) :
    u32 (a <<< 7) ||| u32 (z <<< 1) ||| 1 = a * 2 ^ 7 + (z * 2 ^ 1 + 1) := by
  rw [u32_shl a 7 (Nat.mul_lt_mul_of_pos_right ha (by decide)), u32_shl z 1 (by omega), Nat.or_assoc,
    shl_or z 1 1 (by decide), shl_or a 7 _ (by omega)]

theorem encodeHash_parts (p a low : Nat) (ha : a < 2 ^ 25) (hlow : low < 2 ^ 39) :
    encodeHash p (a * 2 ^ 39 + low) =
      if a % 2 ^ (25 - p) = 0 then a * 2 ^ 7 + ((40 - bitLen low) * 2 ^ 1 + 1) else a * 2 ^ 1 := by
  have h2 : (a * 2 ^ 39 + low) / 2 ^ 0 % 2 ^ 39 = low := by
    rw [Nat.pow_zero, Nat.div_one, Nat.mul_add_mod_of_lt hlow]
  have h3 : u32 (a % 2 ^ 25) = a := by
    rw [u32, Nat.mod_eq_of_lt ha, Nat.mod_eq_of_lt (Nat.lt_trans ha (by decide))]
  unfold encodeHash
  simp only [pp, bextr_eq, div_low a low 39 hlow, h2, h3, zeros_eq low hlow,
    key_odd a _ ha (Nat.lt_of_le_of_lt (Nat.sub_le 40 _) (by decide : 40 < 64)),
    u32_shl a 1 (Nat.lt_trans (Nat.mul_lt_mul_of_pos_right ha (by decide)) (by decide))]

theorem decodeHash_odd (p a z : Nat) (hp : p ≤ 25) (ha : a < 2 ^ 25) (hz : z < 64) :
    decodeHash p (a * 2 ^ 7 + (z * 2 ^ 1 + 1)) = (a / 2 ^ (25 - p), (z + 25 - p) % 256) := by
  -- the key as nested fields: flag, then `z`, then `a`
  have hk : a * 2 ^ 7 + (z * 2 ^ 1 + 1) = (a * 2 ^ 6 + z) * 2 ^ 1 + 1 := by omega
  have hodd : ((a * 2 ^ 6 + z) * 2 ^ 1 + 1) % 2 = 1 := Nat.mul_add_mod_of_lt (by decide)
  have h2 : ((a * 2 ^ 6 + z) * 2 ^ 1 + 1) / 2 ^ 1 % 2 ^ 6 = z := by
    rw [div_low _ 1 1 (by decide)]; exact Nat.mul_add_mod_of_lt hz
  have h1 : ((a * 2 ^ 6 + z) * 2 ^ 1 + 1) / 2 ^ (32 - p) = a / 2 ^ (25 - p) := by
    rw [show 32 - p = 1 + (6 + (25 - p)) from (Nat.add_sub_assoc hp 7).trans (Nat.add_assoc 1 6 _),
      div_high _ 1 1 _ (by decide), div_high a z 6 _ hz]
  unfold decodeHash getIndex
  simp only [hk, pp, and_one, hodd, if_true, bextr_eq, h1, h2, Nat.mod_eq_of_lt (idx_lt p a hp ha)]

theorem decodeHash_even (p a : Nat) (hp : p ≤ 25) (hm : 0 < a % 2 ^ (25 - p)) (ha : a < 2 ^ 25) :
    decodeHash p (a * 2 ^ 1) = (a / 2 ^ (25 - p), (33 - (7 + p) - bitLen (a % 2 ^ (25 - p))) % 256) := by
  have es : 32 - 25 + p - 1 = 6 + p := Nat.sub_add_comm (by decide : 1 ≤ 7)
  have e32 : 32 = 25 - p + (7 + p) := by omega
  have hev : (a * 2 ^ 1) % 2 ≠ 1 := Nat.mul_mod_left a 2 ▸ (by decide)
  have hb := bitLen_le _ _ (Nat.mod_lt a (Nat.pow_pos (by decide) : 0 < 2 ^ (25 - p)))
  have hle : bitLen (a % 2 ^ (25 - p)) + (7 + p) ≤ 32 := by omega
  have h1 : (a * 2 ^ 1) / 2 ^ (25 - p + 1) = a / 2 ^ (25 - p) := by
    rw [Nat.add_comm]; exact div_high a 0 1 _ (by decide)
  -- the 32-bit shift drops the index bits and leaves the middle bits on top
  have h2 : u32 ((a * 2 ^ 1) <<< (32 - 25 + p - 1)) = a % 2 ^ (25 - p) * 2 ^ (7 + p) := by
    rw [u32, Nat.shiftLeft_eq, es, Nat.mul_assoc, ← Nat.pow_add, ← Nat.add_assoc, e32, shl_mod]
  have h3 : bitLen (a % 2 ^ (25 - p) * 2 ^ (7 + p)) = bitLen (a % 2 ^ (25 - p)) + (7 + p) :=
    bitLen_shift _ _ 0 hm (Nat.pow_pos (by decide))
  unfold decodeHash getIndex
  simp only [pp, and_one, hev, if_false, bextr_eq, h1, h2, Nat.mod_eq_of_lt (idx_lt p a hp ha), clz32, h3]
  rw [← Nat.sub_add_comm hle, Nat.add_comm (bitLen _), Nat.sub_add_eq]

/-- **`decodeHash ∘ encodeHash` is the dense `(index, rho)`**: the sparse coding at p′ = 25 loses
    nothing the dense registers need, for every precision 4..18 and every 64-bit hash. -/
theorem decode_encode (p x : Nat) (hp4 : 4 ≤ p) (hp18 : p ≤ 18) (hx : x < 2 ^ 64) :
    decodeHash p (encodeHash p x) = denseIdxRho p x := by
  have hp : p ≤ 25 := Nat.le_trans hp18 (by decide)
  have ha : x / 2 ^ 39 < 2 ^ 25 := Nat.div_lt_of_lt_mul hx
  have hlow : x % 2 ^ 39 < 2 ^ 39 := Nat.mod_lt _ (by decide)
  rw [← Nat.div_add_mod' x (2 ^ 39)]
  generalize x / 2 ^ 39 = a at ha
  generalize x % 2 ^ 39 = low at hlow
  have hl := bitLen_le low 39 hlow
  rw [encodeHash_parts p a low ha hlow, dense_parts p a low (Nat.le_trans (by decide) hp4) hp ha hlow]
  split
  · -- no middle bits: rho comes from the low 39 bits, carried in the key
    next hm =>
    rw [decodeHash_odd p a _ hp ha (Nat.lt_of_le_of_lt (Nat.sub_le 40 _) (by decide : 40 < 64)), hm, Nat.zero_mul, Nat.zero_add,
      ← Nat.sub_add_comm (Nat.le_succ_of_le hl), Nat.sub_right_comm]
  · -- rho comes from the middle bits, which the key still holds
    next hm =>
    have hm' : 0 < a % 2 ^ (25 - p) := Nat.pos_of_ne_zero hm
    rw [decodeHash_even p a hp hm' ha, bitLen_shift _ 39 low hm' hlow, Nat.add_comm _ 39, Nat.sub_add_eq (65 - p) 39,
      Nat.sub_right_comm 65 p 39, Nat.sub_add_eq 33 7 p]

end Influx.Lemmas.HLLBits
