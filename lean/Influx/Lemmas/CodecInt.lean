/-
  Lemmas.CodecInt — wrapped deltas (the layer the integer and the timestamp codec share: integer deltas are
  timestamp deltas under zigzag) and the integer codec, which decodes what it encodes.
-/
import Influx.Lemmas.CodecBase
import Influx.Lemmas.CodecS8b
import Influx.Model.CodecBlock
namespace Influx.Codec
open Influx.Generated.Codec

theorem wrap_sub_add (prev v : Nat) (hp : prev < W) (hv : v < W) : (prev + (v + W - prev) % W) % W = v := by
  rw [Nat.add_mod_mod, Nat.add_sub_of_le (Nat.le_trans (Nat.le_of_lt hp) (Nat.le_add_left W v)), Nat.add_mod_right,
    Nat.mod_eq_of_lt hv]

theorem tsGo_lt (prev : Nat) (xs : List Nat) : ∀ d ∈ tsDeltas.go prev xs, d < W := by
  induction xs generalizing prev with
  | nil => nofun
  | cons x xs ih => exact List.forall_mem_cons.mpr ⟨Nat.mod_lt _ (by decide), ih x⟩

theorem tsGo_length (prev : Nat) (xs : List Nat) : (tsDeltas.go prev xs).length = xs.length := by
  induction xs generalizing prev with
  | nil => rfl
  | cons x xs ih => exact congrArg (· + 1) (ih x)

theorem unTs_go (prev : Nat) (xs : List Nat) (hp : prev < W) (hx : ∀ x ∈ xs, x < W) :
    unTsDeltas 1 prev (tsDeltas.go prev xs) = xs := by
  induction xs generalizing prev with
  | nil => rfl
  | cons x xs ih =>
    obtain ⟨hxx, hxs⟩ := List.forall_mem_cons.mp hx
    simp only [tsDeltas.go, unTsDeltas]
    rw [Nat.mul_one, Nat.mod_mod, wrap_sub_add prev x hp hxx, ih x hxx hxs]

theorem rleTimes_go (d : Nat) : ∀ (xs : List Nat) (prev : Nat), prev < W → (∀ x ∈ xs, x < W) →
    (∀ e ∈ tsDeltas.go prev xs, e = d) → rleTimes ((prev + d) % W) d xs.length = xs := by
  intro xs
  induction xs with
  | nil => intros; rfl
  | cons x xs ih =>
    intro prev hp hx he
    obtain ⟨hxx, hxs⟩ := List.forall_mem_cons.mp hx
    obtain ⟨rfl, he'⟩ := List.forall_mem_cons.mp he
    simp only [List.length_cons, rleTimes]
    rw [wrap_sub_add prev x hp hxx, ih x hxx hxs he']

theorem allEqTail_spec (e0 e1 : Nat) (rest : List Nat) (h : allEqTail (e0 :: e1 :: rest) = true) :
    ∀ e ∈ e1 :: rest, e = e1 :=
  List.forall_mem_cons.mpr ⟨rfl, fun e he => by simpa using List.all_eq_true.mp h e he⟩

theorem zzDeltas_eq (prev : Nat) (vs : List Nat) : zzDeltas prev vs = (tsDeltas.go prev vs).map zigzagEnc := by
  induction vs generalizing prev with
  | nil => rfl
  | cons v vs ih => exact congrArg (_ :: ·) (ih v)

theorem unDeltas_map (prev : Nat) (ds : List Nat) (hd : ∀ d ∈ ds, d < W) :
    unDeltas prev (ds.map zigzagEnc) = unTsDeltas 1 prev ds := by
  induction ds generalizing prev with
  | nil => rfl
  | cons d ds ih =>
    obtain ⟨hdd, hds⟩ := List.forall_mem_cons.mp hd
    simp only [List.map_cons, unDeltas, unTsDeltas]
    rw [zigzag_roundtrip d hdd, Nat.mul_one, Nat.mod_eq_of_lt hdd, ih _ hds]

theorem unDeltas_zzDeltas (prev : Nat) (vs : List Nat) (hp : prev < W) (hv : ∀ v ∈ vs, v < W) :
    unDeltas prev (zzDeltas prev vs) = vs := by
  rw [zzDeltas_eq, unDeltas_map _ _ (tsGo_lt prev vs), unTs_go prev vs hp hv]

theorem zzDeltas_lt (prev : Nat) (vs : List Nat) : ∀ e ∈ zzDeltas prev vs, e < W := by
  rw [zzDeltas_eq]
  intro e he
  obtain ⟨d, _, rfl⟩ := List.mem_map.mp he
  exact zigzagEnc_lt d

theorem zzDeltas_length (prev : Nat) (vs : List Nat) : (zzDeltas prev vs).length = vs.length := by
  rw [zzDeltas_eq, List.length_map, tsGo_length]

theorem zigzagEnc_inj (a b : Nat) (ha : a < W) (hb : b < W) (h : zigzagEnc a = zigzagEnc b) : a = b := by
  rw [← zigzag_roundtrip a ha, ← zigzag_roundtrip b hb, h]

/-- the integer decoder's indexed run-length expansion is the timestamp decoder's iterated one -/
theorem rleExpand_eq_rleTimes (first d : Nat) : ∀ n i, rleExpand first d n i = rleTimes ((first + i * d) % W) d n := by
  intro n
  induction n with
  | zero => intro i; rfl
  | succ n ih =>
    intro i
    simp only [rleExpand, rleTimes]
    rw [ih (i + 1), Nat.mod_add_mod, Nat.succ_mul, Nat.add_assoc]

theorem words_wordsToBytes (ws : List Nat) (h : ∀ w ∈ ws, w < W) : words (wordsToBytes ws) = (ws, []) :=
  words_flatMap_putU64 ws h

/-! ### the three layouts, over generic words (so that the kernel never has to evaluate a codec) -/

theorem intDecode_rle_fmt (e0 e1 cnt : Nat) (h0 : e0 < W) (h1 : e1 < W) (hc : cnt < W) :
    intDecode ((intCompressedRLE * 16) :: (putU64 e0 ++ putUvarint e1 ++ putUvarint cnt)) =
      some (rleExpand (zigzagDec e0) (zigzagDec e1) (cnt + 1) 0) := by
  have hcnt := getUvarint_put cnt hc []
  rw [List.append_nil] at hcnt
  simp only [intDecode, (by decide : intCompressedRLE * 16 / 16 = intCompressedRLE),
    (by decide : ¬ intCompressedRLE = intUncompressed), (by decide : ¬ intCompressedRLE = intCompressedSimple),
    if_false, if_true, List.append_assoc, getU64_putU64 _ h0, getUvarint_put _ h1, hcnt]

theorem intDecode_raw_fmt (ws : List Nat) (h : ∀ w ∈ ws, w < W) :
    intDecode ((intUncompressed * 16) :: ws.flatMap putU64) = some (unDeltas 0 ws) := by
  simp only [intDecode, (by decide : intUncompressed * 16 / 16 = intUncompressed), if_true,
    words_flatMap_putU64 ws h, List.isEmpty_nil]

theorem intDecode_packed_fmt (e0 : Nat) (ws : List Nat) (h0 : e0 < W) (h : ∀ w ∈ ws, w < W) :
    intDecode ((intCompressedSimple * 16) :: (putU64 e0 ++ wordsToBytes ws)) = some (unDeltas 0 (e0 :: decodeWords ws)) := by
  simp only [intDecode, (by decide : intCompressedSimple * 16 / 16 = intCompressedSimple),
    (by decide : ¬ intCompressedSimple = intUncompressed), if_false, if_true, getU64_putU64 _ h0,
    words_wordsToBytes ws h, List.isEmpty_nil]

/-! ### each layout decodes back; the scalar and the batch encoder only differ in which one they pick -/

theorem int_rle_case (vs : List Nat) (hv : ∀ v ∈ vs, v < W) (hlen : vs.length < W)
    (hrle : allEqTail (zzDeltas 0 vs) = true) (h2 : (zzDeltas 0 vs).length > 2) :
    intDecode (rleBytes (zzDeltas 0 vs)) = some vs := by
  match vs, hv, hlen, hrle, h2 with
  | v0 :: v1 :: tail, hv, hlen, hrle, _ =>
    obtain ⟨hv0, hv'⟩ := List.forall_mem_cons.mp hv
    have hd : (v1 + W - v0) % W < W := Nat.mod_lt _ (by decide)
    have e0 : (v0 + W - 0) % W = v0 := by rw [Nat.sub_zero, Nat.add_mod_right, Nat.mod_eq_of_lt hv0]
    -- all deltas after the first equal the second
    have hall : ∀ e ∈ tsDeltas.go v0 (v1 :: tail), e = (v1 + W - v0) % W := by
      intro e he
      refine zigzagEnc_inj _ _ (tsGo_lt _ _ e he) hd ?_
      rw [zzDeltas, zzDeltas_eq] at hrle
      exact allEqTail_spec _ _ _ hrle _ (List.mem_map_of_mem he)
    have hexp : rleTimes _ _ (tail.length + 1) = v1 :: tail := rleTimes_go _ (v1 :: tail) v0 hv0 hv' hall
    simp only [zzDeltas, rleBytes, List.length_cons, zzDeltas_length, Nat.add_sub_cancel]
    rw [intDecode_rle_fmt _ _ (tail.length + 1) (zigzagEnc_lt _) (zigzagEnc_lt _) (Nat.lt_of_succ_lt hlen), zigzag_roundtrip _ hd, e0,
      zigzag_roundtrip _ hv0, rleExpand_eq_rleTimes, Nat.zero_mul, Nat.add_zero, Nat.mod_eq_of_lt hv0, rleTimes, hexp]
  | [_], _, _, _, h2 => simp [zzDeltas] at h2
  | [], _, _, _, h2 => simp [zzDeltas] at h2

theorem int_raw_case (vs : List Nat) (hv : ∀ v ∈ vs, v < W) :
    intDecode ((intUncompressed * 16) :: (zzDeltas 0 vs).flatMap putU64) = some vs := by
  rw [intDecode_raw_fmt _ (zzDeltas_lt 0 vs), unDeltas_zzDeltas 0 vs (by decide) hv]

theorem int_packed_case (vs : List Nat) (hv : ∀ v ∈ vs, v < W) (e0 : Nat) (rest ws : List Nat)
    (henc : zzDeltas 0 vs = e0 :: rest) (hp : Packs ws rest) :
    intDecode ((intCompressedSimple * 16) :: (putU64 e0 ++ wordsToBytes ws)) = some vs := by
  have h0 : e0 < W := zzDeltas_lt 0 vs e0 (by rw [henc]; exact List.mem_cons_self)
  rw [intDecode_packed_fmt e0 ws h0 hp.2.1, hp.1, ← henc, unDeltas_zzDeltas 0 vs (by decide) hv]

theorem le_MaxValue_of_not_any (l : List Nat) (h : ¬ l.any (fun v => decide (v > MaxValue)) = true) :
    ∀ v ∈ l, v ≤ MaxValue :=
  fun v hv => Nat.le_of_not_lt fun hgt => h (List.any_eq_true.mpr ⟨v, hv, decide_eq_true hgt⟩)

theorem intEncodeS_roundtrip (vs : List Nat) (hv : ∀ v ∈ vs, v < W) (hlen : vs.length < W) :
    ∃ b, intEncodeS vs = some b ∧ intDecode b = some vs := by
  unfold intEncodeS
  simp only
  by_cases hc : (allEqTail (zzDeltas 0 vs) && decide ((zzDeltas 0 vs).length > 2)) = true
  · rw [if_pos hc]
    rw [Bool.and_eq_true, decide_eq_true_eq] at hc
    exact ⟨_, rfl, int_rle_case vs hv hlen hc.1 hc.2⟩
  · rw [if_neg hc]
    by_cases hbig : (zzDeltas 0 vs).any (fun v => decide (v > MaxValue)) = true
    · rw [if_pos hbig]
      exact ⟨_, rfl, int_raw_case vs hv⟩
    · rw [if_neg hbig]
      cases henc : zzDeltas 0 vs with
      | nil =>
        obtain rfl : vs = [] := List.length_eq_zero_iff.mp (by rw [← zzDeltas_length 0 vs, henc]; rfl)
        exact ⟨[], rfl, rfl⟩
      | cons e0 rest =>
        rw [henc] at hbig
        obtain ⟨ws, e1, hp⟩ := (encodeAllJ_encodes rest).ok
          fun v hvv => le_MaxValue_of_not_any _ hbig v (List.mem_cons_of_mem _ hvv)
        simp only [e1]
        exact ⟨_, rfl, int_packed_case vs hv e0 rest ws henc hp⟩

theorem intEncodeB_roundtrip (vs : List Nat) (hv : ∀ v ∈ vs, v < W) (hlen : vs.length < W) :
    ∃ b, intEncodeB vs = some b ∧ intDecode b = some vs := by
  unfold intEncodeB
  simp only
  cases henc : zzDeltas 0 vs with
  | nil =>
    obtain rfl : vs = [] := List.length_eq_zero_iff.mp (by rw [← zzDeltas_length 0 vs, henc]; rfl)
    exact ⟨[], rfl, rfl⟩
  | cons e0 rest =>
    simp only
    rw [← henc]
    by_cases hc : (decide ((zzDeltas 0 vs).length > 2) && allEqTail (zzDeltas 0 vs)) = true
    · rw [if_pos hc]
      rw [Bool.and_eq_true, decide_eq_true_eq] at hc
      exact ⟨_, rfl, int_rle_case vs hv hlen hc.2 hc.1⟩
    · rw [if_neg hc]
      by_cases hbig : rest.any (fun v => decide (v > MaxValue)) = true
      · rw [if_pos hbig]
        exact ⟨_, rfl, int_raw_case vs hv⟩
      · rw [if_neg hbig]
        obtain ⟨ws, e1, hp⟩ := (encodeAllI_encodes _ rest (Nat.le_refl _)).ok (le_MaxValue_of_not_any _ hbig)
        simp only [e1]
        exact ⟨_, rfl, int_packed_case vs hv e0 rest ws henc hp⟩

end Influx.Codec
