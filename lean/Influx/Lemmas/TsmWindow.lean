/-
  Lemmas.TsmWindow — the per-key tombstone list of `DeleteRange`: sorting keeps the
  ranges, and when the window scan does not abort, every time of the window is
  covered by one of the ranges (so removing the key never hides an uncovered time).
-/
import Influx.Model.TsmIndex
import Influx.Lemmas.TsmBytes

namespace Influx.Tsm
open Influx.Generated.TsmLayout

def coveredTR (rs : List TimeRange) (t : Int) : Prop := ∃ r ∈ rs, r.Min ≤ t ∧ t ≤ r.Max

def MinSorted (l : List TimeRange) : Prop := l.Pairwise fun a b => a.Min ≤ b.Min

theorem trLe_min {a b : TimeRange} (h : trLe a b = true) : a.Min ≤ b.Min := by
  unfold trLe at h
  split at h
  · exact Int.le_of_eq ‹_›
  · exact Int.le_of_lt (of_decide_eq_true h)

theorem not_trLe_min {a b : TimeRange} (h : ¬ trLe a b = true) : b.Min ≤ a.Min := by
  unfold trLe at h
  split at h
  · exact Int.le_of_eq (Eq.symm ‹_›)
  · exact Int.not_lt.mp (mt decide_eq_true h)

theorem sortTR_spec (l : List TimeRange) : MinSorted (sortTR l) ∧ ∀ x, x ∈ sortTR l ↔ x ∈ l ∨ x ∈ [] :=
  foldl_ins_spec (ins := insertTR) (lt := fun a b => trLe a b = true) (fun _ => rfl) (fun _ _ _ => rfl)
    (fun _ _ => trLe_min) (fun _ _ => not_trLe_min) (fun _ _ _ => Int.le_trans) l [] List.Pairwise.nil

theorem minSorted_sortTR (l : List TimeRange) : MinSorted (sortTR l) := (sortTR_spec l).1

theorem mem_sortTR (l : List TimeRange) (x : TimeRange) : x ∈ sortTR l ↔ x ∈ l := by
  rw [(sortTR_spec l).2, or_iff_left List.not_mem_nil]

/-- the test of the window scan: when it does not abort, the next range starts at most one
    past the end of the previous one (`ts.Min-1` wraps at `MinInt64`, where any end will do) -/
theorem le_succ_of_not_gap {prev ts : TimeRange}
    (h : ¬ (prev.Max ≠ pred64 ts.Min && !rangeOverlaps prev ts.Min ts.Max) = true) :
    ts.Min ≤ prev.Max + 1 := by
  by_cases h1 : prev.Max = pred64 ts.Min
  · rw [h1, pred64]
    split
    · next hm => rw [hm]; decide
    · omega
  · cases h2 : rangeOverlaps prev ts.Min ts.Max
    · exact absurd (by rw [h2]; exact Bool.and_eq_true_iff.mpr ⟨decide_eq_true h1, rfl⟩) h
    · simp only [rangeOverlaps, Bool.and_eq_true, decide_eq_true_eq] at h2
      omega

theorem ite_max_spec (x m : Int) :
    x ≤ (if x > m then x else m) ∧ ∀ t, t ≤ (if x > m then x else m) → t ≤ m ∨ t ≤ x := by
  split
  · exact ⟨Int.le_refl _, fun _ => Or.inr⟩
  · exact ⟨Int.not_lt.mp ‹_›, fun _ => Or.inl⟩

/-- the window scan: if it does not abort, every time of the window satisfies `P` (what
    the ranges seen so far cover) or is covered by one of the ranges still to come -/
theorem windowGo_covered (rest : List TimeRange) :
    ∀ (P : Int → Prop) (prev : TimeRange) (minTs maxTs : Int),
      prev.Max ≤ maxTs → (∀ x ∈ rest, minTs ≤ x.Min) → (∀ t, minTs ≤ t → t ≤ maxTs → P t) →
      ∀ a b, windowGo prev minTs maxTs rest = (a, b) → (a, b) ≠ (maxInt64, minInt64) →
      ∀ t, a ≤ t → t ≤ b → P t ∨ coveredTR rest t := by
  induction rest with
  | nil =>
    intro P prev minTs maxTs _ _ hcov a b hw _ t ha hb
    cases hw
    exact Or.inl (hcov t ha hb)
  | cons ts rest ih =>
    intro P prev minTs maxTs hpm hmin hcov a b hw hne t ha hb
    rw [windowGo] at hw
    by_cases hcond : (prev.Max ≠ pred64 ts.Min && !rangeOverlaps prev ts.Min ts.Max) = true
    · rw [if_pos hcond] at hw; exact absurd hw.symm hne
    · rw [if_neg hcond] at hw
      have hts := hmin ts List.mem_cons_self
      have hadj := le_succ_of_not_gap hcond
      rw [if_neg (Int.not_lt.mpr hts)] at hw
      obtain ⟨hm1, hm2⟩ := ite_max_spec ts.Max maxTs
      have := ih (fun t => P t ∨ (ts.Min ≤ t ∧ t ≤ ts.Max)) ts minTs _ hm1
        (fun x hx => hmin x (List.mem_cons_of_mem _ hx))
        (fun t' h1 h2 => by
          by_cases hle : t' ≤ maxTs
          · exact Or.inl (hcov t' h1 hle)
          · exact Or.inr ⟨by omega, (hm2 t' h2).resolve_left hle⟩)
        a b hw hne t ha hb
      rcases this with (h | h) | ⟨r, hr, h⟩
      · exact Or.inl h
      · exact Or.inr ⟨ts, List.mem_cons_self, h⟩
      · exact Or.inr ⟨r, List.mem_cons_of_mem _ hr, h⟩

theorem window_covered (ts : List TimeRange) (hs : MinSorted ts) (a b : Int) (hw : window ts = (a, b))
    (mn mx : Int) (ha : a ≤ mn) (hb : mx ≤ b) : ∀ t, mn ≤ t → t ≤ mx → coveredTR ts t := by
  intro t h1 h2
  have hab : (a, b) ≠ (maxInt64, minInt64) := by
    intro hab; cases hab
    unfold maxInt64 at ha; unfold minInt64 at hb; omega
  cases ts with
  | nil => exact absurd hw.symm hab
  | cons t0 rest =>
    rcases windowGo_covered rest (fun t => t0.Min ≤ t ∧ t ≤ t0.Max) t0 t0.Min t0.Max (Int.le_refl _)
      (fun x hx => List.rel_of_pairwise_cons hs hx) (fun _ h1 h2 => ⟨h1, h2⟩) a b hw hab t
      (Int.le_trans ha h1) (Int.le_trans h2 hb) with h | ⟨r, hr, h⟩
    · exact ⟨t0, List.mem_cons_self, h⟩
    · exact ⟨r, List.mem_cons_of_mem _ hr, h⟩

end Influx.Tsm
