/-
  Lemmas.WindowAggFirst — the `first` window cursor: chunking / block independence and
  equality with "first point of every window".
-/
import Influx.Lemmas.WindowAggSpec

namespace Influx.WindowAgg.First
open Influx.Spec.C20
variable {α : Type}

/-- one pass, no arrays, no blocks: keep a point iff it is not before the running `windowEnd` -/
def seqF (w : Win) : List (Pt α) → Option Int → List (Pt α)
  | [], _ => []
  | p :: ps, we => if before p.1 we then seqF w ps we else p :: seqF w ps (some (w.stop p.1))

theorem scan_spec (B : Nat) (w : Win) (rest : List (Pt α)) :
    ∀ (a : List (Pt α)) (we : Option Int) (out : List (Pt α)),
    match scan B w a we out with
    | .more o we' => out ++ seqF w (a ++ rest) we = o ++ seqF w rest we'
    | .full o r we' => out ++ seqF w (a ++ rest) we = o ++ seqF w (r ++ rest) we' ∧
        o.length = B ∧ r.length < a.length := by
  intro a
  induction a with
  | nil => intro we out; rfl
  | cons p ps ih =>
    intro we out
    -- a recursive call of the scan: `seqF` has taken the same step
    have step : ∀ we2 out2, out ++ seqF w (p :: ps ++ rest) we = out2 ++ seqF w (ps ++ rest) we2 →
        match scan B w ps we2 out2 with
        | .more o we' => out ++ seqF w (p :: ps ++ rest) we = o ++ seqF w rest we'
        | .full o r we' => out ++ seqF w (p :: ps ++ rest) we = o ++ seqF w (r ++ rest) we' ∧
            o.length = B ∧ r.length < (p :: ps).length := by
      intro we2 out2 e
      have := ih we2 out2
      rw [e]
      split at this
      · exact this
      · exact ⟨this.1, this.2.1, Nat.lt_succ_of_lt this.2.2⟩
    rw [scan]
    by_cases hb : before p.1 we = true
    · rw [if_pos hb]
      exact step _ _ (by rw [List.cons_append, seqF, if_pos hb])
    · rw [if_neg hb]
      have e : out ++ seqF w (p :: ps ++ rest) we = out ++ [p] ++ seqF w (ps ++ rest) (some (w.stop p.1)) := by
        rw [List.cons_append, seqF, if_neg hb, List.append_assoc]; rfl
      by_cases hfull : (out ++ [p]).length = B
      · rw [if_pos hfull]
        exact ⟨e, hfull, Nat.lt_succ_self _⟩
      · rw [if_neg hfull]
        exact step _ _ e

theorem run_spec (B : Nat) (w : Win) :
    ∀ (inp : List (List (Pt α))) (a : List (Pt α)) (we : Option Int) (out : List (Pt α))
      (s' : State α) (o : List (Pt α)),
    a ≠ [] → NonEmptyChunks inp → run B w a inp we out = (s', o) →
    out ++ seqF w (a ++ inp.flatten) we = o ++ seqF w s'.st.rest s'.windowEnd ∧
    (s'.st.rest.length = 0 ∨ B ≤ o.length) ∧
    s'.st.rest.length < (a ++ inp.flatten).length ∧
    NonEmptyChunks s'.st.inp := by
  intro inp
  induction inp with
  | nil =>
    intro a we out s' o ha hne hr
    have hs := scan_spec B w [] a we out
    rw [run] at hr
    split at hs
    · next o' we' heq =>
      rw [heq] at hr
      cases hr
      exact ⟨by simpa [seqF, St.rest] using hs, Or.inl rfl,
        by simpa [St.rest] using List.length_pos_iff.mpr ha, hne⟩
    · next o' r we' heq =>
      rw [heq] at hr
      cases hr
      simp only [St.rest, List.append_nil, List.flatten_nil] at hs ⊢
      exact ⟨hs.1, Or.inr (Nat.le_of_eq hs.2.1.symm), hs.2.2, hne⟩
  | cons c cs ih =>
    intro a we out s' o ha hne hr
    have hs := scan_spec B w (c ++ cs.flatten) a we out
    rw [run] at hr
    split at hs
    · next o' we' heq =>
      rw [heq] at hr
      simp only [hne.isEmpty_head, Bool.false_eq_true, ↓reduceIte] at hr
      have ih' := ih c we' o' s' o (hne c List.mem_cons_self) hne.tail hr
      rw [List.flatten_cons, hs]
      simp only [List.length_append] at ih' ⊢
      exact ⟨ih'.1, ih'.2.1, by omega, ih'.2.2.2⟩
    · next o' r we' heq =>
      rw [heq] at hr
      cases hr
      simp only [St.rest, List.flatten_cons, List.length_append] at hs ⊢
      exact ⟨hs.1, Or.inr (Nat.le_of_eq hs.2.1.symm), by omega, hne⟩

theorem next_spec (B : Nat) (w : Win) (s s' : State α) (o : List (Pt α))
    (hne : NonEmptyChunks s.st.inp) (hn : next B w s = (s', o)) :
    seqF w s.st.rest s.windowEnd = o ++ seqF w s'.st.rest s'.windowEnd ∧
    (s'.st.rest.length = 0 ∨ B ≤ o.length) ∧
    (o ≠ [] → s'.st.rest.length < s.st.rest.length) ∧
    NonEmptyChunks s'.st.inp := by
  obtain ⟨⟨tmp, inp⟩, we⟩ := s
  unfold next at hn
  cases tmp with
  | cons p ps =>
    have := run_spec B w inp (p :: ps) we [] s' o (List.cons_ne_nil _ _) hne hn
    exact ⟨this.1, this.2.1, fun _ => this.2.2.1, this.2.2.2⟩
  | nil =>
    cases inp with
    | nil => cases hn; exact ⟨rfl, Or.inl rfl, fun h => absurd rfl h, hne⟩
    | cons c cs =>
      cases c with
      | nil => exact absurd rfl (hne [] List.mem_cons_self)
      | cons p ps =>
        have := run_spec B w cs (p :: ps) we [] s' o (List.cons_ne_nil _ _) hne.tail hn
        exact ⟨this.1, this.2.1, fun _ => this.2.2.1, this.2.2.2⟩

theorem drain_spec (B : Nat) (hB : 1 ≤ B) (w : Win)
    (fuel : Nat) (s : State α) (hne : NonEmptyChunks s.st.inp) (hlen : s.st.rest.length < fuel) :
    ∃ arrs, drain (fun s => some (next B w s)) fuel s = some arrs ∧
      arrs.flatten = seqF w s.st.rest s.windowEnd ∧ (∀ a ∈ arrs, a ≠ []) := by
  refine drain_blocks _ (fun s => NonEmptyChunks s.st.inp) (fun s => s.st.rest.length)
    (fun s => some (seqF w s.st.rest s.windowEnd)) B hB ?_ ?_ fuel s _ hne hlen rfl
  · intro s h0
    rw [List.length_eq_zero_iff.mp h0]; rfl
  · intro s hi
    have := next_spec B w s _ _ hi rfl
    exact ⟨congrArg some this.1, this.2⟩

theorem seqF_before (w : Win) (we : Option Int) (l2 : List (Pt α)) :
    ∀ l1 : List (Pt α), (∀ q ∈ l1, before q.1 we = true) → seqF w (l1 ++ l2) we = seqF w l2 we := by
  intro l1
  induction l1 with
  | nil => intro _; rfl
  | cons q qs ih =>
    intro h
    rw [List.cons_append, seqF, if_pos (h q List.mem_cons_self), ih (fun x hx => h x (List.mem_cons_of_mem _ hx))]

theorem seqF_notBefore (w : Win) (we : Option Int) (l : List (Pt α)) (h : ∀ q ∈ l, before q.1 we = false) :
    seqF w l we = seqF w l none := by
  cases l with
  | nil => rfl
  | cons q qs => rw [seqF, seqF, h q List.mem_cons_self]; rfl

theorem seqF_eq_aggSpec (o : Ops α) (w : Win) (hw : w.OK) (hz : w.isZero = false) :
    ∀ pts : List (Pt α), Sorted pts → seqF w pts none = aggSpec o .first w.stop pts := by
  intro pts
  fun_induction aggSpec o .first w.stop pts with
  | case1 => intro _; rfl
  | case2 p ps s ih =>
    intro hs
    obtain ⟨hsplit, hsame, hlater⟩ := hw.split hs
    have hbn : ∀ t we, before t (some we) = !w.newWindow t we := by
      intro t we
      simp only [before, Win.newWindow, hz, Bool.not_false, Bool.true_and, ← decide_not, Int.not_le]
    rw [seqF, if_neg (by simp [before]), ← hsplit,
      seqF_before w _ _ _ (fun q hq => by rw [hbn, (hsame q hq).1]; rfl),
      seqF_notBefore w _ _ (fun q hq => by rw [hbn, hlater q hq]; rfl), hsplit,
      ih ((List.pairwise_cons.mp hs).2.sublist List.filter_sublist)]
    rfl

end Influx.WindowAgg.First
