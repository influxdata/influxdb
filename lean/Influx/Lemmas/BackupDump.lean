/-
  Lemmas.BackupDump — the observations of the model in the vocabulary of Spec.C38
  (dumps, listings, block listings), and the statement's checks on the model's own
  observations of one backup→restore, backup→import, export→import, failed export.
-/
import Influx.Lemmas.BackupExport
import Influx.Spec.C38

namespace Influx.Backup
open Influx.Spec.C38

theorem abs_some_mem_times {s : Shard} {k : Key} {t : TS} {v : Val} (h : s.abs k t = some v) :
    t ∈ s.times k := by
  unfold Shard.times
  rw [mem_sortDedup, List.mem_append]
  unfold Shard.abs at h
  cases hc : cacheLookup s.cache k t with
  | some w =>
    exact Or.inl (List.mem_map.mpr ⟨(k, t, w), by simp [cacheLookup_some_mem hc], rfl⟩)
  | none =>
    rw [hc] at h
    obtain ⟨f, hf, hl⟩ := filesLookup_some h
    obtain ⟨b, hb, hbl⟩ := blocksLookup_some (lookup_some_raw hl)
    obtain ⟨hk, hm⟩ := Block.lookup_some_mem hbl
    exact Or.inr (List.mem_flatMap.mpr ⟨f, hf, List.mem_flatMap.mpr
      ⟨b, by simp [hb, hk], List.mem_map.mpr ⟨(t, v), hm, rfl⟩⟩⟩)

theorem mem_keyPts {s : Shard} {k : Key} {t : TS} {v : Val} :
    (t, v) ∈ s.keyPts k ↔ s.abs k t = some v := by
  unfold Shard.keyPts
  rw [List.mem_filterMap]
  constructor
  · rintro ⟨t', _, h⟩
    cases ha : s.abs k t' with
    | none => simp [ha] at h
    | some w => simp [ha] at h; obtain ⟨rfl, rfl⟩ := h; exact ha
  · intro h
    exact ⟨t, abs_some_mem_times h, by simp [h]⟩

theorem mem_dump_pts {s : Shard} {e : Key × List (TS × Val)} :
    e ∈ s.dump.pts ↔ e.1 < nKeys ∧ e.2 = s.keyPts e.1 ∧ e.2 ≠ [] := by
  unfold Shard.dump
  simp only [List.mem_filterMap, List.mem_range]
  constructor
  · rintro ⟨k, hk, he⟩
    split at he
    · cases he
    · next hne => cases he; exact ⟨hk, rfl, by simpa using hne⟩
  · rintro ⟨hk, he, hne⟩
    refine ⟨e.1, hk, ?_⟩
    rw [← he, if_neg (by simpa using hne)]

theorem mem_dumpFlat {s : Shard} {k : Key} {t : TS} {v : Val} :
    (k, t, v) ∈ dumpFlat s.dump ↔ k < nKeys ∧ s.abs k t = some v := by
  unfold dumpFlat
  simp only [List.mem_flatMap, List.mem_map]
  constructor
  · rintro ⟨e, he, p, hp, heq⟩
    obtain ⟨hk, hpts, _⟩ := mem_dump_pts.mp he
    cases heq
    exact ⟨hk, mem_keyPts.mp (hpts ▸ hp)⟩
  · rintro ⟨hk, ha⟩
    have hm := mem_keyPts.mpr ha
    exact ⟨(k, s.keyPts k), mem_dump_pts.mpr ⟨hk, rfl, List.ne_nil_of_mem hm⟩, (t, v), hm, rfl⟩

theorem dumpHas_iff (d : Dump) (k : Key) (t : TS) (v : Val) :
    dumpHas d k t v = true ↔ (k, t, v) ∈ dumpFlat d := by
  unfold dumpHas dumpFlat
  simp only [List.any_eq_true, Bool.and_eq_true, beq_iff_eq, List.contains_iff_mem, List.mem_flatMap, List.mem_map]
  constructor
  · rintro ⟨e, he, rfl, hm⟩
    exact ⟨e, he, (t, v), hm, rfl⟩
  · rintro ⟨e, he, p, hp, heq⟩
    cases heq
    exact ⟨e, he, rfl, hp⟩

theorem dump_pts_congr (s s' : Shard) (ht : ∀ k, s.times k = s'.times k) (ha : ∀ k t, s.abs k t = s'.abs k t) :
    s.dump.pts = s'.dump.pts := by
  have : s.keyPts = s'.keyPts := by
    funext k
    unfold Shard.keyPts
    rw [ht k, funext (ha k)]
  unfold Shard.dump
  rw [this]

def blocksTimes (bss : List (List Block)) (k : Key) : List TS :=
  bss.flatMap (fun bs => (bs.filter (·.key == k)).flatMap (fun b => b.pts.map (·.1)))

theorem times_congr (s s' : Shard) (hc : s.cache = s'.cache)
    (hb : s.files.map (·.blocks) = s'.files.map (·.blocks)) (k : Key) : s.times k = s'.times k := by
  have h : ∀ fs : List TFile, fs.flatMap (fun f => (f.blocks.filter (·.key == k)).flatMap (fun b => b.pts.map (·.1))) =
      blocksTimes (fs.map (·.blocks)) k := fun fs => by simp [blocksTimes, List.flatMap_map]
  unfold Shard.times
  rw [h, h, hc, hb]

theorem abs_of_no_cache_no_tombs (s : Shard) (hc : s.cache = []) (hnt : ∀ f ∈ s.files, f.tombs = [])
    (k : Key) (t : TS) : s.abs k t = bsLookup (s.files.map (·.blocks)) k t := by
  unfold Shard.abs
  rw [hc, filesLookup_eq_raw_of_no_tombs _ hnt, filesLookupRaw_eq_bsLookup]
  rfl

theorem dump_pts_of_blocks (s s' : Shard) (hc : s.cache = []) (hc' : s'.cache = [])
    (hnt : ∀ f ∈ s.files, f.tombs = []) (hnt' : ∀ f ∈ s'.files, f.tombs = [])
    (hb : s.files.map (·.blocks) = s'.files.map (·.blocks)) : s.dump.pts = s'.dump.pts :=
  dump_pts_congr s s' (times_congr s s' (hc.trans hc'.symm) hb) fun k t => by
    rw [abs_of_no_cache_no_tombs s hc hnt, abs_of_no_cache_no_tombs s' hc' hnt', hb]

theorem abs_some_block {s : Shard} (hc : s.cache = []) {k : Key} {t : TS} {v : Val} (h : s.abs k t = some v) :
    ∃ f ∈ s.files, ∃ b ∈ f.blocks, b.key = k := by
  unfold Shard.abs at h
  rw [hc] at h
  obtain ⟨f, hf, hl⟩ := filesLookup_some h
  obtain ⟨b, hb, hbl⟩ := blocksLookup_some (lookup_some_raw hl)
  exact ⟨f, hf, b, hb, (Block.lookup_some_mem hbl).1⟩

theorem changedAfter_eq_after (m : MTime) (since : Option Int) : changedAfter m since = m.after since := by
  cases since <;> cases m <;> simp [changedAfter, MTime.after]

theorem mem_listing {fs : List TFile} {e : FName × MTime} :
    e ∈ listing fs ↔ ∃ f ∈ fs, e = (⟨f.gen, f.seq, false⟩, f.mtime) ∨
      ∃ m, f.tombM = some m ∧ e = (⟨f.gen, f.seq, true⟩, m) := by
  unfold listing
  rw [List.mem_flatMap]
  refine exists_congr fun f => and_congr_right fun _ => ?_
  cases f.tombM <;> simp [or_comm]

theorem incrementalOK_backup (since : Option Int) (fs : List TFile) :
    incrementalOK since (archiveNames (backupEntries since fs)) (listing fs) = true := by
  unfold incrementalOK
  rw [List.all_eq_true]
  intro e he
  rw [changedAfter_eq_after, Bool.or_eq_true, Bool.not_eq_true', List.contains_iff_mem]
  refine Classical.or_iff_not_imp_left.mpr fun ha => ?_
  rw [Bool.not_eq_false] at ha
  obtain ⟨f, hf, rfl | ⟨m, hm, rfl⟩⟩ := mem_listing.mp he
  · exact List.mem_map.mpr ⟨_, mem_backupEntries.mpr ⟨f, hf, Or.inl ⟨rfl, ha⟩⟩, rfl⟩
  · exact List.mem_map.mpr ⟨_, mem_backupEntries.mpr ⟨f, hf, Or.inr ⟨rfl, m, hm, ha⟩⟩, rfl⟩

theorem hasTombstone_listing {fs : List TFile} :
    hasTombstone (listing fs) = false ↔ ∀ f ∈ fs, f.tombM = none := by
  unfold hasTombstone
  rw [List.any_eq_false]
  constructor
  · intro h f hf
    cases hm : f.tombM with
    | none => rfl
    | some m => exact absurd rfl (h _ (mem_listing.mpr ⟨f, hf, Or.inr ⟨m, hm, rfl⟩⟩))
  · intro h e he
    obtain ⟨f, hf, rfl | ⟨m, hm, rfl⟩⟩ := mem_listing.mp he
    · exact Bool.false_ne_true
    · rw [h f hf] at hm; cases hm

theorem no_tombs_of_listing {s : Shard} (hi : s.Inv) (h : hasTombstone (listing s.files) = false) :
    ∀ f ∈ s.files, f.tombs = [] :=
  fun f hf => (hi.wf f hf).2.1 (hasTombstone_listing.mp h f hf)

theorem Shard.Clean.noTombstone {s : Shard} (h : s.Clean) : hasTombstone (listing s.files) = false :=
  hasTombstone_listing.mpr h.noTomb

theorem sameSeries_of (src tgt : Shard)
    (h1 : ∀ k ∈ tgt.series, k ∈ src.series)
    (h2 : ∀ k t v, src.abs k t = some v → k ∈ tgt.series) :
    sameSeries src.dump tgt.dump = true := by
  unfold sameSeries
  rw [Bool.and_eq_true, List.all_eq_true, List.all_eq_true]
  refine ⟨fun k hk => List.contains_iff_mem.mpr (h1 k hk), fun e he => List.contains_iff_mem.mpr ?_⟩
  obtain ⟨_, hpts, hne⟩ := mem_dump_pts.mp he
  obtain ⟨p, hp⟩ := List.exists_mem_of_ne_nil _ hne
  exact h2 e.1 p.1 p.2 (mem_keyPts.mp (hpts ▸ hp))

theorem seriesOK_keys {s : Shard} (hso : s.seriesOK = true) (hnt : hasTombstone (listing s.files) = false)
    {f : TFile} (hf : f ∈ s.files) {b : Block} (hb : b ∈ f.blocks) : b.key ∈ s.series := by
  unfold Shard.seriesOK at hso
  have hall : s.files.all (fun f => f.tombM.isNone) = true :=
    List.all_eq_true.mpr fun g hg => by simp [hasTombstone_listing.mp hnt g hg]
  rw [hall] at hso
  simp only [Bool.not_true, Bool.false_or, List.all_eq_true] at hso
  simpa using hso f hf b hb

theorem sameContent_of_blocks {s t : Shard} (hi : s.Inv) (hc : s.cache = []) (hso : s.seriesOK = true)
    (hnt : hasTombstone (listing s.files) = false) (htc : t.cache = []) (htt : ∀ f ∈ t.files, f.tombs = [])
    (hb : t.files.map (·.blocks) = s.files.map (·.blocks))
    (hser : ∀ k, k ∈ t.series ↔ ∃ bs ∈ s.files.map (·.blocks), ∃ b ∈ bs, b.key = k) :
    sameContent s.dump t.dump = true := by
  unfold sameContent
  rw [Bool.and_eq_true, dump_pts_of_blocks s t hc htc (no_tombs_of_listing hi hnt) htt hb.symm]
  refine ⟨beq_self_eq_true _, sameSeries_of s t (fun k hk => ?_) (fun k t' v ha => ?_)⟩
  · obtain ⟨_, hbs, b, hb', rfl⟩ := (hser k).mp hk
    obtain ⟨f, hf, rfl⟩ := List.mem_map.mp hbs
    exact seriesOK_keys hso hnt hf hb'
  · obtain ⟨f, hf, b, hb', hk⟩ := abs_some_block hc ha
    exact (hser k).mpr ⟨_, List.mem_map.mpr ⟨f, hf, rfl⟩, b, hb', hk⟩

theorem restore_same (s : Shard) (hi : s.Inv) (hc : s.cache = []) (hso : s.seriesOK = true)
    (hnt : hasTombstone (listing s.files) = false) :
    sameContent s.dump (Shard.empty.restore (backupEntries none s.files)).dump = true := by
  obtain ⟨hf, hcache, hser⟩ := restore_spec Shard.empty (backupEntries none s.files)
  have hfiles := hf.trans (restoreFiles_backup_none [] s.files hi.sorted)
  refine sameContent_of_blocks hi hc hso hnt hcache ?_ ?_ fun k => ?_
  · rw [hfiles]
    intro f hf
    obtain ⟨g, _, rfl⟩ := List.mem_map.mp hf
    rfl
  · rw [hfiles, List.nil_append, List.map_map]; rfl
  · rw [hser, mem_overlaySeries, archiveBlocks_backup_none]; simp [Shard.empty]

theorem import_same (s : Shard) (hi : s.Inv) (hc : s.cache = []) (hso : s.seriesOK = true)
    (hnt : hasTombstone (listing s.files) = false) :
    sameContent s.dump (Shard.empty.importA (backupEntries none s.files)).dump = true := by
  obtain ⟨hcache, hb, htt, hser⟩ := importA_spec Shard.empty (backupEntries none s.files)
  refine sameContent_of_blocks hi hc hso hnt hcache (htt fun _ h => (List.not_mem_nil h).elim)
    (by rw [hb, archiveBlocks_backup_none]; rfl) fun k => ?_
  rw [hser, mem_overlaySeries, archiveBlocks_backup_none]; simp [Shard.empty]

theorem imported_abs (ar : Archive) (k : Key) (t : TS) :
    (Shard.empty.importA ar).abs k t = bsLookup (archiveBlocks ar) k t := by
  obtain ⟨hc, hb, htt, _⟩ := importA_spec Shard.empty ar
  rw [abs_of_no_cache_no_tombs _ hc (htt fun _ h => (List.not_mem_nil h).elim), hb]
  rfl

theorem export_no_tombs_files {s : Shard} (hi : s.Inv) {a e : TS} {ar : Archive}
    (h : exportEntries a e s.files = .ok ar) : ∀ f ∈ s.files, f.tombs = [] :=
  fun f hf => (hi.wf f hf).2.1 ((exportEntries_ok h).2.1 f hf)

theorem export_tombstone_listing {fs : List TFile} {a e : TS} (h : exportEntries a e fs = .error .tombstone) :
    hasTombstone (listing fs) = true := by
  obtain ⟨f, hf, ht⟩ := exportEntries_tombstone h
  cases hh : hasTombstone (listing fs) with
  | true => rfl
  | false => rw [hasTombstone_listing.mp hh f hf] at ht; cases ht

theorem exportLower_ok (s : Shard) (hi : s.Inv) (hc : s.cache = []) (a e : TS) (ar : Archive)
    (h : exportEntries a e s.files = .ok ar) :
    exportLower a e s.dump (Shard.empty.importA ar).dump = true := by
  unfold exportLower
  rw [List.all_eq_true]
  rintro ⟨k, t, v⟩ hp
  obtain ⟨hk, ha⟩ := mem_dumpFlat.mp hp
  rw [Bool.or_eq_true, Bool.not_eq_true', Bool.and_eq_false_iff, decide_eq_false_iff_not, decide_eq_false_iff_not]
  refine Classical.or_iff_not_imp_left.mpr fun hr => ?_
  have hr : a ≤ t ∧ t ≤ e := (not_or.mp hr).imp Classical.not_not.mp Classical.not_not.mp
  refine (dumpHas_iff _ k t v).mpr (mem_dumpFlat.mpr ⟨hk, ?_⟩)
  rw [imported_abs, (exportEntries_ok h).1,
    bsLookup_export _ (fun f hf => (hi.wf f hf).1) a e k t hr.1 hr.2,
    ← abs_of_no_cache_no_tombs s hc (export_no_tombs_files hi h), ha]

theorem gone_of_no_tombs (f : TFile) (h : f.tombs = []) (k : Key) : f.gone k = false := by
  simp [TFile.gone, h, goneAux]

def entryOf (f : TFile) (b : Block) : FName × Key × TS × TS := (⟨f.gen, f.seq, false⟩, b.key, b.lo, b.hi)

theorem mem_blockListing {fs : List TFile} {f : TFile} (hf : f ∈ fs) (hnt : f.tombs = [])
    {b : Block} (hb : b ∈ f.blocks) : entryOf f b ∈ blockListing fs :=
  List.mem_flatMap.mpr ⟨f, hf, List.mem_map.mpr ⟨b, by simp [hb, gone_of_no_tombs f hnt], rfl⟩⟩

theorem blockListing_mem {fs : List TFile} {c : FName × Key × TS × TS} (h : c ∈ blockListing fs) :
    ∃ f ∈ fs, ∃ b ∈ f.blocks, c = entryOf f b := by
  obtain ⟨f, hf, hc⟩ := List.mem_flatMap.mp h
  obtain ⟨b, hb, rfl⟩ := List.mem_map.mp hc
  exact ⟨f, hf, b, (List.mem_filter.mp hb).1, rfl⟩

theorem exportWithinBlocks_ok (s : Shard) (hi : s.Inv) (a e : TS) (hae : a ≤ e) (ar : Archive)
    (h : exportEntries a e s.files = .ok ar) :
    exportWithinBlocks a e (blockListing s.files) (Shard.empty.importA ar).dump = true := by
  unfold exportWithinBlocks
  rw [List.all_eq_true]
  rintro ⟨k, t, v⟩ hp
  obtain ⟨_, ha⟩ := mem_dumpFlat.mp hp
  rw [imported_abs, (exportEntries_ok h).1] at ha
  obtain ⟨f, hf, b, hb, _, hk, hlo, hhi, h1, h2⟩ :=
    bsLookup_export_some _ (fun f hf => (hi.wf f hf).1) a e hae k t v ha
  rw [List.any_eq_true]
  refine ⟨_, mem_blockListing hf (export_no_tombs_files hi h f hf) hb, ?_⟩
  simp [entryOf, hk, hlo, hhi, Spec.C38.overlaps, h1, h2]

theorem foldl_min_le (l : List TS) (x : TS) : l.foldl min x ≤ x ∧ ∀ a ∈ l, l.foldl min x ≤ a := by
  induction l generalizing x with
  | nil => exact ⟨Int.le_refl _, fun _ h => (List.not_mem_nil h).elim⟩
  | cons b l ih =>
    obtain ⟨h0, hm⟩ := ih (min x b)
    refine ⟨Int.le_trans h0 (Int.min_le_left _ _), fun a ha => ?_⟩
    rcases List.mem_cons.mp ha with rfl | ha
    · exact Int.le_trans h0 (Int.min_le_right _ _)
    · exact hm a ha

theorem le_foldl_max (l : List TS) (x : TS) : x ≤ l.foldl max x ∧ ∀ a ∈ l, a ≤ l.foldl max x := by
  induction l generalizing x with
  | nil => exact ⟨Int.le_refl _, fun _ h => (List.not_mem_nil h).elim⟩
  | cons b l ih =>
    obtain ⟨h0, hm⟩ := ih (max x b)
    refine ⟨Int.le_trans (Int.le_max_left _ _) h0, fun a ha => ?_⟩
    rcases List.mem_cons.mp ha with rfl | ha
    · exact Int.le_trans (Int.le_max_right _ _) h0
    · exact hm a ha

theorem minOf_le_listMin {l l' : List TS} (hne : l ≠ []) (h : ∀ t ∈ l, t ∈ l') (x : TS) :
    minOf x l' ≤ listMin l :=
  (le_listMin_iff hne).mpr fun t ht => (foldl_min_le l' x).2 t (h t ht)

theorem listMax_le_maxOf {l l' : List TS} (hne : l ≠ []) (h : ∀ t ∈ l, t ∈ l') (x : TS) :
    listMax l ≤ maxOf x l' :=
  (listMax_le_iff hne).mpr fun t ht => (le_foldl_max l' x).2 t (h t ht)

theorem SortedFiles.eq_of_name {fs : List TFile} (hs : SortedFiles fs) {f g : TFile} (hf : f ∈ fs) (hg : g ∈ fs)
    (h1 : g.gen = f.gen) (h2 : g.seq = f.seq) : g = f := by
  induction fs with
  | nil => exact (List.not_mem_nil hf).elim
  | cons x fs ih =>
    obtain ⟨hx, hs'⟩ := List.pairwise_cons.mp hs
    rcases List.mem_cons.mp hf with rfl | hf' <;> rcases List.mem_cons.mp hg with rfl | hg'
    · rfl
    · have := hx g hg'; unfold nameLt at this; omega
    · have := hx f hf'; unfold nameLt at this; omega
    · exact ih hs' hf' hg'

/-- **a failed export with no tombstone file in the listing shows a gap file**: the lines of
    the listing under the name of the file that made the export fail are exactly its blocks -/
theorem gapFile_of_noValues (s : Shard) (hi : s.Inv) (a e : TS) (hae : a ≤ e)
    (hnt : hasTombstone (listing s.files) = false)
    (h : exportEntries a e s.files = .error .noValues) : gapFile a e (blockListing s.files) = true := by
  obtain ⟨f, hf, hneed, hnone⟩ := exportEntries_noValues h
  have hnt' := no_tombs_of_listing hi hnt
  have hne := (hi.wf f hf).2.2
  obtain ⟨b, hb⟩ := List.exists_mem_of_ne_nil _ hne
  have hmine : ∀ c, c ∈ (blockListing s.files).filter (fun c => c.1 == (entryOf f b).1) ↔
      ∃ b' ∈ f.blocks, c = entryOf f b' := by
    intro c
    rw [List.mem_filter, beq_iff_eq]
    constructor
    · rintro ⟨hc, hname⟩
      obtain ⟨g, hg, b', hb', rfl⟩ := blockListing_mem hc
      injection hname with h1 h2
      rw [hi.sorted.eq_of_name hf hg h1 h2] at hb' ⊢
      exact ⟨b', hb', rfl⟩
    · rintro ⟨b', hb', rfl⟩
      exact ⟨mem_blockListing hf (hnt' f hf) hb', rfl⟩
  unfold gapFile
  rw [List.any_eq_true]
  refine ⟨entryOf f b, mem_blockListing hf (hnt' f hf) hb, ?_⟩
  dsimp only
  rw [Bool.and_eq_true]
  constructor
  · -- the file's range, computed from the listing, overlaps [a,e]
    obtain ⟨hmn, hmx⟩ := TFile.needsFilter_meets hae hneed
    unfold Spec.C38.overlaps
    rw [Bool.and_eq_true, decide_eq_true_eq, decide_eq_true_eq]
    refine ⟨Int.le_trans (minOf_le_listMin (by simpa using hne) (fun t ht => ?_) _) hmn,
      Int.le_trans hmx (listMax_le_maxOf (by simpa using hne) (fun t ht => ?_) _)⟩
    · obtain ⟨b', hb', rfl⟩ := List.mem_map.mp ht
      exact List.mem_map.mpr ⟨_, (hmine _).mpr ⟨b', hb', rfl⟩, rfl⟩
    · obtain ⟨b', hb', rfl⟩ := List.mem_map.mp ht
      exact List.mem_map.mpr ⟨_, (hmine _).mpr ⟨b', hb', rfl⟩, rfl⟩
  · -- none of its blocks does
    rw [List.all_eq_true]
    intro c hc
    obtain ⟨b', hb', rfl⟩ := (hmine c).mp hc
    rw [Bool.not_eq_true']
    cases ho : Spec.C38.overlaps (entryOf f b').2.2.1 (entryOf f b').2.2.2 a e with
    | false => rfl
    | true =>
      unfold Spec.C38.overlaps at ho
      rw [Bool.and_eq_true, decide_eq_true_eq, decide_eq_true_eq] at ho
      rw [← hnone b' hb']
      exact (Block.overlaps_of_meets ho.1 ho.2).symm

end Influx.Backup
