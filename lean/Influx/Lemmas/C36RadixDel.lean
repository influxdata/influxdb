/-
  Lemmas.C36RadixDel — `DeletePrefix` removes exactly the pairs whose key has the prefix, and
  returns their number.
-/
import Influx.Lemmas.C36RadixLK

namespace Influx.Radix

/-- `p` is a prefix of `k` -/
def pfx (p k : Key) : Bool := (stripPrefix k p).isSome

theorem pfx_nil (k : Key) : pfx [] k = true := by cases k <;> simp [pfx, stripPrefix]

theorem pfx_cons_cons (a b : Nat) (p k : Key) : pfx (a :: p) (b :: k) = (decide (b = a) && pfx p k) := by
  simp only [pfx, stripPrefix]
  by_cases h : b = a <;> simp [h]

theorem pfx_cons_nil (a : Nat) (p : Key) : pfx (a :: p) [] = false := by simp [pfx, stripPrefix]

theorem pfx_append_same : ∀ (a x k : Key), pfx (a ++ x) (a ++ k) = pfx x k
  | [], _, _ => rfl
  | c :: cs, x, k => by simp [pfx_cons_cons, pfx_append_same cs x k]

theorem pfx_of_strip (a p rem k : Key) (h : stripPrefix a p = some rem) : pfx p (a ++ k) = true := by
  rw [(stripPrefix_some _ _ _).mp h, List.append_assoc, pfx, (stripPrefix_some _ _ _).mpr rfl]
  rfl

theorem pfx_incompatible (a p k : Key) : stripPrefix a p = none → stripPrefix p a = none →
    pfx p (a ++ k) = false := by
  fun_induction stripPrefix a p with
  | case1 s => exact fun h => nomatch h
  | case2 b bs => exact fun _ h => nomatch h
  | case3 as b bs ih =>
    intro h1 h2
    rw [stripPrefix, if_pos rfl] at h2
    rw [List.cons_append, pfx_cons_cons, ih h1 h2, Bool.and_false]
  | case4 a as b bs hne =>
    intro _ _
    rw [List.cons_append, pfx_cons_cons, decide_eq_false hne, Bool.false_and]

def keep (p : Key) : KV → Bool := fun q => !pfx p q.1

theorem filter_map_prefix (a x : Key) (l : List KV) :
    (l.map fun q => (a ++ q.1, q.2)).filter (keep (a ++ x)) = (l.filter (keep x)).map fun q => (a ++ q.1, q.2) := by
  rw [List.filter_map]
  exact congrArg _ (List.filter_congr fun q _ => by rw [Function.comp, keep, keep, pfx_append_same])

theorem filter_all_removed (p : Key) (l : List KV) (h : ∀ q ∈ l, pfx p q.1 = true) : l.filter (keep p) = [] :=
  List.filter_eq_nil_iff.mpr fun q hq => by rw [keep, h q hq]; exact Bool.false_ne_true

theorem filter_none_removed (p : Key) (l : List KV) (h : ∀ q ∈ l, pfx p q.1 = false) : l.filter (keep p) = l :=
  List.filter_eq_self.mpr fun q hq => by rw [keep, h q hq]; rfl

/-- the emptied node `deletePrefix` leaves behind -/
theorem cleared_facts (pre : Key) : Node.SW (.mk none pre .nil) ∧ Node.rel (.mk none pre .nil) = [] ∧
    ∀ path, Node.LK path (.mk none pre .nil) :=
  ⟨trivial, rfl, fun _ => ⟨fun _ hl => (nomatch hl), trivial⟩⟩

theorem mergeChild_facts (pre : Key) (l : Nat) (cpre : Key) (r : Edges) :
    Node.rel (mergeChild (.mk none pre (.cons l (.mk none cpre .nil) r))) = [] ∧
    Node.SW (mergeChild (.mk none pre (.cons l (.mk none cpre .nil) r))) ∧
    (mergeChild (.mk none pre (.cons l (.mk none cpre .nil) r))).pre = pre ++ cpre ∧
    ∀ path, Node.LK path (mergeChild (.mk none pre (.cons l (.mk none cpre .nil) r))) :=
  ⟨rfl, trivial, rfl, fun _ => ⟨fun _ hl => (nomatch hl), trivial⟩⟩

/-- what one level of `deletePrefix` returns -/
structure DelOK (p : Key) (es : Edges) (d : DelRes) : Prop where
  sw : Edges.SW d.edges
  labels : Edges.labels d.edges = Edges.labels es
  rel : Edges.rel d.edges = (Edges.rel es).filter (keep p)
  count : d.count + (Edges.rel d.edges).length = (Edges.rel es).length
  len : d.edges.length = es.length
  lk : ∀ path, Edges.LK path es → Edges.LK path d.edges
  /-- `cleared` only when the child at the head of the matching edge was emptied -/
  cleared : d.cleared = true → ∀ l c r, d.edges = .cons l c r → r = .nil → Node.rel c = [] ∧
    ∃ cpre, c = .mk none cpre .nil

theorem Edges.length_pos_of_labels : ∀ (es : Edges), Edges.length es = (Edges.labels es).length :=
  Edges.list_induction rfl fun _ _ _ ih => congrArg (· + 1) ih

/-- what `deletePrefix` returns at a node: `r = Node.del n isRoot p` -/
structure DelNodeOK (p : Key) (isRoot : Bool) (n : Node) (r : Node × Nat) : Prop where
  sw : Node.SW r.1
  rel : Node.rel r.1 = (Node.rel n).filter (keep p)
  count : r.2 + (Node.rel r.1).length = (Node.rel n).length
  /-- `mergeChild` may lengthen the node's prefix, only when nothing is left below it -/
  pre_head : ∀ l t, n.pre = l :: t → ∃ t', r.1.pre = l :: t'
  pre_ne : Node.rel r.1 ≠ [] → r.1.pre = n.pre
  pre_root : isRoot = true → r.1.pre = n.pre
  lk : ∀ P, Node.LK P n → Node.LK P r.1
  lk_merged : r.1.pre ≠ n.pre → ∀ P, Node.LK P r.1

theorem rel_filter_mk (leaf : Option Leaf) (pre : Key) (edges : Edges) (c : Nat) (rest : Key) :
    (Node.rel (.mk leaf pre edges)).filter (keep (c :: rest)) =
      (match leaf with | some l => [([], l.val)] | none => []) ++ (Edges.rel edges).filter (keep (c :: rest)) := by
  cases leaf with
  | none => simp [Node.rel]
  | some l => simp [Node.rel, keep, pfx_cons_nil]

theorem Edges.filter_rel_cons {l : Nat} {child : Node} {r : Edges} (hsw : Edges.SW (.cons l child r))
    (c : Nat) (rest : Key) : (Edges.rel (.cons l child r)).filter (keep (c :: rest)) =
      if l = c then ((Node.rel child).map fun q => (child.pre ++ q.1, q.2)).filter (keep (c :: rest)) ++ Edges.rel r
      else ((Node.rel child).map fun q => (child.pre ++ q.1, q.2)) ++ (Edges.rel r).filter (keep (c :: rest)) := by
  obtain ⟨⟨t, ht⟩, _, hr, hlt⟩ := hsw
  rw [Edges.rel, List.filter_append]
  by_cases h : l = c
  · rw [if_pos h, filter_none_removed _ (Edges.rel r)]
    intro q hq
    obtain ⟨l', hl', t', ht'⟩ := Edges.rel_head r hr q hq
    rw [ht', pfx_cons_cons, decide_eq_false (h ▸ Nat.ne_of_gt (hlt l' hl')), Bool.false_and]
  · rw [if_neg h, filter_none_removed]
    intro q hq
    obtain ⟨q', _, rfl⟩ := List.mem_map.mp hq
    simp only [ht, List.cons_append, pfx_cons_cons, decide_eq_false h, Bool.false_and]

theorem delOK_clear {l : Nat} {child : Node} {r : Edges} {rest rem : Key} (hsw : Edges.SW (.cons l child r))
    (h : stripPrefix child.pre (l :: rest) = some rem) :
    DelOK (l :: rest) (.cons l child r) ⟨.cons l (.mk none child.pre .nil) r, (Node.walk child).length, true⟩ := by
  obtain ⟨f1, f2, f3⟩ := cleared_facts child.pre
  have hrel : Edges.rel (.cons l (.mk none child.pre .nil) r) = Edges.rel r := by
    rw [Edges.rel, f2]; rfl
  refine ⟨⟨hsw.1, f1, hsw.2.2⟩, rfl, ?_, ?_, rfl, fun path hlk => ⟨f3 _, hlk.2⟩, ?_⟩
  · rw [hrel, Edges.filter_rel_cons hsw, if_pos rfl, filter_all_removed, List.nil_append]
    intro q hq
    obtain ⟨q', _, rfl⟩ := List.mem_map.mp hq
    exact pfx_of_strip _ _ _ q'.1 h
  · rw [hrel, Edges.rel, List.length_append, List.length_map, Node.walk_len]
  · intro _ l1 c1 r1 he _
    cases he
    exact ⟨f2, child.pre, rfl⟩

theorem del_ok :
    (∀ n isRoot p c rest, p = c :: rest → Node.SW n → DelNodeOK p isRoot n (Node.del n isRoot p)) ∧
    (∀ es c p rest, p = c :: rest → Edges.SW es →
      (Edges.del es c p = none → (Edges.rel es).filter (keep p) = Edges.rel es) ∧
      ∀ d, Edges.del es c p = some d → DelOK p es d) := by
  refine Node.del.mutual_induct_unfolding
    (motive_1 := fun n isRoot p r => ∀ c rest, p = c :: rest → Node.SW n → DelNodeOK p isRoot n r)
    (motive_2 := fun es c p r => ∀ rest, p = c :: rest → Edges.SW es →
      (r = none → (Edges.rel es).filter (keep p) = Edges.rel es) ∧ ∀ d, r = some d → DelOK p es d)
    ?_ ?_ ?_ ?_ ?_ ?_ ?_ ?_ ?_ ?_ ?_ ?_
  · exact fun _ _ _ _ _ _ h => nomatch h
  · -- nothing below has the prefix
    intro leaf pre edges isRoot c rest hd ih _ _ hp hsw
    cases hp
    refine ⟨hsw, ?_, Nat.zero_add _, fun l t h => ⟨t, h⟩, fun _ => rfl, fun _ => rfl, fun P h => h,
      fun h => absurd rfl h⟩
    rw [rel_filter_mk, (ih rest rfl hsw).1 hd]
    cases leaf <;> rfl
  · -- the only edge left leads to the emptied node: the parent is merged with it
    intro leaf pre edges isRoot c rest d hd n' hm ih _ _ hp hsw
    cases hp
    have hE := (ih rest rfl hsw).2 d hd
    simp only [Bool.and_eq_true, Bool.not_eq_true', beq_iff_eq] at hm
    obtain ⟨⟨⟨hcl, hnr⟩, hlen⟩, hleaf⟩ := hm
    obtain rfl : leaf = none := by
      cases leaf with
      | none => rfl
      | some _ => cases hleaf
    obtain ⟨l1, c1, r1, hde⟩ : ∃ l1 c1 r1, d.edges = .cons l1 c1 r1 := by
      cases hde : d.edges with
      | nil => rw [hde] at hlen; cases hlen
      | cons l1 c1 r1 => exact ⟨l1, c1, r1, rfl⟩
    obtain rfl : r1 = .nil := by
      rw [hde] at hlen
      cases r1 with
      | nil => rfl
      | cons _ _ _ => cases hlen
    obtain ⟨hrelc, cpre, rfl⟩ := hE.cleared hcl l1 c1 .nil hde rfl
    have hrel0 : Edges.rel d.edges = [] := by rw [hde, Edges.rel, hrelc]; rfl
    have hn' : n' = .mk none pre (.cons l1 (.mk none cpre .nil) .nil) := by rw [← hde]
    clear_value n'
    subst hn'
    obtain ⟨m1, m2, m3, m4⟩ := mergeChild_facts pre l1 cpre .nil
    refine ⟨m2, ?_, ?_, fun l t hlt => ?_, fun h => absurd m1 h, fun h => ?_, fun P _ => m4 P, fun _ P => m4 P⟩
    · rw [m1, rel_filter_mk, ← hE.rel, hrel0]; rfl
    · rw [m1]
      show d.count + 0 = (Edges.rel edges).length
      rw [← hE.count, hrel0]; rfl
    · exact ⟨t ++ cpre, m3.trans (congrArg (· ++ cpre) hlt)⟩
    · rw [hnr] at h; cases h
  · intro leaf pre edges isRoot c rest d hd n' hm ih _ _ hp hsw
    cases hp
    have hE := (ih rest rfl hsw).2 d hd
    have hn' : n' = .mk leaf pre d.edges := rfl
    clear_value n'
    subst hn'
    refine ⟨hE.sw, ?_, ?_, fun l t h => ⟨t, h⟩, fun _ => rfl, fun _ => rfl, fun P hlk => ⟨hlk.1, hE.lk P hlk.2⟩,
      fun h => absurd rfl h⟩
    · rw [rel_filter_mk, ← hE.rel]
      cases leaf <;> rfl
    · show d.count + (Node.rel (.mk leaf pre d.edges)).length = (Node.rel (.mk leaf pre edges)).length
      simp only [Node.rel, List.length_append]
      rw [← hE.count, Nat.add_left_comm]
  · exact fun _ _ _ _ _ => ⟨fun _ => rfl, fun _ h => nomatch h⟩
  · -- neither is a prefix of the other
    intro child r c p h2 h1 rest hp hsw
    refine ⟨fun _ => ?_, fun _ h => nomatch h⟩
    rw [hp, Edges.filter_rel_cons hsw, if_pos rfl, filter_none_removed, Edges.rel]
    intro q hq
    obtain ⟨q', _, rfl⟩ := List.mem_map.mp hq
    exact hp ▸ pfx_incompatible _ _ _ h1 h2
  · -- the prefix ends inside the child's prefix
    intro child r c p a as h1 rest hp hsw
    refine ⟨fun h => (nomatch h), fun d hd => ?_⟩
    cases hd; cases hp
    exact delOK_clear hsw h1
  · -- the prefix is the child's prefix
    intro child r c p h2 _ rest hp hsw
    refine ⟨fun h => (nomatch h), fun d hd => ?_⟩
    cases hd; cases hp
    have : child.pre = c :: rest := by simpa using ((stripPrefix_some _ _ _).mp h2).symm
    exact delOK_clear hsw (rem := []) ((stripPrefix_some _ _ _).mpr (by rw [this, List.append_nil]))
  · -- the child's prefix is consumed: go on below the child
    intro child r c p x xs h2 child' cnt hdel _ ih rest hp hsw
    refine ⟨fun h => (nomatch h), fun d hd => ?_⟩
    cases hd
    have g := ih x xs rfl hsw.2.1
    rw [hdel] at g
    have hsplit : p = child.pre ++ x :: xs := (stripPrefix_some _ _ _).mp h2
    obtain ⟨t, ht⟩ := hsw.1
    have hblock : ((Node.rel child').map fun q => (child'.pre ++ q.1, q.2)) =
        ((Node.rel child).map fun q => (child.pre ++ q.1, q.2)).filter (keep p) := by
      rw [hsplit, filter_map_prefix, ← g.rel]
      by_cases hne : Node.rel child' = []
      · rw [hne]; rfl
      · rw [g.pre_ne hne]
    have hrel : Edges.rel (.cons c child' r) = (Edges.rel (.cons c child r)).filter (keep p) := by
      rw [hp, Edges.filter_rel_cons hsw, if_pos rfl, ← hp, ← hblock, Edges.rel]
    refine ⟨⟨g.pre_head c t ht, g.sw, hsw.2.2⟩, rfl, hrel, ?_, rfl, fun path hlk => ⟨?_, hlk.2⟩, fun h => nomatch h⟩
    · have hcount : cnt + (Node.rel child').length = (Node.rel child).length := g.count
      show cnt + (Edges.rel (.cons c child' r)).length = (Edges.rel (.cons c child r)).length
      rw [Edges.rel, Edges.rel, List.length_append, List.length_append, List.length_map, List.length_map,
        ← Nat.add_assoc, hcount]
    · by_cases hpe : child'.pre = child.pre
      · rw [hpe]; exact g.lk _ hlk.1
      · exact g.lk_merged hpe _
  · -- unreachable: equal strings are prefixes of each other
    intro child r c p h2 h1 _ _ _
    have : child.pre = p := by simpa using (stripPrefix_some _ _ _).mp h1
    rw [this, (stripPrefix_some p p []).mpr (List.append_nil p).symm] at h2
    cases h2
  · -- another label: the matching edge lies further right
    intro l child r c p hlc d hd ih rest hp hsw
    have hE := (ih rest hp hsw.2.2.1).2 d hd
    refine ⟨fun h => (nomatch h), fun d' hd' => ?_⟩
    cases hd'
    refine ⟨⟨hsw.1, hsw.2.1, hE.sw, hE.labels ▸ hsw.2.2.2⟩, by rw [Edges.labels, Edges.labels, hE.labels], ?_, ?_,
      by rw [Edges.length, Edges.length, hE.len], fun path hlk => ⟨hlk.1, hE.lk path hlk.2⟩, ?_⟩
    · rw [hp, Edges.filter_rel_cons hsw, if_neg hlc, ← hp, ← hE.rel, Edges.rel]
    · show d.count + (Edges.rel (.cons l child d.edges)).length = (Edges.rel (.cons l child r)).length
      rw [Edges.rel, Edges.rel, List.length_append, List.length_append, ← hE.count, Nat.add_left_comm]
    · intro _ l1 c1 r1 he hr1
      cases he
      have := hE.len
      rw [hr1] at this
      cases r with
      | nil => cases hd
      | cons _ _ _ => cases this
  · intro l child r c p hlc hd ih rest hp hsw
    refine ⟨fun _ => ?_, fun _ h => nomatch h⟩
    rw [hp, Edges.filter_rel_cons hsw, if_neg hlc, ← hp, (ih rest hp hsw.2.2.1).1 hd, Edges.rel]

theorem Node.del_spec : ∀ (n : Node) (isRoot : Bool) (c : Nat) (rest : Key), Node.SW n →
    Node.SW (Node.del n isRoot (c :: rest)).1 ∧
    Node.rel (Node.del n isRoot (c :: rest)).1 = (Node.rel n).filter (keep (c :: rest)) ∧
    (Node.del n isRoot (c :: rest)).2 + (Node.rel (Node.del n isRoot (c :: rest)).1).length = (Node.rel n).length ∧
    (∀ l t, n.pre = l :: t → ∃ t', (Node.del n isRoot (c :: rest)).1.pre = l :: t') ∧
    (Node.rel (Node.del n isRoot (c :: rest)).1 ≠ [] → (Node.del n isRoot (c :: rest)).1.pre = n.pre) ∧
    (isRoot = true → (Node.del n isRoot (c :: rest)).1.pre = n.pre) ∧
    (∀ P, Node.LK P n → Node.LK P (Node.del n isRoot (c :: rest)).1) ∧
    ((Node.del n isRoot (c :: rest)).1.pre ≠ n.pre → ∀ P, Node.LK P (Node.del n isRoot (c :: rest)).1) :=
  fun n isRoot c rest hsw =>
  have h := del_ok.1 n isRoot _ c rest rfl hsw
  ⟨h.sw, h.rel, h.count, h.pre_head, h.pre_ne, h.pre_root, h.lk, h.lk_merged⟩

theorem Edges.del_spec : ∀ (es : Edges) (c : Nat) (rest : Key), Edges.SW es →
    match Edges.del es c (c :: rest) with
    | none => (Edges.rel es).filter (keep (c :: rest)) = Edges.rel es
    | some d => DelOK (c :: rest) es d := by
  intro es c rest hsw
  have h := del_ok.2 es c _ rest rfl hsw
  cases hd : Edges.del es c (c :: rest) with
  | none => exact h.1 hd
  | some d => exact h.2 d hd

end Influx.Radix
