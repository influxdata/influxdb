/-
  Lemmas.TSIVarint — `PutUvarint` / `Uvarint` round trip and the torn-varint lemma: a strict
  prefix of an encoded varint is always reported as a short buffer, never as a parse error;
  the same for the length-prefixed fields and the whole entry framing.
-/
import Influx.Model.TSIVarint

namespace Influx.Model.TSI

theorem putUvarint_small {x : Nat} (h : x < 128) : putUvarint x = [x] := by
  rw [putUvarint, if_pos h]

theorem putUvarint_big {x : Nat} (h : ¬ x < 128) :
    putUvarint x = (x % 128 + 128) :: putUvarint (x / 128) := by
  rw [putUvarint, if_neg h]

theorem putUvarint_length_pos (x : Nat) : 0 < (putUvarint x).length := by
  by_cases h : x < 128
  · rw [putUvarint_small h]; exact Nat.one_pos
  · rw [putUvarint_big h]; exact Nat.succ_pos _

theorem fitsUv_small {i x : Nat} (h : x < 128) : fitsUv i x = (i < 9 || (i == 9 && x ≤ 1)) := by
  rw [fitsUv, if_pos h]

theorem fitsUv_big {i x : Nat} (h : ¬ x < 128) : fitsUv i x = (i < 9 && fitsUv (i + 1) (x / 128)) := by
  rw [fitsUv, if_neg h]

theorem readUv_put (x : Nat) : ∀ (i : Nat) (rest : List Nat), fitsUv i x = true →
    readUv i (putUvarint x ++ rest) = .ok x (putUvarint x).length := by
  induction x using Nat.strongRecOn with
  | _ x ih =>
    intro i rest hf
    by_cases h : x < 128
    · rw [fitsUv_small h] at hf
      have hi : i ≠ 10 ∧ ¬ (i = 9 ∧ x > 1) := by
        simp only [Bool.or_eq_true, Bool.and_eq_true, decide_eq_true_eq, beq_iff_eq] at hf
        omega
      simp only [putUvarint_small h, List.singleton_append, readUv, hi.1, hi.2, h, if_true, if_false,
        List.length_singleton]
    · rw [fitsUv_big h, Bool.and_eq_true, decide_eq_true_eq] at hf
      have hi : i ≠ 10 := by omega
      have hb : ¬ x % 128 + 128 < 128 := Nat.not_lt.2 (Nat.le_add_left _ _)
      rw [putUvarint_big h, List.cons_append, readUv, if_neg hi, if_neg hb,
        ih (x / 128) (by omega) (i + 1) rest hf.2]
      simp only [List.length_cons, Nat.add_sub_cancel, Nat.mod_add_div]

theorem readUv_prefix (x : Nat) : ∀ (i m : Nat), fitsUv i x = true → m < (putUvarint x).length →
    readUv i ((putUvarint x).take m) = .short := by
  induction x using Nat.strongRecOn with
  | _ x ih =>
    intro i m hf hm
    cases m with
    | zero => rfl
    | succ m =>
      by_cases h : x < 128
      · rw [putUvarint_small h] at hm
        exact absurd hm (by simp)
      · rw [fitsUv_big h, Bool.and_eq_true, decide_eq_true_eq] at hf
        have hi : i ≠ 10 := by omega
        have hb : ¬ x % 128 + 128 < 128 := Nat.not_lt.2 (Nat.le_add_left _ _)
        rw [putUvarint_big h] at hm ⊢
        rw [List.take_succ_cons, readUv, if_neg hi, if_neg hb,
          ih (x / 128) (by omega) (i + 1) m hf.2 (Nat.lt_of_succ_lt_succ hm)]

theorem uvarintHelper_put (x : Nat) (rest : List Nat) (hf : fitsUv 0 x = true) :
    uvarintHelper (putUvarint x ++ rest) = .ok x (putUvarint x).length := by
  have hpos := putUvarint_length_pos x
  have h1 : ¬ (putUvarint x ++ rest).length < 1 := by rw [List.length_append]; omega
  have h2 : ¬ (putUvarint x).length > (putUvarint x ++ rest).length := by
    rw [List.length_append]; omega
  simp only [uvarintHelper, h1, if_false, readUv_put x 0 rest hf, h2]

/-- **tsi1's helper on a torn varint: `io.ErrShortBuffer`, never a parse error** — the case
    `binary.Uvarint` reports as `n == 0`. `LogFile.open` drops the tail only on
    `io.ErrShortBuffer` (or a checksum mismatch); any other error aborts `Open`. -/
theorem uvarintHelper_torn (x m : Nat) (hf : fitsUv 0 x = true) (hm : m < (putUvarint x).length) :
    uvarintHelper ((putUvarint x).take m) = .shortBuffer := by
  simp only [uvarintHelper, readUv_prefix x 0 m hf hm, ite_self]

theorem take_append_cases {α : Type} (a b : List α) (m : Nat) :
    (m < a.length ∧ (a ++ b).take m = a.take m) ∨
      ∃ k, m = a.length + k ∧ (a ++ b).take m = a ++ b.take k := by
  by_cases h : m < a.length
  · exact Or.inl ⟨h, List.take_append_of_le_length (Nat.le_of_lt h)⟩
  · exact Or.inr ⟨m - a.length, by omega, by
      rw [List.take_append, List.take_of_length_le (Nat.le_of_not_lt h)]⟩

theorem readField_put (s rest : List Nat) (hf : fitsUv 0 s.length = true) :
    readField (lenPrefixed s ++ rest) = .ok s rest := by
  have hlen : ¬ (putUvarint s.length ++ (s ++ rest)).length < (putUvarint s.length).length + s.length := by
    simp only [List.length_append]; omega
  simp only [readField, lenPrefixed, List.append_assoc, uvarintHelper_put _ _ hf, hlen, if_false,
    List.drop_left, List.take_left]
  rw [← List.append_assoc, ← List.length_append, List.drop_left]

theorem readField_torn (s : List Nat) (hf : fitsUv 0 s.length = true) (m : Nat)
    (hm : m < (lenPrefixed s).length) : readField ((lenPrefixed s).take m) = .shortBuffer := by
  unfold lenPrefixed at hm ⊢
  rcases take_append_cases (putUvarint s.length) s m with ⟨h, e⟩ | ⟨k, rfl, e⟩ <;> rw [e]
  · simp only [readField, uvarintHelper_torn _ _ hf h]
  · have hlen : (putUvarint s.length ++ s.take k).length < (putUvarint s.length).length + s.length := by
      simp only [List.length_append, List.length_take] at hm ⊢; omega
    simp only [readField, uvarintHelper_put _ _ hf, hlen, if_true]

/-- the fields of an entry fit their varints (always so in Go: ids and lengths are 64-bit). -/
def RawEntry.fits (e : RawEntry) : Prop :=
  fitsUv 0 e.id = true ∧ fitsUv 0 e.name.length = true ∧ fitsUv 0 e.key.length = true ∧
    fitsUv 0 e.value.length = true

theorem parseFields_take (e : RawEntry) (hf : e.fits) (tail : List Nat) (m : Nat) :
    let buf := putUvarint e.id ++ (lenPrefixed e.name ++ (lenPrefixed e.key ++ (lenPrefixed e.value ++ tail)))
    parseFields (buf.take m) = .shortBuffer ∨
      ∃ k, m = (putUvarint e.id).length + ((lenPrefixed e.name).length + ((lenPrefixed e.key).length +
          ((lenPrefixed e.value).length + k))) ∧
        parseFields (buf.take m) = .ok e.id e.name e.key e.value (tail.take k) := by
  obtain ⟨hid, hname, hkey, hval⟩ := hf
  intro buf
  -- one field per step: the cut is inside it, or the field is whole and the cut is further on
  rcases take_append_cases (putUvarint e.id) _ m with ⟨h, e1⟩ | ⟨k1, rfl, e1⟩ <;> rw [e1]
  · exact Or.inl (by simp only [parseFields, uvarintHelper_torn _ _ hid h])
  simp only [parseFields, uvarintHelper_put _ _ hid, List.drop_left]
  rcases take_append_cases (lenPrefixed e.name) _ k1 with ⟨h, e2⟩ | ⟨k2, rfl, e2⟩ <;> rw [e2]
  · exact Or.inl (by simp only [readField_torn _ hname _ h])
  simp only [readField_put _ _ hname]
  rcases take_append_cases (lenPrefixed e.key) _ k2 with ⟨h, e3⟩ | ⟨k3, rfl, e3⟩ <;> rw [e3]
  · exact Or.inl (by simp only [readField_torn _ hkey _ h])
  simp only [readField_put _ _ hkey]
  rcases take_append_cases (lenPrefixed e.value) tail k3 with ⟨h, e4⟩ | ⟨k4, rfl, e4⟩ <;> rw [e4]
  · exact Or.inl (by simp only [readField_torn _ hval _ h])
  exact Or.inr ⟨k4, rfl, by simp only [readField_put _ _ hval]⟩

theorem decodeEntry_torn (crc : List Nat → List Nat) (hcrc : ∀ b, (crc b).length = 4) (e : RawEntry)
    (hf : e.fits) (m : Nat) (hm : m < (encodeEntry crc e).length) :
    decodeEntry crc ((encodeEntry crc e).take m) = .shortBuffer := by
  unfold encodeEntry at hm ⊢
  have hC := hcrc (entryBody e)
  generalize crc (entryBody e) = C at hm hC ⊢
  cases m with
  | zero => rfl
  | succ m =>
    simp only [entryBody, List.cons_append, List.append_assoc, List.length_cons, List.length_append]
      at hm ⊢
    rw [List.take_succ_cons]
    rcases parseFields_take e hf C m with h | ⟨k, rfl, h⟩ <;> simp only [decodeEntry, h]
    -- the cut is inside the checksum
    rw [if_pos (by rw [List.length_take]; omega)]

end Influx.Model.TSI
