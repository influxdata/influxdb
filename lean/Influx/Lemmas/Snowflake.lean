/-
  Lemmas.Snowflake — arithmetic of the snowflake bit fields and the invariant of
  `Model.Snowflake.step` that the distinctness theorem of C31 rests on.
-/
import Influx.Model.Snowflake

namespace Influx.Lemmas.Snowflake
open Influx.Model.Snowflake Influx.Generated.IDGen

theorem mask_mod (x : Nat) : x &&& timeMask = x % 2 ^ 42 := Nat.and_two_pow_sub_one_eq_mod x 42
theorem seq_mod (x : Nat) : x &&& sequenceMask = x % 2 ^ 12 := Nat.and_two_pow_sub_one_eq_mod x 12
theorem srv_mod (x : Nat) : x &&& serverMax = x % 2 ^ 10 := Nat.and_two_pow_sub_one_eq_mod x 10

theorem tOf_lt (now : Nat) : tOf now < 2 ^ 42 := by
  unfold tOf; rw [mask_mod]; exact Nat.mod_lt _ (by decide)

/-- a shared word with time field `T`, sequence field `q` and the machine-id bits clear -/
def Word (g : Nat) : Prop := ∃ T q, g = T * 2 ^ 22 + q ∧ T < 2 ^ 42 ∧ q < 2 ^ 12

theorem word_of_clear (g : Nat) (hg : g < 2 ^ 64) (hclr : g / 4096 % 1024 = 0) : Word g :=
  ⟨g / 2 ^ 22, g % 2 ^ 22, (Nat.div_add_mod' ..).symm, Nat.div_lt_of_lt_mul hg,
    Nat.lt_of_div_eq_zero (by decide) ((Nat.mod_mul_right_div_self g 4096 1024).trans hclr)⟩

theorem field_lt {a a' b k : Nat} (hb : b < 2 ^ k) (h : a < a') : a * 2 ^ k + b < a' * 2 ^ k :=
  Nat.lt_of_lt_of_le (Nat.add_lt_add_left hb _) (by rw [← Nat.succ_mul]; exact Nat.mul_le_mul_right _ h)

theorem seq_lt_shift {q : Nat} (hq : q < 2 ^ 12) : q < 2 ^ 22 :=
  Nat.lt_trans hq (Nat.pow_lt_pow_right (by decide) (by decide))

theorem word_time (T q : Nat) (hT : T < 2 ^ 42) (hq : q < 2 ^ 12) :
    (T * 2 ^ 22 + q) >>> timeShift &&& timeMask = T := by
  rw [mask_mod, Nat.shiftRight_eq_div_pow, timeShift, Nat.add_comm, Nat.add_mul_div_right _ _ (Nat.two_pow_pos 22),
    Nat.div_eq_of_lt (seq_lt_shift hq), Nat.zero_add, Nat.mod_eq_of_lt hT]

theorem word_seq (T q : Nat) (hq : q < 2 ^ 12) : (T * 2 ^ 22 + q) &&& sequenceMask = q := by
  rw [seq_mod, show T * 2 ^ 22 = T * 2 ^ 10 * 2 ^ 12 by rw [Nat.mul_assoc, ← Nat.pow_add], Nat.mul_add_mod_of_lt hq]

theorem u64_time (T : Nat) (hT : T < 2 ^ 42) : u64 (T <<< timeShift) = T * 2 ^ 22 :=
  (congrArg u64 (Nat.shiftLeft_eq ..)).trans (Nat.mod_eq_of_lt (Nat.mul_lt_mul_of_pos_right hT (Nat.two_pow_pos 22)))

/-- the fallback add, and the `default` case of the switch, from a word whose sequence field is not full -/
theorem add_spec (g : Nat) (hw : Word g) (hseq : ¬ (g &&& sequenceMask = sequenceMask)) :
    g < u64 (g + 1) ∧ Word (u64 (g + 1)) := by
  obtain ⟨T, q, rfl, hT, hq⟩ := hw
  rw [word_seq T q hq] at hseq
  have hq1 : q + 1 < 2 ^ 12 := Nat.lt_of_le_of_ne hq fun h => hseq (Nat.succ.inj h)
  rw [Nat.add_assoc, u64, Nat.mod_eq_of_lt (field_lt (seq_lt_shift hq1) hT)]
  exact ⟨Nat.add_lt_add_left (Nat.lt_succ_self q) _, T, q + 1, rfl, hT, hq1⟩

theorem propose_spec (t cur : Nat) (ht : t < 2 ^ 42) (hw : Word cur) (hne : propose t cur ≠ 0) :
    cur < propose t cur ∧ Word (propose t cur) := by
  obtain ⟨T, q, rfl, hT, hq⟩ := hw
  unfold propose at hne ⊢
  simp only [word_time T q hT hq] at hne ⊢
  by_cases h1 : t > T
  · rw [if_pos h1, u64_time t ht]
    exact ⟨field_lt (seq_lt_shift hq) h1, t, 0, (Nat.add_zero _).symm, ht, Nat.two_pow_pos 12⟩
  · rw [if_neg h1] at hne ⊢
    by_cases h2 : (T * 2 ^ 22 + q) &&& sequenceMask = sequenceMask
    · rw [if_pos h2] at hne ⊢
      -- a time field of `2^42` would wrap the word to `0`
      have hT1 : T + 1 < 2 ^ 42 := by
        apply Nat.lt_of_le_of_ne (Nat.succ_le_of_lt hT)
        intro (h : T + 1 = 2 ^ 42); rw [h] at hne; exact hne rfl
      rw [u64_time _ hT1]
      exact ⟨field_lt (seq_lt_shift hq) (Nat.lt_succ_self T), T + 1, 0, (Nat.add_zero _).symm, hT1, Nat.two_pow_pos 12⟩
    · rw [if_neg h2]
      exact add_spec _ ⟨T, q, rfl, hT, hq⟩ h2

theorem or_machine (r mid : Nat) (hw : Word r) (hmid : mid ≤ 1023) :
    r ||| (mid <<< 12) = r + mid * 4096 := by
  obtain ⟨T, q, rfl, _, hq⟩ := hw
  have h2 : mid <<< 12 + q < 2 ^ 22 := by rw [Nat.shiftLeft_eq]; omega
  rw [show T * 2 ^ 22 + q + mid * 4096 = T <<< 22 + (mid <<< 12 + q) by
      rw [Nat.shiftLeft_eq, Nat.shiftLeft_eq, Nat.add_assoc, Nat.add_comm q],
    ← Nat.shiftLeft_eq T 22, Nat.shiftLeft_add_eq_or_of_lt h2, Nat.shiftLeft_add_eq_or_of_lt hq,
    Nat.shiftLeft_add_eq_or_of_lt (seq_lt_shift hq), Nat.or_assoc, Nat.or_comm q]

/-- the clock reading a caller holds in its local `t` is masked -/
def pcOK : PC → Prop
  | .gotT _ t | .loaded _ t _ => t < 2 ^ 42
  | _ => True

theorem setPC_ok {pc : Nat → PC} {p : PC} (tid : Nat) (h : ∀ j, pcOK (pc j)) (hp : pcOK p) :
    ∀ j, pcOK (setPC pc tid p j) := by
  intro j
  unfold setPC
  by_cases hj : j = tid
  · rw [if_pos hj]; exact hp
  · rw [if_neg hj]; exact h j

/-- What every reachable state of the generator with machine word `m` satisfies as long as the ghost
    flag `bad` is clear. -/
structure Inv (m : Nat) (s : Sys) : Prop where
  machine : s.machine = m
  g_word : Word s.g
  /-- the words handed out so far are positive, none above the shared word -/
  raw_word : ∀ r ∈ s.raw, 0 < r ∧ r ≤ s.g ∧ Word r
  raw_sorted : s.raw.Pairwise (· < ·)
  out_eq : s.out = s.raw.map (· ||| s.machine)
  pc_ok : ∀ tid, pcOK (s.pc tid)

theorem inv_init (g m : Nat) (hg : Word g) : Inv m (Sys.init g m) :=
  ⟨rfl, hg, fun _ h => absurd h List.not_mem_nil, .nil, rfl, fun _ => trivial⟩

theorem inv_emit {m : Nat} {s : Sys} {st : Nat} {pc' : Nat → PC} (b : Bool) (hi : Inv m s)
    (hgt : s.g < st) (hw : Word st) (hpc : ∀ tid, pcOK (pc' tid)) :
    Inv m { s with g := st, pc := pc', out := s.out ++ [st ||| s.machine], raw := s.raw ++ [st], bad := b } where
  machine := hi.machine
  g_word := hw
  raw_word := by
    intro r hr
    rcases List.mem_append.mp hr with hr | hr
    · obtain ⟨h0, hle, hrw⟩ := hi.raw_word r hr
      exact ⟨h0, Nat.le_trans hle (Nat.le_of_lt hgt), hrw⟩
    · cases List.mem_singleton.mp hr
      exact ⟨Nat.zero_lt_of_lt hgt, Nat.le_refl _, hw⟩
  raw_sorted := by
    refine List.pairwise_append.mpr ⟨hi.raw_sorted, List.pairwise_singleton .., ?_⟩
    intro a ha b hb
    cases List.mem_singleton.mp hb
    exact Nat.lt_of_le_of_lt (hi.raw_word a ha).2.1 hgt
  out_eq := by
    show s.out ++ [st ||| s.machine] = (s.raw ++ [st]).map (· ||| s.machine)
    rw [List.map_append, hi.out_eq]; rfl
  pc_ok := hpc

/-- `| machine` adds `mid * 4096` to every word handed out, so the values returned are positive and in
    strictly increasing order. -/
theorem Inv.out_increasing {mid : Nat} {s : Sys} (hi : Inv (mid <<< 12) s) (hmid : mid ≤ 1023) :
    s.out.Pairwise (· < ·) ∧ ∀ v ∈ s.out, 0 < v := by
  have hout : s.out = s.raw.map (· + mid * 4096) := by
    rw [hi.out_eq, hi.machine]
    exact List.map_congr_left fun r hr => or_machine r mid (hi.raw_word r hr).2.2 hmid
  rw [hout]
  refine ⟨List.pairwise_map.mpr (hi.raw_sorted.imp fun h => Nat.add_lt_add_right h _), ?_⟩
  intro v hv
  obtain ⟨r, hr, rfl⟩ := List.mem_map.mp hv
  exact Nat.add_pos_left (hi.raw_word r hr).1 _

/-- Every step is of one of three kinds.  `move`: one caller's program counter changes, its local `t` stays
    masked.  `emit`: a word `st` is installed and handed out, the flag becomes `b`; if `b` is down, the flag was
    down and `st` is a word above the shared one.  `wrap`: the CAS installs the wrapped word `0`, the flag goes up. -/
theorem step_cases {P : Sys → Prop} (s : Sys) (tid now : Nat)
    (move : ∀ p, (pcOK (s.pc tid) → pcOK p) → P { s with pc := setPC s.pc tid p })
    (emit : ∀ st b, (b = false → s.bad = false) →
      (b = false → Word s.g → pcOK (s.pc tid) → s.g < st ∧ Word st) →
      P { s with g := st, pc := setPC s.pc tid .idle, out := s.out ++ [st ||| s.machine],
                 raw := s.raw ++ [st], bad := b })
    (wrap : ∀ st p, P { s with g := st, pc := p, bad := true }) : P (step s tid now) := by
  unfold step
  cases hpc : s.pc tid with
  | idle => exact move _ fun _ => tOf_lt now
  | top i => exact move _ fun _ => tOf_lt now
  | gotT i t => exact move _ fun h => by rw [hpc] at h; exact h
  | loaded i t cur =>
    dsimp only
    by_cases hg : s.g = cur
    · rw [if_pos hg]
      by_cases h0 : propose t cur = 0
      · rw [if_pos h0]; exact wrap _ _
      · rw [if_neg h0]
        exact emit _ _ id fun _ hw hp => by rw [hg] at hw ⊢; rw [hpc] at hp; exact propose_spec t cur hp hw h0
    · rw [if_neg hg]
      by_cases hi : i + 1 < maxTries
      · rw [if_pos hi]; exact move _ fun _ => trivial
      · rw [if_neg hi]; exact move _ fun _ => trivial
  | fallback =>
    exact emit _ _ (fun h => (Bool.or_eq_false_iff.mp h).1) fun h hw _ =>
      add_spec s.g hw (of_decide_eq_false (Bool.or_eq_false_iff.mp h).2)

theorem step_inv {m : Nat} {s : Sys} (tid now : Nat) (hi : Inv m s) :
    (step s tid now).bad = false → Inv m (step s tid now) := by
  apply step_cases (P := fun x => x.bad = false → Inv m x) s tid now
  · exact fun p hp _ => { hi with pc_ok := setPC_ok tid hi.pc_ok (hp (hi.pc_ok tid)) }
  · intro st b _ hw hb
    obtain ⟨p1, p2⟩ := hw hb hi.g_word (hi.pc_ok tid)
    exact inv_emit b hi p1 p2 (setPC_ok tid hi.pc_ok trivial)
  · exact fun _ _ hb => nomatch hb

theorem bad_sticky (s : Sys) (tid now : Nat) : (step s tid now).bad = false → s.bad = false := by
  apply step_cases (P := fun x => x.bad = false → s.bad = false) s tid now
  · exact fun _ _ h => h
  · exact fun _ _ hb _ h => hb h
  · exact fun _ _ h => nomatch h

theorem run_bad_sticky (sched : Sched) (s : Sys) (h : (run s sched).bad = false) : s.bad = false := by
  induction sched generalizing s with
  | nil => exact h
  | cons e rest ih => exact bad_sticky s e.1 e.2 (ih _ h)

theorem run_inv {m : Nat} (sched : Sched) (s : Sys) (hi : Inv m s) (hb : (run s sched).bad = false) :
    Inv m (run s sched) := by
  induction sched generalizing s with
  | nil => exact hi
  | cons e rest ih => exact ih _ (step_inv e.1 e.2 hi (run_bad_sticky rest _ hb)) hb

end Influx.Lemmas.Snowflake
