/-
  Lemmas.DelPredEval — the lazily evaluated, memoising predicate tree of
  tsm1/predicate.go computes the cache-free three-valued value `eval3` of the
  current slots; definite values are stable when more slots get filled; every
  tree that compiles has its slot indices in range.
-/
import Influx.Model.DelPred

namespace Influx.Model.DelPred

/-- content of a slot (`none` = nil or out of range) -/
def slot (vals : List (Option Bytes)) (i : Nat) : Option Bytes :=
  match vals[i]? with
  | some (some x) => some x
  | _ => none

def opVal (vals : List (Option Bytes)) : Operand → Option Bytes
  | .lit b => some b
  | .ref i => slot vals i

def cmp3 (neq : Bool) : Option Bytes → Option Bytes → Resp
  | some l, some r => respOfBool (evalCmp neq l r)
  | _, _ => .needMore

/-- AND as `predicateNodeAnd.Update` answers: an undetermined left side hides the right one -/
def and3 : Resp → Resp → Resp
  | .false_, _ => .false_
  | .needMore, _ => .needMore
  | .true_, r => r

def or3 : Resp → Resp → Resp
  | .true_, _ => .true_
  | _, .true_ => .true_
  | .false_, .false_ => .false_
  | _, _ => .needMore

def eval3 (vals : List (Option Bytes)) : PNode → Resp
  | .cmp _ neq l r => cmp3 neq (opVal vals l) (opVal vals r)
  | .and _ l r => and3 (eval3 vals l) (eval3 vals r)
  | .or _ l r => or3 (eval3 vals l) (eval3 vals r)

theorem respOfBool_ne (b : Bool) : respOfBool b ≠ .needMore := by
  cases b <;> exact nofun

def Resp.le (a b : Resp) : Prop := a ≠ .needMore → b = a

theorem and3_mono {a a' b b' : Resp} (ha : a.le a') (hb : b.le b') : (and3 a b).le (and3 a' b') := by
  intro h
  cases a with
  | false_ => rw [ha nofun]; rfl
  | needMore => exact absurd rfl h
  | true_ => rw [ha nofun]; exact hb h

theorem or3_mono {a a' b b' : Resp} (ha : a.le a') (hb : b.le b') : (or3 a b).le (or3 a' b') := by
  intro h
  cases a with
  | true_ => rw [ha nofun]; rfl
  | false_ =>
    rw [ha nofun]
    cases b with
    | needMore => exact absurd rfl h
    | true_ => rw [hb nofun]
    | false_ => rw [hb nofun]
  | needMore =>
    cases b with
    | true_ => rw [hb nofun]; cases a' <;> rfl
    | false_ => exact absurd rfl h
    | needMore => exact absurd rfl h

def LEv (a b : List (Option Bytes)) : Prop := ∀ i x, slot a i = some x → slot b i = some x

theorem opVal_mono {a b} (h : LEv a b) {o : Operand} {x : Bytes} (hx : opVal a o = some x) :
    opVal b o = some x := by
  cases o with
  | lit v => exact hx
  | ref i => exact h i x hx

theorem eval3_mono {a b} (h : LEv a b) (n : PNode) : (eval3 a n).le (eval3 b n) := by
  induction n with
  | cmp c neq l r =>
    intro hd
    simp only [eval3] at hd ⊢
    cases hl : opVal a l with
    | none => rw [hl] at hd; exact absurd rfl hd
    | some lv =>
      cases hr : opVal a r with
      | none => rw [hl, hr] at hd; exact absurd rfl hd
      | some rv => rw [opVal_mono h hl, opVal_mono h hr]
  | and c l r ihl ihr => exact and3_mono ihl ihr
  | or c l r ihl ihr => exact or3_mono ihl ihr

def strip : PNode → PNode
  | .cmp _ neq l r => .cmp newCache neq l r
  | .and _ l r => .and newCache (strip l) (strip r)
  | .or _ l r => .or newCache (strip l) (strip r)

theorem eval3_strip (vals) (n : PNode) : eval3 vals (strip n) = eval3 vals n := by
  induction n with
  | cmp c neq l r => rfl
  | and c l r ihl ihr => rw [strip, eval3, ihl, ihr]; rfl
  | or c l r ihl ihr => rw [strip, eval3, ihl, ihr]; rfl

theorem eval3_congr {a b : PNode} (h : strip a = strip b) (vals) : eval3 vals a = eval3 vals b := by
  rw [← eval3_strip vals a, ← eval3_strip vals b, h]

def opWF (n : Nat) : Operand → Prop
  | .lit _ => True
  | .ref i => i < n

def WFn (n : Nat) : PNode → Prop
  | .cmp _ _ l r => opWF n l ∧ opWF n r
  | .and _ l r => WFn n l ∧ WFn n r
  | .or _ l r => WFn n l ∧ WFn n r

theorem WFn_strip (k : Nat) (n : PNode) : WFn k (strip n) ↔ WFn k n := by
  induction n with
  | cmp c neq l r => exact Iff.rfl
  | and c l r ihl ihr => exact and_congr ihl ihr
  | or c l r ihl ihr => exact and_congr ihl ihr

theorem WFn_congr {a b : PNode} (h : strip a = strip b) (k) : WFn k a ↔ WFn k b := by
  rw [← WFn_strip k a, ← WFn_strip k b, h]

theorem operandVal_of_WF {vals : List (Option Bytes)} {o : Operand} (h : opWF vals.length o) :
    operandVal vals o = some (opVal vals o) := by
  cases o with
  | lit b => rfl
  | ref i =>
    have hi : i < vals.length := h
    simp only [operandVal, opVal, slot, List.getElem?_eq_getElem hi]
    cases vals[i] <;> rfl

def PNode.cache : PNode → Cache
  | .cmp c _ _ _ => c
  | .and c _ _ => c
  | .or c _ _ => c

/-- the node's own cache, if of the current generation, holds the (definite) value of the node -/
def TopOK (g : Nat) (vals : List (Option Bytes)) (n : PNode) : Prop :=
  n.cache.gen = g → n.cache.resp = eval3 vals n ∧ n.cache.resp ≠ .needMore

/-- every cache of the current generation holds the value of its node -/
def CacheOK (g : Nat) (vals : List (Option Bytes)) : PNode → Prop
  | .cmp c neq l r => TopOK g vals (.cmp c neq l r)
  | .and c l r => TopOK g vals (.and c l r) ∧ CacheOK g vals l ∧ CacheOK g vals r
  | .or c l r => TopOK g vals (.or c l r) ∧ CacheOK g vals l ∧ CacheOK g vals r

def GenLE (g : Nat) : PNode → Prop
  | .cmp c _ _ _ => c.gen ≤ g
  | .and c l r => c.gen ≤ g ∧ GenLE g l ∧ GenLE g r
  | .or c l r => c.gen ≤ g ∧ GenLE g l ∧ GenLE g r

theorem CacheOK.top {g vals n} (h : CacheOK g vals n) : TopOK g vals n := by
  cases n with
  | cmp c neq l r => exact h
  | and c l r => exact h.1
  | or c l r => exact h.1

theorem GenLE.top {g n} (h : GenLE g n) : n.cache.gen ≤ g := by
  cases n with
  | cmp c neq l r => exact h
  | and c l r => exact h.1
  | or c l r => exact h.1

theorem TopOK.mono {g a b n} (h : LEv a b) (hc : TopOK g a n) : TopOK g b n := fun hg =>
  have := hc hg
  ⟨by rw [eval3_mono h n (this.1 ▸ this.2)]; exact this.1, this.2⟩

theorem cacheOK_mono {g a b} (h : LEv a b) (n : PNode) (hc : CacheOK g a n) : CacheOK g b n := by
  induction n with
  | cmp c neq l r => exact TopOK.mono h hc
  | and c l r ihl ihr => exact ⟨hc.1.mono h, ihl hc.2.1, ihr hc.2.2⟩
  | or c l r ihl ihr => exact ⟨hc.1.mono h, ihl hc.2.1, ihr hc.2.2⟩

theorem genLE_mono {g g' : Nat} (h : g ≤ g') (n : PNode) (hg : GenLE g n) : GenLE g' n := by
  induction n with
  | cmp c neq l r => exact Nat.le_trans hg h
  | and c l r ihl ihr => exact ⟨Nat.le_trans hg.1 h, ihl hg.2.1, ihr hg.2.2⟩
  | or c l r ihl ihr => exact ⟨Nat.le_trans hg.1 h, ihl hg.2.1, ihr hg.2.2⟩

/-- after `Reset` (generation bumped) every cache is stale, hence vacuously sound -/
theorem cacheOK_of_genLE {g : Nat} (vals) (n : PNode) (hg : GenLE g n) : CacheOK (g + 1) vals n := by
  have top : ∀ {n : PNode}, GenLE g n → TopOK (g + 1) vals n :=
    fun h e => by have := h.top; omega
  induction n with
  | cmp c neq l r => exact top hg
  | and c l r ihl ihr => exact ⟨top hg, ihl hg.2.1, ihr hg.2.2⟩
  | or c l r ihl ihr => exact ⟨top hg, ihl hg.2.1, ihr hg.2.2⟩

/-- what a call `update g vals n = some (r, n')` leaves behind: the shape, the generation bound,
    and, if the caches were sound, the value of the node and sound caches -/
structure Upd (g : Nat) (vals : List (Option Bytes)) (n : PNode) (r : Resp) (n' : PNode) : Prop where
  shape : strip n' = strip n
  gens : GenLE g n → GenLE g n'
  sound : CacheOK g vals n → r = eval3 vals n ∧ CacheOK g vals n'

namespace Upd
variable {g : Nat} {vals : List (Option Bytes)}

/-- nothing evaluated, nothing stored -/
theorem same {n : PNode} {r : Resp} (h : r = eval3 vals n) : Upd g vals n r n :=
  ⟨rfl, id, fun hc => ⟨h, hc⟩⟩

/-- the answer came from the node's cache -/
theorem cached {n : PNode} (h : n.cache.gen = g) : Upd g vals n n.cache.resp n :=
  ⟨rfl, id, fun hc => ⟨(hc.top h).1, hc⟩⟩

/-- a comparison whose operands are both there stores its value -/
theorem cmp {c neq l r} {d : Resp} (h : d = eval3 vals (.cmp c neq l r)) (hd : d ≠ .needMore) :
    Upd g vals (.cmp c neq l r) d (.cmp ⟨g, d⟩ neq l r) :=
  ⟨rfl, fun _ => Nat.le_refl g, fun _ => ⟨h, fun _ => ⟨h, hd⟩⟩⟩

/-- what `Update()` of an AND/OR node does to the node's own cache when it answers `d` -/
def CacheStep (g : Nat) (c c' : Cache) (d : Resp) : Prop :=
  (c.gen ≤ g → c'.gen ≤ g) ∧ (c'.gen = g → c'.resp = d ∧ d ≠ .needMore)

/-- a stale cache is left alone -/
theorem CacheStep.keep {c : Cache} {d : Resp} (h : c.gen ≠ g) : CacheStep g c c d :=
  ⟨id, fun e => absurd e h⟩

/-- a definite answer is stored -/
theorem CacheStep.store {c : Cache} {d : Resp} (h : d ≠ .needMore) : CacheStep g c ⟨g, d⟩ d :=
  ⟨fun _ => Nat.le_refl g, fun _ => ⟨rfl, h⟩⟩

theorem and {c c' l l' r r' rl rr} (hl : Upd g vals l rl l') (hr : Upd g vals r rr r')
    (hc : CacheStep g c c' (and3 rl rr)) : Upd g vals (.and c l r) (and3 rl rr) (.and c' l' r') where
  shape := by rw [strip, strip, hl.shape, hr.shape]
  gens h := ⟨hc.1 h.1, hl.gens h.2.1, hr.gens h.2.2⟩
  sound h := by
    obtain ⟨rfl, hl'⟩ := hl.sound h.2.1
    obtain ⟨rfl, hr'⟩ := hr.sound h.2.2
    refine ⟨rfl, fun e => ?_, hl', hr'⟩
    rw [eval3, eval3_congr hl.shape, eval3_congr hr.shape]
    exact ⟨(hc.2 e).1, (hc.2 e).1 ▸ (hc.2 e).2⟩

theorem or {c c' l l' r r' rl rr} (hl : Upd g vals l rl l') (hr : Upd g vals r rr r')
    (hc : CacheStep g c c' (or3 rl rr)) : Upd g vals (.or c l r) (or3 rl rr) (.or c' l' r') where
  shape := by rw [strip, strip, hl.shape, hr.shape]
  gens h := ⟨hc.1 h.1, hl.gens h.2.1, hr.gens h.2.2⟩
  sound h := by
    obtain ⟨rfl, hl'⟩ := hl.sound h.2.1
    obtain ⟨rfl, hr'⟩ := hr.sound h.2.2
    refine ⟨rfl, fun e => ?_, hl', hr'⟩
    rw [eval3, eval3_congr hl.shape, eval3_congr hr.shape]
    exact ⟨(hc.2 e).1, (hc.2 e).1 ▸ (hc.2 e).2⟩

end Upd

/-- **`Update()` answers on every tree with indices in range, keeps the shape and the generation
    bound, and with sound caches it computes `eval3` and keeps them sound.**  A child that is not
    looked at counts as updated to itself. -/
theorem update_spec (g : Nat) (vals : List (Option Bytes)) (n : PNode) (hwf : WFn vals.length n) :
    ∃ r n', update g vals n = some (r, n') ∧ Upd g vals n r n' := by
  induction n with
  | cmp c neq l r =>
    rw [update, operandVal_of_WF hwf.1, operandVal_of_WF hwf.2]
    by_cases hcg : c.gen = g
    · exact ⟨_, _, if_pos hcg, .cached hcg⟩
    · rw [if_neg hcg]
      cases hl : opVal vals l with
      | none => exact ⟨_, _, rfl, .same (by rw [eval3, hl]; rfl)⟩
      | some lv =>
        cases hr : opVal vals r with
        | none => exact ⟨_, _, rfl, .same (by rw [eval3, hl, hr]; rfl)⟩
        | some rv => exact ⟨_, _, rfl, .cmp (by rw [eval3, hl, hr]; rfl) (respOfBool_ne _)⟩
  | and c l r ihl ihr =>
    obtain ⟨rl, l', hul, hl⟩ := ihl hwf.1
    obtain ⟨rr, r', hur, hr⟩ := ihr hwf.2
    rw [update]
    by_cases hcg : c.gen = g
    · exact ⟨_, _, if_pos hcg, .cached hcg⟩
    · rw [if_neg hcg, hul]
      cases rl with
      | false_ => exact ⟨_, _, rfl, .and hl (.same rfl) (.store nofun)⟩
      | needMore => exact ⟨_, _, rfl, .and hl (.same rfl) (.keep hcg)⟩
      | true_ =>
        rw [hur]
        cases rr with
        | false_ => exact ⟨_, _, rfl, .and hl hr (.store nofun)⟩
        | needMore => exact ⟨_, _, rfl, .and hl hr (.keep hcg)⟩
        | true_ => exact ⟨_, _, rfl, .and hl hr (.keep hcg)⟩
  | or c l r ihl ihr =>
    obtain ⟨rl, l', hul, hl⟩ := ihl hwf.1
    obtain ⟨rr, r', hur, hr⟩ := ihr hwf.2
    rw [update]
    by_cases hcg : c.gen = g
    · exact ⟨_, _, if_pos hcg, .cached hcg⟩
    · rw [if_neg hcg, hul, hur]
      cases rl with
      | true_ => exact ⟨_, _, rfl, .or hl (.same rfl) (.store nofun)⟩
      | false_ =>
        cases rr with
        | true_ => exact ⟨_, _, rfl, .or hl hr (.store nofun)⟩
        | false_ => exact ⟨_, _, rfl, .or hl hr (.store nofun)⟩
        | needMore => exact ⟨_, _, rfl, .or hl hr (.keep hcg)⟩
      | needMore =>
        cases rr with
        | true_ => exact ⟨_, _, rfl, .or hl hr (.store nofun)⟩
        | false_ => exact ⟨_, _, rfl, .or hl hr (.keep hcg)⟩
        | needMore => exact ⟨_, _, rfl, .or hl hr (.keep hcg)⟩

theorem idxOf?_getElem {L : List Bytes} {k : Bytes} {i : Nat} (h : L.idxOf? k = some i) :
    L[i]? = some k := by
  have := List.findIdx?_eq_some_iff_getElem.1 h
  obtain ⟨hi, hk, _⟩ := this
  rw [List.getElem?_eq_getElem hi, (beq_iff_eq.1 hk)]

theorem idxOf?_lt {L : List Bytes} {k : Bytes} {i : Nat} (h : L.idxOf? k = some i) : i < L.length :=
  (List.findIdx?_eq_some_iff_getElem.1 h).1

theorem buildOperand_WF (L : List Bytes) (d : DNode) (o : Operand) (h : buildOperand L d = some o) :
    opWF L.length o := by
  cases d with
  | tagRef k =>
    obtain ⟨i, hi, rfl⟩ := Option.map_eq_some_iff.1 h
    exact idxOf?_lt hi
  | strLit v => cases h; trivial
  | cmp neq l r => cases h
  | logical o l r => cases h

theorem buildNode_WF (L : List Bytes) (d : DNode) (n : PNode) (h : buildNode L d = some n) :
    WFn L.length n := by
  induction d generalizing n with
  | tagRef k => cases h
  | strLit v => cases h
  | cmp neq l r _ _ =>
    rw [buildNode] at h
    cases hl : buildOperand L l with
    | none => rw [hl] at h; cases h
    | some lo =>
      cases hr : buildOperand L r with
      | none => rw [hl, hr] at h; cases h
      | some ro =>
        rw [hl, hr] at h
        cases h
        exact ⟨buildOperand_WF L l lo hl, buildOperand_WF L r ro hr⟩
  | logical o l r ihl ihr =>
    rw [buildNode] at h
    cases hl : buildNode L l with
    | none => rw [hl] at h; cases h
    | some ln =>
      cases hr : buildNode L r with
      | none => rw [hl, hr] at h; cases h
      | some rn =>
        rw [hl, hr] at h
        cases h
        cases o <;> exact ⟨ihl ln hl, ihr rn hr⟩

theorem newMatcher_WF (d : DNode) (m : Matcher) (h : newMatcher d = some m) :
    WFn m.values.length m.root := by
  obtain ⟨root, hr, rfl⟩ := Option.map_eq_some_iff.1 h
  simpa using buildNode_WF _ d root hr

end Influx.Model.DelPred
