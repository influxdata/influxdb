/-
  Lemmas.C36List — list facts shared by the four structures of C36: a list sorted by an
  asymmetric relation is determined by its members; register files related index by index.
-/
import Influx.Spec.C36

namespace Influx.C36
open Influx.Spec.C36

theorem pairwise_ext {α : Type} {r : α → α → Prop} (hasym : ∀ a b, r a b → ¬ r b a) (a b : List α)
    (ha : a.Pairwise r) (hb : b.Pairwise r) (h : ∀ x, x ∈ a ↔ x ∈ b) : a = b := by
  induction a generalizing b with
  | nil =>
    cases b with
    | nil => rfl
    | cons y _ => exact absurd ((h y).mpr List.mem_cons_self) List.not_mem_nil
  | cons x xs ih =>
    cases b with
    | nil => exact absurd ((h x).mp List.mem_cons_self) List.not_mem_nil
    | cons y ys =>
      have hxa := List.pairwise_cons.mp ha
      have hyb := List.pairwise_cons.mp hb
      have hxy : x = y := by
        rcases List.mem_cons.mp ((h x).mp List.mem_cons_self) with h1 | h1
        · exact h1
        · rcases List.mem_cons.mp ((h y).mpr List.mem_cons_self) with h2 | h2
          · exact h2.symm
          · exact absurd (hxa.1 y h2) (hasym _ _ (hyb.1 x h1))
      subst hxy
      congr 1
      refine ih ys hxa.2 hyb.2 fun z => ⟨fun hz => ?_, fun hz => ?_⟩
      · rcases List.mem_cons.mp ((h z).mp (List.mem_cons_of_mem _ hz)) with rfl | h'
        · exact absurd (hxa.1 z hz) (fun hr => hasym z z hr hr)
        · exact h'
      · rcases List.mem_cons.mp ((h z).mpr (List.mem_cons_of_mem _ hz)) with rfl | h'
        · exact absurd (hyb.1 z hz) (fun hr => hasym z z hr hr)
        · exact h'

def RegRel {α β : Type} (R : α → β → Prop) (xs : List α) (ys : List β) : Prop :=
  xs.length = ys.length ∧ ∀ (j : Nat) x y, xs[j]? = some x → ys[j]? = some y → R x y

namespace RegRel
variable {α β : Type} {R : α → β → Prop} {xs : List α} {ys : List β}

theorem get (h : RegRel R xs ys) {j : Nat} {x : α} (hx : xs[j]? = some x) : ∃ y, ys[j]? = some y ∧ R x y := by
  have hj : j < ys.length := h.1 ▸ (List.getElem?_eq_some_iff.mp hx).1
  exact ⟨ys[j], List.getElem?_eq_getElem hj, h.2 j x _ hx (List.getElem?_eq_getElem hj)⟩

theorem get_none (h : RegRel R xs ys) {j : Nat} (hx : xs[j]? = none) : ys[j]? = none :=
  List.getElem?_eq_none (h.1 ▸ List.getElem?_eq_none_iff.mp hx)

theorem set (h : RegRel R xs ys) (r : Nat) {x : α} {y : β} (hxy : R x y) : RegRel R (xs.set r x) (ys.set r y) := by
  refine ⟨by rw [List.length_set, List.length_set]; exact h.1, fun j x' y' hx hy => ?_⟩
  by_cases hj : r = j
  · subst hj
    have hr : r < xs.length := List.length_set ▸ (List.getElem?_eq_some_iff.mp hx).1
    rw [List.getElem?_set_self hr] at hx
    rw [List.getElem?_set_self (h.1 ▸ hr)] at hy
    cases hx; cases hy; exact hxy
  · rw [List.getElem?_set_ne hj] at hx hy
    exact h.2 j x' y' hx hy

theorem replicate (n : Nat) {x : α} {y : β} (hxy : R x y) : RegRel R (List.replicate n x) (List.replicate n y) := by
  refine ⟨by rw [List.length_replicate, List.length_replicate], fun j x' y' hx hy => ?_⟩
  obtain ⟨_, hx⟩ := List.getElem?_eq_some_iff.mp hx
  obtain ⟨_, hy⟩ := List.getElem?_eq_some_iff.mp hy
  rw [List.getElem_replicate] at hx hy
  rw [← hx, ← hy]
  exact hxy

end RegRel

theorem expect_self (a : Obs) (reason : String) : expect (a == a) reason = none := by
  rw [expect, beq_self_eq_true]; rfl

end Influx.C36
