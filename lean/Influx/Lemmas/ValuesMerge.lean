/-
  Lemmas.ValuesMerge — the map an array denotes (`Spec.C37.toMap`), Deduplicate
  (stable sort + compaction) and the two Merge loops of Model.Values.
-/
import Influx.Lemmas.ValuesSearch
import Influx.Spec.C37
namespace Influx.Values
open Influx.Spec.C37 (toMap sortedDedup)
variable {V : Type}

def single (x : Pt V) (t : Int) : Option V := if x.1 = t then some x.2 else none

theorem toMap_cons (x : Pt V) (r : List (Pt V)) (t : Int) :
    toMap (x :: r) t = (toMap r t).or (single x t) := by
  obtain ⟨t', v⟩ := x
  simp only [toMap, single]
  cases toMap r t <;> simp

@[simp] theorem toMap_nil (t : Int) : toMap ([] : List (Pt V)) t = none := rfl

theorem toMap_append (a b : List (Pt V)) (t : Int) :
    toMap (a ++ b) t = (toMap b t).or (toMap a t) := by
  induction a with
  | nil => exact Option.or_none.symm
  | cons x r ih => rw [List.cons_append, toMap_cons, ih, toMap_cons, Option.or_assoc]

theorem single_eq_none_iff (x : Pt V) (t : Int) : single x t = none ↔ x.1 ≠ t := by simp [single]

theorem toMap_eq_none_iff (a : List (Pt V)) (t : Int) : toMap a t = none ↔ ∀ p ∈ a, p.1 ≠ t := by
  induction a with
  | nil => exact iff_of_true rfl (fun _ h => absurd h List.not_mem_nil)
  | cons x r ih => rw [toMap_cons, Option.or_eq_none_iff, ih, single_eq_none_iff, List.forall_mem_cons, and_comm]

theorem toMap_filter (a : List (Pt V)) (Q : Int → Prop) [DecidablePred Q] (t : Int) :
    toMap (a.filter (fun p => decide (Q p.1))) t = if Q t then toMap a t else none := by
  by_cases ht : Q t
  · rw [if_pos ht]
    induction a with
    | nil => rfl
    | cons x r ih =>
      rw [List.filter_cons, toMap_cons x r]
      by_cases hx : Q x.1
      · rw [if_pos (decide_eq_true hx), toMap_cons, ih]
      · rw [if_neg (fun h => hx (of_decide_eq_true h)), ih,
          (single_eq_none_iff x t).mpr (fun e => hx (e ▸ ht)), Option.or_none]
  · rw [if_neg ht]
    exact (toMap_eq_none_iff _ t).mpr (fun p hp e => ht (e ▸ of_decide_eq_true (List.mem_filter.mp hp).2))

theorem toMap_cons_lt (x : Pt V) (r : List (Pt V)) (t : Int) (h : ∀ p ∈ r, x.1 < p.1) :
    toMap (x :: r) t = if x.1 = t then some x.2 else toMap r t := by
  rw [toMap_cons]
  by_cases hx : x.1 = t
  · rw [if_pos hx, (toMap_eq_none_iff r t).mpr (fun p hp => hx ▸ Int.ne_of_gt (h p hp)), Option.none_or]
    exact if_pos hx
  · rw [if_neg hx, (single_eq_none_iff x t).mpr hx, Option.or_none]

theorem strictAsc_iff (a : List (Pt V)) : strictAsc a = true ↔ SSorted a := by
  induction a with
  | nil => exact iff_of_true rfl List.Pairwise.nil
  | cons x r ih =>
    cases r with
    | nil => exact iff_of_true rfl (List.pairwise_singleton _ _)
    | cons y r' =>
      rw [strictAsc, Bool.and_eq_true, decide_eq_true_eq, ih]
      exact ⟨fun ⟨hxy, hs⟩ => List.pairwise_cons.mpr ⟨List.forall_mem_cons.mpr
          ⟨hxy, fun p hp => Int.lt_trans hxy ((List.pairwise_cons.mp hs).1 p hp)⟩, hs⟩,
        fun h => ⟨(List.pairwise_cons.mp h).1 y List.mem_cons_self, (List.pairwise_cons.mp h).2⟩⟩

theorem strictAsc_eq_sortedDedup (a : List (Pt V)) : strictAsc a = sortedDedup a := by
  induction a with
  | nil => rfl
  | cons x r ih =>
    cases r with
    | nil => rfl
    | cons y r' => simp only [strictAsc, sortedDedup, ih]

theorem sortedDedup_iff (a : List (Pt V)) : sortedDedup a = true ↔ SSorted a := by
  rw [← strictAsc_eq_sortedDedup]; exact strictAsc_iff a

theorem mem_insertStable (x p : Pt V) (l : List (Pt V)) : p ∈ insertStable x l ↔ p = x ∨ p ∈ l := by
  induction l with
  | nil => simp [insertStable]
  | cons y r ih =>
    rw [insertStable]
    by_cases h : x.1 ≤ y.1
    · rw [if_pos h]; exact List.mem_cons
    · rw [if_neg h, List.mem_cons, ih, List.mem_cons]; exact or_left_comm

theorem toMap_insertStable (x : Pt V) (l : List (Pt V)) (t : Int) :
    toMap (insertStable x l) t = toMap (x :: l) t := by
  induction l with
  | nil => rfl
  | cons y r ih =>
    rw [insertStable]
    by_cases h : x.1 ≤ y.1
    · rw [if_pos h]
    · rw [if_neg h, toMap_cons, ih, toMap_cons, toMap_cons x, toMap_cons y, Option.or_assoc, Option.or_assoc]
      congr 1
      -- `x` moves behind `y`: their keys differ, so at most one of the two entries answers at `t`
      by_cases hx : x.1 = t
      · rw [(single_eq_none_iff y t).mpr (fun e => h (Int.le_of_eq (hx.trans e.symm))),
          Option.or_none, Option.none_or]
      · rw [(single_eq_none_iff x t).mpr hx, Option.or_none, Option.none_or]

theorem sorted_insertStable (x : Pt V) (l : List (Pt V)) (h : Sorted l) : Sorted (insertStable x l) := by
  induction l with
  | nil => exact List.pairwise_singleton _ _
  | cons y r ih =>
    obtain ⟨hy, hr⟩ := List.pairwise_cons.mp h
    rw [insertStable]
    by_cases hle : x.1 ≤ y.1
    · rw [if_pos hle]
      exact List.pairwise_cons.mpr ⟨List.forall_mem_cons.mpr ⟨hle, fun p hp => Int.le_trans hle (hy p hp)⟩, h⟩
    · rw [if_neg hle]
      refine List.pairwise_cons.mpr ⟨fun p hp => ?_, ih hr⟩
      rcases (mem_insertStable x p r).mp hp with rfl | hp
      · exact Int.le_of_lt (Int.not_le.mp hle)
      · exact hy p hp

theorem sorted_stableSort (a : List (Pt V)) : Sorted (stableSort a) := by
  induction a with
  | nil => exact List.Pairwise.nil
  | cons x r ih => exact sorted_insertStable x _ ih

theorem toMap_stableSort (a : List (Pt V)) (t : Int) : toMap (stableSort a) t = toMap a t := by
  induction a with
  | nil => rfl
  | cons x r ih => rw [stableSort, toMap_insertStable, toMap_cons, ih, toMap_cons]

theorem mem_stableSort (a : List (Pt V)) (p : Pt V) : p ∈ stableSort a ↔ p ∈ a := by
  induction a with
  | nil => exact Iff.rfl
  | cons x r ih => rw [stableSort, mem_insertStable, ih, List.mem_cons]

theorem toMap_self_isSome (x : Pt V) (r : List (Pt V)) : ∃ w, toMap (x :: r) x.1 = some w := by
  rw [toMap_cons]
  cases toMap r x.1 with
  | some w => exact ⟨w, rfl⟩
  | none => exact ⟨x.2, if_pos rfl⟩

theorem toMap_compact (cur : Pt V) (r : List (Pt V)) (t : Int) :
    toMap (compact cur r) t = toMap (cur :: r) t := by
  induction r generalizing cur with
  | nil => rfl
  | cons v r ih =>
    rw [compact, toMap_cons cur]
    by_cases hne : v.1 ≠ cur.1
    · rw [if_pos hne, toMap_cons, ih]
    · rw [if_neg hne, ih]
      -- `cur` is overwritten: `v` has its key and comes later
      by_cases ht : cur.1 = t
      · obtain ⟨w, hw⟩ := toMap_self_isSome v r
        rw [Decidable.not_not.mp hne, ht] at hw
        rw [hw]; rfl
      · rw [(single_eq_none_iff cur t).mpr ht, Option.or_none]

theorem ssorted_compact (cur : Pt V) (r : List (Pt V)) (h : Sorted (cur :: r)) :
    SSorted (compact cur r) ∧ ∀ p ∈ compact cur r, cur.1 ≤ p.1 := by
  induction r generalizing cur with
  | nil => exact ⟨List.pairwise_singleton _ _, fun p hp => List.mem_singleton.mp hp ▸ Int.le_refl _⟩
  | cons v r ih =>
    obtain ⟨hc, hr⟩ := List.pairwise_cons.mp h
    obtain ⟨s, lb⟩ := ih v hr
    have hcv := hc v List.mem_cons_self
    rw [compact]
    by_cases hne : v.1 ≠ cur.1
    · rw [if_pos hne]
      exact ⟨List.pairwise_cons.mpr
          ⟨fun p hp => Int.lt_of_lt_of_le (Int.lt_iff_le_and_ne.mpr ⟨hcv, Ne.symm hne⟩) (lb p hp), s⟩,
        List.forall_mem_cons.mpr ⟨Int.le_refl _, fun p hp => Int.le_trans hcv (lb p hp)⟩⟩
    · rw [if_neg hne]
      exact ⟨s, fun p hp => Int.le_trans hcv (lb p hp)⟩

theorem ssorted_of_length_le_one (a : List (Pt V)) (h : a.length ≤ 1) : SSorted a := by
  cases a with
  | nil => exact List.Pairwise.nil
  | cons x r =>
    cases r with
    | nil => exact List.pairwise_singleton _ _
    | cons y r => exact absurd (Nat.le_of_succ_le_succ h) (Nat.not_succ_le_zero _)

theorem dedup_canon (a : List (Pt V)) : SSorted (dedup a) ∧ ∀ t, toMap (dedup a) t = toMap a t := by
  rw [dedup]
  by_cases h1 : a.length ≤ 1
  · rw [if_pos h1]; exact ⟨ssorted_of_length_le_one a h1, fun _ => rfl⟩
  · rw [if_neg h1]
    by_cases h2 : strictAsc a = true
    · rw [if_pos h2]; exact ⟨(strictAsc_iff a).mp h2, fun _ => rfl⟩
    · rw [if_neg h2]
      have hs := sorted_stableSort a
      have hm := toMap_stableSort a
      generalize stableSort a = s at hs hm
      cases s with
      | nil => exact ⟨List.Pairwise.nil, hm⟩
      | cons x r => exact ⟨(ssorted_compact x r hs).1, fun t => (toMap_compact x r t).trans (hm t)⟩

theorem dedup_ssorted (a : List (Pt V)) : SSorted (dedup a) := (dedup_canon a).1

theorem toMap_dedup (a : List (Pt V)) (t : Int) : toMap (dedup a) t = toMap a t := (dedup_canon a).2 t

theorem dedup_of_ssorted (a : List (Pt V)) (h : SSorted a) : dedup a = a := by
  rw [dedup]
  by_cases h1 : a.length ≤ 1
  · rw [if_pos h1]
  · rw [if_neg h1, if_pos ((strictAsc_iff a).mpr h)]

/-- a non-empty array denotes a non-empty map, and `dedup` keeps the map. -/
theorem dedup_ne_nil (a : List (Pt V)) (h : a ≠ []) : dedup a ≠ [] := by
  cases a with
  | nil => exact absurd rfl h
  | cons x r =>
    obtain ⟨w, hw⟩ := toMap_self_isSome x r
    intro hd
    rw [← toMap_dedup, hd] at hw
    cases hw

theorem toMap_head (p : Pt V) (x : List (Pt V)) (hs : SSorted (p :: x)) : toMap (p :: x) p.1 = some p.2 := by
  rw [toMap_cons_lt p x _ (List.pairwise_cons.mp hs).1, if_pos rfl]

theorem toMap_lt_head (p : Pt V) (x : List (Pt V)) (hs : SSorted (p :: x)) (t : Int) (h : t < p.1) :
    toMap (p :: x) t = none :=
  (toMap_eq_none_iff _ t).mpr (fun r hr => Int.ne_of_gt (Int.lt_of_lt_of_le h (sorted_head_le _ hs.sorted p rfl r hr)))

theorem ssorted_ext (x y : List (Pt V)) (hx : SSorted x) (hy : SSorted y)
    (h : ∀ t, toMap x t = toMap y t) : x = y := by
  induction x generalizing y with
  | nil =>
    cases y with
    | nil => rfl
    | cons q y' =>
      have := h q.1
      rw [toMap_head q y' hy] at this; cases this
  | cons p x' ih =>
    cases y with
    | nil =>
      have := h p.1
      rw [toMap_head p x' hx] at this; cases this
    | cons q y' =>
      -- a head key below the other head would be missing from the other map
      have hk : p.1 = q.1 := by
        rcases Int.lt_trichotomy p.1 q.1 with h1 | h1 | h1
        · have := h p.1
          rw [toMap_head p x' hx, toMap_lt_head q y' hy _ h1] at this; cases this
        · exact h1
        · have := h q.1
          rw [toMap_head q y' hy, toMap_lt_head p x' hx _ h1] at this; cases this
      have hv := h p.1
      rw [toMap_head p x' hx, hk, toMap_head q y' hy] at hv
      obtain rfl : p = q := Prod.ext hk (Option.some.inj hv)
      obtain ⟨hp, hx'⟩ := List.pairwise_cons.mp hx
      obtain ⟨hq, hy'⟩ := List.pairwise_cons.mp hy
      congr 1
      apply ih y' hx' hy'
      intro t
      by_cases ht : p.1 = t
      · rw [(toMap_eq_none_iff x' t).mpr (fun r hr => ht ▸ Int.ne_of_gt (hp r hr)),
          (toMap_eq_none_iff y' t).mpr (fun r hr => ht ▸ Int.ne_of_gt (hq r hr))]
      · have := h t
        rwa [toMap_cons_lt p x' t hp, toMap_cons_lt p y' t hq, if_neg ht, if_neg ht] at this

theorem mem_mergeLoopV (a b : List (Pt V)) (p : Pt V) (h : p ∈ mergeLoopV a b) : p ∈ a ∨ p ∈ b := by
  fun_induction mergeLoopV a b with
  | case1 b => exact Or.inr h
  | case2 x a => exact Or.inl h
  | case3 x a y b hlt ih =>
    exact (List.mem_cons.mp h).elim (fun e => Or.inl (e ▸ List.mem_cons_self))
      (fun h => (ih h).imp_left (List.mem_cons_of_mem _))
  | case4 x a y b hlt heq ih => exact (ih h).imp_left (List.mem_cons_of_mem _)
  | case5 x a y b hlt hne ih =>
    exact (List.mem_cons.mp h).elim (fun e => Or.inr (e ▸ List.mem_cons_self))
      (fun h => (ih h).imp_right (List.mem_cons_of_mem _))

theorem mergeLoopV_spec (a b : List (Pt V)) (ha : SSorted a) (hb : SSorted b) :
    SSorted (mergeLoopV a b) ∧ ∀ t, toMap (mergeLoopV a b) t = (toMap b t).or (toMap a t) := by
  fun_induction mergeLoopV a b with
  | case1 b => exact ⟨hb, fun t => (Option.or_none).symm⟩
  | case2 x a => exact ⟨ha, fun t => rfl⟩
  | case3 x a y b hlt ih =>
    obtain ⟨hx, ha'⟩ := List.pairwise_cons.mp ha
    obtain ⟨s, m⟩ := ih ha' hb
    refine ⟨List.pairwise_cons.mpr ⟨fun p hp => ?_, s⟩, fun t => ?_⟩
    · rcases mem_mergeLoopV _ _ _ hp with h | h
      · exact hx p h
      · exact Int.lt_of_lt_of_le hlt (sorted_head_le _ hb.sorted y rfl p h)
    · rw [toMap_cons, m, toMap_cons x a, Option.or_assoc]
  | case4 x a y b hlt heq ih =>
    obtain ⟨s, m⟩ := ih (List.pairwise_cons.mp ha).2 hb
    refine ⟨s, fun t => ?_⟩
    -- `x` is dropped: its key is `y`'s, where `b` already answers
    rw [m, toMap_cons x a, ← Option.or_assoc]
    by_cases hx : x.1 = t
    · obtain ⟨w, hw⟩ := toMap_self_isSome y b
      rw [← heq, hx] at hw
      rw [hw]; rfl
    · rw [(single_eq_none_iff x t).mpr hx, Option.or_none]
  | case5 x a y b hlt hne ih =>
    obtain ⟨hy, hb'⟩ := List.pairwise_cons.mp hb
    obtain ⟨s, m⟩ := ih ha hb'
    have hyx : y.1 < x.1 := Int.lt_iff_le_and_ne.mpr ⟨Int.not_lt.mp hlt, fun e => hne e.symm⟩
    have hall : ∀ p ∈ mergeLoopV (x :: a) b, y.1 < p.1 := by
      intro p hp
      rcases mem_mergeLoopV _ _ _ hp with h | h
      · exact Int.lt_of_lt_of_le hyx (sorted_head_le _ ha.sorted x rfl p h)
      · exact hy p h
    refine ⟨List.pairwise_cons.mpr ⟨hall, s⟩, fun t => ?_⟩
    rw [toMap_cons_lt y _ t hall, m, toMap_cons_lt y b t hy]
    by_cases hy : y.1 = t
    · rw [if_pos hy, if_pos hy]; rfl
    · rw [if_neg hy, if_neg hy]

theorem mergeLoopV_cons_lt (a b : List (Pt V)) (y : Pt V) (h : ∀ p ∈ a, y.1 < p.1) :
    mergeLoopV a (y :: b) = y :: mergeLoopV a b := by
  cases a with
  | nil => rw [mergeLoopV, mergeLoopV]
  | cons x a =>
    have := h x List.mem_cons_self
    rw [mergeLoopV, if_neg (Int.lt_asymm this), if_neg (Int.ne_of_gt this)]

/-- the two loops differ only on equal timestamps: the cursors loop writes `y` at once, the tsm1
    loop drops `x` and writes `y` in its next iteration. -/
theorem mergeLoopA_eq_mergeLoopV (a b : List (Pt V)) (ha : SSorted a) : mergeLoopA a b = mergeLoopV a b := by
  fun_induction mergeLoopA a b with
  | case1 b => rw [mergeLoopV]
  | case2 x a => rw [mergeLoopV]
  | case3 x a y b hlt ih => rw [mergeLoopV, if_pos hlt, ih (List.pairwise_cons.mp ha).2]
  | case4 x a y b hlt heq ih =>
    obtain ⟨hx, ha'⟩ := List.pairwise_cons.mp ha
    rw [mergeLoopV, if_neg hlt, if_pos heq, mergeLoopV_cons_lt a b y (fun p hp => heq ▸ hx p hp), ih ha']
  | case5 x a y b hlt hne ih => rw [mergeLoopV, if_neg hlt, if_neg hne, ih ha]

theorem lt_of_getLast_lt_head (a b : List (Pt V)) (ha : SSorted a) (hb : SSorted b) (aN b0 : Pt V)
    (hN : a.getLast? = some aN) (h0 : b.head? = some b0) (hlt : aN.1 < b0.1) : ∀ p ∈ a, ∀ q ∈ b, p.1 < q.1 :=
  fun p hp q hq => Int.lt_of_le_of_lt (sorted_le_getLast a ha.sorted aN hN p hp)
    (Int.lt_of_lt_of_le hlt (sorted_head_le b hb.sorted b0 h0 q hq))

/-- the fast paths of `Merge` (disjoint time ranges) and the loop, for any loop meeting the loop spec. -/
theorem mergeCore_spec (loop : List (Pt V) → List (Pt V) → List (Pt V)) (a b : List (Pt V))
    (ha : SSorted a) (hb : SSorted b)
    (hloop : SSorted (loop a b) ∧ ∀ t, toMap (loop a b) t = (toMap b t).or (toMap a t)) :
    SSorted (mergeCore loop a b) ∧ ∀ t, toMap (mergeCore loop a b) t = (toMap b t).or (toMap a t) := by
  unfold mergeCore
  split
  · next a0 aN b0 bN h1 h2 h3 h4 =>
    by_cases hab : aN.1 < b0.1
    · rw [if_pos hab]
      exact ⟨List.pairwise_append.mpr ⟨ha, hb, lt_of_getLast_lt_head a b ha hb aN b0 h2 h3 hab⟩, toMap_append a b⟩
    · rw [if_neg hab]
      by_cases hba : bN.1 < a0.1
      · rw [if_pos hba]
        have hdis := lt_of_getLast_lt_head b a hb ha bN a0 h4 h1 hba
        refine ⟨List.pairwise_append.mpr ⟨hb, ha, hdis⟩, fun t => ?_⟩
        -- the two maps have disjoint domains, so the order of the overlay does not matter
        rw [toMap_append]
        by_cases hA : toMap a t = none
        · rw [hA, Option.none_or, Option.or_none]
        · rw [(toMap_eq_none_iff b t).mpr (fun p hp e => hA ((toMap_eq_none_iff a t).mpr
            (fun q hq e' => Int.ne_of_lt (hdis p hp q hq) (e.trans e'.symm)))), Option.or_none, Option.none_or]
      · rw [if_neg hba]; exact hloop
  · exact hloop

theorem mergeV_cons_cons (x y : Pt V) (a b : List (Pt V)) :
    mergeV (x :: a) (y :: b) = mergeCore mergeLoopV (dedup (x :: a)) (dedup (y :: b)) :=
  (if_neg Bool.false_ne_true).trans (if_neg Bool.false_ne_true)

theorem mergeA_cons_cons (x y : Pt V) (a b : List (Pt V)) :
    mergeA (x :: a) (y :: b) = mergeCore mergeLoopA (x :: a) (y :: b) :=
  (if_neg Bool.false_ne_true).trans (if_neg Bool.false_ne_true)

end Influx.Values
