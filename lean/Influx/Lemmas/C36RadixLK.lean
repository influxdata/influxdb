/-
  Lemmas.C36RadixLK — `Insert` stores every key at its own position.
-/
import Influx.Lemmas.C36RadixIns

namespace Influx.Radix

theorem Edges.LK_add (path : Key) (l : Nat) (n : Node) (hn : Node.LK (path ++ n.pre) n) (es : Edges) :
    Edges.LK path es → Edges.LK path (Edges.add l n es) := by
  induction es using Edges.list_induction with
  | nil => exact fun _ => ⟨hn, trivial⟩
  | cons l' n' r ih =>
    intro h
    rw [Edges.add]
    split
    · exact ⟨h.1, ih h.2⟩
    · exact ⟨hn, h⟩

theorem leafNode_LK (path pre s : Key) (v : Int) (h : s = path) : Node.LK path (.mk (some ⟨s, v⟩) pre .nil) :=
  ⟨fun _ hl => by cases hl; exact h, trivial⟩

theorem splitNode_LK (path : Key) (child : Node) (common restS : Key) (y : Nat) (ys : Key) (s : Key) (v : Int)
    (hc : Node.LK (path ++ child.pre) child) (hpre : child.pre = common ++ y :: ys)
    (hs : path ++ (common ++ restS) = s) :
    Node.LK (path ++ common) (splitNode child common restS y ys s v) := by
  obtain ⟨leaf, pre, edges⟩ := child
  simp only [Node.pre] at hpre hc
  rw [hpre, ← List.append_assoc] at hc
  have hold : Edges.LK (path ++ common) (.cons y (.mk leaf (y :: ys) edges) .nil) := ⟨hc, trivial⟩
  rw [← List.append_assoc] at hs
  cases restS with
  | nil => exact ⟨fun _ hl => by cases hl; rw [← hs, List.append_nil], hold⟩
  | cons x xs => exact ⟨fun _ hl => (nomatch hl), Edges.LK_add _ x _ (leafNode_LK _ _ _ _ hs.symm) _ hold⟩

theorem insert_keeps_LK :
    (∀ n search s v path, Node.LK path n → path ++ search = s → Node.LK path (Node.insert n search s v).1) ∧
    (∀ es c search s v path, Edges.LK path es → path ++ search = s →
      ∀ es' res, Edges.insertAt es c search s v = some (es', res) → Edges.LK path es') := by
  refine Node.insert.mutual_induct_unfolding
    (motive_1 := fun n search s _ r => ∀ path, Node.LK path n → path ++ search = s → Node.LK path r.1)
    (motive_2 := fun es _ search s _ r => ∀ path, Edges.LK path es → path ++ search = s →
      ∀ es' res, r = some (es', res) → Edges.LK path es') ?_ ?_ ?_ ?_ ?_ ?_ ?_ ?_ ?_
  · exact fun _ _ _ _ _ _ h _ => h
  · intro pre edges s v path h hs
    exact ⟨fun _ hl => by cases hl; rw [← hs, List.append_nil], h.2⟩
  · intro leaf pre edges s v c rest edges' r hi ih path h hs
    exact ⟨h.1, ih path h.2 hs edges' r hi⟩
  · intro leaf pre edges s v c rest _ _ path h hs
    exact ⟨h.1, Edges.LK_add path c _ (leafNode_LK _ _ _ _ hs.symm) edges h.2⟩
  · exact fun _ _ _ _ _ _ _ _ _ h => nomatch h
  · intro child r c search s v common restS hsc child' res hins ih path h hs es' res' he
    cases he
    obtain ⟨h1, h2, _⟩ := splitCommon_spec hsc
    rw [List.append_nil] at h2
    have hpre := Node.insert_spec_pre child restS s v
    rw [hins] at hpre ih
    refine ⟨?_, h.2⟩
    rw [show child'.pre = child.pre from hpre]
    exact ih _ h.1 (by rw [List.append_assoc, h2, ← h1, hs])
  · intro child r c search s v common restS y ys hsc old mid path h hs es' res' he
    cases he
    obtain ⟨h1, h2, _⟩ := splitCommon_spec hsc
    refine ⟨?_, h.2⟩
    rw [show mid.pre = common from splitNode_pre child common restS y ys s v]
    exact splitNode_LK path child common restS y ys s v h.1 h2 (h1 ▸ hs)
  · intro l child r c search s v _ edges' r1 hi ih path h hs es' res he
    cases he
    exact ⟨h.1, ih path h.2 hs _ _ hi⟩
  · exact fun _ _ _ _ _ _ _ _ _ _ _ _ _ _ _ h => nomatch h

theorem Edges.insertAt_LK : ∀ (es : Edges) (path : Key) (c : Nat) (rest s : Key) (v : Int),
    Edges.LK path es → path ++ (c :: rest) = s →
    match Edges.insertAt es c (c :: rest) s v with
    | none => True
    | some (es', _) => Edges.LK path es' := by
  intro es path c rest s v hlk hs
  cases hi : Edges.insertAt es c (c :: rest) s v with
  | none => trivial
  | some r => exact insert_keeps_LK.2 es c (c :: rest) s v path hlk hs r.1 r.2 hi

end Influx.Radix
