/-
  Lemmas.KCSort — the order of `seeks` when sort.Sort is an insertion sort (n ≤ 12): the
  pre-sort order of FileStore.locations (file-major) satisfies OrderOK, and insertion sort under
  ascLocations.Less / descLocations.Less never moves a location across an overlapping location
  of an older file, so OrderOK is preserved.
-/
import Influx.Lemmas.KCSpec

namespace Influx.KC
open Influx.Generated.KeyCursor Influx.Spec.C06

variable {V : Type}

theorem mem_insGo {α : Type} {less : α → α → Bool} {x y : α} {l : List α} :
    y ∈ insGo less x l ↔ y = x ∨ y ∈ l := by
  induction l with
  | nil => simp [insGo]
  | cons z zs ih =>
    unfold insGo
    split
    · simp only [List.mem_cons, ih]
      exact or_left_comm
    · simp

/-- the sorted prefix, reversed: every later element is fine with every earlier one -/
def RevOK (rp : List (Block V)) : Prop := rp.Pairwise fun later earlier => okPair earlier later

theorem lessLoc_overlap {asc : Bool} {x y : Block V} (h : lessLoc asc x y = true) (o : overlapP x y) :
    x.file < y.file := by
  unfold lessLoc at h
  have : OverlapsTimeRange x.entry y.entry.MinTime y.entry.MaxTime = true := by
    simp [OverlapsTimeRange]; exact ⟨o.1, o.2⟩
  simpa [this] using h

theorem insGo_ok (asc : Bool) (x : Block V) : ∀ (rp : List (Block V)), RevOK rp →
    (∀ y ∈ rp, okPair y x) → RevOK (insGo (lessLoc asc) x rp) := by
  intro rp
  induction rp with
  | nil => intro _ _; simp [insGo, RevOK]
  | cons y ys ih =>
    intro h hx
    obtain ⟨h1, h2⟩ := List.pairwise_cons.1 h
    unfold insGo
    split
    · rename_i hl
      apply List.pairwise_cons.2
      constructor
      · intro z hz
        rcases mem_insGo.1 hz with rfl | hz
        · exact fun o => lessLoc_overlap hl o
        · exact h1 z hz
      · exact ih h2 (fun z hz => hx z (List.mem_cons_of_mem _ hz))
    · apply List.pairwise_cons.2
      exact ⟨hx, h⟩

theorem foldl_insGo_ok (asc : Bool) : ∀ (l rp : List (Block V)), RevOK rp →
    (∀ x ∈ l, ∀ y ∈ rp, okPair y x) → l.Pairwise okPair →
    RevOK (l.foldl (fun rp x => insGo (lessLoc asc) x rp) rp) := by
  intro l
  induction l with
  | nil => exact fun rp h _ _ => h
  | cons x l ih =>
    intro rp h hx hl
    obtain ⟨hl1, hl2⟩ := List.pairwise_cons.1 hl
    simp only [List.foldl_cons]
    apply ih _ (insGo_ok asc x rp h (hx x (List.mem_cons_self ..)))
    · intro x' hx' y hy
      rcases mem_insGo.1 hy with rfl | hy
      · exact hl1 x' hx'
      · exact hx x' (List.mem_cons_of_mem _ hx') y hy
    · exact hl2

theorem insertionSort_ok (asc : Bool) (l : List (Block V)) (h : l.Pairwise okPair) :
    (insertionSort (lessLoc asc) l).Pairwise okPair := by
  unfold insertionSort
  apply List.pairwise_reverse.2
  exact foldl_insGo_ok asc l [] List.Pairwise.nil (by intro _ _ y hy; cases hy) h

theorem mem_insertionSort {α : Type} (less : α → α → Bool) (l : List α) (y : α) :
    y ∈ insertionSort less l ↔ y ∈ l := by
  unfold insertionSort
  rw [List.mem_reverse]
  suffices ∀ (l rp : List α), y ∈ l.foldl (fun rp x => insGo less x rp) rp ↔ y ∈ l ∨ y ∈ rp by
    simpa using this l []
  intro l
  induction l with
  | nil => intro rp; simp
  | cons x l ih =>
    intro rp
    simp only [List.foldl_cons, ih, mem_insGo, List.mem_cons]
    constructor
    · rintro (h | h | h)
      · exact Or.inl (Or.inr h)
      · exact Or.inl (Or.inl h)
      · exact Or.inr h
    · rintro ((h | h) | h)
      · exact Or.inr (Or.inl h)
      · exact Or.inl h
      · exact Or.inr (Or.inr h)

theorem zipIdx_pairwise {α : Type} (l : List α) :
    l.zipIdx.Pairwise fun a b => a.2 < b.2 ∧ l[a.2]? = some a.1 ∧ l[b.2]? = some b.1 := by
  have h1 : l.zipIdx.Pairwise fun a b => a.2 < b.2 := by
    have := List.pairwise_lt_range' (s := 0) (n := l.length) 1
    rw [← List.zipIdx_map_snd 0 l] at this
    exact List.pairwise_map.1 this
  refine h1.imp_of_mem ?_
  intro a b ha hb hab
  exact ⟨hab, List.mem_zipIdx_iff_getElem?.1 ha, List.mem_zipIdx_iff_getElem?.1 hb⟩

theorem blocks_disjoint {f : FileSpec} (w : FileWF f) {k k' : Nat} {b b' : List Int} (hk : k < k')
    (hb : f.blocks[k]? = some b) (hb' : f.blocks[k']? = some b') :
    (entryOfInts b).MaxTime < (entryOfInts b').MinTime := by
  have hp := (List.pairwise_flatten.1 w.sorted).2
  obtain ⟨h1, rfl⟩ := List.getElem?_eq_some_iff.1 hb
  obtain ⟨h2, rfl⟩ := List.getElem?_eq_some_iff.1 hb'
  have := List.pairwise_iff_getElem.1 hp k k' h1 h2 hk
  have m1 := List.getElem_mem h1
  have m2 := List.getElem_mem h2
  obtain ⟨_, e1, _⟩ := entry_bounds (w.block_sorted m1) (w.ne _ m1)
  obtain ⟨e2, _, _⟩ := entry_bounds (w.block_sorted m2) (w.ne _ m2)
  exact this _ e1 _ e2

/-- FileStore.locations lists the locations in an OrderOK order (file-major; one file's
    entries do not overlap) -/
theorem locations_ok {files : List FileSpec} (hok : filesOK files = true)
    {sts : List (FileState Nat)} (hsts : fileStates files = some sts) (t : Int) (asc : Bool) :
    (locations sts t asc).Pairwise okPair := by
  unfold locations
  apply List.pairwise_flatMap.2
  constructor
  · rintro ⟨st, fi⟩ hmem
    have hst : sts[fi]? = some st := by simpa using List.mem_zipIdx_iff_getElem?.1 hmem
    obtain ⟨f, hf, hfs⟩ := location_file hsts hst
    have w := filesOK_get hok hf
    show (fileLocations t asc fi st).Pairwise okPair
    unfold fileLocations
    apply List.pairwise_filterMap.2
    refine (zipIdx_pairwise st.entries).imp ?_
    rintro ⟨⟨e, vals⟩, k⟩ ⟨⟨e', vals'⟩, k'⟩ ⟨hlt, hg, hg'⟩ b hb b' hb'
    simp only at hlt hg hg' hb hb'
    split at hb
    · split at hb'
      · simp at hb hb'
        subst hb hb'
        obtain ⟨_, bl, hbl, rfl, _⟩ := entry_of_state w fi hfs hg
        obtain ⟨_, bl', hbl', rfl, _⟩ := entry_of_state w fi hfs hg'
        have := blocks_disjoint w hlt hbl hbl'
        intro o
        have := o.2
        simp only at this
        omega
      · cases hb'
    · cases hb
  · refine (zipIdx_pairwise sts).imp ?_
    rintro ⟨st, fi⟩ ⟨st', fi'⟩ ⟨hlt, _, _⟩ x hx y hy
    obtain ⟨_, _, _, _, _, rfl⟩ := mem_fileLocations.1 hx
    obtain ⟨_, _, _, _, _, rfl⟩ := mem_fileLocations.1 hy
    intro _
    exact hlt

end Influx.KC
