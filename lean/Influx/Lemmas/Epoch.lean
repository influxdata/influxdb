/-
  Lemmas.Epoch — the epoch tracker: its invariant (a delete's `pending` is the number of writes
  that entered before it and have not left), and the clause-3 checker `Spec.C17.EpochOK` accepts
  the tracker model's trace for every schedule.
-/
import Influx.Model.Epoch
import Influx.Spec.C17

namespace Influx.Model.Epoch

def earlier (t : Tracker) (d : Del) : List Wr := t.inflight.filter fun w => w.gen < d.gen

structure Inv (t : Tracker) : Prop where
  writes : t.writes = t.inflight.length
  wids : (t.inflight.map (·.id)).Nodup
  wgen : ∀ w ∈ t.inflight, w.gen ≤ t.epoch
  dgen : ∀ d ∈ t.deletes, d.gen ≤ t.largest ∧ t.largest ≤ t.epoch
  distinct : ∀ w ∈ t.inflight, ∀ d ∈ t.deletes, w.gen ≠ d.gen
  pending : ∀ d ∈ t.deletes, d.pending = (earlier t d).length

theorem inv_init : Inv {} := by
  constructor <;> simp

theorem length_filter_remove {l : List Wr} {w : Wr} (hnd : (l.map (·.id)).Nodup) (hw : w ∈ l) (p : Wr → Bool) :
    (l.filter p).length = ((l.filter (·.id ≠ w.id)).filter p).length + if p w then 1 else 0 := by
  obtain ⟨s, r, rfl⟩ := List.append_of_mem hw
  simp only [List.map_append, List.map_cons, List.nodup_append, List.nodup_cons, List.mem_map, List.mem_cons] at hnd
  have hs : s.filter (·.id ≠ w.id) = s :=
    List.filter_eq_self.2 fun y hy => by simpa using fun hc => hnd.2.2 _ ⟨y, hy, rfl⟩ _ (Or.inl rfl) hc
  have hr : r.filter (·.id ≠ w.id) = r :=
    List.filter_eq_self.2 fun y hy => by simpa using fun hc => hnd.2.1.1 ⟨y, hy, hc⟩
  simp only [List.filter_append, List.filter_cons, hs, hr, ne_eq, not_true_eq_false, decide_false, Bool.false_eq_true,
    if_false, List.length_append]
  split <;> simp <;> omega

/-- `largest` only saves work in `EndWrite`: a write newer than `largest` is newer than every
    delete, so visiting them all changes nothing. -/
theorem endWrite_deletes {t : Tracker} (h : Inv t) (w : Wr) :
    (if w.gen ≤ t.largest then
      t.deletes.map fun d => if w.gen > d.gen then d else { d with pending := d.pending - 1 }
    else t.deletes) =
    t.deletes.map fun d => if w.gen > d.gen then d else { d with pending := d.pending - 1 } := by
  split
  · rfl
  · exact ((List.map_congr_left fun d hd => if_pos (by have := (h.dgen d hd).1; omega)).trans (List.map_id' _)).symm

theorem gen_unpend (c : Prop) [Decidable c] (d : Del) (p : Int) :
    (if c then d else { d with pending := p }).gen = d.gen := by
  split <;> rfl

theorem inv_step (t : Tracker) (h : Inv t) (op : EOp) : Inv (step t op).1 := by
  cases op with
  | startWrite id times =>
    simp only [step]
    split
    · exact h
    · next hno =>
      simp only [List.any_eq_true, decide_eq_true_eq, not_exists, not_and] at hno
      refine ⟨by rw [List.length_append, h.writes]; rfl, ?_, ?_, fun d hd => ?_, ?_, fun d hd => ?_⟩
      · simp only [List.map_append, List.map_cons, List.map_nil]
        refine List.nodup_append.2 ⟨h.wids, List.nodup_cons.2 ⟨List.not_mem_nil, List.nodup_nil⟩, ?_⟩
        rintro a ha b hb rfl
        obtain ⟨w, hw, rfl⟩ := List.mem_map.1 ha
        exact hno w hw (List.mem_singleton.1 hb)
      · intro w hw
        rcases List.mem_append.1 hw with hw | hw
        · exact Nat.le_succ_of_le (h.wgen w hw)
        · rw [List.mem_singleton.1 hw]; exact Nat.le_refl _
      · exact ⟨(h.dgen d hd).1, Nat.le_succ_of_le (h.dgen d hd).2⟩
      · intro w hw d hd
        rcases List.mem_append.1 hw with hw | hw
        · exact h.distinct w hw d hd
        · rw [List.mem_singleton.1 hw]
          exact Nat.ne_of_gt (Nat.lt_succ_of_le (Nat.le_trans (h.dgen d hd).1 (h.dgen d hd).2))
      · -- the new write is younger than every delete
        have : decide (t.epoch + 1 < d.gen) = false := decide_eq_false (by have := h.dgen d hd; omega)
        simp only [earlier, List.filter_append, List.filter_cons, this, Bool.false_eq_true, if_false, List.filter_nil,
          List.append_nil]
        exact h.pending d hd
  | endWrite id =>
    simp only [step]
    cases hf : t.inflight.find? (·.id = id) with
    | none => exact h
    | some w =>
      have hw : w ∈ t.inflight := List.mem_of_find?_eq_some hf
      have hwid : w.id = id := by simpa using List.find?_some hf
      subst hwid
      have hrem := length_filter_remove h.wids hw
      simp only [endWrite_deletes h w]
      refine ⟨?_, List.Nodup.sublist (List.Sublist.map _ List.filter_sublist) h.wids,
        fun x hx => h.wgen x (List.mem_filter.1 hx).1, ?_, ?_, ?_⟩
      · have := hrem fun _ => true
        simp only [List.filter_eq_self.2 fun _ _ => rfl, if_true] at this
        simp only [h.writes, this]; omega
      · intro d hd
        obtain ⟨d0, hd0, rfl⟩ := List.mem_map.1 hd
        rw [gen_unpend]; exact h.dgen d0 hd0
      · intro x hx d hd
        obtain ⟨d0, hd0, rfl⟩ := List.mem_map.1 hd
        rw [gen_unpend]; exact h.distinct x (List.mem_filter.1 hx).1 d0 hd0
      · intro d hd
        obtain ⟨d0, hd0, rfl⟩ := List.mem_map.1 hd
        have hrem := hrem fun x => decide (x.gen < d0.gen)
        have hp0 : d0.pending = ((t.inflight.filter fun x => decide (x.gen < d0.gen)).length : Int) := h.pending d0 hd0
        -- `w` was counted for `d0` iff it entered before it
        by_cases hgt : w.gen > d0.gen
        · rw [if_neg (by simpa using Nat.le_of_lt hgt)] at hrem
          rw [if_pos hgt, hp0, hrem]; rfl
        · have hlt : w.gen < d0.gen := Nat.lt_of_le_of_ne (Nat.le_of_not_gt hgt) (h.distinct w hw d0 hd0)
          rw [if_pos (decide_eq_true hlt)] at hrem
          rw [if_neg hgt]
          show d0.pending - 1 = (((t.inflight.filter fun x => decide (x.id ≠ w.id)).filter
            fun x => decide (x.gen < d0.gen)).length : Int)
          rw [hp0, hrem, Int.natCast_add]
          exact Int.add_sub_cancel _ 1
  | waitDelete id lo hi =>
    simp only [step]
    split
    · exact h
    · refine ⟨h.writes, h.wids, fun w hw => Nat.le_succ_of_le (h.wgen w hw), fun d hd => ?_, fun w hw d hd => ?_,
        fun d hd => ?_⟩ <;> rcases List.mem_append.1 hd with hd | hd
      · exact ⟨Nat.le_succ_of_le (Nat.le_trans (h.dgen d hd).1 (h.dgen d hd).2), Nat.le_refl _⟩
      · rw [List.mem_singleton.1 hd]; exact ⟨Nat.le_refl _, Nat.le_refl _⟩
      · exact h.distinct w hw d hd
      · rw [List.mem_singleton.1 hd]
        exact Nat.ne_of_lt (Nat.lt_succ_of_le (h.wgen w hw))
      · exact h.pending d hd
      · -- every write in flight entered before the new delete
        rw [List.mem_singleton.1 hd]
        simp only [earlier, h.writes]
        rw [List.filter_eq_self.2 fun w hw => decide_eq_true (Nat.lt_succ_of_le (h.wgen w hw))]
  | pending id =>
    simp only [step]
    split <;> exact h
  | done id =>
    simp only [step]
    split
    · exact ⟨h.writes, h.wids, h.wgen, fun d hd => h.dgen d (List.mem_filter.1 hd).1,
        fun w hw d hd => h.distinct w hw d (List.mem_filter.1 hd).1, fun d hd => h.pending d (List.mem_filter.1 hd).1⟩
    · exact h

theorem mem_insertAsc {x y : Int} {l : List Int} : y ∈ insertAsc x l ↔ y = x ∨ y ∈ l := by
  induction l with
  | nil => simp [insertAsc]
  | cons z zs ih =>
    simp only [insertAsc]
    split
    · exact List.mem_cons
    · simp only [List.mem_cons, ih, or_left_comm]

theorem mem_sortAsc {y : Int} {l : List Int} : y ∈ sortAsc l ↔ y ∈ l := by
  unfold sortAsc
  induction l with
  | nil => simp
  | cons x xs ih => simp only [List.foldr_cons, mem_insertAsc, ih, List.mem_cons]

open Influx.Spec.C17 (EHist judgeEpoch judgeAll EpochOK)

theorem any_of_map_eq {α β γ : Type} {f : α → γ} {g : β → γ} {l1 : List α} {l2 : List β}
    (h : l1.map f = l2.map g) (p : γ → Bool) : (l1.any fun x => p (f x)) = l2.any fun y => p (g y) :=
  List.any_map.symm.trans ((congrArg (List.any · p) h).trans List.any_map)

theorem filter_map_of_map_eq {α β γ δ : Type} {f : α → γ} {g : β → γ} {l1 : List α} {l2 : List β}
    (h : l1.map f = l2.map g) (p : γ → Bool) (r : γ → δ) :
    (l1.filter fun x => p (f x)).map (fun x => r (f x)) = (l2.filter fun y => p (g y)).map fun y => r (g y) := by
  have := congrArg (fun l => (l.filter p).map r) h
  simp only [List.filter_map, List.map_map] at this
  exact this

theorem find_of_map_eq {α β γ : Type} {f : α → γ} {g : β → γ} {l1 : List α} {l2 : List β}
    (h : l1.map f = l2.map g) (p : γ → Bool) :
    (l1.find? fun x => p (f x)).map f = (l2.find? fun y => p (g y)).map g := by
  have := congrArg (List.find? p) h
  simp only [List.find?_map] at this
  exact this

/-- The tracker and the history agree on who is in flight and who is running, in order: a
    generation is the history position plus one; `pending` has no counterpart in the history. -/
structure RelE (t : Tracker) (h : EHist) : Prop where
  pos : h.pos = t.epoch
  ws : t.inflight = h.writes.map fun w => ⟨w.1, w.2 + 1⟩
  ds : t.deletes.map (fun d => (d.id, d.gen, d.lo, d.hi)) = h.deletes.map fun d => (d.1, d.2.1 + 1, d.2.2.1, d.2.2.2)

theorem judge_step (t : Tracker) (h : EHist) (hinv : Inv t) (hr : RelE t h) (op : EOp) :
    (judgeEpoch h op (step t op).2).2 = true ∧ RelE (step t op).1 (judgeEpoch h op (step t op).2).1 := by
  have hwany : ∀ id, t.inflight.any (·.id = id) = h.writes.any (·.1 = id) := fun id => by
    rw [hr.ws, List.any_map]; rfl
  have hdany : ∀ id, t.deletes.any (·.id = id) = h.deletes.any (·.1 = id) := fun id =>
    any_of_map_eq hr.ds fun k => decide (k.1 = id)
  cases op with
  | startWrite id times =>
    by_cases hdup : t.inflight.any (·.id = id) = true
    · rw [show step t (.startWrite id times) = (t, .badOp) from if_pos hdup]
      exact ⟨(hwany id).symm.trans hdup, hr⟩
    · simp only [step, hdup, Bool.false_eq_true, if_false, judgeEpoch]
      refine ⟨?_, by simp [hr.pos], by simp [hr.ws, hr.pos], hr.ds⟩
      -- the wait set is the set of conflicting running deletes
      have hids : (t.deletes.filter fun d => guardMatches d times).map (·.id) =
          (h.deletes.filter fun d => times.any fun x => decide (d.2.2.1 ≤ x ∧ x ≤ d.2.2.2)).map (·.1) :=
        filter_map_of_map_eq hr.ds (fun k => times.any fun x => decide (k.2.2.1 ≤ x ∧ x ≤ k.2.2.2)) (·.1)
      simp only [Bool.and_eq_true, List.all_eq_true, List.contains_eq_mem, decide_eq_true_eq, ← hids]
      exact ⟨fun x hx => mem_sortAsc.1 hx, fun x hx => mem_sortAsc.2 hx⟩
  | endWrite id =>
    simp only [step]
    cases hf : t.inflight.find? (·.id = id) with
    | none =>
      refine ⟨?_, hr⟩
      have : t.inflight.any (·.id = id) = false := List.any_eq_false.2 (List.find?_eq_none.1 hf)
      simp only [judgeEpoch, ← hwany, this]; rfl
    | some w =>
      refine ⟨rfl, hr.pos, ?_, ?_⟩
      · simp only [judgeEpoch, hr.ws, List.filter_map]; rfl
      · simp only [judgeEpoch, endWrite_deletes hinv w, List.map_map, ← hr.ds]
        exact List.map_congr_left fun d _ => by simp only [Function.comp]; split <;> rfl
  | waitDelete id lo hi =>
    by_cases hdup : t.deletes.any (·.id = id) = true
    · rw [show step t (.waitDelete id lo hi) = (t, .badOp) from if_pos hdup]
      exact ⟨(hdany id).symm.trans hdup, hr⟩
    · simp only [step, hdup, Bool.false_eq_true, if_false, judgeEpoch]
      refine ⟨?_, by simp [hr.pos], hr.ws, by simp [hr.ds, hr.pos]⟩
      simp only [decide_eq_true_eq, hinv.writes, hr.ws, List.length_map]
  | pending id =>
    simp only [step]
    have hfind := find_of_map_eq hr.ds fun k => decide (k.1 = id)
    cases hf : t.deletes.find? (·.id = id) with
    | none =>
      refine ⟨?_, hr⟩
      have : t.deletes.any (·.id = id) = false := List.any_eq_false.2 (List.find?_eq_none.1 hf)
      simp only [judgeEpoch, ← hdany, this]; rfl
    | some d =>
      rw [hf] at hfind
      cases hf2 : h.deletes.find? (fun d => decide (d.1 = id)) with
      | none => rw [hf2] at hfind; cases hfind
      | some d2 =>
        rw [hf2] at hfind
        simp only [Option.map_some, Option.some.injEq, Prod.mk.injEq] at hfind
        simp only [judgeEpoch, hf2]
        refine ⟨?_, hr⟩
        -- the writes that entered before the delete, counted on either side
        simp only [decide_eq_true_eq, hinv.pending d (List.mem_of_find?_eq_some hf), earlier, hr.ws,
          List.filter_map, List.length_map, hfind.2.1, Function.comp_def, Nat.add_lt_add_iff_right]
  | done id =>
    by_cases hex : t.deletes.any (·.id = id) = true
    · simp only [step, hex, if_true, judgeEpoch]
      exact ⟨trivial, hr.pos, hr.ws, filter_map_of_map_eq hr.ds (fun k => decide (k.1 ≠ id)) fun k => k⟩
    · simp only [step, hex, Bool.false_eq_true, if_false, judgeEpoch]
      exact ⟨by simpa [← hdany] using hex, hr⟩

theorem judgeAll_run (ops : List EOp) : ∀ (t : Tracker) (h : EHist), Inv t → RelE t h → judgeAll h (run t ops) = true := by
  induction ops with
  | nil => intro _ _ _ _; rfl
  | cons op ops ih =>
    intro t h hi hr
    obtain ⟨h1, h2⟩ := judge_step t h hi hr op
    simp only [run, judgeAll, h1, Bool.true_and]
    exact ih _ _ (inv_step t hi op) h2

end Influx.Model.Epoch
