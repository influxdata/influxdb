/-
  Lemmas.DelPredRunInv — the domain `KeyOK` of C16; the model's trace on a case is
  accepted by the statement checker `Spec.C16.judgeCase` when the well-formed
  series lie in `KeyOK`.
-/
import Influx.Lemmas.DelPredMatch
import Influx.Model.DelPredRun

namespace Influx.Model.DelPred
open Influx.Spec.C16

/-- The domain of C16: on a well-formed series the compiled predicate is proved exact if
    * the measurement name does not end in a backslash and contains no `=`,
    * no tag key / (non-empty) tag value ends in a backslash,
    * the key handed to `Matches` does not contain the field separator `#!~#`. -/
def KeyOK (name : Bytes) (tags : Tags) : Bool :=
  noTrailBs name && !name.contains 61 && tagsOK tags && !hasSep (seriesKey name tags)

theorem keyOK_iff {name : Bytes} {tags : Tags} : KeyOK name tags = true ↔
    noTrailBs name = true ∧ 61 ∉ name ∧ tagsOK tags = true ∧ hasSep (seriesKey name tags) = false := by
  simp [KeyOK, and_assoc]

/-- every series matched in the case that is well-formed lies in the theorem's domain and, when
    matched with a field, its key followed by `#!~` holds no field separator -/
def OpsOK : List Op → Bool
  | [] => true
  | .matchSeries name tags field :: ops =>
    (!SeriesWF name tags ||
      (KeyOK name tags && (field.isNone || !hasSep (seriesKey name tags ++ [35, 33, 126])))) && OpsOK ops
  | _ :: ops => OpsOK ops

/-- model state vs. the predicate the statement checker has in force -/
def StInv : Option Matcher → Option Pred → Prop
  | none, none => True
  | none, some _ => False
  | some m, none => WFn m.values.length m.root
  | some m, some p => MInv p m

/-- inside the domain `Matches` gives the reference value; outside it still answers -/
theorem matches_judged {p : Pred} {m : Matcher} (hinv : MInv p m) (name : Bytes) (tags : Tags)
    (field : Option Bytes)
    (hdom : (!SeriesWF name tags ||
      (KeyOK name tags && (field.isNone || !hasSep (seriesKey name tags ++ [35, 33, 126])))) = true) :
    ∃ b m', m.matches (opKey name tags field) = some (b, m') ∧ MInv p m' ∧
      judgeMatch p name tags (.bool b) ≠ .fail := by
  by_cases hwfd : (PredWF p && SeriesWF name tags) = true
  · obtain ⟨hp, hs⟩ := Bool.and_eq_true_iff.1 hwfd
    rw [hs, Bool.not_true, Bool.false_or, Bool.and_eq_true, keyOK_iff] at hdom
    obtain ⟨⟨hnt, h61, htags, hsep⟩, hfield⟩ := hdom
    have hcut : cutFieldSep (opKey name tags field) = seriesKey name tags := by
      cases field with
      | none => exact cutFieldSep_of_not_hasSep _ hsep
      | some f => exact cutFieldSep_composite _ f (by simpa using hfield)
    obtain ⟨m', hm', hmi'⟩ := matches_spec p m hinv _ name tags hcut hp hs hnt h61 htags
    exact ⟨_, m', hm', hmi', by rw [judgeMatch, hwfd, if_neg nofun, if_pos rfl]; nofun⟩
  · obtain ⟨b, m', hm', hk⟩ := matches_total m (opKey name tags field) hinv.wf
    exact ⟨b, m', hm', hinv.kept hk, by rw [judgeMatch, Bool.eq_false_iff.2 hwfd]; nofun⟩

theorem run_cons {st st' : Option Matcher} {op : Op} {a : Ans} (h : stepOp st op = (st', a))
    (ops : List Op) : run st (op :: ops) = (op, a) :: run st' ops := by
  rw [run, h]

theorem judge_run (ops : List Op) (hok : OpsOK ops = true) (st : Option Matcher) (cur : Option Pred)
    (hinv : StInv st cur) : (judgeCase cur (run st ops)).all (· ≠ .fail) = true := by
  induction ops generalizing st cur with
  | nil => rfl
  | cons op ops ih =>
    cases op with
    | setPred p =>
      obtain ⟨m, hm, hmi⟩ := newMatcher_spec p
      rw [run_cons (by rw [stepOp, hm])]
      exact Bool.and_eq_true_iff.2 ⟨rfl, ih hok (some m) (some p) hmi⟩
    | setRaw d =>
      cases hm : newMatcher d with
      | none =>
        rw [run_cons (by rw [stepOp, hm])]
        exact Bool.and_eq_true_iff.2 ⟨rfl, ih hok none none trivial⟩
      | some m =>
        rw [run_cons (by rw [stepOp, hm])]
        exact Bool.and_eq_true_iff.2 ⟨rfl, ih hok (some m) none (newMatcher_WF d m hm)⟩
    | clone =>
      cases st with
      | none =>
        rw [run_cons rfl]
        exact Bool.and_eq_true_iff.2 ⟨rfl, ih hok none cur hinv⟩
      | some m =>
        rw [run_cons rfl]
        exact Bool.and_eq_true_iff.2 ⟨rfl, ih hok (some m) cur hinv⟩
    | matchSeries name tags field =>
      obtain ⟨hdom, hok'⟩ := Bool.and_eq_true_iff.1 hok
      cases st with
      | none =>
        cases cur with
        | some p => exact hinv.elim
        | none =>
          rw [run_cons rfl]
          exact Bool.and_eq_true_iff.2 ⟨rfl, ih hok' none none trivial⟩
      | some m =>
        cases cur with
        | none =>
          obtain ⟨b, m', hm', hk⟩ := matches_total m (opKey name tags field) hinv
          rw [run_cons (by rw [stepOp, hm'])]
          exact Bool.and_eq_true_iff.2 ⟨rfl, ih hok' (some m') none (hk.wf hinv)⟩
        | some p =>
          obtain ⟨b, m', hm', hmi', hj⟩ := matches_judged hinv name tags field hdom
          rw [run_cons (by rw [stepOp, hm'])]
          exact Bool.and_eq_true_iff.2 ⟨decide_eq_true hj, ih hok' (some m') (some p) hmi'⟩

theorem matchSeries_spec (p : Pred) (name : Bytes) (tags : Tags)
    (hp : PredWF p = true) (hs : SeriesWF name tags = true) (hk : KeyOK name tags = true) :
    matchSeries p name tags = some (evalPred name tags p) := by
  obtain ⟨hnt, h61, htags, hsep⟩ := keyOK_iff.1 hk
  obtain ⟨m, hm, hinv⟩ := newMatcher_spec p
  obtain ⟨m', hm', _⟩ := matches_spec p m hinv (seriesKey name tags) name tags
    (cutFieldSep_of_not_hasSep _ hsep) hp hs hnt h61 htags
  simp [matchSeries, hm, hm']

end Influx.Model.DelPred
