/-
  Lemmas.SchedLog — the log invariants of the TreeScheduler model: every run continues its task's
  cron sequence, and a released task runs no more (used by Props.C24).
-/
import Influx.Lemmas.Sched
namespace Influx.Lemmas.Sched
open Influx.Model.Sched

/-- For a task id, looking back through the log (newest first): the cron and offset it was last
    scheduled with and the last scheduled time (LastScheduled, then the latest run); `none` once released. -/
def cursor (id : Nat) : List LogEv → Option (Cron × Int × Nat)
  | [] => none
  | .scheduled id' c off last :: rest => if id' = id then some (c, off, last) else cursor id rest
  | .released id' :: rest => if id' = id then none else cursor id rest
  | .took _ r _ :: rest => if r.id = id then (cursor id rest).map (fun x => (x.1, x.2.1, r.sf)) else cursor id rest
  | .finished _ _ :: rest => cursor id rest

/-- every run in the log is for exactly the cron's next time after the task's previous scheduled time,
    runs at that time plus the offset, and was not dispatched early -/
def WellOrdered : List LogEv → Prop
  | [] => True
  | .took _ r now :: rest =>
    (∃ c off t, cursor r.id rest = some (c, off, t) ∧ c t = some r.sf ∧
        r.runAt = 1000 * (r.sf : Int) + off ∧ r.runAt ≤ now) ∧ WellOrdered rest
  | _ :: rest => WellOrdered rest

def countTook (id : Nat) : List LogEv → Nat
  | [] => 0
  | .took _ r _ :: rest => (if r.id = id then 1 else 0) + countTook id rest
  | _ :: rest => countTook id rest

/-- the event neither moves the cursor of task `id` nor is a run of it -/
def Quiet (id : Nat) : LogEv → Prop
  | .scheduled id' _ _ _ => id' ≠ id
  | .released id' => id' ≠ id
  | .took _ r _ => r.id ≠ id
  | .finished _ _ => True

theorem cursor_append_quiet {id : Nat} {pre : List LogEv} (log : List LogEv) (h : ∀ ev ∈ pre, Quiet id ev) :
    cursor id (pre ++ log) = cursor id log := by
  induction pre with
  | nil => rfl
  | cons ev pre ih =>
    obtain ⟨hev, hpre⟩ := List.forall_mem_cons.mp h
    cases ev with
    | scheduled | released | took => exact (if_neg hev).trans (ih hpre)
    | finished => exact ih hpre

theorem countTook_append_quiet {id : Nat} {pre : List LogEv} (log : List LogEv) (h : ∀ ev ∈ pre, Quiet id ev) :
    countTook id (pre ++ log) = countTook id log := by
  induction pre with
  | nil => rfl
  | cons ev pre ih =>
    obtain ⟨hev, hpre⟩ := List.forall_mem_cons.mp h
    cases ev with
    | took => exact (congrArg (· + _) (if_neg hev)).trans ((Nat.zero_add _).trans (ih hpre))
    | _ => exact ih hpre

def tooks (now : Int) (rs : List (Nat × Run)) : List LogEv := (rs.map (fun wr => LogEv.took wr.1 wr.2 now)).reverse

theorem tooks_cons (now : Int) (wr : Nat × Run) (rs : List (Nat × Run)) (log : List LogEv) :
    tooks now (wr :: rs) ++ log = tooks now rs ++ (LogEv.took wr.1 wr.2 now :: log) := by
  simp [tooks]

theorem mem_tooks {now : Int} {rs : List (Nat × Run)} {ev : LogEv} (h : ev ∈ tooks now rs) :
    ∃ wr ∈ rs, ev = .took wr.1 wr.2 now :=
  let ⟨wr, hwr, he⟩ := List.mem_map.mp (List.mem_reverse.mp h)
  ⟨wr, hwr, he.symm⟩

theorem quiet_tooks {now : Int} {id : Nat} {rs : List (Nat × Run)} (h : id ∉ runIds rs) :
    ∀ ev ∈ tooks now rs, Quiet id ev := by
  intro ev hev
  obtain ⟨wr, hwr, rfl⟩ := mem_tooks hev
  exact fun he => h (he ▸ mem_runIds hwr)

theorem cursor_tooks_mem (now : Int) {wr : Nat × Run} {rs : List (Nat × Run)} (log : List LogEv)
    (hn : (runIds rs).Nodup) (hm : wr ∈ rs) :
    cursor wr.2.id (tooks now rs ++ log) = (cursor wr.2.id log).map (fun x => (x.1, x.2.1, wr.2.sf)) := by
  induction rs generalizing log with
  | nil => cases hm
  | cons a rs ih =>
    obtain ⟨ha, hn⟩ : a.2.id ∉ runIds rs ∧ (runIds rs).Nodup := List.nodup_cons.mp hn
    rw [tooks_cons]
    rcases List.mem_cons.mp hm with rfl | hm
    · rw [cursor_append_quiet _ (quiet_tooks ha)]
      exact if_pos rfl
    · rw [ih _ hn hm]
      exact congrArg _ (if_neg fun (h : a.2.id = wr.2.id) => ha (h ▸ mem_runIds hm))

def RunOK (now : Int) (log : List LogEv) (r : Run) : Prop :=
  ∃ c off t, cursor r.id log = some (c, off, t) ∧ c t = some r.sf ∧
    r.runAt = 1000 * (r.sf : Int) + off ∧ r.runAt ≤ now

theorem wellOrdered_tooks (now : Int) {rs : List (Nat × Run)} {log : List LogEv}
    (hw : WellOrdered log) (hn : (runIds rs).Nodup) (hr : ∀ wr ∈ rs, RunOK now log wr.2) :
    WellOrdered (tooks now rs ++ log) := by
  induction rs generalizing log with
  | nil => exact hw
  | cons a rs ih =>
    obtain ⟨ha, hn⟩ : a.2.id ∉ runIds rs ∧ (runIds rs).Nodup := List.nodup_cons.mp hn
    rw [tooks_cons]
    refine ih ⟨hr a List.mem_cons_self, hw⟩ hn fun wr hwr => ?_
    obtain ⟨c, off, t, h1, h2⟩ := hr wr (List.mem_cons_of_mem _ hwr)
    exact ⟨c, off, t, (if_neg fun (h : a.2.id = wr.2.id) => ha (h ▸ mem_runIds hwr)).trans h1, h2⟩

theorem wellOrdered_suffix (pre : List LogEv) {log : List LogEv} (h : WellOrdered (pre ++ log)) : WellOrdered log := by
  induction pre with
  | nil => exact h
  | cons ev pre ih => cases ev <;> first | exact ih h | exact ih h.2

/-- every queued item continues the run sequence of its task: its `next` is the cron's next time after
    the cursor, with the cron and offset the task was last scheduled with -/
def InvC (s : State) : Prop :=
  ∀ it ∈ s.queue, ∃ c off t, cursor it.id s.log = some (c, off, t) ∧ it.cron = c ∧ it.offset = off ∧
    c t = some it.next

structure InvL (s : State) : Prop where
  u : InvU s
  c : InvC s
  w : WellOrdered s.log

theorem invL_init : InvL init := ⟨invU_init, nofun, trivial⟩

theorem invL_processStep (cfg : Cfg) {s : State} (hI : InvL s) :
    InvC (processStep cfg s) ∧ WellOrdered (processStep cfg s).log := by
  obtain ⟨tk, h⟩ := dispatch_split cfg s.now s.queue s.busy
  have hnd := List.nodup_append.mp (h.nodup hI.u.uniq)
  constructor
  · intro x hx
    show ∃ c off t, cursor x.id (tooks s.now _ ++ s.log) = _ ∧ _
    rcases List.mem_append.mp ((reinsert_perm _ _).mem_iff.mp hx) with hx | hx
    · -- the next item of a task that ran: its cursor has moved to that run
      rw [h.ins] at hx
      obtain ⟨y, hy, hyx⟩ := List.mem_filterMap.mp hx
      obtain ⟨n, hn, rfl⟩ := nextItem_eq_some hyx
      obtain ⟨c, off, t, h1, h2, h3, _⟩ := hI.c y (h.perm.mem_iff.mpr (List.mem_append_right _ hy))
      have hm : runOf cfg y ∈ (dispatch cfg s.now s.queue s.busy).runs := h.runs ▸ List.mem_map_of_mem hy
      exact ⟨c, off, y.next, (cursor_tooks_mem s.now s.log hnd.2.1 hm).trans (congrArg (Option.map _) h1), h2, h3, h2 ▸ hn⟩
    · rw [cursor_append_quiet _ (quiet_tooks fun hm => hnd.2.2 x.id (mem_ids hx) x.id hm rfl)]
      exact hI.c x (h.kept.subset hx)
  · refine wellOrdered_tooks s.now hI.w hnd.2.1 fun wr hwr => ?_
    obtain ⟨y, hy, _, rfl, hdue⟩ := h.mem_runs hwr
    obtain ⟨c, off, t, h1, h2, h3, h4⟩ := hI.c y hy
    exact ⟨c, off, t, h1, h2 ▸ h4, h3 ▸ rfl, hdue⟩

theorem invL_step (r : Bool) (cfg : Cfg) {s : State} (hI : InvL s) (e : Ev) : InvL (stepEv r cfg s e) := by
  refine ⟨invU_step r cfg hI.u e, ?_, ?_⟩
  · refine stepEv_data (P := InvC) r cfg e (fun hI h => by unfold InvC; rw [h.1, h.2.2]; exact hI) hI.c ?_ ?_
      (invL_processStep cfg hI).1 (fun _ _ _ => hI.c)
    · intro id c off last nt _ hc x hx
      rcases mem_insertItem.mp hx with rfl | hx
      · exact ⟨c, off, last, if_pos rfl, rfl, rfl, hc⟩
      · obtain ⟨hx, hne⟩ := mem_removeId hx
        obtain ⟨c', off', t, h1, h2⟩ := hI.c x hx
        exact ⟨c', off', t, (if_neg hne.symm).trans h1, h2⟩
    · intro id x hx
      obtain ⟨hx, hne⟩ := mem_removeId hx
      obtain ⟨c', off', t, h1, h2⟩ := hI.c x hx
      exact ⟨c', off', t, (if_neg hne.symm).trans h1, h2⟩
  · exact stepEv_data (P := fun s => WellOrdered s.log) r cfg e (fun hw h => h.2.2 ▸ hw) hI.w
      (fun _ _ _ _ _ _ _ => hI.w) (fun _ => hI.w) (invL_processStep cfg hI).2 (fun _ _ _ => hI.w)

theorem invL_run (r : Bool) (cfg : Cfg) (evs : List Ev) {s : State} (hI : InvL s) : InvL (runEvs r cfg s evs) :=
  runEvs_inv (P := InvL) r cfg (fun _ e h => invL_step r cfg h e) evs hI

def isScheduleOf (id : Nat) : Ev → Bool
  | .schedule id' _ _ _ => id' == id
  | _ => false

theorem absent_step (r : Bool) (cfg : Cfg) {s : State} (id : Nat) (habs : id ∉ ids s.queue) (e : Ev)
    (he : isScheduleOf id e = false) :
    id ∉ ids (stepEv r cfg s e).queue ∧ countTook id (stepEv r cfg s e).log = countTook id s.log := by
  have hrem : ∀ id', id ∉ ids (removeId id' s.queue) :=
    fun id' hm => habs ((ids_removeId_sublist id' s.queue).subset hm)
  refine stepEv_data (P := fun s' => id ∉ ids s'.queue ∧ countTook id s'.log = countTook id s.log) r cfg e
    (fun h hd => by rw [hd.1, hd.2.2]; exact h) ⟨habs, rfl⟩ ?_ (fun id' => ⟨hrem id', rfl⟩) ?_
    (fun _ _ _ => ⟨habs, rfl⟩)
  · rintro id' c off last nt rfl _
    refine ⟨fun hm => ?_, rfl⟩
    rcases List.mem_cons.mp ((ids_insertItem_perm _ _).mem_iff.mp hm) with h1 | h1
    · exact absurd (beq_iff_eq.mpr h1.symm) (Bool.eq_false_iff.mp he)
    · exact hrem id' h1
  · -- a pass runs and re-inserts only tasks of the queue
    obtain ⟨tk, h⟩ := dispatch_split cfg s.now s.queue s.busy
    have hsub : ∀ i ∈ ids (dispatch cfg s.now s.queue s.busy).kept ++
        runIds (dispatch cfg s.now s.queue s.busy).runs, i ∈ ids s.queue :=
      fun i hi => h.ids_perm.mem_iff.mpr (h.runIds_eq ▸ hi)
    have hnr := fun hm => habs (hsub id (List.mem_append_right _ hm))
    refine ⟨fun hm => ?_, countTook_append_quiet _ (quiet_tooks hnr)⟩
    rcases List.mem_append.mp ((ids_reinsert_perm _ _).mem_iff.mp hm) with h1 | h1
    · exact hnr (h.ids_ins.subset h1)
    · exact habs (hsub id (List.mem_append_left _ h1))

theorem absent_run (r : Bool) (cfg : Cfg) (id : Nat) (evs : List Ev) {s : State}
    (habs : id ∉ ids s.queue) (he : ∀ e ∈ evs, isScheduleOf id e = false) :
    countTook id (runEvs r cfg s evs).log = countTook id s.log := by
  induction evs generalizing s with
  | nil => rfl
  | cons e rest ih =>
    obtain ⟨he, hrest⟩ := List.forall_mem_cons.mp he
    have h1 := absent_step r cfg id habs e he
    exact (ih h1.1 hrest).trans h1.2

theorem cursor_scheduled {id : Nat} {log : List LogEv} {c : Cron} {off : Int} {t : Nat}
    (h : cursor id log = some (c, off, t)) : ∃ last, LogEv.scheduled id c off last ∈ log := by
  induction log generalizing t with
  | nil => cases h
  | cons e rest ih =>
    have tail : ∀ {t}, cursor id rest = some (c, off, t) → ∃ last, LogEv.scheduled id c off last ∈ e :: rest :=
      fun h => (ih h).imp fun _ => List.mem_cons_of_mem _
    cases e with
    | scheduled id' c' off' last' =>
      unfold cursor at h
      split at h
      · next heq => subst heq; cases h; exact ⟨_, List.mem_cons_self⟩
      · exact tail h
    | released id' =>
      unfold cursor at h
      split at h
      · cases h
      · exact tail h
    | took w r now =>
      unfold cursor at h
      split at h
      · obtain ⟨x, hx, hxe⟩ := Option.map_eq_some_iff.mp h
        cases hxe
        exact tail hx
      · exact tail h
    | finished w r => exact tail h

end Influx.Lemmas.Sched
