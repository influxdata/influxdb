/-
  Lemmas.MetaWriter — `sort.Search`, `sgList.ShardGroupAt`, `MapShards`, `Client.CreateShardGroup`.
-/
import Influx.Lemmas.MetaBounds

namespace Influx.Meta
open Influx.Generated.Meta

theorem halves_fuel {i j m k : Nat} (h1 : i ≤ m) (h2 : m < j) (hf : j - i < k + 1) :
    m - i < k ∧ j - (m + 1) < k := by
  omega

/-- Go's `sort.Search` loop: with enough fuel the result is `n` or an index where `f` holds -/
theorem goSearch_spec (f : Nat → Bool) (n : Nat) :
    ∀ (fuel i j : Nat), i ≤ j → j - i < fuel → j ≤ n → (j = n ∨ f j = true) →
      goSearch f fuel i j ≤ n ∧ (goSearch f fuel i j = n ∨ f (goSearch f fuel i j) = true) := by
  intro fuel
  induction fuel with
  | zero => intro i j _ h; exact absurd h (Nat.not_lt_zero _)
  | succ k ih =>
    intro i j hij hfuel hjn hj
    unfold goSearch
    by_cases hlt : i < j
    · rw [if_pos hlt]
      have hm : i ≤ (i + j) / 2 ∧ (i + j) / 2 < j := by omega
      generalize (i + j) / 2 = m at hm ⊢
      obtain ⟨hk1, hk2⟩ := halves_fuel hm.1 hm.2 hfuel
      dsimp only
      by_cases hf : f m = true
      · rw [hf, if_neg (by decide)]
        exact ih i m hm.1 hk1 (Nat.le_trans (Nat.le_of_lt hm.2) hjn) (Or.inr hf)
      · rw [Bool.not_eq_true] at hf
        rw [hf, if_pos (by decide)]
        exact ih (m + 1) j hm.2 hk2 hjn hj
    · rw [if_neg hlt]
      cases Nat.le_antisymm hij (Nat.not_lt.mp hlt)
      exact ⟨hjn, hj⟩

theorem perm_sgInsert (g : ShardGroupInfo) (l : List ShardGroupInfo) : (sgInsert g l).Perm (g :: l) := by
  induction l with
  | nil => simp [sgInsert]
  | cons y ys ih =>
    simp only [sgInsert]
    split
    · exact List.Perm.refl _
    · exact (List.Perm.cons y ih).trans (List.Perm.swap g y ys)

theorem perm_sgSort_aux (l acc : List ShardGroupInfo) :
    (l.foldl (fun acc g => sgInsert g acc) acc).Perm (l ++ acc) := by
  induction l generalizing acc with
  | nil => simp
  | cons y ys ih =>
    simp only [List.foldl_cons]
    refine (ih (sgInsert y acc)).trans ?_
    refine (List.Perm.append_left ys (perm_sgInsert y acc)).trans ?_
    simp

theorem perm_sgSort (l : List ShardGroupInfo) : (sgSort l).Perm l := by
  unfold sgSort
  simpa using perm_sgSort_aux l []

theorem mem_sgSort {x : ShardGroupInfo} {l : List ShardGroupInfo} : x ∈ sgSort l ↔ x ∈ l :=
  (perm_sgSort l).mem_iff

theorem shardGroupAt_some (l : SgList) (t : Int) (g : ShardGroupInfo) (h : (l.shardGroupAt t).2 = some g) :
    g ∈ l.items ∧ g.StartTime ≤ t ∧ t < g.EndTime := by
  unfold SgList.shardGroupAt at h
  split at h
  · cases h
  · dsimp only at h
    -- the index comes from the binary search: it is the length, or `EndTime.After(t)` holds there
    have hs := (goSearch_spec (endAfter (sgSort l.items) t) (sgSort l.items).length ((sgSort l.items).length + 1) 0
      (sgSort l.items).length (Nat.zero_le _) (by omega) (Nat.le_refl _) (.inl rfl)).2
    generalize goSearch (endAfter (sgSort l.items) t) ((sgSort l.items).length + 1) 0 (sgSort l.items).length = idx
      at h hs
    have hfind : (sgSort l.items).find? (Contains · t) = some g → g ∈ l.items ∧ g.StartTime ≤ t ∧ t < g.EndTime :=
      fun hf => ⟨mem_sgSort.mp (List.mem_of_find?_eq_some hf), (contains_iff g t).mp (List.find?_some (p := (Contains · t)) hf)⟩
    cases hget : (sgSort l.items)[idx]? with
    | none =>
      simp only [hget] at h
      split at h
      · cases h
      · exact hfind h
    | some g0 =>
      simp only [hget] at h
      by_cases hb : Time.Before t g0.StartTime = true
      · simp only [hb, ↓reduceIte] at h
        split at h
        · cases h
        · exact hfind h
      · simp only [hb, Bool.false_eq_true, ↓reduceIte, Option.some.injEq] at h
        subst h
        refine ⟨mem_sgSort.mp (List.mem_of_getElem? hget), by simpa using hb, ?_⟩
        rcases hs with hs | hs
        · rw [hs] at hget; simp at hget
        · simpa [endAfter, hget] using hs

theorem shardGroupAt_fst (l : SgList) (t : Int) :
    (l.shardGroupAt t).1.earliest = l.earliest ∧ (l.shardGroupAt t).1.latest = l.latest ∧
    (l.shardGroupAt t).1.items.Perm l.items := by
  unfold SgList.shardGroupAt
  split
  · exact ⟨rfl, rfl, .refl _⟩
  · simp only
    split
    · exact ⟨rfl, rfl, perm_sgSort _⟩
    · split <;> exact ⟨rfl, rfl, perm_sgSort _⟩

theorem shardGroupAt_items (l : SgList) (t : Int) : ((l.shardGroupAt t).1.items).Perm l.items :=
  (shardGroupAt_fst l t).2.2

theorem Except.map_ok {ε α β : Type} {f : α → β} {x : Except ε α} {y : β} (h : x.map f = .ok y) :
    ∃ a, x = .ok a ∧ y = f a := by
  cases x with
  | error e => cases h
  | ok a => cases h; exact ⟨a, rfl, rfl⟩

/-- one iteration of the second loop of `MapShards` -/
theorem mapPlace_cons_ok {min : Int} {l : SgList} {t : Int} {ts : List Int} {ps : List Placement}
    (h : mapPlace min l (t :: ts) = .ok ps) :
    ∃ p ps', ps = p :: ps' ∧ mapPlace min (l.shardGroupAt t).1 ts = .ok ps' ∧
      (p = .dropped ∧ (t < min ∨ (l.shardGroupAt t).2 = none) ∨
       ∃ sh g, p = .mapped sh g ∧ ¬t < min ∧ (l.shardGroupAt t).2 = some g ∧ shardFor g = some sh) := by
  simp only [mapPlace] at h
  by_cases hold : t < min
  · simp only [(before_iff t min).mpr hold, ↓reduceIte] at h
    obtain ⟨ps', hrec, rfl⟩ := Except.map_ok h
    exact ⟨_, ps', rfl, hrec, .inl ⟨rfl, .inl hold⟩⟩
  · simp only [(before_false_iff t min).mpr (Int.not_lt.mp hold), Bool.false_eq_true, ↓reduceIte] at h
    cases hg : (l.shardGroupAt t).2 with
    | none =>
      simp only [hg] at h
      obtain ⟨ps', hrec, rfl⟩ := Except.map_ok h
      exact ⟨_, ps', rfl, hrec, .inl ⟨rfl, .inr rfl⟩⟩
    | some g =>
      simp only [hg] at h
      cases hsh : shardFor g with
      | none => simp only [hsh] at h; cases h
      | some sh =>
        simp only [hsh] at h
        obtain ⟨ps', hrec, rfl⟩ := Except.map_ok h
        exact ⟨_, ps', rfl, hrec, .inr ⟨sh, g, rfl, hold, rfl, hsh⟩⟩

theorem mapPlace_spec (min : Int) : ∀ (ts : List Int) (l : SgList) (ps : List Placement),
    mapPlace min l ts = .ok ps →
    ps.length = ts.length ∧ ∀ t p, (t, p) ∈ ts.zip ps → ∀ sh g, p = Placement.mapped sh g →
      g ∈ l.items ∧ g.StartTime ≤ t ∧ t < g.EndTime := by
  intro ts
  induction ts with
  | nil => intro l ps h; cases h; exact ⟨rfl, fun _ _ hp => (List.not_mem_nil hp).elim⟩
  | cons t ts ih =>
    intro l ps h
    obtain ⟨p, ps', rfl, hrec, hp⟩ := mapPlace_cons_ok h
    obtain ⟨hlen, hin⟩ := ih _ _ hrec
    refine ⟨by rw [List.length_cons, List.length_cons, hlen], fun t' p' hp' sh g hpg => ?_⟩
    rw [List.zip_cons_cons, List.mem_cons, Prod.mk.injEq] at hp'
    rcases hp' with ⟨rfl, rfl⟩ | hp'
    · rcases hp with ⟨rfl, _⟩ | ⟨sh', g', rfl, _, hg', _⟩
      · cases hpg
      · cases hpg
        exact shardGroupAt_some l _ g hg'
    · obtain ⟨h1, h2⟩ := hin t' p' hp' sh g hpg
      exact ⟨(shardGroupAt_items l t).mem_iff.mp h1, h2⟩

theorem shardGroupByTimestamp_some {gs : List ShardGroupInfo} {t : Int} {g : ShardGroupInfo}
    (h : shardGroupByTimestamp gs t = some g) :
    g ∈ gs ∧ g.StartTime ≤ t ∧ t < g.EndTime ∧ g.DeletedAt = zeroTime := by
  have h1 := List.find?_some h
  have h2 := List.mem_of_find?_eq_some h
  simp only [sgMatches, Bool.and_eq_true, Bool.not_eq_true'] at h1
  exact ⟨h2, ((contains_iff g t).mp h1.1.1).1, ((contains_iff g t).mp h1.1.1).2, (deleted_false_iff g).mp h1.1.2⟩

theorem clientCreateShardGroup_ok {d d' : Data} {db rp : String} {t : Int} {og : Option ShardGroupInfo}
    (h : clientCreateShardGroup d db rp t = .ok (d', og)) :
    ((d' = d ∧ ∃ g, og = some g) ∨ createShardGroup d db rp t = .ok d') ∧
    ∃ r', getRP d' db rp = .ok r' ∧ shardGroupByTimestamp r'.ShardGroups t = og := by
  unfold clientCreateShardGroup at h
  cases h1 : getRP d db rp with
  | error e => simp [h1] at h
  | ok r =>
    simp only [h1] at h
    cases h2 : shardGroupByTimestamp r.ShardGroups t with
    | some g =>
      simp only [h2, Except.ok.injEq, Prod.mk.injEq] at h
      obtain ⟨rfl, rfl⟩ := h
      exact ⟨.inl ⟨rfl, g, rfl⟩, r, h1, h2⟩
    | none =>
      simp only [h2] at h
      cases h3 : createShardGroup d db rp t with
      | error e => simp [h3] at h
      | ok d2 =>
        simp only [h3] at h
        cases h4 : getRP d2 db rp with
        | error e => simp [h4] at h
        | ok r2 =>
          simp only [h4, Except.ok.injEq, Prod.mk.injEq] at h
          obtain ⟨rfl, rfl⟩ := h
          exact ⟨.inr rfl, r2, h4, rfl⟩

theorem clientCreateShardGroup_some {d d' : Data} {db rp : String} {t : Int} {g : ShardGroupInfo}
    (h : clientCreateShardGroup d db rp t = .ok (d', some g)) :
    g.StartTime ≤ t ∧ t < g.EndTime ∧ g.DeletedAt = zeroTime :=
  let ⟨_, _, _, hg⟩ := clientCreateShardGroup_ok h
  (shardGroupByTimestamp_some hg).2

theorem mapShards_ok {d d' : Data} {db rp : String} {now : Int} {ts : List Int} {m : ShardMapping}
    (h : mapShards d db rp now ts = (d', .ok m)) :
    ∃ r l, getRP d db rp = .ok r ∧ mapCreate db rp (minTime r now) d SgList.empty ts = (d', .ok l) ∧
      mapPlace (minTime r now) l ts = .ok m.placements ∧ m.retentionDropped = countDropped m.placements := by
  unfold mapShards at h
  cases h1 : getRP d db rp with
  | error e => simp [h1] at h
  | ok r =>
    simp only [h1] at h
    cases h2 : mapCreate db rp (minTime r now) d SgList.empty ts with
    | mk d2 res =>
      cases res with
      | error e => simp [h2] at h
      | ok l =>
        simp only [h2] at h
        cases h3 : mapPlace (minTime r now) l ts with
        | error e => simp [h3] at h
        | ok ps =>
          simp only [h3, Prod.mk.injEq, Except.ok.injEq] at h
          obtain ⟨rfl, rfl⟩ := h
          exact ⟨r, l, rfl, h2, h3, rfl⟩

end Influx.Meta
