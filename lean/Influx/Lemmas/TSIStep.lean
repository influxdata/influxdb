/-
  Lemmas.TSIStep — every operation of the engine's flows keeps the state invariant: rolls,
  compactions, reopen, configuration, `Index.CreateSeriesListIfNotExists`, and the delete flows
  `Index.DropSeries`, `Index.DropMeasurementIfSeriesNotExist`, `SeriesFile.DeleteSeriesID`.
-/
import Influx.Lemmas.TSIState

namespace Influx.Model.TSI

section
variable {st : State} {live : List Nat}

theorem ginv_modifyAt (h : GInv st live) (j : Nat) (f : Partition → Partition)
    (hf : ∀ p, PInv st.sf live j p → PInv st.sf live j (f p)) :
    GInv (if j ≥ st.parts.length then (st, Obs.rejected)
      else ({ st with parts := modifyAt st.parts j f, configured := true }, Obs.ok)).1 live := by
  split
  · exact h
  · refine h.frame (fun i p => if j = i then f p else p) rfl (fun _ => Iff.rfl) rfl
      (fun i => getElem?_modifyAt _ _ i _) (fun i p hp => ?_) h.cache
    split
    · next hji => subst hji; exact hf p (h.pinv j p hp)
    · exact h.pinv i p hp

theorem ginv_roll (h : GInv st live) (j : Nat) : GInv (step st (.roll j)).1 live :=
  ginv_modifyAt h j _ (fun _ => pinv_roll)

theorem ginv_compactLog (h : GInv st live) (j : Nat) : GInv (step st (.compactLog j)).1 live :=
  ginv_modifyAt h j _ (fun _ => pinv_compactOldestLog)

theorem ginv_compactLevel (h : GInv st live) (j level : Nat) :
    GInv (step st (.compactLevel j level)).1 live :=
  ginv_modifyAt h j _ (fun _ hp => pinv_compactLevel hp level)

theorem ginv_reopen (h : GInv st live) : GInv (step st .reopen).1 live :=
  h.frame (fun _ p => p.reopen st.sf) rfl (fun _ => Iff.rfl) rfl (fun _ => List.getElem?_map)
    (fun i p hp => pinv_reopen (h.pinv i p hp)) (fun _ he => nomatch he)

/-- the number of partitions is set once, before anything else has happened. -/
theorem ginv_cfg (h : GInv st live) (n : Nat) : GInv (step st (.cfg n)).1 live := by
  show GInv (if st.configured ∨ (n ≠ 1 ∧ n ≠ 8) then (st, Obs.rejected) else _).1 live
  split
  · exact h
  · next hc =>
    obtain ⟨hk, rfl, _⟩ := h.fresh (Bool.eq_false_iff.mpr fun hcc => hc (Or.inl hcc))
    exact { h with
      partlt := fun s hs => by rw [hk] at hs; cases hs
      liveKnown := fun id hid => nomatch hid
      liveUndel := fun id hid => nomatch hid
      pinv := fun i p hp => by
        obtain rfl := (List.mem_replicate.mp (List.mem_of_getElem? hp)).2
        exact pinv_init _ i
      fresh := fun hc' => nomatch hc' }

theorem findKey_some {sf : SFile} {name : String} {tags : Tags} {s : SeriesInfo}
    (h : sf.findKey name tags = some s) :
    s ∈ sf.known ∧ s.name = name ∧ s.tags = tags ∧ s.id ∉ sf.deleted := by
  unfold SFile.findKey at h
  have h2 := List.find?_some h
  simp only [Bool.and_eq_true, decide_eq_true_eq, Bool.not_eq_true', List.contains_eq_mem,
    decide_eq_false_iff_not, Bool.decide_and] at h2
  exact ⟨List.mem_of_find?_eq_some h, h2.1, h2.2.1, h2.2.2⟩

/-- the id the series file returns for the key of `new` is `new.id`: the live series with this
    key has it (and lies in the same partition), or there is none and the id is unused. -/
def SFile.gives (sf : SFile) (new : SeriesInfo) : Bool :=
  match sf.findKey new.name new.tags with
  | some s => s.id = new.id ∧ s.part = new.part
  | none => (sf.find new.id).isNone

theorem gives_cases {sf : SFile} {new : SeriesInfo} (h : sf.gives new = true) :
    (new ∈ sf.known ∧ new.id ∉ sf.deleted) ∨ sf.find new.id = none := by
  unfold SFile.gives at h
  split at h
  · next s hfk =>
    obtain ⟨hk, hn, ht, hd⟩ := findKey_some hfk
    obtain ⟨hi, hp⟩ := of_decide_eq_true h
    have : s = new := by
      obtain ⟨_, _, _, _⟩ := s
      obtain ⟨_, _, _, _⟩ := new
      simp only at hn ht hi hp
      rw [hn, ht, hi, hp]
    exact Or.inl ⟨this ▸ hk, this ▸ hd⟩
  · exact Or.inr (by simpa using h)

/-- the series file after `SeriesFile.CreateSeriesListIfNotExists` of one series. -/
def SFile.learn (sf : SFile) (new : SeriesInfo) : SFile :=
  if (sf.find new.id).isSome then sf else { sf with known := sf.known ++ [new] }

def created (st : State) (new : SeriesInfo) : State :=
  { st with
    parts := modifyAt (markOpStart st.parts) new.part (fun p =>
      if p.sset.contains new.id then p else appendSeries (st.sf.learn new) p true new.id)
    sf := st.sf.learn new
    tracked := sadd st.tracked new.id
    configured := true
    cache := if !((st.parts[new.part]?.map (·.sset.contains new.id)).getD true)
      then cacheAdd st.cache new.name new.tags new.id else st.cache }

/-- `Index.CreateSeriesListIfNotExists` on one series. -/
theorem step_create_eq (st : State) (id part : Nat) (name : String) (tags : Tags) :
    step st (.create id part name tags) =
      if part ≥ st.parts.length ∨ name = "" ∨ !tagsOK tags ∨ id = 0 then (st, .rejected)
      else if !st.sf.gives ⟨id, name, tags, part⟩ then (st, .rejected)
      else (created st ⟨id, name, tags, part⟩, .ok) := rfl

theorem step_create_cases (st : State) (id part : Nat) (name : String) (tags : Tags) :
    step st (.create id part name tags) = (st, .rejected) ∨
    (part < st.parts.length ∧ tagsOK tags = true ∧ st.sf.gives ⟨id, name, tags, part⟩ = true ∧
      step st (.create id part name tags) = (created st ⟨id, name, tags, part⟩, .ok)) := by
  rw [step_create_eq]
  split
  · exact Or.inl rfl
  · next hbad =>
    split
    · exact Or.inl rfl
    · next hg =>
      simp only [not_or, Nat.not_le, Bool.not_eq_true', Bool.not_eq_false] at hbad hg
      exact Or.inr ⟨hbad.1, hbad.2.2.1, hg, rfl⟩

def liveCreate (live : List Nat) (id : Nat) : List Nat := if id ∈ live then live else id :: live

theorem learn_find {sf : SFile} (hok : SFOK sf) {new : SeriesInfo} (hg : sf.gives new = true) :
    Extends sf (sf.learn new) ∧ (sf.learn new).find new.id = some new := by
  unfold SFile.learn
  rcases gives_cases hg with ⟨hk, _⟩ | hf
  · have hf := find_of_mem hok hk
    rw [if_pos (by rw [hf]; rfl)]
    exact ⟨⟨fun _ _ hs => hs⟩, hf⟩
  · rw [if_neg (by rw [hf]; exact Bool.false_ne_true)]
    refine ⟨⟨fun x s hs => ?_⟩, ?_⟩
    · rw [find_append, hs]; rfl
    · rw [find_append, hf, if_pos rfl]; rfl

theorem learn_fresh {sf : SFile} (hok : SFOK sf) {new : SeriesInfo} (hf : sf.find new.id = none)
    (hnd : (new.tags.map (·.1)).Nodup) :
    SFOK (sf.learn new) ∧ (sf.learn new).deleted = sf.deleted ∧
      ∀ s ∈ (sf.learn new).known, s ∈ sf.known ∨ s = new := by
  have hlearn : sf.learn new = { sf with known := sf.known ++ [new] } :=
    if_neg (by rw [hf]; exact Bool.false_ne_true)
  have hknown : ∀ s ∈ (sf.learn new).known, s ∈ sf.known ∨ s = new := fun s hs => by
    rw [hlearn] at hs
    exact (List.mem_append.mp hs).imp id List.eq_of_mem_singleton
  have hne : ∀ u ∈ sf.known, u.id ≠ new.id := fun u hu hid => by
    have := find_of_mem hok hu; rw [hid, hf] at this; cases this
  refine ⟨⟨fun s hs => ?_, fun s hs t ht hst => ?_⟩, by rw [hlearn], hknown⟩
  · rcases hknown s hs with hs | rfl
    · exact hok.nodup s hs
    · exact hnd
  · rcases hknown s hs with hs | hs <;> rcases hknown t ht with ht | ht
    · exact hok.uniq s hs t ht hst
    · exact absurd (ht ▸ hst) (hne s hs)
    · exact absurd (hs ▸ hst.symm) (hne t ht)
    · rw [hs, ht]

theorem any_tag_iff (tags : Tags) (k v : String) :
    tags.any (fun kv => kv.1 = k ∧ kv.2 = v) = true ↔ (k, v) ∈ tags := by
  rw [List.any_eq_true]
  constructor
  · rintro ⟨⟨k', v'⟩, hm, hd⟩
    obtain ⟨rfl, rfl⟩ := of_decide_eq_true hd
    exact hm
  · exact fun hm => ⟨(k, v), hm, decide_eq_true ⟨rfl, rfl⟩⟩

/-- `addToSet`: the cached sets of the new series' tag pairs gain its id. -/
theorem cacheAdd_ok {sf : SFile} {id : Nat} {s : SeriesInfo}
    (hf : sf.find id = some s) (hd : (s.tags.map (·.1)).Nodup)
    (c : List ((String × String × String) × List Nat)) (hc : ∀ e ∈ c, CacheOK sf live e) :
    ∀ e ∈ cacheAdd c s.name s.tags id, CacheOK sf (id :: live) e := by
  intro e he
  obtain ⟨e0, he0, rfl⟩ := List.mem_map.mp he
  obtain ⟨hs, hcpl⟩ := hc e0 he0
  simp only [any_tag_iff]
  split
  · next hm =>
    refine ⟨fun x hx => ?_, fun x hx t ht hn htag => (mem_sadd _ _ _).mpr ?_⟩
    · rcases (mem_sadd _ _ _).mp hx with rfl | hx
      · exact ⟨s, hf, hm.1.symm, tagOf_of_mem hd hm.2⟩
      · exact hs x hx
    · exact (List.mem_cons.mp hx).imp_right (hcpl x · t ht hn htag)
  · next hm =>
    refine ⟨hs, fun x hx t ht hn htag => ?_⟩
    rcases List.mem_cons.mp hx with rfl | hx
    · obtain rfl := find_inj hf ht
      exact absurd ⟨hn.symm, tagOf_mem htag⟩ hm
    · exact hcpl x hx t ht hn htag

theorem cacheOK_extends {sf sf' : SFile} (hx : Extends sf sf')
    (hlk : ∀ id ∈ live, (sf.find id).isSome) {e : (String × String × String) × List Nat}
    (h : CacheOK sf live e) : CacheOK sf' live e := by
  refine ⟨fun x hxm => ?_, fun id hid s hs hn ht => ?_⟩
  · obtain ⟨s, hs, h12⟩ := h.1 x hxm
    exact ⟨s, hx.find x s hs, h12⟩
  · obtain ⟨t, hf⟩ := Option.isSome_iff_exists.mp (hlk id hid)
    obtain rfl := find_inj (hx.find id t hf) hs
    exact h.2 id hid t hf hn ht

/-- an accepted creation: the series was live already and nothing but the bookkeeping changes,
    or its id was unknown: the series file learns it and its partition logs it. -/
theorem ginv_created (h : GInv st live) (new : SeriesInfo) (hpart : new.part < st.parts.length)
    (htags : tagsOK new.tags = true) (hg : st.sf.gives new = true) :
    GInv (created st new) (liveCreate live new.id) := by
  obtain ⟨hext, hfnew⟩ := learn_find h.sfok hg
  let mark (p : Partition) : Partition :=
    { p with opStart := (p.files.head?.map (·.entries.length)).getD 0 }
  let g (i : Nat) (p : Partition) : Partition :=
    if new.part = i then
      if (mark p).sset.contains new.id then mark p
      else appendSeries (st.sf.learn new) (mark p) true new.id
    else mark p
  have hparts : ∀ i, (created st new).parts[i]? = (st.parts[i]?).map (g i) := fun i => by
    show (modifyAt (markOpStart st.parts) new.part _)[i]? = _
    rw [getElem?_modifyAt, getElem?_markOpStart, Option.map_map]; rfl
  obtain ⟨p, hp⟩ : ∃ p, st.parts[new.part]? = some p := ⟨_, List.getElem?_eq_getElem hpart⟩
  have hsset := (h.pinv _ p hp).sset new.id
  rcases gives_cases hg with ⟨hk, hnd⟩ | hfresh
  · -- the series is known and not deleted, so live and in its partition's id set
    have hf := find_of_mem h.sfok hk
    have hlive : new.id ∈ live := Classical.not_not.mp fun hl => hnd (h.deadDel' new hk hl)
    have hin : new.id ∈ p.sset := hsset.mpr ⟨hlive, new, hf, rfl⟩
    have hsf : (created st new).sf = st.sf := if_pos (by rw [hf]; rfl)
    unfold liveCreate
    rw [if_pos hlive]
    refine h.frame g hsf (fun x => ?_) rfl hparts (fun i q hq => ?_) ?_
    · rw [show (created st new).tracked = sadd st.tracked new.id from rfl, mem_sadd]
      exact ⟨fun hx => hx.elim (fun e => e ▸ (h.tracked _).mpr hlive) id, Or.inr⟩
    · by_cases hi : new.part = i
      · subst hi
        obtain rfl : p = q := Option.some.inj (hp.symm.trans hq)
        rw [show g new.part p = mark p from (if_pos rfl).trans (if_pos (List.contains_iff_mem.mpr hin))]
        exact pinv_of_eq (h.pinv _ p hq) rfl rfl
      · rw [show g i q = mark q from if_neg hi]
        exact pinv_of_eq (h.pinv i q hq) rfl rfl
    · rw [show (created st new).cache = if _ then _ else _ from rfl, hp, if_neg (by simp [hin])]
      exact h.cache
  · have hnl : new.id ∉ live := fun hl => by
      have := h.liveKnown _ hl; rw [hfresh] at this; cases this
    have hnin : new.id ∉ p.sset := fun hc => hnl (hsset.mp hc).1
    obtain ⟨hsfok, hdel, hknown⟩ := learn_fresh h.sfok hfresh (nodup_of_tagsOK htags)
    replace hdel : (created st new).sf.deleted = st.sf.deleted := hdel
    have hknown' : ∀ x, (st.sf.find x).isSome → ((st.sf.learn new).find x).isSome := fun x hx => by
      obtain ⟨s, hs⟩ := Option.isSome_iff_exists.mp hx
      rw [hext.find x s hs]; rfl
    unfold liveCreate
    rw [if_neg hnl]
    exact {
      sfok := hsfok
      partlt := fun s hs => by
        rw [length_of_image hparts]
        rcases hknown s hs with hs | rfl
        · exact h.partlt s hs
        · exact hpart
      liveKnown := fun x hx => by
        rcases List.mem_cons.mp hx with rfl | hx
        · exact Option.isSome_iff_exists.mpr ⟨_, hfnew⟩
        · exact hknown' x (h.liveKnown x hx)
      liveUndel := fun x hx hd => by
        rw [hdel] at hd
        rcases List.mem_cons.mp hx with rfl | hx
        · have := h.delKnown _ hd; rw [hfresh] at this; cases this
        · exact h.liveUndel x hx hd
      deadDel := fun s hs hsl => by
        rw [hdel]
        rcases hknown s hs with hs | rfl
        · exact Or.inl (h.deadDel' s hs fun hl => hsl (List.mem_cons_of_mem _ hl))
        · exact absurd List.mem_cons_self hsl
      delKnown := fun x hx => by
        rw [hdel] at hx
        exact hknown' x (h.delKnown x hx)
      pinv := forall_of_image hparts fun i q hq => by
        have hq0 : PInv (st.sf.learn new) live i (mark q) :=
          pinv_of_eq (pinv_extends hext h.liveKnown (h.pinv i q hq)) rfl rfl
        -- no tombstone anywhere names the fresh id
        have hnt : ∀ f ∈ (mark q).files, new.id ∉ f.data.tomb := fun f hf hin => by
          have := (h.pinv i q hq).tknown f hf _ hin; rw [hfresh] at this; cases this
        by_cases hi : new.part = i
        · subst hi
          obtain rfl : p = q := Option.some.inj (hp.symm.trans hq)
          rw [show g new.part p = _ from
            (if_pos rfl).trans (if_neg fun hc => hnin (List.contains_iff_mem.mp hc))]
          exact pinv_create hsfok hq0 new.id new hfnew rfl hnl hnt
        · rw [show g i q = mark q from if_neg hi]
          exact pinv_create_other hq0 new.id new hfnew hi hnt
      tracked := fun x => by
        rw [show (created st new).tracked = sadd st.tracked new.id from rfl, mem_sadd, List.mem_cons,
          h.tracked x]
      cache := by
        rw [show (created st new).cache = if _ then _ else _ from rfl, hp, if_pos (by simp [hnin])]
        exact cacheAdd_ok hfnew (nodup_of_tagsOK htags) st.cache
          fun e he => cacheOK_extends hext h.liveKnown (h.cache e he)
      fresh := fun hc => nomatch hc }

end

section
variable {exc : String → Prop} {pend : List Nat} {st : State} {live : List Nat}

theorem ginvx_mark {exc' : String → Prop} (h : GInvX exc pend st live) (himp : ∀ n, exc n → exc' n) :
    GInvX exc' pend { st with parts := markOpStart st.parts, configured := true } live :=
  h.frame (fun _ p => { p with opStart := (p.files.head?.map (·.entries.length)).getD 0 }) rfl
    (fun _ => Iff.rfl) rfl (getElem?_markOpStart _)
    (fun i p hp => pinv_of_eq (pinv_mono himp (h.pinv i p hp)) rfl rfl) h.cache

/-- `Index.DropSeries(id, key, false)` of a series whose measurement is excepted already. -/
theorem ginvx_dropSeriesIndex (h : GInvX exc pend st live) (s : SeriesInfo)
    (hf : st.sf.find s.id = some s) (hc : st.configured = true) (hexc : exc s.name) :
    GInvX exc (s.id :: pend) (dropSeriesIndex st s) (sdel live s.id) := by
  have hparts : ∀ i, (dropSeriesIndex st s).parts[i]? =
      (st.parts[i]?).map (fun p => if s.part = i then appendSeries st.sf p false s.id else p) :=
    fun i => getElem?_modifyAt _ _ i _
  have hback : ∀ n, exc n ∨ n = s.name → exc n := fun n hn => hn.elim id (· ▸ hexc)
  exact { h with
    partlt := fun t ht => by rw [length_of_image hparts]; exact h.partlt t ht
    liveKnown := fun x hx => h.liveKnown x ((mem_sdel _ _ _).mp hx).1
    liveUndel := fun x hx => h.liveUndel x ((mem_sdel _ _ _).mp hx).1
    deadDel := fun t ht hl => by
      by_cases hid : t.id = s.id
      · exact Or.inr (hid ▸ List.mem_cons_self)
      · exact (h.deadDel t ht fun hl' => hl ((mem_sdel _ _ _).mpr ⟨hl', hid⟩)).imp_right
          (List.mem_cons_of_mem _)
    pinv := forall_of_image hparts fun i p hp => by
      by_cases hi : s.part = i
      · rw [if_pos hi]; subst hi; exact pinv_mono hback (pinv_drop h.sfok (h.pinv _ p hp) s.id s hf)
      · rw [if_neg hi]; exact pinv_mono hback (pinv_drop_other (h.pinv i p hp) s.id s hf hi)
    tracked := fun x => by
      rw [show (dropSeriesIndex st s).tracked = sdel st.tracked s.id from rfl, mem_sdel, mem_sdel,
        h.tracked x]
    cache := fun e he => by
      obtain ⟨e0, he0, rfl⟩ := List.mem_map.mp he
      obtain ⟨h1, h2⟩ := h.cache e0 he0
      split
      · refine ⟨fun x hx => h1 x ((mem_sdel _ _ _).mp hx).1, fun x hx t ht hn htag => ?_⟩
        obtain ⟨hxl, hxne⟩ := (mem_sdel _ _ _).mp hx
        exact (mem_sdel _ _ _).mpr ⟨h2 x hxl t ht hn htag, hxne⟩
      · exact ⟨h1, fun x hx => h2 x ((mem_sdel _ _ _).mp hx).1⟩
    fresh := fun hc' => nomatch hc.symm.trans hc' }

/-- `MeasurementHasSeries` over the partitions: is a series of the measurement live? -/
theorem hasSeries_iff (h : GInvX exc pend st live) (m : String) :
    (st.parts.any (fun p => fsHasSeries p.datas p.sset m)) = true ↔
      ∃ id ∈ live, ∃ s, st.sf.find id = some s ∧ s.name = m := by
  constructor
  · intro hany
    obtain ⟨p, hp, hhas⟩ := List.any_eq_true.mp hany
    obtain ⟨i, hpi⟩ := h.of_mem hp
    obtain ⟨d, hd, hx⟩ := List.any_eq_true.mp hhas
    obtain ⟨x, hxm, hxs⟩ := List.any_eq_true.mp hx
    obtain ⟨f, hf, rfl⟩ := mem_datas.mp hd
    exact ⟨x, ((hpi.sset x).mp (List.contains_iff_mem.mp hxs)).1, (hpi.sound f hf).meas m x hxm⟩
  · rintro ⟨x, hxl, s, hs, rfl⟩
    obtain ⟨p, hp, hpi, f, hf, hm, _⟩ := h.listed hxl hs
    exact List.any_eq_true.mpr ⟨p, hp, List.any_eq_true.mpr ⟨f.data, mem_datas.mpr ⟨f, hf, rfl⟩,
      List.any_eq_true.mpr ⟨x, hm, List.contains_iff_mem.mpr ((hpi.sset x).mpr ⟨hxl, s, hs, rfl⟩)⟩⟩⟩

theorem dropMeasurementIfNoSeries_sf (st : State) (m : String) :
    (dropMeasurementIfNoSeries st m).sf = st.sf := by
  unfold dropMeasurementIfNoSeries; split <;> rfl

/-- `Index.DropMeasurementIfSeriesNotExist(m)` ends the exception for `m`. -/
theorem ginvx_dropMeasIfNoSeries (m : String) (h : GInvX (fun n => exc n ∨ n = m) pend st live)
    (hc : st.configured = true) : GInvX exc pend (dropMeasurementIfNoSeries st m) live := by
  unfold dropMeasurementIfNoSeries
  split
  · next hany =>
    exact { h with pinv := fun i p hp => pinv_discharge m ((hasSeries_iff h m).mp hany) (h.pinv i p hp) }
  · next hany =>
    exact h.frame (fun _ p => p.append st.sf (dropMeasurementEntries p.datas m)) rfl (fun _ => Iff.rfl)
      hc (fun _ => List.getElem?_map)
      (fun i p hp => pinv_dropMeasurement m (h.pinv i p hp) fun id hid s hs hn =>
        hany ((hasSeries_iff h m).mpr ⟨id, hid, s, hs, hn⟩)) h.cache

/-- `SeriesFile.DeleteSeriesID` of the ids whose index drop is complete. -/
theorem ginvx_sfdelete (h : GInvX (fun _ => False) pend st live)
    (hpk : ∀ id ∈ pend, (st.sf.find id).isSome) (hpl : ∀ id ∈ pend, id ∉ live) (d : List Nat)
    (hd : ∀ x, x ∈ d ↔ x ∈ st.sf.deleted ∨ x ∈ pend) :
    GInv { st with sf := { st.sf with deleted := d } } live :=
  { h with
    sfok := ⟨h.sfok.nodup, h.sfok.uniq⟩
    liveUndel := fun x hx hxd => ((hd x).mp hxd).elim (h.liveUndel x hx) (hpl x · hx)
    deadDel := fun s hs hl => Or.inl ((hd _).mpr (h.deadDel s hs hl))
    delKnown := fun x hx => ((hd x).mp hx).elim (h.delKnown x) (hpk x)
    pinv := fun i p hp => pinv_sfdel d (h.pinv i p hp) }

/-- a run of `Index.DropSeries` over series of one excepted measurement. -/
theorem ginvx_dropMany (name : String) (hexc : exc name) (ss : List SeriesInfo)
    (h : GInvX exc pend st live) (hc : st.configured = true)
    (hss : ∀ s ∈ ss, st.sf.find s.id = some s ∧ s.name = name) :
    GInvX exc ((ss.map (·.id)).reverse ++ pend) (ss.foldl dropSeriesIndex st)
        (ss.foldl (fun l s => sdel l s.id) live) ∧
      (ss.foldl dropSeriesIndex st).sf = st.sf ∧ (ss.foldl dropSeriesIndex st).configured = true := by
  induction ss generalizing pend st live with
  | nil => exact ⟨h, rfl, hc⟩
  | cons s rest ih =>
    obtain ⟨hfs, hns⟩ := hss s List.mem_cons_self
    have := ih (ginvx_dropSeriesIndex h s hfs hc (hns ▸ hexc)) hc
      fun t ht => hss t (List.mem_cons_of_mem _ ht)
    rwa [List.map_cons, List.reverse_cons, List.append_assoc]

end

theorem mem_foldl_sdel (ss : List SeriesInfo) (live : List Nat) (x : Nat) :
    x ∈ ss.foldl (fun l s => sdel l s.id) live ↔ x ∈ live ∧ ∀ s ∈ ss, s.id ≠ x := by
  induction ss generalizing live with
  | nil => simp
  | cons s rest ih =>
    simp only [List.foldl_cons, ih, mem_sdel, List.mem_cons, forall_eq_or_imp, and_assoc, ne_comm]

theorem mem_foldl_sadd (ss : List SeriesInfo) (d : List Nat) (x : Nat) :
    x ∈ ss.foldl (fun d s => sadd d s.id) d ↔ x ∈ d ∨ ∃ s ∈ ss, s.id = x := by
  induction ss generalizing d with
  | nil => simp
  | cons s rest ih =>
    simp only [List.foldl_cons, ih, mem_sadd, List.mem_cons, exists_eq_or_imp, eq_comm (a := x),
      or_assoc, or_left_comm]

/-- the engine's delete flow over series `ss` of measurement `name`: `Index.DropSeries` of each,
    `Index.DropMeasurementIfSeriesNotExist`, then `SeriesFile.DeleteSeriesID` of each. Both
    `.dropSeries` (one series) and `.dropMeasurement` (the tracked series of `name`) are this. -/
def dropFlow (st : State) (ss : List SeriesInfo) (name : String) : State :=
  let st' := dropMeasurementIfNoSeries
    (ss.foldl dropSeriesIndex { st with parts := markOpStart st.parts, configured := true }) name
  { st' with sf := { st'.sf with deleted := ss.foldl (fun d s => sadd d s.id) st'.sf.deleted } }

theorem ginv_dropFlow {st : State} {live : List Nat} (h : GInv st live) (ss : List SeriesInfo)
    (name : String) (hss : ∀ s ∈ ss, st.sf.find s.id = some s ∧ s.name = name) :
    GInv (dropFlow st ss name) (ss.foldl (fun l s => sdel l s.id) live) := by
  obtain ⟨h2, hsf, hcf⟩ := ginvx_dropMany (exc := fun n => False ∨ n = name) name (Or.inr rfl) ss
    (ginvx_mark h fun _ hn => hn.elim) rfl hss
  have h3 := ginvx_dropMeasIfNoSeries name h2 hcf
  have hsf3 := (dropMeasurementIfNoSeries_sf _ name).trans hsf
  have hpend : ∀ x, x ∈ (ss.map (·.id)).reverse ++ [] ↔ ∃ s ∈ ss, s.id = x := fun x => by
    rw [List.append_nil, List.mem_reverse, List.mem_map]
  refine ginvx_sfdelete h3 (fun x hx => ?_) (fun x hx hl => ?_) _ (fun x => ?_)
  · obtain ⟨s, hs, rfl⟩ := (hpend x).mp hx
    rw [hsf3, (hss s hs).1]; rfl
  · obtain ⟨s, hs, rfl⟩ := (hpend x).mp hx
    exact ((mem_foldl_sdel _ _ _).mp hl).2 s hs rfl
  · rw [mem_foldl_sadd, hpend]

theorem dropFlow_find (st : State) (ss : List SeriesInfo) (name : String) (x : Nat) :
    (dropFlow st ss name).sf.find x = st.sf.find x := by
  have h2 : ∀ (l : List SeriesInfo) (st' : State), (l.foldl dropSeriesIndex st').sf = st'.sf := by
    intro l
    induction l with
    | nil => exact fun _ => rfl
    | cons a rest ih => exact fun st' => ih _
  show List.find? _ (dropMeasurementIfNoSeries _ name).sf.known = _
  rw [dropMeasurementIfNoSeries_sf, h2]; rfl

theorem step_dropSeries_cases (st : State) (id : Nat) :
    step st (.dropSeries id) = (st, .rejected) ∨
    ∃ s, st.sf.find id = some s ∧ s.id = id ∧ step st (.dropSeries id) = (dropFlow st [s] s.name, .ok) := by
  cases hf : st.sf.find id with
  | none => exact Or.inl (by rw [step, hf])
  | some s =>
    obtain rfl := (find_some_mem hf).2
    exact Or.inr ⟨s, rfl, rfl, by simp only [step, hf, dropFlow, List.foldl]⟩

/-- the series the harness's `xm` drops: the tracked ones of the measurement. -/
def victims (st : State) (name : String) : List SeriesInfo :=
  (sortNat st.tracked).filterMap (fun id =>
    (st.sf.find id).bind (fun s => if s.name = name then some s else none))

theorem mem_victims {st : State} {name : String} {s : SeriesInfo} :
    s ∈ victims st name ↔ s.id ∈ st.tracked ∧ st.sf.find s.id = some s ∧ s.name = name := by
  unfold victims
  simp only [List.mem_filterMap, mem_sortNat]
  constructor
  · rintro ⟨id, hid, hb⟩
    obtain ⟨t, hf, hb⟩ := Option.bind_eq_some_iff.mp hb
    split at hb
    · next hn =>
      obtain rfl := Option.some.inj hb
      obtain rfl := (find_some_mem hf).2
      exact ⟨hid, hf, hn⟩
    · cases hb
  · rintro ⟨h1, h2, h3⟩
    exact ⟨s.id, h1, by rw [h2, Option.bind_some, if_pos h3]⟩

theorem step_dropMeasurement_eq (st : State) (name : String) :
    step st (.dropMeasurement name) = (dropFlow st (victims st name) name, .ok) := rfl

end Influx.Model.TSI
