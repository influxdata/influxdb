/-
  Lemmas.CompactSpec — from the iterator theorem (`RestOK`) to the executable
  clauses of the statement checker `Spec.C04.judge`; `Compactor.write` roll-over.
-/
import Influx.Lemmas.CompactRun
import Influx.Spec.C04

namespace Influx.Model.Compact
open Influx.Spec.C04

theorem compactSeq_iterator {V : Type} (cfg : Cfg) {bound : Option Nat} (law : SortLaw cfg bound)
    (hs : 0 < cfg.size) (files : List (FileRuns V)) (ok : FilesOK bound files) (seq : List (Key × OBlk V))
    (h : compactSeq cfg files = .ok seq) :
    KeysSorted seq ∧
    ∀ k, Asc (outPts (seqOf k seq)) ∧
      (∀ t, lookup (outPts (seqOf k seq)) t = restAt (blocksFor files k) t) ∧
      (∀ o ∈ seqOf k seq, BlockFact cfg.size (blocksFor files k) o) := by
  have ro := compactSeq_spec cfg bound law hs files ok seq h
  refine ⟨ro.sorted, fun k => ?_⟩
  have kt := ro.keys k
  exact ⟨kt.asc, fun t => (kt.content t).symm, kt.blocks⟩

/-- what one call of `Compactor.write` leaves: the file `f` followed by the unwritten rest is
    what was to be written; the call rolls over only after consuming something, and stops
    without roll-over only when nothing is left -/
def WriteOK {V : Type} (cur seq f rest : List (Key × OBlk V)) (roll : Bool) : Prop :=
  f ++ rest = cur.reverse ++ seq ∧ (roll = true → rest.length < seq.length) ∧ (roll = false → rest = [])

theorem writeOne_spec {V : Type} (lim : Limits) (bsz : OBlk V → Nat) :
    ∀ (seq cur : List (Key × OBlk V)) (nkey sz : Nat) (f rest : List (Key × OBlk V)) (roll : Bool),
      writeOne lim bsz seq cur nkey sz = (f, rest, roll) → WriteOK cur seq f rest roll
  | [], cur, nkey, sz, f, rest, roll, h => by
    simp only [writeOne, Prod.mk.injEq] at h
    obtain ⟨rfl, rfl, rfl⟩ := h
    simp [WriteOK]
  | (k, b) :: seq, cur, nkey, sz, f, rest, roll, h => by
    -- the block is written in every case; then the file is closed, or the loop goes on
    have stop : (((k, b) :: cur).reverse, seq, true) = (f, rest, roll) → WriteOK cur ((k, b) :: seq) f rest roll := by
      rintro ⟨rfl, rfl, rfl⟩
      simp [WriteOK]
    have go : ∀ n s, writeOne lim bsz seq ((k, b) :: cur) n s = (f, rest, roll) →
        WriteOK cur ((k, b) :: seq) f rest roll := by
      intro n s h'
      obtain ⟨r1, r2, r3⟩ := writeOne_spec lim bsz seq _ n s f rest roll h'
      exact ⟨by rw [r1]; simp, fun hr => Nat.lt_succ_of_lt (r2 hr), r3⟩
    unfold writeOne at h
    split at h
    · exact stop h
    · split at h
      · split at h
        · exact stop h
        · exact go _ _ h
      · exact go _ _ h

theorem splitFiles_spec {V : Type} (lim : Limits) (bsz : OBlk V → Nat) :
    ∀ (fuel : Nat) (seq : List (Key × OBlk V)), seq.length < fuel →
      (splitFiles lim bsz fuel seq).flatten = seq ∧ ∀ f ∈ splitFiles lim bsz fuel seq, f ≠ []
  | 0, _, h => by omega
  | fuel + 1, seq, h => by
    unfold splitFiles
    cases hw : writeOne lim bsz seq [] 0 0 with
    | mk f r =>
    obtain ⟨rest, roll⟩ := r
    obtain ⟨w1, w2, w3⟩ := writeOne_spec lim bsz seq [] 0 0 f rest roll hw
    rw [List.reverse_nil, List.nil_append] at w1
    dsimp only
    cases roll with
    | true =>
      have hlt := w2 rfl
      obtain ⟨i1, i2⟩ := splitFiles_spec lim bsz fuel rest (by omega)
      rw [if_pos rfl]
      refine ⟨by rw [List.flatten_cons, i1, w1], List.forall_mem_cons.mpr ⟨?_, i2⟩⟩
      -- a roll-over leaves less than it found, so the file is not empty
      rintro rfl
      rw [List.nil_append] at w1
      rw [w1] at hlt
      exact Nat.lt_irrefl _ hlt
    | false =>
      rw [w3 rfl, List.append_nil] at w1
      subst w1
      rw [if_neg Bool.false_ne_true]
      cases f with
      | nil => exact ⟨rfl, fun _ h => nomatch h⟩
      | cons a as =>
        exact ⟨List.append_nil _, fun x hx => by rw [List.mem_singleton.mp hx]; exact List.cons_ne_nil _ _⟩

theorem strictAscT_iff (l : Pts Int) : strictAscT l = true ↔ Asc l := by
  induction l with
  | nil => simp [strictAscT, asc_nil]
  | cons p l ih =>
    cases l with
    | nil => simp [strictAscT, Asc]
    | cons q rest =>
      simp only [strictAscT, Bool.and_eq_true, decide_eq_true_eq, ih]
      constructor
      · rintro ⟨h1, h2⟩
        exact pairwise_cons_cons (R := fun a b : Int × Int => a.1 < b.1) Int.lt_trans h1 h2
      · intro h
        exact ⟨(asc_cons.mp h).1 q List.mem_cons_self, (asc_cons.mp h).2⟩

theorem filter_time_asc {l : Pts Int} (h : Asc l) (t : Int) :
    (l.filter (fun p => p.1 == t)).map (·.2) = (lookup l t).toList := by
  induction l with
  | nil => simp
  | cons p l ih =>
    have hc := asc_cons.mp h
    rw [lookup_cons]
    by_cases hp : p.1 = t
    · have hnone : l.filter (fun q => q.1 == t) = [] := by
        apply List.filter_eq_nil_iff.mpr
        intro q hq
        simp only [beq_iff_eq]
        exact fun h => Int.ne_of_lt (hc.1 q hq) (hp.trans h.symm)
      simp [hp, hnone]
    · have : (p.1 == t) = false := by simp [hp]
      simp [this, hp, ih hc.2]

theorem outAt_eq (files : List OutFile) (k : Key) (t : Int) :
    outAt files k t = ((outPts (seqOf k files.flatten)).filter (fun p => p.1 == t)).map (·.2) := by
  unfold outAt outBlocks
  generalize files.flatten = seq
  induction seq with
  | nil => rfl
  | cons e seq ih =>
    obtain ⟨k', b⟩ := e
    simp only [List.flatMap_cons, ih]
    by_cases hk : k' = k
    · subst hk
      simp [seqOf]
    · have : (k' == k) = false := by simp [hk]
      simp [seqOf, hk, this]

theorem keysSorted_of {seq : List (Key × OBlk Int)} (h : KeysSorted seq) : keysSorted seq = true := by
  induction seq with
  | nil => rfl
  | cons a seq ih =>
    cases seq with
    | nil => rfl
    | cons b rest =>
      have hp := List.pairwise_cons.mp h
      simp only [keysSorted, Bool.and_eq_true, Bool.not_eq_true']
      exact ⟨hp.1 b (by simp), ih hp.2⟩

theorem seqOf_cons_same (k : Key) (b : OBlk Int) (seq : List (Key × OBlk Int)) :
    seqOf k ((k, b) :: seq) = b :: seqOf k seq := by simp [seqOf]

theorem seqOf_cons_other {k k' : Key} (h : k' ≠ k) (b : OBlk Int) (seq : List (Key × OBlk Int)) :
    seqOf k ((k', b) :: seq) = seqOf k seq := by simp [seqOf, h]

theorem noOverlap_of : ∀ (seq : List (Key × OBlk Int)),
    (∀ k, Asc (outPts (seqOf k seq))) → (∀ e ∈ seq, OBlkOK e.2) → noOverlap seq = true
  | [], _, _ => rfl
  | [_], _, _ => rfl
  | a :: b :: rest, hasc, hok => by
    have htail : ∀ k, Asc (outPts (seqOf k (b :: rest))) := by
      intro k
      have := hasc k
      obtain ⟨ka, ba⟩ := a
      by_cases hk : ka = k
      · subst hk
        rw [seqOf_cons_same, outPts_cons] at this
        exact (asc_append.mp this).2.1
      · rw [seqOf_cons_other hk] at this; exact this
    have ih := noOverlap_of (b :: rest) htail (fun e he => hok e (List.mem_cons_of_mem _ he))
    simp only [noOverlap, Bool.and_eq_true, Bool.or_eq_true, bne_iff_ne, ne_eq, decide_eq_true_eq]
    refine ⟨?_, ih⟩
    by_cases hk : a.1 = b.1
    · right
      obtain ⟨ka, ba⟩ := a
      obtain ⟨kb, bb⟩ := b
      simp only at hk
      subst hk
      have := hasc ka
      rw [seqOf_cons_same, seqOf_cons_same, outPts_cons, outPts_cons] at this
      obtain ⟨_, za, _, hza, _, hmax⟩ := hok (ka, ba) (by simp)
      obtain ⟨ab, _, hab, _, hmin, _⟩ := hok (ka, bb) (by simp)
      have h1 := (asc_append.mp this).2.2 za (List.mem_of_getLast? hza) ab
        (List.mem_append_left _ (List.mem_of_head? hab))
      simp only at hmax hmin ⊢
      rw [hmax, hmin]
      exact h1
    · left; exact hk

theorem blockOK_of {o : OBlk Int} (h : OBlkOK o) (hasc : Asc o.pts) : blockOK o = true := by
  obtain ⟨a, z, ha, hz, hmin, hmax⟩ := h
  simp [blockOK, ha, hz, hmin, hmax, (strictAscT_iff o.pts).mpr hasc]

theorem mem_seqOf {k : Key} {b : OBlk Int} {seq : List (Key × OBlk Int)} (h : (k, b) ∈ seq) :
    b ∈ seqOf k seq := by
  simp only [seqOf, List.mem_map, List.mem_filter, decide_eq_true_eq]
  exact ⟨(k, b), ⟨h, rfl⟩, rfl⟩

theorem asc_of_mem_outPts {outs : List (OBlk Int)} (h : Asc (outPts outs)) {o : OBlk Int} (ho : o ∈ outs) :
    Asc o.pts := by
  induction outs with
  | nil => simp at ho
  | cons x xs ih =>
    rw [outPts_cons] at h
    have := asc_append.mp h
    rcases List.mem_cons.mp ho with rfl | ho2
    · exact this.1
    · exact ih this.2.1 ho2

theorem judge_none (ops : List Op) (cache : Bool) (size : Nat) (files : List OutFile)
    (hne : ∀ f ∈ files, f ≠ [])
    (hS : KeysSorted files.flatten) (orig : Key → List (Block Int)) (tgt : Key → Int → Option Int)
    (hK : ∀ k, KeyTail size (orig k) (tgt k) [] (seqOf k files.flatten))
    (hE : ∀ k t, tgt k t = (if cache then cacheAt ops else expectedAt ops) k t)
    (hSz : ∀ k, ∀ b0 ∈ orig k, b0.pts.length ≤ size) :
    judge ops cache size files = none := by
  have hasc : ∀ k, Asc (outPts (seqOf k files.flatten)) := fun k => by simpa using (hK k).asc
  have hfact : ∀ e ∈ files.flatten, BlockFact size (orig e.1) e.2 := by
    intro e he
    exact (hK e.1).blocks e.2 (mem_seqOf (by cases e; exact he))
  have hok : ∀ e ∈ files.flatten, OBlkOK e.2 := fun e he => (hfact e he).1
  have hascb : ∀ e ∈ files.flatten, Asc e.2.pts := by
    intro e he
    exact asc_of_mem_outPts (hasc e.1) (mem_seqOf (by cases e; exact he))
  unfold judge
  simp only [outBlocks]
  have c1' : (files.flatten.all fun (x : Key × OBlk Int) => match x with | (_, b) => blockOK b) = true := by
    rw [List.all_eq_true]
    intro e he
    obtain ⟨k, b⟩ := e
    exact blockOK_of (hok _ he) (hascb _ he)
  have c2 : (files.any fun f => f.isEmpty) = false := by
    rw [List.any_eq_false]
    intro f hf
    have := hne f hf
    cases f with
    | nil => exact absurd rfl this
    | cons a as => simp
  have c3 := keysSorted_of hS
  have c4 := noOverlap_of files.flatten hasc hok
  have c5 : ∀ dom, contentOK (if cache = true then cacheAt ops else expectedAt ops) files dom = true := by
    intro dom
    unfold contentOK
    rw [List.all_eq_true]
    rintro ⟨k, t⟩ _
    simp only [beq_iff_eq]
    rw [outAt_eq, filter_time_asc (hasc k)]
    have := (hK k).content t
    simp only [List.nil_append] at this
    rw [← this, hE k t]
  have c6 : sizeCheck ops size files = SizeVerdict.ok := by
    unfold sizeCheck
    simp only [outBlocks]
    have : (files.flatten.filter fun (x : Key × OBlk Int) => match x with | (_, b) => decide (b.pts.length > size)) = [] := by
      apply List.filter_eq_nil_iff.mpr
      intro e he
      obtain ⟨k, b⟩ := e
      simp only [decide_eq_true_eq, Nat.not_lt]
      rcases (hfact _ he).2 with h1 | ⟨b0, hb0, rfl⟩
      · exact h1.2
      · exact hSz k b0 hb0
    simp [this]
  simp only [c1', c2, c3, c4, c5, c6, Bool.not_true, Bool.false_eq_true, if_false]

theorem judge_split (ops : List Op) (cache : Bool) (size : Nat) (seq : List (Key × OBlk Int))
    (hS : KeysSorted seq) (orig : Key → List (Block Int)) (tgt : Key → Int → Option Int)
    (hK : ∀ k, KeyTail size (orig k) (tgt k) [] (seqOf k seq))
    (hE : ∀ k t, tgt k t = (if cache then cacheAt ops else expectedAt ops) k t)
    (hSz : ∀ k, ∀ b0 ∈ orig k, b0.pts.length ≤ size) :
    judge ops cache size (splitFiles limits (fun _ => 0) (seqLen seq) seq) = none := by
  obtain ⟨sf1, sf2⟩ := splitFiles_spec limits (fun _ => 0) (seqLen seq) seq (Nat.lt_succ_self _)
  exact judge_none ops cache size _ sf2 (sf1.symm ▸ hS) orig tgt (fun k => sf1.symm ▸ hK k) hE hSz

end Influx.Model.Compact
