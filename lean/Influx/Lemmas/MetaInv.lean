/-
  Lemmas.MetaInv — the well-formedness invariant of the meta data and the lookup/update
  lemmas (`getRP`, `setRP`) it is carried through.
-/
import Influx.Lemmas.MetaWriter

namespace Influx.Meta
open Influx.Generated.Meta

/-- a shard group as `CreateShardGroup` makes them: non-empty, inside the int64 nanosecond
    range, not truncated, deleted at a wall-clock time (never the zero time or the epoch) -/
structure WFGroup (g : ShardGroupInfo) : Prop where
  lo : MinNanoTime ≤ g.StartTime
  ne : g.StartTime < g.EndTime
  hi : g.EndTime ≤ MaxNanoTime + 1
  tr : g.TruncatedAt = zeroTime
  del : g.DeletedAt = zeroTime ∨ (0 < g.DeletedAt ∧ g.DeletedAt ≤ MaxNanoTime)

def Disj (a b : ShardGroupInfo) : Prop :=
  a.DeletedAt ≠ zeroTime ∨ b.DeletedAt ≠ zeroTime ∨ a.EndTime ≤ b.StartTime ∨ b.EndTime ≤ a.StartTime

theorem Disj.symm {a b : ShardGroupInfo} (h : Disj a b) : Disj b a := by
  unfold Disj at *; omega

structure WFRP (r : RetentionPolicyInfo) : Prop where
  sgd : 0 < r.ShardGroupDuration
  groups : ∀ g ∈ r.ShardGroups, WFGroup g
  disj : r.ShardGroups.Pairwise Disj

structure WFDB (di : DatabaseInfo) : Prop where
  rps : ∀ r ∈ di.RetentionPolicies, WFRP r
  names : (di.RetentionPolicies.map (·.Name)).Nodup

structure WF (d : Data) : Prop where
  dbs : ∀ di ∈ d.Databases, WFDB di
  names : (d.Databases.map (·.Name)).Nodup

/-- `x` is `y` with possibly other shards / deletion mark, still well-formed; a deleted `y` stays deleted -/
structure Sub (x y : ShardGroupInfo) : Prop where
  st : x.StartTime = y.StartTime
  en : x.EndTime = y.EndTime
  del : y.DeletedAt ≠ zeroTime → x.DeletedAt ≠ zeroTime
  wf : WFGroup x

theorem Sub.of_fields {x g : ShardGroupInfo} (h : WFGroup g) (hs : x.StartTime = g.StartTime)
    (he : x.EndTime = g.EndTime) (htr : x.TruncatedAt = g.TruncatedAt)
    (hd : x.DeletedAt = g.DeletedAt ∨ (0 < x.DeletedAt ∧ x.DeletedAt ≤ MaxNanoTime)) : Sub x g := by
  refine ⟨hs, he, fun hg => ?_, ⟨hs ▸ h.lo, hs ▸ he ▸ h.ne, he ▸ h.hi, htr ▸ h.tr, ?_⟩⟩
  · rcases hd with hd | hd
    · exact hd ▸ hg
    · unfold zeroTime; omega
  · rcases hd with hd | hd
    · exact hd ▸ h.del
    · exact Or.inr hd

theorem Sub.refl {g : ShardGroupInfo} (h : WFGroup g) : Sub g g := .of_fields h rfl rfl rfl (.inl rfl)

/-! Every update of the meta data replaces elements in place (a group in its policy, a policy in its
database, a database in the data); what the invariant needs of the new list follows from a
relation between new and old element at each position. -/

inductive Rel₂ {α : Type} (R : α → α → Prop) : List α → List α → Prop where
  | nil : Rel₂ R [] []
  | cons {x y : α} {xs ys : List α} : R x y → Rel₂ R xs ys → Rel₂ R (x :: xs) (y :: ys)

section
variable {α β : Type} {R : α → α → Prop}

theorem Rel₂.map_left {f : α → α} {l : List α} (h : ∀ x ∈ l, R (f x) x) : Rel₂ R (l.map f) l := by
  induction l with
  | nil => exact .nil
  | cons y ys ih => exact .cons (h y (List.mem_cons_self ..)) (ih fun x hx => h x (List.mem_cons_of_mem _ hx))

theorem Rel₂.refl {l : List α} (h : ∀ x ∈ l, R x x) : Rel₂ R l l := by
  simpa using Rel₂.map_left (f := id) h

theorem Rel₂.mem {xs ys : List α} (h : Rel₂ R xs ys) {x : α} (hx : x ∈ xs) : ∃ y ∈ ys, R x y := by
  induction h with
  | nil => cases hx
  | cons hxy _ ih =>
    rcases List.mem_cons.mp hx with rfl | hx
    · exact ⟨_, List.mem_cons_self .., hxy⟩
    · obtain ⟨y, hy, hr⟩ := ih hx
      exact ⟨y, List.mem_cons_of_mem _ hy, hr⟩

theorem Rel₂.map_eq {f : α → β} (hR : ∀ x y, R x y → f x = f y) {xs ys : List α} (h : Rel₂ R xs ys) :
    xs.map f = ys.map f := by
  induction h with
  | nil => rfl
  | cons hxy _ ih => rw [List.map_cons, List.map_cons, hR _ _ hxy, ih]

theorem Rel₂.pairwise {S : α → α → Prop} (hS : ∀ {x₁ y₁ x₂ y₂}, R x₁ y₁ → R x₂ y₂ → S y₁ y₂ → S x₁ x₂)
    {xs ys : List α} (h : Rel₂ R xs ys) (hp : ys.Pairwise S) : xs.Pairwise S := by
  induction h with
  | nil => exact .nil
  | cons hxy hrest ih =>
    rw [List.pairwise_cons] at hp ⊢
    exact ⟨fun x' hx' => let ⟨y', hy', hr⟩ := hrest.mem hx'; hS hxy hr (hp.1 y' hy'), ih hp.2⟩

def Keeps (name : α → String) (P : α → Prop) (x' x : α) : Prop := name x' = name x ∧ (P x → P x')

theorem Keeps.rfl {name : α → String} {P : α → Prop} {x : α} : Keeps name P x x := ⟨.refl _, id⟩

theorem Rel₂.keeps {name : α → String} {P : α → Prop} {l' l : List α} (h : Rel₂ (Keeps name P) l' l)
    (hl : ∀ x ∈ l, P x) : (∀ x' ∈ l', P x') ∧ l'.map name = l.map name :=
  ⟨fun _ hx' => let ⟨x, hx, hr⟩ := h.mem hx'; hr.2 (hl x hx), h.map_eq fun _ _ hr => hr.1⟩

/-- `f` applied to the first element satisfying `p`: the shape of `setRP` and `DeleteShardGroup` -/
def replaceFirst (p : α → Bool) (f : α → α) : List α → List α
  | [] => []
  | x :: xs => if p x then f x :: xs else x :: replaceFirst p f xs

theorem replaceFirst_rel {p : α → Bool} {f : α → α} {l : List α} (hrefl : ∀ y ∈ l, R y y)
    (hf : ∀ y ∈ l, p y = true → R (f y) y) : Rel₂ R (replaceFirst p f l) l := by
  induction l with
  | nil => exact .nil
  | cons y ys ih =>
    have hys := Rel₂.refl fun x hx => hrefl x (List.mem_cons_of_mem _ hx)
    unfold replaceFirst
    split
    · exact .cons (hf y (List.mem_cons_self ..) ‹_›) hys
    · exact .cons (hrefl y (List.mem_cons_self ..))
        (ih (fun x hx => hrefl x (List.mem_cons_of_mem _ hx)) fun x hx => hf x (List.mem_cons_of_mem _ hx))

theorem find?_replaceFirst {name : α → String} {n : String} {f : α → α} (hf : ∀ x, name x = n → name (f x) = n)
    (m : String) (l : List α) :
    (replaceFirst (name · == n) f l).find? (name · == m) =
      (l.find? (name · == m)).map fun x => if name x == n then f x else x := by
  induction l with
  | nil => rfl
  | cons y ys ih =>
    unfold replaceFirst
    by_cases hy : name y = n
    · rw [if_pos (beq_iff_eq.mpr hy), List.find?_cons, List.find?_cons, hf y hy, hy]
      by_cases hm : n = m
      · simp [hm, ← hy.trans hm]
      · -- a later element named `m` is not named `n`
        rw [beq_false_of_ne hm]
        cases hfind : ys.find? (name · == m) with
        | none => rfl
        | some x =>
          have hx : name x = m := by simpa using List.find?_some hfind
          simp [hx, Ne.symm hm]
    · rw [if_neg (by simpa using hy), List.find?_cons, List.find?_cons, ih]
      split
      · simp [hy]
      · rfl
end

theorem find_name_of_mem {α : Type} (name : α → String) (l : List α) (x : α)
    (hn : (l.map name).Nodup) (hx : x ∈ l) : l.find? (fun y => name y == name x) = some x := by
  induction l with
  | nil => simp at hx
  | cons y ys ih =>
    simp only [List.map_cons, List.nodup_cons] at hn
    rcases List.mem_cons.mp hx with rfl | hx
    · simp
    · have hne : name y ≠ name x := by
        intro h; apply hn.1; rw [h]; exact List.mem_map_of_mem hx
      rw [List.find?_cons_of_neg (by simpa using hne)]
      exact ih hn.2 hx

theorem findDB_of_mem {d : Data} (hn : (d.Databases.map (·.Name)).Nodup) {di : DatabaseInfo}
    (h : di ∈ d.Databases) : findDB d di.Name = some di :=
  find_name_of_mem DatabaseInfo.Name d.Databases di hn h

theorem findRP_of_mem {di : DatabaseInfo} (hn : (di.RetentionPolicies.map (·.Name)).Nodup)
    {r : RetentionPolicyInfo} (h : r ∈ di.RetentionPolicies) : di.findRP r.Name = some r :=
  find_name_of_mem RetentionPolicyInfo.Name di.RetentionPolicies r hn h

theorem getRP_of_mem {d : Data} (hwf : WF d) {di : DatabaseInfo} {r : RetentionPolicyInfo}
    (hdi : di ∈ d.Databases) (hr : r ∈ di.RetentionPolicies) : getRP d di.Name r.Name = .ok r := by
  simp [getRP, retentionPolicy, findDB_of_mem hwf.names hdi, findRP_of_mem (hwf.dbs di hdi).names hr]

theorem getRP_ok {d : Data} {db rp : String} {r : RetentionPolicyInfo} (h : getRP d db rp = .ok r) :
    ∃ di ∈ d.Databases, di.Name = db ∧ r ∈ di.RetentionPolicies ∧ r.Name = rp := by
  unfold getRP retentionPolicy at h
  cases hdb : findDB d db with
  | none => simp [hdb] at h
  | some di =>
    simp only [hdb] at h
    cases hrp : di.findRP rp with
    | none => simp [hrp] at h
    | some r' =>
      simp only [hrp, Except.ok.injEq] at h
      subst h
      unfold findDB at hdb
      unfold DatabaseInfo.findRP at hrp
      refine ⟨di, List.mem_of_find?_eq_some hdb, by simpa using List.find?_some hdb,
        List.mem_of_find?_eq_some hrp, by simpa using List.find?_some hrp⟩

theorem getRP_wf {d : Data} (hwf : WF d) {db rp : String} {r : RetentionPolicyInfo}
    (h : getRP d db rp = .ok r) : WFRP r := by
  obtain ⟨di, hdi, _, hr, _⟩ := getRP_ok h
  exact (hwf.dbs di hdi).rps r hr

theorem getRP_name {d : Data} {db rp : String} {r : RetentionPolicyInfo} (h : getRP d db rp = .ok r) : r.Name = rp :=
  let ⟨_, _, _, _, hn⟩ := getRP_ok h; hn

theorem Disj.sub {x₁ y₁ x₂ y₂ : ShardGroupInfo} (h₁ : Sub x₁ y₁) (h₂ : Sub x₂ y₂) (h : Disj y₁ y₂) : Disj x₁ x₂ := by
  unfold Disj at *
  rw [h₁.st, h₁.en, h₂.st, h₂.en]
  exact h.imp h₁.del (.imp_left h₂.del)

theorem WFRP.of_rel {r : RetentionPolicyInfo} (hr : WFRP r) {gs : List ShardGroupInfo}
    (h : Rel₂ Sub gs r.ShardGroups) : WFRP { r with ShardGroups := gs } :=
  ⟨hr.sgd, fun _ hg => let ⟨_, _, hs⟩ := h.mem hg; hs.wf, h.pairwise (S := Disj) Disj.sub hr.disj⟩

theorem WFDB.of_rel {di : DatabaseInfo} (h : WFDB di) {rs : List RetentionPolicyInfo}
    (hrel : Rel₂ (Keeps (·.Name) WFRP) rs di.RetentionPolicies) : WFDB { di with RetentionPolicies := rs } :=
  let ⟨h1, h2⟩ := hrel.keeps h.rps; ⟨h1, h2 ▸ h.names⟩

theorem WF.of_rel {d : Data} (h : WF d) {dbs : List DatabaseInfo}
    (hrel : Rel₂ (Keeps (·.Name) WFDB) dbs d.Databases) : WF { d with Databases := dbs } :=
  let ⟨h1, h2⟩ := hrel.keeps h.dbs; ⟨h1, h2 ▸ h.names⟩

theorem goRP_eq (rp : String) (r' : RetentionPolicyInfo) :
    setRP.goRP rp r' = replaceFirst (·.Name == rp) fun _ => r' := by
  funext l
  induction l with
  | nil => rfl
  | cons x xs ih => simp only [setRP.goRP, replaceFirst, ih]

theorem setRP_eq (d : Data) (db rp : String) (r' : RetentionPolicyInfo) :
    setRP d db rp r' = { d with
      Databases := replaceFirst (·.Name == db)
        (fun x => { x with RetentionPolicies := replaceFirst (·.Name == rp) (fun _ => r') x.RetentionPolicies })
        d.Databases } := by
  unfold setRP
  congr 1
  induction d.Databases with
  | nil => rfl
  | cons x xs ih => simp only [setRP.goDB, replaceFirst, ih, goRP_eq]

theorem WF_setRP {d : Data} (hwf : WF d) {db rp : String} {r r' : RetentionPolicyInfo} (hget : getRP d db rp = .ok r)
    (hn : r'.Name = r.Name) (hr : WFRP r → WFRP r') : WF (setRP d db rp r') := by
  rw [setRP_eq]
  refine hwf.of_rel (replaceFirst_rel (fun _ _ => Keeps.rfl) fun di _ _ => ⟨rfl, fun hdi => hdi.of_rel ?_⟩)
  exact replaceFirst_rel (fun _ _ => Keeps.rfl) fun x _ hx =>
    ⟨(hn.trans (getRP_name hget)).trans (beq_iff_eq.mp hx).symm, fun _ => hr (getRP_wf hwf hget)⟩

theorem getRP_setRP {d : Data} {db rp : String} {r' : RetentionPolicyInfo} (hn : r'.Name = rp) (db2 rp2 : String) :
    getRP (setRP d db rp r') db2 rp2 = (getRP d db2 rp2).map fun r => if db2 = db ∧ rp2 = rp then r' else r := by
  simp only [getRP, retentionPolicy, findDB, setRP_eq]
  rw [find?_replaceFirst (name := DatabaseInfo.Name) ?same]
  case same => exact fun _ => id
  cases hdb : d.Databases.find? (·.Name == db2) with
  | none => rfl
  | some di =>
    have hdi : di.Name = db2 := by simpa using List.find?_some hdb
    by_cases hd : db2 = db
    · simp only [Option.map_some, hdi, hd, beq_self_eq_true, ↓reduceIte, true_and, DatabaseInfo.findRP]
      rw [find?_replaceFirst (fun _ _ => hn)]
      cases hrp : di.RetentionPolicies.find? (·.Name == rp2) with
      | none => rfl
      | some r =>
        have hr : r.Name = rp2 := by simpa using List.find?_some hrp
        simp [Except.map, hr]
    · simp only [Option.map_some, hdi, beq_false_of_ne hd, Bool.false_eq_true, ↓reduceIte, hd, false_and]
      cases di.findRP rp2 <;> rfl

theorem getRP_setRP_same {d : Data} {db rp : String} {r r' : RetentionPolicyInfo}
    (h : getRP d db rp = .ok r) (hn : r'.Name = r.Name) : getRP (setRP d db rp r') db rp = .ok r' := by
  simp [getRP_setRP (hn.trans (getRP_name h)), h, Except.map]

theorem getRP_setRP_other {d : Data} {db rp db2 rp2 : String} {r' : RetentionPolicyInfo}
    (hn : r'.Name = rp) (hne : ¬(db2 = db ∧ rp2 = rp)) :
    getRP (setRP d db rp r') db2 rp2 = getRP d db2 rp2 := by
  simp only [getRP_setRP hn, if_neg hne]
  cases getRP d db2 rp2 <;> rfl

end Influx.Meta
