/-
  Lemmas for the series-key round trip: `bytes.Compare` is a strict total order; text in which
  every delimiter follows a backslash (`NoBare`, `Guarded`) is what the key scanners run through,
  so they stop exactly at the delimiters written by `MakeKey` when no component ends in a
  backslash, and `walkTags` reads the tags back.
-/
import Influx.Lemmas.LineProtocolEscape
import Influx.Model.LineProtocolParse
import Influx.Spec.C11

namespace Influx.LP

section
open Influx.Spec.C11

theorem cmpBytes_cons_lt {x y : Nat} (xs ys : Bytes) (h : x < y) : cmpBytes (x :: xs) (y :: ys) = .lt :=
  if_pos h

theorem cmpBytes_cons_gt {x y : Nat} (xs ys : Bytes) (h : y < x) : cmpBytes (x :: xs) (y :: ys) = .gt := by
  rw [cmpBytes, if_neg (Nat.lt_asymm h), if_pos h]

theorem cmpBytes_cons_self (x : Nat) (xs ys : Bytes) : cmpBytes (x :: xs) (x :: ys) = cmpBytes xs ys := by
  rw [cmpBytes, if_neg (Nat.lt_irrefl x), if_neg (Nat.lt_irrefl x)]

theorem cmpBytes_eq_iff (a b : Bytes) : cmpBytes a b = .eq ↔ a = b := by
  induction a generalizing b with
  | nil => cases b <;> simp [cmpBytes]
  | cons x xs ih =>
    cases b with
    | nil => simp [cmpBytes]
    | cons y ys =>
      rcases Nat.lt_trichotomy x y with h | rfl | h
      · rw [cmpBytes_cons_lt xs ys h]
        exact ⟨nofun, fun e => absurd (List.cons.inj e).1 (Nat.ne_of_lt h)⟩
      · rw [cmpBytes_cons_self, ih, List.cons.injEq, eq_self, true_and]
      · rw [cmpBytes_cons_gt xs ys h]
        exact ⟨nofun, fun e => absurd (List.cons.inj e).1.symm (Nat.ne_of_lt h)⟩

theorem cmpBytes_refl (a : Bytes) : cmpBytes a a = .eq := (cmpBytes_eq_iff a a).mpr rfl

theorem cmpBytes_gt_iff_lt (a b : Bytes) : cmpBytes a b = .gt ↔ cmpBytes b a = .lt := by
  induction a generalizing b with
  | nil => cases b <;> simp [cmpBytes]
  | cons x xs ih =>
    cases b with
    | nil => simp [cmpBytes]
    | cons y ys =>
      rcases Nat.lt_trichotomy x y with h | rfl | h
      · rw [cmpBytes_cons_lt xs ys h, cmpBytes_cons_gt ys xs h]; exact ⟨nofun, nofun⟩
      · rw [cmpBytes_cons_self, cmpBytes_cons_self]; exact ih ys
      · rw [cmpBytes_cons_gt xs ys h, cmpBytes_cons_lt ys xs h]; exact ⟨fun _ => rfl, fun _ => rfl⟩

theorem cmpBytes_lt_trans (a b c : Bytes) (h1 : cmpBytes a b = .lt) (h2 : cmpBytes b c = .lt) :
    cmpBytes a c = .lt := by
  induction a generalizing b c with
  | nil =>
    cases c with
    | nil => cases b <;> simp [cmpBytes] at h1 h2
    | cons z zs => rfl
  | cons x xs ih =>
    cases b with
    | nil => cases h1
    | cons y ys =>
      cases c with
      | nil => cases h2
      | cons z zs =>
        rcases Nat.lt_trichotomy x y with hxy | rfl | hxy
        · rcases Nat.lt_trichotomy y z with hyz | rfl | hyz
          · exact cmpBytes_cons_lt xs zs (Nat.lt_trans hxy hyz)
          · exact cmpBytes_cons_lt xs zs hxy
          · rw [cmpBytes_cons_gt ys zs hyz] at h2; cases h2
        · rcases Nat.lt_trichotomy x z with hyz | rfl | hyz
          · exact cmpBytes_cons_lt xs zs hyz
          · rw [cmpBytes_cons_self] at h1 h2 ⊢; exact ih _ _ h1 h2
          · rw [cmpBytes_cons_gt ys zs hyz] at h2; cases h2
        · rw [cmpBytes_cons_gt xs ys hxy] at h1; cases h1

theorem bytesLe_iff (a b : Bytes) : bytesLe a b = true ↔ cmpBytes a b ≠ .gt := by
  induction a generalizing b with
  | nil => cases b <;> simp [bytesLe, cmpBytes]
  | cons x xs ih =>
    cases b with
    | nil => simp [bytesLe, cmpBytes]
    | cons y ys =>
      rw [bytesLe, Bool.or_eq_true, Bool.and_eq_true, decide_eq_true_eq, beq_iff_eq]
      rcases Nat.lt_trichotomy x y with h | rfl | h
      · rw [cmpBytes_cons_lt xs ys h]; exact ⟨fun _ => nofun, fun _ => .inl h⟩
      · rw [cmpBytes_cons_self, ← ih]
        exact ⟨fun h => h.elim (fun h => absurd h (Nat.lt_irrefl x)) (·.2), fun h => .inr ⟨rfl, h⟩⟩
      · rw [cmpBytes_cons_gt xs ys h]
        exact ⟨fun h' => h'.elim (fun h' => absurd h (Nat.lt_asymm h')) fun h' => absurd h'.1 (Nat.ne_of_gt h),
          fun h' => absurd rfl h'⟩

theorem cmpBytes_lt_of_ne (a b : Bytes) (h : cmpBytes a b ≠ .gt) (hne : a ≠ b) : cmpBytes a b = .lt := by
  cases hc : cmpBytes a b with
  | lt => rfl
  | eq => exact absurd ((cmpBytes_eq_iff a b).mp hc) hne
  | gt => exact absurd hc h

theorem cmpBytes_lt_of_le_ne (a b : Bytes) (h : bytesLe a b = true) (hne : a ≠ b) : cmpBytes a b = .lt :=
  cmpBytes_lt_of_ne a b ((bytesLe_iff a b).mp h) hne

end

theorem pairwise_lt_cons (a b : Bytes) (r : List Bytes) (hab : cmpBytes a b = .lt)
    (ht : (b :: r).Pairwise fun x y => cmpBytes x y = .lt) :
    (a :: b :: r).Pairwise fun x y => cmpBytes x y = .lt :=
  List.pairwise_cons.mpr ⟨fun w hw => by
    rcases List.mem_cons.mp hw with rfl | hw
    · exact hab
    · exact cmpBytes_lt_trans _ _ _ hab ((List.pairwise_cons.mp ht).1 w hw), ht⟩

theorem mem_insertLeft (lt : α → α → Bool) (x w : α) (l : List α) :
    w ∈ insertLeft lt x l ↔ w = x ∨ w ∈ l := by
  induction l with
  | nil => simp [insertLeft]
  | cons y ys ih =>
    simp only [insertLeft]
    split
    · simp only [List.mem_cons, ih]
      constructor
      · rintro (h | h | h) <;> simp [h]
      · rintro (h | h | h) <;> simp [h]
    · simp

/-- inserting keeps `R` pairwise when `x` stops where `R` wants it: it has passed only elements
    that go before it, stands before the first one it did not pass, and `R` is transitive from `x` on -/
theorem pairwise_insertLeft {R : α → α → Prop} (lt : α → α → Bool) (x : α) (l : List α)
    (hgt : ∀ y ∈ l, lt x y = true → R y x) (hle : ∀ y ∈ l, lt x y = false → R x y)
    (htr : ∀ y w, R x y → R y w → R x w) (h : l.Pairwise R) : (insertLeft lt x l).Pairwise R := by
  induction l with
  | nil => exact List.pairwise_singleton R x
  | cons y ys ih =>
    have hp := List.pairwise_cons.mp h
    rw [insertLeft]
    by_cases hlt : lt x y = true
    · rw [if_pos hlt]
      refine List.pairwise_cons.mpr ⟨fun w hw => ?_,
        ih (fun z hz => hgt z (.tail _ hz)) (fun z hz => hle z (.tail _ hz)) hp.2⟩
      rcases (mem_insertLeft lt x w ys).mp hw with rfl | hw
      · exact hgt y (.head _) hlt
      · exact hp.1 w hw
    · rw [if_neg hlt]
      have hxy := hle y (.head _) (eq_false_of_ne_true hlt)
      refine List.pairwise_cons.mpr ⟨fun w hw => ?_, h⟩
      rcases List.mem_cons.mp hw with rfl | hw
      · exact hxy
      · exact htr y w hxy (hp.1 w hw)

/-- is the byte just before the position after `s` a backslash (`pbs`: the one before `s`) -/
def lastIsBS : Bool → Bytes → Bool
  | pbs, [] => pbs
  | _, b :: r => lastIsBS (b == cBS) r

/-- a component that may sit in front of a delimiter -/
def noTB (s : Bytes) : Prop := s.getLast? ≠ some cBS

theorem lastIsBS_of_noTB (s : Bytes) (h : noTB s) (pbs : Bool) (h0 : s = [] → pbs = false) :
    lastIsBS pbs s = false := by
  induction s generalizing pbs with
  | nil => exact h0 rfl
  | cons b r ih =>
    refine ih ?_ _ ?_
    · cases r with
      | nil => simp [noTB]
      | cons c r' => exact fun e => h (by rw [List.getLast?_cons_cons]; exact e)
    · rintro rfl; simpa [noTB] using h

def NoBare (D : Nat → Bool) : Bool → Bytes → Prop
  | _, [] => True
  | pbs, b :: r => (D b = true → pbs = true) ∧ NoBare D (b == cBS) r

theorem NoBare_mono (D D' : Nat → Bool) (h : ∀ b, D' b = true → D b = true) (pbs : Bool) (s : Bytes)
    (hs : NoBare D pbs s) : NoBare D' pbs s := by
  induction s generalizing pbs with
  | nil => trivial
  | cons b r ih => exact ⟨fun hb => hs.1 (h b hb), ih _ hs.2⟩

theorem NoBare_false_cons (D : Nat → Bool) (a : Nat) (r : Bytes) (h : NoBare D false (a :: r)) : D a = false := by
  cases hd : D a with
  | false => rfl
  | true => exact nomatch h.1 hd

theorem lastIsBS_append (pbs : Bool) (a b : Bytes) : lastIsBS pbs (a ++ b) = lastIsBS (lastIsBS pbs a) b := by
  induction a generalizing pbs with
  | nil => rfl
  | cons x xs ih => exact ih _

theorem NoBare_append (D : Nat → Bool) (pbs : Bool) (a b : Bytes) (ha : NoBare D pbs a)
    (hb : NoBare D (lastIsBS pbs a) b) : NoBare D pbs (a ++ b) := by
  induction a generalizing pbs with
  | nil => exact hb
  | cons x xs ih => exact ⟨ha.1, ih _ ha.2 hb⟩

/-- Every byte of `D` in `w` stands right after a backslash and `w` does not end in a backslash
    (`pbs`: a backslash stands right before `w`).  The key scanners stop at a byte of their
    delimiter set that does not follow a backslash: they run through guarded text and see the byte
    after it as unescaped; and a component they return in front of a delimiter is guarded. -/
structure Guarded (D : Nat → Bool) (pbs : Bool) (w : Bytes) : Prop where
  nb : NoBare D pbs w
  tb : lastIsBS pbs w = false

theorem Guarded.tail {D : Nat → Bool} {pbs : Bool} {b : Nat} {r : Bytes} (h : Guarded D pbs (b :: r)) :
    Guarded D (b == cBS) r := ⟨h.nb.2, h.tb⟩

theorem Guarded.nil_prev {D : Nat → Bool} {prev : Nat} (h : Guarded D (prev == cBS) []) : prev ≠ cBS :=
  fun e => nomatch (beq_iff_eq.mpr e).symm.trans h.tb

theorem Guarded.prev {D : Nat → Bool} {prev b : Nat} {r : Bytes} (h : Guarded D (prev == cBS) (b :: r))
    {c : Nat} (hc : D c = true) (hb : b = c) : prev = cBS := by
  simpa using h.nb.1 (hb ▸ hc)

theorem Guarded.mono {D D' : Nat → Bool} (h : ∀ b, D' b = true → D b = true) {pbs : Bool} {s : Bytes}
    (hs : Guarded D pbs s) : Guarded D' pbs s := ⟨NoBare_mono D D' h pbs s hs.nb, hs.tb⟩

theorem guarded_escBy (S D : Nat → Bool) (hD : ∀ b, D b = true → S b = true) (hbs : S cBS = false)
    (s : Bytes) (h : noTB s) : Guarded D false (escBy S s) := by
  have gen : ∀ pbs, lastIsBS pbs s = false → Guarded D pbs (escBy S s) := by
    induction s with
    | nil => exact fun _ hl => ⟨trivial, hl⟩
    | cons b r ih =>
      intro pbs hl
      have hr := ih (fun e => h (by cases r <;> simp_all [noTB])) _ hl
      rw [escBy_cons]
      by_cases hb : S b = true
      · rw [if_pos hb]
        exact ⟨⟨fun hc => absurd (hD _ hc) (by simp [hbs]), fun _ => rfl, hr.nb⟩, hr.tb⟩
      · rw [if_neg hb]
        exact ⟨⟨fun hc => absurd (hD _ hc) hb, hr.nb⟩, hr.tb⟩
  exact gen false (lastIsBS_of_noTB s h false fun _ => rfl)

theorem scanTo_eq_iff (stop : Nat) (pbs : Bool) (buf s r : Bytes) :
    scanTo stop pbs buf = (s, r) ↔
      buf = s ++ r ∧ NoBare (· == stop) pbs s ∧ ∀ d r', r = d :: r' → d = stop ∧ lastIsBS pbs s = false := by
  constructor
  · intro h
    induction buf generalizing pbs s r with
    | nil => cases h; exact ⟨rfl, trivial, nofun⟩
    | cons b rest ih =>
      rw [scanTo] at h
      split at h
      · next hc => cases h; exact ⟨rfl, trivial, fun d r' e => by cases e; exact hc⟩
      · next hc =>
        cases h
        obtain ⟨h1, h2, h3⟩ := ih (b == cBS) _ _ rfl
        refine ⟨congrArg (List.cons b) h1, ⟨fun hb => ?_, h2⟩, h3⟩
        cases pbs with
        | true => rfl
        | false => exact absurd ⟨eq_of_beq hb, rfl⟩ hc
  · rintro ⟨rfl, hs, hr⟩
    induction s generalizing pbs with
    | nil =>
      cases r with
      | nil => rfl
      | cons d r' => exact if_pos (hr d r' rfl)
    | cons b s' ih =>
      have hc : ¬ (b = stop ∧ pbs = false) := fun ⟨h1, h2⟩ => by
        rw [hs.1 (beq_iff_eq.mpr h1)] at h2; cases h2
      rw [List.cons_append, scanTo, if_neg hc, ih _ hs.2 hr]

theorem scanTo_guarded (stop : Nat) (w rest : Bytes) (pbs : Bool) (h : Guarded (· == stop) pbs w)
    (hr : rest = [] ∨ rest.head? = some stop) : scanTo stop pbs (w ++ rest) = (w, rest) :=
  (scanTo_eq_iff ..).mpr ⟨rfl, h.nb, fun d r' e => ⟨by subst e; simpa using hr, h.tb⟩⟩

theorem scanTo_partition (stop : Nat) (pbs : Bool) (s : Bytes) :
    (scanTo stop pbs s).1 ++ (scanTo stop pbs s).2 = s :=
  ((scanTo_eq_iff ..).mp rfl).1.symm

theorem scanTo_rest (stop : Nat) (pbs : Bool) (s : Bytes) :
    (scanTo stop pbs s).2 = [] ∨ ∃ r, (scanTo stop pbs s).2 = stop :: r := by
  cases hr : (scanTo stop pbs s).2 with
  | nil => exact .inl rfl
  | cons d r => exact .inr ⟨r, by rw [(((scanTo_eq_iff ..).mp rfl).2.2 d r hr).1]⟩

theorem scanTo_escBy (S : Nat → Bool) (stop : Nat) (hS : S stop = true) (hbs : S cBS = false)
    (s rest : Bytes) (hl : noTB s) (hr : rest = [] ∨ rest.head? = some stop) :
    scanTo stop false (escBy S s ++ rest) = (escBy S s, rest) :=
  scanTo_guarded stop _ rest false (guarded_escBy S (· == stop) (fun _ hb => beq_iff_eq.mp hb ▸ hS) hbs s hl) hr

theorem scanTagValue_eq : scanTagValue = scanTo cComma := by
  funext pbs s
  induction s generalizing pbs with
  | nil => rfl
  | cons b r ih => simp [scanTagValue, scanTo, ih]

theorem scanMeasAux_guarded (w : Bytes) (prev d : Nat) (rest : Bytes) (hd : d = cComma ∨ d = cSpace)
    (h : Guarded isMeasSpecial (prev == cBS) w) :
    scanMeasAux prev (w ++ d :: rest) = (w, if d = cComma then .tags rest else .fields (d :: rest)) := by
  induction w generalizing prev with
  | nil =>
    have hp := h.nil_prev
    rcases hd with rfl | rfl <;> simp [scanMeasAux, hp, (by decide : cSpace ≠ cComma)]
  | cons b r ih =>
    rw [List.cons_append, scanMeasAux, if_neg fun ⟨hp, hb⟩ => hp (h.prev rfl hb),
      if_neg fun ⟨hp, hb⟩ => hp (h.prev rfl hb), ih b h.tail]

theorem scanMeasAux_guarded_end (w : Bytes) (prev : Nat) (h : Guarded isMeasSpecial (prev == cBS) w) :
    scanMeasAux prev w = (w, .eof) := by
  induction w generalizing prev with
  | nil => rfl
  | cons b r ih =>
    rw [scanMeasAux, if_neg fun ⟨hp, hb⟩ => hp (h.prev rfl hb), if_neg fun ⟨hp, hb⟩ => hp (h.prev rfl hb),
      ih b h.tail]

theorem scanMeasurement_guarded (w : Bytes) (d : Nat) (rest : Bytes) (hd : d = cComma ∨ d = cSpace)
    (hne : w ≠ []) (h : Guarded isMeasSpecial false w) :
    scanMeasurement (w ++ d :: rest) = (w, if d = cComma then .tags rest else .fields (d :: rest)) := by
  cases w with
  | nil => exact absurd rfl hne
  | cons b r =>
    have hb : b ≠ cComma := fun e => nomatch h.nb.1 (e ▸ rfl)
    rw [List.cons_append, scanMeasurement, if_neg hb, scanMeasAux_guarded r b d rest hd h.tail]

theorem scanMeasurement_guarded_end (w : Bytes) (hne : w ≠ []) (h : Guarded isMeasSpecial false w) :
    scanMeasurement w = (w, .eof) := by
  cases w with
  | nil => exact absurd rfl hne
  | cons b r =>
    have hb : b ≠ cComma := fun e => nomatch h.nb.1 (e ▸ rfl)
    rw [scanMeasurement, if_neg hb, scanMeasAux_guarded_end r b h.tail]

theorem guarded_name (name : Bytes) (hl : noTB name) : Guarded isMeasSpecial false (escBy isMeasSpecial name) :=
  guarded_escBy _ _ (fun _ h => h) (by decide) name hl

def tagText (t : Tag) : Bytes := escBy isTagSpecial t.key ++ cEq :: escBy isTagSpecial t.value
def tagsText (ts : List Tag) : Bytes := ts.flatMap fun t => cComma :: tagText t

theorem tagsText_cons (t : Tag) (ts : List Tag) : tagsText (t :: ts) = cComma :: tagText t ++ tagsText ts := by
  simp [tagsText]

theorem tagsText_tail (ts : List Tag) : tagsText ts = [] ∨ (tagsText ts).head? = some cComma := by
  cases ts with
  | nil => exact Or.inl rfl
  | cons t ts => exact Or.inr (by rw [tagsText_cons]; rfl)

theorem escBy_id (S : Nat → Bool) (s : Bytes) (h : ∀ b ∈ s, S b = false) : escBy S s = s := by
  induction s with
  | nil => rfl
  | cons b r ih =>
    rw [escBy_cons, if_neg (by simp [h b]), ih (fun c hc => h c (by simp [hc]))]

theorem isEmpty_escBy (S : Nat → Bool) (s : Bytes) : (escBy S s).isEmpty = s.isEmpty := by
  cases s with
  | nil => rfl
  | cons b r => rw [escBy_cons]; split <;> rfl

theorem needsEscape_false (tags : List Tag) (h : needsEscape tags = false) (t : Tag) (ht : t ∈ tags) :
    (⟨escBy isTagSpecial t.key, escBy isTagSpecial t.value⟩ : Tag) = t := by
  have hb : ∀ b, (b ∈ t.key ∨ b ∈ t.value) → isTagSpecial b = false := by
    intro b hb
    cases hsp : isTagSpecial b with
    | false => rfl
    | true =>
      have : needsEscape tags = true := by
        refine List.any_eq_true.mpr ⟨t, ht, ?_⟩
        have hc : (b = cComma ∨ b = cSpace) ∨ b = cEq := by simpa [isTagSpecial] using hsp
        rcases hc with (rfl | rfl) | rfl <;> rcases hb with hb | hb <;> simp [tagEscapeCodes, hb]
      rw [h] at this; cases this
  rw [escBy_id _ _ fun b hm => hb b (Or.inl hm), escBy_id _ _ fun b hm => hb b (Or.inr hm)]

/-- `AppendHashKey` writes `,k=v` with both sides escaped, for every tag with a value -/
theorem appendHashKey_eq (tags : List Tag) :
    appendHashKey tags = tagsText (tags.filter fun t => !t.value.isEmpty) := by
  have key : ∀ (l : List Tag),
      (l.map (fun t => (⟨escBy isTagSpecial t.key, escBy isTagSpecial t.value⟩ : Tag))).flatMap
        (fun t => if t.value.isEmpty then [] else cComma :: t.key ++ cEq :: t.value)
      = tagsText (l.filter fun t => !t.value.isEmpty) := by
    intro l
    induction l with
    | nil => rfl
    | cons t ts ih =>
      simp only [List.map_cons, List.flatMap_cons, ih, List.filter_cons, isEmpty_escBy]
      cases t.value.isEmpty <;> simp [tagsText_cons, tagText]
  rw [← key, appendHashKey]
  simp only [escapeTag_eq]
  split
  · rfl
  · next hn =>
    congr 1
    exact ((List.map_congr_left (needsEscape_false tags (by simpa using hn))).trans (List.map_id' tags)).symm

theorem walkTagsLoop_nil (he : Bool) (fuel : Nat) : walkTagsLoop he fuel [] = [] := by
  cases fuel <;> rfl

theorem walkTagsLoop_succ (he : Bool) (fuel : Nat) (buf : Bytes) (h : buf ≠ []) :
    walkTagsLoop he (fuel + 1) buf =
      if (scanTagValue false ((scanTo cEq false buf).2.drop 1)).1.isEmpty then
        walkTagsLoop he fuel (scanTagValue false ((scanTo cEq false buf).2.drop 1)).2
      else
        (if he then ⟨unescapeTag (scanTo cEq false buf).1,
            unescapeTag (scanTagValue false ((scanTo cEq false buf).2.drop 1)).1⟩
         else ⟨(scanTo cEq false buf).1, (scanTagValue false ((scanTo cEq false buf).2.drop 1)).1⟩) ::
          walkTagsLoop he fuel ((scanTagValue false ((scanTo cEq false buf).2.drop 1)).2.drop 1) := by
  cases buf with
  | nil => exact absurd rfl h
  | cons b r => rfl

def kvText (kv : Bytes × Bytes) : Bytes := kv.1 ++ cEq :: kv.2
def kvsText (kvs : List (Bytes × Bytes)) : Bytes := kvs.flatMap fun kv => cComma :: kvText kv

/-- a tag as the scanners return it; in the value only `,` and space matter (its first byte may
    be `=`) -/
structure KVShape (kv : Bytes × Bytes) : Prop where
  k : Guarded isTagSpecial false kv.1
  v : Guarded isMeasSpecial false kv.2
  v_ne : kv.2 ≠ []

theorem isTagSpecial_of_meas (b : Nat) (h : isMeasSpecial b = true) : isTagSpecial b = true := by
  rw [isTagSpecial, show (b == cComma || b == cSpace) = true from h]; rfl

theorem special_of_beq {S : Nat → Bool} {c : Nat} (hc : S c = true) (b : Nat) (h : (b == c) = true) :
    S b = true := by
  rw [eq_of_beq h]; exact hc

theorem isTagSpecial_of_eq : ∀ b, (b == cEq) = true → isTagSpecial b = true := special_of_beq rfl

theorem isMeasSpecial_of_comma : ∀ b, (b == cComma) = true → isMeasSpecial b = true := special_of_beq rfl

theorem kvsText_cons (kv : Bytes × Bytes) (kvs : List (Bytes × Bytes)) :
    kvsText (kv :: kvs) = cComma :: kvText kv ++ kvsText kvs := by simp [kvsText]

theorem kvsText_tail (kvs : List (Bytes × Bytes)) : kvsText kvs = [] ∨ (kvsText kvs).head? = some cComma := by
  cases kvs with
  | nil => exact Or.inl rfl
  | cons kv kvs => exact Or.inr (by rw [kvsText_cons]; rfl)

theorem length_le_count_kvsText (kvs : List (Bytes × Bytes)) : kvs.length ≤ (kvsText kvs).count cComma := by
  induction kvs with
  | nil => exact Nat.zero_le _
  | cons kv kvs ih =>
    rw [kvsText_cons]
    simp only [List.cons_append, List.count_cons_self, List.count_append, List.length_cons]
    omega

def mkTag (he : Bool) (kv : Bytes × Bytes) : Tag :=
  if he then ⟨unescapeTag kv.1, unescapeTag kv.2⟩ else ⟨kv.1, kv.2⟩

theorem walkTagsLoop_kvs (he : Bool) (kvs : List (Bytes × Bytes)) (fuel : Nat) (hf : kvs.length ≤ fuel)
    (hs : ∀ kv ∈ kvs, KVShape kv) :
    walkTagsLoop he fuel ((kvsText kvs).drop 1) = kvs.map (mkTag he) := by
  induction kvs generalizing fuel with
  | nil => exact walkTagsLoop_nil he fuel
  | cons kv kvs ih =>
    obtain ⟨f, rfl⟩ : ∃ f, fuel = f + 1 := ⟨fuel - 1, by simp at hf; omega⟩
    have sh := hs kv (by simp)
    have hs1 := scanTo_guarded cEq kv.1 (cEq :: (kv.2 ++ kvsText kvs)) false (sh.k.mono isTagSpecial_of_eq)
      (Or.inr rfl)
    have hs2 := scanTo_guarded cComma kv.2 _ false (sh.v.mono isMeasSpecial_of_comma) (kvsText_tail kvs)
    have hne2 : kv.2.isEmpty = false := List.isEmpty_eq_false_iff.mpr sh.v_ne
    rw [kvsText_cons, List.cons_append, List.drop_succ_cons, List.drop_zero,
      walkTagsLoop_succ _ _ _ (by simp [kvText]), kvText, List.append_assoc, List.cons_append, hs1]
    simp only [List.drop_succ_cons, List.drop_zero, scanTagValue_eq, hs2, hne2, Bool.false_eq_true, if_false]
    rw [ih f (by simp at hf; omega) fun u hu => hs u (by simp [hu])]
    rfl

theorem walkTags_kvs (name : Bytes) (kvs : List (Bytes × Bytes)) (hne : name ≠ [])
    (hn : Guarded (· == cComma) false name) (hs : ∀ kv ∈ kvs, KVShape kv) :
    walkTags (name ++ kvsText kvs) = kvs.map (mkTag ((name ++ kvsText kvs).contains cBS)) := by
  have hE : name.isEmpty = false := List.isEmpty_eq_false_iff.mpr hne
  have hB : (name ++ kvsText kvs).isEmpty = false :=
    List.isEmpty_eq_false_iff.mpr (List.append_ne_nil_of_left_ne_nil hne _)
  rw [walkTags, scanTo_guarded cComma name _ false hn (kvsText_tail kvs)]
  simp only [hB, hE, Bool.false_eq_true, if_false]
  refine walkTagsLoop_kvs _ kvs _ ?_ hs
  have := length_le_count_kvsText kvs
  have := List.count_le_length (a := cComma) (l := kvsText kvs)
  rw [List.length_append]; omega

def escTag (t : Tag) : Bytes × Bytes := (escBy isTagSpecial t.key, escBy isTagSpecial t.value)

theorem tagsText_eq (ts : List Tag) : tagsText ts = kvsText (ts.map escTag) := by
  rw [tagsText, kvsText, List.flatMap_map]; rfl

theorem length_le_count_tagsText (ts : List Tag) : ts.length ≤ (tagsText ts).count cComma := by
  rw [tagsText_eq, ← List.length_map (f := escTag)]; exact length_le_count_kvsText _

theorem kvShape_escTag (t : Tag) (h : t.value ≠ [] ∧ noTB t.key ∧ noTB t.value) : KVShape (escTag t) :=
  ⟨guarded_escBy _ _ (fun _ h => h) (by decide) _ h.2.1,
   guarded_escBy _ _ isTagSpecial_of_meas (by decide) _ h.2.2, mt (escBy_eq_nil _ _).mp h.1⟩

/-- un-escaping gives the tag back; without a backslash in the buffer (`he = false`) nothing was
    escaped, so nothing needs un-escaping -/
theorem mkTag_escTag (he : Bool) (t : Tag)
    (h : he = false → cBS ∉ escBy isTagSpecial t.key ∧ cBS ∉ escBy isTagSpecial t.value) :
    mkTag he (escTag t) = t := by
  cases he with
  | true => simp [mkTag, escTag, unescapeTag_escBy]
  | false => simp only [mkTag, escTag, Bool.false_eq_true, if_false, escBy_no_bs _ _ (h rfl).1, escBy_no_bs _ _ (h rfl).2]

theorem mem_kvsText (kv : Bytes × Bytes) (kvs : List (Bytes × Bytes)) (h : kv ∈ kvs) (b : Nat)
    (hb : b ∈ kv.1 ∨ b ∈ kv.2) : b ∈ kvsText kvs :=
  List.mem_flatMap.mpr ⟨kv, h, by
    rw [kvText, List.mem_cons, List.mem_append, List.mem_cons]
    exact .inr (hb.imp_right .inr)⟩

theorem parseTags_key (name : Bytes) (tags : List Tag) (hne : name ≠ []) (hl : noTB name)
    (ht : ∀ u ∈ tags, u.value ≠ [] ∧ noTB u.key ∧ noTB u.value) :
    parseTags (escBy isMeasSpecial name ++ tagsText tags) = some tags := by
  have hwalk : walkTags (escBy isMeasSpecial name ++ tagsText tags) = tags := by
    rw [tagsText_eq, walkTags_kvs _ _ (mt (escBy_eq_nil _ _).mp hne)
      (guarded_escBy _ _ isMeasSpecial_of_comma (by decide) name hl)
      fun kv hkv => by obtain ⟨t, ht', rfl⟩ := List.mem_map.mp hkv; exact kvShape_escTag t (ht t ht'),
      List.map_map]
    refine (List.map_congr_left fun t ht' => mkTag_escTag _ t fun hc => ?_).trans (List.map_id _)
    have hc' : ∀ b ∈ kvsText (tags.map escTag), b ≠ cBS := fun b hb e => by
      simp only [List.contains_eq_mem, List.mem_append, decide_eq_false_iff_not, not_or] at hc
      exact hc.2 (e ▸ hb)
    exact ⟨fun hm => hc' _ (mem_kvsText _ _ (List.mem_map_of_mem ht') _ (.inl hm)) rfl,
      fun hm => hc' _ (mem_kvsText _ _ (List.mem_map_of_mem ht') _ (.inr hm)) rfl⟩
  have hcount := length_le_count_tagsText tags
  rw [parseTags, hwalk, if_pos]
  rw [List.count_append]; omega

/-- `ParseKeyBytes(MakeKey(name, tags))` for a name and tags whose components do not end in a
    backslash and whose name is its own unescaped form: the name and the tags that have a
    value, in the order given. -/
theorem parseKeyBytes_makeKey (name : Bytes) (tags : List Tag)
    (hne : name ≠ []) (hl : noTB name) (hun : unescapeMeasurement name = name)
    (ht : ∀ t ∈ tags, t.value ≠ [] → noTB t.key ∧ noTB t.value) :
    parseKeyBytes (makeKey name tags) = some (name, tags.filter fun t => !t.value.isEmpty) := by
  rw [makeKey, hun, escapeMeasurement_eq, appendHashKey_eq]
  generalize hts : (tags.filter fun t => !t.value.isEmpty) = ts
  have hts' : ∀ t ∈ ts, t.value ≠ [] ∧ noTB t.key ∧ noTB t.value := by
    intro t h
    obtain ⟨hm, hv⟩ := List.mem_filter.mp (hts ▸ h)
    have hv' : t.value ≠ [] := by intro e; simp [e] at hv
    exact ⟨hv', ht t hm hv'⟩
  have hE : escBy isMeasSpecial name ≠ [] := fun e => hne ((escBy_eq_nil _ _).mp e)
  rw [parseKeyBytes]
  cases ts with
  | nil =>
    rw [tagsText, List.flatMap_nil, List.append_nil, scanMeasurement_guarded_end _ hE (guarded_name name hl)]
    simp only [unescapeMeasurement_escBy]
  | cons t ts' =>
    rw [parseTags_key name _ hne hl hts', tagsText_cons, List.cons_append,
      scanMeasurement_guarded _ _ _ (Or.inl rfl) hE (guarded_name name hl)]
    simp only [if_true, unescapeMeasurement_escBy, Option.map_some]

end Influx.LP
