/-
  Lemmas.CacheHeld — the model's store seen as the statement checker's "held values",
  and the accounting lemmas for it.
-/
import Influx.Lemmas.CacheDedup

namespace Influx.Cache
open Influx.Spec.C09

def toHeld (s : Store) : Held := s.map fun x => (x.1, x.2.values)

structure EntryOK (e : Entry) : Prop where
  ne : e.values ≠ []
  ty0 : e.vtype ≠ 0
  all : ∀ v ∈ e.values, v.ty = e.vtype

theorem EntryOK.of_subset {e e' : Entry} (he : EntryOK e) (hne : e'.values ≠ []) (hty : e'.vtype = e.vtype)
    (hsub : ∀ v ∈ e'.values, v ∈ e.values) : EntryOK e' :=
  ⟨hne, hty ▸ he.ty0, fun v hv => hty ▸ he.all v (hsub v hv)⟩

def StoreOK (s : Store) : Prop := (s.map (·.1)).Nodup ∧ ∀ x ∈ s, EntryOK x.2

theorem StoreOK.nil : StoreOK [] := ⟨List.nodup_nil, nofun⟩

@[simp] theorem toHeld_nil : toHeld [] = [] := rfl

theorem toHeld_keys (s : Store) : (toHeld s).map (·.1) = s.map (·.1) := by
  simp [toHeld]

theorem toHeld_lookup (s : Store) (k : Key) : (toHeld s).lookup k = (s.lookup k).map (·.values) := by
  induction s with
  | nil => rfl
  | cons x rest ih =>
    obtain ⟨k', e⟩ := x
    simp only [toHeld, List.map_cons, List.lookup_cons] at ih ⊢
    split
    · rfl
    · exact ih

theorem toHeld_get (s : Store) (k : Key) : (toHeld s).get k = ((s.lookup k).map (·.values)).getD [] := by
  rw [Held.get, toHeld_lookup]

theorem toHeld_set (s : Store) (k : Key) (e : Entry) : toHeld (s.set k e) = (toHeld s).set k e.values := by
  induction s with
  | nil => rfl
  | cons x rest ih =>
    simp only [Store.set, toHeld, List.map_cons, Held.set] at ih ⊢
    split
    · rfl
    · rw [List.map_cons, ih]

theorem toHeld_remove (s : Store) (k : Key) : toHeld (s.remove k) = (toHeld s).remove k := by
  simp [toHeld, Store.remove, Held.remove, List.filter_map, Function.comp_def]

theorem count_eq (s : Store) : s.count = liveKeys (toHeld s) := by
  simp [Store.count, liveKeys, toHeld, List.filter_map, Function.comp_def]

theorem lookup_none_iff {s : Store} {k : Key} : s.lookup k = none ↔ k ∉ s.map (·.1) := by
  simp only [List.lookup_eq_none_iff, bne_iff_ne, List.mem_map, not_exists, not_and]
  exact ⟨fun h x hx e => h x hx e.symm, fun h x hx e => h x hx e.symm⟩

theorem lookup_mem {s : Store} {k : Key} {e : Entry} (h : s.lookup k = some e) : (k, e) ∈ s := by
  obtain ⟨l₁, l₂, rfl, _⟩ := List.lookup_eq_some_iff.mp h
  simp

theorem mem_set {s : Store} {k : Key} {e : Entry} {x : Key × Entry} (h : x ∈ s.set k e) : x = (k, e) ∨ x ∈ s := by
  induction s with
  | nil => exact Or.inl (List.mem_singleton.mp h)
  | cons y rest ih =>
    simp only [Store.set] at h
    split at h
    · exact (List.mem_cons.mp h).imp_right (List.mem_cons_of_mem _)
    · rcases List.mem_cons.mp h with h | h
      · exact Or.inr (h ▸ List.mem_cons_self)
      · exact (ih h).imp_right (List.mem_cons_of_mem _)

theorem StoreOK.set {s : Store} (ok : StoreOK s) (k : Key) {e : Entry} (he : EntryOK e) : StoreOK (s.set k e) := by
  refine ⟨?_, fun x hx => (mem_set hx).elim (· ▸ he) (ok.2 x)⟩
  have nd := ok.1
  induction s with
  | nil => simp [Store.set]
  | cons y rest ih =>
    rw [List.map_cons, List.nodup_cons] at nd
    simp only [Store.set]
    split
    · rename_i hk; simpa [← hk] using nd
    · rename_i hk
      rw [List.map_cons, List.nodup_cons]
      refine ⟨?_, ih ⟨nd.2, fun x hx => ok.2 x (List.mem_cons_of_mem _ hx)⟩ nd.2⟩
      intro hm
      obtain ⟨x, hx, hxk⟩ := List.mem_map.mp hm
      rcases mem_set hx with rfl | hx
      · exact hk hxk.symm
      · exact nd.1 (hxk ▸ List.mem_map_of_mem hx)

theorem StoreOK.remove {s : Store} (ok : StoreOK s) (k : Key) : StoreOK (s.remove k) := by
  refine ⟨?_, ?_⟩
  · exact List.Nodup.sublist (List.Sublist.map _ List.filter_sublist) ok.1
  · intro x hx
    exact ok.2 x (List.mem_filter.mp hx).1

theorem held_get_set (h : Held) (k : Key) (vs : List Value) : (h.set k vs).get k = vs := by
  induction h with
  | nil => simp [Held.set, Held.get]
  | cons x rest ih =>
    obtain ⟨k', e⟩ := x
    simp only [Held.set]
    split
    · simp [Held.get, List.lookup]
    · rename_i hne
      have : (k == k') = false := beq_false_of_ne (Ne.symm hne)
      simp only [Held.get, List.lookup_cons, this] at ih ⊢
      exact ih

theorem acct_cons (k : Key) (vs : List Value) (h : Held) : acct ((k, vs) :: h) = k.length + valuesSize vs + acct h := by
  simp [acct]

theorem valuesSize_append (a b : List Value) : valuesSize (a ++ b) = valuesSize a + valuesSize b := by
  simp [valuesSize]

/-- `set` replaces what `lookup` finds, or appends the key -/
theorem acct_set (h : Held) (k : Key) (vs : List Value) :
    acct (h.set k vs) + valuesSize (h.get k) =
      acct h + valuesSize vs + if (h.lookup k).isNone then k.length else 0 := by
  induction h with
  | nil => simp [Held.set, Held.get, acct, valuesSize, Nat.add_comm]
  | cons x rest ih =>
    obtain ⟨k', vs'⟩ := x
    simp only [Held.get, Held.set, List.lookup_cons] at ih ⊢
    by_cases hk : k' = k
    · subst hk
      simp only [if_true, BEq.rfl, acct_cons, Option.getD_some, Option.isNone_some, Bool.false_eq_true, if_false]
      omega
    · have : (k == k') = false := beq_false_of_ne (Ne.symm hk)
      simp only [if_neg hk, this, acct_cons]
      omega

theorem acct_remove {h : Held} {k : Key} {old : List Value} (hk : h.lookup k = some old)
    (nd : (h.map (·.1)).Nodup) : acct (h.remove k) + k.length + valuesSize old = acct h := by
  induction h with
  | nil => simp at hk
  | cons x rest ih =>
    obtain ⟨k', vs'⟩ := x
    rw [List.map_cons, List.nodup_cons] at nd
    rw [List.lookup_cons] at hk
    by_cases hkk : k = k'
    · subst hkk
      simp only [BEq.rfl, Option.some.injEq] at hk
      -- the key does not occur again
      have hrest : Held.remove rest k = rest :=
        List.filter_eq_self.mpr fun x hx => decide_eq_true fun e => nd.1 (List.mem_map.mpr ⟨x, hx, e⟩)
      rw [Held.remove, List.filter_cons_of_neg (by simp), ← Held.remove, hrest, acct_cons, hk]
      omega
    · rw [beq_false_of_ne hkk] at hk
      have hkeep : Held.remove ((k', vs') :: rest) k = (k', vs') :: Held.remove rest k :=
        List.filter_cons_of_pos (decide_eq_true (Ne.symm hkk))
      rw [hkeep, acct_cons, acct_cons]
      have := ih hk nd.2
      omega

end Influx.Cache
