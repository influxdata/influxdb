/-
  Lemmas.CacheSim — the invariant tying the cache model to the statement checker's
  abstract cache.  The hot store and the snapshot satisfy the same three facts
  (`Side`); what `Values` and `Deduplicate` do to one side is proved here.
-/
import Influx.Lemmas.CacheLoops

namespace Influx.Cache
open Influx.Spec.C09

def snapStore (c : Cache) : Store := (c.snapshot.map (·.store)).getD []
def snapSz (c : Cache) : Nat := (c.snapshot.map (·.size)).getD 0

/-- `B` bounds the bytes accounted so far (no uint64 wrap as long as `B < 2^64`) -/
structure Inv (c : Cache) (st : St) (B : Nat) : Prop where
  hot : st.hot = toHeld c.store
  hotOK : StoreOK c.store
  snap : st.snap = toHeld (snapStore c)
  snapOK : StoreOK (snapStore c)
  snapExists : st.snapExists = c.snapshot.isSome
  snapSize : st.snapSize = snapSz c
  ssize : c.snapshotSize = snapSz c
  snapshotting : st.snapshotting = c.snapshotting
  maxSize : st.maxSize = c.maxSize
  /-- `size` = what the hot store holds + a residue that is zero until a read compacts -/
  size : ∃ rh, c.size = acct st.hot + rh ∧ (st.compacted = false → rh = 0)
  ssz : ∃ rs, c.snapshotSize = acct st.snap + rs ∧ (st.compacted = false → rs = 0)
  bound : c.size + c.snapshotSize ≤ B

theorem Inv.init (B : Nat) (m : Nat) : Inv { maxSize := m } { maxSize := m } B :=
  ⟨rfl, StoreOK.nil, rfl, StoreOK.nil, rfl, rfl, rfl, rfl, rfl, ⟨0, rfl, fun _ => rfl⟩, ⟨0, rfl, fun _ => rfl⟩,
    Nat.zero_le _⟩

theorem Inv.mono {c : Cache} {st : St} {B B' : Nat} (inv : Inv c st B) (h : B ≤ B') : Inv c st B' :=
  { inv with bound := Nat.le_trans inv.bound h }

theorem snapStore_eq (c : Cache) : snapStore c = (c.snapshot.getD ⟨[], 0⟩).store := by
  cases h : c.snapshot <;> simp [snapStore, h]

theorem snapSz_eq (c : Cache) : snapSz c = (c.snapshot.getD ⟨[], 0⟩).size := by
  cases h : c.snapshot <;> simp [snapSz, h]

/-- what `Inv` says of the hot store and of the snapshot alike: the checker holds what the
    store holds, and the size counter is the accounted size plus a residue that is zero
    until a read compacts -/
structure Side (s : Store) (size : Nat) (h : Held) (cpt : Bool) : Prop where
  held : h = toHeld s
  ok : StoreOK s
  size : ∃ r, size = acct h + r ∧ (cpt = false → r = 0)

theorem Inv.hotSide {c : Cache} {st : St} {B : Nat} (inv : Inv c st B) :
    Side c.store c.size st.hot st.compacted := ⟨inv.hot, inv.hotOK, inv.size⟩

theorem Inv.snapSide {c : Cache} {st : St} {B : Nat} (inv : Inv c st B) :
    Side (snapStore c) c.snapshotSize st.snap st.compacted := ⟨inv.snap, inv.snapOK, inv.ssz⟩

theorem Side.nil (cpt : Bool) : Side [] 0 [] cpt := ⟨rfl, StoreOK.nil, 0, rfl, fun _ => rfl⟩

theorem Side.mono {s : Store} {size : Nat} {h : Held} {cpt cpt' : Bool} (sd : Side s size h cpt)
    (hc : cpt' = false → cpt = false) : Side s size h cpt' :=
  let ⟨r, h1, h2⟩ := sd.size
  ⟨sd.held, sd.ok, r, h1, fun h => h2 (hc h)⟩

/-- the store is replaced by one that holds less while the counter stays: the difference
    joins the residue -/
theorem Side.shrink {s s' : Store} {size : Nat} {h h' : Held} {cpt cpt' : Bool} (sd : Side s size h cpt)
    (held : h' = toHeld s') (ok : StoreOK s') (hle : acct h' ≤ acct h)
    (hc : cpt' = false → cpt = false ∧ acct h' = acct h) : Side s' size h' cpt' := by
  obtain ⟨r, h1, h2⟩ := sd.size
  obtain ⟨d, hd⟩ := Nat.le.dest hle
  refine ⟨held, ok, d + r, by rw [h1, ← hd, Nat.add_assoc], fun hf => ?_⟩
  obtain ⟨hc1, hc2⟩ := hc hf
  rw [h2 hc1]
  exact Nat.add_left_cancel (k := 0) (hd.trans hc2.symm)

theorem Inv.setHot {c : Cache} {st : St} {B B' : Nat} (inv : Inv c st B) {s' : Store} {size' : Nat} {h' : Held}
    {cpt' : Bool} (sd : Side s' size' h' cpt') (hc : cpt' = false → st.compacted = false)
    (hb : size' + c.snapshotSize ≤ B') :
    Inv { c with store := s', size := size' } { st with hot := h', compacted := cpt' } B' :=
  ⟨sd.held, sd.ok, inv.snap, inv.snapOK, inv.snapExists, inv.snapSize, inv.ssize, inv.snapshotting, inv.maxSize,
    sd.size, (inv.snapSide.mono hc).size, hb⟩

def opBytes : Op → Nat
  | .write b => batchSize b + keyBytes b
  | _ => 0

def ValidOp : Op → Prop
  | .write b => ValidBatch b
  | _ => True

/-- at most stale-size failures; none at all while nothing has been compacted -/
def FailsOK (st : St) (fs : List Fail) : Prop := fs.all Fail.isStale = true ∧ (st.compacted = false → fs = [])

theorem FailsOK.nil (st : St) : FailsOK st [] := ⟨rfl, fun _ => rfl⟩

theorem sizeFail_ok (st : St) (i observed expected r : Nat) (h : observed = expected + r)
    (hr : st.compacted = false → r = 0) : FailsOK st (sizeFail st i observed expected) := by
  unfold sizeFail
  split
  · exact .nil st
  · rename_i hne
    -- a residue: something has been compacted, and the observed size is the larger
    cases hc : st.compacted
    · exact absurd (by rw [h, hr hc]; rfl) hne
    · rw [decide_eq_true (show observed > expected by omega)]
      exact ⟨rfl, fun hf => nomatch hc.symm.trans hf⟩

theorem Entry.deduplicate_values (e : Entry) : e.deduplicate.values = dedup e.values := by
  unfold Entry.deduplicate
  split
  · rename_i h
    rw [dedup, if_pos h]
  · rfl

theorem Entry.deduplicate_ok {e : Entry} (h : EntryOK e) : EntryOK e.deduplicate :=
  h.of_subset (by rw [deduplicate_values]; exact dedup_ne_nil h.ne) (by unfold Entry.deduplicate; split <;> rfl)
    (by rw [deduplicate_values]; exact dedup_subset _)

def compactStore (s : Store) (k : Key) : Store :=
  match s.lookup k with
  | some e => s.set k e.deduplicate
  | none => s

/-- `Cache.Values` compacts the key's entry in both stores and answers the deduplicated
    concatenation, whichever branch the code takes -/
theorem Cache.values_eq (c : Cache) (k : Key) :
    c.values k =
      ({ c with store := compactStore c.store k,
                snapshot := c.snapshot.map fun sn => { sn with store := compactStore sn.store k } },
       dedup (dedup ((toHeld (snapStore c)).get k) ++ dedup ((toHeld c.store).get k))) := by
  obtain ⟨size, ssz, mx, store, snapshot, snapping⟩ := c
  simp only [Cache.values, compactStore, snapStore, Store.entry, toHeld_get]
  have hnil : dedup [] = [] := rfl
  cases snapshot with
  | none => cases List.lookup k store <;> simp [Entry.deduplicate_values, hnil]
  | some sn =>
    obtain ⟨sst, ssize⟩ := sn
    simp only [Option.map_some, Option.getD_some]
    cases List.lookup k sst <;> cases List.lookup k store <;> simp [Entry.deduplicate_values, hnil]

theorem snap_compact (c : Cache) (k : Key) :
    let c' : Cache := { c with store := compactStore c.store k,
                               snapshot := c.snapshot.map fun sn => { sn with store := compactStore sn.store k } }
    snapStore c' = compactStore (snapStore c) k ∧ snapSz c' = snapSz c ∧
      c'.snapshot.isSome = c.snapshot.isSome := by
  cases h : c.snapshot <;> simp [snapStore, snapSz, h, compactStore]

/-- `Values` on one side: the checker's `compact`; the flag it raises covers the bytes let go -/
theorem Side.compact {s : Store} {size : Nat} {h : Held} {cpt cpt' : Bool} (sd : Side s size h cpt) (k : Key)
    (hc : cpt' = false → cpt = false ∧ ¬ ((h.compact k).get k).length < (h.get k).length) :
    Side (compactStore s k) size (h.compact k) cpt' := by
  have ok := sd.ok
  obtain rfl := sd.held
  unfold compactStore Held.compact at *
  rw [toHeld_lookup] at *
  cases hl : s.lookup k with
  | none => exact sd.mono fun hf => (hc hf).1
  | some e =>
    have hacct := acct_set (toHeld s) k (dedup e.values)
    simp only [hl, Option.map_some, Held.get, toHeld_lookup, Option.getD_some, Option.isNone_some,
      Bool.false_eq_true, if_false, Nat.add_zero] at hacct hc ⊢
    have hle := valuesSize_dedup_le e.values
    rw [← dedup_eq_canon] at hc ⊢
    refine sd.shrink (by rw [toHeld_set, Entry.deduplicate_values])
      (ok.set k (Entry.deduplicate_ok (ok.2 _ (lookup_mem hl)))) (by omega) fun hf => ⟨(hc hf).1, ?_⟩
    have hlen := (hc hf).2
    rw [← Held.get, held_get_set] at hlen
    have := dedup_size_eq_of_length e.values hlen
    omega

theorem Side.dedupAll {s : Store} {size : Nat} {h : Held} {cpt : Bool} (sd : Side s size h cpt) :
    Side (s.map fun x => (x.1, x.2.deduplicate)) size (h.map fun x => (x.1, canon x.2))
      (cpt || decide (acct (h.map fun x => (x.1, canon x.2)) < acct h)) := by
  have ok := sd.ok
  obtain rfl := sd.held
  have hle : acct ((toHeld s).map fun x => (x.1, canon x.2)) ≤ acct (toHeld s) := by
    clear sd ok
    induction s with
    | nil => exact Nat.le_refl _
    | cons x rest ih =>
      simp only [toHeld, List.map_cons, acct_cons] at ih ⊢
      have := valuesSize_dedup_le x.2.values
      rw [dedup_eq_canon] at this
      omega
  refine sd.shrink ?_ ⟨?_, ?_⟩ hle fun hf => ?_
  · simp [toHeld, Entry.deduplicate_values, dedup_eq_canon, Function.comp_def]
  · simpa [Function.comp_def] using ok.1
  · intro x hx
    obtain ⟨y, hy, rfl⟩ := List.mem_map.mp hx
    exact Entry.deduplicate_ok (ok.2 y hy)
  · simp only [Bool.or_eq_false_iff, decide_eq_false_iff_not] at hf
    exact ⟨hf.1, Nat.le_antisymm hle (Nat.le_of_not_lt hf.2)⟩

end Influx.Cache
