/-
  Lemmas.PlannerStep — every step of the planner state machine preserves the
  invariant, and the statement checker finds nothing but (possibly) a
  non-contiguous group from a `Plan` call on the full path.
-/
import Influx.Lemmas.PlannerInv

namespace Influx.Planner
open Influx.Spec.C05

theorem finishPlan_nil (s : State) (gc : Nat) : finishPlan s [] gc = (s, .plan [] 0 gc) := by
  simp [finishPlan, acquire]

/-- a call that declines to plan answers like one that plans no groups -/
theorem guard_eq {s : State} {c : Prop} [Decidable c] {r : State × Obs}
    (h : ∃ gss gc, Blocks s.gens gss ∧ r = finishPlan s (toFiles gss) gc) :
    ∃ gss gc, Blocks s.gens gss ∧ (if c then (s, .plan [] 0 0) else r) = finishPlan s (toFiles gss) gc := by
  by_cases hc : c
  · rw [if_pos hc]; exact ⟨[], 0, .nil _, (finishPlan_nil s 0).symm⟩
  · rw [if_neg hc]; exact h

theorem planLevel_eq (s : State) (lvl : Int) :
    ∃ gss gc, Blocks s.gens gss ∧ planLevel s lvl = finishPlan s (toFiles gss) gc :=
  guard_eq (guard_eq ⟨_, _, levelGens_blocks s.inUse s.gens lvl, rfl⟩)

theorem planOptimize_eq (s : State) (cold : Bool) :
    ∃ gss gc, Blocks s.gens gss ∧ planOptimize s cold = finishPlan s (toFiles gss) gc :=
  guard_eq (guard_eq ⟨_, _, optGens_blocks s.inUse s.gens, rfl⟩)

theorem isFullPlan_flag {s : State} {cold : Bool} (h : isFullPlan s cold = true) :
    (s.forceFull || (s.durPos && cold)) = true := by
  simp only [isFullPlan, Bool.or_eq_true, Bool.and_eq_true] at h ⊢
  exact h.imp id (·.1)

theorem plan_eq (s : State) (cold : Bool) :
    ∃ lpc gss, Sub s.gens gss ∧ (isFullPlan s cold = false → Contig s.gens gss) ∧
      plan s cold = finishPlan { s with forceFull := false, lpcSet := lpc }
        (gss.map fun g => sortStrings (gensPaths g)) 0 := by
  unfold plan
  by_cases hfull : isFullPlan s cold = true
  · rw [if_pos hfull]
    refine ⟨s.lpcSet, fullGens s.inUse s.gens, fullGens_sub _ _, fun h => absurd (h ▸ hfull) Bool.false_ne_true, ?_⟩
    dsimp only
    cases fullGens s.inUse s.gens with
    | nil => exact (finishPlan_nil _ 0).symm
    | cons g gs => rfl
  · rw [if_neg hfull]
    have hff : s.forceFull = false := by
      cases h : s.forceFull
      · rfl
      · exact absurd (by unfold isFullPlan; rw [h]; rfl) hfull
    have es : ∀ b, ({ s with forceFull := false, lpcSet := b } : State) = { s with lpcSet := b } :=
      fun b => by rw [← hff]
    have nil : Sub s.gens [] ∧ (isFullPlan s cold = false → Contig s.gens []) :=
      ⟨List.nil_sublist _, fun _ _ h => absurd h List.not_mem_nil⟩
    by_cases h1 : ((s.lpcSet && !s.modFuture) && !gensHasTombstones s.gens) = true
    · rw [if_pos h1]
      exact ⟨s.lpcSet, [], nil.1, nil.2, by rw [es]; exact (finishPlan_nil s 0).symm⟩
    · rw [if_neg h1]
      dsimp only
      by_cases h3 : (decide (s.gens.length ≤ 1) && !gensHasTombstones s.gens) = true
      · rw [if_pos h3]
        exact ⟨true, [], nil.1, nil.2, by rw [es]; exact (finishPlan_nil _ 0).symm⟩
      · rw [if_neg h3]
        have b := l4Gens_blocks s.inUse s.gens
        exact ⟨true, _, b.sub, fun _ => b.contig, by rw [es]⟩

theorem step_notHeld {s : State} {k : Nat} (h : ¬ ∃ g, s.handed[k]? = some (g, true)) (size : Nat) (fbc : Int) :
    step s (.release k) = (s, .notHeld) ∧ step s (.done k size fbc) = (s, .notHeld) := by
  rcases hk : s.handed[k]? with _ | ⟨g, _ | _⟩
  · simp only [step, hk, and_self]
  · simp only [step, hk, and_self]
  · exact absurd ⟨g, hk⟩ h

theorem nodup_paths_snoc {fs : List File} {f : File} (hn : (fs.map (·.path)).Nodup)
    (hf : ¬ (fs.map (·.path)).contains f.path = true) : ((fs ++ [f]).map (·.path)).Nodup := by
  rw [List.map_append, List.map_cons, List.map_nil, List.nodup_append]
  refine ⟨hn, List.pairwise_singleton _ _, fun a ha b hb hab => hf ?_⟩
  rw [List.mem_singleton.mp hb] at hab
  subst hab
  exact List.contains_iff_mem.mpr ha

/-- result of one step as the statement checker judges it -/
structure StepOK (s : State) (st : St) (i : Nat) (op : Op) : Prop where
  inv : Inv (step s op).1 (stepSt st i (op, (step s op).2)).1
  onlyFull : OnlyFull (stepSt st i (op, (step s op).2)).2
  /-- nothing at all is reported unless this is a `Plan` on the full path -/
  none : (∀ c, op = .plan c → st.forcePending = false ∧ c = false) →
    (stepSt st i (op, (step s op).2)).2 = []
  /-- `ForceFull` stays clear unless the op is `force` -/
  force : op ≠ .force → st.forcePending = false →
    (stepSt st i (op, (step s op).2)).1.forcePending = false

theorem StepOK.of {s : State} {st : St} {i : Nat} {op : Op} (s' : State) (o : Obs) (st' : St)
    (fails : List Fail) (h1 : step s op = (s', o)) (h2 : stepSt st i (op, o) = (st', fails))
    (inv : Inv s' st') (of : OnlyFull fails)
    (none : (∀ c, op = .plan c → st.forcePending = false ∧ c = false) → fails = [])
    (force : op ≠ .force → st.forcePending = false → st'.forcePending = false) : StepOK s st i op := by
  constructor <;> simp only [h1, h2] <;> assumption

theorem StepOK.quiet {s : State} {st : St} {i : Nat} {op : Op} (s' : State) (o : Obs) (st' : St)
    (h1 : step s op = (s', o)) (h2 : stepSt st i (op, o) = (st', [])) (inv : Inv s' st')
    (force : op ≠ .force → st.forcePending = false → st'.forcePending = false) : StepOK s st i op :=
  .of s' o st' [] h1 h2 inv .nil (fun _ => rfl) force

theorem StepOK.same {s : State} {st : St} {i : Nat} {op : Op} (o : Obs)
    (h1 : step s op = (s, o)) (h2 : stepSt st i (op, o) = (st, [])) (inv : Inv s st) : StepOK s st i op :=
  .quiet s o st h1 h2 inv (fun _ h => h)

private theorem StepOK.finish {s : State} {st : St} {i : Nat} {op : Op} (s' : State) (st' : St)
    (full : Bool) (groups : List (List String)) (gc : Nat)
    (h1 : step s op = finishPlan s' groups gc)
    (h2 : ∀ gs n, stepSt st i (op, .plan gs n gc) = judge st' i full gs)
    (inv : Inv s' st') (hnd : groups.flatten.Nodup)
    (hc : full = true ∨ ∀ g ∈ groups, contiguousIn st'.atFind g = true)
    (hnone : (∀ c, op = .plan c → st.forcePending = false ∧ c = false) →
      ∀ g ∈ groups, contiguousIn st'.atFind g = true)
    (hf : op ≠ .force → st.forcePending = false → st'.forcePending = false) :
    StepOK s st i op := by
  unfold finishPlan at h1
  cases hacq : acquire s'.inUse groups with
  | none =>
    rw [hacq] at h1
    exact .quiet s' _ st' h1 ((h2 _ _).trans (judge_nil st' i full (inv.handed ▸ inv.heldNodup))) inv hf
  | some iu =>
    rw [hacq] at h1
    obtain ⟨hdis, inv'⟩ := inv.handOut hacq hnd
    have hj := judge_snd i full hdis
    refine .of _ _ (judge st' i full groups).1 (judge st' i full groups).2 h1 (h2 _ _) inv' ?_ (fun h => ?_) hf
    · rw [hj]
      split
      · exact .nil
      · rename_i hno
        rcases hc with rfl | hc
        · exact fun f hf => List.mem_singleton.mp hf ▸ rfl
        · exact absurd (List.all_eq_true.mpr hc) hno
    · rw [hj, if_pos (List.all_eq_true.mpr (hnone h))]

theorem StepOK.planning {s : State} {st : St} {i : Nat} {op : Op} (s' : State) (st' : St)
    (full : Bool) (gss : List (List Gen)) (F : List Gen → List String) (gc : Nat)
    (hF : ∀ gs, (F gs).Perm (gensPaths gs))
    (h1 : step s op = finishPlan s' (gss.map F) gc)
    (h2 : ∀ gs n, stepSt st i (op, .plan gs n gc) = judge st' i full gs)
    (inv : Inv s' st') (hs : Sub s'.gens gss) (hc : full = false → Contig s'.gens gss)
    (hfull : (∀ c, op = .plan c → st.forcePending = false ∧ c = false) → full = false)
    (hf : op ≠ .force → st.forcePending = false → st'.forcePending = false) : StepOK s st i op := by
  obtain ⟨fsAt, e, ok, hn⟩ := inv.gensOK
  have hcont : full = false → ∀ g ∈ gss.map F, contiguousIn st'.atFind g = true := by
    rw [e]; exact fun h => files_contiguous hF ok hn (hc h)
  refine StepOK.finish s' st' full _ gc h1 h2 inv (files_nodup hF ok hn hs) ?_ (fun h => hcont (hfull h)) hf
  cases full
  · exact Or.inr (hcont rfl)
  · exact Or.inl rfl

theorem step_ok {s : State} {st : St} (inv : Inv s st) (i : Nat) (op : Op) : StepOK s st i op := by
  cases op with
  | new d => exact .quiet _ .ok _ rfl rfl (Inv.new d) (fun _ _ => rfl)
  | setfs mf files =>
    by_cases hn : (files.map (·.path)).Nodup
    · exact .quiet _ .ok _ (by rw [step, if_pos hn]) rfl (inv.setStats hn mf rfl) (fun _ h => h)
    · exact .same .rejected (by rw [step, if_neg hn]) rfl inv
  | add f =>
    by_cases hc : (s.stats.map (·.path)).contains f.path = true
    · exact .same .rejected (by rw [step, if_pos hc]) rfl inv
    · exact .quiet _ .ok _ (by rw [step, if_neg hc]) rfl
        (inv.setStats (nodup_paths_snoc inv.statsNodup hc) s.modFuture (by simp [inv.store, pg])) (fun _ h => h)
  | find =>
    exact .quiet _ _ _ rfl rfl
      ⟨inv.store, inv.statsNodup, ⟨s.stats, inv.store, rfl, inv.statsNodup⟩, inv.handed, inv.force,
        inv.dur, inv.inUse, inv.heldNodup⟩ (fun _ h => h)
  | force => exact .quiet _ .ok _ rfl rfl (inv.setForce true s.lpcSet) (fun h _ => absurd rfl h)
  | fully => exact .same _ rfl rfl inv
  | inuse => exact .same _ rfl rfl inv
  | level lvl =>
    obtain ⟨gss, gc, b, e⟩ := planLevel_eq s lvl
    exact .planning s st false gss gensPaths gc (fun _ => .refl _) e (fun _ _ => rfl) inv b.sub
      (fun _ => b.contig) (fun _ => rfl) (fun _ h => h)
  | opt cold =>
    obtain ⟨gss, gc, b, e⟩ := planOptimize_eq s cold
    exact .planning s st false gss gensPaths gc (fun _ => .refl _) e (fun _ _ => rfl) inv b.sub
      (fun _ => b.contig) (fun _ => rfl) (fun _ h => h)
  | plan cold =>
    obtain ⟨lpc, gss, hs, hc, e⟩ := plan_eq s cold
    refine .planning _ { st with forcePending := false } (st.forcePending || (st.durPos && cold)) gss _ 0
      (fun _ => sortStrings_perm _) e (fun _ _ => rfl) (inv.setForce false lpc) hs (fun hfl => hc ?_) ?_
      (fun _ _ => rfl)
    · -- the checker's "full" flag is set whenever the planner takes the full path
      cases h : isFullPlan s cold
      · rfl
      · rw [inv.force, inv.dur, isFullPlan_flag h] at hfl
        cases hfl
    · intro hh
      obtain ⟨h1, h2⟩ := hh cold rfl
      rw [h1, h2, Bool.and_false]
      rfl
  | release k =>
    by_cases hk : ∃ g, s.handed[k]? = some (g, true)
    · obtain ⟨g, hk⟩ := hk
      exact .quiet _ .released _ (by simp only [step, hk]) (by simp only [stepSt, inv.handed, hk]) (inv.release hk)
        (fun _ h => h)
    · exact .same .notHeld (step_notHeld hk 0 0).1 rfl inv
  | done k size fbc =>
    by_cases hk : ∃ g, s.handed[k]? = some (g, true)
    · obtain ⟨g, hk⟩ := hk
      generalize hold : s.stats.filter (fun f => g.contains f.path) = old
      generalize hkeep : s.stats.filter (fun f => !g.contains f.path) = keep
      generalize hnf : compactedFile old size fbc = nf
      by_cases hrej : (old.isEmpty || decide (nf.seq ≤ 0) || (keep.map (·.path)).contains nf.path) = true
      · refine .same .rejected ?_ rfl inv
        simp only [step, hk, hold, hkeep, hnf]
        rw [if_pos hrej]
      · have hnk : (keep.map (·.path)).Nodup :=
          hkeep ▸ (List.filter_sublist.map _).nodup inv.statsNodup
        refine .quiet _ (.done nf.path nf.gen nf.seq)
          { st with handed := st.handed.set k (g, false),
                    store := st.store.filter (fun e => !g.contains e.1) ++ [(nf.path, nf.gen)] }
          ?_ (by simp only [stepSt, inv.handed, hk])
          ((inv.release hk).setStats (nodup_paths_snoc (f := nf) hnk fun h => hrej (by rw [h, Bool.or_true]))
            s.modFuture ?_)
          (fun _ h => h)
        · simp only [step, hk, hold, hkeep, hnf]
          rw [if_neg hrej]
        · simp only [inv.store, List.map_append, List.map_cons, List.map_nil, pg, ← hkeep, List.filter_map]
          rfl
    · exact .same .notHeld (step_notHeld hk size fbc).2 rfl inv

end Influx.Planner
