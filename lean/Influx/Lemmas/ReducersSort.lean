/-
  Lemmas.ReducersSort — strict weak orders and how the reducers' comparators are built
  from them; Go's insertion sort (Model.Reducers.insertionSort) under a strict weak order:
  permutation, sortedness, stability; rank facts about sorted lists.
-/
import Influx.Model.Reducers
open Influx.Reducers

namespace Influx.Reducers.Lemmas

theorem filterMap_congr' {α β : Type} {f g : α → Option β} {l : List α} (h : ∀ x ∈ l, f x = g x) :
    l.filterMap f = l.filterMap g := by
  induction l with
  | nil => rfl
  | cons a l ih =>
    have ha := h a (by simp)
    have hl := ih (fun x hx => h x (by simp [hx]))
    simp only [List.filterMap_cons, ha, hl]

/-- `lt` is a strict weak order -/
structure StrictWeak {α : Type} (lt : α → α → Bool) : Prop where
  irrefl : ∀ a, lt a a = false
  trans : ∀ a b c, lt a b = true → lt b c = true → lt a c = true
  negTrans : ∀ a b c, lt a b = false → lt b c = false → lt a c = false

namespace StrictWeak
variable {α β : Type} {lt : α → α → Bool}

theorem asymm (h : StrictWeak lt) (a b : α) (hab : lt a b = true) : lt b a = false := by
  cases hba : lt b a with
  | false => rfl
  | true => have := h.trans a b a hab hba; rw [h.irrefl] at this; cases this

/-- `a < b ≤ c` -/
theorem lt_of_lt_of_ge (h : StrictWeak lt) {a b c : α} (hab : lt a b = true) (hcb : lt c b = false) :
    lt a c = true := by
  cases hac : lt a c with
  | true => rfl
  | false => rw [h.negTrans a c b hac hcb] at hab; cases hab

/-- `a ≤ b < c` -/
theorem lt_of_ge_of_lt (h : StrictWeak lt) {a b c : α} (hba : lt b a = false) (hbc : lt b c = true) :
    lt a c = true := by
  cases hac : lt a c with
  | true => rfl
  | false => rw [h.negTrans b a c hba hac] at hbc; cases hbc

/-- the reversed order (`sort.Reverse`, `bottom`, "later time first") -/
theorem flip (h : StrictWeak lt) : StrictWeak (fun a b => lt b a) :=
  ⟨h.irrefl, fun a b c h1 h2 => h.trans c b a h2 h1, fun a b c h1 h2 => h.negTrans c b a h2 h1⟩

/-- comparing by a component (points by value, points by time) -/
theorem comap (h : StrictWeak lt) (f : β → α) : StrictWeak (fun a b => lt (f a) (f b)) :=
  ⟨fun a => h.irrefl (f a), fun a b c => h.trans (f a) (f b) (f c), fun a b c => h.negTrans (f a) (f b) (f c)⟩

end StrictWeak

/-- `lt a b := key a < key b` is a strict weak order -/
theorem strictWeak_ofKey {α : Type} (key : α → Int) : StrictWeak (fun a b => decide (key a < key b)) where
  irrefl := fun _ => decide_eq_false (Int.lt_irrefl _)
  trans := fun _ _ _ h1 h2 => decide_eq_true (Int.lt_trans (of_decide_eq_true h1) (of_decide_eq_true h2))
  negTrans := fun _ _ _ h1 h2 => decide_eq_false (Int.not_lt.mpr
    (Int.le_trans (Int.not_lt.mp (of_decide_eq_false h2)) (Int.not_lt.mp (of_decide_eq_false h1))))

/-- lexicographic combination of a strict weak order with a tie-break -/
def lexLt {α : Type} (L T : α → α → Bool) (a b : α) : Bool := L a b || (!L a b && !L b a && T a b)

theorem lexLt_strictWeak {α : Type} (L T : α → α → Bool) (hL : StrictWeak L) (hT : StrictWeak T) :
    StrictWeak (lexLt L T) where
  irrefl := by intro a; simp [lexLt, hL.irrefl, hT.irrefl]
  trans := by
    intro a b c h1 h2
    simp only [lexLt, Bool.or_eq_true, Bool.and_eq_true, Bool.not_eq_true'] at h1 h2 ⊢
    rcases h1 with h1 | ⟨⟨h1a, h1b⟩, h1t⟩ <;> rcases h2 with h2 | ⟨⟨h2a, h2b⟩, h2t⟩
    · exact Or.inl (hL.trans _ _ _ h1 h2)
    · exact Or.inl (hL.lt_of_lt_of_ge h1 h2b)
    · exact Or.inl (hL.lt_of_ge_of_lt h1b h2)
    · right
      exact ⟨⟨hL.negTrans _ _ _ h1a h2a, hL.negTrans _ _ _ h2b h1b⟩, hT.trans _ _ _ h1t h2t⟩
  negTrans := by
    intro a b c h1 h2
    simp only [lexLt, Bool.or_eq_false_iff, Bool.and_eq_false_iff, Bool.not_eq_false'] at h1 h2 ⊢
    obtain ⟨h1l, h1r⟩ := h1
    obtain ⟨h2l, h2r⟩ := h2
    refine ⟨hL.negTrans _ _ _ h1l h2l, ?_⟩
    rcases h1r with (h1r | h1r) | h1r
    · rw [h1l] at h1r; cases h1r
    · exact Or.inl (Or.inr (hL.lt_of_ge_of_lt h2l h1r))
    · rcases h2r with (h2r | h2r) | h2r
      · rw [h2l] at h2r; cases h2r
      · exact Or.inl (Or.inr (hL.lt_of_lt_of_ge h2r h1l))
      · exact Or.inr (hT.negTrans _ _ _ h1r h2r)

section
variable {α : Type} {lt : α → α → Bool}

theorem insertBack_perm (lt : α → α → Bool) (x : α) (acc : List α) : (insertBack lt x acc).Perm (x :: acc) := by
  induction acc with
  | nil => simp [insertBack]
  | cons y ys ih =>
    simp only [insertBack]
    split
    · exact (List.Perm.cons y ih).trans (List.Perm.swap x y ys)
    · exact List.Perm.refl _

theorem insertionSortAux_perm (lt : α → α → Bool) (xs : List α) : ∀ acc,
    (insertionSortAux lt acc xs).Perm (acc.reverse ++ xs) := by
  induction xs with
  | nil => intro acc; simp [insertionSortAux]
  | cons x xs ih =>
    intro acc
    simp only [insertionSortAux]
    refine (ih _).trans ?_
    have h1 : (insertBack lt x acc).reverse.Perm (x :: acc.reverse) :=
      (List.reverse_perm _).trans ((insertBack_perm lt x acc).trans (List.Perm.cons x (List.reverse_perm acc).symm))
    exact (h1.append_right xs).trans List.perm_middle.symm

theorem insertionSort_perm (lt : α → α → Bool) (xs : List α) : (insertionSort lt xs).Perm xs := by
  simpa [insertionSort] using insertionSortAux_perm lt xs []

/-- the accumulator is kept in descending order -/
def DescSorted (lt : α → α → Bool) (acc : List α) : Prop := List.Pairwise (fun a b => lt a b = false) acc

theorem insertBack_desc (h : StrictWeak lt) (x : α) (acc : List α) (hs : DescSorted lt acc) :
    DescSorted lt (insertBack lt x acc) := by
  induction acc with
  | nil => simp [insertBack, DescSorted]
  | cons y ys ih =>
    have hy := List.pairwise_cons.mp hs
    simp only [insertBack]
    by_cases hxy : lt x y = true
    · simp only [hxy, if_true]
      refine List.pairwise_cons.mpr ⟨?_, ih hy.2⟩
      intro z hz
      have hz' := (insertBack_perm lt x ys).mem_iff.mp hz
      rcases List.mem_cons.mp hz' with rfl | hz''
      · exact h.asymm _ _ hxy
      · exact hy.1 z hz''
    · have hxy' : lt x y = false := by simpa using hxy
      simp only [hxy', Bool.false_eq_true, if_false]
      refine List.pairwise_cons.mpr ⟨?_, hs⟩
      intro z hz
      rcases List.mem_cons.mp hz with rfl | hz'
      · exact hxy'
      · exact h.negTrans x y z hxy' (hy.1 z hz')

theorem insertionSortAux_sorted (h : StrictWeak lt) (xs : List α) : ∀ acc, DescSorted lt acc →
    List.Pairwise (fun a b => lt b a = false) (insertionSortAux lt acc xs) := by
  induction xs with
  | nil =>
    intro acc hs
    simp only [insertionSortAux]
    exact List.pairwise_reverse.mpr hs
  | cons x xs ih =>
    intro acc hs
    simp only [insertionSortAux]
    exact ih _ (insertBack_desc h x acc hs)

/-- the result is ascending: no later element is `lt` an earlier one -/
theorem insertionSort_sorted (h : StrictWeak lt) (xs : List α) :
    List.Pairwise (fun a b => lt b a = false) (insertionSort lt xs) :=
  insertionSortAux_sorted h xs [] List.Pairwise.nil

/-- `a` and `v` are not ordered by `lt` either way -/
def equivB (lt : α → α → Bool) (v a : α) : Bool := !lt a v && !lt v a

theorem insertBack_filter_equiv (h : StrictWeak lt) (v x : α) (acc : List α) :
    (insertBack lt x acc).filter (equivB lt v) =
      if equivB lt v x then x :: acc.filter (equivB lt v) else acc.filter (equivB lt v) := by
  induction acc with
  | nil => cases hx : equivB lt v x <;> simp [insertBack, List.filter, hx]
  | cons y ys ih =>
    simp only [insertBack]
    by_cases hxy : lt x y = true
    · simp only [hxy, if_true, List.filter_cons, ih]
      by_cases hvy : equivB lt v y = true
      · -- then x is not equivalent to v (else x ~ y, contradicting x < y)
        have hvx : equivB lt v x = false := by
          cases hvx : equivB lt v x with
          | false => rfl
          | true =>
            exfalso
            simp only [equivB, Bool.and_eq_true, Bool.not_eq_true'] at hvy hvx
            have := h.negTrans x v y hvx.1 hvy.2
            rw [hxy] at this; cases this
        simp [hvy, hvx]
      · simp [hvy]
    · have hxy' : lt x y = false := by simpa using hxy
      simp only [hxy', Bool.false_eq_true, if_false, List.filter_cons]

/-- **stability**: elements that `lt` does not separate keep their arrival order -/
theorem insertionSortAux_stable (h : StrictWeak lt) (v : α) (xs : List α) : ∀ acc,
    (insertionSortAux lt acc xs).filter (equivB lt v) =
      (acc.filter (equivB lt v)).reverse ++ xs.filter (equivB lt v) := by
  induction xs with
  | nil => intro acc; simp [insertionSortAux, List.filter_reverse]
  | cons x xs ih =>
    intro acc
    simp only [insertionSortAux, ih, insertBack_filter_equiv h, List.filter_cons]
    by_cases hx : equivB lt v x = true <;> simp [hx]

theorem insertionSort_stable (h : StrictWeak lt) (v : α) (xs : List α) :
    (insertionSort lt xs).filter (equivB lt v) = xs.filter (equivB lt v) := by
  simpa [insertionSort] using insertionSortAux_stable h v xs []

/-! ### ranks in a sorted list -/

/-- in an ascending list, the element at index `i` has at most `i` elements `lt` it and
    more than `i` elements not above it -/
theorem sorted_rank (h : StrictWeak lt) (l : List α) (hs : List.Pairwise (fun a b => lt b a = false) l)
    (i : Nat) (x : α) (hx : l[i]? = some x) :
    l.countP (fun a => lt a x) ≤ i ∧ i < l.countP (fun a => !lt x a) := by
  induction l generalizing i with
  | nil => simp at hx
  | cons a l ih =>
    have ha := List.pairwise_cons.mp hs
    rw [List.countP_cons, List.countP_cons]
    cases i with
    | zero =>
      obtain rfl : a = x := by simpa using hx
      have : l.countP (fun b => lt b a) = 0 := List.countP_eq_zero.mpr fun b hb => by simp [ha.1 b hb]
      rw [this, h.irrefl]
      exact ⟨Nat.le_refl 0, Nat.succ_pos _⟩
    | succ i =>
      have hx' : l[i]? = some x := hx
      have := ih ha.2 i hx'
      rw [ha.1 x (List.mem_of_getElem? hx')]
      exact ⟨Nat.add_le_add this.1 (by split <;> decide), Nat.succ_lt_succ this.2⟩

/-- in an ascending list the elements `lt` does not separate from `x` come right after those
    below `x`: the element at index `i` is number `i − #below` among them -/
theorem sorted_equiv_index (h : StrictWeak lt) (l : List α) (hs : List.Pairwise (fun a b => lt b a = false) l)
    (i : Nat) (x : α) (hx : l[i]? = some x) :
    (l.filter (equivB lt x))[i - l.countP (fun a => lt a x)]? = some x := by
  induction l generalizing i with
  | nil => simp at hx
  | cons a l ih =>
    have ha := List.pairwise_cons.mp hs
    rw [List.countP_cons, List.filter_cons]
    cases i with
    | zero =>
      obtain rfl : a = x := by simpa using hx
      simp [equivB, h.irrefl]
    | succ i =>
      have hx' : l[i]? = some x := hx
      have hxa : lt x a = false := ha.1 x (List.mem_of_getElem? hx')
      have ih' := ih ha.2 i hx'
      cases hax : lt a x with
      | true =>
        simp only [equivB, hax, Bool.not_true, Bool.false_and, Bool.false_eq_true, if_false, if_true,
          Nat.add_sub_add_right]
        exact ih'
      | false =>
        -- `a` is not below `x`, so nothing after it is
        have : l.countP (fun b => lt b x) = 0 :=
          List.countP_eq_zero.mpr fun b hb => by simp [h.negTrans b a x (ha.1 b hb) hax]
        rw [this, Nat.sub_zero] at ih'
        simp only [equivB, hax, hxa, this, Bool.not_false, Bool.and_self, if_true, Bool.false_eq_true, if_false,
          Nat.add_zero, Nat.sub_zero, List.getElem?_cons_succ]
        exact ih'

end
end Influx.Reducers.Lemmas
