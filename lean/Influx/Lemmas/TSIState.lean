/-
  Lemmas.TSIState — the invariant of the whole index state (`GInvX`: series file, live set, one
  `PInvX` per partition, tag-value cache), the frame lemma for operations that map the partitions
  one by one, and what the invariant says of a live series.
-/
import Influx.Lemmas.TSIInvStruct

namespace Influx.Model.TSI

theorem modifyAt_eq_modify {α : Type} (l : List α) (i : Nat) (f : α → α) :
    modifyAt l i f = l.modify i f := by
  induction l generalizing i with
  | nil => cases i <;> rfl
  | cons x xs ih =>
    cases i with
    | zero => rfl
    | succ i => rw [modifyAt, List.modify_succ_cons, ih]

theorem getElem?_modifyAt {α : Type} (l : List α) (i j : Nat) (f : α → α) :
    (modifyAt l i f)[j]? = (l[j]?).map (fun x => if i = j then f x else x) := by
  rw [modifyAt_eq_modify, List.getElem?_modify]; rfl

theorem getElem?_markOpStart (parts : List Partition) (j : Nat) :
    (markOpStart parts)[j]? =
      (parts[j]?).map (fun p => { p with opStart := (p.files.head?.map (·.entries.length)).getD 0 }) :=
  List.getElem?_map

/-- `l'` is the image of `l` under `g`, position by position: the form in which `modifyAt`,
    `map` and their compositions are used. -/
theorem length_of_image {α : Type} {l l' : List α} {g : Nat → α → α}
    (h : ∀ i, l'[i]? = (l[i]?).map (g i)) : l'.length = l.length := by
  have : l' = l.mapIdx g := List.ext_getElem? (fun i => by rw [h, List.getElem?_mapIdx])
  rw [this, List.length_mapIdx]

theorem forall_of_image {α : Type} {l l' : List α} {g : Nat → α → α}
    (h : ∀ i, l'[i]? = (l[i]?).map (g i)) {P : Nat → α → Prop}
    (hp : ∀ i p, l[i]? = some p → P i (g i p)) : ∀ i p, l'[i]? = some p → P i p := by
  intro i p' hp'
  rw [h] at hp'
  obtain ⟨p, hq, rfl⟩ := Option.map_eq_some_iff.mp hp'
  exact hp i p hq

/-- an entry of `Index.tagValueCache` holds known series of that tag pair, and all the live ones. -/
def CacheOK (sf : SFile) (live : List Nat) (e : (String × String × String) × List Nat) : Prop :=
  (∀ x ∈ e.2, ∃ s, sf.find x = some s ∧ s.name = e.1.1 ∧ tagOf s.tags e.1.2.1 = some e.1.2.2) ∧
  (∀ id ∈ live, ∀ s, sf.find id = some s → s.name = e.1.1 → tagOf s.tags e.1.2.1 = some e.1.2.2 → id ∈ e.2)

/-- `exc`: measurements that may be listed without a live series, `pend`: ids dropped from the
    index whose series-file delete has not happened yet — both empty between operations. -/
structure GInvX (exc : String → Prop) (pend : List Nat) (st : State) (live : List Nat) : Prop where
  sfok : SFOK st.sf
  partlt : ∀ s ∈ st.sf.known, s.part < st.parts.length
  liveKnown : ∀ id ∈ live, (st.sf.find id).isSome
  liveUndel : ∀ id ∈ live, id ∉ st.sf.deleted
  deadDel : ∀ s ∈ st.sf.known, s.id ∉ live → s.id ∈ st.sf.deleted ∨ s.id ∈ pend
  delKnown : ∀ id ∈ st.sf.deleted, (st.sf.find id).isSome
  pinv : ∀ i p, st.parts[i]? = some p → PInvX exc st.sf live i p
  tracked : ∀ id, id ∈ st.tracked ↔ id ∈ live
  cache : ∀ e ∈ st.cache, CacheOK st.sf live e
  fresh : st.configured = false → st.sf.known = [] ∧ live = [] ∧ ∀ p ∈ st.parts, p = {}

abbrev GInv := GInvX (fun _ => False) []

theorem GInv.deadDel' {st : State} {live : List Nat} (h : GInv st live) :
    ∀ s ∈ st.sf.known, s.id ∉ live → s.id ∈ st.sf.deleted :=
  fun s hs hl => (h.deadDel s hs hl).resolve_right (nomatch ·)

theorem ginv_init : GInv {} [] where
  sfok := ⟨fun _ hs => (nomatch hs), fun _ hs => (nomatch hs)⟩
  partlt _ hs := nomatch hs
  liveKnown _ h := nomatch h
  liveUndel _ h := nomatch h
  deadDel _ hs := nomatch hs
  delKnown _ h := nomatch h
  pinv i p h := by
    obtain rfl : p = {} := List.eq_of_mem_singleton (List.mem_of_getElem? h)
    exact pinv_init _ i
  tracked _ := Iff.rfl
  cache _ h := nomatch h
  fresh _ := ⟨rfl, rfl, fun _ hp => List.eq_of_mem_singleton hp⟩

theorem GInvX.frame {exc exc' : String → Prop} {pend : List Nat} {st st' : State} {live : List Nat}
    (h : GInvX exc pend st live) (g : Nat → Partition → Partition)
    (hsf : st'.sf = st.sf) (htr : ∀ id, id ∈ st'.tracked ↔ id ∈ st.tracked) (hconf : st'.configured = true)
    (hparts : ∀ i, st'.parts[i]? = (st.parts[i]?).map (g i))
    (hp : ∀ i p, st.parts[i]? = some p → PInvX exc' st.sf live i (g i p))
    (hc : ∀ e ∈ st'.cache, CacheOK st.sf live e) : GInvX exc' pend st' live where
  sfok := by rw [hsf]; exact h.sfok
  partlt := by rw [hsf, length_of_image hparts]; exact h.partlt
  liveKnown := by rw [hsf]; exact h.liveKnown
  liveUndel := by rw [hsf]; exact h.liveUndel
  deadDel := by rw [hsf]; exact h.deadDel
  delKnown := by rw [hsf]; exact h.delKnown
  pinv := by rw [hsf]; exact forall_of_image hparts hp
  tracked id := (htr id).trans (h.tracked id)
  cache := by rw [hsf]; exact hc
  fresh hc' := by rw [hconf] at hc'; cases hc'

theorem GInvX.of_mem {exc : String → Prop} {pend : List Nat} {st : State} {live : List Nat}
    (h : GInvX exc pend st live) {p : Partition} (hp : p ∈ st.parts) :
    ∃ i, PInvX exc st.sf live i p := by
  obtain ⟨i, hi, rfl⟩ := List.getElem_of_mem hp
  exact ⟨i, h.pinv i _ (List.getElem?_eq_getElem hi)⟩

theorem GInvX.listed {exc : String → Prop} {pend : List Nat} {st : State} {live : List Nat}
    (h : GInvX exc pend st live) {x : Nat} {s : SeriesInfo} (hx : x ∈ live)
    (hs : st.sf.find x = some s) :
    ∃ p ∈ st.parts, PInvX exc st.sf live s.part p ∧ ∃ f ∈ p.files,
      x ∈ fileMeasSeries s.name f.data ∧
      ∀ k v, tagOf s.tags k = some v → x ∈ fileValSeries s.name k v f.data := by
  have hlt := h.partlt s (find_some_mem hs).1
  have hp := h.pinv s.part _ (List.getElem?_eq_getElem hlt)
  exact ⟨_, List.getElem_mem hlt, hp, hp.comp x s hx hs rfl⟩

theorem mem_datas {p : Partition} {d : FileData} : d ∈ p.datas ↔ ∃ f ∈ p.files, f.data = d :=
  List.mem_map

theorem nodup_of_tagsOK {tags : Tags} (h : tagsOK tags = true) : (tags.map (·.1)).Nodup := by
  unfold tagsOK at h
  simp only [Bool.and_eq_true, decide_eq_true_eq] at h
  have hp := h.2
  exact List.Pairwise.imp (fun hlt heq => by rw [heq] at hlt; exact (String.lt_irrefl _) hlt) hp

theorem find_append (sf : SFile) (new : SeriesInfo) (x : Nat) :
    ({ sf with known := sf.known ++ [new] } : SFile).find x =
      (sf.find x).or (if new.id = x then some new else none) := by
  unfold SFile.find
  simp only [List.find?_append, List.find?_singleton, decide_eq_true_eq]

end Influx.Model.TSI
