/-
  Lemmas.Toml — decimal printing/parsing (a digit loop computes `dval`), the V1 size
  patterns and the 64-bit overflow tests of `Model.Toml`.
-/
import Influx.Model.Toml

namespace Influx.Lemmas.Toml
open Influx.Model.Toml

theorem digitChar_spec : ∀ d, d < 10 → isDigit (digitChar d) = true ∧ digitVal (digitChar d) = d := by decide

theorem fmtNat_all_digits (n : Nat) : (fmtNat n).all isDigit = true := by
  induction n using fmtNat.induct with
  | case1 n h => rw [fmtNat, if_pos h]; simp [(digitChar_spec n h).1]
  | case2 n h ih =>
    rw [fmtNat, if_neg h]
    simp [ih, (digitChar_spec (n % 10) (by omega)).1]

theorem fmtNat_ne_nil (n : Nat) : fmtNat n ≠ [] := by
  rw [fmtNat]; split <;> simp

end Influx.Lemmas.Toml

namespace Influx.Lemmas.Duration
open Influx.Model.Toml Influx.Lemmas.Toml

def dval (l : Bytes) (x : Nat) : Nat := l.foldl (fun a c => a * 10 + digitVal c) x

theorem dval_nil (x : Nat) : dval [] x = x := by simp [dval]
theorem dval_cons (c : UInt8) (l : Bytes) (x : Nat) : dval (c :: l) x = dval l (x * 10 + digitVal c) := by simp [dval]
theorem dval_append (l : Bytes) (c : UInt8) (x : Nat) : dval (l ++ [c]) x = dval l x * 10 + digitVal c := by
  simp [dval, List.foldl_append]

theorem dval_ge (l : Bytes) (x : Nat) : x ≤ dval l x := by
  induction l generalizing x with
  | nil => exact Nat.le_refl _
  | cons c l ih => rw [dval_cons]; have := ih (x * 10 + digitVal c); omega

theorem dval_fmtNat (n : Nat) : dval (fmtNat n) 0 = n := by
  induction n using fmtNat.induct with
  | case1 n h => rw [fmtNat, if_pos h]; simp [dval, (digitChar_spec n h).2]
  | case2 n h ih =>
    rw [fmtNat, if_neg h, dval_append, ih, (digitChar_spec (n % 10) (by omega)).2]; omega

end Influx.Lemmas.Duration

namespace Influx.Lemmas.Toml
open Influx.Model.Toml Influx.Lemmas.Duration

/-- a digit loop with an accumulator: while the value stays within the loop's bound `B`, reading the
    digits `l` takes the accumulator from `x` to `dval l x` (and a digit count from `k` to `k + l.length`).
    Instances: the loop of `strconv.ParseUint` below, `leadingInt` and `leadingFraction` in `Lemmas.Duration`. -/
theorem digit_loop {β : Type} (go : Bytes → Nat → Nat → β) (B : Nat)
    (step : ∀ c cs x k, isDigit c = true → x * 10 + digitVal c ≤ B →
      go (c :: cs) x k = go cs (x * 10 + digitVal c) (k + 1))
    (l R : Bytes) (x k : Nat) (hl : l.all isDigit = true) (hb : dval l x ≤ B) :
    go (l ++ R) x k = go R (dval l x) (k + l.length) := by
  induction l generalizing x k with
  | nil => rfl
  | cons c l ih =>
    simp only [List.all_cons, Bool.and_eq_true] at hl
    rw [dval_cons] at hb ⊢
    rw [List.cons_append, step c _ x k hl.1 (Nat.le_trans (dval_ge l _) hb), ih _ _ hl.2 hb, List.length_cons,
      Nat.add_right_comm, Nat.add_assoc]

theorem foldlM_digits (l : Bytes) (x : Nat) (hl : l.all isDigit = true) (hb : dval l x < 2 ^ 64) :
    l.foldlM parseUintStep x = some (dval l x) := by
  have h := digit_loop (fun s x _ => s.foldlM parseUintStep x) (2 ^ 64 - 1) (fun c cs x _ hc hx => by
    show (c :: cs).foldlM parseUintStep x = _
    rw [List.foldlM_cons, parseUintStep, if_neg (by simp [hc]), if_neg (by unfold cutoff10; omega), if_neg (by omega)]
    rfl) l [] x 0 hl (by omega)
  simpa using h

/-- `strconv.ParseUint(strconv.FormatUint(n, 10), 10, 64) = n` for every uint64 -/
theorem parseUint10_fmtNat (n : Nat) (h : n < 2 ^ 64) : parseUint10 (fmtNat n) = some n := by
  unfold parseUint10
  rw [if_neg (by simp [fmtNat_ne_nil]), foldlM_digits _ _ (fmtNat_all_digits n) (by rw [dval_fmtNat]; exact h), dval_fmtNat]

theorem fmtNat_head (n : Nat) : ∃ c rest, fmtNat n = c :: rest ∧ isDigit c = true := by
  have h := fmtNat_all_digits n
  cases hf : fmtNat n with
  | nil => exact absurd hf (fmtNat_ne_nil n)
  | cons c rest =>
    rw [hf] at h
    simp only [List.all_cons, Bool.and_eq_true] at h
    exact ⟨c, rest, rfl, h.1⟩

theorem digit_not_sign (c : UInt8) (h : isDigit c = true) : (c == 43) = false ∧ (c == 45) = false := by
  constructor <;>
  · apply Bool.eq_false_iff.mpr
    intro e
    rw [eq_of_beq e] at h
    exact absurd h (by decide)

/-- what the sign tests of the readers meet in a printed `int64`: a `-`, or a first digit that is no sign -/
theorem fmtInt_cases (i : Int) :
    (i < 0 ∧ fmtInt i = 45 :: fmtNat (-i).toNat) ∨
    (0 ≤ i ∧ fmtInt i = fmtNat i.toNat ∧
      ∃ c rest, fmtNat i.toNat = c :: rest ∧ (c == 43) = false ∧ (c == 45) = false) := by
  unfold fmtInt
  split
  · next h => exact .inl ⟨h, rfl⟩
  · next h =>
    obtain ⟨c, rest, hf, hc⟩ := fmtNat_head i.toNat
    exact .inr ⟨by omega, rfl, c, rest, hf, digit_not_sign c hc⟩

/-- `strconv.ParseInt(strconv.FormatInt(i, 10), 10, 64) = i` for every int64 -/
theorem parseInt10_fmtInt (i : Int) (h : -(2 ^ 63 : Int) ≤ i ∧ i < 2 ^ 63) : parseInt10 (fmtInt i) = some i := by
  rcases fmtInt_cases i with ⟨hneg, hf⟩ | ⟨hpos, hf, c, rest, hc, h43, h45⟩
  · have hu : (-i).toNat ≤ 2 ^ 63 := by omega
    rw [hf]
    simp only [parseInt10, beq_self_eq_true, Bool.or_true, if_true,
      parseUint10_fmtNat _ (Nat.lt_of_le_of_lt hu (by decide)), Bool.not_true, Bool.false_and, Bool.false_eq_true,
      if_false, Bool.true_and, decide_eq_true_eq, Nat.not_lt.mpr hu]
    exact congrArg some (by omega)
  · have hu : i.toNat < 2 ^ 63 := by omega
    have hp := parseUint10_fmtNat i.toNat (Nat.lt_trans hu (by decide))
    rw [hf]
    rw [hc] at hp ⊢
    simp only [parseInt10, h43, h45, Bool.or_self, Bool.false_eq_true, if_false, hp, Bool.not_false, Bool.true_and,
      decide_eq_true_eq, Nat.not_le.mpr hu, Bool.false_and, Int.toNat_of_nonneg hpos]

theorem takeWhile_append_stop {α} (p : α → Bool) (l r : List α) (hl : l.all p = true)
    (hr : ∀ c, r.head? = some c → p c = false) : (l ++ r).takeWhile p = l ∧ (l ++ r).dropWhile p = r := by
  induction l with
  | nil =>
    cases r with
    | nil => simp
    | cons c r => simp [hr c rfl]
  | cons a l ih =>
    simp only [List.all_cons, Bool.and_eq_true] at hl
    simp [hl.1, ih hl.2]

/-- **the unsigned overflow test of `unmarshalSizeV1` is exact**: `result/mult == n` iff `n*mult` fits -/
theorem overflowU_exact (n mult : Nat) (hm : 0 < mult) :
    (wrapU (n * mult) / mult = n) ↔ n * mult < 2 ^ 64 := by
  unfold wrapU
  constructor
  · intro h
    by_cases hlt : n * mult < 2 ^ 64
    · exact hlt
    · exfalso
      have h1 : n * mult % 2 ^ 64 < n * mult := by omega
      have h2 : n * mult % 2 ^ 64 / mult < n := by
        apply (Nat.div_lt_iff_lt_mul hm).mpr; exact h1
      omega
  · intro h
    rw [Nat.mod_eq_of_lt h]
    exact Nat.mul_div_cancel n hm

theorem wrapS_small (p : Int) (h : -(2 ^ 63 : Int) ≤ p ∧ p < 2 ^ 63) : wrapS p = p := by unfold wrapS; omega

/-- **the signed overflow test is exact** for every positive multiplier up to 2^64 (Go's truncating `/`
    on the two's-complement product `r`): `r = mult * (r / mult) + r % mult` with `|r % mult| < mult`, so
    `r / mult = n` makes `r - n * mult` a multiple of 2^64 of absolute value below 2^64. -/
theorem overflowS_exact (n mult : Int) (hm : 0 < mult) (hm' : mult ≤ 2 ^ 64) :
    ((wrapS (n * mult)).tdiv mult = n) ↔ (-(2 ^ 63 : Int) ≤ n * mult ∧ n * mult < 2 ^ 63) := by
  constructor
  · intro h
    have h1 := Int.tmod_add_tdiv_mul (wrapS (n * mult)) mult
    have h2 := Int.tmod_lt_of_pos (wrapS (n * mult)) hm
    have h3 := Int.lt_tmod_of_pos (wrapS (n * mult)) hm
    rw [h] at h1
    unfold wrapS at h1 h2 h3
    omega
  · intro h
    rw [wrapS_small _ h]
    exact Int.mul_tdiv_cancel n (Int.ne_of_gt hm)

theorem bareMult_cases (suf : Option UInt8) :
    bareMult suf = 1 ∨ bareMult suf = 2 ^ 10 ∨ bareMult suf = 2 ^ 20 ∨ bareMult suf = 2 ^ 30 := by
  unfold bareMult
  cases suf with
  | none => simp
  | some c =>
    dsimp only
    repeat' split
    all_goals simp

theorem bareMult_pos (suf : Option UInt8) : 0 < bareMult suf := by have := bareMult_cases suf; omega

theorem fastU_fmtNat (q : Nat) (suf : Option UInt8) (hq : q < 2 ^ 64) :
    fastU (fmtNat q) suf = if q * bareMult suf < 2 ^ 64 then some (q * bareMult suf) else none := by
  have hm := bareMult_pos suf
  unfold fastU
  rw [parseUint10_fmtNat q hq]
  simp only [overflowU_exact q _ hm, ite_not]
  split
  · next h => rw [wrapU, Nat.mod_eq_of_lt h]
  · rfl

theorem matchSizeV1_fmtNat (q : Nat) (r : Bytes) (hr : ∀ c, r.head? = some c → isDigit c = false) :
    matchSizeV1 (fmtNat q ++ r) = (matchTail r).map fun suf => (fmtNat q, suf) := by
  obtain ⟨h1, h2⟩ := takeWhile_append_stop isDigit (fmtNat q) r (fmtNat_all_digits q) hr
  simp [matchSizeV1, h1, h2, fmtNat_ne_nil]

theorem unmarshalV1U_fmtNat (q : Nat) (r : Bytes) (suf : Option UInt8)
    (hr : ∀ c, r.head? = some c → isDigit c = false) (ht : matchTail r = some suf)
    (h : q * bareMult suf < 2 ^ 64) : unmarshalV1U (fmtNat q ++ r) = .ok (q * bareMult suf) := by
  have hq : q < 2 ^ 64 := Nat.lt_of_le_of_lt (Nat.le_mul_of_pos_right q (bareMult_pos suf)) h
  rw [unmarshalV1U, matchSizeV1_fmtNat q r hr, ht]
  simp only [Option.map, fastU_fmtNat q suf hq, if_pos h, Res.ofOption]

/-- the branch of `marshalSizeV1` that writes `x / M` and the letter for `M` -/
theorem v1u_suffix_case (x M : Nat) (c : UInt8) (hc : isDigit c = false) (ht : matchTail [c] = some (some c))
    (hM : bareMult (some c) = M) (h : x % M = 0) (hx : x < 2 ^ 64) :
    unmarshalV1U (fmtNat (x / M) ++ [c]) = .ok x := by
  have hq : x / M * bareMult (some c) = x := by rw [hM]; exact Nat.div_mul_cancel (Nat.dvd_of_mod_eq_zero h)
  rw [unmarshalV1U_fmtNat _ _ _ (by simp [hc]) ht (by rw [hq]; exact hx), hq]

theorem v1u_roundtrip (x : Nat) (hx : x < 2 ^ 64) : unmarshalV1U (marshalV1U x) = .ok x := by
  unfold marshalV1U
  split
  · next h => exact v1u_suffix_case x _ _ (by decide) (by decide) (by decide) h.2 hx
  · split
    · next h => exact v1u_suffix_case x _ _ (by decide) (by decide) (by decide) h.2 hx
    · split
      · next h => exact v1u_suffix_case x _ _ (by decide) (by decide) (by decide) h.2 hx
      · have := unmarshalV1U_fmtNat x [] none (by simp) rfl (by simpa [bareMult] using hx)
        simpa [bareMult] using this

theorem matchSSizeV1_fmtInt (q : Int) (r : Bytes) (hr : ∀ c, r.head? = some c → isDigit c = false) :
    matchSSizeV1 (fmtInt q ++ r) = (matchTail r).map fun suf => (fmtInt q, suf) := by
  rcases fmtInt_cases q with ⟨_, hf⟩ | ⟨_, hf, c, rest, hc, h43, h45⟩
  · obtain ⟨h1, h2⟩ := takeWhile_append_stop isDigit (fmtNat (-q).toNat) r (fmtNat_all_digits _) hr
    rw [hf]
    simp [matchSSizeV1, h1, h2, fmtNat_ne_nil]
  · obtain ⟨h1, h2⟩ := takeWhile_append_stop isDigit (fmtNat q.toNat) r (fmtNat_all_digits _) hr
    rw [hf]
    rw [hc, List.cons_append] at h1 h2 ⊢
    simp [matchSSizeV1, h43, h45, h1, h2]

theorem fastS_fmtInt (q : Int) (suf : Option UInt8) (hq : -(2 ^ 63 : Int) ≤ q ∧ q < 2 ^ 63)
    (h : -(2 ^ 63 : Int) ≤ q * (bareMult suf : Int) ∧ q * (bareMult suf : Int) < 2 ^ 63) :
    fastS (fmtInt q) suf = some (q * (bareMult suf : Int)) := by
  have hm := bareMult_cases suf
  unfold fastS
  rw [parseInt10_fmtInt q hq]
  simp only
  rw [if_neg (by rw [Decidable.not_not]; exact (overflowS_exact q _ (by omega) (by omega)).mpr h), wrapS_small _ h]

theorem unmarshalV1S_fmtInt (q : Int) (r : Bytes) (suf : Option UInt8)
    (hr : ∀ c, r.head? = some c → isDigit c = false) (ht : matchTail r = some suf)
    (hq : -(2 ^ 63 : Int) ≤ q ∧ q < 2 ^ 63)
    (h : -(2 ^ 63 : Int) ≤ q * (bareMult suf : Int) ∧ q * (bareMult suf : Int) < 2 ^ 63) :
    unmarshalV1S (fmtInt q ++ r) = .ok (q * (bareMult suf : Int)) := by
  rw [unmarshalV1S, matchSSizeV1_fmtInt q r hr, ht]
  simp only [Option.map, fastS_fmtInt q suf hq h, Res.ofOption]

theorem tdiv_range (x M : Int) (hM : 0 < M) (hx : -(2 ^ 63 : Int) ≤ x ∧ x < 2 ^ 63) :
    -(2 ^ 63 : Int) ≤ x.tdiv M ∧ x.tdiv M < 2 ^ 63 := by
  have h1 := Int.natAbs_tdiv_le_natAbs x M
  have h2 : x < 0 → x.tdiv M ≤ 0 := fun hneg =>
    Int.neg_nonneg.mp (Int.neg_tdiv x M ▸ Int.tdiv_nonneg (Int.neg_nonneg.mpr (Int.le_of_lt hneg)) (Int.le_of_lt hM))
  omega

theorem v1s_suffix_case (x : Int) (M : Nat) (c : UInt8) (hc : isDigit c = false)
    (ht : matchTail [c] = some (some c)) (hM : bareMult (some c) = M) (hM0 : 0 < M)
    (h : x.tmod M = 0) (hx : -(2 ^ 63 : Int) ≤ x ∧ x < 2 ^ 63) :
    unmarshalV1S (fmtInt (x.tdiv M) ++ [c]) = .ok x := by
  have hq : x.tdiv M * (bareMult (some c) : Int) = x := by rw [hM]; exact Int.tdiv_mul_cancel_of_tmod_eq_zero h
  rw [unmarshalV1S_fmtInt _ _ _ (by simp [hc]) ht (tdiv_range x M (by omega) hx) (by rw [hq]; exact hx), hq]

theorem v1s_roundtrip (x : Int) (hx : -(2 ^ 63 : Int) ≤ x ∧ x < 2 ^ 63) : unmarshalV1S (marshalV1S x) = .ok x := by
  unfold marshalV1S
  split
  · next h => exact v1s_suffix_case x (2 ^ 30) _ (by decide) (by decide) (by decide) (by decide) h.2 hx
  · split
    · next h => exact v1s_suffix_case x (2 ^ 20) _ (by decide) (by decide) (by decide) (by decide) h.2 hx
    · split
      · next h => exact v1s_suffix_case x (2 ^ 10) _ (by decide) (by decide) (by decide) (by decide) h.2 hx
      · have := unmarshalV1S_fmtInt x [] none (by simp) rfl hx (by simpa [bareMult] using hx)
        simpa [bareMult] using this

/-! ### SizeV2 / SSizeV2 (with the digits fast path of fixes/C34-sizev2-exact-integers.patch) -/

theorem v2u_digits (x : Nat) (hx : x < 2 ^ 64) : unmarshalV2U (fmtNat x) = .ok x := by
  unfold unmarshalV2U
  rw [if_pos (by simp [fmtNat_all_digits, fmtNat_ne_nil]), parseUint10_fmtNat x hx]
  rfl

theorem v2s_digits (x : Int) (hx : -(2 ^ 63 : Int) ≤ x ∧ x < 2 ^ 63) : unmarshalV2S (fmtInt x) = .ok x := by
  have hp := parseInt10_fmtInt x hx
  unfold unmarshalV2S
  rcases fmtInt_cases x with ⟨_, hf⟩ | ⟨_, hf, c, rest, hc, _, h45⟩
  · rw [hf] at hp ⊢
    simp [fmtNat_all_digits, fmtNat_ne_nil, hp, Res.ofOption]
  · have hall := fmtNat_all_digits x.toNat
    rw [hf] at hp ⊢
    rw [hc] at hp hall ⊢
    simp [h45, hall, hp, Res.ofOption]

theorem fmtInt_ofNat (x : Nat) : fmtInt (x : Int) = fmtNat x := by
  unfold fmtInt
  rw [if_neg (by omega)]
  simp

theorem toml_v2u (x : Nat) (hx : x ≤ 2 ^ 63 - 1) : tomlRoundTripV2U x = .ok x := by
  unfold tomlRoundTripV2U
  rw [if_neg (by omega), fmtInt_ofNat, v2u_digits x (by omega)]

/-- a `Size` above MaxInt64 cannot be read back through TOML: the integer is out of int64 range -/
theorem toml_v2u_above (x : Nat) (hx : x > 2 ^ 63 - 1) : tomlRoundTripV2U x = .err := by
  unfold tomlRoundTripV2U
  rw [if_pos hx]

theorem toml_v2s (x : Int) (hx : -(2 ^ 63 : Int) ≤ x ∧ x < 2 ^ 63) : tomlRoundTripV2S x = .ok x :=
  v2s_digits x hx

end Influx.Lemmas.Toml
