/-
  Lemmas.TsmBlocks — every block of the serialised file is read back, checksum and bytes,
  through its index entry (`mmapAccessor.readBytes`).
-/
import Influx.Lemmas.TsmRoundtrip

namespace Influx.Tsm
open Influx.Generated.TsmLayout

theorem readBytes_at (pre d post : Bytes) (c : Nat) (hc : c < 4294967296) (mn mx : Int) :
    readBytes (pre ++ (be 4 c ++ d) ++ post) ⟨mn, mx, (pre.length : Nat), 4 + d.length⟩ = some (c, d) := by
  have hlen : (pre ++ (be 4 c ++ d) ++ post).length = pre.length + (4 + d.length) + post.length := by
    rw [List.length_append, List.length_append, List.length_append, be_length]
  unfold readBytes
  dsimp only
  rw [if_neg (Int.not_lt.mpr (Int.natCast_nonneg _)), if_neg (by rw [hlen]; omega), Int.toNat_natCast,
    List.append_assoc, List.drop_left' rfl, List.append_assoc, unbe_take_be 4 c _ (by rw [pow4]; exact hc),
    ← List.drop_drop, List.drop_left' rfl, drop_be, Nat.add_sub_cancel_left, List.take_left' rfl]

theorem readBytes_blocks (crc : Bytes → Nat) (hcrc : ∀ d, crc d < 4294967296) (bs : List Blk) :
    ∀ (pre post : Bytes),
      (layoutBlocks pre.length bs).map (readBytes (pre ++ encBlocks crc bs ++ post)) =
        bs.map fun b => some (crc b.data, b.data) := by
  induction bs with
  | nil => intro pre post; rfl
  | cons b bs ih =>
    intro pre post
    have hfile : pre ++ encBlocks crc (b :: bs) ++ post =
        pre ++ (be 4 (crc b.data) ++ b.data) ++ (encBlocks crc bs ++ post) := by
      rw [encBlocks, List.flatMap_cons, ← List.append_assoc, List.append_assoc]; rfl
    have htail := ih (pre ++ (be 4 (crc b.data) ++ b.data)) post
    rw [List.length_append, List.length_append, be_length, ← Nat.add_assoc, List.append_assoc (pre ++ _),
      ← hfile] at htail
    rw [layoutBlocks, List.map_cons, List.map_cons, htail, hfile,
      readBytes_at pre b.data _ (crc b.data) (hcrc _) b.minT b.maxT]

def allBlocks (kbs : List (Key × List Blk)) : List Blk := kbs.flatMap (·.2)

theorem readBytes_keys (crc : Bytes → Nat) (hcrc : ∀ d, crc d < 4294967296) (kbs : List (Key × List Blk)) :
    ∀ (pre post : Bytes),
      ((layout pre.length kbs).flatMap (·.entries)).map
          (readBytes (pre ++ (kbs.flatMap fun kb => encBlocks crc kb.2) ++ post)) =
        (allBlocks kbs).map fun b => some (crc b.data, b.data) := by
  induction kbs with
  | nil => intro pre post; rfl
  | cons kb kbs ih =>
    obtain ⟨k, bs⟩ := kb
    intro pre post
    have hfile : pre ++ (((k, bs) :: kbs).flatMap fun kb => encBlocks crc kb.2) ++ post =
        pre ++ encBlocks crc bs ++ ((kbs.flatMap fun kb => encBlocks crc kb.2) ++ post) := by
      rw [List.flatMap_cons, ← List.append_assoc, List.append_assoc]
    have hhead := readBytes_blocks crc hcrc bs pre ((kbs.flatMap fun kb => encBlocks crc kb.2) ++ post)
    have htail := ih (pre ++ encBlocks crc bs) post
    rw [List.length_append, encBlocks_length, List.append_assoc (pre ++ _), ← hfile] at htail
    rw [← hfile] at hhead
    generalize pre ++ (((k, bs) :: kbs).flatMap fun kb => encBlocks crc kb.2) ++ post = file at hhead htail ⊢
    rw [layout, List.flatMap_cons, List.map_append, allBlocks, List.flatMap_cons, List.map_append, hhead]
    exact congrArg _ htail

theorem readBytes_serialise (crc : Bytes → Nat) (hcrc : ∀ d, crc d < 4294967296) (kbs : List (Key × List Blk)) :
    ((layout 5 kbs).flatMap (·.entries)).map (readBytes (serialise crc kbs)) =
      (allBlocks kbs).map fun b => some (crc b.data, b.data) := by
  have := readBytes_keys crc hcrc kbs header
    ((layout header.length kbs).flatMap encKeyEntry ++
      be 8 (header.length + (kbs.flatMap fun kb => encBlocks crc kb.2).length))
  rw [header_length] at this
  rw [← this, serialise, header_length, List.append_assoc (header ++ _)]

end Influx.Tsm
