/-
  Lemmas.C36IDSet — the id-set model (strictly ascending lists) implements finite-set
  algebra: membership characterisations of the operations, the canonical form `canon` of the
  statement as the one ascending list with given members (`eq_canon`), and the simulation
  between `stepS` (model) and `checkS` (statement) for ids below 2^32: every register of the
  model holds `canon` of the statement's register.
-/
import Influx.Lemmas.C36List

namespace Influx.IDSet

abbrev Sorted (s : List Nat) : Prop := s.Pairwise (· < ·)

theorem mem_ins (x y : Nat) (s : Set) : y ∈ ins x s ↔ y = x ∨ y ∈ s := by
  induction s with
  | nil => exact ⟨fun h => Or.inl (List.mem_singleton.mp h), fun h => h.elim List.mem_singleton.mpr fun h => nomatch h⟩
  | cons z zs ih =>
    rw [ins]
    by_cases h1 : x < z
    · rw [if_pos h1]; exact List.mem_cons
    · rw [if_neg h1]
      by_cases h2 : x = z
      · rw [if_pos h2, List.mem_cons, ← h2, ← or_assoc, or_self]
      · rw [if_neg h2, List.mem_cons, ih, List.mem_cons]; exact or_left_comm

theorem ins_sorted (x : Nat) (s : Set) (h : Sorted s) : Sorted (ins x s) := by
  induction s with
  | nil => exact List.pairwise_singleton _ _
  | cons z zs ih =>
    have hz := List.pairwise_cons.mp h
    rw [ins]
    by_cases h1 : x < z
    · rw [if_pos h1]
      refine List.pairwise_cons.mpr ⟨fun a ha => ?_, h⟩
      rcases List.mem_cons.mp ha with rfl | ha
      · exact h1
      · exact Nat.lt_trans h1 (hz.1 a ha)
    · rw [if_neg h1]
      by_cases h2 : x = z
      · rw [if_pos h2]; exact h
      · rw [if_neg h2]
        refine List.pairwise_cons.mpr ⟨fun a ha => ?_, ih hz.2⟩
        rcases (mem_ins x a zs).mp ha with rfl | ha
        · exact Nat.lt_of_le_of_ne (Nat.le_of_not_lt h1) (Ne.symm h2)
        · exact hz.1 a ha

theorem sorted_ext (a b : List Nat) (ha : Sorted a) (hb : Sorted b) (h : ∀ x, x ∈ a ↔ x ∈ b) : a = b :=
  C36.pairwise_ext (fun _ _ => Nat.lt_asymm) a b ha hb h

/-- inserting the images of a list one after the other (`union`, `addMany`) -/
theorem foldl_ins_sorted (g : Nat → Nat) (xs : List Nat) (s : Set) (h : Sorted s) :
    Sorted (xs.foldl (fun acc x => ins (g x) acc) s) := by
  induction xs generalizing s with
  | nil => exact h
  | cons x xs ih => exact ih _ (ins_sorted _ s h)

theorem mem_foldl_ins (g : Nat → Nat) (xs : List Nat) (s : Set) (y : Nat) :
    y ∈ xs.foldl (fun acc x => ins (g x) acc) s ↔ y ∈ s ∨ ∃ x ∈ xs, y = g x := by
  induction xs generalizing s with
  | nil => exact ⟨Or.inl, fun h => h.elim id fun ⟨_, hx, _⟩ => nomatch hx⟩
  | cons x xs ih =>
    rw [List.foldl_cons, ih, mem_ins]
    constructor
    · rintro ((h | h) | ⟨x', h1, h2⟩)
      · exact Or.inr ⟨x, List.mem_cons_self, h⟩
      · exact Or.inl h
      · exact Or.inr ⟨x', List.mem_cons_of_mem _ h1, h2⟩
    · rintro (h | ⟨x', h1, h2⟩)
      · exact Or.inl (Or.inr h)
      · rcases List.mem_cons.mp h1 with rfl | h1
        · exact Or.inl (Or.inl h2)
        · exact Or.inr ⟨x', h1, h2⟩

theorem union_sorted (a b : Set) (h : Sorted a) : Sorted (union a b) := foldl_ins_sorted id b a h

theorem mem_union (a b : Set) (y : Nat) : y ∈ union a b ↔ y ∈ a ∨ y ∈ b :=
  (mem_foldl_ins id b a y).trans (or_congr_right ⟨fun ⟨_, hx, he⟩ => he ▸ hx, fun h => ⟨y, h, rfl⟩⟩)

theorem addMany_sorted (s : Set) (ids : List Nat) (h : Sorted s) : Sorted (addMany s ids) :=
  foldl_ins_sorted norm ids s h

theorem mem_addMany (s : Set) (ids : List Nat) (y : Nat) :
    y ∈ addMany s ids ↔ y ∈ s ∨ ∃ id ∈ ids, y = norm id := mem_foldl_ins norm ids s y

theorem norm_small {id : Nat} (h : id < 2 ^ 32) : norm id = id := Nat.mod_eq_of_lt h

end Influx.IDSet

namespace Influx.Spec.C36
open Influx.IDSet

theorem insNat_eq (x : Nat) (s : List Nat) : insNat x s = IDSet.ins x s := by
  induction s with
  | nil => rfl
  | cons y ys ih => rw [insNat, IDSet.ins, ih]

theorem canon_cons (x : Nat) (s : List Nat) : canon (x :: s) = IDSet.ins x (canon s) := insNat_eq x _

theorem canon_sorted (s : List Nat) : Sorted (canon s) := by
  induction s with
  | nil => exact List.Pairwise.nil
  | cons x xs ih => rw [canon_cons]; exact ins_sorted x _ ih

theorem mem_canon (s : List Nat) (y : Nat) : y ∈ canon s ↔ y ∈ s := by
  induction s with
  | nil => exact Iff.rfl
  | cons x xs ih => rw [canon_cons, mem_ins, ih, List.mem_cons]

theorem eq_canon (m s : List Nat) (hm : Sorted m) (h : ∀ y, y ∈ m ↔ y ∈ s) : m = canon s :=
  sorted_ext _ _ hm (canon_sorted s) (fun y => by rw [h, mem_canon])

theorem filter_canon (a : List Nat) (p q : Nat → Bool) (hpq : ∀ x, p x = q x) :
    (canon a).filter p = canon (a.filter q) :=
  eq_canon _ _ ((canon_sorted a).filter _) fun y => by
    rw [List.mem_filter, List.mem_filter, mem_canon, hpq]

theorem contains_canon (a : List Nat) (x : Nat) : (canon a).contains x = a.contains x := by
  rw [List.contains_eq_mem, List.contains_eq_mem, decide_eq_decide, mem_canon]

theorem any_canon (a : List Nat) (p : Nat → Bool) : (canon a).any p = a.any p := by
  rw [Bool.eq_iff_iff, List.any_eq_true, List.any_eq_true]
  exact exists_congr fun x => and_congr_left fun _ => mem_canon a x

theorem union_canon (a b : List Nat) : IDSet.union (canon a) (canon b) = canon (b ++ a) :=
  eq_canon _ _ (union_sorted _ _ (canon_sorted a)) fun y => by
    rw [mem_union, mem_canon, mem_canon, List.mem_append, or_comm]

theorem merge_canon (s : List Nat) (os : List (List Nat)) :
    IDSet.merge (canon s) (os.map canon) = canon (os.foldl (fun acc o => o ++ acc) s) := by
  induction os generalizing s with
  | nil => rfl
  | cons o os ih =>
    rw [List.map_cons, IDSet.merge, List.foldl_cons, union_canon]
    exact ih (o ++ s)

theorem addMany_canon (a ids : List Nat) (h : ∀ id ∈ ids, id < 2 ^ 32) :
    IDSet.addMany (canon a) ids = canon (ids ++ a) :=
  eq_canon _ _ (addMany_sorted _ _ (canon_sorted a)) fun y => by
    rw [mem_addMany, mem_canon, List.mem_append, or_comm]
    exact or_congr_left ⟨fun ⟨id, h1, h2⟩ => by rw [h2, norm_small (h id h1)]; exact h1,
      fun hy => ⟨y, hy, (norm_small (h y hy)).symm⟩⟩

theorem big_false {id : Nat} (h : id < 2 ^ 32) : big id = false :=
  decide_eq_false (Nat.not_le_of_lt h)

theorem anyBig_false {ids : List Nat} (h : ∀ id ∈ ids, id < 2 ^ 32) : ids.any big = false :=
  List.any_eq_false.mpr fun id hid => Bool.eq_false_iff.mp (big_false (h id hid))

end Influx.Spec.C36

namespace Influx.C36
open Influx.Spec.C36 Influx.IDSet

def SOp.WF : SOp → Prop
  | .new _ ids => ∀ id ∈ ids, id < 2 ^ 32
  | .add _ id => id < 2 ^ 32
  | .addMany _ ids => ∀ id ∈ ids, id < 2 ^ 32
  | .rem _ id => id < 2 ^ 32
  | .has _ id => id < 2 ^ 32
  | _ => True

structure RS (ss : List IDSet.Set) (sp : SSpec) : Prop where
  len : ss.length = nReg
  rel : RegRel (fun m a => m = canon a) ss sp.sets
  small : sp.big = false

theorem RS_init : RS (List.replicate nReg []) {} :=
  ⟨List.length_replicate, RegRel.replicate nReg rfl, rfl⟩

theorem RS.lookup {ss sp} (h : RS ss sp) (r : Nat) :
    (∃ a, ss[r]? = some (canon a) ∧ sp.sets[r]? = some a ∧ r < nReg) ∨ (ss[r]? = none ∧ sp.sets[r]? = none) := by
  cases hs : ss[r]? with
  | none => exact Or.inr ⟨rfl, h.rel.get_none hs⟩
  | some m =>
    obtain ⟨a, ha, rfl⟩ := h.rel.get hs
    exact Or.inl ⟨a, rfl, ha, h.len ▸ (List.getElem?_eq_some_iff.mp hs).1⟩

theorem RS.upd {ss sets} (h : RS ss ⟨sets, false⟩) {r : Nat} (hr : r < nReg) {m a : List Nat} (hma : m = canon a) :
    (updS ⟨sets, false⟩ .ok r a).2 = none ∧ RS (ss.set r m) (updS ⟨sets, false⟩ .ok r a).1 := by
  rw [updS, if_pos hr]
  exact ⟨rfl, List.length_set.trans h.len, h.rel.set r hma, rfl⟩

/-- an update of a register the model checks to exist -/
theorem RS.upd_if {ss sets} (h : RS ss ⟨sets, false⟩) (r : Nat) {m a : List Nat} (hma : m = canon a) :
    (updS ⟨sets, false⟩ (if r < nReg then (ss.set r m, Obs.ok) else (ss, Obs.err "bad-op")).2 r a).2 = none ∧
      RS (if r < nReg then (ss.set r m, Obs.ok) else (ss, Obs.err "bad-op")).1
        (updS ⟨sets, false⟩ (if r < nReg then (ss.set r m, Obs.ok) else (ss, Obs.err "bad-op")).2 r a).1 := by
  by_cases hr : r < nReg
  · rw [if_pos hr]; exact h.upd hr hma
  · rw [if_neg hr, updS, if_neg hr]; exact ⟨rfl, h⟩

theorem mapM_rel {ss sp} (h : RS ss sp) (others : List Nat) :
    (∃ osa, others.mapM (fun o => ss[o]?) = some (osa.map canon) ∧ others.mapM (fun o => sp.sets[o]?) = some osa) ∨
      (others.mapM (fun o => ss[o]?) = none ∧ others.mapM (fun o => sp.sets[o]?) = none) := by
  induction others with
  | nil => exact Or.inl ⟨[], rfl, rfl⟩
  | cons o os ih =>
    rw [List.mapM_cons, List.mapM_cons]
    rcases h.lookup o with ⟨a, e1, e2, _⟩ | ⟨e1, e2⟩ <;> rw [e1, e2]
    · rcases ih with ⟨osa, e3, e4⟩ | ⟨e3, e4⟩ <;> rw [e3, e4]
      · exact Or.inl ⟨a :: osa, rfl, rfl⟩
      · exact Or.inr ⟨rfl, rfl⟩
    · exact Or.inr ⟨rfl, rfl⟩

theorem stepS_sim (ss sp) (op : SOp) (hR : RS ss sp) (hwf : SOp.WF op) :
    (checkS sp op (stepS ss op).2).2 = none ∧ RS (stepS ss op).1 (checkS sp op (stepS ss op).2).1 := by
  obtain ⟨sets, b⟩ := sp
  cases (hR.small : b = false)
  cases op with
  | new r ids =>
    simp only [stepS, checkS, anyBig_false (hwf : ∀ id ∈ ids, _), Bool.or_false]
    exact hR.upd_if r ((addMany_canon [] ids hwf).trans (by rw [List.append_nil]))
  | add r id =>
    rcases hR.lookup r with ⟨a, e1, e2, hlt⟩ | ⟨e1, e2⟩ <;>
      simp only [stepS, checkS, e1, e2, big_false (hwf : id < _), Bool.or_false]
    · exact hR.upd hlt (by rw [canon_cons, IDSet.add, norm_small hwf])
    · exact ⟨trivial, hR⟩
  | addMany r ids =>
    rcases hR.lookup r with ⟨a, e1, e2, hlt⟩ | ⟨e1, e2⟩ <;>
      simp only [stepS, checkS, e1, e2, anyBig_false (hwf : ∀ id ∈ ids, _), Bool.or_false]
    · exact hR.upd hlt (addMany_canon a ids hwf)
    · exact ⟨trivial, hR⟩
  | rem r id =>
    rcases hR.lookup r with ⟨a, e1, e2, hlt⟩ | ⟨e1, e2⟩ <;>
      simp only [stepS, checkS, e1, e2, big_false (hwf : id < _), Bool.or_false]
    · exact hR.upd hlt (by rw [IDSet.remove, norm_small hwf]; exact filter_canon a _ _ fun _ => rfl)
    · exact ⟨trivial, hR⟩
  | has r id =>
    rcases hR.lookup r with ⟨a, e1, e2, hlt⟩ | ⟨e1, e2⟩ <;>
      simp only [stepS, checkS, e1, e2, big_false (hwf : id < _), Bool.or_false]
    · exact ⟨by rw [IDSet.contains, norm_small hwf, contains_canon]; exact expect_self _ _, hR⟩
    · exact ⟨trivial, hR⟩
  | card r | slice r =>
    rcases hR.lookup r with ⟨a, e1, e2, hlt⟩ | ⟨e1, e2⟩ <;> simp only [stepS, checkS, e1, e2]
    · exact ⟨expect_self _ _, hR⟩
    · exact ⟨trivial, hR⟩
  | merge r others =>
    rcases hR.lookup r with ⟨a, e1, e2, hlt⟩ | ⟨e1, e2⟩
    · rcases mapM_rel hR others with ⟨osa, e3, e4⟩ | ⟨e3, e4⟩ <;> simp only [stepS, checkS, e1, e2, e3, e4]
      · split
        · exact ⟨rfl, hR⟩
        · exact hR.upd hlt (merge_canon a osa)
      · exact ⟨trivial, hR⟩
    -- a register is missing, on both sides: the model refuses, the checker does not judge
    · simp only [stepS, checkS, e1, e2]
      exact ⟨trivial, hR⟩
  | mergeIP r o =>
    rcases hR.lookup r with ⟨a, e1, e2, hlt⟩ | ⟨e1, e2⟩
    · rcases hR.lookup o with ⟨b, e3, e4, _⟩ | ⟨e3, e4⟩ <;> simp only [stepS, checkS, e1, e2, e3, e4]
      · exact hR.upd hlt (union_canon a b)
      · exact ⟨trivial, hR⟩
    · simp only [stepS, checkS, e1, e2]
      exact ⟨trivial, hR⟩
  | eq x y =>
    rcases hR.lookup x with ⟨a, e1, e2, hlt⟩ | ⟨e1, e2⟩
    · rcases hR.lookup y with ⟨b, e3, e4, _⟩ | ⟨e3, e4⟩ <;> simp only [stepS, checkS, e1, e2, e3, e4]
      · exact ⟨expect_self _ _, hR⟩
      · exact ⟨trivial, hR⟩
    · simp only [stepS, checkS, e1, e2]
      exact ⟨trivial, hR⟩
  | and x y dst | andNot x y dst =>
    rcases hR.lookup x with ⟨a, e1, e2, hlt⟩ | ⟨e1, e2⟩
    · rcases hR.lookup y with ⟨b, e3, e4, _⟩ | ⟨e3, e4⟩ <;> simp only [stepS, checkS, e1, e2, e3, e4]
      · exact hR.upd_if dst (filter_canon a _ _ fun z => by rw [contains_canon])
      · exact ⟨trivial, hR⟩
    · simp only [stepS, checkS, e1, e2]
      exact ⟨trivial, hR⟩
  | diff r o =>
    rcases hR.lookup r with ⟨a, e1, e2, hlt⟩ | ⟨e1, e2⟩
    · rcases hR.lookup o with ⟨b, e3, e4, _⟩ | ⟨e3, e4⟩ <;> simp only [stepS, checkS, e1, e2, e3, e4]
      · split
        · exact ⟨rfl, hR⟩
        · exact hR.upd hlt (filter_canon a _ _ fun z => by rw [contains_canon])
      · exact ⟨trivial, hR⟩
    · simp only [stepS, checkS, e1, e2]
      exact ⟨trivial, hR⟩
  | inter x y =>
    rcases hR.lookup x with ⟨a, e1, e2, hlt⟩ | ⟨e1, e2⟩
    · rcases hR.lookup y with ⟨b, e3, e4, _⟩ | ⟨e3, e4⟩ <;> simp only [stepS, checkS, e1, e2, e3, e4]
      · refine ⟨?_, hR⟩
        rw [IDSet.intersects, any_canon, funext (contains_canon b)]
        exact expect_self _ _
      · exact ⟨trivial, hR⟩
    · simp only [stepS, checkS, e1, e2]
      exact ⟨trivial, hR⟩
  | clone src dst | roundTrip src dst =>
    rcases hR.lookup src with ⟨a, e1, e2, hlt⟩ | ⟨e1, e2⟩ <;> simp only [stepS, checkS, e1, e2]
    · exact hR.upd_if dst rfl
    · exact ⟨trivial, hR⟩
  | clear r =>
    rcases hR.lookup r with ⟨a, e1, e2, hlt⟩ | ⟨e1, e2⟩ <;> simp only [stepS, checkS, e1, e2]
    · exact hR.upd hlt rfl
    · exact ⟨trivial, hR⟩

end Influx.C36
