/-
  Lemmas.C36RHHBase — arithmetic of probe distances (`rhh.Dist`), the robin-hood invariant of a
  slot array for an ARBITRARY hash function, the path property it implies (every slot between
  an element's home and its position is occupied by an element at least as far from its own
  home), what storing into one slot does to the invariant and the contents, and
  `(*HashMap).index`, which finds exactly the stored entry of a key.
-/
import Influx.Model.RHH

namespace Influx.RHH

/-- the slot after `p` (`(pos + 1) & mask`) -/
def next (p c : Nat) : Nat := (p + 1) % c

theorem next_lt (p c : Nat) (hc : 0 < c) : next p c < c := Nat.mod_lt _ hc

theorem dist_lt (h p c : Nat) (hc : 0 < c) : dist h p c < c := Nat.mod_lt _ hc

theorem dist_add (h p c : Nat) (hp : p < c) : (h % c + dist h p c) % c = p := by
  have hr : h % c ≤ p + c :=
    Nat.le_trans (Nat.le_of_lt (Nat.mod_lt _ (Nat.zero_lt_of_lt hp))) (Nat.le_add_left c p)
  rw [dist, Nat.add_mod_mod, Nat.add_sub_of_le hr, Nat.add_mod_right, Nat.mod_eq_of_lt hp]

theorem dist_unique (h p d c : Nat) (hd : d < c) (he : (h % c + d) % c = p) : dist h p c = d := by
  have hr : h % c < c := Nat.mod_lt _ (Nat.zero_lt_of_lt hd)
  subst he
  unfold dist
  generalize h % c = r at hr
  by_cases hlt : r + d < c
  · rw [Nat.mod_eq_of_lt hlt, Nat.add_assoc, Nat.add_sub_cancel_left, Nat.add_mod_right, Nat.mod_eq_of_lt hd]
  · have hle := Nat.le_of_not_lt hlt
    have e : (r + d) % c = r + d - c := by
      rw [Nat.mod_eq_sub_mod hle, Nat.mod_eq_of_lt (Nat.sub_lt_left_of_lt_add hle (Nat.add_lt_add hr hd))]
    rw [e, Nat.sub_add_cancel hle, Nat.add_sub_cancel_left, Nat.mod_eq_of_lt hd]

theorem dist_next (h p c : Nat) (hp : p < c) (hd : dist h p c + 1 < c) :
    dist h (next p c) c = dist h p c + 1 := by
  apply dist_unique _ _ _ _ hd
  rw [← Nat.add_assoc, ← Nat.mod_add_mod, dist_add h p c hp, next]

theorem dist_inj (h p q c : Nat) (hp : p < c) (hq : q < c) (h' : dist h p c = dist h q c) : p = q := by
  rw [← dist_add h p c hp, h', dist_add h q c hq]

theorem dist_home (h c : Nat) (hc : 0 < c) : dist h (h % c) c = 0 :=
  dist_unique _ _ _ _ hc (Nat.mod_mod _ _)

theorem off_next (p q c : Nat) (hc : 0 < c) (hp : p < c) (hq : q < c) (hne : q ≠ p) :
    dist (next p c) q c + 1 = dist p q c := by
  have hq' := dist_add (next p c) q c hq
  rw [next, Nat.mod_mod, Nat.mod_add_mod, Nat.add_assoc, Nat.add_comm 1] at hq'
  have hlt : dist ((p + 1) % c) q c + 1 < c := by
    have := dist_lt ((p + 1) % c) q c hc
    by_cases he : dist ((p + 1) % c) q c + 1 = c
    · -- a full turn would end at `p` itself
      rw [he, Nat.add_mod_right, Nat.mod_eq_of_lt hp] at hq'; exact absurd hq'.symm hne
    · exact Nat.lt_of_le_of_ne this he
  exact (dist_unique p q _ c hlt (by rw [Nat.mod_eq_of_lt hp]; exact hq')).symm

theorem off_self (p c : Nat) (hc : 0 < c) (hp : p < c) : dist p p c = 0 :=
  dist_unique _ _ _ _ hc (by rw [Nat.add_zero, Nat.mod_mod, Nat.mod_eq_of_lt hp])

theorem off_zero (p q c : Nat) (hc : 0 < c) (hp : p < c) (hq : q < c) (h : dist p q c = 0) : q = p :=
  dist_inj p q p c hq hp (h.trans (off_self p c hc hp).symm)

theorem next_eq (p c : Nat) (hp : p < c) : next p c = if p + 1 = c then 0 else p + 1 := by
  unfold next
  split
  · next h => rw [h, Nat.mod_self]
  · next h => rw [Nat.mod_eq_of_lt (by omega)]

theorem next_inj (p q c : Nat) (hp : p < c) (hq : q < c) (h : next p c = next q c) : p = q := by
  rw [next_eq p c hp, next_eq q c hq] at h
  split at h <;> split at h
  · next h1 h2 => exact Nat.succ.inj (h1.trans h2.symm)
  · exact absurd h.symm (Nat.succ_ne_zero q)
  · exact absurd h (Nat.succ_ne_zero p)
  · exact Nat.succ.inj h

theorem next_ne_self (p c : Nat) (hp : p < c) (hc : 1 < c) : next p c ≠ p := by
  rw [next_eq p c hp]; split <;> omega

def At (s : Slots) (i : Nat) (e : Entry) : Prop := s[i]? = some (some e)
/-- slot `i` exists and is empty (`hashes[i] == 0`) -/
def Free (s : Slots) (i : Nat) : Prop := s[i]? = some none
def Mem (s : Slots) (e : Entry) : Prop := ∃ i, At s i e

theorem At.lt {s : Slots} {i : Nat} {e : Entry} (h : At s i e) : i < s.length :=
  (List.getElem?_eq_some_iff.mp h).1

theorem At.inj {s : Slots} {i : Nat} {e e' : Entry} (h : At s i e) (h' : At s i e') : e = e' :=
  Option.some.inj (Option.some.inj (h.symm.trans h'))

theorem Free.not_at {s : Slots} {i : Nat} {e : Entry} (hf : Free s i) (h : At s i e) : False := by
  cases Option.some.inj (hf.symm.trans h)

theorem at_set {s : Slots} {p : Nat} (hp : p < s.length) (i : Nat) (x e : Entry) :
    At (s.set p (some x)) i e ↔ (i = p ∧ e = x) ∨ (i ≠ p ∧ At s i e) := by
  unfold At
  by_cases h : i = p
  · subst h
    rw [List.getElem?_set_self hp]
    exact ⟨fun he => Or.inl ⟨rfl, (Option.some.inj (Option.some.inj he)).symm⟩,
      fun he => he.elim (fun he => by rw [he.2]) (fun he => absurd rfl he.1)⟩
  · rw [List.getElem?_set_ne (Ne.symm h)]
    exact ⟨fun he => Or.inr ⟨h, he⟩, fun he => he.elim (fun he => absurd he.1 h) (·.2)⟩

theorem at_set_self {s : Slots} {p : Nat} (hp : p < s.length) (x : Entry) : At (s.set p (some x)) p x :=
  (at_set hp p x x).mpr (Or.inl ⟨rfl, rfl⟩)

theorem free_set (s : Slots) (p i : Nat) (x : Entry) :
    Free (s.set p (some x)) i ↔ (i ≠ p ∧ Free s i) := by
  unfold Free
  rw [List.getElem?_set]
  by_cases h : p = i
  · subst h
    by_cases hl : p < s.length <;> simp [hl]
  · simp [h, Ne.symm h]

theorem mem_set_free {t : Slots} {p : Nat} {x : Entry} (hf : Free t p) (e : Entry) :
    Mem (t.set p (some x)) e ↔ Mem t e ∨ e = x := by
  have hlt : p < t.length := (List.getElem?_eq_some_iff.mp hf).1
  constructor
  · rintro ⟨i, hi⟩
    rcases (at_set hlt i x e).mp hi with ⟨_, rfl⟩ | ⟨_, h⟩
    · exact Or.inr rfl
    · exact Or.inl ⟨i, h⟩
  · rintro (⟨i, hi⟩ | rfl)
    · exact ⟨i, (at_set hlt i x e).mpr (Or.inr ⟨fun h => hf.not_at (h ▸ hi), hi⟩)⟩
    · exact ⟨p, at_set_self hlt e⟩

theorem mem_set_at {t : Slots} {p : Nat} {x y : Entry} (hy : At t p y) (e : Entry) :
    Mem (t.set p (some x)) e ∨ e = y ↔ Mem t e ∨ e = x := by
  constructor
  · rintro (⟨i, hi⟩ | rfl)
    · rcases (at_set hy.lt i x e).mp hi with ⟨_, rfl⟩ | ⟨_, h⟩
      · exact Or.inr rfl
      · exact Or.inl ⟨i, h⟩
    · exact Or.inl ⟨p, hy⟩
  · rintro (⟨i, hi⟩ | rfl)
    · by_cases hip : i = p
      · subst hip; exact Or.inr (At.inj hi hy)
      · exact Or.inl ⟨i, (at_set hy.lt i x e).mpr (Or.inr ⟨hip, hi⟩)⟩
    · exact Or.inl ⟨p, at_set_self hy.lt e⟩

def count (s : Slots) : Nat := (s.filter Option.isSome).length

theorem count_cons (a : Option Entry) (s : Slots) : count (a :: s) = count s + if a.isSome then 1 else 0 := by
  unfold count
  rw [List.filter_cons]
  split <;> rfl

theorem count_set (s : Slots) (p : Nat) (x : Entry) (o : Option Entry) (h : s[p]? = some o) :
    count (s.set p (some x)) + (if o.isSome then 1 else 0) = count s + 1 := by
  induction s generalizing p with
  | nil => cases h
  | cons a s ih =>
    cases p with
    | zero =>
      cases Option.some.inj h
      rw [List.set_cons_zero, count_cons, count_cons]; exact Nat.add_right_comm _ _ _
    | succ p =>
      rw [List.set_cons_succ, count_cons, count_cons, Nat.add_right_comm, ih p h, Nat.add_right_comm]

theorem count_set_free {s : Slots} {p : Nat} (x : Entry) (h : Free s p) :
    count (s.set p (some x)) = count s + 1 := count_set s p x none h

theorem count_set_at {s : Slots} {p : Nat} (x : Entry) {y : Entry} (h : At s p y) :
    count (s.set p (some x)) = count s := Nat.add_right_cancel (count_set s p x (some y) h)

theorem count_le (s : Slots) : count s ≤ s.length := List.length_filter_le _ _

theorem exists_free (s : Slots) (h : count s < s.length) : ∃ q, q < s.length ∧ Free s q := by
  induction s with
  | nil => cases h
  | cons a s ih =>
    cases a with
    | none => exact ⟨0, Nat.zero_lt_succ _, rfl⟩
    | some e =>
      rw [count_cons, List.length_cons] at h
      obtain ⟨q, hq, hf⟩ := ih (Nat.lt_of_succ_lt_succ h)
      exact ⟨q + 1, Nat.succ_lt_succ hq, hf⟩

theorem succ_lt_of_add {a n b L : Nat} (hd : a + (n + 1) = b) (hlt : b < L) : a + 1 < L := by omega

/-- the robin-hood invariant, for the hash function `hf` -/
structure WF (hf : Key → Nat) (s : Slots) : Prop where
  pos : 0 < s.length
  /-- an element away from its home has an occupied predecessor that is at most one step richer -/
  rh : ∀ i e, i < s.length → At s (next i s.length) e → dist e.hash (next i s.length) s.length ≠ 0 →
    ∃ e', At s i e' ∧ dist e.hash (next i s.length) s.length ≤ dist e'.hash i s.length + 1
  uniq : ∀ i j e e', At s i e → At s j e' → e.key = e'.key → i = j
  hash : ∀ i e, At s i e → e.hash = hf e.key

theorem WF.path {hf : Key → Nat} {s : Slots} (hw : WF hf s) {p : Nat} {e : Entry} (hp : At s p e) :
    ∀ (n q : Nat), q < s.length → dist e.hash q s.length + n = dist e.hash p s.length →
      ∃ e', At s q e' ∧ dist e.hash q s.length ≤ dist e'.hash q s.length := by
  intro n
  induction n with
  | zero =>
    intro q hq hd
    cases dist_inj e.hash q p s.length hq hp.lt hd
    exact ⟨e, hp, Nat.le_refl _⟩
  | succ n ih =>
    intro q hq hd
    have hn := dist_next e.hash q s.length hq (succ_lt_of_add hd (dist_lt e.hash p s.length hw.pos))
    obtain ⟨e2, h2, hle⟩ := ih (next q s.length) (next_lt _ _ hw.pos) (by rw [hn, Nat.add_right_comm]; exact hd)
    rw [hn] at hle
    obtain ⟨e', h', hle'⟩ := hw.rh q e2 hq h2 (Nat.ne_of_gt (Nat.lt_of_lt_of_le (Nat.succ_pos _) hle))
    exact ⟨e', h', Nat.le_of_succ_le_succ (Nat.le_trans hle hle')⟩

theorem WF.walk {hf : Key → Nat} {s : Slots} (hw : WF hf s) {p q n : Nat} {e : Entry} (hp : At s p e)
    (hq : q < s.length) (hd : dist e.hash q s.length + (n + 1) = dist e.hash p s.length) :
    ∃ e', At s q e' ∧ e'.key ≠ e.key ∧ dist e.hash q s.length ≤ dist e'.hash q s.length ∧
      dist e.hash (next q s.length) s.length = dist e.hash q s.length + 1 := by
  obtain ⟨e', h', hle⟩ := hw.path hp (n + 1) q hq hd
  refine ⟨e', h', fun hk => ?_, hle,
    dist_next e.hash q s.length hq (succ_lt_of_add hd (dist_lt e.hash p s.length hw.pos))⟩
  cases hw.uniq q p e' e h' hp hk
  exact absurd hd (Nat.ne_of_gt (Nat.lt_add_of_pos_right (Nat.succ_pos n)))

theorem WF.set {hf : Key → Nat} {t : Slots} {pos : Nat} {x : Entry} (hw : WF hf t) (hpos : pos < t.length)
    (hx : x.hash = hf x.key) (hkey : ∀ i e, At t i e → e.key = x.key → i = pos)
    (hfit : ∀ i, i < t.length → next i t.length = pos → dist x.hash pos t.length ≠ 0 →
      ∃ e', At t i e' ∧ dist x.hash pos t.length ≤ dist e'.hash i t.length + 1)
    (hold : ∀ y, At t pos y → dist y.hash pos t.length ≤ dist x.hash pos t.length) :
    WF hf (t.set pos (some x)) := by
  refine ⟨by rw [List.length_set]; exact hw.pos, ?_, ?_, ?_⟩
  · intro i e hi hat hd0
    rw [List.length_set] at hi hat hd0 ⊢
    have hpred : ∃ e', At t i e' ∧ dist e.hash (next i t.length) t.length ≤ dist e'.hash i t.length + 1 := by
      rcases (at_set hpos _ x e).mp hat with ⟨hnp, rfl⟩ | ⟨_, hat'⟩
      · rw [hnp] at hd0 ⊢; exact hfit i hi hnp hd0
      · exact hw.rh i e hi hat' hd0
    obtain ⟨e', he', hle⟩ := hpred
    by_cases hip : i = pos
    · subst hip
      exact ⟨x, at_set_self hpos x, Nat.le_trans hle (Nat.succ_le_succ (hold e' he'))⟩
    · exact ⟨e', (at_set hpos i x e').mpr (Or.inr ⟨hip, he'⟩), hle⟩
  · intro i j e e' hi hj hk
    rcases (at_set hpos i x e).mp hi with ⟨hip, hex⟩ | ⟨hip, hi'⟩ <;>
      rcases (at_set hpos j x e').mp hj with ⟨hjp, hex'⟩ | ⟨hjp, hj'⟩
    · rw [hip, hjp]
    · exact absurd (hkey j e' hj' (by rw [← hk, hex])) hjp
    · exact absurd (hkey i e hi' (by rw [hk, hex'])) hip
    · exact hw.uniq i j e e' hi' hj' hk
  · intro i e hi
    rcases (at_set hpos i x e).mp hi with ⟨_, rfl⟩ | ⟨_, hi'⟩
    · exact hx
    · exact hw.hash i e hi'

theorem indexLoop_at {s : Slots} {pos : Nat} {e : Entry} (h : At s pos e) (c fuel d hh : Nat) (k : Key) :
    indexLoop c (fuel + 1) s pos d hh k =
      if dist e.hash pos c < d then none
      else if e.hash = hh ∧ e.key = k then some e else indexLoop c fuel s (next pos c) (d + 1) hh k := by
  rw [indexLoop, show s[pos]? = some (some e) from h]; rfl

theorem indexLoop_absent (c : Nat) (s : Slots) (h : Nat) (k : Key)
    (habs : ∀ e, Mem s e → e.key ≠ k) :
    ∀ (fuel pos d : Nat), indexLoop c fuel s pos d h k = none := by
  intro fuel
  induction fuel with
  | zero => intro pos d; rfl
  | succ fuel ih =>
    intro pos d
    cases hs : s[pos]? with
    | none => rw [indexLoop, hs]
    | some o =>
      cases o with
      | none => rw [indexLoop, hs]
      | some e =>
        rw [indexLoop_at hs, if_neg (show ¬ (e.hash = h ∧ e.key = k) from fun hm => habs e ⟨pos, hs⟩ hm.2), ih]
        exact ite_self _

theorem indexLoop_found {hf : Key → Nat} {s : Slots} (hw : WF hf s) {p : Nat} {e : Entry}
    (hp : At s p e) :
    ∀ (n fuel pos : Nat), pos < s.length → dist e.hash pos s.length + n = dist e.hash p s.length → n < fuel →
      indexLoop s.length fuel s pos (dist e.hash pos s.length) e.hash e.key = some e := by
  intro n
  induction n with
  | zero =>
    intro fuel pos hpos hd hf
    obtain ⟨fuel, rfl⟩ := Nat.exists_eq_succ_of_ne_zero (Nat.ne_of_gt hf)
    cases dist_inj e.hash pos p s.length hpos hp.lt hd
    rw [indexLoop_at hp, if_neg (Nat.lt_irrefl _), if_pos ⟨rfl, rfl⟩]
  | succ n ih =>
    intro fuel pos hpos hd hf
    obtain ⟨fuel, rfl⟩ := Nat.exists_eq_succ_of_ne_zero (Nat.ne_of_gt (Nat.zero_lt_of_lt hf))
    obtain ⟨e', h', hne, hle, hnext⟩ := hw.walk hp hpos hd
    rw [indexLoop_at h', if_neg (Nat.not_lt.mpr hle), if_neg (fun hm => hne hm.2), ← hnext]
    exact ih fuel _ (next_lt _ _ hw.pos) (by rw [hnext, Nat.add_right_comm]; exact hd) (Nat.lt_of_succ_lt_succ hf)

theorem lookup_found {hf : Key → Nat} {s : Slots} (hw : WF hf s) {e : Entry} (hm : Mem s e) :
    lookup s (hf e.key) e.key = some e := by
  obtain ⟨p, hp⟩ := hm
  have h0 := dist_home e.hash s.length hw.pos
  rw [lookup, ← hw.hash p e hp, ← h0]
  exact indexLoop_found hw hp _ _ _ (Nat.mod_lt _ hw.pos) (by rw [h0]; exact Nat.zero_add _)
    (Nat.lt_succ_of_lt (dist_lt e.hash p s.length hw.pos))

theorem lookup_absent (s : Slots) (h : Nat) (k : Key) (habs : ∀ e, Mem s e → e.key ≠ k) :
    lookup s h k = none := indexLoop_absent _ s h k habs _ _ _

theorem lookup_some_iff {hf : Key → Nat} {s : Slots} (hw : WF hf s) (k : Key) (e : Entry) :
    lookup s (hf k) k = some e ↔ Mem s e ∧ e.key = k := by
  constructor
  · intro h
    by_cases hex : ∃ e', Mem s e' ∧ e'.key = k
    · obtain ⟨e', hm, rfl⟩ := hex
      cases (lookup_found hw hm).symm.trans h
      exact ⟨hm, rfl⟩
    · rw [lookup_absent s (hf k) k (fun e' hm hk => hex ⟨e', hm, hk⟩)] at h; cases h
  · rintro ⟨hm, rfl⟩
    exact lookup_found hw hm

end Influx.RHH
