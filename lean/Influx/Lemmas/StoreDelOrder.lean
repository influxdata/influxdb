/-
  Lemmas.StoreDelOrder — `cmpBytes` is a strict total order; `sortDedup` yields the strictly
  ascending list of the elements.
-/
import Influx.Model.StoreDel

namespace Influx.Model.StoreDel
open Influx.Model.DelPred (Bytes)

theorem cmpBytes_refl (a : Bytes) : cmpBytes a a = .eq := by
  induction a with
  | nil => rfl
  | cons x xs ih => simp [cmpBytes, ih]

theorem cmpBytes_eq {a b : Bytes} (h : cmpBytes a b = .eq) : a = b := by
  induction a generalizing b with
  | nil => cases b with
    | nil => rfl
    | cons y ys => simp [cmpBytes] at h
  | cons x xs ih => cases b with
    | nil => simp [cmpBytes] at h
    | cons y ys =>
      simp only [cmpBytes] at h
      split at h
      · cases h
      · split at h
        · cases h
        · have : x = y := by omega
          rw [this, ih h]

theorem cmpBytes_lt_gt {a b : Bytes} : cmpBytes a b = .lt ↔ cmpBytes b a = .gt := by
  induction a generalizing b with
  | nil => cases b <;> simp [cmpBytes]
  | cons x xs ih => cases b with
    | nil => simp [cmpBytes]
    | cons y ys =>
      simp only [cmpBytes]
      by_cases h1 : x < y
      · have : ¬ y < x := by omega
        simp [h1, this]
      · by_cases h2 : y < x
        · simp [h1, h2]
        · simp only [h1, h2, if_false]
          exact ih

theorem cmpBytes_cons_lt {x y : Nat} {xs ys : Bytes} :
    cmpBytes (x :: xs) (y :: ys) = .lt ↔ x < y ∨ (x = y ∧ cmpBytes xs ys = .lt) := by
  rw [cmpBytes]
  by_cases h1 : x < y
  · rw [if_pos h1]; exact ⟨fun _ => Or.inl h1, fun _ => rfl⟩
  · rw [if_neg h1]
    by_cases h2 : y < x
    · rw [if_pos h2]
      exact ⟨fun h => Ordering.noConfusion h, fun h => h.elim (absurd · h1) fun h => absurd h2 (h.1 ▸ Nat.lt_irrefl x)⟩
    · rw [if_neg h2]
      exact ⟨fun h => Or.inr ⟨Nat.le_antisymm (Nat.not_lt.1 h2) (Nat.not_lt.1 h1), h⟩, fun h => h.elim (absurd · h1) (·.2)⟩

theorem cmpBytes_trans {a b c : Bytes} (h1 : cmpBytes a b = .lt) (h2 : cmpBytes b c = .lt) :
    cmpBytes a c = .lt := by
  induction a generalizing b c with
  | nil =>
    cases b with
    | nil => cases h1
    | cons y ys =>
      cases c with
      | nil => cases h2
      | cons z zs => rfl
  | cons x xs ih =>
    cases b with
    | nil => cases h1
    | cons y ys =>
      cases c with
      | nil => cases h2
      | cons z zs =>
        rw [cmpBytes_cons_lt] at h1 h2 ⊢
        rcases h1 with h1 | ⟨rfl, h1⟩
        · exact Or.inl (h2.elim (Nat.lt_trans h1) fun h => h.1 ▸ h1)
        · exact h2.imp id fun h => ⟨h.1, ih h1 h.2⟩

def StrictAsc : List Bytes → Prop
  | [] => True
  | [_] => True
  | a :: b :: rest => cmpBytes a b = .lt ∧ StrictAsc (b :: rest)

theorem mem_insertSorted {x y : Bytes} {l : List Bytes} : y ∈ insertSorted x l ↔ y = x ∨ y ∈ l := by
  induction l with
  | nil => simp [insertSorted]
  | cons z zs ih =>
    simp only [insertSorted]
    split
    · exact List.mem_cons
    · next h => rw [cmpBytes_eq h, List.mem_cons, or_self_left]
    · simp only [List.mem_cons, ih, or_left_comm]

theorem mem_sortDedup {y : Bytes} {l : List Bytes} : y ∈ sortDedup l ↔ y ∈ l := by
  unfold sortDedup
  induction l with
  | nil => simp
  | cons x xs ih => simp only [List.foldr_cons, mem_insertSorted, ih, List.mem_cons]

theorem strictAsc_tail {a : Bytes} {l : List Bytes} (h : StrictAsc (a :: l)) : StrictAsc l := by
  cases l with
  | nil => trivial
  | cons b rest => exact h.2

/-- the chain of neighbours is, by transitivity, an order on all pairs -/
theorem strictAsc_iff_pairwise {l : List Bytes} : StrictAsc l ↔ l.Pairwise fun a b => cmpBytes a b = .lt := by
  induction l with
  | nil => exact ⟨fun _ => List.Pairwise.nil, fun _ => trivial⟩
  | cons a rest ih =>
    cases rest with
    | nil => exact ⟨fun _ => List.pairwise_singleton _ _, fun _ => trivial⟩
    | cons b rest' =>
      constructor
      · intro h
        have ht := ih.1 h.2
        refine List.pairwise_cons.2 ⟨fun y hy => ?_, ht⟩
        rcases List.mem_cons.1 hy with rfl | hy
        · exact h.1
        · exact cmpBytes_trans h.1 ((List.pairwise_cons.1 ht).1 y hy)
      · intro h
        exact ⟨(List.pairwise_cons.1 h).1 b List.mem_cons_self, ih.2 (List.pairwise_cons.1 h).2⟩

theorem strictAsc_insertSorted (x : Bytes) (l : List Bytes) (h : StrictAsc l) : StrictAsc (insertSorted x l) := by
  rw [strictAsc_iff_pairwise] at h ⊢
  induction l with
  | nil => exact List.pairwise_singleton _ _
  | cons z zs ih =>
    obtain ⟨hz, hzs⟩ := List.pairwise_cons.1 h
    rw [insertSorted]
    split
    · next hlt =>
      refine List.pairwise_cons.2 ⟨fun y hy => ?_, h⟩
      rcases List.mem_cons.1 hy with rfl | hy
      · exact hlt
      · exact cmpBytes_trans hlt (hz y hy)
    · exact h
    · next hgt =>
      refine List.pairwise_cons.2 ⟨fun y hy => ?_, ih hzs⟩
      rcases mem_insertSorted.1 hy with rfl | hy
      · exact cmpBytes_lt_gt.2 hgt
      · exact hz y hy

theorem strictAsc_sortDedup (l : List Bytes) : StrictAsc (sortDedup l) := by
  unfold sortDedup
  induction l with
  | nil => trivial
  | cons x xs ih => exact strictAsc_insertSorted x _ ih

theorem strictAsc_filter (p : Bytes → Bool) (l : List Bytes) (h : StrictAsc l) : StrictAsc (l.filter p) :=
  strictAsc_iff_pairwise.2 ((strictAsc_iff_pairwise.1 h).filter p)

theorem strictAsc_nodup (l : List Bytes) (h : StrictAsc l) : l.Nodup :=
  (strictAsc_iff_pairwise.1 h).imp fun hlt heq => by rw [heq, cmpBytes_refl] at hlt; cases hlt

end Influx.Model.StoreDel
