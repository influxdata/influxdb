/-
  Lemmas.HLLMarshal — the delta+varint compressed list decodes to what was appended, and
  `UnmarshalBinary ∘ MarshalBinary` restores the representation of a sketch whose sparse lists are
  ascending (`SInv`), as they are in every sketch built by `NewPlus` and `Add`.
-/
import Influx.Lemmas.HLLBits
import Influx.Lemmas.HLL

namespace Influx.Lemmas.HLLMarshal
open Influx.Model.HLL Influx.Lemmas.HLLBits Influx.Lemmas.HLL

/-- the loop test of `Append` (bits above the low seven) is `x ≥ 128` -/
theorem and_hi (x : Nat) (h : x < 2 ^ 32) : x &&& 0xffffff80 ≠ 0 ↔ 128 ≤ x := by
  have hd : (x &&& 0xffffff80) / 2 ^ 7 = x / 2 ^ 7 := by
    rw [Nat.and_div_two_pow, show (0xffffff80 : Nat) / 2 ^ 7 = 2 ^ 25 - 1 from rfl, Nat.and_two_pow_sub_one_eq_mod]
    exact Nat.mod_eq_of_lt (Nat.div_lt_of_lt_mul (n := 2 ^ 7) h)
  have hm : (x &&& 0xffffff80) % 2 ^ 7 = 0 := by
    rw [Nat.and_mod_two_pow, show (0xffffff80 : Nat) % 2 ^ 7 = 0 from rfl, Nat.and_zero]
  rw [← Nat.div_add_mod' (x &&& 0xffffff80) (2 ^ 7), hd, hm]
  omega

theorem byte_facts : ∀ b, b < 128 → ((b ||| 0x80) &&& 0x80 ≠ 0 ∧ (b ||| 0x80) &&& 0x7f = b ∧ b &&& 0x80 = 0) := by
  decide +kernel

theorem and_7f (x : Nat) : x &&& 0x7f = x % 2 ^ 7 := Nat.and_two_pow_sub_one_eq_mod x 7

theorem decodeVarint_last (x shift : Nat) (rest : List Nat) (hx : x < 128) (hs : x * 2 ^ shift < 2 ^ 32) :
    decodeVarint ((x &&& 0x7f) :: rest) shift = some (x * 2 ^ shift, rest) := by
  rw [and_7f, Nat.mod_eq_of_lt hx, decodeVarint, if_neg (Decidable.not_not.mpr (byte_facts x hx).2.2), u32,
    Nat.shiftLeft_eq, Nat.mod_eq_of_lt hs]

theorem decodeVarint_cont (b shift y : Nat) (bs rest : List Nat) (hb : b < 128)
    (h : decodeVarint bs (shift + 7) = some (y, rest)) :
    decodeVarint ((b ||| 0x80) :: bs) shift = some (u32 (b <<< shift) ||| y, rest) := by
  rw [decodeVarint, if_pos (byte_facts b hb).1, h, (byte_facts b hb).2.1]

theorem split7 (x s : Nat) : x / 2 ^ 7 * 2 ^ (s + 7) + x % 2 ^ 7 * 2 ^ s = x * 2 ^ s := by
  rw [Nat.pow_add, Nat.mul_comm (2 ^ s), ← Nat.mul_assoc, ← Nat.add_mul, Nat.div_add_mod']

theorem or_parts (x s : Nat) (h : x * 2 ^ s < 2 ^ 32) :
    u32 ((x % 2 ^ 7) <<< s) ||| x / 2 ^ 7 * 2 ^ (s + 7) = x * 2 ^ s := by
  have hlo : x % 2 ^ 7 * 2 ^ s < 2 ^ (s + 7) := by
    rw [Nat.pow_add, Nat.mul_comm]
    exact Nat.mul_lt_mul_of_pos_left (Nat.mod_lt x (by decide)) (Nat.pow_pos (by decide))
  have hle : x % 2 ^ 7 * 2 ^ s ≤ x * 2 ^ s := Nat.mul_le_mul_right _ (Nat.mod_le ..)
  rw [u32, Nat.shiftLeft_eq, Nat.mod_eq_of_lt (Nat.lt_of_le_of_lt hle h), Nat.or_comm, shl_or _ _ _ hlo, split7]

/-- the varint decoder reads back what `Append` wrote for one 32-bit delta -/
theorem decodeVarint_varintGo (fuel x shift : Nat) (rest : List Nat)
    (hx : x < 2 ^ (7 * (fuel + 1))) (hs : x * 2 ^ shift < 2 ^ 32) :
    decodeVarint (varintGo fuel x ++ rest) shift = some (x * 2 ^ shift, rest) := by
  induction fuel generalizing x shift with
  | zero => exact decodeVarint_last x shift rest hx hs
  | succ fuel ih =>
    have hx32 : x < 2 ^ 32 := Nat.lt_of_le_of_lt (Nat.le_mul_of_pos_right x (Nat.pow_pos (by decide))) hs
    rw [varintGo]
    by_cases hlt : x < 128
    · rw [if_neg (mt (and_hi x hx32).mp (Nat.not_le.mpr hlt))]
      exact decodeVarint_last x shift rest hlt hs
    · have hd : x / 2 ^ 7 < 2 ^ (7 * (fuel + 1)) :=
        Nat.div_lt_of_lt_mul (by rw [← Nat.pow_add, Nat.add_comm]; exact hx)
      rw [if_pos ((and_hi x hx32).mpr (Nat.le_of_not_lt hlt)), and_7f, Nat.shiftRight_eq_div_pow, List.cons_append,
        decodeVarint_cont _ shift _ _ rest (Nat.mod_lt x (by decide))
          (ih _ _ hd (Nat.lt_of_le_of_lt (Nat.le.intro (split7 x shift)) hs)),
        or_parts x shift hs]

def Asc : Nat → List Nat → Prop
  | _, [] => True
  | lb, x :: xs => lb ≤ x ∧ x < 2 ^ 32 ∧ Asc x xs

theorem Asc_mono (lb lb' : Nat) (l : List Nat) (h : Asc lb l) (hle : lb' ≤ lb) : Asc lb' l := by
  cases l with
  | nil => trivial
  | cons x xs => exact ⟨Nat.le_trans hle h.1, h.2.1, h.2.2⟩

theorem varint_cons (d : Nat) : ∃ b t, varint d = b :: t := by
  unfold varint varintGo
  split <;> exact ⟨_, _, rfl⟩

theorem decodeVarint_varint (d : Nat) (rest : List Nat) (hd : d < 2 ^ 32) :
    decodeVarint (varint d ++ rest) 0 = some (d, rest) := by
  have := decodeVarint_varintGo 4 d 0 rest (by simp; omega) (by simpa using hd)
  simpa [varint] using this

/-- **the iterator reads back the appended values**: decode ∘ encode = id on ascending 32-bit lists -/
theorem decodeVals_encodeVals (vals : List Nat) (last fuel : Nat) (h : Asc last vals) (hf : vals.length ≤ fuel) :
    decodeVals fuel (encodeVals last vals) last = some vals := by
  induction vals generalizing last fuel with
  | nil => simp [encodeVals, decodeVals]
  | cons x xs ih =>
    obtain ⟨h1, h2, h3⟩ := h
    cases fuel with
    | zero => simp at hf
    | succ fuel =>
      have hlt : x - last < 2 ^ 32 := Nat.lt_of_le_of_lt (Nat.sub_le ..) h2
      have hd : u32 (x + 2 ^ 32 - last) = x - last := by
        rw [u32, Nat.sub_add_comm h1, Nat.add_mod_right, Nat.mod_eq_of_lt hlt]
      simp only [encodeVals, hd]
      obtain ⟨b, t, hbt⟩ := varint_cons (x - last)
      have hdec := decodeVarint_varint (x - last) (encodeVals x xs) hlt
      rw [hbt] at hdec ⊢
      simp only [List.cons_append] at hdec ⊢
      rw [decodeVals, hdec]
      · simp only
        have hv : u32 (x - last + last) = x := by rw [u32, Nat.sub_add_cancel h1, Nat.mod_eq_of_lt h2]
        rw [hv, ih x fuel h3 (by simpa using hf)]
      · intro hh; cases hh

theorem byte_split (n k : Nat) : n / 2 ^ k % 256 * 2 ^ k + n % 2 ^ k = n % 2 ^ (k + 8) := by
  rw [Nat.pow_add, Nat.mod_mul, Nat.add_comm, Nat.mul_comm]

theorem be32_rd32_mod (n : Nat) (l : List Nat) : rd32 (be32 n ++ l) = some (n % 2 ^ 32, l) := by
  have h := byte_split n 24
  rw [← byte_split n 16, ← byte_split n 8, ← Nat.add_assoc, ← Nat.add_assoc] at h
  simp only [be32, List.cons_append, List.nil_append, rd32, Nat.shiftRight_eq_div_pow]
  exact congrArg (fun v => some (v, l)) h

theorem be32_rd32 (n : Nat) (l : List Nat) (hn : n < 2 ^ 32) : rd32 (be32 n ++ l) = some (n, l) := by
  rw [be32_rd32_mod, Nat.mod_eq_of_lt hn]

theorem be32_length (n : Nat) : (be32 n).length = 4 := rfl

theorem insertSorted_asc (k lb : Nat) (l : List Nat) (h : Asc lb l) (hk : lb ≤ k) (hk32 : k < 2 ^ 32) :
    Asc lb (insertSorted k l) := by
  fun_induction insertSorted k l generalizing lb with
  | case1 => exact ⟨hk, hk32, trivial⟩
  | case2 _ _ hlt => exact ⟨hk, hk32, Nat.le_of_lt hlt, h.2⟩
  | case3 => exact h
  | case4 a _ hlt _ ih => exact ⟨h.1, h.2.1, ih a h.2.2 (Nat.le_of_not_lt hlt)⟩

theorem mergeLoopGo_asc (fuel lb : Nat) (vals keys : List Nat) (hv : Asc lb vals) (hk : Asc lb keys)
    (hf : vals.length + keys.length ≤ fuel) : Asc lb (mergeLoopGo fuel vals keys) := by
  fun_induction mergeLoopGo fuel vals keys generalizing lb with
  | case1 => exact hk
  | case2 => exact hv
  | case3 vals _ hne =>
    exact absurd (List.eq_nil_of_length_eq_zero (Nat.eq_zero_of_add_eq_zero_right (Nat.le_zero.mp hf))) hne
  | case4 _ vs x ks ih => exact ⟨hv.1, hv.2.1, ih x hv.2.2 hk.2.2 (by simp only [List.length_cons] at hf; omega)⟩
  | case5 _ x1 vs x2 ks _ hgt ih =>
    exact ⟨hk.1, hk.2.1, ih x2 ⟨Nat.le_of_lt hgt, hv.2⟩ hk.2.2 (by simp only [List.length_cons] at hf ⊢; omega)⟩
  | case6 _ x1 vs x2 ks _ hgt ih =>
    exact ⟨hv.1, hv.2.1, ih x1 hv.2.2 ⟨Nat.le_of_not_lt hgt, hk.2⟩ (by simp only [List.length_cons] at hf ⊢; omega)⟩

theorem encodeHash_lt (p x : Nat) : encodeHash p x < 2 ^ 32 := by
  unfold encodeHash
  simp only
  split
  · apply Nat.or_lt_two_pow
    · apply Nat.or_lt_two_pow <;> (unfold u32; exact Nat.mod_lt _ (by decide))
    · decide
  · unfold u32; exact Nat.mod_lt _ (by decide)

theorem encodeVals_length_ge (vals : List Nat) (last : Nat) : vals.length ≤ (encodeVals last vals).length := by
  induction vals generalizing last with
  | nil => simp [encodeVals]
  | cons x xs ih =>
    obtain ⟨b, t, hbt⟩ := varint_cons (u32 (x + 2 ^ 32 - last))
    simp only [encodeVals, hbt, List.cons_append, List.length_cons, List.length_append]
    have := ih x; omega

/-- the sparse lists of a sketch built through the API are ascending 32-bit lists -/
structure SInv (h : Plus) : Prop where
  tmp_asc : h.sparse = true → Asc 0 h.tmpSet
  vals_asc : h.sparse = true → Asc 0 h.sparseVals

theorem mergeSparse_sinv (h : Plus) (s : SInv h) : SInv (mergeSparse h) := by
  unfold mergeSparse
  split
  · exact s
  · exact ⟨fun _ => trivial, fun hs => mergeLoopGo_asc _ 0 _ _ (s.vals_asc hs) (s.tmp_asc hs) (Nat.le_refl _)⟩

theorem mergeSparse_dense (h : Plus) : (mergeSparse h).dense = h.dense := by
  unfold mergeSparse; split <;> rfl

/-- **`UnmarshalBinary(MarshalBinary(h))` restores the representation**: same precision, same mode,
    the same compressed list (temporary set merged in, as `MarshalBinary` leaves it) or the same registers,
    for a well-formed sketch whose sparse lists are ascending (`SInv`) and whose compressed list fits the
    32-bit length field.  That the normalised registers are then the same is `marshal_regs`. -/
theorem marshal_roundtrip (h : Plus) (w : WF h) (s : SInv h)
    (hsz : (encodeVals 0 (mergeSparse h).sparseVals).length < 2 ^ 32) :
    ∃ h2, unmarshal (marshal h).2 = .ok h2 ∧ h2.p = h.p ∧ h2.sparse = h.sparse ∧
      (h.sparse = true → h2.tmpSet = [] ∧ h2.sparseVals = (mergeSparse h).sparseVals) ∧
      (h.sparse = false → h2.dense = h.dense) := by
  have hp256 : h.p % 256 = h.p := Nat.mod_eq_of_lt (Nat.lt_of_le_of_lt w.p_hi (by decide))
  have hnp : newPlus h.p = some { p := h.p, sparse := true, tmpSet := [], sparseVals := [], sparseBytes := 0, dense := #[] } := by
    rw [newPlus, if_neg (fun h' => h'.elim (Nat.not_lt.mpr w.p_hi) (Nat.not_lt.mpr w.p_lo))]
  unfold marshal
  by_cases hs : h.sparse = true
  · have hasc := (mergeSparse_sinv h s).vals_asc ((mergeSparse_sparse h).trans hs)
    have hfuel := encodeVals_length_ge (mergeSparse h).sparseVals 0
    simp only [hs, if_true, mergeSparse_sparse, mergeSparse_tmpSet, mergeSparse_p, hp256]
    generalize (mergeSparse h).sparseVals = vals at hsz hasc hfuel
    unfold unmarshal
    rw [if_neg (by simp [be32_length]; omega)]
    -- the reader meets, field by field, what was written: no keys, three length words, the compressed list
    simp only [List.cons_append, List.nil_append, List.length_nil, List.flatMap_nil, hnp, if_true, List.append_assoc,
      be32_rd32_mod, Nat.zero_mod, rdKeys, Nat.mod_eq_of_lt hsz, Nat.lt_irrefl, if_false, List.take_length,
      decodeVals_encodeVals _ 0 _ hasc (Nat.le_succ_of_le hfuel)]
    exact ⟨_, rfl, rfl, rfl, fun _ => ⟨rfl, rfl⟩, fun h' => by cases h'⟩
  · have hs' : h.sparse = false := Bool.eq_false_iff.mpr hs
    have hsize := w.dense_size hs'
    have hlt : h.dense.size < 2 ^ 32 :=
      hsize ▸ Nat.pow_lt_pow_right (by decide) (Nat.lt_of_le_of_lt w.p_hi (by decide))
    have h16 : 2 ^ 4 ≤ h.dense.size := hsize ▸ Nat.pow_le_pow_right (by decide) w.p_lo
    simp only [hs', Bool.false_eq_true, if_false, hp256]
    unfold unmarshal
    rw [if_neg (by simp [be32_length]; omega)]
    simp only [List.cons_append, List.nil_append, hnp, be32_rd32 _ _ hlt, Array.length_toList, Nat.lt_irrefl, if_false,
      Nat.zero_ne_one]
    refine ⟨_, rfl, rfl, rfl, ?_⟩
    simp only [false_imp_iff, true_and, true_imp_iff]
    rw [← Array.length_toList, List.take_length]

theorem newPlus_sinv (p : Nat) (e : Plus) (h : newPlus p = some e) : SInv e := by
  unfold newPlus at h
  split at h
  · cases h
  · injection h with h; subst h; exact ⟨fun _ => trivial, fun _ => trivial⟩

theorem sinv_of_dense (c : Plus) (h : c.sparse = false) : SInv c :=
  ⟨(fun h' => by rw [h] at h'; cases h'), (fun h' => by rw [h] at h'; cases h')⟩

theorem toNormal_sinv (h : Plus) : SInv (toNormal h) := sinv_of_dense _ (toNormal_sparse h)

theorem add_sinv (h : Plus) (s : SInv h) (x : Nat) : SInv (add h x) := by
  unfold add
  by_cases hs : h.sparse = true
  · rw [if_pos hs]
    exact addNormal_addMerge_ind (h := addTmp h x) hs
      ⟨fun _ => insertSorted_asc _ 0 _ (s.tmp_asc hs) (Nat.zero_le _) (encodeHash_lt _ _), fun _ => s.vals_asc hs⟩
      (fun g _ => mergeSparse_sinv g) (fun g _ _ => toNormal_sinv g)
  · rw [if_neg hs]
    exact sinv_of_dense _ (Bool.eq_false_iff.mpr hs)

theorem addAll_sinv (xs : List Nat) (h : Plus) (s : SInv h) : SInv (addAll h xs) := by
  induction xs generalizing h with
  | nil => exact s
  | cons x xs ih => exact ih (add h x) (add_sinv h s x)

theorem marshal_regs (h h2 : Plus) (hp : h2.p = h.p) (hsp : h2.sparse = h.sparse)
    (h1 : h.sparse = true → h2.tmpSet = [] ∧ h2.sparseVals = (mergeSparse h).sparseVals)
    (h0 : h.sparse = false → h2.dense = h.dense) : regs h2 = regs h := by
  by_cases hs : h.sparse = true
  · obtain ⟨t, v⟩ := h1 hs
    have hm : mergeSparse h2 = h2 := by rw [mergeSparse, t]; rfl
    rw [regs, regs, if_pos (hsp.trans hs), if_pos hs, toNormal_dense, toNormal_dense, hm, v, hp]
  · have hs : h.sparse = false := Bool.eq_false_iff.mpr hs
    rw [regs_dense _ (hsp.trans hs), regs_dense _ hs, h0 hs]

end Influx.Lemmas.HLLMarshal
