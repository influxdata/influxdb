/-
  Lemmas.ReducersTop — top(n) / bottom(n) of Model.Reducers against Spec.C23.topOK.
-/
import Influx.Lemmas.ReducersDistinct
open Influx.Reducers Influx.Spec.C23

namespace Influx.Reducers.Lemmas
variable {V F : Type}

/-- value order laws: `<` is a strict weak order and Go `==` is "neither is less" -/
structure OrdLaws (A : Arith V F) : Prop where
  sw : StrictWeak A.vo.lt
  eq_iff : ∀ a b, A.vo.eq a b = (!A.vo.lt a b && !A.vo.lt b a)

/-- the value part of the comparator: `<` for top, `>` for bottom -/
def valLt (A : Arith V F) (isTop : Bool) (a b : Pt V) : Bool :=
  if isTop then A.vo.lt a.v b.v else A.vo.lt b.v a.v

theorem valLt_strictWeak (A : Arith V F) (h : StrictWeak A.vo.lt) (isTop : Bool) : StrictWeak (valLt A isTop) := by
  cases isTop
  · exact (h.comap Pt.v).flip
  · exact h.comap Pt.v

def laterT (a b : Pt V) : Bool := decide (a.t > b.t)

theorem laterT_strictWeak : StrictWeak (laterT (V := V)) := (strictWeak_ofKey Pt.t).flip

theorem topCmp_eq_lex (A : Arith V F) (h : OrdLaws A) (isTop : Bool) (a b : Pt V) :
    topCmp A.vo isTop a b = lexLt (valLt A isTop) laterT a b := by
  simp only [topCmp, lexLt, valLt, laterT, h.eq_iff]
  cases isTop <;> cases h1 : A.vo.lt a.v b.v <;> cases h2 : A.vo.lt b.v a.v <;> rfl

theorem topCmp_strictWeak (A : Arith V F) (h : OrdLaws A) (isTop : Bool) : StrictWeak (topCmp A.vo isTop) := by
  have := lexLt_strictWeak (valLt A isTop) laterT (valLt_strictWeak A h.sw isTop) laterT_strictWeak
  have heq : topCmp A.vo isTop = lexLt (valLt A isTop) laterT := by
    funext a b; exact topCmp_eq_lex A h isTop a b
  rw [heq]; exact this

/-- the statement's ranking is the comparator read backwards -/
theorem better_eq_cmp (A : Arith V F) (h : OrdLaws A) (isTop : Bool) (a b : Pt V) :
    better A isTop a b = topCmp A.vo isTop b a := by
  simp only [better, topCmp, h.eq_iff]
  cases isTop <;> cases h1 : A.vo.lt a.v b.v <;> cases h2 : A.vo.lt b.v a.v <;> rfl

/-! ### the heap root -/

theorem heapMinIdx_facts {α : Type} (cmp : α → α → Bool) (h : StrictWeak cmp) (l : List α) :
    match heapMinIdx cmp l with
    | none => l = []
    | some (i, m) => l[i]? = some m ∧ ∀ o ∈ l, cmp o m = false := by
  induction l with
  | nil => rfl
  | cons x xs ih =>
    rw [heapMinIdx]
    cases hm : heapMinIdx cmp xs with
    | none =>
      rw [hm] at ih
      subst ih
      exact ⟨rfl, fun o ho => by obtain rfl := List.mem_singleton.mp ho; exact h.irrefl _⟩
    | some im =>
      obtain ⟨i, m⟩ := im
      rw [hm] at ih
      obtain ⟨hi, hmin⟩ := ih
      cases hc : cmp m x with
      | true =>
        simp only [hc, if_true]
        refine ⟨hi, fun o ho => ?_⟩
        rcases List.mem_cons.mp ho with rfl | ho
        · exact h.asymm _ _ hc
        · exact hmin o ho
      | false =>
        simp only [hc, Bool.false_eq_true, if_false]
        refine ⟨rfl, fun o ho => ?_⟩
        rcases List.mem_cons.mp ho with rfl | ho
        · exact h.irrefl _
        · exact h.negTrans _ _ _ (hmin o ho) hc

theorem set_perm {α : Type} (l : List α) (i : Nat) (m p : α) (rest : List α) (hi : l[i]? = some m) :
    (l.set i p ++ m :: rest).Perm (p :: (l ++ rest)) := by
  induction l generalizing i with
  | nil => simp at hi
  | cons x xs ih =>
    cases i with
    | zero =>
      simp at hi; subst hi
      simp only [List.set_cons_zero, List.cons_append]
      refine (List.Perm.cons p List.perm_middle).trans ?_
      exact List.Perm.refl _
    | succ i =>
      simp at hi
      simp only [List.set_cons_succ, List.cons_append]
      exact (List.Perm.cons x (ih i hi)).trans (List.Perm.swap p x _)

/-- the bounded heap `hp` after the prefix `P`, with `rest` the points left out: the heap
    holds `min n |P|` points of `P`, and no point left out is better than a point kept -/
structure TopInv {α : Type} (cmp : α → α → Bool) (n : Nat) (P hp rest : List α) : Prop where
  perm : (hp ++ rest).Perm P
  len : hp.length = min n P.length
  best : ∀ r ∈ rest, ∀ o ∈ hp, cmp o r = false

theorem topAgg_inv (vo : VOps V F) (isTop : Bool) (hsw : StrictWeak (topCmp vo isTop)) (n : Nat)
    (P hp rest : List (Pt V)) (p : Pt V) (inv : TopInv (topCmp vo isTop) n P hp rest) :
    ∃ rest', TopInv (topCmp vo isTop) n (P ++ [p]) (topAgg vo isTop n hp p) rest' := by
  have hP : (p :: (hp ++ rest)).Perm (P ++ [p]) := (inv.perm.cons p).trans (List.perm_append_singleton p P).symm
  have hlen := inv.len
  have hl1 : (P ++ [p]).length = P.length + 1 := List.length_append
  unfold topAgg
  by_cases hfull : hp.length = n
  · -- full: compare with the root
    have hnP : n = min n (P.length + 1) := by
      refine (Nat.min_eq_left (Nat.le_succ_of_le ?_)).symm
      rw [← hfull, hlen]; exact Nat.min_le_right _ _
    have hf := heapMinIdx_facts (topCmp vo isTop) hsw hp
    simp only [hfull, if_true]
    cases hm : heapMinIdx (topCmp vo isTop) hp with
    | none =>
      -- n = 0
      rw [hm] at hf
      subst hf
      exact ⟨p :: rest, hP, by rw [hl1]; exact hfull.trans hnP, fun r _ o ho => by cases ho⟩
    | some im =>
      obtain ⟨i, m⟩ := im
      rw [hm] at hf
      obtain ⟨hi, hmin⟩ := hf
      have hmem : m ∈ hp := List.mem_of_getElem? hi
      by_cases hc : topCmp vo isTop m p = true
      · -- the root `m` leaves the heap, `p` takes its place
        simp only [hc, if_true]
        refine ⟨m :: rest, (set_perm hp i m p rest hi).trans hP, by rw [List.length_set, hl1, hfull]; exact hnP, ?_⟩
        intro r hr o ho
        rcases List.mem_cons.mp hr with rfl | hr <;> rcases List.mem_or_eq_of_mem_set ho with ho | rfl
        · exact hmin o ho
        · exact hsw.asymm _ _ hc
        · exact inv.best r hr o ho
        · exact hsw.negTrans _ _ _ (hsw.asymm _ _ hc) (inv.best r hr m hmem)
      · have hc' : topCmp vo isTop m p = false := by simpa using hc
        simp only [hc', Bool.false_eq_true, if_false]
        refine ⟨p :: rest, List.perm_middle.trans hP, by rw [hl1, hfull]; exact hnP, ?_⟩
        intro r hr o ho
        rcases List.mem_cons.mp hr with rfl | hr
        · exact hsw.negTrans _ _ _ (hmin o ho) hc'
        · exact inv.best r hr o ho
  · -- still filling: nothing has been left out yet
    simp only [hfull, if_false]
    have hlt : P.length < n := Nat.lt_of_not_ge fun hge => hfull (hlen.trans (Nat.min_eq_left hge))
    have hlen' : hp.length = P.length := hlen.trans (Nat.min_eq_right (Nat.le_of_lt hlt))
    have hrest : rest = [] := by
      have hl := inv.perm.length_eq
      rw [List.length_append, hlen'] at hl
      exact List.eq_nil_of_length_eq_zero (Nat.add_left_cancel (show P.length + rest.length = P.length + 0 from hl))
    subst hrest
    exact ⟨[], hP, by rw [List.length_cons, hl1, hlen', Nat.min_eq_right hlt], fun r hr => by cases hr⟩

theorem top_fold_inv (vo : VOps V F) (isTop : Bool) (hsw : StrictWeak (topCmp vo isTop)) (n : Nat)
    (xs : List (Pt V)) : ∀ (P hp rest : List (Pt V)), TopInv (topCmp vo isTop) n P hp rest →
      ∃ rest', TopInv (topCmp vo isTop) n (P ++ xs) (xs.foldl (topAgg vo isTop n) hp) rest' := by
  induction xs with
  | nil => intro P hp rest inv; exact ⟨rest, by simpa using inv⟩
  | cons p ps ih =>
    intro P hp rest inv
    obtain ⟨r1, inv1⟩ := topAgg_inv vo isTop hsw n P hp rest p inv
    obtain ⟨r2, inv2⟩ := ih _ _ _ inv1
    exact ⟨r2, by simpa using inv2⟩

/-- **top(n) / bottom(n)**: `min n len` input points, best first, none of the points left
    out better than a selected one -/
theorem top_ok (A : Arith V F) (h : OrdLaws A) (hexact : ∀ a b, A.eqvV a b = true → a = b)
    (isTop : Bool) (n : Nat) (xs : List (Pt V)) :
    topOK A isTop n xs (topN A.vo isTop n xs) = true := by
  have hsw := topCmp_strictWeak A h isTop
  obtain ⟨rest, hperm, hlen, hbest⟩ :=
    top_fold_inv A.vo isTop hsw n xs [] [] [] ⟨by simp, by simp, fun r hr => by cases hr⟩
  simp only [List.nil_append] at hperm hlen
  unfold topN topOK
  -- the emitted list: the heap, sorted best first
  have hp2 := insertionSort_perm (fun a b => topCmp A.vo isTop b a) (xs.foldl (topAgg A.vo isTop n) [])
  have hs2 := insertionSort_sorted hsw.flip (xs.foldl (topAgg A.vo isTop n) [])
  have hall : (insertionSort (fun a b => topCmp A.vo isTop b a) (xs.foldl (topAgg A.vo isTop n) []) ++ rest).Perm xs :=
    (hp2.append_right rest).trans hperm
  obtain ⟨rest', hrem, hprest⟩ := removeAll_of_perm A.eqvV A.eqvV_refl hexact _ _ _ hall
  simp only [Bool.and_eq_true, decide_eq_true_eq]
  refine ⟨⟨by rw [hp2.length_eq, hlen], ?_⟩, ?_⟩
  · apply pairwiseB_of_pairwise
    refine hs2.imp ?_
    intro a b hab
    rw [better_eq_cmp A h]
    simpa using hab
  · simp only [hrem, List.all_eq_true]
    intro r hr o ho
    rw [better_eq_cmp A h]
    have hr' : r ∈ rest := hprest.mem_iff.mp hr
    have ho' := hp2.mem_iff.mp ho
    simp [hbest r hr' o ho']

end Influx.Reducers.Lemmas
