/-
  Lemmas.CompactTrace — the readers of a case after its range deletes, what the compaction
  reads from them (`RFile.runs`), "newest file wins, tombstoned ranges removed" against
  `Spec.C04.expectedAt`, and the statement checker along a model trace.
-/
import Influx.Lemmas.CompactDel

namespace Influx.Model.Compact
open Influx.Spec.C04

/-- the block the iterator sees for a run of points of a key with tombstones `tombs` -/
def mkBT (tombs : List (Int × Int)) (b : Pts Int) : Block Int :=
  { minTime := ptsFirst b, maxTime := ptsLast b, pts := b, tombstones := tombs }

/-- the tombstones of key `k`; `none` when the index does not (or no longer) hold the key -/
def tombsOf (rf : RFile) (k : Key) : Option (List (Int × Int)) :=
  (rf.index.find? (fun e => decide (e.1 = k))).bind (·.2)

theorem runs_eq (rf : RFile) :
    rf.runs = rf.blocks.filterMap fun kb => (tombsOf rf kb.1).map fun tombs => (kb.1, kb.2.map (mkBT tombs)) := by
  unfold RFile.runs tombsOf
  congr 1
  funext kb
  obtain ⟨k, bs⟩ := kb
  dsimp only
  cases rf.index.find? (fun e => decide (e.1 = k)) with
  | none => rfl
  | some e => obtain ⟨_, st⟩ := e; cases st <;> rfl

theorem tombsOf_spec (rf : RFile) (k : Key) :
    (k, tombsOf rf k) ∈ rf.index ∨ (tombsOf rf k = none ∧ ∀ e ∈ rf.index, e.1 ≠ k) := by
  unfold tombsOf
  cases hf : rf.index.find? (fun e => decide (e.1 = k)) with
  | none =>
    right
    refine ⟨rfl, fun e he hek => ?_⟩
    have := List.find?_eq_none.mp hf e he
    simp [hek] at this
  | some e =>
    left
    have hk : e.1 = k := by simpa using List.find?_some hf
    have := List.mem_of_find?_eq_some hf
    rw [← hk]
    exact this

theorem getA_runs (rf : RFile) (k : Key) :
    getA rf.runs k = match tombsOf rf k with
      | some tombs => (getK rf.blocks k).map (mkBT tombs)
      | none => [] := by
  rw [runs_eq]
  unfold getK
  generalize rf.blocks = B
  induction B with
  | nil => cases tombsOf rf k <;> rfl
  | cons kb rest ih =>
    rw [List.filterMap_cons, List.filter_cons]
    by_cases hk : kb.1 = k
    · subst hk
      cases ht : tombsOf rf kb.1 with
      | none => rw [ht] at ih; simpa using ih
      | some tombs => rw [ht] at ih; simp [getA_cons, ih]
    · cases ht : tombsOf rf kb.1 with
      | none => simpa [hk] using ih
      | some tombs => simpa [hk, getA_cons] using ih

theorem live_mkBT (tombs : List (Int × Int)) {b : Pts Int} (h : ∀ p ∈ b, InR p.1) :
    live (mkBT tombs b) = applyTombs tombs b := by
  show applyTombs tombs (vExclude maxInt64 minInt64 b) = _
  rw [vExclude_sentinel h]

theorem restAt_mkBT (tombs : List (Int × Int)) : ∀ (L : List (Pts Int)), ChainOK L → ∀ t,
    restAt (L.map (mkBT tombs)) t = if inTombs tombs t then none else lastAt L t
  | [], _, t => by simp [restAt, lastAt]
  | b :: L, hc, t => by
    simp only [List.map_cons, restAt, lastAt, restAt_mkBT tombs L hc.2.2.2.2 t, live_mkBT tombs hc.2.2.1,
      lookup_applyTombs]
    cases inTombs tombs t <;> simp

theorem fresh_mkBT (tombs : List (Int × Int)) {b : Pts Int} (hne : b ≠ []) (hasc : Asc b) (hin : ∀ p ∈ b, InR p.1) :
    Fresh (mkBT tombs b) := by
  obtain ⟨a, z, ha, hz⟩ := head_getLast_of_ne hne
  refine ⟨⟨hasc, ⟨a, ha, ?_⟩, ⟨z, hz, ?_⟩, hin⟩, rfl, rfl⟩
  · simp [mkBT, ptsFirst, ha]
  · simp [mkBT, ptsLast, hz]

def delsOf (f : Nat) (ops : List Op) : List DelCall :=
  ops.filterMap fun op => match op with
    | Op.del f' keys lo hi => if f' = f then some (keys, lo, hi) else none
    | _ => none

def readerOf (f : Nat) (ops : List Op) : RFile :=
  (delsOf f ops).foldl (fun rf d => rf.deleteRange d.1 d.2.1 d.2.2) (mkRFile (fileBlocksL f ops))

theorem readers_eq (ops : List Op) : readers ops = (fileIds ops).map fun f => readerOf f ops := by
  unfold readers readerOf delsOf
  congr 1
  funext f
  rw [List.foldl_filterMap]
  congr 1
  funext rf op
  cases op with
  | del f' keys lo hi => by_cases hf : f' = f <;> simp only [hf, if_true, if_false]
  | _ => rfl

theorem mem_delsOf {f : Nat} {ops : List Op} {d : DelCall} :
    d ∈ delsOf f ops ↔ Op.del f d.1 d.2.1 d.2.2 ∈ ops := by
  simp only [delsOf, List.mem_filterMap]
  constructor
  · rintro ⟨op, hop, h⟩
    cases op with
    | del f' keys lo hi =>
      by_cases hf : f' = f
      · simp only [hf, if_true, Option.some.injEq] at h
        subst h; subst hf; exact hop
      · simp [hf] at h
    | _ => simp at h
  · intro h
    exact ⟨_, h, by simp⟩

theorem bok_file {ops : List Op} (hv : ValidFrom [] ops) (f : Nat) : BOK (fileBlocksL f ops) := by
  obtain ⟨s1, s2, s3⟩ := fileBlocksL_spec f ops
  exact ⟨s1, s2, fun k => by rw [s3 k]; exact chain_of_valid hv f k⟩

theorem rinv_reader {ops : List Op} (hv : ValidFrom [] ops) (f : Nat) :
    RInv (fileBlocksL f ops) (readerOf f ops) (delsOf f ops) := by
  have hk : ∀ d ∈ delsOf f ops, keysAsc d.1 = true := fun d hd => valid_del_facts hv (mem_delsOf.mp hd)
  unfold readerOf
  generalize delsOf f ops = ds at hk
  -- fold from the left, accumulating the processed calls
  have : ∀ (ds done : List DelCall) (rf : RFile), RInv (fileBlocksL f ops) rf done →
      (∀ d ∈ ds, keysAsc d.1 = true) →
      RInv (fileBlocksL f ops) (ds.foldl (fun rf d => rf.deleteRange d.1 d.2.1 d.2.2) rf) (done ++ ds) := by
    intro ds
    induction ds with
    | nil => intro done rf h _; simpa using h
    | cons d ds ih =>
      intro done rf h hks
      have h1 := deleteRange_inv (bok_file hv f) rf done h d.1 d.2.1 d.2.2 (hks d List.mem_cons_self)
      simpa using ih (done ++ [d]) _ h1 (fun x hx => hks x (List.mem_cons_of_mem _ hx))
  simpa using this ds [] _ rinv_init hk

theorem mem_timesOf_file {ops : List Op} {f : Nat} {k : Key} {pts : Pts Int} {p : Int × Int}
    (hop : Op.blk f k pts ∈ ops) (hp : p ∈ pts) : p.1 ∈ timesOf (fileBlocksL f ops) k := by
  rw [mem_timesOf, (fileBlocksL_spec f ops).2.2]
  exact ⟨pts, mem_ptsOf.mpr hop, p, hp, rfl⟩

theorem deleted_iff {ops : List Op} {f : Nat} {k : Key} {t : Int} :
    deleted ops f k t = true ↔ ∃ d ∈ delsOf f ops, k ∈ d.1 ∧ d.2.1 ≤ t ∧ t ≤ d.2.2 := by
  simp only [deleted, List.any_eq_true]
  constructor
  · rintro ⟨op, hop, h⟩
    cases op with
    | del f' keys lo hi =>
      simp only [Bool.and_eq_true, beq_iff_eq, List.contains_iff_mem, decide_eq_true_eq] at h
      obtain ⟨⟨⟨rfl, h2⟩, h3⟩, h4⟩ := h
      exact ⟨(keys, lo, hi), mem_delsOf.mpr hop, h2, h3, h4⟩
    | _ => simp at h
  · rintro ⟨d, hd, h2, h3, h4⟩
    refine ⟨_, mem_delsOf.mp hd, ?_⟩
    simpa using ⟨⟨h2, h3⟩, h4⟩

/-- **the delete model is faithful**: a point of file `f` is gone in the reader exactly when
    the statement's `deleted` says so -/
theorem delAgree {ops : List Op} (hv : ValidFrom [] ops) {f : Nat} {k : Key} {st : Option (List (Int × Int))}
    (hst : (k, st) ∈ (readerOf f ops).index) {t : Int} (ht : t ∈ timesOf (fileBlocksL f ops) k) :
    goneAt st t = deleted ops f k t := by
  have inv := rinv_reader hv f
  cases hg : goneAt st t with
  | true =>
    -- gone: sound, the log entry that covers `t` comes from a delete call
    symm
    rw [deleted_iff]
    have hs := inv.sound k st hst
    cases st with
    | none =>
      obtain ⟨e, he, hek, h1, h2⟩ := hs t ht
      obtain ⟨d, hd, hd1, hd2⟩ := inv.logFrom e he
      exact ⟨d, hd, by rw [← hek]; exact hd1, by rw [← hd2]; exact h1, by rw [← hd2]; exact h2⟩
    | some tombs =>
      obtain ⟨r, hr, h1, h2⟩ := inTombs_iff.mp hg
      obtain ⟨d, hd, hd1, hd2⟩ := inv.logFrom _ (hs r hr)
      exact ⟨d, hd, hd1, by rw [← hd2]; exact h1, by rw [← hd2]; exact h2⟩
  | false =>
    -- not gone: a covering call would have removed the key or left a log entry, which is complete
    symm
    cases hd : deleted ops f k t with
    | false => rfl
    | true =>
      exfalso
      obtain ⟨d, hdm, h1, h2, h3⟩ := deleted_iff.mp hd
      rcases inv.eff d hdm k h1 st hst t ht h2 h3 with h4 | h4
      · rw [h4] at hg; cases hg
      · have := inv.complete k st hst _ h4 rfl t ht h2 h3
        rw [hg] at this; cases this

abbrev caseRuns (ops : List Op) : List (FileRuns Int) := (readers ops).map RFile.runs

theorem blocksFor_readers (ops : List Op) (k : Key) :
    blocksFor (caseRuns ops) k = (fileIds ops).flatMap fun f => getA (readerOf f ops).runs k := by
  show blocksFor ((readers ops).map RFile.runs) k = _
  unfold blocksFor
  rw [readers_eq, List.map_map, List.flatMap_map]
  rfl

theorem getA_runs_file {ops : List Op} (hv : ValidFrom [] ops) (f : Nat) (k : Key) :
    getA (readerOf f ops).runs k = match tombsOf (readerOf f ops) k with
      | some tombs => (ptsOf f k ops).map (mkBT tombs)
      | none => [] := by
  rw [getA_runs, (rinv_reader hv f).blocks, (fileBlocksL_spec f ops).2.2]

theorem mem_blocksFor_case {ops : List Op} (hv : ValidFrom [] ops) {k : Key} {b : Block Int}
    (hb : b ∈ blocksFor (caseRuns ops) k) : ∃ f tombs pts, Op.blk f k pts ∈ ops ∧ b = mkBT tombs pts := by
  rw [blocksFor_readers, List.mem_flatMap] at hb
  obtain ⟨f, _, hb⟩ := hb
  rw [getA_runs_file hv] at hb
  cases ht : tombsOf (readerOf f ops) k with
  | none => rw [ht] at hb; cases hb
  | some tombs =>
    rw [ht] at hb
    obtain ⟨pts, hpts, rfl⟩ := List.mem_map.mp hb
    exact ⟨f, tombs, pts, mem_ptsOf.mp hpts, rfl⟩

def fileHit (ops : List Op) (k : Key) (t : Int) (f : Nat) : Option Int :=
  if goneAt (tombsOf (readerOf f ops) k) t then none else lastAt (ptsOf f k ops) t

theorem restAt_flatMap_readers {ops : List Op} (hv : ValidFrom [] ops) (k : Key) (t : Int) : ∀ (ids : List Nat),
    restAt (ids.flatMap fun f => getA (readerOf f ops).runs k) t = lastHit (fileHit ops k t) ids
  | [] => rfl
  | f :: fs => by
    have : restAt (getA (readerOf f ops).runs k) t = fileHit ops k t f := by
      rw [getA_runs_file hv]
      unfold fileHit
      cases tombsOf (readerOf f ops) k with
      | none => rfl
      | some tombs => exact restAt_mkBT tombs _ (chain_of_valid hv f k) t
    rw [List.flatMap_cons, restAt_append, lastHit, restAt_flatMap_readers hv k t fs, this]

theorem fileHit_iff {ops : List Op} (hv : ValidFrom [] ops) {k : Key} {t : Int} {f : Nat} {v : Int} :
    fileHit ops k t f = some v ↔ ∃ pts, Op.blk f k pts ∈ ops ∧ (t, v) ∈ pts ∧ deleted ops f k t = false := by
  -- a key with a block is in the index, where `delAgree` speaks about its state
  have hag : ∀ {pts : Pts Int}, Op.blk f k pts ∈ ops → (t, v) ∈ pts →
      goneAt (tombsOf (readerOf f ops) k) t = deleted ops f k t := by
    intro pts hop hm
    refine delAgree hv ?_ (mem_timesOf_file hop hm)
    rcases tombsOf_spec (readerOf f ops) k with h | ⟨_, h⟩
    · exact h
    · exfalso
      have hne : getK (fileBlocksL f ops) k ≠ [] := by
        rw [(fileBlocksL_spec f ops).2.2]
        exact List.ne_nil_of_mem (mem_ptsOf.mpr hop)
      refine hne (getA_nil fun e he hek => ?_)
      have : e.1 ∈ (readerOf f ops).index.map (·.1) := by
        rw [(rinv_reader hv f).keys]; exact List.mem_map.mpr ⟨e, he, rfl⟩
      obtain ⟨x, hx, hxe⟩ := List.mem_map.mp this
      exact h x hx (hxe.trans hek)
  unfold fileHit
  constructor
  · intro hh
    split at hh
    · cases hh
    · rename_i hg
      obtain ⟨b, hb, hb'⟩ := lastAt_some_mem hh
      exact ⟨b, mem_ptsOf.mp hb, hb', by rw [← hag (mem_ptsOf.mp hb) hb']; simpa using hg⟩
  · rintro ⟨pts, hop, hm, hd⟩
    rw [hag hop hm, hd, if_neg Bool.false_ne_true]
    exact lastAt_of_mem (chain_of_valid hv f k) (mem_ptsOf.mpr hop) hm

theorem mem_candidates {ops : List Op} {k : Key} {t : Int} {f : Nat} {v : Int} :
    (f, v) ∈ candidates ops k t ↔ ∃ pts, Op.blk f k pts ∈ ops ∧ (t, v) ∈ pts ∧ deleted ops f k t = false := by
  simp only [candidates, List.mem_flatMap]
  constructor
  · rintro ⟨op, hop, hm⟩
    cases op with
    | blk f' k' pts =>
      by_cases hk : k' = k
      · subst hk
        by_cases hd : deleted ops f' k' t = true
        · simp [hd] at hm
        · have hd' : deleted ops f' k' t = false := by simpa using hd
          simp only [beq_self_eq_true, hd', Bool.not_false, Bool.and_self, if_true, List.mem_map, List.mem_filter,
            beq_iff_eq] at hm
          obtain ⟨p, ⟨hp, hpt⟩, hpe⟩ := hm
          simp only [Prod.mk.injEq] at hpe
          obtain ⟨rfl, rfl⟩ := hpe
          exact ⟨pts, hop, by rw [← hpt]; exact hp, hd'⟩
      · have : (k' == k) = false := by simp [hk]
        simp [this] at hm
    | _ => simp at hm
  · rintro ⟨pts, hop, hm, hd⟩
    refine ⟨_, hop, ?_⟩
    simp only [hd, Bool.not_false, Bool.and_true, beq_self_eq_true, if_true, List.mem_map, List.mem_filter,
      beq_iff_eq]
    exact ⟨(t, v), ⟨hm, rfl⟩, rfl⟩

/-- **newest file wins, tombstoned ranges removed**: the content the iterator theorem speaks
    about is the content the statement speaks about -/
theorem content_del {ops : List Op} (hv : ValidFrom [] ops) (k : Key) (t : Int) :
    restAt (blocksFor (caseRuns ops) k) t = expectedAt ops k t := by
  rw [blocksFor_readers, restAt_flatMap_readers hv k t]
  refine newest_eq_lastHit (fileIds_asc ops) fun f v => ?_
  rw [mem_candidates, fileHit_iff hv]
  constructor
  · rintro ⟨pts, hop, h⟩
    exact ⟨mem_fileIds.mpr ⟨(valid_blk_facts hv hop).1, k, pts, hop⟩, pts, hop, h⟩
  · exact fun h => h.2

theorem filesOK_del {ops : List Op} (hv : ValidFrom [] ops)
    (hcap : ∀ k, (blocksOfKey ops k).length ≤ 20) : FilesOK (some 20) (caseRuns ops) := by
  refine ⟨?_, ?_, ?_⟩
  · intro fr hfr
    rw [caseRuns, readers_eq, List.map_map] at hfr
    obtain ⟨f, _, rfl⟩ := List.mem_map.mp hfr
    have inv := rinv_reader hv f
    have hok := bok_file hv f
    have hrun : ∀ (kb : Key × List (Pts Int)) (r : Key × List (Block Int)),
        r ∈ (tombsOf (readerOf f ops) kb.1).map (fun tombs => (kb.1, kb.2.map (mkBT tombs))) →
        r.1 = kb.1 ∧ (r.2 = [] → kb.2 = []) := by
      intro kb r hr
      obtain ⟨tombs, _, rfl⟩ := Option.map_eq_some_iff.mp hr
      exact ⟨rfl, fun h => List.map_eq_nil_iff.mp h⟩
    show RunsWF (readerOf f ops).runs
    rw [runs_eq, inv.blocks]
    refine ⟨List.Pairwise.filterMap _ (fun a a' haa b hb b' hb' => ?_) hok.asc, fun r hr => ?_⟩
    · rw [(hrun a b hb).1, (hrun a' b' hb').1]; exact haa
    · obtain ⟨kb, hkb, hr⟩ := List.mem_filterMap.mp hr
      obtain ⟨h1, h2⟩ := hrun kb r hr
      have hne := hok.ne kb hkb
      refine ⟨?_, fun h => hne (h2 h)⟩
      -- the key comes from a `blk` operation
      obtain ⟨b, hb⟩ := List.exists_mem_of_ne_nil _ hne
      have hin : b ∈ getK (fileBlocksL f ops) kb.1 := by
        rw [show getK (fileBlocksL f ops) kb.1 = kb.2 from getA_of_mem hok.asc hkb]; exact hb
      rw [(fileBlocksL_spec f ops).2.2] at hin
      rw [h1]
      exact (valid_blk_facts hv (mem_ptsOf.mp hin)).2
  · intro k b hb
    obtain ⟨f, tombs, pts, hop, rfl⟩ := mem_blocksFor_case hv hb
    obtain ⟨c1, c2, c3⟩ := chain_mem_facts (chain_of_valid hv f k) (mem_ptsOf.mpr hop)
    exact fresh_mkBT tombs c1 c2 c3
  · intro k m hm
    cases hm
    refine Nat.le_trans ?_ (hcap k)
    rw [blocksFor_readers]
    unfold blocksOfKey
    generalize fileIds ops = ids
    induction ids with
    | nil => exact Nat.le_refl _
    | cons f fs ih =>
      have : (getA (readerOf f ops).runs k).length ≤ (ptsOf f k ops).length := by
        rw [getA_runs_file hv]
        cases tombsOf (readerOf f ops) k <;> simp
      simp only [List.flatMap_cons, List.length_append]
      omega

/-- **a compaction of the case, with range deletes, judged by the statement checker** -/
theorem modelCompact_ok' (ops : List Op) (hv : ValidFrom [] ops)
    (hcap : ∀ k, (blocksOfKey ops k).length ≤ 20) (fast : Bool) (size : Nat) (hs : 0 < size)
    (hsz : ∀ f k pts, Op.blk f k pts ∈ ops → pts.length ≤ size)
    (files : List OutFile) (h : modelCompact ops fast size = Obs.out files) :
    judge ops false size files = none := by
  unfold modelCompact at h
  split at h
  · rename_i seq hc
    cases h
    have ro := compactSeq_spec { size := size, fast := fast } (some 20) (stableLaw size fast) hs (caseRuns ops)
      (filesOK_del hv hcap) seq hc
    apply judge_split ops false size seq ro.sorted (fun k => blocksFor (caseRuns ops) k)
      (fun k => restAt (blocksFor (caseRuns ops) k)) ro.keys (fun k t => content_del hv k t)
    intro k b0 hb0
    obtain ⟨f, tombs, pts, hop, rfl⟩ := mem_blocksFor_case hv hb0
    exact hsz f k pts hop
  · cases h

/-- **a compaction of the case, judged by the statement checker**: the case without range deletes -/
theorem modelCompact_ok (ops : List Op) (hv : ValidFrom [] ops) (hnd : NoDel ops)
    (hcap : ∀ k, (blocksOfKey ops k).length ≤ 20) (fast : Bool) (size : Nat) (hs : 0 < size)
    (hsz : ∀ f k pts, Op.blk f k pts ∈ ops → pts.length ≤ size)
    (files : List OutFile) (h : modelCompact ops fast size = Obs.out files) :
    judge ops false size files = none :=
  modelCompact_ok' ops hv hcap fast size hs hsz files h

/-- the hypotheses under which a compaction of the accepted operations `acc` is proved to
    satisfy the statement: at most 20 blocks per key (see
    `C04_sort_stable_fails`), no input block larger than the requested size (see
    `C04_full_fails`), and the model run returns (termination of the loops is not proved) -/
def GoodAt (acc : List Op) (fast : Bool) (size : Nat) : Prop :=
  (∀ k, (blocksOfKey acc k).length ≤ 20) ∧
  (∀ f k pts, Op.blk f k pts ∈ acc → pts.length ≤ size) ∧
  ∃ files, modelCompact acc fast size = Obs.out files

/-- `GoodAt` at every compaction of the case (state = accepted operations, newest first) -/
def CaseGood : State → List Op → Prop
  | _, [] => True
  | s, op :: rest =>
    (match op with
      | Op.compact fast size _ => (size = 0 ∨ size > 100000) ∨ GoodAt s.reverse fast size
      | _ => True) ∧ CaseGood (step s op).1 rest

theorem step_valid {s : State} (hv : ValidFrom [] s.reverse) (op : Op) : ValidFrom [] (step s op).1.reverse := by
  have hacc : ∀ {op : Op}, Accepted ([] ++ s.reverse) op → ValidFrom [] (op :: s).reverse := fun h => by
    rw [List.reverse_cons]; exact validFrom_snoc.mpr ⟨hv, h⟩
  cases op with
  | blk f k pts =>
    dsimp only [step]
    split
    · exact hacc (by simpa [Accepted] using ‹blkOK s f k pts = true›)
    · exact hv
  | del f keys lo hi =>
    dsimp only [step]
    split
    · exact hacc ‹delOK f keys = true›
    · exact hv
  | cw k pts =>
    dsimp only [step]
    split
    · exact hacc trivial
    · exact hv
  | compact fast size reopen => dsimp only [step]; split <;> exact hv
  | snap size => dsimp only [step]; split <;> exact hv

/-- on the model's own answer to `op` the checker moves on, with the model's next state as
    its list of accepted operations -/
theorem judgeAll_step {s : State} (hv : ValidFrom [] s.reverse) (op : Op) (tl : List (Op × Obs))
    (hg : match op with
      | Op.compact fast size _ => (size = 0 ∨ size > 100000) ∨ GoodAt s.reverse fast size
      | _ => True) :
    judgeAll s.reverse ((op, (step s op).2) :: tl) = judgeAll (step s op).1.reverse tl := by
  cases op with
  | blk f k pts =>
    dsimp only [step]
    split
    · rw [List.reverse_cons]; rfl
    · rfl
  | del f keys lo hi =>
    dsimp only [step]
    split
    · rw [List.reverse_cons]; rfl
    · rfl
  | cw k pts =>
    dsimp only [step]
    split
    · rw [List.reverse_cons]; rfl
    · rfl
  | compact fast size reopen =>
    dsimp only [step]
    split
    · rfl
    · rename_i hb
      rcases hg with g | ⟨n2, n3, files, n4⟩
      · exact absurd g hb
      · rw [n4]
        show (match judge s.reverse false size files with
          | some r => some r
          | none => judgeAll s.reverse tl) = _
        rw [modelCompact_ok' s.reverse hv n2 fast size (by omega) n3 files n4]
  | snap size =>
    dsimp only [step]
    split
    · rfl
    · obtain ⟨files, hf⟩ := modelSnap_out s.reverse size
      rw [hf]
      show (match judge s.reverse true (if size = 0 then 1000 else size) files with
        | some r => some r
        | none => judgeAll s.reverse tl) = _
      rw [modelSnap_ok s.reverse size files hf]

theorem judgeAll_run : ∀ (ops : List Op) (s : State), ValidFrom [] s.reverse → CaseGood s ops →
    judgeAll s.reverse (run s ops) = none
  | [], _, _, _ => rfl
  | op :: rest, s, hv, hg => by
    unfold run
    rw [judgeAll_step hv op _ hg.1]
    exact judgeAll_run rest _ (step_valid hv op) hg.2

theorem ptsOf_length_le (f : Nat) (k : Key) (ops : List Op) : (ptsOf f k ops).length ≤ ops.length := by
  unfold ptsOf; exact List.length_filterMap_le _ _

end Influx.Model.Compact
