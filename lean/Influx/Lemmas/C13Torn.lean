/-
  Lemmas.C13Torn — the segment after a crash in the middle of the LAST append, of an insert
  entry (the bytes from the cut on read as zero): for every cut, `ForEachEntry` returns the
  old entries unchanged, plus at most one entry that carries the NEW id (never a garbage id)
  and a key of the right length.
-/
import Influx.Lemmas.C13Bytes

namespace Influx.SF

def tornTail (b : Bytes) (c : Nat) : Bytes := (List.range b.length).map fun i => if i < c then byteAt b i else 0

theorem tornTail_length (b : Bytes) (c : Nat) : (tornTail b c).length = b.length := by
  rw [tornTail, List.length_map, List.length_range]

theorem byteAt_tornTail (b : Bytes) (c i : Nat) : byteAt (tornTail b c) i = if i < c then byteAt b i else 0 := by
  rw [tornTail, byteAt_map_range]
  by_cases hi : i < b.length
  · rw [if_pos hi]
  · rw [if_neg hi, byteAt_ge b i (Nat.le_of_not_lt hi), ite_self]

theorem byteAt_tear (f : Bytes) (lo hi i : Nat) :
    byteAt (tear f lo hi) i = if lo ≤ i ∧ i < hi then 0 else byteAt f i := by
  unfold byteAt tear
  rw [List.getElem?_map, List.getElem?_zipIdx]
  cases f[i]? with
  | none => simp
  | some b => simp

theorem tear_eq (a b : Bytes) (c : Nat) :
    tear (a ++ b) (a.length + c) (a.length + b.length) = a ++ tornTail b c := by
  refine ext_byteAt (by rw [tear, List.length_map, List.length_zipIdx, List.length_append, List.length_append,
    tornTail_length]) fun i => ?_
  rw [byteAt_tear]
  by_cases hi : i < a.length
  · rw [if_neg fun h => Nat.not_le.mpr hi (Nat.le_trans (Nat.le_add_right _ _) h.1),
      byteAt_append_left _ _ _ hi, byteAt_append_left _ _ _ hi]
  · obtain ⟨j, rfl⟩ := Nat.exists_eq_add_of_le (Nat.le_of_not_lt hi)
    rw [byteAt_append_right, byteAt_append_right, byteAt_tornTail]
    by_cases hj : j < c
    · rw [if_neg fun h => Nat.not_le.mpr hj (Nat.le_of_add_le_add_left h.1), if_pos hj]
    · rw [if_neg hj]
      split
      · rfl
      · next hn =>
        exact byteAt_ge _ _ (Nat.le_of_not_lt fun hjb =>
          hn ⟨Nat.add_le_add_left (Nat.le_of_not_lt hj) _, Nat.add_lt_add_left hjb _⟩)

theorem byteAt_torn (pre b : Bytes) (c i : Nat) :
    byteAt (pre ++ tornTail b c) (pre.length + i) = if i < c then byteAt b i else 0 := by
  rw [byteAt_append_right, byteAt_tornTail]

/-- what `ReadSeriesEntry` makes of a torn insert entry -/
theorem readEntry_torn (pre : Bytes) (e : Entry) (hwf : e.wf) (hf : e.flag = insertFlag)
    (hoff : e.off = pre.length) (c : Nat) :
    (c ≤ 9 → readEntry (pre ++ tornTail e.bytes c) pre.length = none) ∧
    (9 < c → ∃ key', key'.length = e.key.length ∧ (e.bytes.length ≤ c → key' = e.key) ∧
      readEntry (pre ++ tornTail e.bytes c) pre.length = some { e with key := key' }) := by
  have hblen := Entry.bytes_length hwf
  obtain ⟨hid, hk⟩ := hwf
  obtain ⟨body, hkey, hb1, hb2⟩ : shortKey e.key :=
    hk.elim (·.2) fun h2 => absurd (hf.symm.trans h2.1) (by decide)
  have hG := byteAt_torn pre e.bytes c
  have hG0 : byteAt (pre ++ tornTail e.bytes c) pre.length = if 0 < c then e.flag else 0 := hG 0
  constructor
  · intro hc
    by_cases h0 : c = 0
    · exact readEntry_zero _ _ (by rw [hG0, if_neg (h0 ▸ Nat.lt_irrefl 0)])
    · -- flag present, the key area is still zero: empty key, rejected
      have hflag : byteAt (pre ++ tornTail e.bytes c) pre.length = insertFlag := by
        rw [hG0, if_pos (Nat.pos_of_ne_zero h0), hf]
      have hk0 : byteAt (pre ++ tornTail e.bytes c) (pre.length + entryHdrSize) = 0 := by
        rw [hG, if_neg (show ¬ entryHdrSize < c from Nat.not_lt.mpr hc)]
      have hu := uvarint_single (pre ++ tornTail e.bytes c) (pre.length + entryHdrSize) (by rw [hk0]; decide)
      simp [readEntry, hflag, readKey, hu, hk0]
  · intro hc
    have hflag : byteAt (pre ++ tornTail e.bytes c) pre.length = insertFlag := by
      rw [hG0, if_pos (Nat.lt_trans (by decide) hc), hf]
    -- flag and id are on disk
    have hbe : be64 (pre ++ tornTail e.bytes c) (pre.length + 1) = e.id := by
      rw [← be64_entry pre [] e hid]
      refine be64_congr fun i hi => ?_
      rw [Nat.add_assoc, hG, if_pos (Nat.lt_trans (Nat.add_lt_add_left hi 1) hc), byteAt_append_right, List.append_nil]
    -- so is the length prefix
    have hk0 : byteAt (pre ++ tornTail e.bytes c) (pre.length + entryHdrSize) = body.length := by
      rw [hG, if_pos (show entryHdrSize < c from hc), ← Nat.add_zero entryHdrSize, byteAt_bytes_key hf, hkey]; rfl
    have hu := uvarint_single (pre ++ tornTail e.bytes c) (pre.length + entryHdrSize) (by rw [hk0]; exact hb2)
    have hlen : ((List.range (body.length + 1)).map fun i =>
        byteAt (pre ++ tornTail e.bytes c) (pre.length + entryHdrSize + i)).length = e.key.length := by
      rw [List.length_map, List.length_range, hkey, List.length_cons]
    refine ⟨_, hlen, fun hfull => ?_, ?_⟩
    · -- nothing was lost
      refine List.ext_getElem hlen fun i h1 h2 => ?_
      rw [hblen, Entry.size] at hfull
      rw [List.getElem_map, List.getElem_range, Nat.add_assoc, hG,
        if_pos (Nat.lt_of_lt_of_le (Nat.add_lt_add_left h2 _) hfull), byteAt_bytes_key hf,
        byteAt, List.getElem?_eq_getElem h2]
    · simp only [readEntry, hflag, if_true, readKey, hu, hk0, Option.map_some, hbe]
      rw [if_neg (by rw [hlen, hkey, List.length_cons]; exact Nat.not_le.mpr (Nat.succ_lt_succ hb1))]
      cases e; cases hf; cases hoff; rfl

/-- **torn append** of an insert entry: every cut leaves the old entries as they were; what may
    be added carries the new id. -/
theorem entries_torn (es : List Entry) (e : Entry) (hch : Chain hdrSize (es ++ [e]))
    (hf : e.flag = insertFlag) (c : Nat) :
    let g := tear (fileOf es ++ e.bytes) ((fileOf es).length + c) ((fileOf es).length + e.bytes.length)
    (c ≤ 9 → entries g = es) ∧
    (9 < c → ∃ key', key'.length = e.key.length ∧ (e.bytes.length ≤ c → key' = e.key) ∧
      entries g = es ++ [{ e with key := key' }]) := by
  intro g
  obtain ⟨hces, hwf, hoff⟩ := Chain.append hdrSize es e hch
  have hg : g = hdr ++ (ser es ++ tornTail e.bytes c) := by
    simp only [g, tear_eq, fileOf, List.append_assoc]
  have hoff' : e.off = (hdr ++ ser es).length := by rw [hoff, List.length_append]; rfl
  obtain ⟨fuel, hscan⟩ := entries_ser_tail es (tornTail e.bytes c) hces
  have hre := readEntry_torn (hdr ++ ser es) e hwf hf hoff' c
  rw [List.append_assoc] at hre
  rw [hg, hscan]
  refine ⟨fun hc => ?_, fun hc => ?_⟩
  · rw [scan_none (hre.1 hc), List.append_nil]
  · obtain ⟨key', hkl, hfull, hr⟩ := hre.2 hc
    refine ⟨key', hkl, hfull, ?_⟩
    -- behind the (possibly garbled) entry everything is zero
    rw [scan_last hr (readEntry_zero _ _ (byteAt_ge _ _ ?_))]
    rw [List.length_append, List.length_append, List.length_append, tornTail_length, Entry.bytes_length hwf]
    show _ ≤ _ + (entryHdrSize + key'.length)
    rw [hkl]; exact Nat.le_of_eq (Nat.add_assoc _ _ _).symm

end Influx.SF
