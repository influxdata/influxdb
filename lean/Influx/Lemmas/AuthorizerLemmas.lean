/-
  Lemmas.AuthorizerLemmas — what a passed / failed authorization check implies
  (helper lemmas for Props.C29).
-/
import Influx.Model.Authorizer
import Influx.Spec.C29
import Influx.Props.C28

namespace Influx.Authzr
open Influx Influx.Tenant Influx.Generated.Authz Influx.Spec.C29

theorem authorize_ok_iff {c : Caller} {a : Action} {rt : ResourceType} {rid oid : Option Nat} :
    authorize c a rt rid oid = .ok () ↔
      (oid ≠ some 0 ∧ rid ≠ some 0 ∧ c.present = true ∧ c.active = true ∧ allowed c.perms (mkPerm a rt rid oid) = true) := by
  unfold authorize
  grind

/-- the only errors `authorize` reports are unauthorized / invalid id / no authorizer -/
theorem authorize_err_state {c : Caller} {a : Action} {rt : ResourceType} {rid oid : Option Nat} {e : Err}
    (h : authorize c a rt rid oid = .error e) : e = .unauth ∨ e = .base .inv ∨ e = .base .int := by
  unfold authorize at h
  grind

theorem verifyPermissions_ok_iff {c : Caller} {ps : List Permission} :
    verifyPermissions c ps = .ok () ↔ ∀ p ∈ ps, c.present = true ∧ c.active = true ∧ allowed c.perms p = true := by
  simp only [verifyPermissions, ite_eq_left_iff, List.all_eq_true, Bool.and_eq_true, and_assoc, reduceCtorEq, imp_false,
    Classical.not_not]

/-- the bridge from the code's `Matches` to the statement's `Justified` is C28 -/
theorem allowed_justified {ps : List Permission} {p : Permission} (h : allowed ps p = true) :
    ∃ q ∈ ps, Spec.C28.Justified q p := by
  simp only [allowed, List.any_eq_true, beq_iff_eq] at h
  obtain ⟨q, hq, hm⟩ := h
  exact ⟨q, hq, Influx.Props.C28.C28 q p hm⟩

theorem allowed_may {c : Caller} {p : Permission} (hp : c.present = true) (ha : c.active = true)
    (h : allowed c.perms p = true) : may c p = true := by
  simp only [may, hp, ha, Bool.true_and, List.any_eq_true, decide_eq_true_eq]
  exact allowed_justified h

theorem authorize_ok {c : Caller} {a : Action} {rt : ResourceType} {rid oid : Option Nat}
    (h : authorize c a rt rid oid = .ok ()) : may c (req a rt rid oid) = true := by
  obtain ⟨_, _, hp, ha, hal⟩ := authorize_ok_iff.mp h
  exact allowed_may hp ha hal

theorem authorizeReadBucket_ok {c : Caller} {sys : Bool} {id org : Nat}
    (h : authorizeReadBucket c sys id org = .ok ()) : mayReadBucket c id org sys = true := by
  unfold authorizeReadBucket at h
  unfold mayReadBucket
  split at h <;> rename_i hs <;> simp only [hs, ↓reduceIte, Bool.false_eq_true] <;> exact authorize_ok h

theorem authorizeReadAuth_ok {c : Caller} {id : Nat} {a : AuthRec}
    (h : authorizeReadAuth c id a = .ok ()) : mayReadAuth c id a.org a.user = true := by
  unfold authorizeReadAuth at h
  split at h
  · cases h
  · rename_i h1
    exact Bool.and_eq_true_iff.mpr ⟨authorize_ok h1, authorize_ok h⟩

theorem authorizeWriteAuth_ok {c : Caller} {id : Nat} {a : AuthRec}
    (h : authorizeWriteAuth c id a = .ok ()) : mayWriteAuth c id a.org a.user = true := by
  unfold authorizeWriteAuth at h
  split at h
  · cases h
  · rename_i h1
    exact Bool.and_eq_true_iff.mpr ⟨authorize_ok h1, authorize_ok h⟩

theorem verifyPermissions_ok {c : Caller} {ps : List Permission} (h : verifyPermissions c ps = .ok ()) :
    ps.all (may c) = true :=
  List.all_eq_true.mpr fun p hp =>
    have ⟨a, b, d⟩ := verifyPermissions_ok_iff.mp h p hp
    allowed_may a b d

/-- whatever passes the filter of `AuthorizeFind*` satisfies everything the check implies -/
theorem filterAuthorized_all {α : Type} {f : α → Except Err Unit} {P : α → Bool} (hP : ∀ x, f x = .ok () → P x = true) :
    ∀ {l l' : List α}, filterAuthorized f l = .ok l' → l'.all P = true := by
  intro l
  induction l with
  | nil => intro l' h; cases h; rfl
  | cons x xs ih =>
    intro l' h
    unfold filterAuthorized at h
    split at h
    · rename_i hx
      cases hr : filterAuthorized f xs with
      | error e => rw [hr] at h; cases h
      | ok r => rw [hr] at h; cases h; rw [List.all_cons, hP x hx, ih hr]; rfl
    · exact ih h
    · cases h

/-- "denied calls leave the state alone" as a property of a result -/
def DenSafe (s : St) (r : Res Nat) : Prop := ∀ e, r.2 = .error e → denied e = true → r.1 = s

theorem den_same {s : St} {r : Except Err Nat} : DenSafe s (s, r) := fun _ _ _ => rfl

theorem den_ok {s s' : St} {id : Nat} : DenSafe s (s', .ok id) := fun _ h => nomatch h

/-- the errors of the wrapped services are not denials -/
theorem den_base {s s' : St} {b : Tenant.Err} : DenSafe s (s', .error (.base b)) :=
  fun _ h hd => by cases h; cases hd

theorem den_ite {c : Prop} [Decidable c] {s : St} {a b : Res Nat} (ha : DenSafe s a) (hb : DenSafe s b) :
    DenSafe s (if c then a else b) := by
  split <;> assumption

theorem guarded_den {g : Except Err Unit} {s : St} {k : Res Nat} (hk : DenSafe s k) : DenSafe s (guarded g s k) := by
  unfold guarded
  split
  · exact den_same
  · exact hk

theorem fetchGuard_den {β : Type} {fetch : Except Err β} {g : β → Except Err Unit} {s : St} {k : Res Nat}
    (hk : DenSafe s k) : DenSafe s (fetchGuard fetch g s k) := by
  unfold fetchGuard
  split
  · exact den_same
  · exact guarded_den hk

theorem liftT_den (s : St) (r : Tenant.State × Except Tenant.Err Nat) : DenSafe s (liftT s r) := by
  unfold liftT
  split
  · exact den_ok
  · exact den_base

theorem createAuthSvc_den (s : St) (a : AuthRec) : DenSafe s (createAuthSvc s a) := by
  unfold createAuthSvc
  refine den_ite den_base (den_ite den_base (den_ite den_base (den_ite den_base ?_)))
  dsimp only
  split
  · exact den_ok
  · exact den_ite den_base den_ok

theorem updateAuthSvc_den (s : St) (id : Nat) (act : Bool) : DenSafe s (updateAuthSvc s id act) := by
  unfold updateAuthSvc
  split
  · exact den_base
  · exact den_ok

theorem deleteAuthSvc_den (s : St) (id : Nat) : DenSafe s (deleteAuthSvc s id) := by
  unfold deleteAuthSvc
  split
  · exact den_same
  · exact den_ok

theorem createAuth2_den (c : Caller) (s : St) (a : AuthRec) : DenSafe s (createAuth2 c s a) :=
  guarded_den (guarded_den (guarded_den (den_ite den_base (createAuthSvc_den s a))))

theorem guarded_ok {g : Except Err Unit} {s : St} {k : Res Nat} {id : Nat}
    (h : (guarded g s k).2 = .ok id) : g = .ok () ∧ k.2 = .ok id := by
  unfold guarded at h
  split at h
  · cases h
  · exact ⟨rfl, h⟩

theorem fetchGuard_ok {β : Type} {fetch : Except Err β} {g : β → Except Err Unit} {s : St} {k : Res Nat} {id : Nat}
    (h : (fetchGuard fetch g s k).2 = .ok id) : ∃ b, fetch = .ok b ∧ g b = .ok () ∧ k.2 = .ok id := by
  unfold fetchGuard at h
  split at h
  · cases h
  · exact ⟨_, rfl, guarded_ok h⟩

/-- the three checks of both `CreateAuthorization` wrappers -/
theorem createAuth_checks {c : Caller} {a : AuthRec} {g1 g2 : Except Err Unit} {s : St} {k : Res Nat} {id : Nat}
    (h : (guarded g1 s (guarded g2 s (guarded (verifyPermissions c a.perms) s k))).2 = .ok id) :
    g1 = .ok () ∧ g2 = .ok () ∧ verifyPermissions c a.perms = .ok () :=
  have ⟨h1, h⟩ := guarded_ok h
  have ⟨h2, h⟩ := guarded_ok h
  ⟨h1, h2, (guarded_ok h).1⟩

theorem getBucket_pre {s : St} {id : Nat} {b : BucketRec} (h : getBucket s id = .ok b) :
    preBucket s id = some (b.org, 0) := by
  unfold getBucket at h
  split at h
  · cases h
  · split at h
    · cases h
    · rename_i hb; cases h; simp [preBucket, hb]

theorem getAuth_pre {s : St} {id : Nat} {a : AuthRec} (h : getAuth s id = .ok a) :
    preAuth s id = some (a.org, a.user) := by
  unfold getAuth at h
  split at h
  · cases h
  · split at h
    · cases h
    · rename_i hb; cases h; simp [preAuth, hb]

theorem callOK_err (c : Caller) (op : WOp) (e : Err) (chg : Bool) : callOK c op (.err e chg) = !(denied e && chg) := rfl

theorem callOK_read {α : Type} (c : Caller) (op : WOp) (s : St) (r : Except Err α) (f : α → Ans)
    (h : ∀ a, r = .ok a → callOK c op (f a) = true) : callOK c op (ansRead s r f).2 = true := by
  unfold ansRead
  cases r with
  | ok a => exact h a rfl
  | error e => rw [callOK_err, Bool.and_false]; rfl

theorem sameStore_self (s : St) : sameStore s s = true := by simp [sameStore]

theorem callOK_mut (c : Caller) (op : WOp) (s : St) (r : Res Nat) (pre : Option (Nat × Nat))
    (hden : DenSafe s r) (hok : ∀ id, r.2 = .ok id → callOK c op (.okMut id pre) = true) :
    callOK c op (ansMut s r pre).2 = true := by
  unfold ansMut
  cases hr : r.2 with
  | ok id => exact hok id hr
  | error e =>
    rw [callOK_err]
    cases hd : denied e
    · rfl
    · rw [hden e hr hd, sameStore_self]; rfl

theorem callOK_wstep (c : Caller) (s : St) (op : WOp) : callOK c op (wstep c s op).2 = true := by
  cases op with
  | gb id =>
    apply callOK_read; intro a h
    unfold findBucketByID at h
    split at h
    · cases h
    · split at h
      · cases h
      · rename_i hz; cases h; exact authorizeReadBucket_ok hz
  | fb o n | fB o n =>
    apply callOK_read; intro a h
    unfold findBucketByName at h
    split at h
    · cases h
    · split at h
      · cases h
      · rename_i hz; cases h; exact authorizeReadBucket_ok hz
  | lb o =>
    apply callOK_read; intro l h
    unfold findBuckets at h
    simp only at h
    split at h
    · cases h
    · show (l.map bk).all _ = true
      rw [List.all_map]
      exact filterAuthorized_all (fun e he => authorizeReadBucket_ok he) h
  | cb o n sys | co n | uo id n | dO id | cu n id | uu id n | du id =>
    exact callOK_mut c _ s _ _ (guarded_den (liftT_den s _)) fun _ h => authorize_ok (guarded_ok h).1
  | ub id n | db id =>
    refine callOK_mut c _ s _ _ (fetchGuard_den (liftT_den s _)) fun _ h => ?_
    obtain ⟨b, hb, hg, _⟩ := fetchGuard_ok h
    rw [getBucket_pre hb]; exact authorize_ok hg
  | gO id =>
    apply callOK_read; intro a h
    unfold findOrgByID at h
    split at h
    · cases h
    · rename_i hz
      cases hg : getOrg s id with
      | error e => rw [hg] at h; cases h
      | ok n => rw [hg] at h; cases h; exact authorize_ok hz
  | fo n =>
    apply callOK_read; intro a h
    unfold findOrgByName at h
    split at h
    · cases h
    · split at h
      · cases h
      · rename_i hz; cases h; exact authorize_ok hz
  | lo =>
    apply callOK_read; intro l h
    unfold findOrgs at h
    split at h
    · cases h
    · exact filterAuthorized_all (fun _ ho => authorize_ok ho) h
  | gu id =>
    apply callOK_read; intro a h
    unfold findUserByID at h
    split at h
    · cases h
    · rename_i hz
      split at h
      · cases h
      · cases h; exact authorize_ok hz
  | fu n =>
    apply callOK_read; intro a h
    unfold findUserByName at h
    split at h
    · cases h
    · split at h
      · cases h
      · rename_i hz; cases h; exact authorize_ok hz
  | lu => exact callOK_read _ _ _ _ _ fun _ h => filterAuthorized_all (fun _ ho => authorize_ok ho) h
  | pu id => rfl
  | ga id =>
    apply callOK_read; intro a h
    unfold findAuthByID at h
    split at h
    · cases h
    · split at h
      · cases h
      · rename_i hz; cases h; exact authorizeReadAuth_ok hz
  | ft t =>
    apply callOK_read; intro a h
    unfold findAuthByToken at h
    split at h
    · cases h
    · split at h
      · cases h
      · rename_i hz; cases h; exact authorizeReadAuth_ok hz
  | la =>
    apply callOK_read; intro l h
    show (l.map au).all _ = true
    rw [List.all_map]
    exact filterAuthorized_all (fun e he => authorizeReadAuth_ok he) h
  | ca a =>
    refine callOK_mut c _ s _ _ (guarded_den (guarded_den (guarded_den (createAuthSvc_den s a)))) fun _ h => ?_
    obtain ⟨h1, h2, h3⟩ := createAuth_checks h
    exact Bool.and_eq_true_iff.mpr
      ⟨Bool.and_eq_true_iff.mpr ⟨authorize_ok h1, authorize_ok h2⟩, verifyPermissions_ok h3⟩
  | ca2 a =>
    refine callOK_mut c _ s _ _ (createAuth2_den c s a) fun _ h => ?_
    obtain ⟨h1, h2, h3⟩ := createAuth_checks h
    exact Bool.and_eq_true_iff.mpr
      ⟨Bool.and_eq_true_iff.mpr ⟨authorize_ok h1, authorize_ok h2⟩, verifyPermissions_ok h3⟩
  | ua id act =>
    refine callOK_mut c _ s _ _ (fetchGuard_den (updateAuthSvc_den s id act)) fun _ h => ?_
    obtain ⟨a, ha, hg, _⟩ := fetchGuard_ok h
    rw [getAuth_pre ha]; exact authorizeWriteAuth_ok hg
  | da id =>
    refine callOK_mut c _ s _ _ (fetchGuard_den (deleteAuthSvc_den s id)) fun _ h => ?_
    obtain ⟨a, ha, hg, _⟩ := fetchGuard_ok h
    rw [getAuth_pre ha]; exact authorizeWriteAuth_ok hg

end Influx.Authzr
