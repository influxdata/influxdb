/-
  Lemmas.C13Steps — the partition operations keep the invariant.  `createOne` and `DeleteSeriesID`
  append one entry and apply it to the index: one step lemma (`PInv2.push`).  `Open` and the index
  compaction rebuild the in-memory index from the durable part: `PInv2.recover`.
-/
import Influx.Lemmas.C13Lookup

namespace Influx.SF
open Part

variable {p : Part} {es : List Entry}

/-- `openSegments`: the next id from the highest id in the segment -/
def nextSeq (pid : Nat) (es : List Entry) : Nat :=
  if SF.maxSeriesID es ≥ pid + 1 then SF.maxSeriesID es + partN else pid + 1

theorem maxSeriesID_snoc (es : List Entry) (e : Entry) :
    SF.maxSeriesID (es ++ [e]) =
      if e.flag = insertFlag ∧ e.id > SF.maxSeriesID es then e.id else SF.maxSeriesID es := by
  unfold SF.maxSeriesID; rw [List.foldl_append]; rfl

theorem maxSeriesID_ge (es : List Entry) : ∀ e ∈ es, e.flag = insertFlag → e.id ≤ SF.maxSeriesID es :=
  (foldMax_spec (fun e : Entry => e.flag = insertFlag) (fun e => e.id) es 0).2.1

theorem maxSeriesID_mem (es : List Entry) :
    SF.maxSeriesID es = 0 ∨ ∃ e ∈ es, e.flag = insertFlag ∧ e.id = SF.maxSeriesID es :=
  (foldMax_spec (fun e : Entry => e.flag = insertFlag) (fun e => e.id) es 0).2.2

/-- `PInv` plus: `seq` is what `openSegments` computes from the segment, and the replay boundary lies
    inside the segment (the index compaction sets it to 0 or to the offset of an entry) -/
structure PInv2 (p : Part) (es : List Entry) : Prop extends PInv p es where
  seqEq : p.seq = nextSeq p.pid es
  boundLt : p.bound < p.file.length

theorem base_of_file (p : Part) (f : Bytes) : ({ p with file := f } : Part).base = { p.base with file := f } := rfl
theorem bound_of_file (p : Part) (f : Bytes) : ({ p with file := f } : Part).bound = p.bound := rfl

theorem filter_snoc_gt (es : List Entry) (e : Entry) (B : Nat) (h : e.off > B) :
    (es ++ [e]).filter (fun x => x.off > B) = es.filter (fun x => x.off > B) ++ [e] := by
  simp [List.filter_append, h]

theorem tombed_snoc (es : List Entry) (e : Entry) (id : Nat) :
    Tombed (es ++ [e]) id ↔ Tombed es id ∨ (e.flag ≠ insertFlag ∧ e.id = id) := by
  simp only [Tombed, List.mem_append, List.mem_singleton, or_and_right, exists_or, exists_eq_left]

theorem DiskOK.snoc {d : IndexFile} (h : DiskOK d es) (e : Entry) (hoff : d.maxOffset < e.off) :
    DiskOK d (es ++ [e]) := by
  refine ⟨?_, ?_, ?_, h.d4⟩
  · intro x hx
    obtain ⟨e', he', r⟩ := h.d1 x hx
    exact ⟨e', List.mem_append_left _ he', r⟩
  · intro e' he' hf hle
    rcases List.mem_append.mp he' with h1 | h1
    · exact (h.d2 e' h1 hf hle).imp_right fun h2 => (tombed_snoc es e e'.id).mpr (Or.inl h2)
    · obtain rfl := List.mem_singleton.mp h1
      exact absurd hle (Nat.not_le.mpr hoff)
  · intro x hx t ht hf hid
    rcases List.mem_append.mp ht with h1 | h1
    · exact h.d3 x hx t h1 hf hid
    · obtain rfl := List.mem_singleton.mp h1
      exact hoff

theorem seq_gt_max (h : PInv2 p es) : SF.maxSeriesID es < p.seq ∧ p.pid + 1 ≤ p.seq := by
  have hs := h.seqEq
  unfold nextSeq at hs
  by_cases hM : SF.maxSeriesID es ≥ p.pid + 1
  · rw [if_pos hM] at hs
    rw [hs]; exact ⟨Nat.lt_add_of_pos_right (by decide), Nat.le_trans hM (Nat.le_add_right _ _)⟩
  · rw [if_neg hM] at hs
    rw [hs]; exact ⟨Nat.lt_of_not_le hM, Nat.le_refl _⟩

theorem off_lt_length (h : PInv p es) : ∀ e ∈ es, e.off + e.size ≤ p.file.length := by
  intro e he
  obtain ⟨hw, pre, rest, hs, hp⟩ := Chain.split hdrSize es h.chain e he
  rw [h.file, fileOf_length, hs, List.length_append, List.length_append, Entry.bytes_length hw, ← hp, Nat.add_assoc]
  exact Nat.add_le_add_left (Nat.add_le_add_left (Nat.le_add_right _ _) _) _

/-- `writeLogEntry` of `e` (the id sequence advances when it is an insert entry), then `execEntry` -/
def Part.push (p : Part) (e : Entry) : Part :=
  ({ p with file := p.file ++ e.bytes, seq := if e.flag = insertFlag then p.seq + partN else p.seq }).execEntry e

theorem push_file (p : Part) (e : Entry) : (p.push e).file = p.file ++ e.bytes := execEntry_file _ _
theorem push_idxFile (p : Part) (e : Entry) : (p.push e).idxFile = p.idxFile := execEntry_idxFile _ _
theorem push_pid (p : Part) (e : Entry) : (p.push e).pid = p.pid := execEntry_pid _ _
theorem push_threshold (p : Part) (e : Entry) : (p.push e).threshold = p.threshold := execEntry_threshold _ _
theorem push_seq (p : Part) (e : Entry) :
    (p.push e).seq = if e.flag = insertFlag then p.seq + partN else p.seq := execEntry_seq _ _
theorem push_mem (p : Part) (e : Entry) : SameMem (p.push e) (p.execEntry e) := by
  unfold Part.push
  apply SameMem.execEntry
  exact ⟨rfl, rfl, rfl, rfl⟩

theorem PInv2.push (h : PInv2 p es) (e : Entry) (hwf : e.wf) (hoff : e.off = p.file.length)
    (hid : e.flag = insertFlag → e.id = p.seq)
    (hkey : e.flag = insertFlag → ∀ x, Live es x → x.key ≠ e.key)
    (htomb : e.flag ≠ insertFlag → ∃ x ∈ es, x.flag = insertFlag ∧ x.id = e.id) :
    PInv2 (p.push e) (es ++ [e]) := by
  obtain ⟨hmax, hpidle⟩ := seq_gt_max h
  have hchain : Chain hdrSize (es ++ [e]) :=
    Chain.snoc _ _ _ h.chain hwf (by rw [hoff, h.file, fileOf_length])
  have hlt : ∀ x ∈ es, x.off < e.off := fun x hx =>
    (List.pairwise_append.mp (Chain.off_inc _ _ hchain)).2.2 x hx e (List.mem_singleton.mpr rfl)
  have hb : (p.push e).bound = p.bound := bound_congr (push_idxFile p e)
  have hbe : p.bound < e.off := by rw [hoff]; exact h.boundLt
  -- the replay of the longer list is the replay of the old one followed by the new entry
  have hm : SameMem (p.push e)
      (replay (p.push e).base ((es ++ [e]).filter (fun x => x.off > (p.push e).bound))) := by
    rw [hb, filter_snoc_gt es e p.bound hbe, replay_append]
    exact (push_mem p e).trans ((h.mem.trans ((sameMem_base (push_idxFile p e).symm).replay _)).execEntry e)
  refine ⟨⟨?_, hchain, ?_, ?_, ?_, ?_, ?_, hm.1, hm.2.1, hm.2.2.1, hm.2.2.2, ?_⟩, ?_, ?_⟩
  · rw [push_file, h.file, fileOf_snoc]
  · intro x hx hfx
    rw [push_pid, push_seq]
    rcases List.mem_append.mp hx with h1 | h1
    · obtain ⟨a, b, c⟩ := h.idPos x h1 hfx
      exact ⟨a, by split; exact Nat.lt_add_right _ b; exact b, c⟩
    · obtain rfl := List.mem_singleton.mp h1
      rw [if_pos hfx, hid hfx]
      exact ⟨Nat.lt_of_lt_of_le (Nat.succ_pos _) hpidle, Nat.lt_add_of_pos_right (by decide), h.seqMod⟩
  · refine List.pairwise_append.mpr ⟨h.idInc, List.pairwise_singleton _ _, fun x hx y hy hfx hfy => ?_⟩
    obtain rfl := List.mem_singleton.mp hy
    rw [hid hfy]; exact (h.idPos x hx hfx).2.1
  · rw [push_pid, push_seq]
    split
    · rw [Nat.add_mod_right]; exact h.seqMod
    · exact h.seqMod
  · refine List.pairwise_append.mpr ⟨h.keys.imp fun hab ha hb hk => ?_, List.pairwise_singleton _ _, fun x hx y hy hfx hfy hk => ?_⟩
    · obtain ⟨t, ht, r⟩ := hab ha hb hk
      exact ⟨t, List.mem_append_left _ ht, r⟩
    · obtain rfl := List.mem_singleton.mp hy
      obtain ⟨t, ht, hf, hid⟩ : Tombed es x.id :=
        Classical.byContradiction fun hnt => hkey hfy x ⟨hx, hfx, hnt⟩ hk
      exact ⟨t, List.mem_append_left _ ht, hf, hid, hlt t ht⟩
  · intro t ht hf
    rcases List.mem_append.mp ht with h1 | h1
    · obtain ⟨x, hx, r⟩ := h.tombAfter t h1 hf
      exact ⟨x, List.mem_append_left _ hx, r⟩
    · obtain rfl := List.mem_singleton.mp h1
      obtain ⟨x, hx, hfx, hid⟩ := htomb hf
      exact ⟨x, List.mem_append_left _ hx, hfx, hid, hlt x hx⟩
  · intro d hd
    rw [push_idxFile] at hd
    have : p.bound = d.maxOffset := by unfold Part.bound; rw [hd]
    exact (h.disk d hd).snoc e (this ▸ hbe)
  · rw [push_seq, push_pid, nextSeq, maxSeriesID_snoc]
    by_cases hf : e.flag = insertFlag
    · rw [if_pos hf, if_pos (⟨hf, by rw [hid hf]; exact hmax⟩ : e.flag = insertFlag ∧ e.id > SF.maxSeriesID es), hid hf]
      exact (if_pos hpidle).symm
    · rw [if_neg hf, if_neg (fun hh => hf hh.1 : ¬ (e.flag = insertFlag ∧ e.id > SF.maxSeriesID es))]
      exact h.seqEq
  · rw [hb, push_file, List.length_append]
    exact Nat.lt_of_lt_of_le h.boundLt (Nat.le_add_right _ _)

theorem createOne_live (h : PInv2 p es) {e : Entry} (hl : Live es e) : p.createOne e.key = (p, e.id) := by
  have hne : e.id ≠ 0 := Nat.ne_of_gt (h.idPos e hl.1 hl.2.1).1
  unfold Part.createOne
  rw [findID_live h.toPInv hl]
  exact if_pos hne

/-- the insert entry `createOne` appends for a new key -/
def newEntry (p : Part) (key : Bytes) : Entry := ⟨insertFlag, p.seq, key, p.file.length⟩

theorem createOne_eq (p : Part) (key : Bytes) (hfind : p.findID key = 0) :
    p.createOne key = (p.push (newEntry p key), p.seq) := by
  unfold Part.createOne
  rw [hfind]
  rfl

theorem createOne_new (h : PInv2 p es) (key : Bytes) (hk : shortKey key)
    (hno : ∀ e, Live es e → e.key ≠ key) (hseq : p.seq < 2 ^ 64) :
    (p.createOne key).2 = p.seq ∧ PInv2 (p.createOne key).1 (es ++ [newEntry p key]) ∧
      (p.createOne key).1.seq = p.seq + partN ∧ (p.createOne key).1.pid = p.pid ∧
      (p.createOne key).1.threshold = p.threshold := by
  rw [createOne_eq p key (findID_none h.toPInv key hno)]
  exact ⟨rfl, h.push (newEntry p key) ⟨hseq, Or.inl ⟨rfl, hk⟩⟩ rfl (fun _ => rfl) (fun _ => hno) (fun hf => absurd rfl hf),
    push_seq _ _, push_pid _ _, push_threshold _ _⟩

/-- the tombstone entry `DeleteSeriesID` appends -/
def tombEntry (p : Part) (id : Nat) : Entry := ⟨tombstoneFlag, id, [], p.file.length⟩

theorem delete_noop {id : Nat} (hd : p.isDeleted id = true) : p.delete id = p := by
  unfold Part.delete; rw [if_pos hd]

theorem delete_eq (p : Part) (id : Nat) (hd : p.isDeleted id = false) : p.delete id = p.push (tombEntry p id) := by
  unfold Part.delete
  rw [hd]
  rfl

theorem delete_live (h : PInv2 p es) (id : Nat) (hd : p.isDeleted id = false) (hseq : p.seq < 2 ^ 64) :
    PInv2 (p.delete id) (es ++ [tombEntry p id]) ∧ (p.delete id).seq = p.seq ∧
      (p.delete id).pid = p.pid ∧ (p.delete id).threshold = p.threshold := by
  obtain ⟨_, e0, he0, hf0, hid0⟩ := (isDeleted_false_iff h.toPInv id).mp hd
  have hidlt : id < 2 ^ 64 := Nat.lt_trans (hid0 ▸ (h.idPos e0 he0 hf0).2.1) hseq
  have hflag : (tombEntry p id).flag ≠ insertFlag := (by decide : tombstoneFlag ≠ insertFlag)
  rw [delete_eq p id hd]
  exact ⟨h.push (tombEntry p id) ⟨hidlt, Or.inr ⟨rfl, rfl⟩⟩ rfl (fun hf => absurd hf hflag) (fun hf => absurd hf hflag)
      (fun _ => ⟨e0, he0, hf0, hid0⟩),
    (push_seq _ _).trans (if_neg hflag), push_pid _ _, push_threshold _ _⟩


theorem PInv2.recover (h : PInv2 p es) {p1 : Part} (hfile : p1.file = p.file) (hseq : p1.seq = p.seq)
    (hpid : p1.pid = p.pid) (hdisk : ∀ d, p1.idxFile = some d → DiskOK d es) (hbound : p1.bound < p.file.length) :
    PInv2 p1.recover es ∧ p1.recover.seq = p.seq ∧ p1.recover.pid = p.pid ∧
      p1.recover.threshold = p1.threshold := by
  have hent : entries p1.file = es := by rw [hfile]; exact h.entries_eq
  rw [recover_eq, hent]
  have hidx : (replay p1.base (es.filter (fun e => e.off > p1.bound))).idxFile = p1.idxFile := replay_idxFile _ _
  have hs : (replay p1.base (es.filter (fun e => e.off > p1.bound))).seq = p.seq := (replay_seq _ _).trans hseq
  have hp : (replay p1.base (es.filter (fun e => e.off > p1.bound))).pid = p.pid := (replay_pid _ _).trans hpid
  have hf : (replay p1.base (es.filter (fun e => e.off > p1.bound))).file = p.file := (replay_file _ _).trans hfile
  have hb := bound_congr hidx
  exact ⟨⟨h.toPInv.of_durable hf hs hp (by rw [hidx]; exact hdisk)
      (by rw [hb]; exact (sameMem_base hidx.symm).replay _),
    by rw [hs, hp]; exact h.seqEq, by rw [hb, hf]; exact hbound⟩, hs, hp, replay_threshold _ _⟩

theorem resize_self (f : Bytes) : resize f f.length = f := by
  apply List.ext_getElem
  · simp [resize]
  · intro i h1 h2
    simp [resize, byteAt, List.getElem?_eq_getElem h2]

theorem dataSize_fileOf (es : List Entry) (h : Chain hdrSize es) : dataSize (fileOf es) = (fileOf es).length := by
  unfold dataSize
  rw [entries_fileOf es h, fileOf_length]
  cases hl : es.getLast? with
  | none =>
    have : es = [] := List.getLast?_eq_none_iff.mp hl
    subst this; simp [ser]
  | some e => exact Chain.last_end hdrSize es h e hl

theorem load_inv (h : PInv2 p es) (thr : Nat) :
    PInv2 (p.load thr) es ∧ (p.load thr).seq = p.seq ∧ (p.load thr).pid = p.pid ∧
      (p.load thr).threshold = thr := by
  have hfile : resize p.file (dataSize p.file) = p.file := by
    rw [h.file, dataSize_fileOf es h.chain, resize_self]
  have hseq : (if SF.maxSeriesID (entries p.file) ≥ p.pid + 1 then SF.maxSeriesID (entries p.file) + partN
      else p.pid + 1) = p.seq := by
    rw [h.toPInv.entries_eq, h.seqEq]; rfl
  unfold Part.load
  simp only [hfile, hseq]
  exact h.recover rfl rfl rfl h.disk h.boundLt

theorem takeWhile_sorted (l : List Entry) (M : Nat) (hs : l.Pairwise (fun a b => a.off < b.off)) :
    l.takeWhile (fun e => decide (e.off ≤ M)) = l.filter (fun e => decide (e.off ≤ M)) := by
  induction l with
  | nil => rfl
  | cons x xs ih =>
    have hx := List.pairwise_cons.mp hs
    by_cases hle : x.off ≤ M
    · simp [List.takeWhile_cons, List.filter_cons, hle, ih hx.2]
    · simp only [List.takeWhile_cons, List.filter_cons, hle, decide_false, Bool.false_eq_true, if_false]
      symm
      rw [List.filter_eq_nil_iff]
      intro e he
      exact fun hd => Nat.not_le.mpr (Nat.lt_trans (Nat.lt_of_not_le hle) (hx.1 e he)) (of_decide_eq_true hd)

theorem getLast_max {l : List Entry} (hs : l.Pairwise (fun a b => a.off < b.off)) {e : Entry}
    (hl : l.getLast? = some e) : ∀ x ∈ l, x.off ≤ e.off := by
  obtain ⟨l', rfl⟩ := List.getLast?_eq_some_iff.mp hl
  intro x hx
  rcases List.mem_append.mp hx with h1 | h1
  · exact Nat.le_of_lt ((List.pairwise_append.mp hs).2.2 x h1 e (List.mem_singleton.mpr rfl))
  · rw [List.mem_singleton.mp h1]; exact Nat.le_refl _

theorem compact_inv (h : PInv2 p es) :
    PInv2 p.compact es ∧ p.compact.seq = p.seq ∧ p.compact.pid = p.pid ∧
      p.compact.threshold = p.threshold := by
  have hent := h.toPInv.entries_eq
  have hoffinc := h.toPInv.offInc
  have hmax : ∀ e ∈ es, e.flag = insertFlag → e.off ≤ p.maxOffset := by
    intro e he hf
    rw [h.maxOffset]
    by_cases hb : e.off > p.bound
    · exact maxOffset_replay_mem _ _ e (List.mem_filter.mpr ⟨he, by simpa using hb⟩) hf
    · exact Nat.le_trans (Nat.le_of_not_lt hb) (maxOffset_replay_ge p.base _)
  have hins : ((entries p.file).takeWhile (fun e => decide (e.off ≤ p.maxOffset))).filter (fun e => decide (e.flag = insertFlag))
      = es.filter (fun e => decide (e.flag = insertFlag)) := by
    rw [hent, takeWhile_sorted es p.maxOffset hoffinc, List.filter_filter]
    apply List.filter_congr
    intro e he
    by_cases hf : e.flag = insertFlag
    · simp [hf, hmax e he hf]
    · simp [hf]
  unfold Part.compact
  simp only [hins]
  generalize hI : es.filter (fun e => decide (e.flag = insertFlag)) = ins
  generalize hL : ins.filter (fun e => !p.isDeleted e.id) = live
  have hinsmem : ∀ e, e ∈ ins ↔ e ∈ es ∧ e.flag = insertFlag := by
    intro e; rw [← hI]; simp [List.mem_filter]
  have hlivemem : ∀ e, e ∈ live ↔ (e ∈ es ∧ e.flag = insertFlag) ∧ p.isDeleted e.id = false := by
    intro e; rw [← hL, List.mem_filter, hinsmem]; simp
  have hinssorted : ins.Pairwise (fun a b => a.off < b.off) := by rw [← hI]; exact hoffinc.filter _
  have hBmax : ∀ e ∈ es, e.flag = insertFlag →
      e.off ≤ (match ins.getLast? with | some e => e.off | none => 0) := by
    intro e he hf
    cases hl : ins.getLast? with
    | none =>
      have : ins = [] := List.getLast?_eq_none_iff.mp hl
      have hm := (hinsmem e).mpr ⟨he, hf⟩
      rw [this] at hm; cases hm
    | some x => exact getLast_max hinssorted hl e ((hinsmem e).mpr ⟨he, hf⟩)
  have hdiskOK : DiskOK
      { maxSeriesID := match ins.getLast? with | some e => e.id | none => 0
        maxOffset := match ins.getLast? with | some e => e.off | none => 0
        count := live.length
        keyID := live.map fun e => (e.off, e.id)
        idOff := live.map fun e => (e.id, e.off) } es := by
    refine ⟨?_, ?_, ?_, ?_⟩
    · intro x hx
      obtain ⟨e, he, rfl⟩ := List.mem_map.mp hx
      obtain ⟨⟨hes, hf⟩, _⟩ := (hlivemem e).mp he
      exact ⟨e, hes, hf, rfl, rfl, hBmax e hes hf⟩
    · intro e he hf _
      by_cases hd : p.isDeleted e.id = true
      · rcases (isDeleted_iff h.toPInv e.id).mp hd with ht | hno
        · exact Or.inr ht
        · exact absurd rfl (hno e he hf)
      · left
        exact List.mem_map.mpr ⟨e, (hlivemem e).mpr ⟨⟨he, hf⟩, by simpa using hd⟩, rfl⟩
    · intro x hx t ht hft hid
      obtain ⟨e, he, rfl⟩ := List.mem_map.mp hx
      obtain ⟨_, hnd⟩ := (hlivemem e).mp he
      have := (isDeleted_false_iff h.toPInv e.id).mp hnd
      exact absurd ⟨t, ht, hft, hid⟩ this.1
    · simp [List.map_map, Function.comp_def]
  refine h.recover rfl rfl rfl (by intro d hd; simp only [Option.some.injEq] at hd; subst hd; exact hdiskOK) ?_
  show (match ins.getLast? with | some e => e.off | none => 0) < p.file.length
  cases hl : ins.getLast? with
  | none => exact Nat.lt_of_le_of_lt (Nat.zero_le _) h.boundLt
  | some x =>
    have hx := (hinsmem x).mp (List.mem_of_getLast? hl)
    exact Nat.lt_of_lt_of_le (Nat.lt_add_of_pos_right (Nat.lt_of_lt_of_le (by decide) (size_pos x)))
      (off_lt_length h.toPInv x hx.1)

end Influx.SF
