/-
  Lemmas.WindowAggLast — the `last` window cursor: chunking / block independence and
  equality with "last point of every window".
-/
import Influx.Lemmas.WindowAggSpec

namespace Influx.WindowAgg.Last
open Influx.Spec.C20
variable {α : Type}

/-- one pass, no arrays, no blocks; `out` is the result so far, its last entry the running
    candidate of the current window; `none` = the index panic of the Go code -/
def seqL (w : Win) : List (Pt α) → Option Int → List (Pt α) → Option (List (Pt α))
  | [], _, out => some out
  | p :: ps, we, out =>
    if atOrAfter p.1 we then seqL w ps (some (w.stop p.1)) (out ++ [p])
    else if out.isEmpty then none
      else seqL w ps (some (w.stop p.1)) (out.dropLast ++ [p])

theorem seqL_prefix (w : Win) (o1 : List (Pt α)) :
    ∀ (l : List (Pt α)) (we : Option Int) (o2 : List (Pt α)), o2 ≠ [] →
    seqL w l we (o1 ++ o2) = (seqL w l we o2).map (o1 ++ ·) := by
  intro l
  induction l with
  | nil => intro we o2 _; simp [seqL]
  | cons p ps ih =>
    intro we o2 h2
    have h12 : o1 ++ o2 ≠ [] := by simp [h2]
    unfold seqL
    by_cases ha : atOrAfter p.1 we = true
    · simp only [ha, ↓reduceIte]
      rw [List.append_assoc]
      exact ih _ _ (by simp)
    · simp only [ha, Bool.false_eq_true, ↓reduceIte]
      have e1 : (o1 ++ o2).isEmpty = false := by
        cases h : o1 ++ o2 with
        | nil => exact absurd h h12
        | cons => rfl
      have e2 : o2.isEmpty = false := by
        cases h : o2 with
        | nil => exact absurd h h2
        | cons => rfl
      simp only [e1, e2, Bool.false_eq_true, ↓reduceIte]
      rw [List.dropLast_append_of_ne_nil h2, List.append_assoc]
      exact ih _ _ (by simp)

theorem seqL_fresh (w : Win) (o : List (Pt α)) (p : Pt α) (l : List (Pt α)) (we : Option Int)
    (ha : atOrAfter p.1 we = true) :
    seqL w (p :: l) we o = (seqL w (p :: l) we []).map (o ++ ·) := by
  simp only [seqL, ha, ↓reduceIte, List.nil_append]
  exact seqL_prefix w o l _ [p] (by simp)

theorem scan_spec (B : Nat) (w : Win) (rest : List (Pt α)) :
    ∀ (a : List (Pt α)) (we : Option Int) (out : List (Pt α)),
    match scan B w a we out with
    | .more o we' => seqL w (a ++ rest) we out = seqL w rest we' o
    | .full o r we' => seqL w (a ++ rest) we out = (seqL w (r ++ rest) we' []).map (o ++ ·) ∧
        o.length = B ∧ r.length ≤ a.length ∧ (out.length < B → r.length < a.length)
    | .panic => seqL w (a ++ rest) we out = none := by
  intro a
  induction a with
  | nil => intro we out; rfl
  | cons p ps ih =>
    intro we out
    -- a recursive call of the scan: `seqL` has taken the same step
    have step : ∀ out2, seqL w (p :: (ps ++ rest)) we out = seqL w (ps ++ rest) (some (w.stop p.1)) out2 →
        match scan B w ps (some (w.stop p.1)) out2 with
        | .more o we' => seqL w (p :: (ps ++ rest)) we out = seqL w rest we' o
        | .full o r we' => seqL w (p :: (ps ++ rest)) we out = (seqL w (r ++ rest) we' []).map (o ++ ·) ∧
            o.length = B ∧ r.length ≤ (p :: ps).length ∧ (out.length < B → r.length < (p :: ps).length)
        | .panic => seqL w (p :: (ps ++ rest)) we out = none := by
      intro out2 e
      have := ih (some (w.stop p.1)) out2
      rw [e]
      split at this
      · exact this
      · exact ⟨this.1, this.2.1, Nat.le_succ_of_le this.2.2.1, fun _ => Nat.lt_succ_of_le this.2.2.1⟩
      · exact this
    unfold scan
    rw [List.cons_append]
    by_cases ha : atOrAfter p.1 we = true
    · rw [if_pos ha]
      by_cases hfull : out.length = B
      · -- the block is full before a row that starts a window: the row begins the next block
        rw [if_pos hfull]
        exact ⟨seqL_fresh w out p (ps ++ rest) we ha, hfull, Nat.le_refl _, fun h => by omega⟩
      · rw [if_neg hfull]
        exact step _ (by rw [seqL, if_pos ha])
    · rw [if_neg ha]
      cases out with
      | nil => simp [seqL, ha]
      | cons x xs => exact step _ (by rw [seqL, if_neg ha]; rfl)

/-- the `NEXT:` loop from one array on -/
theorem run_spec (B : Nat) (w : Win) :
    ∀ (inp : List (List (Pt α))) (a : List (Pt α)) (we : Option Int) (out : List (Pt α)),
    a ≠ [] → NonEmptyChunks inp →
    match run B w a inp we out with
    | none => seqL w (a ++ inp.flatten) we out = none
    | some (s', o) =>
      seqL w (a ++ inp.flatten) we out = (seqL w s'.st.rest s'.windowEnd []).map (o ++ ·) ∧
      (s'.st.rest.length = 0 ∨ B ≤ o.length) ∧
      s'.st.rest.length ≤ (a ++ inp.flatten).length ∧
      (out.length < B → s'.st.rest.length < (a ++ inp.flatten).length) ∧
      NonEmptyChunks s'.st.inp := by
  intro inp
  induction inp with
  | nil =>
    intro a we out ha hne
    have hs := scan_spec B w [] a we out
    rw [run]
    split at hs
    · next o' we' heq =>
      rw [heq]
      exact ⟨by simpa [seqL, St.rest] using hs, Or.inl rfl, Nat.zero_le _,
        fun _ => by simpa [St.rest] using List.length_pos_iff.mpr ha, hne⟩
    · next o' r we' heq =>
      rw [heq]
      simp only [St.rest, List.append_nil, List.flatten_nil] at hs ⊢
      exact ⟨hs.1, Or.inr (Nat.le_of_eq hs.2.1.symm), hs.2.2.1, hs.2.2.2, hne⟩
    · next heq => rw [heq]; exact hs
  | cons c cs ih =>
    intro a we out ha hne
    have hs := scan_spec B w (c ++ cs.flatten) a we out
    rw [run]
    split at hs
    · next o' we' heq =>
      rw [heq]
      simp only [hne.isEmpty_head, Bool.false_eq_true, ↓reduceIte]
      have ih' := ih c we' o' (hne c List.mem_cons_self) hne.tail
      have hal := List.length_pos_iff.mpr ha
      rw [List.flatten_cons, hs]
      split at ih'
      · exact ih'
      · simp only [List.length_append] at ih' ⊢
        exact ⟨ih'.1, ih'.2.1, by omega, fun _ => by omega, ih'.2.2.2.2⟩
    · next o' r we' heq =>
      rw [heq]
      simp only [St.rest, List.flatten_cons, List.length_append] at hs ⊢
      exact ⟨hs.1, Or.inr (Nat.le_of_eq hs.2.1.symm), by omega, fun h => by have := hs.2.2.2 h; omega, hne⟩
    · next heq => rw [heq]; exact hs

theorem next_spec (B : Nat) (hB : 1 ≤ B) (w : Win) (s : State α) (hne : NonEmptyChunks s.st.inp) :
    match next B w s with
    | none => seqL w s.st.rest s.windowEnd [] = none
    | some (s', o) =>
      seqL w s.st.rest s.windowEnd [] = (seqL w s'.st.rest s'.windowEnd []).map (o ++ ·) ∧
      (s'.st.rest.length = 0 ∨ B ≤ o.length) ∧
      (o ≠ [] → s'.st.rest.length < s.st.rest.length) ∧
      NonEmptyChunks s'.st.inp := by
  -- a `Next()` starts with an empty block, so a non-empty array makes progress
  have fin : ∀ (p : Pt α) (ps : List (Pt α)) (inp : List (List (Pt α))), NonEmptyChunks inp →
      s.st.rest = p :: ps ++ inp.flatten →
      match run B w (p :: ps) inp s.windowEnd [] with
      | none => seqL w s.st.rest s.windowEnd [] = none
      | some (s', o) =>
        seqL w s.st.rest s.windowEnd [] = (seqL w s'.st.rest s'.windowEnd []).map (o ++ ·) ∧
        (s'.st.rest.length = 0 ∨ B ≤ o.length) ∧
        (o ≠ [] → s'.st.rest.length < s.st.rest.length) ∧ NonEmptyChunks s'.st.inp := by
    intro p ps inp hi hrest
    have := run_spec B w inp (p :: ps) s.windowEnd [] (List.cons_ne_nil _ _) hi
    rw [hrest]
    split at this
    · exact this
    · exact ⟨this.1, this.2.1, fun _ => this.2.2.2.1 hB, this.2.2.2.2⟩
  obtain ⟨⟨tmp, inp⟩, we⟩ := s
  unfold next
  cases tmp with
  | cons p ps => exact fin p ps inp hne rfl
  | nil =>
    cases inp with
    | nil => exact ⟨rfl, Or.inl rfl, fun h => absurd rfl h, hne⟩
    | cons c cs =>
      cases c with
      | nil => exact absurd rfl (hne [] List.mem_cons_self)
      | cons p ps => exact fin p ps cs hne.tail rfl

theorem drain_spec (B : Nat) (hB : 1 ≤ B) (w : Win)
    (fuel : Nat) (s : State α) (res : List (Pt α)) (hne : NonEmptyChunks s.st.inp)
    (hlen : s.st.rest.length < fuel) (hres : seqL w s.st.rest s.windowEnd [] = some res) :
    ∃ arrs, drain (next B w) fuel s = some arrs ∧ arrs.flatten = res ∧ (∀ a ∈ arrs, a ≠ []) := by
  refine drain_blocks _ (fun s => NonEmptyChunks s.st.inp) (fun s => s.st.rest.length)
    (fun s => seqL w s.st.rest s.windowEnd []) B hB ?_ ?_ fuel s _ hne hlen hres
  · intro s h0
    rw [List.length_eq_zero_iff.mp h0]; rfl
  · intro s hi
    have := next_spec B hB w s hi
    cases hnx : next B w s with
    | none => rw [hnx] at this; exact this
    | some r => rw [hnx] at this; exact this

theorem seqL_inWindow (w : Win) (we : Int) (l2 : List (Pt α)) :
    ∀ (l1 : List (Pt α)) (c : Pt α), (∀ q ∈ l1, atOrAfter q.1 (some we) = false ∧ w.stop q.1 = we) →
    seqL w (l1 ++ l2) (some we) [c] = seqL w l2 (some we) [(c :: l1).getLast (List.cons_ne_nil _ _)] := by
  intro l1
  induction l1 with
  | nil => intro c _; rfl
  | cons q qs ih =>
    intro c h
    obtain ⟨ha, hst⟩ := h q List.mem_cons_self
    rw [List.cons_append, seqL, if_neg (by simp [ha]), hst]
    exact ih q (fun x hx => h x (List.mem_cons_of_mem _ hx))

theorem seqL_newWindow (w : Win) (we : Int) (c : Pt α) (l : List (Pt α))
    (h : ∀ q ∈ l, atOrAfter q.1 (some we) = true) :
    seqL w l (some we) [c] = (seqL w l none []).map ([c] ++ ·) := by
  cases l with
  | nil => rfl
  | cons q qs =>
    have hq := h q List.mem_cons_self
    rw [seqL_fresh w [c] q qs _ hq, seqL, seqL, if_pos hq, if_pos (show atOrAfter q.1 none = true from rfl)]

theorem seqL_eq_aggSpec (o : Ops α) (w : Win) (hw : w.OK) (hz : w.isZero = false) :
    ∀ pts : List (Pt α), Sorted pts → seqL w pts none [] = some (aggSpec o .last w.stop pts) := by
  intro pts
  fun_induction aggSpec o .last w.stop pts with
  | case1 => intro _; rfl
  | case2 p ps s ih =>
    intro hs
    obtain ⟨hsplit, hsame, hlater⟩ := hw.split hs
    have han : ∀ t we, atOrAfter t (some we) = w.newWindow t we := by
      intro t we
      simp only [atOrAfter, Win.newWindow, hz, Bool.not_false, Bool.true_and]
    rw [seqL, if_pos (show atOrAfter p.1 none = true from rfl), List.nil_append, ← hsplit,
      seqL_inWindow w _ _ _ _ (fun q hq => by rw [han]; exact hsame q hq),
      seqL_newWindow w _ _ _ (fun q hq => by rw [han]; exact hlater q hq), hsplit,
      ih ((List.pairwise_cons.mp hs).2.sublist List.filter_sublist)]
    rfl

end Influx.WindowAgg.Last
