/-
  Lemmas.TsmSpecTs — the statement checker accepts every trace of the model made of
  stand-alone Tombstoner operations (AddRange / Add / Flush / Rollback / Delete / Walk /
  new object): by a simulation between the model state and the checker's state.
-/
import Influx.Model.TsmOps
import Influx.Spec.C08

namespace Influx.Tsm
open Influx.Spec.C08

abbrev SS := Influx.Spec.C08.S

def isTsOp : Op → Bool
  | .tsNew | .tsAdd _ | .tsAddRange .. | .tsFlush | .tsRollback | .tsDelete | .tsHas | .tsWalk | .tsWalkFresh => true
  | _ => false

def runFrom (sp : SS) (i : Nat) (tr : List (Op × Ans)) : SS :=
  (tr.zipIdx i).foldl (fun s x => stepS s x.2 x.1.1 x.1.2) sp

theorem runFrom_cons (sp : SS) (i : Nat) (op : Op) (a : Ans) (tr : List (Op × Ans)) :
    runFrom sp i ((op, a) :: tr) = runFrom (stepS sp i op a) (i + 1) tr := by
  simp [runFrom, List.zipIdx_cons]

theorem run_eq_runFrom (tr : List (Op × Ans)) : run tr = runFrom {} 0 tr := rfl

theorem isPrefix_append {α : Type} [DecidableEq α] (a b : List α) : isPrefix a (a ++ b) = true := by
  induction a with
  | nil => cases b <;> rfl
  | cons x a ih => simp [isPrefix, ih]

theorem isSuffix_append {α : Type} [DecidableEq α] (a b : List α) : isSuffix b (a ++ b) = true := by
  unfold isSuffix; rw [List.reverse_append]; exact isPrefix_append _ _

theorem isSuffix_nil {α : Type} [DecidableEq α] (b : List α) : isSuffix ([] : List α) b = true := by
  have := isSuffix_append b []; rwa [List.append_nil] at this

theorem need_true (sp : SS) (b : Bool) (sig : String) (i : Nat) (hb : b = true) : sp.need b sig i = sp := by
  simp [Spec.C08.S.need, hb]

/-- what the checker holds of a `Tombstoner` with pending batch `pd` on file `f`: the pending additions and,
    unless it abstains, that the pending copy was taken from the file as it is now -/
structure PendRel (f : TFile) (pd : Option Pending) (pend : Option (List Tombstone)) (ab : Bool) : Prop where
  pend : pd.map (·.added) = pend
  base : ab = false → ∀ p, pd = some p → p.base = f.getD []

theorem PendRel.addRange {f : TFile} {o : TObj} {pend : Option (List Tombstone)} {ab : Bool}
    (h : PendRel f o.pending pend ab) (ks : List Key) (lo hi : Int) (hk : ks.isEmpty = false) :
    PendRel f (tAddRange f o none ks lo hi).pending (some (pend.getD [] ++ ks.map fun k => ⟨k, lo, hi⟩)) ab := by
  obtain ⟨rfl, hbase⟩ := h
  simp only [tAddRange, hk, Bool.false_eq_true, if_false]
  refine ⟨by cases o.pending <;> rfl, fun ha p hp => ?_⟩
  cases hpd : o.pending with
  | none => rw [hpd] at hp; cases hp; rfl
  | some q => rw [hpd] at hp; cases hp; exact hbase ha q hpd

theorem PendRel.nil {f : TFile} {ab : Bool} : PendRel f .none .none ab := ⟨rfl, fun _ _ hp => nomatch hp⟩

/-- `Flush` renames the copy taken when the batch was opened, with the additions as a new member -/
theorem tFlush_spec {f : TFile} {o : TObj} {pend : Option (List Tombstone)} {ab : Bool} (h : PendRel f o.pending pend ab) :
    (tFlush f o).2.pending = none ∧ (ab = false → allTombs (tFlush f o).1 = allTombs f ++ pend.getD []) := by
  obtain ⟨rfl, hbase⟩ := h
  unfold tFlush
  cases hpd : o.pending with
  | none => exact ⟨hpd, fun _ => (List.append_nil _).symm⟩
  | some q =>
    refine ⟨rfl, fun ha => ?_⟩
    show (q.base ++ [q.added]).flatten = _
    rw [hbase ha q hpd, List.flatten_append]
    simp [allTombs]

/-- `Delete` removes the file but not the tmp copy: with additions pending the checker abstains -/
theorem PendRel.delete {f : TFile} {pd : Option Pending} {pend : Option (List Tombstone)} {ab : Bool}
    (h : PendRel f pd pend ab) : PendRel none pd pend (ab || pend.isSome) := by
  refine ⟨h.pend, fun ha p hp => ?_⟩
  rw [← h.pend, hp] at ha
  simp at ha

theorem tHas_pending (f : TFile) (o : TObj) : (tHas f o).2.pending = o.pending := by
  unfold tHas; split <;> rfl

theorem tWalk_pending (f : TFile) (o : TObj) : (tWalk f o).2.pending = o.pending := by
  unfold tWalk; split <;> (try split) <;> rfl

/-- `Walk` resumes after the last applied member: it yields a suffix of the committed tombstones -/
theorem tWalk_suffix (f : TFile) (o : TObj) : isSuffix (tWalk f o).1 (allTombs f) = true := by
  unfold tWalk
  split
  · exact isSuffix_nil _
  · next ms =>
    split
    · exact isSuffix_nil _
    · have := isSuffix_append (ms.take o.lastApplied).flatten (ms.drop o.lastApplied).flatten
      rwa [← List.flatten_append, List.take_append_drop] at this

structure TsRel (s : State) (sp : SS) : Prop where
  fails : sp.fails = []
  file : sp.tsAbstain = false → allTombs s.sfile = sp.tsFile
  obj : match s.sobj with
    | none => sp.tsObj = false
    | some o => sp.tsObj = true ∧ PendRel s.sfile o.pending sp.tsPend sp.tsAbstain

theorem TsRel.tag {s : State} {sp : SS} (h : TsRel s sp) (t : String) : TsRel s (sp.tag t) := by
  unfold Spec.C08.S.tag; split
  · exact h
  · exact ⟨h.fails, h.file, h.obj⟩

theorem tsOp_none {s : State} (F : TFile → TObj → TFile × TObj × Ans) (ho : s.sobj = none) :
    step.tsOp s F = (s, .err "no-ts") := by
  unfold step.tsOp; rw [ho]

theorem tsOp_some {s : State} (F : TFile → TObj → TFile × TObj × Ans) {o : TObj} (ho : s.sobj = some o) :
    step.tsOp s F = ({ s with sfile := (F s.sfile o).1, sobj := some (F s.sfile o).2.1 }, (F s.sfile o).2.2) := by
  unfold step.tsOp; rw [ho]

theorem ts_step (s : State) (sp : SS) (i : Nat) (op : Op) (hop : isTsOp op = true) (h : TsRel s sp) :
    TsRel (step s op).1 (stepS sp i op (step s op).2) := by
  obtain ⟨hf, hfile, hobj⟩ := h
  cases op <;> try exact absurd hop Bool.false_ne_true
  case tsNew => exact ⟨hf, hfile, rfl, .nil⟩
  all_goals
    -- every other operation runs a function of the file and the object through `step.tsOp`
    show TsRel (step.tsOp s _).1 (stepS sp i _ (step.tsOp s _).2)
    obtain ho | ⟨o, ho⟩ := Option.eq_none_or_eq_some s.sobj
    · -- no object: the answer is `err:no-ts`, which is what the checker expects; nothing moves
      rw [tsOp_none _ ho]
      apply (fun _ e => e ▸ ⟨hf, hfile, hobj⟩ : ∀ sp', sp' = sp → TsRel s sp')
      first
        | exact (if_pos (by rw [ho] at hobj; rw [hobj]; rfl)).trans (need_true _ _ _ _ (decide_eq_true rfl))
        | rfl
    rw [ho] at hobj
    obtain ⟨hob, hrel⟩ := hobj
    rw [tsOp_some _ ho]
    dsimp only
  case tsHas => exact ⟨hf, hfile, hob, by rw [tHas_pending]; exact hrel⟩
  all_goals
    show TsRel _ (if (!sp.tsObj) = true then _ else _)
    rw [if_neg (by rw [hob]; decide)]
  case tsRollback =>
    rw [need_true _ _ _ _ (decide_eq_true rfl)]
    exact ⟨hf, hfile, hob, .nil⟩
  case tsFlush =>
    rw [need_true _ _ _ _ (decide_eq_true rfl)]
    obtain ⟨h1, h2⟩ := tFlush_spec hrel
    have hfl := fun ha => (h2 ha).trans (congrArg (· ++ sp.tsPend.getD []) (hfile ha))
    cases hp : sp.tsPend with
    | none => exact ⟨hf, fun ha => by rw [hfl ha, hp]; exact List.append_nil _, hob, by rw [h1, hp]; exact .nil⟩
    | some p => exact ⟨hf, fun ha => by rw [hfl ha, hp]; rfl, hob, by rw [h1]; exact .nil⟩
  case tsDelete =>
    rw [need_true _ _ _ _ (decide_eq_true rfl)]
    exact ⟨hf, fun _ => rfl, hob, hrel.delete⟩
  case tsWalk =>
    cases hab : sp.tsAbstain with
    | true =>
      rw [if_pos rfl]
      exact ⟨hf, fun ha => (nomatch hab.symm.trans ha), hob, by rw [tWalk_pending]; exact hrel⟩
    | false =>
      rw [if_neg (by decide)]
      show TsRel _ (sp.need (isSuffix (tWalk s.sfile o).1 sp.tsFile) _ _)
      rw [need_true _ _ _ _ (by rw [← hfile hab]; exact tWalk_suffix _ _)]
      exact ⟨hf, hfile, hob, by rw [tWalk_pending]; exact hrel⟩
  case tsWalkFresh =>
    cases hab : sp.tsAbstain with
    | true =>
      rw [if_pos rfl]
      exact (show TsRel { s with sobj := some o } sp from ⟨hf, hfile, hob, hrel⟩).tag _
    | false =>
      rw [if_neg (by decide), need_true _ _ _ _ (by rw [hfile hab]; exact decide_eq_true rfl)]
      exact ⟨hf, hfile, hob, hrel⟩
  all_goals
    -- `Add(keys)` is `AddRange(keys, MinInt64, MaxInt64)`
    rw [need_true _ _ _ _ (decide_eq_true rfl)]
    cases ‹List Key› with
    | nil => exact ⟨hf, hfile, hob, hrel⟩
    | cons k ks => exact ⟨hf, hfile, hob, hrel.addRange (k :: ks) _ _ rfl⟩

theorem ts_trace (ops : List Op) (hops : ∀ op ∈ ops, isTsOp op = true) :
    ∀ (s : State) (sp : SS) (i : Nat), TsRel s sp → (runFrom sp i (traceFrom s ops)).fails = [] := by
  induction ops with
  | nil => intro s sp i h; exact h.fails
  | cons op ops ih =>
    intro s sp i h
    simp only [traceFrom, runFrom_cons]
    exact ih (fun o ho => hops o (List.mem_cons_of_mem _ ho)) _ _ _
      (ts_step s sp i op (hops op List.mem_cons_self) h)

end Influx.Tsm
