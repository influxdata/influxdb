/-
  Lemmas.DurableQueueSeg — the record encoding of a segment file, and a
  well-formed segment (`SegWF`) as a FIFO of its records: `current`, `advance`,
  `append` and the scanner at the segment level.
-/
import Influx.Model.DurableQueueStep
import Influx.Lemmas.BigEndian
namespace Influx.DQ

theorem be64_length (n : Nat) : (be64 n).length = 8 := rfl

theorem rd64_be64_append (n : Nat) (h : n < 2^64) (rest : Bytes) : rd64 (be64 n ++ rest) = n := by
  simp only [rd64, be64, List.cons_append, List.nil_append, List.take_succ_cons, List.take_zero,
    List.foldl_cons, List.foldl_nil, Nat.zero_mul, Nat.zero_add]
  exact BigEndian.horner64 n h

theorem rd64_be64 (n : Nat) (h : n < 2^64) : rd64 (be64 n) = n := by
  simpa using rd64_be64_append n h []

/-- one record on disk -/
def encRec (b : Bytes) : Bytes := be64 b.length ++ b

def encRecs : List Bytes → Bytes
  | [] => []
  | r :: rs => encRec r ++ encRecs rs

@[simp] theorem encRec_length (b : Bytes) : (encRec b).length = 8 + b.length := by
  simp [encRec, be64_length]

@[simp] theorem encRecs_nil : encRecs [] = [] := rfl
@[simp] theorem encRecs_cons (r : Bytes) (rs : List Bytes) : encRecs (r :: rs) = encRec r ++ encRecs rs := rfl

theorem encRecs_append (a b : List Bytes) : encRecs (a ++ b) = encRecs a ++ encRecs b := by
  induction a with
  | nil => rfl
  | cons r rs ih => simp [ih]

theorem encRecs_length_cons (r : Bytes) (rs : List Bytes) :
    (encRecs (r :: rs)).length = 8 + r.length + (encRecs rs).length := by simp

theorem mem_encRecs_length {b : Bytes} {rs : List Bytes} (h : b ∈ rs) : b.length ≤ (encRecs rs).length := by
  induction rs with
  | nil => cases h
  | cons r rs ih =>
    rw [encRecs_length_cons]
    rcases List.mem_cons.mp h with rfl | h
    · omega
    · have := ih h; omega

theorem read8_be64 (n : Nat) (h : n < 2^64) (rest : Bytes) : read8 (be64 n ++ rest) = .ok n := by
  have hl : (be64 n ++ rest).length = 8 + rest.length := by simp [be64_length]
  unfold read8
  split
  · next heq => rw [heq] at hl; simp at hl; omega
  · rw [if_neg (by omega), rd64_be64_append n h]

theorem readN_append (b rest : Bytes) : readN (b ++ rest) b.length = .ok b := by
  unfold readN
  by_cases h0 : b.length = 0
  · simp [List.length_eq_zero_iff.mp h0]
  · rw [if_neg h0]
    split
    · next heq =>
      have : (b ++ rest).length = 0 := by rw [heq]; rfl
      rw [List.length_append] at this; omega
    · rw [if_neg (by simp)]; simp

theorem toI64_small (n : Nat) (h : n < 2^63) : toI64 n = n := by simp [toI64, h]
theorem wrap64_small (i : Int) (h0 : 0 ≤ i) (h : i < 2^63) : wrap64 i = i := by
  unfold wrap64; rw [if_neg (by omega), if_neg (by omega)]

/-- the position behind a record of `n` bytes at offset `o`, as Go computes it in `int64` -/
theorem wrap64_next {o n : Nat} (h : o + 8 + n < 2^63) :
    wrap64 ((o : Int) + 8 + toI64 n) = ((o + (8 + n) : Nat) : Int) := by
  rw [toI64_small n (by omega), wrap64_small _ (by omega) (by omega)]
  omega

/-- `s` holds the records `done ++ rest` and its head stands at the first record of `rest`. -/
structure SegWF (s : Seg) (done rest : List Bytes) : Prop where
  file_eq : s.file = encRecs done ++ (encRecs rest ++ be64 s.pos)
  pos_eq : s.pos = (encRecs done).length
  fits : ∀ b ∈ rest, b.length ≤ s.maxSize
  small : s.file.length < 2^63

theorem SegWF.size_eq {s : Seg} {done rest} (h : SegWF s done rest) :
    s.size = (encRecs done).length + (encRecs rest).length + 8 := by
  simp [Seg.size, h.file_eq, be64_length]; omega

theorem SegWF.size_all {s : Seg} {done rest} (h : SegWF s done rest) :
    s.size = (encRecs (done ++ rest)).length + 8 := by
  rw [h.size_eq, encRecs_append, List.length_append]

theorem SegWF.drop_pos {s : Seg} {done rest} (h : SegWF s done rest) :
    s.file.drop s.pos = encRecs rest ++ be64 s.pos := by
  conv => lhs; rw [h.file_eq]
  exact List.drop_left' h.pos_eq.symm

theorem SegWF.take_pos {s : Seg} {done rest} (h : SegWF s done rest) :
    s.file.take s.pos = encRecs done := by
  conv => lhs; rw [h.file_eq]
  exact List.take_left' h.pos_eq.symm

theorem SegWF.pos_lt {s : Seg} {done rest} (h : SegWF s done rest) : s.pos < 2^63 := by
  have := h.size_eq; have := h.small; have := h.pos_eq; have : s.file.length = s.size := rfl; omega

theorem SegWF.take_size8 {s : Seg} {done rest} (h : SegWF s done rest) :
    s.file.take (s.size - 8) = encRecs done ++ encRecs rest := by
  have hs := h.size_eq
  conv => lhs; rw [h.file_eq, ← List.append_assoc]
  apply List.take_left'; simp; omega

theorem SegWF.drop_boundary {s : Seg} {done a b} (h : SegWF s done (a ++ b)) :
    s.file.drop (s.pos + (encRecs a).length) = encRecs b ++ be64 s.pos := by
  rw [← List.drop_drop, h.drop_pos, encRecs_append, List.append_assoc]
  exact List.drop_left' rfl

theorem SegWF.boundary_le {s : Seg} {done a b} (h : SegWF s done (a ++ b)) :
    s.pos + (encRecs a).length + (encRecs b).length = s.size - 8 ∧ s.size ≥ 8 := by
  rw [h.size_eq, h.pos_eq, encRecs_append, List.length_append]; omega

theorem SegWF.empty_iff {s : Seg} {done r} (h : SegWF s done r) : s.empty = true ↔ r = [] := by
  have hb : s.pos + 0 + (encRecs r).length = s.size - 8 := (SegWF.boundary_le (a := []) h).1
  simp only [Seg.empty, beq_iff_eq]
  cases r with
  | nil => exact ⟨fun _ => rfl, fun _ => hb⟩
  | cons x t =>
    rw [encRecs_length_cons] at hb
    exact ⟨fun he => by omega, fun he => by cases he⟩

theorem SegWF.pos_le {s : Seg} {done rest} (h : SegWF s done rest) : s.pos ≤ s.size - 8 ∧ 8 ≤ s.size := by
  have := SegWF.boundary_le (a := []) h
  omega

theorem SegWF.read_boundary {s : Seg} {done a r b} (h : SegWF s done (a ++ r :: b)) :
    s.pos + (encRecs a).length ≠ s.size - 8 ∧
    read8 (s.file.drop (s.pos + (encRecs a).length)) = .ok r.length ∧
    readN (s.file.drop (s.pos + (encRecs a).length + 8)) r.length = .ok r ∧
    ¬ r.length > s.maxSize ∧ s.pos + (encRecs a).length + 8 + r.length < 2^63 := by
  have hb := h.boundary_le
  have hsm : s.size < 2^63 := h.small
  rw [encRecs_length_cons] at hb
  have hd := h.drop_boundary
  simp only [encRecs_cons, encRec, List.append_assoc] at hd
  refine ⟨by omega, by rw [hd]; exact read8_be64 _ (by omega) _, ?_, Nat.not_lt.mpr (h.fits r (by simp)), by omega⟩
  rw [← List.drop_drop, hd, List.drop_left' (be64_length _)]
  exact readN_append _ _

theorem SegWF.read_head {s : Seg} {done r rs} (h : SegWF s done (r :: rs)) :
    s.pos ≠ s.size - 8 ∧ read8 (s.file.drop s.pos) = .ok r.length ∧
    readN (s.file.drop (s.pos + 8)) r.length = .ok r ∧ ¬ r.length > s.maxSize ∧ s.pos + 8 + r.length < 2^63 :=
  SegWF.read_boundary (a := []) h

theorem current_wf_nil {s : Seg} {done} (h : SegWF s done []) : s.current = .error .eof := by
  have hs := h.size_eq; have hp := h.pos_eq
  simp at hs
  simp [Seg.current, hp, hs]

theorem current_wf_cons {s : Seg} {done r rs} (h : SegWF s done (r :: rs)) : s.current = .ok r := by
  obtain ⟨hne, h8, hN, hfit, _⟩ := h.read_head
  unfold Seg.current
  rw [if_neg hne, h8]
  simp only []
  rw [if_neg hfit, hN]

theorem advanceTo_wf {s : Seg} {done a b} (h : SegWF s done (a ++ b)) :
    SegWF (s.advanceTo ((s.pos + (encRecs a).length : Nat) : Int)).1 (done ++ a) b ∧
    (s.advanceTo ((s.pos + (encRecs a).length : Nat) : Int)).1.size = s.size ∧
    (s.advanceTo ((s.pos + (encRecs a).length : Nat) : Int)).2 = (if b = [] then some .eof else none) := by
  obtain ⟨hb, hs8⟩ := h.boundary_le
  unfold Seg.advanceTo
  rw [if_neg (Int.not_lt.mpr (Int.ofNat_le.mpr (Nat.le_add_right _ _)))]
  simp only [Int.toNat_natCast]
  rw [if_neg (Nat.not_lt.mpr (hb ▸ Nat.le_add_right _ _))]
  have hsize : (s.file.take (s.size - 8) ++ be64 (s.pos + (encRecs a).length)).length = s.size := by
    rw [List.length_append, List.length_take, be64_length]
    show min (s.size - 8) s.size + 8 = s.size
    omega
  have hwf : SegWF { file := s.file.take (s.size - 8) ++ be64 (s.pos + (encRecs a).length),
                     pos := s.pos + (encRecs a).length, maxSize := s.maxSize } (done ++ a) b := by
    refine ⟨?_, by simp [encRecs_append, h.pos_eq], fun x hx => h.fits x (by simp [hx]), hsize.symm ▸ h.small⟩
    simp only [h.take_size8, encRecs_append, List.append_assoc]
  cases b with
  | nil => rw [if_pos (by simpa using hb)]; exact ⟨hwf, hsize, rfl⟩
  | cons x t =>
    rw [encRecs_length_cons] at hb
    rw [if_neg (by omega)]
    exact ⟨hwf, hsize, rfl⟩

/-- `advance` reads the length of the head record and is `advanceTo` the next boundary -/
theorem advance_eq_advanceTo {s : Seg} {done r rs} (h : SegWF s done (r :: rs)) :
    s.advance = s.advanceTo ((s.pos + (encRecs [r]).length : Nat) : Int) := by
  obtain ⟨hne, h8, _, _, hlt⟩ := h.read_head
  unfold Seg.advance
  rw [if_neg hne, h8]
  simp only []
  rw [Int.add_right_comm, wrap64_next hlt]
  simp

theorem advance_wf_nil {s : Seg} {done} (h : SegWF s done []) : s.advance = (s, some .eof) := by
  have hs := h.size_eq; have hp := h.pos_eq
  simp at hs
  simp [Seg.advance, hp, hs]

theorem advance_wf {s : Seg} {done r} (h : SegWF s done r) :
    SegWF s.advance.1 (done ++ r.take 1) (r.drop 1) ∧ s.advance.1.size = s.size ∧
    s.advance.2 = (if r.drop 1 = [] then some .eof else none) := by
  cases r with
  | nil => rw [advance_wf_nil h]; exact ⟨by simpa using h, rfl, rfl⟩
  | cons x r' =>
    rw [advance_eq_advanceTo h]
    exact advanceTo_wf (a := [x]) h

theorem append_wf {s : Seg} {done rest} (h : SegWF s done rest) (b : Bytes)
    (hfull : ¬ s.size > s.maxSize) (hsmall : s.size + b.length + 8 < 2^63) :
    ∃ s', s.append b = .ok s' ∧ SegWF s' done (rest ++ [b]) ∧ s'.size = s.size + (8 + b.length) := by
  have hs := h.size_eq
  have hlen : (s.file.take (s.size - 8) ++ (be64 b.length ++ b ++ be64 s.pos)).length = s.size + (8 + b.length) := by
    simp only [List.length_append, List.length_take, be64_length]
    show min (s.size - 8) s.size + (8 + b.length + 8) = s.size + (8 + b.length)
    omega
  refine ⟨{ file := s.file.take (s.size - 8) ++ (be64 b.length ++ b ++ be64 s.pos),
             pos := s.pos, maxSize := max s.maxSize b.length },
    by simp [Seg.append, hfull], ⟨?_, h.pos_eq, ?_, by rw [hlen]; omega⟩, hlen⟩
  · simp only [h.take_size8, encRecs_append, encRecs_cons, encRecs_nil, List.append_nil, encRec,
      List.append_assoc]
  · intro x hx
    rcases List.mem_append.mp hx with hx | hx
    · exact Nat.le_trans (h.fits x hx) (Nat.le_max_left _ _)
    · rw [List.mem_singleton.mp hx]; exact Nat.le_max_right _ _

/-- a new, empty segment file -/
def freshS (g : Nat) : Seg := ⟨be64 0, 0, g⟩

theorem fresh_wf (g : Nat) : SegWF (freshS g) [] [] := by
  refine ⟨by simp [freshS], by simp [freshS], by simp, by simp [freshS, be64_length]⟩

theorem append_fresh (g : Nat) (b : Bytes) (h8 : 8 ≤ g) (hb : b.length + 16 < 2^63) :
    ∃ f, (freshS g).append b = .ok f ∧ SegWF f [] [b] ∧ f.size = 8 + (8 + b.length) :=
  append_wf (fresh_wf g) b (Nat.not_lt.mpr h8) (by show 8 + b.length + 8 < 2^63; omega)

theorem scanNext_cons {s : Seg} {done a r b} (h : SegWF s done (a ++ r :: b)) (hr : r ≠ []) (fuel : Nat) :
    scanNext s (fuel + 1) { pos := ((s.pos + (encRecs a).length : Nat) : Int) }
      = ({ pos := ((s.pos + (encRecs (a ++ [r])).length : Nat) : Int) }, some r) := by
  obtain ⟨hne, h8, hN, hfit, hlt⟩ := h.read_boundary
  have hr0 : r.length ≠ 0 := fun h0 => hr (List.length_eq_zero_iff.mp h0)
  unfold scanNext
  simp only [Bool.false_eq_true, Option.isSome_none, or_self, if_false]
  rw [if_neg (Int.not_lt.mpr (Int.natCast_nonneg _))]
  simp only [Int.toNat_natCast]
  rw [if_neg hne, h8]
  simp only []
  rw [if_neg hr0, if_neg hfit, hN]
  simp only []
  rw [wrap64_next hlt]
  simp [encRecs_append, Nat.add_assoc]

theorem scanNext_end {s : Seg} {done a} (h : SegWF s done a) (fuel : Nat) :
    scanNext s (fuel + 1) { pos := ((s.pos + (encRecs a).length : Nat) : Int) }
      = ({ pos := ((s.pos + (encRecs a).length : Nat) : Int), eof := true }, none) := by
  have hb : s.pos + (encRecs a).length = s.size - 8 :=
    (SegWF.boundary_le (b := []) (by rw [List.append_nil]; exact h)).1
  unfold scanNext
  simp only [Bool.false_eq_true, Option.isSome_none, or_self, if_false]
  rw [if_neg (Int.not_lt.mpr (Int.natCast_nonneg _))]
  simp only [Int.toNat_natCast]
  rw [if_pos hb]

theorem scanMany_wf {s : Seg} {done} (n : Nat) :
    ∀ (a b : List Bytes), SegWF s done (a ++ b) → (∀ x ∈ b, x ≠ []) →
      ∃ sc', scanMany s n { pos := ((s.pos + (encRecs a).length : Nat) : Int) } = (sc', b.take n) ∧
        sc'.pos = ((s.pos + (encRecs (a ++ b.take n)).length : Nat) : Int) ∧ sc'.err = none := by
  induction n with
  | zero => intro a b _ _; exact ⟨_, rfl, by simp, rfl⟩
  | succ n ih =>
    intro a b h hne
    cases b with
    | nil =>
      simp only [scanMany]
      rw [scanNext_end (by simpa using h : SegWF s done a) s.size]
      exact ⟨_, rfl, by simp, rfl⟩
    | cons r b' =>
      simp only [scanMany]
      rw [scanNext_cons h (hne r (by simp)) s.size]
      simp only []
      have h' : SegWF s done ((a ++ [r]) ++ b') := by simpa using h
      obtain ⟨sc', hsc, hpos, herr⟩ := ih (a ++ [r]) b' h' (fun x hx => hne x (by simp [hx]))
      rw [hsc]
      exact ⟨sc', rfl, by simpa using hpos, herr⟩

end Influx.DQ
