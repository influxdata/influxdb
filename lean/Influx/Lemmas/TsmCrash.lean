/-
  Lemmas.TsmCrash — crash atomicity of the tombstone commit in the file-system model:
  at every crash point of `prepareV4 … commit` the restart finds, under the tombstone
  name, the old bytes or the complete new bytes.
-/
import Influx.Model.TsmTombBytes

namespace Influx.Tsm

def run (fs : FS) (steps : List FSStep) : FS := steps.foldl fsStep fs

theorem prefix_nil {p s : Bytes} (h : ([] : Bytes) = p ++ s) : p = [] :=
  (List.append_eq_nil_iff.mp h.symm).1

section
variable (tomb tmp : String) (hne : tomb ≠ tmp)
variable (dir0 : Dir) (inodes0 : Nat → Inode) (i : Nat)

def oldBytes : Option Bytes := (dir0 tomb).map fun j => (inodes0 j).durable

/-- between `create` and `rename`: `w` has been appended to the tmp file -/
structure Phase1 (fs : FS) (w : Bytes) : Prop where
  ddir : fs.ddir = dir0
  dpend : fs.dpend = [.link tmp i]
  dir : fs.dir = dir0.set tmp i
  tmpW : (fs.inodes i).durable ++ (fs.inodes i).pending.flatten = w
  others : ∀ j, j ≠ i → fs.inodes j = inodes0 j

def Good (fs : FS) (new : Bytes) : Prop :=
  ∀ fs', CrashOf fs fs' → readDurable fs' tomb = oldBytes tomb dir0 inodes0 ∨ readDurable fs' tomb = some new

def OldOK : Prop := ∀ j, dir0 tomb = some j → j ≠ i ∧ (inodes0 j).pending = []

include hne in
theorem link_tmp_tomb : (applyDirOp dir0 (.link tmp i)) tomb = dir0 tomb :=
  if_neg hne

theorem rename_tmp_tomb : (applyDirOp (applyDirOp dir0 (.link tmp i)) (.rename tmp tomb)) tomb = some i := by
  simp [applyDirOp, Dir.lookup, Dir.set]

variable {tomb tmp dir0 inodes0 i}

theorem crash_synced {fs fs' : FS} (hc : CrashOf fs fs') {j : Nat} (hp : (fs.inodes j).pending = []) :
    (fs'.inodes j).durable = (fs.inodes j).durable := by
  obtain ⟨p, s, hps, hdur⟩ := hc.data j
  rw [hp] at hps
  rw [hdur, prefix_nil hps, List.append_nil]

theorem good_of_dir (hold : OldOK tomb dir0 inodes0 i) (fs : FS) (new : Bytes)
    (hothers : ∀ j, j ≠ i → fs.inodes j = inodes0 j)
    (hdir : ∀ k, k ≤ fs.dpend.length →
      ((fs.dpend.take k).foldl applyDirOp fs.ddir) tomb = dir0 tomb ∨
      (((fs.dpend.take k).foldl applyDirOp fs.ddir) tomb = some i ∧
        (fs.inodes i).durable = new ∧ (fs.inodes i).pending = [])) :
    Good tomb dir0 inodes0 fs new := by
  intro fs' hc
  obtain ⟨k, hk, hd⟩ := hc.dir
  unfold readDurable oldBytes Dir.lookup
  rw [hd]
  rcases hdir k hk with h | ⟨h, hdur, hpend⟩
  · left
    rw [h]
    cases hl : dir0 tomb with
    | none => rfl
    | some j =>
      obtain ⟨hji, hp⟩ := hold j hl
      rw [Option.map_some, Option.map_some, crash_synced hc (by rw [hothers j hji, hp]), hothers j hji]
  · right
    rw [h, Option.map_some, crash_synced hc hpend, hdur]

include hne in
theorem phase1_good (hold : OldOK tomb dir0 inodes0 i) (fs : FS) (w new : Bytes)
    (h : Phase1 tmp dir0 inodes0 i fs w) : Good tomb dir0 inodes0 fs new := by
  refine good_of_dir hold fs new h.others fun k hk => Or.inl ?_
  rw [h.dpend, h.ddir]
  match k with
  | 0 => rfl
  | 1 => exact link_tmp_tomb tomb tmp hne dir0 i
  | k + 2 => rw [h.dpend] at hk; exact (Nat.not_succ_le_zero _ (Nat.le_of_succ_le_succ hk)).elim

theorem good_take {fs : FS} {st : FSStep} {steps : List FSStep} {new : Bytes}
    (h0 : Good tomb dir0 inodes0 fs new)
    (h : ∀ k, Good tomb dir0 inodes0 (run (fsStep fs st) (steps.take k)) new) :
    ∀ k, Good tomb dir0 inodes0 (run fs ((st :: steps).take k)) new
  | 0 => h0
  | k + 1 => h k

theorem phase1_lookup {fs : FS} {w : Bytes} (h : Phase1 tmp dir0 inodes0 i fs w) :
    fs.dir.lookup tmp = some i := by
  rw [h.dir]; exact if_pos rfl

theorem phase1_append {fs : FS} {w : Bytes} (h : Phase1 tmp dir0 inodes0 i fs w) (c : Bytes) :
    Phase1 tmp dir0 inodes0 i (fsStep fs (.append tmp c)) (w ++ c) := by
  simp only [fsStep, phase1_lookup h]
  refine ⟨h.ddir, h.dpend, h.dir, ?_, ?_⟩
  · simp [setInode, ← h.tmpW]
  · intro j hj; simp [setInode, hj, h.others j hj]

include hne in
/-- renamed, directory not yet synced: a crash keeps none, one or both of link and rename -/
theorem renamed_good (hold : OldOK tomb dir0 inodes0 i) (g : FS) (w : Bytes)
    (h : Phase1 tmp dir0 inodes0 i g w)
    (hsync : (g.inodes i).durable = w ∧ (g.inodes i).pending = []) :
    Good tomb dir0 inodes0 (fsStep g (.rename tmp tomb)) w := by
  refine good_of_dir hold _ w h.others fun k hk => ?_
  simp only [fsStep, h.dpend, h.ddir, List.cons_append, List.nil_append] at hk ⊢
  match k with
  | 0 => exact Or.inl rfl
  | 1 => exact Or.inl (link_tmp_tomb tomb tmp hne dir0 i)
  | 2 => exact Or.inr ⟨rename_tmp_tomb tomb tmp dir0 i, hsync⟩
  | k + 3 => exact (Nat.not_succ_le_zero _ (Nat.le_of_succ_le_succ (Nat.le_of_succ_le_succ hk))).elim

theorem dirSynced_good (hold : OldOK tomb dir0 inodes0 i) (g : FS) (w : Bytes)
    (h : Phase1 tmp dir0 inodes0 i g w)
    (hsync : (g.inodes i).durable = w ∧ (g.inodes i).pending = []) :
    Good tomb dir0 inodes0 (fsStep (fsStep g (.rename tmp tomb)) .syncDir) w := by
  refine good_of_dir hold _ w h.others fun k _ => Or.inr ⟨?_, hsync⟩
  simp only [fsStep, h.dpend, h.ddir, List.cons_append, List.nil_append, List.take_nil, List.foldl_nil,
    List.foldl_cons]
  exact rename_tmp_tomb tomb tmp dir0 i

include hne in
theorem commit_tail (hold : OldOK tomb dir0 inodes0 i) (fs : FS) (w : Bytes)
    (h : Phase1 tmp dir0 inodes0 i fs w) :
    ∀ k, Good tomb dir0 inodes0 (run fs (([.fsync tmp, .rename tmp tomb, .syncDir] : List FSStep).take k)) w := by
  have hlk := phase1_lookup h
  have hin : (fsStep fs (.fsync tmp)).inodes i = ⟨w, []⟩ := by
    simp [fsStep, hlk, setInode, h.tmpW]
  have h1 : Phase1 tmp dir0 inodes0 i (fsStep fs (.fsync tmp)) w := by
    refine ⟨?_, ?_, ?_, by rw [hin]; exact List.append_nil _, ?_⟩
    all_goals simp only [fsStep, hlk]
    · exact h.ddir
    · exact h.dpend
    · exact h.dir
    · intro j hj; simp [setInode, hj, h.others j hj]
  have hsync : ((fsStep fs (.fsync tmp)).inodes i).durable = w ∧ ((fsStep fs (.fsync tmp)).inodes i).pending = [] := by
    rw [hin]; exact ⟨rfl, rfl⟩
  exact good_take (phase1_good hne hold fs w w h)
    (good_take (phase1_good hne hold _ w w h1)
      (good_take (renamed_good hne hold _ w h1 hsync) fun k => by
        rw [List.take_nil]; exact dirSynced_good hold _ w h1 hsync))

include hne in
theorem phase1_run (hold : OldOK tomb dir0 inodes0 i) (chunks : List Bytes) :
    ∀ (fs : FS) (w : Bytes), Phase1 tmp dir0 inodes0 i fs w → ∀ k,
      Good tomb dir0 inodes0
        (run fs ((chunks.map (FSStep.append tmp) ++ [FSStep.fsync tmp, FSStep.rename tmp tomb, FSStep.syncDir]).take k))
        (w ++ chunks.flatten) := by
  induction chunks with
  | nil =>
    intro fs w h
    rw [List.flatten_nil, List.append_nil]
    exact commit_tail hne hold fs w h
  | cons c cs ih =>
    intro fs w h
    rw [List.flatten_cons, ← List.append_assoc]
    exact good_take (phase1_good hne hold fs w _ h)
      (ih _ _ (phase1_append h c))

variable (tomb tmp dir0 inodes0 i)

/-- the file system before `prepareV4`: nothing pending in the directory, no tmp file -/
structure Quiescent (fs : FS) : Prop where
  dir : fs.dir = dir0
  ddir : fs.ddir = dir0
  dpend : fs.dpend = []
  next : fs.next = i
  inodes : fs.inodes = inodes0
  noTmp : dir0 tmp = none

include hne in
theorem commit_crash_atomic (hold : OldOK tomb dir0 inodes0 i) (fs : FS)
    (hq : Quiescent tmp dir0 inodes0 i fs) (base : Bytes) (chunks : List Bytes) (k : Nat) :
    Good tomb dir0 inodes0 (run fs ((commitSteps tomb tmp base chunks).take k)) (base ++ chunks.flatten) := by
  have h1 : Phase1 tmp dir0 inodes0 i (fsStep fs (.create tmp)) [] := by
    simp only [fsStep, hq.next]
    refine ⟨hq.ddir, by simp [hq.dpend], by rw [hq.dir], by simp [setInode], ?_⟩
    intro j hj; simp [setInode, hj, hq.inodes]
  have h2 := phase1_append h1 base
  rw [List.nil_append] at h2
  refine good_take ?_ (good_take (phase1_good hne hold _ [] _ h1) (phase1_run hne hold chunks _ base h2)) k
  refine good_of_dir hold fs _ (fun j _ => by rw [hq.inodes]) fun k _ => Or.inl ?_
  rw [hq.dpend, hq.ddir, List.take_nil]; rfl

end

end Influx.Tsm
