/-
  Lemmas.C36RadixIns — `Insert` on the radix tree adds exactly the new pair (never updates).
-/
import Influx.Lemmas.C36Radix

namespace Influx.Radix

theorem splitCommon_spec {a b c ra rb : Key} (h : splitCommon a b = (c, ra, rb)) :
    a = c ++ ra ∧ b = c ++ rb ∧ ∀ x xs y ys, ra = x :: xs → rb = y :: ys → x ≠ y := by
  fun_induction splitCommon a b generalizing c ra rb with
  | case1 as a bs c' ra' rb' hsc ih =>
    cases h
    exact ⟨congrArg (a :: ·) (ih hsc).1, congrArg (a :: ·) (ih hsc).2.1, (ih hsc).2.2⟩
  | case2 a as b bs hne =>
    cases h
    exact ⟨rfl, rfl, fun x xs y ys hx hy => by cases hx; cases hy; exact hne⟩
  | case3 as bs hn =>
    cases h
    exact ⟨rfl, rfl, fun x xs y ys hx hy _ => hn x xs y ys hx hy⟩

theorem splitCommon_strip {a b c ra : Key} {y : Nat} {ys : Key} (h : splitCommon a b = (c, ra, y :: ys)) :
    stripPrefix a b = none := by
  fun_induction splitCommon a b generalizing c with
  | case1 as a bs c' ra' rb' hsc ih =>
    cases h
    rw [stripPrefix, if_pos rfl]
    exact ih hsc
  | case2 a as b bs hne =>
    rw [stripPrefix, if_neg hne]
  | case3 as bs hn =>
    cases h
    cases ra with
    | nil => rfl
    | cons a as => exact (hn a as y ys rfl rfl).elim

theorem Edges.labels_add (l : Nat) (n : Node) (es : Edges) :
    (Edges.labels (Edges.add l n es)).Perm (l :: Edges.labels es) := by
  induction es using Edges.list_induction with
  | nil => exact .refl _
  | cons l' n' r ih =>
    rw [Edges.add]
    split
    · exact (ih.cons l').trans (.swap _ _ _)
    · exact .refl _

theorem Edges.rel_add (l : Nat) (n : Node) (es : Edges) :
    (Edges.rel (Edges.add l n es)).Perm ((Node.rel n).map (fun p => (n.pre ++ p.1, p.2)) ++ Edges.rel es) := by
  induction es using Edges.list_induction with
  | nil => exact .refl _
  | cons l' n' r ih =>
    rw [Edges.add]
    split
    · rw [Edges.rel, Edges.rel]
      exact (ih.append_left _).trans (List.perm_append_comm_assoc _ _ _)
    · exact .refl _

theorem Edges.SW_add (l : Nat) (n : Node) (hn : Node.SW n) (hp : ∃ t, n.pre = l :: t) (es : Edges) :
    Edges.SW es → l ∉ Edges.labels es → Edges.SW (Edges.add l n es) := by
  induction es using Edges.list_induction with
  | nil => exact fun _ _ => ⟨hp, hn, trivial, fun _ h => nomatch h⟩
  | cons l' n' r ih =>
    intro hsw hnot
    have hne : l ≠ l' := fun h => hnot (h ▸ List.mem_cons_self)
    rw [Edges.add]
    split
    · next hlt =>
      refine ⟨hsw.1, hsw.2.1, ih hsw.2.2.1 fun h => hnot (List.mem_cons_of_mem _ h), fun x hx => ?_⟩
      rcases List.mem_cons.mp ((Edges.labels_add l n r).mem_iff.mp hx) with rfl | hx
      · exact hlt
      · exact hsw.2.2.2 x hx
    · next hge =>
      have hlt : l < l' := by omega
      refine ⟨hp, hn, hsw, fun x hx => ?_⟩
      rcases List.mem_cons.mp hx with rfl | hx
      · exact hlt
      · exact Nat.lt_trans hlt (hsw.2.2.2 x hx)

theorem leafNode_SW (s : Key) (v : Int) (pre : Key) : Node.SW (.mk (some ⟨s, v⟩) pre .nil) := trivial

theorem leafNode_rel (s : Key) (v : Int) (pre : Key) : Node.rel (.mk (some ⟨s, v⟩) pre .nil) = [([], v)] := rfl

theorem Edges.rel_add_leaf (c : Nat) (rest s : Key) (v : Int) (es : Edges) :
    (Edges.rel (Edges.add c (.mk (some ⟨s, v⟩) (c :: rest) .nil) es)).Perm ((c :: rest, v) :: Edges.rel es) := by
  have := Edges.rel_add c (.mk (some ⟨s, v⟩) (c :: rest) .nil) es
  rwa [leafNode_rel, List.map_singleton, Node.pre, List.append_nil] at this

/-- the node `Insert` builds when the search key leaves a child's prefix: it covers the old
    child and the new leaf -/
def splitNode (child : Node) (common restS : Key) (y : Nat) (ys : Key) (s : Key) (v : Int) : Node :=
  let old := Node.mk child.leaf (y :: ys) child.edges
  match restS with
  | [] => Node.mk (some ⟨s, v⟩) common (Edges.add y old .nil)
  | x :: xs =>
    Node.mk none common (Edges.add x (.mk (some ⟨s, v⟩) (x :: xs) .nil) (Edges.add y old .nil))

theorem splitNode_pre (child : Node) (common restS : Key) (y : Nat) (ys : Key) (s : Key) (v : Int) :
    (splitNode child common restS y ys s v).pre = common := by
  cases restS <;> rfl

theorem splitNode_spec (child : Node) (common restS : Key) (y : Nat) (ys : Key) (s : Key) (v : Int)
    (hc : Node.SW child) (hpre : child.pre = common ++ y :: ys)
    (hne : ∀ x xs, restS = x :: xs → x ≠ y) :
    Node.SW (splitNode child common restS y ys s v) ∧
    ((Node.rel (splitNode child common restS y ys s v)).map fun p => (common ++ p.1, p.2)).Perm
      ((common ++ restS, v) :: (Node.rel child).map fun p => (child.pre ++ p.1, p.2)) := by
  obtain ⟨leaf, pre, edges⟩ := child
  simp only [Node.pre] at hpre ⊢
  subst hpre
  have hold : Edges.SW (.cons y (.mk leaf (y :: ys) edges) .nil) := ⟨⟨ys, rfl⟩, hc, trivial, fun _ h => nomatch h⟩
  have hrel : (Edges.rel (.cons y (.mk leaf (y :: ys) edges) .nil)).map (fun p => (common ++ p.1, p.2)) =
      (Node.rel (.mk leaf (common ++ y :: ys) edges)).map fun p => (common ++ y :: ys ++ p.1, p.2) := by
    simp only [Edges.rel, List.append_nil, List.map_map, Node.pre]
    exact List.map_congr_left fun p _ => by rw [Function.comp, List.append_assoc]
  cases restS with
  | nil => exact ⟨hold, by rw [← hrel]; exact .refl _⟩
  | cons x xs =>
    refine ⟨Edges.SW_add x _ (leafNode_SW s v _) ⟨xs, rfl⟩ _ hold fun h => ?_, ?_⟩
    · exact hne x xs rfl (List.mem_singleton.mp h)
    · rw [← hrel]
      exact (Edges.rel_add_leaf x xs s v _).map _

/-- what `Insert` of `(k, v)` answers (`res`) and does to the association list (`old` ↦ `new`):
    an existing key is left alone (`same`: the structure comes back unchanged), a new pair is added -/
def InsOK (k : Key) (v : Int) (old new : List KV) (same : Prop) (res : InsRes) : Prop :=
  (∀ o, lookup k old = some o → same ∧ res = ⟨o, false⟩) ∧
  (lookup k old = none → res = ⟨v, true⟩ ∧ new.Perm ((k, v) :: old))

theorem InsOK.found {k : Key} {v o : Int} {old new : List KV} {same : Prop} (h : lookup k old = some o)
    (hs : same) : InsOK k v old new same ⟨o, false⟩ :=
  ⟨fun o' ho => by rw [h] at ho; cases ho; exact ⟨hs, rfl⟩, fun hn => by rw [h] at hn; cases hn⟩

theorem InsOK.added {k : Key} {v : Int} {old new : List KV} {same : Prop} (h : lookup k old = none)
    (hp : new.Perm ((k, v) :: old)) : InsOK k v old new same ⟨v, true⟩ :=
  ⟨fun o ho => (by rw [h] at ho; cases ho), fun _ => ⟨rfl, hp⟩⟩

theorem InsOK.lift {k k' : Key} {v : Int} {old new old' new' : List KV} {same same' : Prop} {res : InsRes}
    (h : InsOK k v old new same res) (hl : lookup k' old' = lookup k old) (hs : same → same')
    (hp : new.Perm ((k, v) :: old) → new'.Perm ((k', v) :: old')) : InsOK k' v old' new' same' res :=
  ⟨fun o ho => ⟨hs (h.1 o (hl ▸ ho)).1, (h.1 o (hl ▸ ho)).2⟩, fun hn => ⟨(h.2 (hl ▸ hn)).1, hp (h.2 (hl ▸ hn)).2⟩⟩

theorem perm_append_cons {x : KV} {a new old : List KV} (h : new.Perm (x :: old)) : (a ++ new).Perm (x :: (a ++ old)) :=
  (h.append_left a).trans List.perm_middle

theorem Node.insert_spec_pre (n : Node) (search s : Key) (v : Int) : (Node.insert n search s v).1.pre = n.pre := by
  cases n with
  | mk leaf pre edges =>
    cases search with
    | nil => cases leaf <;> rfl
    | cons c rest =>
      simp only [Node.insert]
      cases Edges.insertAt edges c (c :: rest) s v with
      | none => rfl
      | some r => rfl

theorem insert_ok :
    (∀ n search s v, Node.SW n → Node.SW (Node.insert n search s v).1 ∧
      InsOK search v (Node.rel n) (Node.rel (Node.insert n search s v).1) ((Node.insert n search s v).1 = n)
        (Node.insert n search s v).2) ∧
    (∀ es c search s v, ∀ rest, search = c :: rest → Edges.SW es →
      (Edges.insertAt es c search s v = none → c ∉ Edges.labels es) ∧
      ∀ es' res, Edges.insertAt es c search s v = some (es', res) →
        Edges.SW es' ∧ Edges.labels es' = Edges.labels es ∧
        InsOK search v (Edges.rel es) (Edges.rel es') (es' = es) res) := by
  refine Node.insert.mutual_induct_unfolding
    (motive_1 := fun n search _ v r => Node.SW n → Node.SW r.1 ∧
      InsOK search v (Node.rel n) (Node.rel r.1) (r.1 = n) r.2)
    (motive_2 := fun es c search _ v r => ∀ rest, search = c :: rest → Edges.SW es →
      (r = none → c ∉ Edges.labels es) ∧ ∀ es' res, r = some (es', res) →
        Edges.SW es' ∧ Edges.labels es' = Edges.labels es ∧ InsOK search v (Edges.rel es) (Edges.rel es') (es' = es) res)
    ?_ ?_ ?_ ?_ ?_ ?_ ?_ ?_ ?_
  · -- the key ends at a node with a leaf
    intro pre edges s v l hsw
    exact ⟨hsw, .found (lookup_rel_mk_nil (some l) pre edges hsw) rfl⟩
  · -- ... without a leaf
    intro pre edges s v hsw
    exact ⟨hsw, .added (lookup_rel_mk_nil none pre edges hsw) (.refl _)⟩
  · -- below a node, through an edge
    intro leaf pre edges s v c rest edges' r hi ih hsw
    obtain ⟨hsw', _, hok⟩ := (ih rest rfl hsw).2 edges' r hi
    exact ⟨hsw', hok.lift (lookup_rel_mk_cons leaf pre edges c rest) (fun h => by rw [h]) perm_append_cons⟩
  · -- below a node, no edge: a new one
    intro leaf pre edges s v c rest hi ih hsw
    have hc := (ih rest rfl hsw).1 hi
    refine ⟨Edges.SW_add c _ (leafNode_SW s v _) ⟨rest, rfl⟩ edges hsw hc, .added ?_ ?_⟩
    · rw [lookup_rel_mk_cons]
      exact Edges.lookup_absent edges hsw c rest hc
    · exact perm_append_cons (Edges.rel_add_leaf c rest s v edges)
  · exact fun _ _ _ _ _ _ _ => ⟨fun _ h => (nomatch h), fun _ _ h => (nomatch h)⟩
  · -- the edge's child lies on the way: descend
    intro child r c search s v common restS hsc child' res hins ih rest hs hsw
    obtain ⟨h1, h2, _⟩ := splitCommon_spec hsc
    rw [List.append_nil] at h2
    obtain ⟨hsw', hok⟩ := ih hsw.2.1
    have hpre := Node.insert_spec_pre child restS s v
    simp only [hins] at hsw' hpre hok
    refine ⟨fun h => (nomatch h), fun es' res' he => ?_⟩
    cases he
    refine ⟨⟨hpre ▸ hsw.1, hsw', hsw.2.2⟩, rfl, hok.lift ?_ (fun h => by rw [h]) fun h => ?_⟩
    · rw [hs, Edges.lookup_rel_cons hsw, if_pos rfl, lookup_map_prefix, ← hs, h1,
        (stripPrefix_some _ _ _).mpr (by rw [h2])]
      rfl
    · rw [Edges.rel, Edges.rel, hpre, h1, ← h2]
      exact (h.map _).append_right _
  · -- the key leaves the child's prefix: split
    intro child r c search s v common restS y ys hsc old mid rest hs hsw
    have hmid : mid = splitNode child common restS y ys s v := rfl
    clear_value mid
    subst hmid
    obtain ⟨h1, h2, h3⟩ := splitCommon_spec hsc
    obtain ⟨k1, k2⟩ := splitNode_spec child common restS y ys s v hsw.2.1 h2 fun x xs hx => h3 x xs y ys hx rfl
    have k3 := splitNode_pre child common restS y ys s v
    refine ⟨fun h => (nomatch h), fun es' res' he => ?_⟩
    cases he
    obtain ⟨t, ht⟩ := hsw.1
    have hcommon : ∃ t', common = c :: t' := by
      rw [hs, ht, splitCommon, if_pos rfl] at hsc
      exact ⟨_, (congrArg Prod.fst hsc).symm⟩
    refine ⟨⟨by rw [k3]; exact hcommon, k1, hsw.2.2⟩, rfl, .added ?_ ?_⟩
    · rw [hs, Edges.lookup_rel_cons hsw, if_pos rfl, lookup_map_prefix, ← hs,
        splitCommon_strip hsc]
      rfl
    · rw [Edges.rel, Edges.rel, k3, h1]
      exact k2.append_right _
  · -- another label: look further
    intro l child r c search s v hlc edges' r1 hi ih rest hs hsw
    obtain ⟨hsw', hlab, hok⟩ := (ih rest hs hsw.2.2.1).2 edges' r1 hi
    refine ⟨fun h => (nomatch h), fun es' res' he => ?_⟩
    cases he
    refine ⟨⟨hsw.1, hsw.2.1, hsw', hlab ▸ hsw.2.2.2⟩, by rw [Edges.labels, Edges.labels, hlab],
      hok.lift ?_ (fun h => by rw [h]) perm_append_cons⟩
    rw [hs, Edges.lookup_rel_cons hsw, if_neg hlc]
  · intro l child r c search s v hlc hi ih rest hs hsw
    refine ⟨fun _ h => ?_, fun _ _ h => (nomatch h)⟩
    rcases List.mem_cons.mp h with h | h
    · exact hlc h.symm
    · exact (ih rest hs hsw.2.2.1).1 hi h

theorem mem_of_perm_cons {x : KV} {new old : List KV} (h : new.Perm (x :: old)) (p : KV) :
    p ∈ new ↔ p ∈ old ∨ p = x := by
  rw [h.mem_iff, List.mem_cons, or_comm]

theorem Edges.insertAt_spec : ∀ (es : Edges) (c : Nat) (rest s : Key) (v : Int), Edges.SW es →
    match Edges.insertAt es c (c :: rest) s v with
    | none => c ∉ Edges.labels es
    | some (es', res) =>
      Edges.SW es' ∧ Edges.labels es' = Edges.labels es ∧
      (∀ old, lookup (c :: rest) (Edges.rel es) = some old → es' = es ∧ res = ⟨old, false⟩) ∧
      (lookup (c :: rest) (Edges.rel es) = none →
        res = ⟨v, true⟩ ∧ ∀ p, p ∈ Edges.rel es' ↔ p ∈ Edges.rel es ∨ p = (c :: rest, v)) := by
  intro es c rest s v hsw
  have h := insert_ok.2 es c (c :: rest) s v rest rfl hsw
  cases hi : Edges.insertAt es c (c :: rest) s v with
  | none => exact h.1 hi
  | some r =>
    obtain ⟨h1, h2, h3, h4⟩ := h.2 r.1 r.2 hi
    exact ⟨h1, h2, h3, fun hn => ⟨(h4 hn).1, mem_of_perm_cons (h4 hn).2⟩⟩

end Influx.Radix
