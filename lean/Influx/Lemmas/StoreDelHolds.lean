/-
  Lemmas.StoreDelHolds — the store model refines the abstract content of Spec.C17 (cases
  without snapshots): the statement checker accepts the model's trace.
-/
import Influx.Lemmas.StoreDelC17
import Influx.Lemmas.StoreDelC42
import Influx.Spec.C17

namespace Influx.Spec.C17
open Influx.Model.DelPred (Bytes Pred)
open Influx.Model.StoreDel (Tags upsert)

def AbsUniq (a : Abs) : Prop := (a.map fun e => (e.shard, keyOf e)).Nodup

theorem Abs.write_eq (a : Abs) (sh : Nat) (name : Bytes) (tags : Tags) (pts : List (Int × Int)) :
    a.write sh name tags pts =
      upsert (fun e => e.shard = sh ∧ e.name = name ∧ e.tags = tags)
        (fun e => { e with pts := pts.foldl setPt e.pts }) ⟨sh, name, tags, pts.foldl setPt []⟩ a := rfl

theorem cutEntry_key (lo hi : Int) (pred : Option Pred) (e : Entry) :
    (cutEntry lo hi pred e).shard = e.shard ∧ keyOf (cutEntry lo hi pred e) = keyOf e := by
  unfold cutEntry
  split <;> exact ⟨rfl, rfl⟩

theorem absUniq_delete (a : Abs) (h : AbsUniq a) (lo hi : Int) (pred : Option Pred) : AbsUniq (a.delete lo hi pred) := by
  have : (a.delete lo hi pred).map (fun e => (e.shard, keyOf e)) = a.map fun e => (e.shard, keyOf e) :=
    (List.map_map ..).trans (List.map_congr_left fun e _ => by
      simp only [Function.comp, (cutEntry_key lo hi pred e).1, (cutEntry_key lo hi pred e).2])
  unfold AbsUniq
  rw [this]; exact h

theorem absUniq_write (a : Abs) (h : AbsUniq a) (sh : Nat) (name : Bytes) (tags : Tags) (pts : List (Int × Int)) :
    AbsUniq (a.write sh name tags pts) :=
  Influx.Model.StoreDel.nodup_map_upsert (f := fun e : Entry => (e.shard, keyOf e)) (k := (sh, name, tags))
    (fun _ => by simp only [keyOf, Prod.mk.injEq]) (fun _ => rfl) rfl h

theorem absPts_delete (a : Abs) (lo hi : Int) (pred : Option Pred) (sh : Nat) (k : Bytes × Tags) :
    absPts (a.delete lo hi pred) sh k =
      if predTrue pred k.1 k.2 then outside lo hi (absPts a sh k) else absPts a sh k := by
  unfold absPts Abs.delete
  rw [Influx.Model.StoreDel.find?_map_of_comm _ _ fun e => by
    simp only [(cutEntry_key lo hi pred e).1, (cutEntry_key lo hi pred e).2]]
  cases hf : a.find? (fun e => decide (e.shard = sh ∧ keyOf e = k)) with
  | none => simp [outside]
  | some e =>
    have hk : e.shard = sh ∧ keyOf e = k := by simpa using List.find?_some hf
    rw [← hk.2]
    exact apply_ite Entry.pts _ _ _

theorem absPts_write (a : Abs) (sh : Nat) (name : Bytes) (tags : Tags) (pts : List (Int × Int))
    (sh' : Nat) (k : Bytes × Tags) :
    absPts (a.write sh name tags pts) sh' k =
      if sh' = sh ∧ k = (name, tags) then pts.foldl setPt (absPts a sh k) else absPts a sh' k := by
  unfold absPts
  rw [Abs.write_eq, Influx.Model.StoreDel.find?_upsert (f := fun e : Entry => (e.shard, keyOf e)) (k := (sh, name, tags))
    (k' := (sh', k)) ?_ ?_ ?_ ?_]
  · by_cases hc : sh' = sh ∧ k = (name, tags)
    · obtain ⟨rfl, rfl⟩ := hc
      rw [if_pos rfl, if_pos ⟨rfl, rfl⟩]
      cases a.find? _ <;> rfl
    · rw [if_neg fun e => hc (Prod.mk.inj e), if_neg hc]
  · intro _; simp only [keyOf, Prod.mk.injEq]
  · intro _; rfl
  · rfl
  · intro _; simp only [decide_eq_true_eq, Prod.mk.injEq]

theorem absPts_of_mem {a : Abs} (hu : AbsUniq a) {e : Entry} (he : e ∈ a) : absPts a e.shard (keyOf e) = e.pts := by
  unfold absPts
  rw [Influx.Model.StoreDel.find?_of_mem_nodup (f := fun e : Entry => (e.shard, keyOf e)) hu he fun x => by
    simp only [decide_eq_true_eq, Prod.mk.injEq]]

theorem absPts_ne_nil_iff {a : Abs} (hu : AbsUniq a) (sh : Nat) (k : Bytes × Tags) :
    absPts a sh k ≠ [] ↔ ∃ e ∈ a, e.shard = sh ∧ keyOf e = k ∧ e.pts ≠ [] := by
  constructor
  · unfold absPts
    cases hf : a.find? (fun e => decide (e.shard = sh ∧ keyOf e = k)) with
    | none => exact fun h => absurd rfl h
    | some e =>
      have : e.shard = sh ∧ keyOf e = k := by simpa using List.find?_some hf
      exact fun h => ⟨e, List.mem_of_find?_eq_some hf, this.1, this.2, h⟩
  · rintro ⟨e, he, rfl, rfl, hne⟩
    rwa [absPts_of_mem hu he]

theorem mem_liveKeys {a : Abs} (hu : AbsUniq a) (sh : Nat) (k : Bytes × Tags) :
    k ∈ liveKeys a sh ↔ absPts a sh k ≠ [] := by
  rw [absPts_ne_nil_iff hu]
  simp only [liveKeys, List.mem_map, List.mem_filter, decide_eq_true_eq, Bool.not_eq_true',
    List.isEmpty_eq_false_iff]
  exact ⟨fun ⟨e, ⟨he, hs, hne⟩, hk⟩ => ⟨e, he, hs, hk, hne⟩, fun ⟨e, he, hs, hk, hne⟩ => ⟨e, ⟨he, hs, hne⟩, hk⟩⟩

end Influx.Spec.C17

namespace Influx.Model.StoreDel
open Influx.Model.DelPred (Bytes Pred)
open Influx.Spec.C17 (Abs Entry absPts liveKeys keyOf setPt predTrue outside AbsUniq)

theorem mem_setPt_iff {p x : Int × Int} {l : List (Int × Int)} :
    x ∈ setPt l p ↔ x = p ∨ (x ∈ l ∧ x.1 ≠ p.1) := by
  simp only [setPt, List.mem_append, List.mem_filter, List.mem_singleton, ne_eq, decide_eq_true_eq]
  constructor
  · rintro (h | h)
    · exact Or.inr h
    · exact Or.inl h
  · rintro (h | h)
    · exact Or.inr h
    · exact Or.inl h

def SameMem (a b : List (Int × Int)) : Prop := ∀ x, x ∈ a ↔ x ∈ b

theorem sameMem_write (a b new : List (Int × Int)) (ha : Asc a) (h : SameMem a b) :
    SameMem (addPts a new) (new.foldl setPt b) := by
  unfold addPts
  induction new generalizing a b with
  | nil => exact h
  | cons p ps ih =>
    simp only [List.foldl_cons]
    apply ih _ _ (asc_insertPt p a ha)
    intro x
    rw [mem_insertPt_iff ha, mem_setPt_iff, h x]

theorem sameMem_cut (lo hi : Int) (a b : List (Int × Int)) (h : SameMem a b) :
    SameMem (cutPts lo hi a) (outside lo hi b) := by
  intro x
  simp only [cutPts, outside, List.mem_filter, h x]

theorem SameMem.ne_nil_iff {a b : List (Int × Int)} (h : SameMem a b) : a ≠ [] ↔ b ≠ [] := by
  simp only [ne_eq, List.eq_nil_iff_forall_not_mem, h _]

/-- all values of the shard are still in the cache (no snapshot happened) -/
def ShardCacheOnly (sh : Shard) : Prop := ∀ s ∈ sh.series, CacheOnly s

theorem findSeries_mem {sh : Shard} {name : Bytes} {tags : Tags} {s : Series}
    (h : findSeries sh name tags = some s) : s ∈ sh.series ∧ s.name = name ∧ s.tags = tags :=
  ⟨List.mem_of_find?_eq_some h, by simpa [sameKey] using List.find?_some h⟩

theorem readPts_of_mem {sh : Shard} (hwf : ShardWF sh) {s : Series} (hs : s ∈ sh.series) :
    readPts sh s.name s.tags = s.pts := by
  unfold readPts findSeries
  rw [find?_of_mem_nodup hwf.uniq hs fun y => by simp only [sameKey, decide_eq_true_eq, Prod.mk.injEq]]

theorem readPts_asc (sh : Shard) (name : Bytes) (tags : Tags) : Asc (readPts sh name tags) := by
  unfold readPts
  cases findSeries sh name tags with
  | none => exact List.Pairwise.nil
  | some s => exact asc_addPts _ _ (asc_mergeFrom [] s.files List.Pairwise.nil)

theorem readPts_write (sh : Shard) (hwf : ShardWF sh) (hc : ShardCacheOnly sh) (name : Bytes) (tags : Tags)
    (pts : List (Int × Int)) (n2 : Bytes) (t2 : Tags) :
    readPts (sh.write name tags pts) n2 t2 =
      if n2 = name ∧ t2 = tags then addPts (readPts sh name tags) pts else readPts sh n2 t2 := by
  unfold readPts findSeries
  rw [Shard.write_series, find?_upsert (f := fun s : Series => (s.name, s.tags)) (k := (name, tags)) (k' := (n2, t2))
    ?_ ?_ ?_ ?_]
  · by_cases hk : n2 = name ∧ t2 = tags
    · obtain ⟨rfl, rfl⟩ := hk
      rw [if_pos rfl, if_pos ⟨rfl, rfl⟩]
      -- all values are in the cache, where the write put the new ones
      cases hf : sh.series.find? (sameKey n2 t2) with
      | none => exact pts_cacheOnly _ ⟨fun _ hf => (nomatch hf), asc_addPts [] pts List.Pairwise.nil⟩ rfl
      | some s =>
        have hs := List.mem_of_find?_eq_some hf
        have hswf := (hwf.wf s hs).1
        exact (pts_cacheOnly { s with cache := addPts s.cache pts } ⟨hswf.1, asc_addPts _ _ hswf.2⟩ (hc s hs)).trans
          (congrArg (addPts · pts) (pts_cacheOnly s hswf (hc s hs)).symm)
    · rw [if_neg fun e => hk (Prod.mk.inj e), if_neg hk]
  · intro _; rw [Prod.mk.injEq]
  · intro _; rfl
  · rfl
  · intro _; simp only [sameKey, decide_eq_true_eq, Prod.mk.injEq]

theorem cacheOnly_write (sh : Shard) (hc : ShardCacheOnly sh) (name : Bytes) (tags : Tags) (pts : List (Int × Int)) :
    ShardCacheOnly (sh.write name tags pts) := by
  unfold ShardCacheOnly
  rw [Shard.write_series]
  exact forall_mem_upsert hc (fun s hs _ => hc s hs) rfl

theorem cacheOnly_delete (sh : Shard) (hc : ShardCacheOnly sh) (lo hi : Int) (pred : Option Pred) (mname : Option Bytes) :
    ShardCacheOnly (sh.delete lo hi pred mname) := by
  intro s' hs'
  obtain ⟨s, hs, hd⟩ := List.mem_filterMap.1 hs'
  have hcs : s.files = [] := hc s hs
  rcases delSeries_some hd with rfl | rfl
  · exact hcs
  · show s.files.map _ = []
    rw [hcs]; rfl

open Influx.Spec.C16 (evalPred PredWF SeriesWF) in
/-- the series lies in the C16 domain -/
def DomOK (s : Series) : Prop := SeriesWF s.name s.tags = true ∧ DelPred.KeyOK s.name s.tags = true

structure Rel (st : State) (a : Abs) : Prop where
  ids : (st.map (·.id)).Nodup
  shards : ∀ sh ∈ st, ShardWF sh ∧ ShardCacheOnly sh ∧ ∀ s ∈ sh.series, DomOK s
  pts : ∀ sh ∈ st, ∀ k : Bytes × Tags, SameMem (readPts sh k.1 k.2) (absPts a sh.id k)
  uniq : AbsUniq a
  cover : ∀ e ∈ a, ∃ sh ∈ st, sh.id = e.shard

theorem map_id_write (st : State) (sh : Nat) (name : Bytes) (tags : Tags) (pts : List (Int × Int)) :
    (write st sh name tags pts).map (·.id) = st.map (·.id) :=
  (List.map_map ..).trans (List.map_congr_left fun sh0 _ => by
    simp only [Function.comp]; split <;> simp only [Shard.write_id])

theorem map_id_delete (st : State) (lo hi : Int) (pred : Option Pred) (hm : Bool) :
    (delete st lo hi pred hm).map (·.id) = st.map (·.id) :=
  (List.map_map ..).trans (List.map_congr_left fun _ _ => rfl)

theorem rel_write (st : State) (a : Abs) (h : Rel st a) (sh : Nat) (name : Bytes) (tags : Tags)
    (pts : List (Int × Int)) (hex : st.any (·.id = sh) = true) (hp : pts ≠ [])
    (hdom : DomOK ⟨name, tags, [], []⟩) :
    Rel (write st sh name tags pts) (a.write sh name tags pts) := by
  refine ⟨(map_id_write ..).symm ▸ h.ids, ?_, ?_, Influx.Spec.C17.absUniq_write a h.uniq sh name tags pts, ?_⟩
  · intro sh' hsh'
    obtain ⟨sh0, hsh0, rfl⟩ := List.mem_map.1 hsh'
    obtain ⟨hwf, hc, hd⟩ := h.shards sh0 hsh0
    split
    · refine ⟨shardWF_write sh0 hwf name tags pts hp, cacheOnly_write sh0 hc name tags pts, ?_⟩
      rw [Shard.write_series]
      exact forall_mem_upsert hd (fun s hs _ => hd s hs) hdom
    · exact ⟨hwf, hc, hd⟩
  · intro sh' hsh' k
    obtain ⟨sh0, hsh0, rfl⟩ := List.mem_map.1 hsh'
    obtain ⟨hwf, hc, _⟩ := h.shards sh0 hsh0
    have hR := h.pts sh0 hsh0
    rw [Influx.Spec.C17.absPts_write]
    by_cases hid : sh0.id = sh
    · rw [if_pos hid, Shard.write_id, readPts_write sh0 hwf hc, hid]
      by_cases hk : k = (name, tags)
      · subst hk
        rw [if_pos ⟨rfl, rfl⟩, if_pos ⟨rfl, rfl⟩]
        exact sameMem_write _ _ pts (readPts_asc sh0 name tags) (hid ▸ hR (name, tags))
      · rw [if_neg fun hc' => hk (Prod.ext hc'.1 hc'.2), if_neg fun hc' => hk hc'.2]
        exact hid ▸ hR k
    · rw [if_neg hid, if_neg fun hc' => hid hc'.1]
      exact hR k
  · rw [Influx.Spec.C17.Abs.write_eq]
    simp only [← List.mem_map (f := fun x : Shard => x.id), map_id_write]
    exact forall_mem_upsert (fun e he => List.mem_map.2 (h.cover e he)) (fun e he _ => List.mem_map.2 (h.cover e he))
      (List.mem_map.2 (by simpa using hex))

open Influx.Spec.C16 (evalPred PredWF) in
theorem selOf_predTrue (sh : Shard) (pred : Option Pred) (hm : Bool) (s : Series) (hs : s ∈ sh.series)
    (hd : DomOK s) (hp : ∀ p, pred = some p → PredWF p = true) :
    selOf sh pred (if hm then pred.bind measNameOf else none) s.name s.tags = predTrue pred s.name s.tags := by
  cases pred with
  | none =>
    cases hm <;> simp only [selOf, predSelects, predTrue, contains_visited_none hs, Bool.and_self, Option.bind_none, if_true,
      Bool.false_eq_true, if_false]
  | some p =>
    have hsel := predSelects_eq p s.name s.tags (hp p rfl) hd.1 hd.2
    simp only [predTrue]
    cases hm with
    | true => simpa using selOf_handler sh p s hs hsel
    | false =>
      simp only [Bool.false_eq_true, if_false, selOf, contains_visited_none hs, Bool.true_and]
      exact hsel

theorem rel_delete (st : State) (a : Abs) (h : Rel st a) (lo hi : Int) (hlh : lo ≤ hi) (pred : Option Pred)
    (hm : Bool) (hp : ∀ p, pred = some p → Influx.Spec.C16.PredWF p = true) :
    Rel (delete st lo hi pred hm) (a.delete lo hi pred) := by
  refine ⟨(map_id_delete ..).symm ▸ h.ids, ?_, ?_, Influx.Spec.C17.absUniq_delete a h.uniq lo hi pred, ?_⟩
  · intro sh' hsh'
    obtain ⟨sh0, hsh0, rfl⟩ := List.mem_map.1 hsh'
    obtain ⟨hwf, hc, hd⟩ := h.shards sh0 hsh0
    refine ⟨shardWF_delete sh0 hwf lo hi hlh pred _, cacheOnly_delete sh0 hc lo hi pred _, fun s' hs' => ?_⟩
    obtain ⟨s, hs, hds⟩ := List.mem_filterMap.1 hs'
    obtain ⟨hn, ht⟩ := delSeries_name hds
    unfold DomOK
    rw [hn, ht]; exact hd s hs
  · intro sh' hsh' k
    obtain ⟨sh0, hsh0, rfl⟩ := List.mem_map.1 hsh'
    obtain ⟨hwf, hc, hd⟩ := h.shards sh0 hsh0
    have hR := h.pts sh0 hsh0 k
    show SameMem (readPts (sh0.delete lo hi pred _) k.1 k.2) (absPts _ sh0.id k)
    rw [readPts_delete sh0 hwf lo hi hlh, Influx.Spec.C17.absPts_delete]
    cases hf : findSeries sh0 k.1 k.2 with
    | none =>
      -- no such series: nothing to read before or after, on either side
      have hempty : readPts sh0 k.1 k.2 = [] := by unfold readPts; rw [hf]
      rw [hempty] at hR ⊢
      have : absPts a sh0.id k = [] := Classical.not_not.1 (mt hR.ne_nil_iff.2 (fun h => h rfl))
      simp only [this, cutPts, outside, List.filter_nil, ite_self]
      exact fun _ => Iff.rfl
    | some s =>
      obtain ⟨hs, hn, ht⟩ := findSeries_mem hf
      have hsel := selOf_predTrue sh0 pred hm s hs (hd s hs) hp
      rw [hn, ht] at hsel
      rw [hsel]
      split
      · exact sameMem_cut lo hi _ _ hR
      · exact hR
  · intro e he
    obtain ⟨e0, he0, rfl⟩ := List.mem_map.1 he
    rw [← List.mem_map (f := fun x : Shard => x.id), map_id_delete, (Influx.Spec.C17.cutEntry_key lo hi pred e0).1]
    exact List.mem_map.2 (h.cover e0 he0)

open Influx.Spec.C17 (Ans Verd judgeObs judgeCase holdsOn sameSet ascTimes)

/-- what a `read` prints: the series with a remaining value -/
def seriesOut (l : List Series) : List ((Bytes × Tags) × List (Int × Int)) :=
  (l.filter fun s => !s.pts.isEmpty).map fun s => ((s.name, s.tags), s.pts)

/-- the model's answer to an op, as the typed observation the statement checker reads
    (`stepOp` renders the same values as text) -/
def ansOf (st : Option State) (op : Op) : Ans :=
  match st, op with
  | none, .open_ _ => .ok
  | none, _ => .other "bad-op"
  | some _, .open_ _ => .other "bad-op"
  | some s, .write sh _ _ _ => if s.any (·.id = sh) then .ok else .other "bad-op"
  | some s, .snap sh => if s.any (·.id = sh) then .ok else .other "bad-op"
  | some _, .del .. => .ok
  | some s, .read sh => match readShard s sh with
    | some l => .points (seriesOut l)
    | none => .other "bad-op"
  | some s, .ls sh => match readShard s sh with
    | some l => .ids (l.map fun x => (x.name, x.tags))
    | none => .other "bad-op"
  | some s, .mn a c => .keys (measurementNames a s c)
  | some _, _ => .other "-"

def runT : Option State → List Op → List (Op × Ans)
  | _, [] => []
  | st, op :: ops => (op, ansOf st op) :: runT (stepOp st op).1 ops

theorem insertByKey_perm (s : Series) (l : List Series) : (insertByKey s l).Perm (s :: l) := by
  induction l with
  | nil => exact List.Perm.refl _
  | cons y ys ih =>
    simp only [insertByKey]
    split
    · exact (List.Perm.cons y ih).trans (List.Perm.swap s y ys)
    · exact List.Perm.refl _

theorem sortByKey_perm (l : List Series) : (sortByKey l).Perm l := by
  unfold sortByKey
  induction l with
  | nil => exact List.Perm.refl _
  | cons x xs ih =>
    simp only [List.foldr_cons]
    exact (insertByKey_perm x _).trans (List.Perm.cons x ih)

theorem mem_sortByKey {s : Series} {l : List Series} : s ∈ sortByKey l ↔ s ∈ l :=
  (sortByKey_perm l).mem_iff

theorem nodup_keys_sortByKey (l : List Series) (h : (l.map fun s => (s.name, s.tags)).Nodup) :
    ((sortByKey l).map fun s => (s.name, s.tags)).Nodup :=
  ((sortByKey_perm l).map _).nodup_iff.2 h

theorem asc_ascTimes (l : List (Int × Int)) (h : Asc l) : ascTimes l = true := by
  induction l with
  | nil => rfl
  | cons a rest ih =>
    cases rest with
    | nil => rfl
    | cons b rest' =>
      simp only [ascTimes, Bool.and_eq_true, decide_eq_true_eq]
      exact ⟨(List.pairwise_cons.1 h).1 b (by simp), ih (List.pairwise_cons.1 h).2⟩

theorem sameSet_of_sameMem {x y : List (Int × Int)} (h : SameMem x y) : sameSet y x = true := by
  simp only [sameSet, Bool.and_eq_true, List.all_eq_true, List.contains_eq_mem, decide_eq_true_eq]
  exact ⟨fun p hp => (h p).2 hp, fun p hp => (h p).1 hp⟩

/-- Under `Rel` every series has a point (it is listed and its values are in the cache). -/
theorem Rel.pts_ne_nil {st : State} {a : Abs} (h : Rel st a) {sh : Shard} (hsh : sh ∈ st) {s : Series}
    (hs : s ∈ sh.series) : s.pts ≠ [] :=
  have ⟨hwf, hc, _⟩ := h.shards sh hsh
  (listed_iff_pts_cacheOnly s (hwf.wf s hs).1 (hc s hs)).1 (hwf.wf s hs).2

/-- **What all three judged observations rest on**: the history has data for a series in a shard
    exactly when the shard has that series. -/
theorem Rel.live_iff {st : State} {a : Abs} (h : Rel st a) {sh : Shard} (hsh : sh ∈ st) (k : Bytes × Tags) :
    absPts a sh.id k ≠ [] ↔ ∃ s ∈ sh.series, (s.name, s.tags) = k := by
  rw [← (h.pts sh hsh k).ne_nil_iff]
  constructor
  · unfold readPts
    cases hf : findSeries sh k.1 k.2 with
    | none => exact fun hne => absurd rfl hne
    | some s =>
      obtain ⟨hs, hn, ht⟩ := findSeries_mem hf
      exact fun _ => ⟨s, hs, Prod.ext hn ht⟩
  · rintro ⟨s, hs, rfl⟩
    rw [readPts_of_mem (h.shards sh hsh).1 hs]
    exact h.pts_ne_nil hsh hs

theorem readShard_some {st : State} {sh : Nat} {l : List Series} (hr : readShard st sh = some l) :
    ∃ sh0 ∈ st, sh0.id = sh ∧ l = sortByKey sh0.series := by
  unfold readShard at hr
  cases hf : st.find? (·.id = sh) with
  | none => rw [hf] at hr; cases hr
  | some sh0 =>
    rw [hf] at hr
    exact ⟨sh0, List.mem_of_find?_eq_some hf, by simpa using List.find?_some hf, (Option.some.inj hr).symm⟩

theorem judge_keys {st : State} {a : Abs} (h : Rel st a) {sh0 : Shard} (hsh0 : sh0 ∈ st) :
    ((sortByKey sh0.series).map fun x => (x.name, x.tags)).Nodup ∧
    (∀ k ∈ (sortByKey sh0.series).map fun x => (x.name, x.tags), absPts a sh0.id k ≠ []) ∧
    ∀ k ∈ liveKeys a sh0.id, k ∈ (sortByKey sh0.series).map fun x => (x.name, x.tags) := by
  refine ⟨nodup_keys_sortByKey _ (h.shards sh0 hsh0).1.uniq, fun k hk => ?_, fun k hk => ?_⟩
  · obtain ⟨s, hs, rfl⟩ := List.mem_map.1 hk
    exact (h.live_iff hsh0 _).2 ⟨s, mem_sortByKey.1 hs, rfl⟩
  · obtain ⟨s, hs, rfl⟩ := (h.live_iff hsh0 k).1 ((Influx.Spec.C17.mem_liveKeys h.uniq _ k).1 hk)
    exact List.mem_map.2 ⟨s, mem_sortByKey.2 hs, rfl⟩

theorem judge_ls (st : State) (a : Abs) (h : Rel st a) (sh : Nat) (l : List Series)
    (hr : readShard st sh = some l) : judgeObs a (.ls sh) (.ids (l.map fun x => (x.name, x.tags))) = .ok := by
  obtain ⟨sh0, hsh0, rfl, rfl⟩ := readShard_some hr
  simp only [judgeObs]
  refine if_pos ?_
  simp only [Bool.and_eq_true, decide_eq_true_eq, List.all_eq_true, List.contains_eq_mem, Bool.not_eq_true',
    List.isEmpty_eq_false_iff]
  exact ⟨⟨(judge_keys h hsh0).1, (judge_keys h hsh0).2.1⟩, (judge_keys h hsh0).2.2⟩

theorem judge_read (st : State) (a : Abs) (h : Rel st a) (sh : Nat) (l : List Series)
    (hr : readShard st sh = some l) : judgeObs a (.read sh) (.points (seriesOut l)) = .ok := by
  obtain ⟨sh0, hsh0, rfl, rfl⟩ := readShard_some hr
  obtain ⟨c1, _, c3⟩ := judge_keys h hsh0
  have hwf := (h.shards sh0 hsh0).1
  -- every series has a point, so `read` shows them all
  have hout : seriesOut (sortByKey sh0.series) = (sortByKey sh0.series).map fun s => ((s.name, s.tags), s.pts) := by
    unfold seriesOut
    rw [List.filter_eq_self.2 fun s hs => by simpa [List.isEmpty_iff] using h.pts_ne_nil hsh0 (mem_sortByKey.1 hs)]
  have hkeys : (seriesOut (sortByKey sh0.series)).map (·.1) = (sortByKey sh0.series).map fun s => (s.name, s.tags) := by
    rw [hout, List.map_map]; rfl
  simp only [judgeObs]
  refine if_pos ?_
  rw [hkeys]
  simp only [Bool.and_eq_true, decide_eq_true_eq, List.all_eq_true, List.contains_eq_mem]
  refine ⟨⟨c1, fun x hx => ?_⟩, c3⟩
  obtain ⟨s, hs, rfl⟩ := List.mem_map.1 (hout ▸ hx)
  have hs' := mem_sortByKey.1 hs
  have hrp := readPts_of_mem hwf hs'
  have hR := h.pts sh0 hsh0 (s.name, s.tags)
  rw [hrp] at hR
  have hne : s.pts.isEmpty = false := List.isEmpty_eq_false_iff.2 (h.pts_ne_nil hsh0 hs')
  exact ⟨⟨by rw [hne]; rfl, asc_ascTimes _ (hrp ▸ readPts_asc sh0 _ _)⟩, sameSet_of_sameMem hR⟩

theorem judge_mn (st : State) (a : Abs) (h : Rel st a) :
    judgeObs a (.mn .nil_ none) (.keys (measurementNames .nil_ st none)) = .ok := by
  have hmem : ∀ m, m ∈ measurementNames .nil_ st none ↔ ∃ sh ∈ st, ∃ s ∈ sh.series, s.name = m := fun m => by
    simp only [mem_measurementNames_none, LiveAuth, Auth.allows, and_true]
  simp only [judgeObs]
  refine if_pos ?_
  simp only [Bool.and_eq_true, decide_eq_true_eq, List.all_eq_true, List.any_eq_true, List.contains_eq_mem,
    List.mem_filter, Bool.not_eq_true', List.isEmpty_eq_false_iff]
  refine ⟨⟨strictAsc_nodup _ (strictAsc_measurementNames _ _ _), fun m hm => ?_⟩, fun e he => ?_⟩
  · obtain ⟨sh0, hsh0, s, hs, rfl⟩ := (hmem m).1 hm
    obtain ⟨e, he, _, hk, hne⟩ :=
      (Influx.Spec.C17.absPts_ne_nil_iff h.uniq _ _).1 ((h.live_iff hsh0 _).2 ⟨s, hs, rfl⟩)
    exact ⟨e, he, congrArg Prod.fst hk, hne⟩
  · obtain ⟨sh0, hsh0, hid⟩ := h.cover e he.1
    obtain ⟨s, hs, hk⟩ := (h.live_iff hsh0 (keyOf e)).1
      ((Influx.Spec.C17.absPts_ne_nil_iff h.uniq _ _).2 ⟨e, he.1, hid.symm, rfl, he.2⟩)
    exact (hmem e.name).2 ⟨sh0, hsh0, s, hs, congrArg Prod.fst hk⟩

open Influx.Spec.C16 (PredWF SeriesWF) in
/-- the domain of the theorem: no snapshots (values stay in the cache), written series and
    predicates inside the C16 domain, proper ranges -/
def opOK : Op → Bool
  | .write _ name tags pts => !pts.isEmpty && SeriesWF name tags && DelPred.KeyOK name tags
  | .del lo hi pred _ => decide (lo ≤ hi) && (match pred with | none => true | some p => PredWF p)
  | .snap _ => false
  | _ => true

def IdsRange (st : State) (n : Nat) : Prop := ∀ i, i ∈ st.map (·.id) ↔ 1 ≤ i ∧ i ≤ n

theorem readShard_none_iff (st : State) (n : Nat) (hr : IdsRange st n) (sh : Nat) :
    readShard st sh = none ↔ (sh < 1 ∨ n < sh) := by
  unfold readShard
  rw [Option.map_eq_none_iff, List.find?_eq_none]
  have := hr sh
  simp only [List.mem_map] at this
  constructor
  · intro h
    have : ¬ (1 ≤ sh ∧ sh ≤ n) := fun hc => by
      obtain ⟨x, hx, hid⟩ := this.2 hc
      exact h x hx (decide_eq_true hid)
    omega
  · intro h x hx hid
    have := this.1 ⟨x, hx, of_decide_eq_true hid⟩
    omega

/-- **The statement checker accepts the model's trace** (cases without snapshots, inside the C16
    domain). -/
theorem judgeCase_runT (n : Nat) (ops : List Op) (hok : ops.all opOK = true) (st : State) (a : Abs)
    (h : Rel st a) (hr : IdsRange st n) :
    (judgeCase n a (runT (some st) ops)).all (· = .ok) = true := by
  induction ops generalizing st a with
  | nil => rfl
  | cons op ops ih =>
    simp only [List.all_cons, Bool.and_eq_true] at hok
    obtain ⟨hop, hrest⟩ := hok
    -- an op that leaves state and history alone and whose answer is judged `ok`
    have hsame : ∀ (ans : Ans) {v : Verd}, (stepOp (some st) op).1 = some st → ansOf (some st) op = ans →
        judgeCase n a ((op, ans) :: runT (some st) ops) = v :: judgeCase n a (runT (some st) ops) → v = .ok →
        (judgeCase n a (runT (some st) (op :: ops))).all (· = .ok) = true := by
      intro ans v hs ha hj hv
      rw [runT, hs, ha, hj, List.all_cons, hv, ih hrest st a h hr]; rfl
    cases op with
    | open_ k => exact hsame _ rfl rfl rfl rfl
    | write sh name tags pts =>
      simp only [opOK, Bool.and_eq_true, Bool.not_eq_true', List.isEmpty_eq_false_iff] at hop
      by_cases hex : st.any (·.id = sh) = true
      · simp only [runT, ansOf, stepOp, hex, if_true, judgeCase]
        exact ih hrest _ _ (rel_write st a h sh name tags pts hex hop.1.1 ⟨hop.1.2, hop.2⟩)
          (fun i => (map_id_write st sh name tags pts).symm ▸ hr i)
      · exact hsame (.other "bad-op") (by simp only [stepOp, hex]; rfl) (by simp only [ansOf, hex]; rfl) rfl rfl
    | snap sh => cases hop
    | del lo hi pred hm =>
      simp only [opOK, Bool.and_eq_true, decide_eq_true_eq] at hop
      simp only [runT, ansOf, stepOp, judgeCase]
      exact ih hrest _ _ (rel_delete st a h lo hi hop.1 pred hm fun p hpp => by subst hpp; exact hop.2)
        (fun i => (map_id_delete st lo hi pred hm).symm ▸ hr i)
    | read sh =>
      cases hrs : readShard st sh with
      | none =>
        refine hsame (.other "bad-op") (by simp only [stepOp, hrs]) (by simp only [ansOf, hrs]) rfl ?_
        exact if_pos ⟨(readShard_none_iff st n hr sh).1 hrs, rfl⟩
      | some l =>
        simp only [runT, ansOf, stepOp, hrs, judgeCase, List.all_cons, Bool.and_eq_true]
        exact ⟨by rw [judge_read st a h sh l hrs]; rfl, ih hrest st a h hr⟩
    | ls sh =>
      cases hrs : readShard st sh with
      | none =>
        refine hsame (.other "bad-op") (by simp only [stepOp, hrs]) (by simp only [ansOf, hrs]) rfl ?_
        exact if_pos ⟨(readShard_none_iff st n hr sh).1 hrs, rfl⟩
      | some l =>
        simp only [runT, ansOf, stepOp, hrs, judgeCase, List.all_cons, Bool.and_eq_true]
        exact ⟨by rw [judge_ls st a h sh l hrs]; rfl, ih hrest st a h hr⟩
    | mn au c =>
      refine hsame _ rfl rfl rfl ?_
      cases au with
      | nil_ =>
        cases c with
        | none => exact judge_mn st a h
        | some c => rfl
      | open_ => rfl
      | deny ps ns => rfl
    | tk au ids nc kc f => exact hsame _ (by simp only [stepOp]; split <;> rfl) rfl rfl rfl
    | tv au ids nc kc f =>
      refine hsame _ ?_ rfl rfl rfl
      simp only [stepOp]
      split
      · rfl
      · split <;> rfl

theorem rel_init (n : Nat) : Rel ((List.range n).map fun i => ⟨i + 1, [], []⟩) [] ∧
    IdsRange ((List.range n).map fun i => ⟨i + 1, [], []⟩) n := by
  have hids : ((List.range n).map fun i => (⟨i + 1, [], []⟩ : Shard)).map (·.id) = (List.range n).map (· + 1) :=
    List.map_map ..
  refine ⟨⟨?_, fun sh hsh => ?_, fun sh hsh k x => ?_, List.nodup_nil, fun e he => nomatch he⟩, fun i => ?_⟩
  · rw [hids]
    exact List.Pairwise.map _ (fun a b hab h => hab (Nat.add_right_cancel h)) List.nodup_range
  · obtain ⟨i, _, rfl⟩ := List.mem_map.1 hsh
    exact ⟨⟨fun s hs => (nomatch hs), List.nodup_nil⟩, fun s hs => (nomatch hs), fun s hs => (nomatch hs)⟩
  · obtain ⟨i, _, rfl⟩ := List.mem_map.1 hsh
    exact Iff.rfl
  · rw [hids]
    simp only [List.mem_map, List.mem_range]
    constructor
    · rintro ⟨j, hj, rfl⟩
      exact ⟨Nat.succ_pos j, hj⟩
    · rintro ⟨h1, h2⟩
      exact ⟨i - 1, Nat.sub_one_lt_of_le h1 h2, Nat.sub_add_cancel h1⟩

end Influx.Model.StoreDel
