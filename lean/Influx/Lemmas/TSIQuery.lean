/-
  Lemmas.TSIQuery — what the views answer in a state that satisfies the invariant.
-/
import Influx.Lemmas.TSIStep

namespace Influx.Model.TSI

theorem mem_fsMeasurements (fs : List FileData) (n : String) :
    n ∈ fsMeasurements fs ↔ firstSome (measFlag n) fs = some false := by
  unfold fsMeasurements
  rw [mem_sortStr, List.mem_filter, beq_iff_eq]
  refine ⟨fun h => h.2, fun h => ⟨?_, h⟩⟩
  obtain ⟨f, hf, hg⟩ := firstSome_eq_some h
  obtain ⟨mm, hm, _⟩ := Option.map_eq_some_iff.mp hg
  exact List.mem_flatMap.mpr ⟨f, hf, (alookup_isSome_iff f.mms n).mp (by rw [hm]; rfl)⟩

theorem firstSome_false {get : FileData → Option Bool} {fs : List FileData}
    (hall : ∀ f ∈ fs, ∀ b, get f = some b → b = false) (hex : ∃ f ∈ fs, (get f).isSome) :
    firstSome get fs = some false := by
  cases hf : firstSome get fs with
  | none =>
    obtain ⟨f, hfm, hs⟩ := hex
    rw [firstSome_eq_none.mp hf f hfm] at hs
    cases hs
  | some b =>
    obtain ⟨f, hfm, hg⟩ := firstSome_eq_some hf
    rw [hall f hfm b hg]

/-- the common shape of `fsTagKeys` and `fsTagValues`. -/
theorem mem_listing {γ : Type} (elem : String → FileData → Option γ) (del : γ → Bool)
    (items : FileData → List String) (fs : List FileData) (x : String)
    (hitems : ∀ f, x ∈ items f ↔ (elem x f).isSome)
    (hnf : ∀ f ∈ fs, ∀ e, elem x f = some e → del e = false) (hex : ∃ f ∈ fs, (elem x f).isSome) :
    x ∈ sortStr ((fs.flatMap items).filter
      (fun y => firstSome (fun f => (elem y f).map del) fs == some false)) := by
  rw [mem_sortStr, List.mem_filter, beq_iff_eq]
  obtain ⟨f, hf, hs⟩ := hex
  refine ⟨List.mem_flatMap.mpr ⟨f, hf, (hitems f).mpr hs⟩, firstSome_false ?_ ⟨f, hf, ?_⟩⟩
  · intro g hg b hb
    obtain ⟨e, he, rfl⟩ := Option.map_eq_some_iff.mp hb
    exact hnf g hg e he
  · rw [Option.isSome_map]; exact hs

theorem mem_fileValues_iff (n k v : String) (f : FileData) :
    v ∈ fileValues n k f ↔ (valElem n k v f).isSome := by
  unfold fileValues valElem
  cases keyElem n k f with
  | none => exact ⟨fun h => (nomatch h), fun h => (nomatch h)⟩
  | some tk => exact (alookup_isSome_iff tk.values v).symm

theorem mem_fileKeySeries (n k : String) (f : FileData) (x : Nat) :
    x ∈ fileKeySeries n k f ↔ ∃ v, x ∈ fileValSeries n k v f := by
  unfold fileKeySeries
  rw [mem_foldl_sunion_nil (fun v => fileValSeries n k v f)]
  constructor
  · rintro ⟨v, _, hx⟩; exact ⟨v, hx⟩
  · rintro ⟨v, hx⟩
    obtain ⟨tv, htv, _⟩ := mem_fileValSeries_valElem hx
    exact ⟨v, (mem_fileValues_iff n k v f).mpr (by rw [htv]; rfl), hx⟩

theorem mem_fsKeySeries (fs : List FileData) (n k : String) (x : Nat) :
    x ∈ fsKeySeries fs n k ↔ ∃ f ∈ fs, ∃ v, x ∈ fileValSeries n k v f := by
  unfold fsKeySeries
  simp only [mem_foldl_sunion_nil (fun f => fileKeySeries n k f), mem_fileKeySeries]

/-- the tombstone fold of `FileSet.TagValueSeriesIDIterator` only ever lists ids some file lists. -/
theorem fsValSeries_sub_aux (rev : List FileData) (n k v : String) (acc : List Nat × List Nat) (x : Nat) :
    x ∈ (rev.foldl (fun (acc : List Nat × List Nat) f =>
        (sunion (sdiff acc.1 acc.2) (fileValSeries n k v f), f.tomb)) acc).1 →
      x ∈ acc.1 ∨ ∃ f ∈ rev, x ∈ fileValSeries n k v f := by
  induction rev generalizing acc with
  | nil => exact Or.inl
  | cons f rest ih =>
    intro h
    rcases ih _ h with h1 | ⟨g, hg, hx⟩
    · rcases (mem_sunion _ _ _).mp h1 with h1 | h1
      · exact Or.inl ((mem_sdiff _ _ _).mp h1).1
      · exact Or.inr ⟨f, List.mem_cons_self, h1⟩
    · exact Or.inr ⟨g, List.mem_cons_of_mem _ hg, hx⟩

theorem fsValSeries_sub (fs : List FileData) (n k v : String) (x : Nat)
    (h : x ∈ fsValSeries fs n k v) : ∃ f ∈ fs, x ∈ fileValSeries n k v f := by
  rcases fsValSeries_sub_aux fs.reverse n k v ([], []) x h with h1 | ⟨f, hf, hx⟩
  · cases h1
  · exact ⟨f, List.mem_reverse.mp hf, hx⟩

theorem fsValSeries_sup_aux (rev : List FileData) (n k v : String) (acc : List Nat × List Nat) (x : Nat)
    (hnt : ∀ f ∈ rev, x ∉ f.tomb) (hacc : x ∉ acc.2)
    (h : x ∈ acc.1 ∨ ∃ f ∈ rev, x ∈ fileValSeries n k v f) :
    x ∈ (rev.foldl (fun (acc : List Nat × List Nat) f =>
        (sunion (sdiff acc.1 acc.2) (fileValSeries n k v f), f.tomb)) acc).1 := by
  induction rev generalizing acc with
  | nil =>
    rcases h with h | ⟨f, hf, _⟩
    · exact h
    · cases hf
  | cons f rest ih =>
    refine ih _ (fun g hg => hnt g (List.mem_cons_of_mem _ hg)) (hnt f List.mem_cons_self) ?_
    rcases h with h | ⟨g, hg, hx⟩
    · exact Or.inl ((mem_sunion _ _ _).mpr (Or.inl ((mem_sdiff _ _ _).mpr ⟨h, hacc⟩)))
    · rcases List.mem_cons.mp hg with rfl | hg
      · exact Or.inl ((mem_sunion _ _ _).mpr (Or.inr hx))
      · exact Or.inr ⟨g, hg, hx⟩

theorem fsValSeries_sup (fs : List FileData) (n k v : String) (x : Nat)
    (hnt : ∀ f ∈ fs, x ∉ f.tomb) (h : ∃ f ∈ fs, x ∈ fileValSeries n k v f) :
    x ∈ fsValSeries fs n k v := by
  obtain ⟨f, hf, hx⟩ := h
  exact fsValSeries_sup_aux _ n k v _ x (fun f hf => hnt f (List.mem_reverse.mp hf)) (nomatch ·)
    (Or.inr ⟨f, List.mem_reverse.mpr hf, hx⟩)

section
variable {st : State} {live : List Nat}

/-- `MeasurementIterator`: exactly the names of the live series. -/
theorem ans_measurements (h : GInv st live) (n : String) :
    n ∈ sortStr (st.parts.flatMap (fun p => fsMeasurements p.datas)) ↔
      ∃ id ∈ live, ∃ s, st.sf.find id = some s ∧ s.name = n := by
  rw [mem_sortStr, List.mem_flatMap]
  constructor
  · rintro ⟨p, hp, hn⟩
    obtain ⟨i, hpi⟩ := h.of_mem hp
    exact (hpi.mfdead n ((mem_fsMeasurements _ _).mp hn)).resolve_right id
  · rintro ⟨x, hx, s, hs, rfl⟩
    obtain ⟨p, hp, hpi, _⟩ := h.listed hx hs
    exact ⟨p, hp, (mem_fsMeasurements _ _).mpr (hpi.mflive x s hx hs rfl)⟩

/-- `TagKeyIterator(n)`: at least the tag keys of the live series of `n`. -/
theorem ans_tagKeys_sup (h : GInv st live) (k : String) {x : Nat} {s : SeriesInfo} {v : String}
    (hx : x ∈ live) (hs : st.sf.find x = some s) (hk : tagOf s.tags k = some v) :
    k ∈ sortStr (st.parts.flatMap (fun p => fsTagKeys p.datas s.name)) := by
  obtain ⟨p, hp, hpi, f, hf, _, hv⟩ := h.listed hx hs
  obtain ⟨tv, htv, _⟩ := mem_fileValSeries_valElem (hv k v hk)
  refine (mem_sortStr _ _).mpr (List.mem_flatMap.mpr ⟨p, hp, ?_⟩)
  refine mem_listing (keyElem s.name) (·.deleted) _ _ k (mem_fileKeys_iff s.name k) ?_
    ⟨f.data, mem_datas.mpr ⟨f, hf, rfl⟩, valElem_isSome_keyElem (v := v) (by rw [htv]; rfl)⟩
  intro d hd tk
  obtain ⟨g, hg, rfl⟩ := mem_datas.mp hd
  exact (hpi.noflags g hg).key s.name k tk

/-- `TagValueIterator(n, k)`: at least the values of the live series of `n`. -/
theorem ans_tagValues_sup (h : GInv st live) (k : String) {x : Nat} {s : SeriesInfo} {v : String}
    (hx : x ∈ live) (hs : st.sf.find x = some s) (hk : tagOf s.tags k = some v) :
    v ∈ sortStr (st.parts.flatMap (fun p => fsTagValues p.datas s.name k)) := by
  obtain ⟨p, hp, hpi, f, hf, _, hv⟩ := h.listed hx hs
  obtain ⟨tv, htv, _⟩ := mem_fileValSeries_valElem (hv k v hk)
  refine (mem_sortStr _ _).mpr (List.mem_flatMap.mpr ⟨p, hp, ?_⟩)
  refine mem_listing (valElem s.name k) (·.deleted) _ _ v (mem_fileValues_iff s.name k v) ?_
    ⟨f.data, mem_datas.mpr ⟨f, hf, rfl⟩, by rw [htv]; rfl⟩
  intro d hd tv
  obtain ⟨g, hg, rfl⟩ := mem_datas.mp hd
  exact (hpi.noflags g hg).val s.name k v tv

/-- a raw series-id view is right for the selection `sel`; `CacheOK` is the case of a tag pair. -/
def ViewOK (sf : SFile) (live : List Nat) (sel : SeriesInfo → Prop) (raw : List Nat) : Prop :=
  (∀ x ∈ raw, ∃ s, sf.find x = some s ∧ sel s) ∧
  (∀ x ∈ live, ∀ s, sf.find x = some s → sel s → x ∈ raw)

theorem CacheOK.view {sf : SFile} {n k v : String} {ids : List Nat}
    (h : CacheOK sf live ((n, k, v), ids)) :
    ViewOK sf live (fun s => s.name = n ∧ tagOf s.tags k = some v) ids :=
  ⟨h.1, fun x hx s hs hsel => h.2 x hx s hs hsel.1 hsel.2⟩

theorem viewOK_of_files (h : GInv st live) {sel : SeriesInfo → Prop}
    (V : List FileData → List Nat) (F : FileData → List Nat)
    (hsub : ∀ fs x, x ∈ V fs → ∃ d ∈ fs, x ∈ F d)
    (hsup : ∀ fs x, x ∈ live → (∀ d ∈ fs, x ∉ d.tomb) → (∃ d ∈ fs, x ∈ F d) → x ∈ V fs)
    (hsound : ∀ d x, Sound st.sf d → x ∈ F d → ∃ s, st.sf.find x = some s ∧ sel s)
    (hcomp : ∀ d x s, st.sf.find x = some s → sel s → x ∈ fileMeasSeries s.name d →
      (∀ k v, tagOf s.tags k = some v → x ∈ fileValSeries s.name k v d) → x ∈ F d) :
    ViewOK st.sf live sel (st.parts.flatMap (fun p => V p.datas)) := by
  refine ⟨fun x hx => ?_, fun x hx s hs hsel => ?_⟩
  · obtain ⟨p, hp, hxp⟩ := List.mem_flatMap.mp hx
    obtain ⟨i, hpi⟩ := h.of_mem hp
    obtain ⟨d, hd, hxd⟩ := hsub _ x hxp
    obtain ⟨f, hf, rfl⟩ := mem_datas.mp hd
    exact hsound _ x (hpi.sound f hf) hxd
  · obtain ⟨p, hp, hpi, f, hf, hm, hv⟩ := h.listed hx hs
    refine List.mem_flatMap.mpr ⟨p, hp, hsup _ x hx (fun d hd => ?_)
      ⟨f.data, mem_datas.mpr ⟨f, hf, rfl⟩, hcomp _ x s hs hsel hm hv⟩⟩
    obtain ⟨g, hg, rfl⟩ := mem_datas.mp hd
    exact hpi.notomb g hg x hx

/-- `MeasurementSeriesIDIterator(n)`, before the series-file filter. -/
theorem measSeries_ok (h : GInv st live) (n : String) :
    ViewOK st.sf live (fun s => s.name = n) (st.parts.flatMap (fun p => fsMeasSeries p.datas n)) :=
  viewOK_of_files h (fsMeasSeries · n) (fileMeasSeries n)
    (fun fs x => (mem_fsMeasSeries fs n x).mp) (fun fs x _ _ => (mem_fsMeasSeries fs n x).mpr)
    (fun _ x hd => hd.meas n x) (fun _ _ _ _ hn hm _ => hn ▸ hm)

/-- `TagKeySeriesIDIterator(n, k)`, before the series-file filter. -/
theorem keySeries_ok (h : GInv st live) (n k : String) :
    ViewOK st.sf live (fun s => s.name = n ∧ (tagOf s.tags k).isSome)
      (st.parts.flatMap (fun p => fsKeySeries p.datas n k)) :=
  viewOK_of_files h (fsKeySeries · n k) (fun d => fileKeySeries n k d)
    (fun fs x hx => by
      obtain ⟨d, hd, v, hv⟩ := (mem_fsKeySeries fs n k x).mp hx
      exact ⟨d, hd, (mem_fileKeySeries n k d x).mpr ⟨v, hv⟩⟩)
    (fun fs x _ _ ⟨d, hd, hx⟩ => by
      obtain ⟨v, hv⟩ := (mem_fileKeySeries n k d x).mp hx
      exact (mem_fsKeySeries fs n k x).mpr ⟨d, hd, v, hv⟩)
    (fun d x hd hx => by
      obtain ⟨v, hv⟩ := (mem_fileKeySeries n k d x).mp hx
      obtain ⟨s, hs, hn, ht⟩ := hd.val n k v x hv
      exact ⟨s, hs, hn, by rw [ht]; rfl⟩)
    (fun d x s _ hsel _ hv => by
      obtain ⟨v, hkv⟩ := Option.isSome_iff_exists.mp hsel.2
      exact (mem_fileKeySeries n k d x).mpr ⟨v, hsel.1 ▸ hv k v hkv⟩)

theorem rawValSeries_ok (h : GInv st live) (n k v : String) :
    CacheOK st.sf live ((n, k, v), sortNat (st.parts.flatMap (fun p => fsValSeries p.datas n k v))) := by
  have := viewOK_of_files h (sel := fun s => s.name = n ∧ tagOf s.tags k = some v)
    (fsValSeries · n k v) (fileValSeries n k v)
    (fun fs x => fsValSeries_sub fs n k v x) (fun fs x _ => fsValSeries_sup fs n k v x)
    (fun _ x hd => hd.val n k v x) (fun _ _ _ _ hsel _ hv => hsel.1 ▸ hv k v hsel.2)
  exact ⟨fun x hx => this.1 x ((mem_sortNat _ _).mp hx),
    fun x hx s hs hn ht => (mem_sortNat _ _).mpr (this.2 x hx s hs ⟨hn, ht⟩)⟩

/-- `FilterUndeletedSeriesIDIterator` on a raw view: exactly the live series selected. -/
theorem mem_filtered (h : GInv st live) {sel : SeriesInfo → Prop} {raw : List Nat}
    (hv : ViewOK st.sf live sel raw) (x : Nat) :
    x ∈ sortNat (raw.filter (fun id => !st.sf.isDeleted id)) ↔
      x ∈ live ∧ ∃ s, st.sf.find x = some s ∧ sel s := by
  rw [mem_sortNat, List.mem_filter]
  constructor
  · rintro ⟨hr, hd⟩
    obtain ⟨s, hs, hsel⟩ := hv.1 x hr
    refine ⟨Classical.not_not.mp fun hl => ?_, s, hs, hsel⟩
    -- known and not live: tombstoned in the series file
    obtain ⟨hk, rfl⟩ := find_some_mem hs
    have := h.deadDel' s hk hl
    simp [SFile.isDeleted, this] at hd
  · rintro ⟨hl, s, hs, hsel⟩
    refine ⟨hv.2 x hl s hs hsel, ?_⟩
    simp [SFile.isDeleted, hs, h.liveUndel x hl]

end

end Influx.Model.TSI
