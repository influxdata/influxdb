/-
  Lemmas.TsmRoundtrip — byte-level round trip of the index section and of the whole
  file: `parseFile (serialise crc kbs) = ok (layout 5 kbs)`.
-/
import Influx.Model.TsmFile
import Influx.Lemmas.TsmBytes

namespace Influx.Tsm
open Influx.Generated.TsmLayout

theorem pow8 : (256 : Nat) ^ 8 = 18446744073709551616 := by decide
theorem pow4 : (256 : Nat) ^ 4 = 4294967296 := by decide

structure WFEntry (e : IndexEntry) : Prop where
  minT : inInt64 e.MinTime
  maxT : inInt64 e.MaxTime
  off : inInt64 e.Offset
  size : e.Size < 4294967296

theorem i64_unbe_take (t : Int) (h : inInt64 t) (rest : Bytes) :
    i64 (unbe ((be 8 (u64 t) ++ rest).take 8)) = t := by
  rw [unbe_take_be 8 _ rest (by rw [pow8]; exact u64_lt t), i64_u64 t h]

@[simp] theorem encEntry_length (e : IndexEntry) : (encEntry e).length = 28 := by simp [encEntry]

theorem decEntry_enc (e : IndexEntry) (h : WFEntry e) (rest : Bytes) :
    decEntry (encEntry e ++ rest) = e := by
  unfold decEntry encEntry
  simp only [List.append_assoc]
  rw [i64_unbe_take _ h.minT, show (16 : Nat) = 8 + 8 from rfl, show (24 : Nat) = 8 + 8 + 8 from rfl,
    ← List.drop_drop, ← List.drop_drop, ← List.drop_drop, drop_be, i64_unbe_take _ h.maxT, drop_be,
    i64_unbe_take _ h.off, drop_be, unbe_take_be 4 e.Size rest (by rw [pow4]; exact h.size)]

theorem decEntries_enc (es : List IndexEntry) (h : ∀ e ∈ es, WFEntry e) (rest : Bytes) :
    decEntries es.length (es.flatMap encEntry ++ rest) = some (es, rest) := by
  induction es with
  | nil => rfl
  | cons e es ih =>
    rw [List.length_cons, List.flatMap_cons, List.append_assoc, decEntries,
      if_neg (by rw [List.length_append, encEntry_length]; exact Nat.not_lt.mpr (Nat.le_add_right _ _)),
      List.drop_left' (show (encEntry e).length = indexEntrySize from encEntry_length e), ih fun e he => h e (List.mem_cons_of_mem _ he)]
    dsimp only
    rw [decEntry_enc e (h e List.mem_cons_self)]

structure WFKeyEntry (ke : KeyEntry) : Prop where
  klen : ke.key.length < 65536
  pos : 0 < ke.entries.length
  cnt : ke.entries.length < 65536
  ents : ∀ e ∈ ke.entries, WFEntry e

theorem encKeyEntry_ne_nil (ke : KeyEntry) : encKeyEntry ke ≠ [] := by
  rw [encKeyEntry, List.append_assoc, List.append_assoc, List.append_assoc]; exact List.cons_ne_nil _ _

theorem decKeyEntry_enc (ke : KeyEntry) (h : WFKeyEntry ke) (rest : Bytes) :
    decKeyEntry (encKeyEntry ke ++ rest) = some (ke, rest) := by
  obtain ⟨key, typ, es⟩ := ke
  have hk : key.length < 256 ^ 2 := h.klen
  have hc : es.length < 256 ^ 2 := h.cnt
  have harg : encKeyEntry ⟨key, typ, es⟩ ++ rest =
      be 2 key.length ++ (key ++ typ :: (be 2 es.length ++ (es.flatMap encEntry ++ rest))) := by
    simp only [encKeyEntry, List.append_assoc, List.cons_append, List.nil_append]
  have l2 : ¬ (key ++ typ :: (be 2 es.length ++ (es.flatMap encEntry ++ rest))).length <
      key.length + indexTypeSize + indexCountSize := by
    rw [List.length_append, List.length_cons, List.length_append, be_length]
    show ¬ _ < key.length + 1 + 2
    omega
  rw [harg, decKeyEntry, if_neg (by rw [List.length_append, be_length]; exact Nat.not_lt.mpr (Nat.le_add_right _ _))]
  dsimp only
  rw [drop_be, unbe_take_be 2 _ _ hk, if_neg l2, List.drop_left' rfl, List.take_left' rfl]
  dsimp only
  rw [unbe_take_be 2 _ _ hc, if_neg (Nat.ne_of_gt h.pos), drop_be, decEntries_enc es h.ents rest]

theorem decIndex_enc (kes : List KeyEntry) (h : ∀ ke ∈ kes, WFKeyEntry ke) (fuel : Nat)
    (hf : kes.length < fuel) : decIndex fuel (kes.flatMap encKeyEntry) = some kes := by
  induction kes generalizing fuel with
  | nil =>
    cases fuel with
    | zero => cases hf
    | succ f => rfl
  | cons ke kes ih =>
    cases fuel with
    | zero => cases hf
    | succ f =>
      rw [List.flatMap_cons, decIndex,
        List.isEmpty_eq_false_iff.mpr (List.append_ne_nil_of_left_ne_nil (encKeyEntry_ne_nil ke) _),
        if_neg Bool.false_ne_true, decKeyEntry_enc ke (h ke List.mem_cons_self)]
      dsimp only
      rw [ih (fun k hk => h k (List.mem_cons_of_mem _ hk)) f (Nat.lt_of_succ_lt_succ hf)]

theorem flatMap_length_ge (kes : List KeyEntry) : kes.length ≤ (kes.flatMap encKeyEntry).length :=
  length_le_flatMap_length _ encKeyEntry_ne_nil kes

def WFBlk (b : Blk) : Prop := inInt64 b.minT ∧ inInt64 b.maxT ∧ 4 + b.data.length < 4294967296

structure WFKB (kb : Key × List Blk) : Prop where
  klen : kb.1.length < 65536
  pos : 0 < kb.2.length
  cnt : kb.2.length < 65536
  blks : ∀ b ∈ kb.2, WFBlk b

def totalBlocks (kbs : List (Key × List Blk)) : Nat := (kbs.map fun kb => blocksLen kb.2).sum

/-- what the format can hold: at least one key, key lengths and entry counts in 16
    bits, times in int64, block sizes in 32 bits, file positions in int64 -/
structure WFFile (kbs : List (Key × List Blk)) : Prop where
  ne : kbs ≠ []
  kb : ∀ kb ∈ kbs, WFKB kb
  size : 5 + totalBlocks kbs < 9223372036854775808

theorem layoutBlocks_length (pos : Nat) (bs : List Blk) : (layoutBlocks pos bs).length = bs.length := by
  induction bs generalizing pos with
  | nil => rfl
  | cons b bs ih => simp [layoutBlocks, ih]

theorem inInt64_natCast (n : Nat) (h : n < 9223372036854775808) : inInt64 (n : Int) := by
  unfold inInt64 minInt64 maxInt64; omega

theorem layoutBlocks_wf (pos : Nat) (bs : List Blk) (hb : ∀ b ∈ bs, WFBlk b)
    (hs : pos + blocksLen bs < 9223372036854775808) : ∀ e ∈ layoutBlocks pos bs, WFEntry e := by
  induction bs generalizing pos with
  | nil => intro e he; cases he
  | cons b bs ih =>
    have hb0 := hb b List.mem_cons_self
    have hs' : pos + (4 + b.data.length + blocksLen bs) < 9223372036854775808 := hs
    intro e he
    rcases List.mem_cons.mp he with rfl | he
    · exact ⟨hb0.1, hb0.2.1, inInt64_natCast pos (Nat.lt_of_le_of_lt (Nat.le_add_right _ _) hs'), hb0.2.2⟩
    · exact ih _ (fun b hb' => hb b (List.mem_cons_of_mem _ hb'))
        (by rw [Nat.add_assoc pos, Nat.add_assoc pos]; exact hs') e he

theorem layout_wf (pos : Nat) (kbs : List (Key × List Blk)) (h : ∀ kb ∈ kbs, WFKB kb)
    (hs : pos + totalBlocks kbs < 9223372036854775808) : ∀ ke ∈ layout pos kbs, WFKeyEntry ke := by
  induction kbs generalizing pos with
  | nil => intro ke hke; cases hke
  | cons kb kbs ih =>
    obtain ⟨k, bs⟩ := kb
    have hkb := h (k, bs) List.mem_cons_self
    have hs' : pos + (blocksLen bs + totalBlocks kbs) < 9223372036854775808 := hs
    intro ke hke
    rcases List.mem_cons.mp hke with rfl | hke
    · exact ⟨hkb.klen, (layoutBlocks_length pos bs).symm ▸ hkb.pos, (layoutBlocks_length pos bs).symm ▸ hkb.cnt,
        layoutBlocks_wf pos bs hkb.blks
          (Nat.lt_of_le_of_lt (Nat.add_le_add_left (Nat.le_add_right _ _) pos) hs')⟩
    · exact ih _ (fun kb hkb' => h kb (List.mem_cons_of_mem _ hkb')) (by rw [Nat.add_assoc]; exact hs') ke hke

theorem encBlocks_length (crc : Bytes → Nat) (bs : List Blk) : (encBlocks crc bs).length = blocksLen bs := by
  induction bs with
  | nil => rfl
  | cons b bs ih =>
    rw [encBlocks, List.flatMap_cons, List.length_append, List.length_append, be_length]
    exact congrArg _ ih

theorem allBlocks_length (crc : Bytes → Nat) (kbs : List (Key × List Blk)) :
    (kbs.flatMap fun kb => encBlocks crc kb.2).length = totalBlocks kbs := by
  induction kbs with
  | nil => rfl
  | cons kb kbs ih =>
    rw [List.flatMap_cons, List.length_append, encBlocks_length]
    exact congrArg _ ih

theorem header_length : header.length = 5 := by decide

theorem layout_length (pos : Nat) (kbs : List (Key × List Blk)) : (layout pos kbs).length = kbs.length := by
  induction kbs generalizing pos with
  | nil => rfl
  | cons kb kbs ih => obtain ⟨k, bs⟩ := kb; simp [layout, ih]

/-- `parseFile` on a file that passes every test of `verifyVersion` and `mmapAccessor.init` -/
theorem parseFile_ok {b : Bytes} {kes : List KeyEntry} (hlen : 8 ≤ b.length)
    (hmagic : unbe (b.take 4) = MagicNumber) (hver : b[4]? = some Version)
    (hstart : unbe (b.drop (b.length - 8)) < b.length - 8)
    (hidx : ∀ ib, ib = (b.take (b.length - 8)).drop (unbe (b.drop (b.length - 8))) →
      decIndex (ib.length + 1) ib = some kes) :
    parseFile b = .ok kes := by
  unfold parseFile
  rw [if_neg (by omega), if_neg (fun h => h hmagic), hver]
  dsimp only
  rw [if_neg (fun h => h rfl), if_neg (by omega), if_neg (by omega), hidx _ rfl]

theorem parseFile_sections (B I : Bytes) (kes : List KeyEntry) (hI : I ≠ [])
    (hsz : 5 + B.length < 18446744073709551616) (hdec : decIndex (I.length + 1) I = some kes) :
    parseFile (header ++ B ++ I ++ be 8 (5 + B.length)) = .ok kes := by
  have hHB : (header ++ B).length = 5 + B.length := by rw [List.length_append, header_length]
  have hpos : (header ++ B ++ I ++ be 8 (5 + B.length)).length - 8 = (header ++ B ++ I).length := by
    rw [List.length_append, be_length, Nat.add_sub_cancel]
  have hstart : unbe ((header ++ B ++ I ++ be 8 (5 + B.length)).drop (header ++ B ++ I).length) =
      5 + B.length := by
    rw [List.drop_left' rfl, unbe_be_lt 8 _ (by rw [pow8]; exact hsz)]
  apply parseFile_ok
  · rw [List.length_append, be_length]; exact Nat.le_add_left _ _
  · rw [List.append_assoc, List.append_assoc, List.take_append_of_le_length (by decide)]; decide
  · rw [List.append_assoc, List.append_assoc, List.getElem?_append_left (by decide)]; decide
  · rw [hpos, hstart, List.length_append, hHB]
    exact Nat.lt_add_of_pos_right (List.length_pos_iff.mpr hI)
  · intro ib hib
    rw [hpos, hstart, List.take_left' rfl, List.drop_left' hHB] at hib
    rw [hib, hdec]

theorem parseFile_serialise (crc : Bytes → Nat) (kbs : List (Key × List Blk)) (h : WFFile kbs) :
    parseFile (serialise crc kbs) = .ok (layout 5 kbs) := by
  have hlen := flatMap_length_ge (layout 5 kbs)
  have hsz := h.size
  unfold serialise
  rw [header_length]
  refine parseFile_sections _ _ _ ?_ (by rw [allBlocks_length]; omega)
    (decIndex_enc _ (layout_wf 5 kbs h.kb h.size) _ (Nat.lt_succ_of_le hlen))
  rw [layout_length] at hlen
  exact List.ne_nil_of_length_pos (Nat.lt_of_lt_of_le (List.length_pos_iff.mpr h.ne) hlen)

end Influx.Tsm
