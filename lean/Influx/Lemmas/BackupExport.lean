/-
  Lemmas.BackupExport — what an Export archive contains, block list by block
  list, and what reading the imported copy returns.
-/
import Influx.Lemmas.BackupSeries

namespace Influx.Backup

/-- reading a stack of block lists (oldest first, newest wins), no tombstones -/
def bsLookup : List (List Block) → Key → TS → Option Val
  | [], _, _ => none
  | bs :: rest, k, t => (bsLookup rest k t).or (blocksLookup bs k t)

theorem filesLookupRaw_eq_bsLookup (fs : List TFile) (k : Key) (t : TS) :
    filesLookupRaw fs k t = bsLookup (fs.map (·.blocks)) k t := by
  induction fs with
  | nil => rfl
  | cons f fs ih => simp [filesLookupRaw, bsLookup, ih, TFile.lookupRaw]

theorem bsLookup_append (xs ys : List (List Block)) (k : Key) (t : TS) :
    bsLookup (xs ++ ys) k t = (bsLookup ys k t).or (bsLookup xs k t) := by
  induction xs with
  | nil => simp [bsLookup]
  | cons x xs ih => simp [bsLookup, ih, Option.or_assoc]

def exportBlocks (a e : TS) (f : TFile) : List (List Block) :=
  (if f.needsFilter a e then [f.blocks.filter (fun b => b.overlaps a e)] else []) ++
  (if f.inside a e then [f.blocks] else [])

/-- What each outcome of `exportEntries` means.  It fails at the first file, in name order,
    that has a tombstone file or must be filtered and keeps no block. -/
theorem exportEntries_spec (a e : TS) (fs : List TFile) :
    match exportEntries a e fs with
    | .ok ar => archiveBlocks ar = fs.flatMap (exportBlocks a e) ∧ (∀ f ∈ fs, f.tombM = none) ∧
        ∀ f ∈ fs, f.needsFilter a e = true → f.blocks.filter (fun b => b.overlaps a e) ≠ []
    | .error .tombstone => ∃ f ∈ fs, f.tombM.isSome = true
    | .error .noValues => ∃ f ∈ fs, f.needsFilter a e = true ∧ ∀ b ∈ f.blocks, b.overlaps a e = false := by
  induction fs with
  | nil => exact ⟨rfl, fun _ h => (List.not_mem_nil h).elim, fun _ h => (List.not_mem_nil h).elim⟩
  | cons f fs ih =>
    unfold exportEntries
    by_cases ht : f.tombM.isSome = true
    · rw [if_pos ht]; exact ⟨f, List.mem_cons_self .., ht⟩
    · rw [if_neg ht]
      by_cases hg : (f.needsFilter a e && (f.blocks.filter (fun b => b.overlaps a e)).isEmpty) = true
      · rw [if_pos hg]
        rw [Bool.and_eq_true, List.isEmpty_iff] at hg
        exact ⟨f, List.mem_cons_self .., hg.1, fun b hb => by simpa using List.filter_eq_nil_iff.mp hg.2 b hb⟩
      · rw [if_neg hg]
        cases hx : exportEntries a e fs with
        | error x =>
          rw [hx] at ih
          cases x <;> exact ih.imp fun g hg => ⟨List.mem_cons_of_mem _ hg.1, hg.2⟩
        | ok more =>
          rw [hx] at ih
          obtain ⟨ihb, iht, ihg⟩ := ih
          refine ⟨?_, List.forall_mem_cons.mpr ⟨by simpa using ht, iht⟩,
            List.forall_mem_cons.mpr ⟨fun hnf hc => hg (by simp [hnf, hc]), ihg⟩⟩
          show archiveBlocks (_ ++ _ ++ more) = _
          rw [List.flatMap_cons, ← ihb, archiveBlocks_append, archiveBlocks_append,
            apply_ite archiveBlocks, apply_ite archiveBlocks]
          rfl

theorem exportEntries_ok {a e : TS} {fs : List TFile} {ar : Archive}
    (h : exportEntries a e fs = .ok ar) :
    archiveBlocks ar = fs.flatMap (exportBlocks a e) ∧ (∀ f ∈ fs, f.tombM = none) ∧
    (∀ f ∈ fs, f.needsFilter a e = true → (f.blocks.filter (fun b => b.overlaps a e)) ≠ []) := by
  have := exportEntries_spec a e fs
  rwa [h] at this

theorem exportEntries_tombstone {a e : TS} {fs : List TFile}
    (h : exportEntries a e fs = .error .tombstone) : ∃ f ∈ fs, f.tombM.isSome = true := by
  have := exportEntries_spec a e fs
  rwa [h] at this

theorem exportEntries_noValues {a e : TS} {fs : List TFile}
    (h : exportEntries a e fs = .error .noValues) :
    ∃ f ∈ fs, f.needsFilter a e = true ∧ ∀ b ∈ f.blocks, b.overlaps a e = false := by
  have := exportEntries_spec a e fs
  rwa [h] at this

theorem minTime_le_lo {f : TFile} {b : Block} (h : b ∈ f.blocks) : f.minTime ≤ b.lo :=
  listMin_le (List.mem_map.mpr ⟨b, h, rfl⟩)

theorem hi_le_maxTime {f : TFile} {b : Block} (h : b ∈ f.blocks) : b.hi ≤ f.maxTime :=
  le_listMax (List.mem_map.mpr ⟨b, h, rfl⟩)

theorem Block.lookup_some_bounds {b : Block} (hw : b.WF) {k : Key} {t : TS} {v : Val}
    (h : b.lookup k t = some v) : b.key = k ∧ b.lo ≤ t ∧ t ≤ b.hi :=
  ⟨(Block.lookup_some_mem h).1, hw _ (Block.lookup_some_mem h).2⟩

theorem blocksLookup_filter (bs : List Block) (P : Block → Bool) (k : Key) (t : TS)
    (h : ∀ b ∈ bs, P b = false → b.lookup k t = none) :
    blocksLookup (bs.filter P) k t = blocksLookup bs k t := by
  induction bs with
  | nil => rfl
  | cons b bs ih =>
    have ih' := ih (fun c hc => h c (by simp [hc]))
    unfold blocksLookup at *
    by_cases hp : P b = true
    · simp only [List.filter_cons, hp, if_true, List.findSome?_cons]
      cases b.lookup k t <;> simp [ih']
    · have hp' : P b = false := by simpa using hp
      simp only [List.filter_cons, hp', List.findSome?_cons]
      rw [h b (by simp) hp']
      simpa using ih'

/-- the block-level test of `filterFileToBackup` accepts every block whose range meets [a,e] -/
theorem Block.overlaps_of_meets {b : Block} {a e : TS} (h1 : b.lo ≤ e) (h2 : a ≤ b.hi) :
    b.overlaps a e = true := by
  unfold Block.overlaps
  simp only [Bool.or_eq_true, Bool.and_eq_true, decide_eq_true_eq]
  unfold TS at *
  omega

/-- and, for a proper block and a proper range, no other -/
theorem Block.true_overlap_of_overlaps {b : Block} {a e : TS} (hlh : b.lo ≤ b.hi) (hae : a ≤ e)
    (h : b.overlaps a e = true) : b.lo ≤ e ∧ b.hi ≥ a := by
  unfold Block.overlaps at h
  simp only [Bool.or_eq_true, Bool.and_eq_true, decide_eq_true_eq] at h
  unfold TS at *
  omega

/-- the file-level tests of `timeStampFilterTarFile`: a file that must be filtered meets [a,e] -/
theorem TFile.needsFilter_meets {f : TFile} {a e : TS} (hae : a ≤ e) (h : f.needsFilter a e = true) :
    f.minTime ≤ e ∧ a ≤ f.maxTime := by
  unfold TFile.needsFilter at h
  simp only [Bool.or_eq_true, Bool.and_eq_true, decide_eq_true_eq] at h
  unfold TS at *
  omega

theorem TFile.exported_of_meets {f : TFile} {a e : TS} (h1 : f.minTime ≤ e) (h2 : a ≤ f.maxTime) :
    f.needsFilter a e = true ∨ f.inside a e = true := by
  unfold TFile.needsFilter TFile.inside
  simp only [Bool.or_eq_true, Bool.and_eq_true, decide_eq_true_eq]
  unfold TS at *
  omega

theorem bsLookup_exportBlocks (f : TFile) (hw : ∀ b ∈ f.blocks, b.WF) (a e : TS) (k : Key) (t : TS)
    (ha : a ≤ t) (he : t ≤ e) :
    bsLookup (exportBlocks a e f) k t = blocksLookup f.blocks k t := by
  have hin : ∀ b ∈ f.blocks, ∀ v, b.lookup k t = some v → b.lo ≤ e ∧ a ≤ b.hi := fun b hb v hl =>
    have hb := Block.lookup_some_bounds (hw b hb) hl
    ⟨Int.le_trans hb.2.1 he, Int.le_trans ha hb.2.2⟩
  have hfilt : blocksLookup (f.blocks.filter (fun b => b.overlaps a e)) k t = blocksLookup f.blocks k t :=
    blocksLookup_filter _ _ k t fun b hb hno => by
      cases hl : b.lookup k t with
      | none => rfl
      | some v =>
        rw [Block.overlaps_of_meets (hin b hb v hl).1 (hin b hb v hl).2] at hno
        cases hno
  unfold exportBlocks
  by_cases h1 : f.needsFilter a e = true <;> by_cases h2 : f.inside a e = true
  · simp [h1, h2, bsLookup, hfilt]
  · simp [h1, h2, bsLookup, hfilt]
  · simp [h1, h2, bsLookup]
  · -- a file exported neither way holds no point inside [a,e]
    simp only [h1, h2, if_false, List.append_nil, bsLookup, Bool.false_eq_true]
    cases hl : blocksLookup f.blocks k t with
    | none => rfl
    | some v =>
      obtain ⟨b, hb, hbl⟩ := blocksLookup_some hl
      obtain ⟨hlo, hhi⟩ := hin b hb v hbl
      exact (TFile.exported_of_meets (Int.le_trans (minTime_le_lo hb) hlo)
        (Int.le_trans hhi (hi_le_maxTime hb))).elim (absurd · h1) (absurd · h2)

theorem bsLookup_export (fs : List TFile) (hw : ∀ f ∈ fs, ∀ b ∈ f.blocks, b.WF) (a e : TS) (k : Key) (t : TS)
    (ha : a ≤ t) (he : t ≤ e) :
    bsLookup (fs.flatMap (exportBlocks a e)) k t = bsLookup (fs.map (·.blocks)) k t := by
  induction fs with
  | nil => rfl
  | cons f fs ih =>
    rw [List.flatMap_cons, bsLookup_append, ih (fun g hg => hw g (by simp [hg])),
      bsLookup_exportBlocks f (hw f (by simp)) a e k t ha he]
    simp [bsLookup]

theorem bsLookup_some {xs : List (List Block)} {k : Key} {t : TS} {v : Val}
    (h : bsLookup xs k t = some v) : ∃ bs ∈ xs, ∃ b ∈ bs, b.lookup k t = some v := by
  induction xs with
  | nil => cases h
  | cons x xs ih =>
    rcases Option.or_eq_some_iff.mp h with hr | ⟨_, hx⟩
    · obtain ⟨bs, hbs, hb⟩ := ih hr
      exact ⟨bs, List.mem_cons_of_mem _ hbs, hb⟩
    · exact ⟨x, List.mem_cons_self .., blocksLookup_some hx⟩

theorem bsLookup_export_some (fs : List TFile) (hw : ∀ f ∈ fs, ∀ b ∈ f.blocks, b.WF) (a e : TS) (hae : a ≤ e)
    (k : Key) (t : TS) (v : Val) (h : bsLookup (fs.flatMap (exportBlocks a e)) k t = some v) :
    ∃ f ∈ fs, ∃ b ∈ f.blocks, b.lookup k t = some v ∧ b.key = k ∧ b.lo ≤ t ∧ t ≤ b.hi ∧ b.lo ≤ e ∧ b.hi ≥ a := by
  obtain ⟨bs, hbs, b, hb, hl⟩ := bsLookup_some h
  obtain ⟨f, hf, hbsf⟩ := List.mem_flatMap.mp hbs
  unfold exportBlocks at hbsf
  rcases List.mem_append.mp hbsf with h1 | h1
  · split at h1
    · simp at h1; subst h1
      have hb' := List.mem_filter.mp hb
      obtain ⟨hk, hlo, hhi⟩ := Block.lookup_some_bounds (hw f hf b hb'.1) hl
      have := Block.true_overlap_of_overlaps (Int.le_trans hlo hhi) hae hb'.2
      exact ⟨f, hf, b, hb'.1, hl, hk, hlo, hhi, this.1, this.2⟩
    · simp at h1
  · split at h1
    · next hin =>
      simp at h1; subst h1
      obtain ⟨hk, hlo, hhi⟩ := Block.lookup_some_bounds (hw f hf b hb) hl
      unfold TFile.inside at hin
      rw [Bool.and_eq_true, decide_eq_true_eq, decide_eq_true_eq] at hin
      exact ⟨f, hf, b, hb, hl, hk, hlo, hhi,
        Int.le_trans hlo (Int.le_trans hhi (Int.le_trans (hi_le_maxTime hb) hin.2)),
        Int.le_trans hin.1 (Int.le_trans (minTime_le_lo hb) (Int.le_trans hlo hhi))⟩
    · simp at h1

end Influx.Backup
