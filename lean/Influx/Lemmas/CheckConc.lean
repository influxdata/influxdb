/-
  Lemmas.CheckConc — the interleaving model of Model/Check.lean: what one request
  answers, as a function of the instants at which its steps happen (`replay`),
  for every interleaving with registrations, signals and other requests.
-/
import Influx.Lemmas.Check

namespace Influx.CheckM
/-- the effect of an action on the gates alone -/
def gatesStep (g : List (String × Bool)) : Act → List (String × Bool)
  | .register n => g ++ [(n, false)]
  | .signal i b => g.mapIdx fun j x => if j = i then (x.1, b) else x
  | _ => g

theorem step_gates (s : CSt) (a : Act) : (s.step a).gates = gatesStep s.gates a := by
  cases a with
  | reqRespond rid => simp only [CSt.step]; split <;> rfl
  | _ => rfl

/-- **instant semantics of one request.**  Walk the actions that follow the
    request's snapshot, tracking only the gates: every `reqRead rid` takes the value
    the next snapshotted gate has *at that instant*; `reqRespond rid` aggregates what
    was read.  (`g`: gates now, `todo`: snapshotted gate indices still to read.) -/
def replay (rid : Nat) : List (String × Bool) → List Nat → List Res → List Act → Option ReadyResp
  | _, _, _, [] => none
  | g, todo, got, a :: as =>
    match a with
    | .reqRead r =>
      if r = rid then
        match todo with
        | [] => replay rid g [] got as
        | i :: rest =>
          match g[i]? with
          | some x => replay rid g rest (got ++ [gateRes x]) as
          | none => replay rid g rest got as
      else replay rid g todo got as
    | .reqRespond r => if r = rid then some (respond got) else replay rid g todo got as
    | a => replay rid (gatesStep g a) todo got as

def pend (s : CSt) (rid : Nat) : List Pending := s.pending.filter (·.rid = rid)

/-- what one `reqRead` does to the request's pending entry -/
def readStep (g : List (String × Bool)) (p : Pending) : Pending :=
  match p.todo with
  | [] => p
  | i :: rest =>
    match g[i]? with
    | some x => { p with todo := rest, got := p.got ++ [gateRes x] }
    | none => { p with todo := rest }

theorem readStep_rid (g) (p : Pending) : (readStep g p).rid = p.rid := by
  unfold readStep; split
  · rfl
  · split <;> rfl

theorem readStep_cons (g : List (String × Bool)) (r i : Nat) (rest : List Nat) (got : List Res) :
    readStep g ⟨r, i :: rest, got⟩ = ⟨r, rest, got ++ (g[i]?.map gateRes).toList⟩ := by
  unfold readStep
  dsimp only
  cases g[i]? with
  | none => exact congrArg _ (List.append_nil got).symm
  | some x => rfl

theorem step_read (s : CSt) (r : Nat) :
    s.step (.reqRead r) = { s with pending := updPending s.pending r (readStep s.gates) } := rfl

/-! ### the equations of `replay`: an action is the request's own response, its own
    read, or acts on the gates only -/

variable {rid : Nat} {g : List (String × Bool)} {todo : List Nat} {got : List Res} {as : List Act}

theorem replay_respond :
    replay rid g todo got (.reqRespond rid :: as) = some (respond got) :=
  if_pos rfl

theorem replay_read (p : Pending) :
    replay rid g p.todo p.got (.reqRead rid :: as) = replay rid g (readStep g p).todo (readStep g p).got as := by
  refine (if_pos rfl).trans ?_
  obtain ⟨r, todo, got⟩ := p
  cases todo with
  | nil => rfl
  | cons i rest => unfold readStep; dsimp only; cases g[i]? <;> rfl

theorem replay_read_cons {i : Nat} {rest : List Nat} :
    replay rid g (i :: rest) got (.reqRead rid :: as) =
      replay rid g rest (got ++ (g[i]?.map gateRes).toList) as := by
  rw [replay_read ⟨rid, i :: rest, got⟩, readStep_cons]

theorem replay_other {a : Act} (hread : a ≠ .reqRead rid) (hresp : a ≠ .reqRespond rid) :
    replay rid g todo got (a :: as) = replay rid (gatesStep g a) todo got as := by
  cases a with
  | reqRead r => exact if_neg fun e : r = rid => hread (e ▸ rfl)
  | reqRespond r => exact if_neg fun e : r = rid => hresp (e ▸ rfl)
  | _ => rfl

theorem filter_updPending (ps : List Pending) (rid r : Nat) (f : Pending → Pending)
    (hf : ∀ q, (f q).rid = q.rid) :
    (updPending ps r f).filter (·.rid = rid) =
      (ps.filter (·.rid = rid)).map fun q => if q.rid = r then f q else q := by
  unfold updPending
  rw [List.filter_map]
  refine congrArg _ (List.filter_congr fun q _ => ?_)
  show decide ((if q.rid = r then f q else q).rid = rid) = decide (q.rid = rid)
  by_cases hq : q.rid = r
  · rw [if_pos hq, hf]
  · rw [if_neg hq]

theorem pend_rid {s : CSt} {q : Pending} (hq : q ∈ pend s rid) : q.rid = rid :=
  of_decide_eq_true (List.mem_filter.1 hq).2

theorem pend_step_snapshot (s : CSt) (rid : Nat) :
    pend (s.step (.reqSnapshot rid)) rid = ⟨rid, List.range s.gates.length, []⟩ :: pend s rid :=
  List.filter_cons_of_pos (decide_eq_true rfl)

theorem pend_step_read (s : CSt) (rid : Nat) :
    pend (s.step (.reqRead rid)) rid = (pend s rid).map (readStep s.gates) :=
  (filter_updPending _ _ _ _ (readStep_rid s.gates)).trans
    (List.map_congr_left fun _ hq => if_pos (pend_rid hq))

theorem pend_step_other {a : Act} (hsnap : a ≠ .reqSnapshot rid) (hread : a ≠ .reqRead rid)
    (hresp : a ≠ .reqRespond rid) (s : CSt) : pend (s.step a) rid = pend s rid := by
  cases a with
  | register n => rfl
  | signal i b => rfl
  | reqSnapshot r =>
    exact List.filter_cons_of_neg (by rw [decide_eq_true_eq]; exact fun e : r = rid => hsnap (e ▸ rfl))
  | reqRead r =>
    have hne : rid ≠ r := fun e => hread (e ▸ rfl)
    refine (filter_updPending _ _ _ _ (readStep_rid s.gates)).trans ?_
    exact (List.map_congr_left fun q hq => if_neg (pend_rid hq ▸ hne)).trans (List.map_id' _)
  | reqRespond r =>
    have hne : rid ≠ r := fun e => hresp (e ▸ rfl)
    unfold pend
    simp only [CSt.step]
    split
    · rw [List.filter_filter]
      refine List.filter_congr fun q _ => ?_
      by_cases hq : q.rid = rid
      · simp only [hq, hne, decide_true, ne_eq, not_false_eq_true, Bool.and_self]
      · simp only [hq, decide_false, Bool.false_and]
    · rfl

theorem done_mono (s : CSt) (as : List Act) (x : Nat × ReadyResp) (h : x ∈ s.done) : x ∈ (s.run as).done := by
  induction as generalizing s with
  | nil => exact h
  | cons a as ih =>
    refine ih (s.step a) ?_
    cases a with
    | reqRespond rid =>
      simp only [CSt.step]
      split
      · exact List.mem_cons_of_mem _ h
      · exact h
    | _ => exact h

/-- along any run without a second snapshot for `rid`, the request's pending entry and the
    gates evolve as `replay` says, so the answer `replay` computes is the one recorded -/
theorem replay_sound (rid : Nat) (as : List Act) :
    ∀ (s : CSt) (p : Pending), pend s rid = [p] → (∀ a ∈ as, a ≠ .reqSnapshot rid) →
    ∀ resp, replay rid s.gates p.todo p.got as = some resp → (rid, resp) ∈ (s.run as).done := by
  induction as with
  | nil => intro s p _ _ resp h; cases h
  | cons a as ih =>
    intro s p hp hns resp h
    have hns' : ∀ a ∈ as, a ≠ .reqSnapshot rid := fun x hx => hns x (List.mem_cons_of_mem _ hx)
    show (rid, resp) ∈ ((s.step a).run as).done
    by_cases hresp : a = .reqRespond rid
    · subst hresp
      rw [replay_respond] at h
      cases h
      have hf : s.pending.find? (·.rid = rid) = some p := by
        rw [← List.head?_filter]; exact congrArg List.head? hp
      apply done_mono
      simp only [CSt.step, hf]
      exact List.mem_cons_self
    · by_cases hread : a = .reqRead rid
      · subst hread
        rw [replay_read] at h
        exact ih _ _ (by rw [pend_step_read, hp]; rfl) hns' resp h
      · rw [replay_other hread hresp, ← step_gates] at h
        exact ih _ p (by rw [pend_step_other (hns a List.mem_cons_self) hread hresp, hp]) hns' resp h

/-- an action that changes the set of gates or a gate's flag -/
def Act.mutates : Act → Bool
  | .register _ => true
  | .signal _ _ => true
  | _ => false

theorem gatesStep_of_not_mutates {a : Act} (h : a.mutates = false) :
    gatesStep g a = g := by
  cases a <;> first | rfl | cases h

def readsOf (rid : Nat) (as : List Act) : Nat := (as.filter (· == .reqRead rid)).length

theorem readsOf_cons_self :
    readsOf rid (.reqRead rid :: as) = readsOf rid as + 1 := by
  unfold readsOf; rw [List.filter_cons_of_pos (p := (· == Act.reqRead rid)) (beq_self_eq_true _)]; rfl

theorem readsOf_cons_of_ne {a : Act} (h : a ≠ .reqRead rid) :
    readsOf rid (a :: as) = readsOf rid as := by
  unfold readsOf; rw [List.filter_cons_of_neg (p := (· == Act.reqRead rid)) (by rw [beq_iff_eq]; exact h)]

theorem filterMap_cons_toList {α β} (f : α → Option β) (x : α) (xs : List α) :
    (x :: xs).filterMap f = (f x).toList ++ xs.filterMap f := by
  rw [List.filterMap_cons]; cases f x <;> rfl

theorem replay_quiescent (rid : Nat) (g : List (String × Bool)) (seg rest : List Act) :
    ∀ (todo : List Nat) (got : List Res),
    (∀ a ∈ seg, a.mutates = false) → (∀ a ∈ seg, a ≠ .reqRespond rid) →
    readsOf rid seg = todo.length →
    replay rid g todo got (seg ++ .reqRespond rid :: rest) =
      some (respond (got ++ todo.filterMap fun i => g[i]?.map gateRes)) := by
  induction seg with
  | nil =>
    intro todo got _ _ hc
    cases todo with
    | nil => rw [List.nil_append, replay_respond, List.filterMap_nil, List.append_nil]
    | cons _ _ => cases hc
  | cons a seg ih =>
    intro todo got hm hr hc
    have hm' : ∀ a ∈ seg, a.mutates = false := fun x hx => hm x (List.mem_cons_of_mem _ hx)
    have hr' : ∀ a ∈ seg, a ≠ .reqRespond rid := fun x hx => hr x (List.mem_cons_of_mem _ hx)
    rw [List.cons_append]
    by_cases hread : a = .reqRead rid
    · subst hread
      rw [readsOf_cons_self] at hc
      cases todo with
      | nil => cases hc
      | cons i todo =>
        rw [replay_read_cons, ih todo _ hm' hr' (Nat.succ.inj hc), filterMap_cons_toList, List.append_assoc]
    · rw [readsOf_cons_of_ne hread] at hc
      rw [replay_other hread (hr a List.mem_cons_self), gatesStep_of_not_mutates (hm a List.mem_cons_self)]
      exact ih todo got hm' hr' hc

theorem range'_filterMap_get {α β} (f : α → β) (g : List α) :
    ∀ pre : List α, (List.range' pre.length g.length).filterMap (fun i => (pre ++ g)[i]?.map f) = g.map f := by
  induction g with
  | nil => intro pre; rfl
  | cons x g ih =>
    intro pre
    have := ih (pre ++ [x])
    rw [List.length_append, List.append_assoc] at this
    rw [List.length_cons, List.range'_succ, filterMap_cons_toList, List.getElem?_append_right (Nat.le_refl _),
      Nat.sub_self]
    exact congrArg (f x :: ·) this

theorem range_filterMap_get (g : List (String × Bool)) :
    (List.range g.length).filterMap (fun i => g[i]?.map gateRes) = g.map gateRes := by
  rw [List.range_eq_range']; exact range'_filterMap_get gateRes g []

/-- the gates after the first `t` actions of `as` -/
def gatesAt (g : List (String × Bool)) (as : List Act) (t : Nat) : List (String × Bool) :=
  (as.take t).foldl gatesStep g

theorem gatesAt_zero (g as) : gatesAt g as 0 = g := rfl
theorem gatesAt_succ (g a as t) : gatesAt g (a :: as) (t + 1) = gatesAt (gatesStep g a) as t := rfl

/-- the values the reads at instants `ts` see of the snapshotted gates `todo` -/
def readAt (g : List (String × Bool)) (as : List Act) (ts todo : List Nat) : List Res :=
  (ts.zip todo).filterMap fun p => (gatesAt g as p.1)[p.2]?.map gateRes

theorem readAt_shift (a : Act) (ts : List Nat) :
    readAt g (a :: as) (ts.map (· + 1)) todo = readAt (gatesStep g a) as ts todo := by
  unfold readAt
  rw [List.zip_map_left, List.filterMap_map]
  rfl

theorem readAt_cons_zero (i : Nat) (ts : List Nat) :
    readAt g as (0 :: ts) (i :: todo) = (g[i]?.map gateRes).toList ++ readAt g as ts todo := by
  unfold readAt
  rw [List.zip_cons_cons, filterMap_cons_toList]
  rfl

theorem instants_shift (a : Act) {ts : List Nat} {c : Nat}
    (hts : ts.Pairwise (· < ·)) (hreads : ∀ t ∈ ts, t < c ∧ as[t]? = some (.reqRead rid)) :
    (ts.map (· + 1)).Pairwise (· < ·) ∧
      ∀ t ∈ ts.map (· + 1), 0 < t ∧ t < c + 1 ∧ (a :: as)[t]? = some (.reqRead rid) := by
  refine ⟨List.pairwise_map.2 (hts.imp fun h => Nat.succ_lt_succ h), fun t ht => ?_⟩
  obtain ⟨t', ht', rfl⟩ := List.mem_map.1 ht
  exact ⟨Nat.succ_pos t', Nat.succ_lt_succ (hreads t' ht').1, (hreads t' ht').2⟩

/-- **explicit instants.**  There are instants `ts` — strictly increasing positions of the
    request's own `reqRead` actions in `as`, all before the position `c` of its `reqRespond` — such
    that the j-th snapshotted gate of `todo` was read at instant `ts[j]` and `resp` aggregates `got`
    and exactly the values the gates had at those instants. -/
def Instants (rid : Nat) (g : List (String × Bool)) (as : List Act) (todo : List Nat) (got : List Res)
    (resp : ReadyResp) : Prop :=
  ∃ (ts : List Nat) (c : Nat), as[c]? = some (.reqRespond rid) ∧ ts.length ≤ todo.length ∧
    ts.Pairwise (· < ·) ∧ (∀ t ∈ ts, t < c ∧ as[t]? = some (.reqRead rid)) ∧
    resp = respond (got ++ readAt g as ts todo)

variable {resp : ReadyResp}

theorem Instants.respond : Instants rid g (.reqRespond rid :: as) todo got (respond got) :=
  ⟨[], 0, rfl, Nat.zero_le _, List.Pairwise.nil, fun _ ht => absurd ht List.not_mem_nil,
    by rw [show readAt g _ [] todo = [] from rfl, List.append_nil]⟩

theorem Instants.skip (a : Act) (h : Instants rid (gatesStep g a) as todo got resp) :
    Instants rid g (a :: as) todo got resp := by
  obtain ⟨ts, c, h1, h2, h3, h4, h5⟩ := h
  obtain ⟨s3, s4⟩ := instants_shift a h3 h4
  exact ⟨ts.map (· + 1), c + 1, h1, by rw [List.length_map]; exact h2, s3, fun t ht => (s4 t ht).2,
    by rw [readAt_shift]; exact h5⟩

theorem Instants.read {i : Nat} {rest : List Nat}
    (h : Instants rid g as rest (got ++ (g[i]?.map gateRes).toList) resp) :
    Instants rid g (.reqRead rid :: as) (i :: rest) got resp := by
  obtain ⟨ts, c, h1, h2, h3, h4, h5⟩ := h
  obtain ⟨s3, s4⟩ := instants_shift (.reqRead rid) h3 h4
  refine ⟨0 :: ts.map (· + 1), c + 1, h1, ?_, List.pairwise_cons.2 ⟨fun t ht => (s4 t ht).1, s3⟩, ?_, ?_⟩
  · rw [List.length_cons, List.length_map]; exact Nat.succ_le_succ h2
  · intro t ht
    rcases List.mem_cons.1 ht with rfl | ht
    · exact ⟨Nat.succ_pos c, rfl⟩
    · exact (s4 t ht).2
  · rw [h5, readAt_cons_zero, readAt_shift, List.append_assoc]; rfl

theorem replay_instants (rid : Nat) (as : List Act) :
    ∀ (g : List (String × Bool)) (todo : List Nat) (got : List Res) (resp : ReadyResp),
    replay rid g todo got as = some resp → Instants rid g as todo got resp := by
  induction as with
  | nil => intro g todo got resp h; cases h
  | cons a as ih =>
    intro g todo got resp h
    by_cases hresp : a = .reqRespond rid
    · subst hresp
      rw [replay_respond] at h
      cases h
      exact Instants.respond
    · by_cases hread : a = .reqRead rid
      · subst hread
        cases todo with
        | nil => exact Instants.skip (g := g) _ (ih g [] got resp ((replay_read ⟨rid, [], got⟩).symm.trans h))
        | cons i rest =>
          rw [replay_read_cons] at h
          exact (ih g rest _ resp h).read
      · exact Instants.skip a (ih _ todo got resp ((replay_other hread hresp).symm.trans h))
end Influx.CheckM
