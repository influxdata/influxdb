/-
  Lemmas.ReducersMode — mode of Model.Reducers reports a most frequent value
  (Spec.C23.modeValueOK), under the value order laws.
-/
import Influx.Lemmas.ReducersTop
import Influx.Lemmas.ReducersSelect
open Influx.Reducers Influx.Spec.C23

namespace Influx.Reducers.Lemmas
variable {V F : Type}

theorem eq_refl' (A : Arith V F) (h : OrdLaws A) (a : V) : A.vo.eq a a = true := by
  simp [h.eq_iff, h.sw.irrefl]

theorem eq_symm' (A : Arith V F) (h : OrdLaws A) (a b : V) : A.vo.eq a b = A.vo.eq b a := by
  simp [h.eq_iff, Bool.and_comm]

theorem eq_trans' (A : Arith V F) (h : OrdLaws A) {a b c : V} (hab : A.vo.eq a b = true)
    (hbc : A.vo.eq b c = true) : A.vo.eq a c = true := by
  simp only [h.eq_iff, Bool.and_eq_true, Bool.not_eq_true'] at hab hbc ⊢
  exact ⟨h.sw.negTrans _ _ _ hab.1 hbc.1, h.sw.negTrans _ _ _ hbc.2 hab.2⟩

/-- equal values are interchangeable on the right of `==` -/
theorem eq_congr_right (A : Arith V F) (h : OrdLaws A) (a b : V) (hab : A.vo.eq a b = true) (x : V) :
    A.vo.eq x a = A.vo.eq x b := by
  cases h1 : A.vo.eq x a with
  | true => exact (eq_trans' A h h1 hab).symm
  | false =>
    cases h2 : A.vo.eq x b with
    | false => rfl
    | true => rw [eq_trans' A h h2 (eq_symm' A h a b ▸ hab)] at h1; cases h1

theorem freq_snoc (A : Arith V F) (Q : List (Pt V)) (p : Pt V) (v : V) :
    freq A (Q ++ [p]) v = freq A Q v + (if A.vo.eq p.v v then 1 else 0) := by
  simp [freq, List.countP_append, List.countP_cons]

theorem freq_congr (A : Arith V F) (h : OrdLaws A) {a b : V} (hab : A.vo.eq a b = true) (l : List (Pt V)) :
    freq A l a = freq A l b := by
  unfold freq
  congr 1
  funext y
  exact eq_congr_right A h a b hab y.v

/-- a bound on the frequencies in `Q` that also bounds the frequency of the new point's value
    bounds all frequencies in `Q ++ [p]` -/
theorem freq_snoc_le (A : Arith V F) (h : OrdLaws A) (Q : List (Pt V)) (p : Pt V) (m : Nat)
    (hb : ∀ x ∈ Q, freq A Q x.v ≤ m) (hp : freq A (Q ++ [p]) p.v ≤ m) :
    ∀ x ∈ Q ++ [p], freq A (Q ++ [p]) x.v ≤ m := by
  intro x hx
  cases hxe : A.vo.eq p.v x.v with
  | true => rw [← freq_congr A h hxe]; exact hp
  | false =>
    rcases List.mem_append.mp hx with hx | hx
    · rw [freq_snoc, hxe]; exact hb x hx
    · obtain rfl := List.mem_singleton.mp hx
      rw [eq_refl' A h] at hxe; cases hxe

/-- the best run so far: no value of `Q` occurs more than `mf` times, and `mm` is a value of
    `Q` that does occur `mf` times -/
structure MostInv (A : Arith V F) (Q : List (Pt V)) (mf : Nat) (mm : V) : Prop where
  bound : ∀ x ∈ Q, freq A Q x.v ≤ mf
  pos : 1 ≤ mf
  attained : mf ≤ freq A Q mm
  mem : ∃ q ∈ Q, q.v = mm

/-- the run of `p`'s value is not longer than the best: the best stays -/
theorem MostInv.keep {A : Arith V F} (h : OrdLaws A) {Q : List (Pt V)} {mf : Nat} {mm : V}
    (hm : MostInv A Q mf mm) (p : Pt V) (hle : freq A (Q ++ [p]) p.v ≤ mf) : MostInv A (Q ++ [p]) mf mm where
  bound := freq_snoc_le A h Q p mf hm.bound hle
  pos := hm.pos
  attained := Nat.le_trans hm.attained (by rw [freq_snoc]; exact Nat.le_add_right _ _)
  mem := hm.mem.imp fun _ hq => ⟨List.mem_append_left _ hq.1, hq.2⟩

/-- the run of `p`'s value is at least as long as the best: it becomes the best -/
theorem MostInv.take {A : Arith V F} (h : OrdLaws A) {Q : List (Pt V)} {mf : Nat} {mm : V}
    (hm : MostInv A Q mf mm) (p : Pt V) (hge : mf ≤ freq A (Q ++ [p]) p.v) :
    MostInv A (Q ++ [p]) (freq A (Q ++ [p]) p.v) p.v where
  bound := freq_snoc_le A h Q p _ (fun x hx => Nat.le_trans (hm.bound x hx) hge) (Nat.le_refl _)
  pos := Nat.le_trans hm.pos hge
  attained := Nat.le_refl _
  mem := ⟨p, List.mem_append_right _ (List.mem_singleton_self p), rfl⟩

/-- loop invariant of `IntegerModeReduceSlice` over the value-sorted points `Q ++ R`, `Q` done:
    `currMode` is the largest value of `Q`, `currFreq` its frequency so far -/
structure ModeInv (A : Arith V F) (Q R : List (Pt V)) (s : ModeSt V) : Prop where
  run : s.currFreq = freq A Q s.currMode
  below : ∀ x ∈ Q, A.vo.lt s.currMode x.v = false
  above : ∀ r ∈ R, A.vo.lt r.v s.currMode = false
  most : MostInv A Q s.mostFreq s.mostMode

theorem mode_step_inv (A : Arith V F) (h : OrdLaws A) (Q R : List (Pt V)) (p : Pt V) (s : ModeSt V)
    (hsorted : List.Pairwise (fun x y => A.vo.lt y.v x.v = false) (Q ++ p :: R))
    (inv : ModeInv A Q (p :: R) s) : ModeInv A (Q ++ [p]) R (modeStep A.vo s p) := by
  have hpw := List.pairwise_append.mp hsorted
  have hQp : ∀ x ∈ Q, A.vo.lt p.v x.v = false := fun x hx => hpw.2.2 x hx p (List.mem_cons_self ..)
  have hpR : ∀ r ∈ R, A.vo.lt r.v p.v = false := (List.pairwise_cons.mp hpw.2.1).1
  have hcp : A.vo.lt p.v s.currMode = false := inv.above p (List.mem_cons_self ..)
  unfold modeStep
  cases heq : A.vo.eq p.v s.currMode with
  | true =>
    -- the run of `currMode` goes on
    simp only [Bool.not_true, Bool.false_eq_true, if_false]
    have hrun : s.currFreq + 1 = freq A (Q ++ [p]) s.currMode := by rw [freq_snoc, heq, inv.run]; rfl
    have hcf : s.currFreq + 1 = freq A (Q ++ [p]) p.v := hrun.trans (freq_congr A h heq _).symm
    have hbelow : ∀ x ∈ Q ++ [p], A.vo.lt s.currMode x.v = false := by
      intro x hx
      rcases List.mem_append.mp hx with hx | hx
      · exact inv.below x hx
      · obtain rfl := List.mem_singleton.mp hx
        rw [h.eq_iff, Bool.and_eq_true, Bool.not_eq_true', Bool.not_eq_true'] at heq
        exact heq.2
    have habove : ∀ r ∈ R, A.vo.lt r.v s.currMode = false := fun r hr => inv.above r (List.mem_cons_of_mem _ hr)
    by_cases hskip : (decide (s.mostFreq > s.currFreq + 1) ||
        (s.mostFreq == s.currFreq + 1 && decide (s.currTime > s.mostTime))) = true
    · simp only [hskip, if_true]
      have hge : s.currFreq + 1 ≤ s.mostFreq := (Bool.or_eq_true_iff.mp hskip).elim
        (fun h => Nat.le_of_lt (of_decide_eq_true h))
        (fun h => Nat.le_of_eq (beq_iff_eq.mp (Bool.and_eq_true_iff.mp h).1).symm)
      exact ⟨hrun, hbelow, habove, inv.most.keep h p (hcf ▸ hge)⟩
    · simp only [hskip, Bool.false_eq_true, if_false]
      have hle : s.mostFreq ≤ s.currFreq + 1 :=
        Nat.le_of_not_lt fun hlt => hskip (by rw [decide_eq_true hlt]; rfl)
      refine ⟨hrun, hbelow, habove, ?_⟩
      show MostInv A (Q ++ [p]) (s.currFreq + 1) p.v
      rw [hcf]
      exact inv.most.take h p (hcf ▸ hle)
  | false =>
    -- a new run starts: `currMode < p` strictly, so nothing processed so far has `p`'s value
    simp only [Bool.not_false, if_true]
    have hlt : A.vo.lt s.currMode p.v = true := by
      cases hl : A.vo.lt s.currMode p.v with
      | true => rfl
      | false => rw [h.eq_iff, hl, hcp] at heq; cases heq
    have hzero : freq A Q p.v = 0 :=
      List.countP_eq_zero.mpr fun x hx => by
        simp [h.eq_iff, h.sw.lt_of_ge_of_lt (inv.below x hx) hlt]
    have hone : 1 = freq A (Q ++ [p]) p.v := by rw [freq_snoc, hzero, eq_refl' A h]; rfl
    refine ⟨hone, ?_, hpR, inv.most.keep h p (hone ▸ inv.most.pos)⟩
    intro x hx
    rcases List.mem_append.mp hx with hx | hx
    · exact hQp x hx
    · obtain rfl := List.mem_singleton.mp hx
      exact h.sw.irrefl _

theorem mode_fold_inv (A : Arith V F) (h : OrdLaws A) (R : List (Pt V)) : ∀ (Q : List (Pt V)) (s : ModeSt V),
    List.Pairwise (fun x y => A.vo.lt y.v x.v = false) (Q ++ R) → ModeInv A Q R s →
      ModeInv A (Q ++ R) [] (R.foldl (modeStep A.vo) s) := by
  induction R with
  | nil => intro Q s _ inv; simpa using inv
  | cons p R ih =>
    intro Q s hs inv
    simp only [List.foldl_cons]
    have := ih (Q ++ [p]) (modeStep A.vo s p) (by simpa using hs) (mode_step_inv A h Q R p s hs inv)
    simpa using this

/-- what the statement requires of a mode observation, the documented tie rule left out -/
def modeOK (A : Arith V F) (xs : List (Pt V)) (out : List (Pt V)) : Bool :=
  match out with
  | [p] => modeValueOK A xs p.v && (decide (p.t = zeroTime) || decide (xs.map (·.t) = [p.t]))
  | _ => false

/-- **mode** under the value order laws: the reducer reports one point, whose value has maximal
    frequency (the documented tie rule is NOT part of this theorem: the code breaks it) -/
theorem mode_ok (A : Arith V F) (h : OrdLaws A) (xs : List (Pt V)) (hne : xs ≠ []) :
    ∃ p, mode A.vo xs = [p] ∧ modeValueOK A xs p.v = true ∧ (p.t = zeroTime ∨ xs.map (·.t) = [p.t]) := by
  match xs, hne with
  | [p], _ =>
    exact ⟨p, rfl, by simp [modeValueOK, freq, A.eqvV_refl], Or.inr rfl⟩
  | p :: q :: r, _ =>
    have hperm : (sortByValue A.vo (p :: q :: r)).Perm (p :: q :: r) := insertionSort_perm _ _
    have hsorted : List.Pairwise (fun a b => A.vo.lt b.v a.v = false) (sortByValue A.vo (p :: q :: r)) :=
      insertionSort_sorted (h.sw.comap Pt.v) _
    simp only [mode]
    cases hsort : sortByValue A.vo (p :: q :: r) with
    | nil => have := hperm.length_eq; rw [hsort] at this; simp at this
    | cons a0 rest =>
      rw [hsort] at hperm hsorted
      -- the first step: the run of the smallest value starts, and is the best so far
      have hone : 1 = freq A [a0] a0.v := by simp [freq, eq_refl' A h]
      have hstep : modeStep A.vo { currMode := a0.v, mostMode := a0.v, mostTime := a0.t, currTime := a0.t } a0 =
          { mostFreq := 1, currFreq := 1, currMode := a0.v, mostMode := a0.v, mostTime := a0.t, currTime := a0.t } := by
        simp [modeStep, eq_refl' A h]
      have inv1 : ModeInv A [a0] rest
          { mostFreq := 1, currFreq := 1, currMode := a0.v, mostMode := a0.v, mostTime := a0.t, currTime := a0.t } :=
        { run := hone
          below := fun x hx => by obtain rfl := List.mem_singleton.mp hx; exact h.sw.irrefl _
          above := (List.pairwise_cons.mp hsorted).1
          most := ⟨fun x _ => List.countP_le_length, Nat.le_refl _, Nat.le_of_eq hone,
            a0, List.mem_singleton_self a0, rfl⟩ }
      have inv := mode_fold_inv A h rest [a0] _ hsorted inv1
      simp only [List.foldl_cons, hstep]
      obtain ⟨qm, hqm, hqv⟩ := inv.most.mem
      refine ⟨_, rfl, ?_, Or.inl rfl⟩
      simp only [modeValueOK, Bool.and_eq_true, List.any_eq_true, List.all_eq_true, decide_eq_true_eq]
      refine ⟨⟨qm, hperm.mem_iff.mp hqm, by rw [hqv]; exact A.eqvV_refl _⟩, fun x hx => ?_⟩
      have h1 := inv.most.bound x (hperm.mem_iff.mpr hx)
      have h2 := inv.most.attained
      unfold freq at h1 h2 ⊢
      rw [← hperm.countP_eq, ← hperm.countP_eq]
      exact Nat.le_trans h1 h2

end Influx.Reducers.Lemmas
