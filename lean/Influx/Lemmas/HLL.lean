/-
  Lemmas.HLL — register-level facts about `Model.HLL`.  A fold of `regMax` leaves in register `i` the
  maximum `supAt f ks i` of what the keys contribute, a function of the *set* of keys; `mergeSparse` and
  `toNormal` keep that maximum.  `HasRegs h p g` — `h` is a well-formed sketch of precision `p` with
  normalised registers `g` — is the form in which `Add` (HLLAdd) and `Merge` are described: `Merge` is the
  pointwise maximum of the two register functions.
-/
import Influx.Model.HLL

namespace Influx.Lemmas.HLL
open Influx.Model.HLL

def reg (r : Array Nat) (i : Nat) : Nat := (r[i]?).getD 0

theorem reg_lt (r : Array Nat) (i : Nat) (hi : i < r.size) : reg r i = r[i] := by
  simp [reg, hi]

/-- what the pair `(index, rho)` gives register `i` -/
def contrib (ir : Nat × Nat) (i : Nat) : Nat := if ir.1 = i then ir.2 else 0

theorem regMax_size (r : Array Nat) (ir : Nat × Nat) : (regMax r ir).size = r.size := by
  unfold regMax; split
  · split
    · exact Array.size_set ..
    · rfl
  · rfl

theorem regMax_at (r : Array Nat) (ir : Nat × Nat) (i : Nat) (hi : i < r.size) :
    reg (regMax r ir) i = max (reg r i) (contrib ir i) := by
  unfold regMax contrib
  by_cases hji : ir.1 = i
  · subst hji
    rw [dif_pos hi, if_pos rfl, reg_lt r _ hi]
    split
    · next hlt => rw [reg, Array.getElem?_set, if_pos rfl, Option.getD_some, Nat.max_eq_right (Nat.le_of_lt hlt)]
    · next hge => rw [reg_lt r _ hi, Nat.max_eq_left (Nat.le_of_not_lt hge)]
  · rw [if_neg hji, Nat.max_zero]
    split
    · split
      · rw [reg, Array.getElem?_set, if_neg hji]; rfl
      · rfl
    · rfl

def supAt (f : Nat → Nat × Nat) : List Nat → Nat → Nat
  | [], _ => 0
  | k :: ks, i => max (if (f k).1 = i then (f k).2 else 0) (supAt f ks i)

theorem supAt_nil (f : Nat → Nat × Nat) (i : Nat) : supAt f [] i = 0 := rfl

theorem supAt_cons (f : Nat → Nat × Nat) (k : Nat) (ks : List Nat) (i : Nat) :
    supAt f (k :: ks) i = max (contrib (f k) i) (supAt f ks i) := rfl

theorem fold_regMax_size (f : Nat → Nat × Nat) (ks : List Nat) (r0 : Array Nat) :
    (ks.foldl (fun r k => regMax r (f k)) r0).size = r0.size := by
  induction ks generalizing r0 with
  | nil => rfl
  | cons k ks ih => rw [List.foldl_cons, ih, regMax_size]

theorem fold_regMax_at (f : Nat → Nat × Nat) (ks : List Nat) (r0 : Array Nat) (i : Nat) (hi : i < r0.size) :
    reg (ks.foldl (fun r k => regMax r (f k)) r0) i = max (reg r0 i) (supAt f ks i) := by
  induction ks generalizing r0 with
  | nil => exact (Nat.max_zero _).symm
  | cons k ks ih =>
    rw [List.foldl_cons, ih _ (by rw [regMax_size]; exact hi), regMax_at _ _ _ hi, supAt_cons, Nat.max_assoc]

theorem supAt_append (f : Nat → Nat × Nat) (xs ys : List Nat) (i : Nat) :
    supAt f (xs ++ ys) i = max (supAt f xs i) (supAt f ys i) := by
  induction xs with
  | nil => exact (Nat.zero_max _).symm
  | cons x xs ih => rw [List.cons_append, supAt_cons, supAt_cons, ih, Nat.max_assoc]

theorem supAt_insertSorted (f : Nat → Nat × Nat) (k : Nat) (l : List Nat) (i : Nat) :
    supAt f (insertSorted k l) i = max (contrib (f k) i) (supAt f l i) := by
  fun_induction insertSorted k l with
  | case1 => rfl
  | case2 => rfl
  | case3 => rw [supAt_cons, ← Nat.max_assoc, Nat.max_self]
  | case4 _ _ _ _ ih => rw [supAt_cons, supAt_cons, ih, Nat.max_left_comm]

theorem supAt_mergeLoopGo (f : Nat → Nat × Nat) (fuel : Nat) (vals keys : List Nat) (i : Nat) :
    supAt f (mergeLoopGo fuel vals keys) i = max (supAt f vals i) (supAt f keys i) := by
  fun_induction mergeLoopGo fuel vals keys with
  | case1 => exact (Nat.zero_max _).symm
  | case2 => exact (Nat.max_zero _).symm
  | case3 => exact supAt_append ..
  | case4 _ _ _ _ ih => simp only [supAt_cons, ih]; ac_rfl
  | case5 _ _ _ _ _ _ _ ih => simp only [supAt_cons, ih]; ac_rfl
  | case6 _ _ _ _ _ _ _ ih => simp only [supAt_cons, ih]; ac_rfl

theorem supAt_mergeLoop (f : Nat → Nat × Nat) (vals keys : List Nat) (i : Nat) :
    supAt f (mergeLoop vals keys) i = max (supAt f vals i) (supAt f keys i) :=
  supAt_mergeLoopGo f _ vals keys i

theorem contrib_le_supAt (f : Nat → Nat × Nat) (k : Nat) (l : List Nat) (i : Nat) (h : k ∈ l) :
    contrib (f k) i ≤ supAt f l i := by
  induction l with
  | nil => cases h
  | cons a as ih =>
    rw [supAt_cons]
    rcases List.mem_cons.mp h with rfl | h
    · exact Nat.le_max_left ..
    · exact Nat.le_trans (ih h) (Nat.le_max_right ..)

theorem supAt_mono (f : Nat → Nat × Nat) (A B : List Nat) (i : Nat) (h : ∀ a, a ∈ A → a ∈ B) :
    supAt f A i ≤ supAt f B i := by
  induction A with
  | nil => exact Nat.zero_le _
  | cons a as ih =>
    rw [supAt_cons]
    exact Nat.max_le.mpr ⟨contrib_le_supAt f a B i (h a (List.mem_cons_self ..)),
      ih fun x hx => h x (List.mem_cons_of_mem _ hx)⟩

theorem supAt_set (f : Nat → Nat × Nat) (A B : List Nat) (i : Nat) (h : ∀ a, a ∈ A ↔ a ∈ B) :
    supAt f A i = supAt f B i :=
  Nat.le_antisymm (supAt_mono f A B i fun a => (h a).mp) (supAt_mono f B A i fun a => (h a).mpr)

def sparseSup (h : Plus) (i : Nat) : Nat :=
  max (supAt (decodeHash h.p) h.sparseVals i) (supAt (decodeHash h.p) h.tmpSet i)

theorem mergeSparse_p (h : Plus) : (mergeSparse h).p = h.p := by
  unfold mergeSparse; split <;> rfl

theorem mergeSparse_sparse (h : Plus) : (mergeSparse h).sparse = h.sparse := by
  unfold mergeSparse; split <;> rfl

theorem mergeSparse_tmpSet (h : Plus) : (mergeSparse h).tmpSet = [] := by
  unfold mergeSparse; split
  · next he => exact List.isEmpty_iff.mp he
  · rfl

theorem supAt_mergeSparse (f : Nat → Nat × Nat) (h : Plus) (i : Nat) :
    supAt f (mergeSparse h).sparseVals i = max (supAt f h.sparseVals i) (supAt f h.tmpSet i) := by
  unfold mergeSparse; split
  · next he => rw [List.isEmpty_iff.mp he]; exact (Nat.max_zero _).symm
  · exact supAt_mergeLoop ..

theorem mergeSparse_sup (h : Plus) (i : Nat) : sparseSup (mergeSparse h) i = sparseSup h i := by
  rw [sparseSup, mergeSparse_p, supAt_mergeSparse, mergeSparse_tmpSet, supAt_nil, Nat.max_zero]; rfl

theorem toNormal_dense (h : Plus) : (toNormal h).dense =
    (mergeSparse h).sparseVals.foldl (fun r k => regMax r (decodeHash h.p k)) (Array.replicate (2 ^ h.p) 0) := by
  unfold toNormal mergeSparse; split <;> rfl

theorem toNormal_p (h : Plus) : (toNormal h).p = h.p := by
  unfold toNormal; simp only; split
  · rfl
  · exact mergeSparse_p h

theorem toNormal_sparse (h : Plus) : (toNormal h).sparse = false := rfl

theorem toNormal_size (h : Plus) : (toNormal h).dense.size = 2 ^ h.p := by
  rw [toNormal_dense, fold_regMax_size, Array.size_replicate]

theorem toNormal_reg (h : Plus) (i : Nat) (hi : i < 2 ^ h.p) : reg (toNormal h).dense i = sparseSup h i := by
  rw [toNormal_dense, fold_regMax_at _ _ _ _ (by rw [Array.size_replicate]; exact hi), supAt_mergeSparse,
    reg_lt _ _ (by rw [Array.size_replicate]; exact hi), Array.getElem_replicate, Nat.zero_max]; rfl

theorem regs_dense (h : Plus) (hs : h.sparse = false) : regs h = h.dense := by
  rw [regs, hs]; rfl

theorem regs_sparse (h : Plus) (hs : h.sparse = true) (i : Nat) (hi : i < 2 ^ h.p) :
    reg (regs h) i = sparseSup h i := by
  rw [regs, if_pos hs, toNormal_reg h i hi]

theorem regs_toNormal (h : Plus) (hs : h.sparse = true) : regs (toNormal h) = regs h := by
  rw [regs_dense _ (toNormal_sparse h), regs, if_pos hs]

/-- steps 2 and 3 of the sparse `Add` (the optional `mergeSparse`, the switch to the dense representation)
    keep whatever `mergeSparse` and `toNormal` keep on sparse sketches -/
theorem addNormal_addMerge_ind {P : Plus → Prop} {h : Plus} (hs : h.sparse = true) (h0 : P h)
    (hm : ∀ g, g.sparse = true → P g → P (mergeSparse g)) (hn : ∀ g, g.sparse = true → P g → P (toNormal g)) :
    P (addNormal (addMerge h)) := by
  have h2 : P (addMerge h) ∧ (addMerge h).sparse = true := by
    unfold addMerge
    split
    · exact ⟨hm h hs h0, (mergeSparse_sparse h).trans hs⟩
    · exact ⟨h0, hs⟩
  unfold addNormal
  split
  · exact hn _ ((mergeSparse_sparse _).trans h2.2) (hm _ h2.2 h2.1)
  · exact h2.1

/-- a sketch as the API builds it: precision in range, a dense sketch has `2^p` registers -/
structure WF (h : Plus) : Prop where
  p_lo : 4 ≤ h.p
  p_hi : h.p ≤ 18
  dense_size : h.sparse = false → h.dense.size = 2 ^ h.p

theorem regs_size (h : Plus) (w : WF h) : (regs h).size = 2 ^ h.p := by
  unfold regs
  split
  · exact toNormal_size h
  · next hs => exact w.dense_size (Bool.eq_false_iff.mpr hs)

structure HasRegs (h : Plus) (p : Nat) (g : Nat → Nat) : Prop where
  wf : WF h
  p_eq : h.p = p
  reg_eq : ∀ i, i < 2 ^ p → reg (regs h) i = g i

theorem WF.hasRegs {h : Plus} (w : WF h) : HasRegs h h.p (reg (regs h)) := ⟨w, rfl, fun _ _ => rfl⟩

theorem HasRegs.size {h : Plus} {p : Nat} {g : Nat → Nat} (r : HasRegs h p g) : (regs h).size = 2 ^ p := by
  rw [← r.p_eq]; exact regs_size h r.wf

theorem HasRegs.congr {h : Plus} {p : Nat} {g g' : Nat → Nat} (r : HasRegs h p g)
    (e : ∀ i, i < 2 ^ p → g i = g' i) : HasRegs h p g' :=
  ⟨r.wf, r.p_eq, fun i hi => (r.reg_eq i hi).trans (e i hi)⟩

theorem HasRegs.ext {a b : Plus} {p : Nat} {g g' : Nat → Nat} (ra : HasRegs a p g) (rb : HasRegs b p g')
    (h : ∀ i, i < 2 ^ p → g i = g' i) : regs a = regs b := by
  apply Array.ext (ra.size.trans rb.size.symm)
  intro i h1 h2
  have hi : i < 2 ^ p := ra.size ▸ h1
  rw [← reg_lt _ _ h1, ← reg_lt _ _ h2, ra.reg_eq i hi, rb.reg_eq i hi, h i hi]

theorem hasRegs_sparse {h : Plus} {p : Nat} {g : Nat → Nat} (hs : h.sparse = true) (hp : h.p = p)
    (lo : 4 ≤ p) (hi : p ≤ 18) (hg : ∀ i, i < 2 ^ p → sparseSup h i = g i) : HasRegs h p g := by
  subst hp
  exact ⟨⟨lo, hi, fun h' => by rw [hs] at h'; cases h'⟩, rfl, fun i hi => by rw [regs_sparse h hs i hi, hg i hi]⟩

theorem HasRegs.sup {h : Plus} {p : Nat} {g : Nat → Nat} (r : HasRegs h p g) (hs : h.sparse = true)
    (i : Nat) (hi : i < 2 ^ p) : sparseSup h i = g i := by
  rw [← r.reg_eq i hi, regs_sparse h hs i (r.p_eq ▸ hi)]

theorem HasRegs.mergeSparse {h : Plus} {p : Nat} {g : Nat → Nat} (r : HasRegs h p g) (hs : h.sparse = true) :
    HasRegs (mergeSparse h) p g :=
  hasRegs_sparse ((mergeSparse_sparse h).trans hs) ((mergeSparse_p h).trans r.p_eq) (r.p_eq ▸ r.wf.p_lo)
    (r.p_eq ▸ r.wf.p_hi) fun i hi => (mergeSparse_sup h i).trans (r.sup hs i hi)

theorem HasRegs.toNormal {h : Plus} {p : Nat} {g : Nat → Nat} (r : HasRegs h p g) (hs : h.sparse = true) :
    HasRegs (toNormal h) p g :=
  ⟨⟨(toNormal_p h).symm ▸ r.wf.p_lo, (toNormal_p h).symm ▸ r.wf.p_hi, fun _ => (toNormal_p h).symm ▸ toNormal_size h⟩,
    (toNormal_p h).trans r.p_eq, fun i hi => by rw [regs_toNormal h hs]; exact r.reg_eq i hi⟩

theorem merge_p (a b c : Plus) (hm : merge a b = .ok c) : a.p = b.p := by
  apply Decidable.byContradiction
  intro hp
  rw [merge, if_pos hp] at hm
  cases hm

/-- **`Merge` succeeds on well-formed (`WF`) sketches of one precision and is the pointwise maximum of the normalised
    register vectors**, whatever the representation (sparse or dense) of the two sketches. -/
theorem merge_hasRegs {a b : Plus} {p : Nat} {ga gb : Nat → Nat} (ra : HasRegs a p ga) (rb : HasRegs b p gb) :
    ∃ c, merge a b = .ok c ∧ HasRegs c p fun i => max (ga i) (gb i) := by
  unfold merge
  rw [if_neg (Decidable.not_not.mpr (ra.p_eq.trans rb.p_eq.symm))]
  simp only
  have hr : HasRegs (if a.sparse = true then toNormal a else a) p ga ∧
      (if a.sparse = true then toNormal a else a).sparse = false := by
    split
    · next hs => exact ⟨ra.toNormal hs, rfl⟩
    · next hs => exact ⟨ra, Bool.eq_false_iff.mpr hs⟩
  generalize (if a.sparse = true then toNormal a else a) = r at hr
  obtain ⟨rr, e2⟩ := hr
  have e3 : ∀ i, i < 2 ^ p → reg r.dense i = ga i := fun i hi => regs_dense r e2 ▸ rr.reg_eq i hi
  have e4 : r.dense.size = 2 ^ p := rr.p_eq ▸ rr.wf.dense_size e2
  have mk : ∀ d : Array Nat, d.size = 2 ^ p → (∀ i, i < 2 ^ p → reg d i = max (ga i) (gb i)) →
      HasRegs { r with dense := d } p fun i => max (ga i) (gb i) := fun d hd hg =>
    ⟨⟨rr.wf.p_lo, rr.wf.p_hi, fun _ => hd.trans (congrArg _ rr.p_eq.symm)⟩, rr.p_eq,
      fun i hi => (regs_dense { r with dense := d } e2).symm ▸ hg i hi⟩
  by_cases hbs : b.sparse = true
  · rw [if_pos hbs]
    refine ⟨_, rfl, mk _ (by rw [fold_regMax_size, fold_regMax_size, e4]) fun i hi => ?_⟩
    rw [fold_regMax_at _ _ _ _ (by rw [fold_regMax_size, e4]; exact hi),
      fold_regMax_at _ _ _ _ (by rw [e4]; exact hi), e3 i hi, ← rb.sup hbs i hi, sparseSup,
      Nat.max_assoc, Nat.max_comm (supAt _ b.tmpSet i)]
  · have hbs : b.sparse = false := Bool.eq_false_iff.mpr hbs
    have hb : b.dense.size = 2 ^ p := rb.p_eq ▸ rb.wf.dense_size hbs
    rw [if_neg (by rw [hbs]; decide), if_neg (Decidable.not_not.mpr (e4.trans hb.symm))]
    have hsz : (Array.zipWith (fun a b => if b > a then b else a) r.dense b.dense).size = 2 ^ p := by
      rw [Array.size_zipWith, e4, hb, Nat.min_self]
    refine ⟨_, rfl, mk _ hsz fun i hi => ?_⟩
    rw [reg_lt _ _ (hsz ▸ hi), Array.getElem_zipWith, ← e3 i hi, ← rb.reg_eq i hi, regs_dense b hbs,
      reg_lt _ _ (e4 ▸ hi), reg_lt _ _ (hb ▸ hi)]
    split <;> omega

theorem HasRegs.merge {a b c : Plus} {p : Nat} {ga gb : Nat → Nat} (ra : HasRegs a p ga) (rb : HasRegs b p gb)
    (hm : merge a b = .ok c) : HasRegs c p fun i => max (ga i) (gb i) := by
  obtain ⟨c', hc, r⟩ := merge_hasRegs ra rb
  cases hm.symm.trans hc
  exact r

end Influx.Lemmas.HLL
