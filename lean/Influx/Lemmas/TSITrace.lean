/-
  Lemmas.TSITrace — the statement checker of C14 accepts (up to stale tag listings) the
  model's trace of every history built from the engine's flows, rolls, compactions and reopen:
  a simulation between the checker, run on one candidate world, and the model.
-/
import Influx.Lemmas.TSIQuery
import Influx.Spec.C14

namespace Influx.Model.TSI
open Influx.Spec.C14

/-- operations of the engine's flows (no index-only drop, no crash). -/
def Allowed : Op → Bool
  | .crash _ _ _ => false
  | .dropSeriesIndexOnly _ => false
  | .dropMeasurementIndexOnly _ => false
  | _ => true

theorem lookupTag_eq_tagOf (tags : Tags) (k : String) : Spec.C14.lookupTag tags k = tagOf tags k := by
  induction tags with
  | nil => rfl
  | cons kv rest ih =>
    obtain ⟨k₀, v₀⟩ := kv
    simp only [Spec.C14.lookupTag, tagOf_cons, ih]

/-- the checker's world describes the live set of the model state. -/
structure WRel (w : World) (st : State) (live : List Nat) : Prop where
  sound : ∀ s ∈ w.live, s.id ∈ live ∧ ∃ t, st.sf.find s.id = some t ∧ t.name = s.name ∧ t.tags = s.tags
  complete : ∀ id ∈ live, ∃ s ∈ w.live, s.id = id

theorem subset_iff {α : Type} [BEq α] [LawfulBEq α] (a b : List α) :
    Spec.C14.subset a b = true ↔ ∀ x ∈ a, x ∈ b := by
  simp [Spec.C14.subset]

section
variable {w : World} {op : Op}

theorem grade_names_le {e l : List String} (hexp : expected w op = some (.names e))
    (hop : isTagListing op = true) (h : ∀ x ∈ e, x ∈ l) : (grade w op (.names l)).rank ≤ 1 := by
  unfold grade
  rw [hexp]
  simp only [(subset_iff e l).mpr h, hop, Bool.not_true, Bool.false_eq_true, if_false, if_true]
  split <;> decide

theorem grade_names_exact {e l : List String} (hexp : expected w op = some (.names e))
    (h : ∀ x, x ∈ e ↔ x ∈ l) : grade w op (.names l) = .exact := by
  unfold grade
  rw [hexp]
  simp only [(subset_iff e l).mpr fun x => (h x).mp, (subset_iff l e).mpr fun x => (h x).mpr,
    Bool.not_true, Bool.false_eq_true, if_false, if_true]

theorem grade_ids_exact {e l : List Nat} (hexp : expected w op = some (.ids e))
    (h : ∀ x, x ∈ e ↔ x ∈ l) : grade w op (.ids l) = .exact := by
  unfold grade
  rw [hexp]
  simp only [(subset_iff e l).mpr fun x => (h x).mp, (subset_iff l e).mpr fun x => (h x).mpr,
    Bool.not_true, Bool.false_eq_true, if_false, if_true]

variable {st : State} {live : List Nat}

theorem grade_ids (h : GInv st live) (hw : WRel w st live) {selW : Spec.C14.Series → Bool}
    {sel : SeriesInfo → Prop} {raw : List Nat}
    (hexp : expected w op = some (.ids ((w.live.filter selW).map (·.id))))
    (hsel : ∀ s t, t.name = s.name → t.tags = s.tags → (selW s = true ↔ sel t))
    (hv : ViewOK st.sf live sel raw) :
    grade w op (.ids (sortNat (raw.filter (fun id => !st.sf.isDeleted id)))) = .exact := by
  refine grade_ids_exact hexp fun x => ?_
  rw [mem_filtered h hv, List.mem_map]
  constructor
  · rintro ⟨s, hs, rfl⟩
    obtain ⟨hs1, hs2⟩ := List.mem_filter.mp hs
    obtain ⟨hl, t, ht, htn, htt⟩ := hw.sound s hs1
    exact ⟨hl, t, ht, (hsel s t htn htt).mp hs2⟩
  · rintro ⟨hl, t, ht, hst⟩
    obtain ⟨s, hs, rfl⟩ := hw.complete x hl
    obtain ⟨_, t', ht', htn, htt⟩ := hw.sound s hs
    obtain rfl := find_inj ht ht'
    exact ⟨s, List.mem_filter.mpr ⟨hs, (hsel s t htn htt).mpr hst⟩, rfl⟩

/-- what `Index.TagValueSeriesIDIterator` does: it answers from a set that satisfies the cache
    invariant, and caches it if it was not cached. -/
theorem step_tagValueSeries (h : GInv st live) (n k v : String) :
    ∃ ids st', CacheOK st.sf live ((n, k, v), ids) ∧
      step st (.tagValueSeries n k v) =
        (st', .ids (sortNat (ids.filter (fun id => !st.sf.isDeleted id)))) ∧
      (st' = st ∨ st' = { st with cache := ((n, k, v), ids) :: st.cache }) := by
  cases hc : cacheGet st.cache (n, k, v) with
  | some ids =>
    refine ⟨ids, st, h.cache _ ?_, by simp only [step, hc]; rfl, Or.inl rfl⟩
    obtain ⟨⟨ek, ei⟩, hf, he⟩ := Option.map_eq_some_iff.mp hc
    have hk := List.find?_some hf
    obtain rfl : ek = (n, k, v) := of_decide_eq_true hk
    exact (show ei = ids from he) ▸ List.mem_of_find?_eq_some hf
  | none => exact ⟨_, _, rawValSeries_ok h n k v, by simp only [step, hc]; rfl, Or.inr rfl⟩

/-- every answer of the model is exact, or a tag listing with stale extras. -/
theorem grade_query (h : GInv st live) (hw : WRel w st live) (hq : isQuery op = true) :
    (grade w op (step st op).2).rank ≤ 1 := by
  have hex : ∀ {o}, grade w op o = .exact → (grade w op o).rank ≤ 1 := fun he => by rw [he]; decide
  cases op with
  | measurements =>
    refine hex (grade_names_exact rfl fun n => ?_)
    show n ∈ w.live.map (·.name) ↔ n ∈ sortStr _
    rw [ans_measurements h n, List.mem_map]
    constructor
    · rintro ⟨s, hs, rfl⟩
      obtain ⟨hl, t, ht, htn, _⟩ := hw.sound s hs
      exact ⟨s.id, hl, t, ht, htn⟩
    · rintro ⟨x, hx, t, ht, rfl⟩
      obtain ⟨s, hs, rfl⟩ := hw.complete x hx
      obtain ⟨_, t', ht', htn, _⟩ := hw.sound s hs
      exact ⟨s, hs, htn ▸ congrArg _ (find_inj ht' ht)⟩
  | tagKeys n =>
    refine grade_names_le rfl rfl fun k hk => ?_
    obtain ⟨s, hs, hks⟩ := List.mem_flatMap.mp hk
    obtain ⟨hs1, hs2⟩ := List.mem_filter.mp hs
    obtain ⟨hl, t, ht, htn, htt⟩ := hw.sound s hs1
    obtain ⟨v, hv⟩ := Option.isSome_iff_exists.mp ((tagOf_isSome_iff _ k).mpr hks)
    obtain rfl : t.name = n := htn.trans (of_decide_eq_true hs2)
    exact ans_tagKeys_sup h k hl ht (htt ▸ hv)
  | tagValues n k =>
    refine grade_names_le rfl rfl fun v hv => ?_
    obtain ⟨s, hs, hvs⟩ := List.mem_filterMap.mp hv
    obtain ⟨hs1, hs2⟩ := List.mem_filter.mp hs
    obtain ⟨hl, t, ht, htn, htt⟩ := hw.sound s hs1
    obtain rfl : t.name = n := htn.trans (of_decide_eq_true hs2)
    exact ans_tagValues_sup h k hl ht (htt ▸ lookupTag_eq_tagOf _ _ ▸ hvs)
  | measurementSeries n =>
    exact hex (grade_ids h hw rfl (fun s t htn _ => by rw [htn]; exact decide_eq_true_iff)
      (measSeries_ok h n))
  | tagKeySeries n k =>
    exact hex (grade_ids h hw rfl (fun s t htn htt => by
      rw [htn, htt, ← lookupTag_eq_tagOf]; exact decide_eq_true_iff) (keySeries_ok h n k))
  | tagValueSeries n k v =>
    obtain ⟨ids, _, hc, ho, _⟩ := step_tagValueSeries h n k v
    rw [ho]
    exact hex (grade_ids h hw rfl (fun s t htn htt => by
      rw [htn, htt, ← lookupTag_eq_tagOf]; exact decide_eq_true_iff) hc.view)
  | _ => cases hq

end

/-- the checker's step on one candidate, for an operation other than a crash. -/
def candStep (k : Cand) (op : Op) (o : Obs) : Cand :=
  if isQuery op then { k with worst := k.worst.worse (grade k.w op o) }
  else
    match o, stages k.w op with
    | .ok, some ws => { k with w := ws.getLastD k.w, during := k.w :: ws }
    | _, _ => k

theorem stepCheck_single (k : Cand) {op : Op} (o : Obs) (ha : Allowed op = true) :
    stepCheck ⟨[k]⟩ op o = ⟨[candStep k op o]⟩ := by
  unfold stepCheck candStep
  split
  · rfl
  · split
    · cases ha
    · simp only [List.map_cons, List.map_nil]
      split <;> next heq => rw [heq]
    · next hok _ =>
      split
      · exact absurd rfl hok
      · rfl

theorem candStep_nostage (k : Cand) {op : Op} (o : Obs) (hq : isQuery op = false)
    (hs : stages k.w op = none) : candStep k op o = k := by
  unfold candStep
  rw [hq, hs]
  cases o <;> rfl

theorem rank_worse_le {a b : Grade} (ha : a.rank ≤ 1) (hb : b.rank ≤ 1) : (a.worse b).rank ≤ 1 := by
  unfold Grade.worse
  split <;> assumption

theorem mem_insertById (s t : Spec.C14.Series) (l : List Spec.C14.Series) :
    t ∈ insertById s l ↔ t = s ∨ t ∈ l := by
  induction l with
  | nil => simp [insertById]
  | cons a rest ih =>
    unfold insertById
    split
    · exact List.mem_cons
    · rw [List.mem_cons, ih, List.mem_cons, or_left_comm]

theorem mem_foldr_insertById (l : List Spec.C14.Series) (t : Spec.C14.Series) :
    t ∈ l.foldr insertById [] ↔ t ∈ l := by
  induction l with
  | nil => rfl
  | cons a rest ih => rw [List.foldr_cons, mem_insertById, ih, List.mem_cons]

theorem mem_drop (w : World) (p : Spec.C14.Series → Bool) (s : Spec.C14.Series) :
    s ∈ (w.drop p).live ↔ s ∈ w.live ∧ p s = false := by
  simp [World.drop]

theorem mem_drop_fold (vs : List Spec.C14.Series) (w0 : World) (s : Spec.C14.Series) :
    s ∈ (vs.foldl (fun w v => w.drop (·.id = v.id)) w0).live ↔ s ∈ w0.live ∧ ∀ v ∈ vs, s.id ≠ v.id := by
  induction vs generalizing w0 with
  | nil => simp
  | cons v rest ih =>
    rw [List.foldl_cons, ih, mem_drop]
    simp only [decide_eq_false_iff_not, List.mem_cons, forall_eq_or_imp, ne_eq, and_assoc]

/-- the last stage of the fold that records every intermediate world of a measurement drop. -/
theorem stages_last (vs : List Spec.C14.Series) (acc : World × List World)
    (h : acc.2.getLast? = some acc.1) :
    ((vs.foldl (fun (acc : World × List World) v =>
        let w' := acc.1.drop (·.id = v.id); (w', acc.2 ++ [w'])) acc).2).getLast? =
      some (vs.foldl (fun w v => w.drop (·.id = v.id)) acc.1) := by
  induction vs generalizing acc with
  | nil => exact h
  | cons v rest ih => exact ih _ List.getLast?_concat

section
variable {w : World} {st : State} {live : List Nat}

theorem WRel.of_find {st' : State} (hf : ∀ x, st'.sf.find x = st.sf.find x) (h : WRel w st live) :
    WRel w st' live :=
  ⟨fun s hs => by rw [hf]; exact h.sound s hs, h.complete⟩

theorem wrel_created (hw : WRel w st live) (hok : SFOK st.sf) (new : SeriesInfo)
    (hg : st.sf.gives new = true) :
    WRel (if w.live.any (·.id = new.id) then w else { live := ⟨new.id, new.name, new.tags⟩ :: w.live })
      (created st new) (liveCreate live new.id) := by
  obtain ⟨hext, hfnew⟩ := learn_find hok hg
  have hold : WRel w (created st new) live :=
    ⟨fun s hs => (hw.sound s hs).imp_right fun ⟨t, ht, h2⟩ => ⟨t, hext.find _ t ht, h2⟩, hw.complete⟩
  have hany : (w.live.any (·.id = new.id)) = true ↔ new.id ∈ live := by
    rw [List.any_eq_true]
    constructor
    · rintro ⟨s, hs, hid⟩
      exact of_decide_eq_true hid ▸ (hw.sound s hs).1
    · intro hl
      obtain ⟨s, hs, hid⟩ := hw.complete _ hl
      exact ⟨s, hs, decide_eq_true hid⟩
  unfold liveCreate
  by_cases hl : new.id ∈ live
  · rwa [if_pos (hany.mpr hl), if_pos hl]
  · rw [if_neg (fun h => hl (hany.mp h)), if_neg hl]
    refine ⟨fun s hs => ?_, fun x hx => ?_⟩
    · rcases List.mem_cons.mp hs with rfl | hs
      · exact ⟨List.mem_cons_self, new, hfnew, rfl, rfl⟩
      · exact (hold.sound s hs).imp_left (List.mem_cons_of_mem _)
    · rcases List.mem_cons.mp hx with rfl | hx
      · exact ⟨_, List.mem_cons_self, rfl⟩
      · exact (hw.complete x hx).imp fun s hs => hs.imp_left (List.mem_cons_of_mem _)

theorem wrel_drop {w' : World} {st' : State} {live' : List Nat} (hw : WRel w st live)
    (hf : ∀ x, st'.sf.find x = st.sf.find x)
    {P : Spec.C14.Series → Prop} {Q : Nat → Prop}
    (hw' : ∀ s, s ∈ w'.live ↔ s ∈ w.live ∧ P s) (hl' : ∀ x, x ∈ live' ↔ x ∈ live ∧ Q x)
    (hPQ : ∀ s ∈ w.live, P s ↔ Q s.id) : WRel w' st' live' := by
  refine ⟨fun s hs => ?_, fun x hx => ?_⟩
  · obtain ⟨h1, h2⟩ := (hw' s).mp hs
    obtain ⟨h3, h4⟩ := hw.sound s h1
    exact ⟨(hl' _).mpr ⟨h3, (hPQ s h1).mp h2⟩, by rw [hf]; exact h4⟩
  · obtain ⟨h1, h2⟩ := (hl' x).mp hx
    obtain ⟨s, hs, rfl⟩ := hw.complete x h1
    exact ⟨s, (hw' s).mpr ⟨hs, (hPQ s hs).mpr h2⟩, rfl⟩

/-- the checker drops the live series named `name` in its world, the model the tracked series
    whose series-file record is named `name`: the same series. -/
theorem wrel_dropMeasurement (hg : GInv st live) (hw : WRel w st live) (name : String) :
    WRel (((w.live.filter (·.name = name)).foldr insertById []).foldl (fun w v => w.drop (·.id = v.id)) w)
      (dropFlow st (victims st name) name) ((victims st name).foldl (fun l s => sdel l s.id) live) := by
  refine wrel_drop hw (dropFlow_find st _ _) (mem_drop_fold _ _) (mem_foldl_sdel _ live) fun s hs => ?_
  obtain ⟨hl, t, ht, htn, _⟩ := hw.sound s hs
  have hid := (find_some_mem ht).2
  constructor
  · intro hP v hv hvs
    obtain ⟨_, hv2, hv3⟩ := mem_victims.mp hv
    obtain rfl := find_inj (hvs ▸ hv2) ht
    exact hP s ((mem_foldr_insertById _ _).mpr (List.mem_filter.mpr ⟨hs, decide_eq_true (htn ▸ hv3)⟩)) rfl
  · intro hQ v hv hsv
    obtain ⟨hv1, hv2⟩ := List.mem_filter.mp ((mem_foldr_insertById _ _).mp hv)
    obtain ⟨_, t', ht', htn', _⟩ := hw.sound v hv1
    obtain rfl := find_inj (hsv ▸ ht') ht
    exact hQ t' (mem_victims.mpr ⟨hid ▸ (hg.tracked _).mpr hl, hid ▸ ht,
      htn'.trans (of_decide_eq_true hv2)⟩) hid

end

/-- the checker's candidate `k` describes the model state `st`, and has met nothing worse than
    a stale tag listing. -/
def Sim (k : Cand) (st : State) : Prop :=
  ∃ live, GInv st live ∧ WRel k.w st live ∧ k.worst.rank ≤ 1

theorem sim_init : Sim {} {} :=
  ⟨[], ginv_init, ⟨fun _ hs => (nomatch hs), fun _ h => (nomatch h)⟩, Nat.zero_le 1⟩

theorem sf_ite {c : Prop} [Decidable c] {st st' : State} {o o' : Obs} (h : st'.sf = st.sf) :
    (if c then (st, o) else (st', o')).1.sf = st.sf := by
  split
  · rfl
  · exact h

/-- rolls, compactions, reopen and configuration are invisible to the checker. -/
theorem sim_structural {k : Cand} {st : State} (hs : Sim k st) {op : Op} (hq : isQuery op = false)
    (hst : stages k.w op = none) (hg : ∀ live, GInv st live → GInv (step st op).1 live)
    (hsf : (step st op).1.sf = st.sf) : Sim (candStep k op (step st op).2) (step st op).1 := by
  obtain ⟨live, h, hw, hr⟩ := hs
  rw [candStep_nostage k _ hq hst]
  exact ⟨live, hg live h, hw.of_find (fun x => by rw [hsf]), hr⟩

/-- a query is graded; at most the tag-value cache changes. -/
theorem sim_query {k : Cand} {st : State} (hs : Sim k st) {op : Op} (hq : isQuery op = true)
    (hst : ∀ live, GInv st live → GInv (step st op).1 live ∧ (step st op).1.sf = st.sf) :
    Sim (candStep k op (step st op).2) (step st op).1 := by
  obtain ⟨live, hg, hw, hr⟩ := hs
  unfold candStep
  rw [if_pos hq]
  exact ⟨live, (hst live hg).1, hw.of_find (fun x => by rw [(hst live hg).2]),
    rank_worse_le hr (grade_query hg hw hq)⟩

theorem sim_step {k : Cand} {st : State} (hs : Sim k st) {op : Op} (ha : Allowed op = true) :
    Sim (candStep k op (step st op).2) (step st op).1 := by
  cases op with
  | crash p q e => cases ha
  | dropSeriesIndexOnly id => cases ha
  | dropMeasurementIndexOnly n => cases ha
  | cfg n => exact sim_structural hs rfl rfl (fun _ h => ginv_cfg h n) (sf_ite rfl)
  | roll j => exact sim_structural hs rfl rfl (fun _ h => ginv_roll h j) (sf_ite rfl)
  | compactLog j => exact sim_structural hs rfl rfl (fun _ h => ginv_compactLog h j) (sf_ite rfl)
  | compactLevel j l =>
    exact sim_structural hs rfl rfl (fun _ h => ginv_compactLevel h j l) (sf_ite rfl)
  | reopen => exact sim_structural hs rfl rfl (fun _ h => ginv_reopen h) rfl
  | create id part name tags =>
    obtain ⟨live, hg, hw, hr⟩ := hs
    rcases step_create_cases st id part name tags with hrej | ⟨hp, ht, hgv, heq⟩
    · rw [hrej]; exact ⟨live, hg, hw, hr⟩
    · rw [heq]
      exact ⟨_, ginv_created hg ⟨id, name, tags, part⟩ hp ht hgv, wrel_created hw hg.sfok _ hgv, hr⟩
  | dropSeries id =>
    obtain ⟨live, hg, hw, hr⟩ := hs
    rcases step_dropSeries_cases st id with hrej | ⟨s, hf, rfl, heq⟩
    · rw [hrej]; exact ⟨live, hg, hw, hr⟩
    · rw [heq]
      refine ⟨_, ginv_dropFlow hg [s] s.name fun t ht => ?_, ?_, hr⟩
      · obtain rfl := List.mem_singleton.mp ht
        exact ⟨hf, rfl⟩
      · exact wrel_drop hw (dropFlow_find st _ _) (mem_drop _ _) (fun x => mem_sdel live s.id x)
          fun t _ => decide_eq_false_iff_not
  | dropMeasurement name =>
    obtain ⟨live, hg, hw, hr⟩ := hs
    rw [step_dropMeasurement_eq]
    refine ⟨_, ginv_dropFlow hg _ name fun t ht => (mem_victims.mp ht).2, ?_, hr⟩
    -- the last stage: every live series of the measurement dropped
    show WRel (List.getLastD _ k.w) _ _
    rw [List.getLastD_eq_getLast?, stages_last _ (k.w, [k.w]) rfl, Option.getD_some]
    exact wrel_dropMeasurement hg hw name
  | tagValueSeries n key v =>
    refine sim_query hs rfl fun live hg => ?_
    obtain ⟨ids, _, hc, hst, rfl | rfl⟩ := step_tagValueSeries hg n key v
    · rw [hst]; exact ⟨hg, rfl⟩
    · rw [hst]
      exact ⟨{ hg with cache := fun e he => (List.mem_cons.mp he).elim (· ▸ hc) (hg.cache e) }, rfl⟩
  -- the other queries leave the state as it is
  | _ => exact sim_query hs rfl fun _ hg => ⟨hg, rfl⟩

/-- **the simulation along a trace**: the checker, started on one candidate, ends on one
    candidate, which describes the state the model ends in. -/
theorem sim_run (ops : List Op) (hall : ops.all Allowed = true) {k : Cand} {st : State} (hs : Sim k st) :
    ∃ k', finalCands ⟨[k]⟩ (run st ops) = ⟨[k']⟩ ∧
      Sim k' (ops.foldl (fun s op => (step s op).1) st) := by
  induction ops generalizing k st with
  | nil => exact ⟨k, rfl, hs⟩
  | cons op rest ih =>
    obtain ⟨ha, hrest⟩ := Bool.and_eq_true_iff.mp (List.all_cons ▸ hall)
    obtain ⟨k', hk', hs'⟩ := ih hrest (sim_step hs ha)
    refine ⟨k', ?_, hs'⟩
    rw [← hk', ← stepCheck_single k _ ha]
    rfl

end Influx.Model.TSI
