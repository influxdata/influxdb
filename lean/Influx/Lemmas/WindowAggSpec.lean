/-
  Lemmas.WindowAggSpec — the one-pass sequential semantics of the accumulating window
  cursors equals "group by window, aggregate each group" (`Spec.C20.aggSpec`) on
  time-ordered input, for every window function that behaves like tumbling windows
  (`Win.OK.split` is what every one-pass cursor sees of such input), and each accumulator
  (`countF … meanF`) computes the aggregate the statement asks for.
-/
import Influx.Lemmas.WindowAggFold
import Influx.Spec.C20

namespace Influx.WindowAgg
open Influx.Spec.C20
variable {α γ : Type}

/-- what the cursors need from the window: a row is inside its own window, and for
    `t1 ≤ t2`, `t2` is before the end of `t1`'s window iff it has the same window. -/
def Win.OK (w : Win) : Prop :=
  (∀ t, w.newWindow t (w.stop t) = false) ∧
  (∀ t1 t2, t1 ≤ t2 → (w.newWindow t2 (w.stop t1) = false ↔ w.stop t2 = w.stop t1))

/-- time order (not necessarily strict) -/
def Sorted (pts : List (Pt α)) : Prop := pts.Pairwise (fun p q => p.1 ≤ q.1)

theorem Win.zero_OK : Win.zero.OK := by
  constructor
  · intro t; simp [Win.newWindow, Win.zero]
  · intro t1 t2 _; simp [Win.newWindow, Win.zero]

theorem Win.ofWindow_OK (every offset : Int) (h : 0 < every) :
    (Win.ofWindow ⟨every, every, offset⟩).OK := by
  constructor
  · intro t
    have := Window.getLatestBounds_contains ⟨every, every, offset⟩ t h rfl
    simp [Win.newWindow, Win.ofWindow]
    omega
  · intro t1 t2 ht
    have := Window.stop_eq_iff ⟨every, every, offset⟩ h rfl ht
    simp only [Win.newWindow, Win.ofWindow, Bool.not_false, Bool.true_and]
    rw [← this]; simp

theorem Win.newWindow_mono (w : Win) (we : Int) {t1 t2 : Int} (h : t1 ≤ t2) :
    w.newWindow t1 we = true → w.newWindow t2 we = true := by
  simp only [Win.newWindow, Bool.and_eq_true, decide_eq_true_eq]
  exact fun h1 => ⟨h1.1, by omega⟩

theorem filter_append_filter_not {β : Type} (P : β → Bool) :
    ∀ l : List β, l.Pairwise (fun a b => P b = true → P a = true) →
    l.filter P ++ l.filter (fun x => !P x) = l := by
  intro l
  induction l with
  | nil => intro _; rfl
  | cons x xs ih =>
    intro h
    rw [List.pairwise_cons] at h
    by_cases hx : P x = true
    · rw [List.filter_cons_of_pos hx, List.filter_cons_of_neg (by simp [hx]), List.cons_append, ih h.2]
    · have hall : ∀ b ∈ xs, ¬ P b = true := fun b hb hPb => hx (h.1 b hb hPb)
      rw [List.filter_cons_of_neg hx, List.filter_cons_of_pos (by simpa using hx),
        List.filter_eq_nil_iff.mpr hall, List.filter_eq_self.mpr (by simpa using hall)]
      rfl

/-- **What a one-pass cursor sees after a row `p`** of time-ordered input, for a window that
    behaves like tumbling windows: first all other rows of `p`'s window — for none of them the
    cursor starts a new window — then the rows of later windows, for each of which it would. -/
theorem Win.OK.split {w : Win} (hw : w.OK) {p : Pt α} {ps : List (Pt α)} (hs : Sorted (p :: ps)) :
    ps.filter (fun q => w.stop q.1 == w.stop p.1) ++ ps.filter (fun q => !(w.stop q.1 == w.stop p.1)) = ps ∧
    (∀ q ∈ ps.filter (fun q => w.stop q.1 == w.stop p.1),
      w.newWindow q.1 (w.stop p.1) = false ∧ w.stop q.1 = w.stop p.1) ∧
    (∀ q ∈ ps.filter (fun q => !(w.stop q.1 == w.stop p.1)), w.newWindow q.1 (w.stop p.1) = true) := by
  rw [Sorted, List.pairwise_cons] at hs
  have hnw : ∀ q ∈ ps, (w.newWindow q.1 (w.stop p.1) = false ↔ w.stop q.1 = w.stop p.1) :=
    fun q hq => hw.2 _ _ (hs.1 q hq)
  refine ⟨filter_append_filter_not _ ps (hs.2.imp_of_mem ?_), ?_, ?_⟩
  · -- a row of `p`'s window is not preceded by a row of a later one: `newWindow` is monotone in time
    intro a b ha hb hab hb'
    rw [beq_iff_eq, ← hnw a ha]
    rw [beq_iff_eq, ← hnw b hb] at hb'
    exact Bool.eq_false_iff.mpr fun h => Bool.eq_false_iff.mp hb' (w.newWindow_mono _ hab h)
  · intro q hq
    have hq' := List.mem_filter.mp hq
    exact ⟨(hnw q hq'.1).mpr (beq_iff_eq.mp hq'.2), beq_iff_eq.mp hq'.2⟩
  · intro q hq
    have hq' := List.mem_filter.mp hq
    cases h : w.newWindow q.1 (w.stop p.1) with
    | true => rfl
    | false => simp [(hnw q hq'.1).mp h] at hq'

def foldG (F : Folder α γ) (p : Pt α) (qs : List (Pt α)) : γ :=
  qs.foldl (fun g q => F.add1 (some g) q) (F.add1 none p)

/-- the accumulator `F` computes the aggregate `agg` of the statement -/
def Folder.Computes (o : Ops α) (agg : Agg) (F : Folder α γ) : Prop :=
  ∀ s p qs, aggregate o agg s (p :: qs) = some (F.fin s (foldG F p qs))

namespace Fold

theorem seq1_inWindow (F : Folder α γ) (w : Win) (we : Int) (l2 : List (Pt α)) :
    ∀ (l1 : List (Pt α)) (g : γ), (∀ q ∈ l1, w.newWindow q.1 we = false) →
    seq1 F w (l1 ++ l2) (some g) we = seq1 F w l2 (some (l1.foldl (fun g q => F.add1 (some g) q) g)) we := by
  intro l1
  induction l1 with
  | nil => intro g _; rfl
  | cons q qs ih =>
    intro g h
    rw [List.cons_append, seq1, if_neg (by simp [h q List.mem_cons_self]),
      ih _ (fun x hx => h x (List.mem_cons_of_mem _ hx))]
    rfl

theorem seq1_newWindow (F : Folder α γ) (w : Win) (we : Int) (g : γ) (l : List (Pt α))
    (h : ∀ q ∈ l, w.newWindow q.1 we = true) : seq1 F w l (some g) we = F.fin we g :: seqAll F w l := by
  cases l with
  | nil => rfl
  | cons q qs => rw [seq1, if_pos (h q List.mem_cons_self), seqAll_cons]; rfl

end Fold

theorem seqAll_eq_aggSpec (o : Ops α) (agg : Agg) (F : Folder α γ) (w : Win) (hw : w.OK)
    (hF : F.Computes o agg) :
    ∀ pts : List (Pt α), Sorted pts → Fold.seqAll F w pts = aggSpec o agg w.stop pts := by
  intro pts
  fun_induction aggSpec o agg w.stop pts with
  | case1 => intro _; rfl
  | case2 p ps s ih =>
    intro hs
    obtain ⟨hsplit, hsame, hlater⟩ := hw.split hs
    rw [Fold.seqAll_cons, ← hsplit, Fold.seq1_inWindow F w _ _ _ _ (fun q hq => (hsame q hq).1),
      Fold.seq1_newWindow F w _ _ _ hlater, hsplit, hF,
      ih ((List.pairwise_cons.mp hs).2.sublist List.filter_sublist)]
    rfl

theorem foldl_count (o : Ops α) (qs : List (Pt α)) (n : Nat) :
    qs.foldl (fun g q => (countF o).add1 (some g) q) n = n + qs.length := by
  induction qs generalizing n with
  | nil => rfl
  | cons q qs ih =>
    have := ih (n + 1)
    simp only [countF] at this
    simp only [List.foldl_cons, List.length_cons, countF]; rw [this]; omega

theorem countF_computes (o : Ops α) : (countF o).Computes o .count := by
  intro s p qs
  simp only [aggregate, foldG]
  have : (countF o).add1 none p = 1 := rfl
  rw [this, foldl_count]
  simp [countF, Nat.add_comm]

theorem sumF_computes (o : Ops α) : (sumF o).Computes o .sum := by
  intro s p qs; simp [aggregate, foldG, sumF]

theorem minF_computes (o : Ops α) : (minF o).Computes o .min := by
  intro s p qs; simp [aggregate, foldG, minF]

theorem maxF_computes (o : Ops α) : (maxF o).Computes o .max := by
  intro s p qs; simp [aggregate, foldG, maxF]

theorem foldl_mean (o : Ops α) (qs : List (Pt α)) (s0 : α) (n0 : Nat) :
    qs.foldl (fun g q => (meanF o).add1 (some g) q) (s0, n0) =
      (qs.foldl (fun a q => o.add a q.2) s0, n0 + qs.length) := by
  induction qs generalizing s0 n0 with
  | nil => rfl
  | cons q qs ih =>
    simp only [List.foldl_cons, List.length_cons, meanF]
    have := ih (o.add s0 q.2) (n0 + 1)
    simp only [meanF] at this
    rw [this]
    congr 1; omega

theorem meanF_computes (o : Ops α) : (meanF o).Computes o .mean := by
  intro s p qs
  simp only [aggregate, foldG]
  have : (meanF o).add1 none p = (o.add o.zero p.2, 1) := rfl
  rw [this, foldl_mean]
  simp [meanF, Nat.add_comm]

end Influx.WindowAgg
