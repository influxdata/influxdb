/-
  Lemmas.TSIInvDrop — the partition invariant through `Partition.DropMeasurement`.
-/
import Influx.Lemmas.TSIInvOps

namespace Influx.Model.TSI

theorem foldl_other_meas (sf : SFile) (es : List Entry) (n : String)
    (he : ∀ e ∈ es, entryMeas sf e ≠ some n) (d : FileData) :
    alookup (es.foldl (exec sf) d).mms n = alookup d.mms n := by
  induction es generalizing d with
  | nil => rfl
  | cons e rest ih =>
    rw [List.foldl_cons, ih (fun e' he' => he e' (List.mem_cons_of_mem _ he')),
      exec_other_meas sf d e n (he e List.mem_cons_self)]

theorem foldl_flags_sets (sf : SFile) (es : List Entry)
    (he : ∀ e ∈ es, ∀ id, e ≠ .add id ∧ e ≠ .delSeries id) (d : FileData) :
    (es.foldl (exec sf) d).sset = d.sset ∧ (es.foldl (exec sf) d).tomb = d.tomb := by
  induction es generalizing d with
  | nil => exact ⟨rfl, rfl⟩
  | cons e rest ih =>
    have h1 := exec_flags_sset sf d e (he e List.mem_cons_self)
    have h2 := ih (fun e' he' => he e' (List.mem_cons_of_mem _ he')) (exec sf d e)
    exact ⟨h2.1.trans h1.1, h2.2.trans h1.2⟩

theorem foldl_delSeries_sets (sf : SFile) (ids : List Nat) (hk : ∀ id ∈ ids, (sf.find id).isSome)
    (d : FileData) (x : Nat) :
    (x ∈ ((ids.map Entry.delSeries).foldl (exec sf) d).sset ↔ x ∈ d.sset ∧ x ∉ ids) ∧
    (x ∈ ((ids.map Entry.delSeries).foldl (exec sf) d).tomb ↔ x ∈ d.tomb ∨ x ∈ ids) := by
  induction ids generalizing d with
  | nil => exact ⟨(and_iff_left List.not_mem_nil).symm, (or_iff_left List.not_mem_nil).symm⟩
  | cons id rest ih =>
    obtain ⟨s, hf⟩ := Option.isSome_iff_exists.mp (hk id List.mem_cons_self)
    have hsets := execSeries_sset sf d false id s hf
    have := ih (fun i hi => hk i (List.mem_cons_of_mem _ hi)) (execSeries sf d false id)
    rw [List.map_cons, List.foldl_cons]
    show (x ∈ (List.foldl (exec sf) (execSeries sf d false id) _).sset ↔ _) ∧
      (x ∈ (List.foldl (exec sf) (execSeries sf d false id) _).tomb ↔ _)
    rw [this.1, this.2, hsets.1, hsets.2]
    simp only [Bool.false_eq_true, if_false, mem_sdel, mem_sadd, List.mem_cons, not_or]
    exact ⟨and_assoc, by rw [or_assoc]; exact or_left_comm⟩

/-- the first segment of `dropMeasurementEntries`: the tag key and tag value tombstones. -/
def dmKeyEntries (fs : List FileData) (name : String) : List Entry :=
  (sortStr (fs.flatMap (fileKeys name))).flatMap (fun k =>
    (if firstSome (fun f => (keyElem name k f).map (·.deleted)) fs == some false
      then [Entry.delKey name k] else []) ++
      (mergedKeyValues fs name k).filterMap (fun (v, del) =>
        if del then none else some (Entry.delVal name k v)))

theorem dropMeasurementEntries_eq (fs : List FileData) (name : String) :
    dropMeasurementEntries fs name =
      dmKeyEntries fs name ++ (sortNat (fsMeasSeries fs name)).map Entry.delSeries ++ [Entry.delMeas name] := rfl

theorem dmKeyEntries_flags (fs : List FileData) (name : String) :
    ∀ e ∈ dmKeyEntries fs name, (∃ k, e = .delKey name k) ∨ (∃ k v, e = .delVal name k v) := by
  intro e he
  unfold dmKeyEntries at he
  simp only [List.mem_flatMap, List.mem_append, List.mem_filterMap] at he
  obtain ⟨k, _, he | ⟨⟨v, del⟩, _, he⟩⟩ := he
  · split at he
    · exact Or.inl ⟨k, List.mem_singleton.mp he⟩
    · exact absurd he List.not_mem_nil
  · split at he
    · cases he
    · exact Or.inr ⟨k, v, (Option.some.inj he).symm⟩

theorem dropMeasurementEntries_meas (sf : SFile) (fs : List FileData) (m : String)
    (hk : ∀ id ∈ fsMeasSeries fs m, ∃ s, sf.find id = some s ∧ s.name = m) :
    ∀ e ∈ dropMeasurementEntries fs m, entryMeas sf e = some m := by
  intro e he
  rw [dropMeasurementEntries_eq] at he
  simp only [List.mem_append, List.mem_map, List.mem_singleton] at he
  rcases he with (he | ⟨id, hid, rfl⟩) | rfl
  · rcases dmKeyEntries_flags fs m e he with ⟨k, rfl⟩ | ⟨k, v, rfl⟩ <;> rfl
  · obtain ⟨s, hs, hn⟩ := hk id ((mem_sortNat _ _).mp hid)
    show (sf.find id).map (·.name) = some m
    rw [hs, ← hn]; rfl
  · rfl

theorem isSome_of_entryMeas {sf : SFile} {e : Entry} {m : String} (h : entryMeas sf e = some m) (id : Nat)
    (he : e = .add id ∨ e = .delSeries id) : (sf.find id).isSome := by
  rcases he with rfl | rfl <;> exact Option.isSome_map.symm.trans (Option.isSome_iff_exists.mpr ⟨m, h⟩)

theorem dropMeasurement_head (sf : SFile) (fs : List FileData) (m : String) (d : FileData)
    (hk : ∀ id ∈ fsMeasSeries fs m, ∃ s, sf.find id = some s ∧ s.name = m) :
    let d' := (dropMeasurementEntries fs m).foldl (exec sf) d
    (∀ n, n ≠ m → alookup d'.mms n = alookup d.mms n) ∧
    alookup d'.mms m = some { deleted := true, series := [], keys := [] } ∧
    (∀ x, x ∈ d'.sset ↔ x ∈ d.sset ∧ x ∉ fsMeasSeries fs m) ∧
    (∀ x, x ∈ d'.tomb ↔ x ∈ d.tomb ∨ x ∈ fsMeasSeries fs m) := by
  intro d'
  have hflag : ∀ e ∈ dmKeyEntries fs m, ∀ id, e ≠ .add id ∧ e ≠ .delSeries id := by
    intro e he
    rcases dmKeyEntries_flags fs m e he with ⟨k, rfl⟩ | ⟨k, v, rfl⟩ <;> exact fun _ => ⟨nofun, nofun⟩
  have hkk : ∀ id ∈ sortNat (fsMeasSeries fs m), (sf.find id).isSome := by
    intro id hid
    obtain ⟨s, hs, _⟩ := hk id ((mem_sortNat _ _).mp hid)
    rw [hs]; rfl
  have hd' : d' = exec sf (((sortNat (fsMeasSeries fs m)).map Entry.delSeries).foldl (exec sf)
      ((dmKeyEntries fs m).foldl (exec sf) d)) (.delMeas m) := by
    show (dropMeasurementEntries fs m).foldl (exec sf) d = _
    rw [dropMeasurementEntries_eq, List.foldl_append, List.foldl_append]; rfl
  have h3 := exec_flags_sset sf (((sortNat (fsMeasSeries fs m)).map Entry.delSeries).foldl (exec sf)
      ((dmKeyEntries fs m).foldl (exec sf) d)) (.delMeas m) (fun _ => ⟨nofun, nofun⟩)
  have h1 := foldl_flags_sets sf (dmKeyEntries fs m) hflag d
  refine ⟨fun n hn => foldl_other_meas sf _ n (fun e he => ?_) d, ?_, fun x => ?_, fun x => ?_⟩
  · rw [dropMeasurementEntries_meas sf fs m hk e he]
    exact fun h => hn (Option.some.inj h).symm
  · rw [hd', exec_delMeas_mms, if_pos rfl]
  · rw [hd', h3.1, (foldl_delSeries_sets sf _ hkk _ x).1, h1.1, mem_sortNat]
  · rw [hd', h3.2, (foldl_delSeries_sets sf _ hkk _ x).2, h1.2, mem_sortNat]

/-- **`Partition.DropMeasurement(m)`** when no live series is named `m`: the measurement stops
    being an exception of the "listed only with a live series" clause. -/
theorem pinv_dropMeasurement {exc : String → Prop} {sf : SFile} {live : List Nat} {i : Nat}
    {p : Partition} (m : String) (hp : PInvX (fun n => exc n ∨ n = m) sf live i p)
    (hno : ∀ id ∈ live, ∀ s, sf.find id = some s → s.name ≠ m) :
    PInvX exc sf live i (p.append sf (dropMeasurementEntries p.datas m)) := by
  obtain ⟨a, rest, hfiles, halog⟩ := hp.head
  have ha : a ∈ p.files := hfiles ▸ List.mem_cons_self
  have hrest : ∀ f ∈ rest, f ∈ p.files := fun f hf' => hfiles ▸ List.mem_cons_of_mem _ hf'
  have hfiles' := append_files sf p (dropMeasurementEntries p.datas m) a rest hfiles
  have hdatas0 : p.datas = a.data :: rest.map (·.data) := datas_cons p a rest hfiles
  have hk : ∀ id ∈ fsMeasSeries p.datas m, ∃ s, sf.find id = some s ∧ s.name = m := by
    intro id hid
    obtain ⟨d, hd, hx⟩ := (mem_fsMeasSeries p.datas m id).mp hid
    obtain ⟨f, hf, rfl⟩ := List.mem_map.mp hd
    exact (hp.sound f hf).meas m id hx
  have hdead : ∀ id ∈ fsMeasSeries p.datas m, id ∉ live := by
    intro id hid hl
    obtain ⟨s, hs, hn⟩ := hk id hid
    exact hno id hl s hs hn
  have hek : ∀ e ∈ dropMeasurementEntries p.datas m, ∀ id, (e = .add id ∨ e = .delSeries id) →
      (sf.find id).isSome :=
    fun e he => isSome_of_entryMeas (dropMeasurementEntries_meas sf p.datas m hk e he)
  obtain ⟨hother, hm, hsset, htomb⟩ := dropMeasurement_head sf p.datas m a.data hk
  have hF := fileOK_append (pinv_fileOK hp ha) halog (dropMeasurementEntries p.datas m) hek
  generalize (dropMeasurementEntries p.datas m).foldl (exec sf) a.data = d' at hother hm hsset htomb hfiles' hF
  have hdatas : (p.append sf (dropMeasurementEntries p.datas m)).datas = d' :: rest.map (·.data) :=
    datas_cons _ _ rest hfiles'
  have hacc : ∀ n, n ≠ m → _ := fun n hn => accessors_congr (hother n hn)
  have hkey : ∀ k, keyElem m k d' = none := fun k => by rw [keyElem, hm]; rfl
  have hms : fileMeasSeries m d' = [] := by rw [fileMeasSeries, hm]; rfl
  have hflagm : measFlag m d' = some true := by rw [measFlag, hm]; rfl
  refine pinv_of_fileOK ⟨_, rest, hfiles', halog⟩ ?files ?comp ?notomb ?sset ?stat ?mflive ?mfdead
  case files =>
    rw [hfiles']
    refine List.forall_mem_cons.mpr ⟨hF ⟨fun n k tk hk' => ?_, fun n k v tv hv' => ?_⟩
      (sound_anti (hp.sound a ha) (fun n x hx => ?_) (fun n k v x hx => ?_)) (fun x hx => ?_),
      fun f hf => pinv_fileOK hp (hrest f hf)⟩
    · by_cases hn : n = m
      · rw [hn, hkey] at hk'; cases hk'
      · exact (hp.noflags a ha).key n k tk ((hacc n hn).2.2.1 k ▸ hk')
    · by_cases hn : n = m
      · rw [valElem, hn, hkey] at hv'; cases hv'
      · exact (hp.noflags a ha).val n k v tv ((hacc n hn).2.2.2.1 k v ▸ hv')
    · by_cases hn : n = m
      · rw [hn, hms] at hx; cases hx
      · exact (hacc n hn).2.1 ▸ hx
    · by_cases hn : n = m
      · rw [fileValSeries_eq, valElem, hn, hkey] at hx; cases hx
      · exact (hacc n hn).2.2.2.2 k v ▸ hx
    · rcases (htomb x).mp hx with h | h
      · exact hp.tknown a ha x h
      · obtain ⟨s, hs, _⟩ := hk x h
        rw [hs]; rfl
  case comp =>
    intro x t hx ht hpx
    have hne : t.name ≠ m := hno x hx t ht
    obtain ⟨f, hfm, hms, hvs⟩ := hp.comp x t hx ht hpx
    rw [hfiles']
    rw [hfiles] at hfm
    rcases List.mem_cons.mp hfm with rfl | hfr
    · exact ⟨_, List.mem_cons_self, (hacc t.name hne).2.1 ▸ hms,
        fun k v hkv => (hacc t.name hne).2.2.2.2 k v ▸ hvs k v hkv⟩
    · exact ⟨f, List.mem_cons_of_mem _ hfr, hms, hvs⟩
  case notomb =>
    intro f hfm x hx hxt
    rw [hfiles'] at hfm
    rcases List.mem_cons.mp hfm with rfl | hfr
    · exact ((htomb x).mp hxt).elim (hp.notomb a ha x hx) (fun h => hdead x h hx)
    · exact hp.notomb f (hrest f hfr) x hx hxt
  case sset =>
    intro x
    rw [append_sset]
    exact hp.sset x
  case stat =>
    intro x
    rw [hdatas, status_cons]
    by_cases hxd : x ∈ fsMeasSeries p.datas m
    · have h1 : x ∉ d'.sset := fun h => ((hsset x).mp h).2 hxd
      have h2 : x ∈ d'.tomb := (htomb x).mpr (Or.inr hxd)
      rw [if_neg h1, if_pos h2]
      exact ⟨fun h => (by cases h), fun h => absurd h.1 (hdead x hxd)⟩
    · rw [← hp.stat x, hdatas0, status_cons]
      simp only [hsset x, htomb x, hxd, not_false_eq_true, and_true, or_false]
  case mflive =>
    intro x t hx ht hpx
    rw [hdatas, firstSome_cons, (hacc t.name (hno x hx t ht)).1, ← firstSome_cons, ← hdatas0]
    exact hp.mflive x t hx ht hpx
  case mfdead =>
    intro n hn
    rw [hdatas, firstSome_cons] at hn
    by_cases hnm : n = m
    · rw [hnm, hflagm] at hn; cases hn
    · rw [(hacc n hnm).1, ← firstSome_cons, ← hdatas0] at hn
      exact (hp.mfdead n hn).imp_right (fun h => h.resolve_right hnm)

end Influx.Model.TSI
