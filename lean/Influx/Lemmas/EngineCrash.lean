/-
  Lemmas.EngineCrash — the WAL invariant of the engine model and what `Engine.Open` recovers.

  `WalInv s`: the WAL segments split into the segments that were closed when the in-flight
  snapshot began (`pre`, replaying to the snapshot's content `S`) and the rest (`mid` + current
  segment, replaying to the hot store — both from an empty cache and on top of `S`).
  It is kept by every operation that `opSafe` admits, the non-contiguous compaction excepted
  (`good_step`), and from it: opening the durable image of a state that satisfies both invariants
  gives back the same abstraction (`abs_openWith_same`), also inside FileStore.replace of a
  compaction (`abs_step_restart`); a torn last record gives the abstraction before that write, and
  a crash in the middle of a delete gives, cell by cell, the state before or after the delete.
-/
import Influx.Lemmas.Engine

namespace Influx.Model.Engine

def segRecs (segs : List Segment) : List WalEntry := segs.flatMap (·.recs)
def applyAll (c : Log) (rs : List WalEntry) : Log := rs.foldl applyWalEntry c
def curRecs (c : Option Segment) : List WalEntry := segRecs c.toList

theorem replay_eq (segs : List Segment) : replay segs = applyAll [] (segRecs segs) := rfl

theorem applyAll_append (c : Log) (a b : List WalEntry) : applyAll c (a ++ b) = applyAll (applyAll c a) b :=
  List.foldl_append

theorem applyAll_nil (c : Log) : applyAll c [] = c := rfl

theorem segRecs_append (a b : List Segment) : segRecs (a ++ b) = segRecs a ++ segRecs b :=
  List.flatMap_append

theorem segRecs_nil : segRecs [] = [] := rfl

theorem segRecs_filter_nonempty (segs : List Segment) :
    segRecs (segs.filter fun g => !g.recs.isEmpty) = segRecs segs := by
  induction segs with
  | nil => rfl
  | cons g segs ih =>
    rw [List.filter_cons]
    split
    · exact congrArg (g.recs ++ ·) ih
    · next h =>
      have hg : g.recs = [] := List.isEmpty_iff.mp (by simpa using h)
      rw [ih, ← List.singleton_append (l := segs), segRecs_append]
      exact (congrArg (· ++ segRecs segs) (hg ▸ List.append_nil g.recs : segRecs [g] = [])).symm

theorem dropLast_append_getLast? {α} (l : List α) : l.dropLast ++ l.getLast?.toList = l := by
  induction l with
  | nil => rfl
  | cons a l ih =>
    cases l with
    | nil => rfl
    | cons b l => rw [List.dropLast_cons_cons, List.getLast?_cons_cons, List.cons_append, ih]

theorem curRecs_some (c : Segment) : curRecs (some c) = c.recs := List.append_nil _

theorem curRecs_none : curRecs none = [] := rfl

structure WalSplit (s : State) (pre mid : List Segment) (S : Log) : Prop where
  closed_eq : s.walClosed = pre ++ mid
  pre_ids : s.phase ≠ .idle → pre.map (·.id) = s.snapClosed
  pre_idle : s.phase = .idle → pre = []
  pre_S : applyAll [] (segRecs pre) = S
  post_hot : applyAll [] (segRecs mid ++ curRecs s.walCur) = s.hot
  post_S : applyAll S (segRecs mid ++ curRecs s.walCur) = S ++ s.hot
  S_snap : (s.phase = .begun ∨ s.phase = .written ∨ s.phase = .replaced ∨ s.phase = .failed) → S = s.snap
  S_files : s.phase = .cleared →
    ∀ k t v, Log.get S k t = some v → Log.get (filesLog s.files) k t = some v

structure WalInv (s : State) : Prop where
  ids : (s.wal.map (·.id)).Pairwise (· < ·)
  ids_lt : ∀ g ∈ s.wal, g.id < s.nextSeg
  split : ∃ pre mid S, WalSplit s pre mid S

theorem walinv_init : WalInv init :=
  ⟨List.Pairwise.nil, nofun, [], [], [], rfl, fun _ => rfl, fun _ => rfl, rfl, rfl, rfl, fun _ => rfl, nofun⟩

theorem WalInv.congr {s s' : State} (h : WalInv s)
    (e : (s'.walClosed, s'.walCur, s'.nextSeg, s'.phase, s'.snapClosed, s'.hot, s'.snap) =
      (s.walClosed, s.walCur, s.nextSeg, s.phase, s.snapClosed, s.hot, s.snap))
    (hf : s.phase = .cleared → ∀ k t, Log.get (filesLog s'.files) k t = Log.get (filesLog s.files) k t) :
    WalInv s' := by
  simp only [Prod.mk.injEq] at e
  obtain ⟨e1, e2, e3, e4, e5, e6, e7⟩ := e
  obtain ⟨pre, mid, S, hs⟩ := h.split
  have hw : s'.wal = s.wal := by rw [State.wal, e1, e2]; rfl
  refine ⟨hw ▸ h.ids, hw ▸ e3 ▸ h.ids_lt, pre, mid, S, ?_⟩
  constructor <;> (try rw [e4]) <;> (try rw [e2, e6])
  · rw [e1]; exact hs.closed_eq
  · rw [e5]; exact hs.pre_ids
  · exact hs.pre_idle
  · exact hs.pre_S
  · exact hs.post_hot
  · exact hs.post_S
  · rw [e7]; exact hs.S_snap
  · intro hp k t v hv; rw [hf hp]; exact hs.S_files hp k t v hv

theorem walinv_touch {s : State} (h : WalInv s) : WalInv s.touch := h.congr rfl fun _ _ _ => rfl

theorem WalSplit.replay_all {s : State} {pre mid : List Segment} {S : Log} (h : WalSplit s pre mid S) :
    applyAll [] (segRecs s.wal) = S ++ s.hot := by
  rw [State.wal, h.closed_eq, segRecs_append, segRecs_append, List.append_assoc, applyAll_append, h.pre_S]
  exact h.post_S

theorem WalSplit.S_nil {s : State} {pre mid : List Segment} {S : Log} (h : WalSplit s pre mid S)
    (hp : s.phase = .idle) : S = [] := by
  rw [← h.pre_S, h.pre_idle hp]; rfl

/-- until `ClearSnapshot` the closed segments of the snapshot replay to the snapshot store -/
theorem WalSplit.S_eq_snap {s : State} {pre mid : List Segment} {S : Log} (h : WalSplit s pre mid S)
    (hi : Inv s) (hp : s.phase ≠ .cleared) : S = s.snap := by
  cases hq : s.phase
  case idle => rw [h.S_nil hq, hi.idle_snap hq]
  case cleared => exact absurd hq hp
  all_goals exact h.S_snap (by simp [hq])

def IdsOK (segs : List Segment) (n : Nat) : Prop :=
  (segs.map (·.id)).Pairwise (· < ·) ∧ ∀ x ∈ segs.map (·.id), x < n

theorem WalInv.idsOK {s : State} (h : WalInv s) : IdsOK s.wal s.nextSeg :=
  ⟨h.ids, List.forall_mem_map.mpr h.ids_lt⟩

theorem WalInv.of_idsOK {s : State} (h : IdsOK s.wal s.nextSeg) {pre mid : List Segment} {S : Log}
    (hs : WalSplit s pre mid S) : WalInv s :=
  ⟨h.1, List.forall_mem_map.mp h.2, pre, mid, S, hs⟩

theorem IdsOK.of_sublist {l l' : List Segment} {n : Nat} (h : IdsOK l n)
    (hs : (l'.map (·.id)).Sublist (l.map (·.id))) : IdsOK l' n :=
  ⟨h.1.sublist hs, fun x hx => h.2 x (hs.subset hx)⟩

theorem IdsOK.snoc {l l' : List Segment} {n : Nat} (h : IdsOK l n)
    (e : l'.map (·.id) = l.map (·.id) ++ [n]) : IdsOK l' (n + 1) := by
  unfold IdsOK
  rw [e, List.pairwise_append]
  refine ⟨⟨h.1, List.pairwise_singleton _ _, fun a ha b hb => ?_⟩, fun x hx => ?_⟩
  · rw [List.mem_singleton.mp hb]; exact h.2 a ha
  · rcases List.mem_append.mp hx with hx | hx
    · exact Nat.lt_succ_of_lt (h.2 x hx)
    · rw [List.mem_singleton.mp hx]; exact Nat.lt_succ_self n

theorem curRecs_appendCur (cur : Option Segment) (n : Nat) (r : WalEntry) :
    curRecs (some (appendCur cur n r).1) = curRecs cur ++ [r] := by
  cases cur <;> simp [appendCur, curRecs, segRecs]

theorem idsOK_walAppend {s : State} (h : IdsOK s.wal s.nextSeg) (r : WalEntry) :
    IdsOK (walAppend s r).wal (walAppend s r).nextSeg := by
  unfold walAppend State.wal appendCur
  cases hc : s.walCur
  · refine h.snoc ?_
    simp only [State.wal, hc, Option.toList_none, Option.toList_some, List.append_nil, List.map_append,
      List.map_cons, List.map_nil]
  · exact h.of_sublist (by simp [State.wal, hc])

theorem WalSplit.append {s : State} {pre mid : List Segment} {S : Log} (hs : WalSplit s pre mid S)
    {r : WalEntry} {hot' : Log}
    (h1 : applyWalEntry s.hot r = hot') (h2 : applyWalEntry (S ++ s.hot) r = S ++ hot') :
    WalSplit ({ walAppend s r with hot := hot' }) pre mid S := by
  refine ⟨hs.closed_eq, hs.pre_ids, hs.pre_idle, hs.pre_S, ?_, ?_, hs.S_snap, hs.S_files⟩
  · show applyAll [] (segRecs mid ++ curRecs (some (appendCur s.walCur s.nextSeg r).1)) = hot'
    rw [curRecs_appendCur, ← List.append_assoc, applyAll_append, hs.post_hot]
    exact h1
  · show applyAll S (segRecs mid ++ curRecs (some (appendCur s.walCur s.nextSeg r).1)) = S ++ hot'
    rw [curRecs_appendCur, ← List.append_assoc, applyAll_append, hs.post_S]
    exact h2

theorem walinv_append {s : State} (h : WalInv s) {pre mid : List Segment} {S : Log}
    (hs : WalSplit s pre mid S) {r : WalEntry} {hot' : Log}
    (h1 : applyWalEntry s.hot r = hot') (h2 : applyWalEntry (S ++ s.hot) r = S ++ hot') :
    WalInv ({ walAppend s r with hot := hot' }) :=
  .of_idsOK (idsOK_walAppend h.idsOK r) (hs.append h1 h2)

theorem walinv_stepWrite {s : State} (h : WalInv s) (es : Log) : WalInv (stepWrite s es) := by
  obtain ⟨pre, mid, S, hs⟩ := h.split
  exact (walinv_append h hs (r := .write es) rfl (List.append_assoc ..)).congr rfl fun _ _ _ => rfl

theorem mem_hotKeys {hot : Log} {ss : List Nat} {k : Key} :
    k ∈ hotKeys hot ss ↔ ∃ e ∈ hot, ss.contains e.key.series = true ∧ e.key = k := by
  simp only [hotKeys, Log.mem_keys, List.mem_filter, and_assoc]

/-- the replayed WAL delete entry has the effect of the live cache delete on the hot store -/
theorem hot_delRange (hot : Log) (ss : List Nat) (lo hi : Int) :
    applyWalEntry hot (.delRange (hotKeys hot ss) lo hi) = hot.filter fun e => !covered ss lo hi e.key e.ts := by
  refine List.filter_congr fun e he => ?_
  have : (hotKeys hot ss).contains e.key = ss.contains e.key.series := by
    rw [Bool.eq_iff_iff, List.contains_iff_mem, mem_hotKeys]
    exact ⟨fun ⟨e', _, hs, hk⟩ => hk ▸ hs, fun hs => ⟨e, he, hs, rfl⟩⟩
  rw [covered, this]

theorem hot_filter_noKeys {hot : Log} {ss : List Nat} (lo hi : Int) (h : (hotKeys hot ss).isEmpty = true) :
    (hot.filter fun e => !covered ss lo hi e.key e.ts) = hot := by
  refine List.filter_eq_self.mpr fun e he => ?_
  cases hc : ss.contains e.key.series
  · simp only [covered, hc, Bool.false_and, Bool.not_false]
  · have : e.key ∈ hotKeys hot ss := mem_hotKeys.mpr ⟨e, he, hc, rfl⟩
    rw [List.isEmpty_iff.mp h] at this; cases this

/-- … and leaves alone a snapshot store that holds nothing in the deleted range -/
theorem S_delRange {S : Log} {hot : Log} {ss : List Nat} {lo hi : Int}
    (hS : ∀ e ∈ S, covered ss lo hi e.key e.ts = false) :
    applyWalEntry (S ++ hot) (.delRange (hotKeys hot ss) lo hi) =
      S ++ hot.filter fun e => !covered ss lo hi e.key e.ts := by
  rw [← hot_delRange, applyWalEntry, applyWalEntry, List.filter_append]
  refine congrArg (· ++ _) (List.filter_eq_self.mpr fun e he => ?_)
  cases hk : (hotKeys hot ss).contains e.key
  · rfl
  · obtain ⟨e', _, hs, hk'⟩ := mem_hotKeys.mp (List.contains_iff_mem.mp hk)
    have := hS e he
    rw [covered, ← hk', hs, Bool.true_and] at this
    rw [Bool.true_and, this]; rfl

theorem walinv_stepDelete {s : State} (hinv : Inv s) (h : WalInv s) {ss : List Nat} {lo hi : Int}
    (hc : SnapClear s ss lo hi) (hl : commitLocked s.phase = false) : WalInv (stepDelete s ss lo hi) := by
  have hncl : s.phase ≠ .cleared := fun h' => by rw [h'] at hl; cases hl
  have h1 : WalInv { s with files := s.files.map (addTomb ss lo hi) } :=
    h.congr rfl fun hp => absurd hp hncl
  cases hk : (hotKeys s.hot ss).isEmpty
  · obtain ⟨pre, mid, S, hs⟩ := h1.split
    have hS : S = s.snap := hs.S_eq_snap (hinv.congr rfl fun hp => by rw [hp] at hl; cases hl) hncl
    rw [stepDelete_eq_keys hk]
    exact (walinv_append h1 hs (hot_delRange s.hot ss lo hi) (S_delRange (hS ▸ hc))).congr rfl
      fun _ _ _ => rfl
  · rw [stepDelete_eq_noKeys hk, hot_filter_noKeys lo hi hk]
    exact h1.congr rfl fun _ _ _ => rfl

/-- `WAL.CloseSegment` either does nothing (the current segment is empty) or rolls -/
theorem walClose_cases (s : State) :
    walCloseSegment s = s ∧ curRecs s.walCur = [] ∨
    walCloseSegment s = { s with walClosed := s.walClosed ++ s.walCur.toList, walCur := some ⟨s.nextSeg, []⟩,
                                 nextSeg := s.nextSeg + 1 } := by
  unfold walCloseSegment
  cases hr : rolls s.walCur
  · refine Or.inl ⟨rfl, ?_⟩
    cases hc : s.walCur with
    | none => rfl
    | some c =>
      rw [hc, rolls, Bool.not_eq_false'] at hr
      rw [curRecs_some, List.isEmpty_iff.mp hr]
  · exact Or.inr rfl

theorem walinv_walClose {s : State} (h : WalInv s) :
    WalInv (walCloseSegment s) ∧ curRecs (walCloseSegment s).walCur = [] := by
  rcases walClose_cases s with ⟨he, hc⟩ | he <;> rw [he]
  · exact ⟨h, hc⟩
  · obtain ⟨pre, mid, S, hs⟩ := h.split
    have hrec : segRecs (mid ++ s.walCur.toList) ++ curRecs (some ⟨s.nextSeg, []⟩) =
        segRecs mid ++ curRecs s.walCur := by
      rw [segRecs_append, curRecs_some, List.append_nil]; rfl
    refine ⟨.of_idsOK (h.idsOK.snoc ?_) (pre := pre) (mid := mid ++ s.walCur.toList) (S := S)
      ⟨?_, hs.pre_ids, hs.pre_idle, hs.pre_S, ?_, ?_, hs.S_snap, hs.S_files⟩, curRecs_some _⟩
    · simp only [State.wal, Option.toList_some, List.map_append, List.map_cons, List.map_nil]
    · show s.walClosed ++ s.walCur.toList = pre ++ (mid ++ s.walCur.toList)
      rw [hs.closed_eq, List.append_assoc]
    · exact hrec ▸ hs.post_hot
    · exact hrec ▸ hs.post_S

/-- `Cache.Snapshot` (fresh, or retried with nothing written since) right after `WAL.CloseSegment`:
    every closed segment now belongs to the snapshot -/
theorem WalSplit.begin {s s' : State} {pre mid : List Segment} {S : Log} (hs : WalSplit s pre mid S)
    (hc : curRecs s.walCur = [])
    (e : (s'.walClosed, s'.walCur, s'.phase, s'.snapClosed, s'.hot) =
      (s.walClosed, s.walCur, .begun, walClosedIds s, []))
    (hsnap : s'.snap = S ++ s.hot) : WalSplit s' s.walClosed [] s'.snap := by
  simp only [Prod.mk.injEq] at e
  obtain ⟨e1, e2, e3, e4, e5⟩ := e
  have hS := hs.post_S
  rw [hc, List.append_nil] at hS
  constructor <;> try rw [e3]
  · rw [e1, List.append_nil]
  · exact fun _ => e4.symm
  · nofun
  · rw [hsnap, hs.closed_eq, segRecs_append, applyAll_append, hs.pre_S, hS]
  · rw [e2, hc, e5]; rfl
  · rw [e2, hc, e5, List.append_nil, List.append_nil]; rfl
  · exact fun _ => rfl
  · nofun

/-- an empty snapshot is dropped (`Size() == 0`): its segments are ordinary closed segments again -/
theorem WalSplit.abandon {s s' : State} {pre mid : List Segment} {S : Log} (hs : WalSplit s pre mid S)
    (hS : S = []) (e : (s'.walClosed, s'.walCur, s'.hot, s'.phase) = (s.walClosed, s.walCur, s.hot, .idle)) :
    WalSplit s' [] (pre ++ mid) [] := by
  simp only [Prod.mk.injEq] at e
  obtain ⟨e1, e2, e3, e4⟩ := e
  have hall : applyAll [] (segRecs (pre ++ mid) ++ curRecs s'.walCur) = s'.hot := by
    rw [e2, e3, segRecs_append, List.append_assoc, applyAll_append, hs.pre_S, hs.post_S, hS]; rfl
  exact ⟨e1 ▸ hs.closed_eq, fun h' => absurd e4 h', fun _ => rfl, rfl, hall, hall,
    fun h' => by rw [e4] at h'; simp at h', fun h' => nomatch e4 ▸ h'⟩

/-- nothing has been written since the failed snapshot attempt that is being retried -/
def RetryClean (s : State) : Prop := s.phase = .failed → s.hot = []

instance (s : State) : Decidable (RetryClean s) := by unfold RetryClean; exact inferInstance

theorem walinv_stepSnapBegin {s : State} (h : WalInv s) (hrc : RetryClean s) :
    WalInv (stepSnapBegin s).1 := by
  obtain ⟨h1, hc⟩ := walinv_walClose h
  obtain ⟨pre, mid, S, hs⟩ := h1.split
  unfold stepSnapBegin
  cases hp : s.phase <;> simp only
  case idle =>
    exact ⟨h1.ids, h1.ids_lt, _, _, _, hs.begin hc rfl (by rw [hs.S_nil hp]; rfl)⟩
  case failed =>
    -- retry of the stale snapshot store: S = snap, and nothing is in the hot store
    have hh : (walCloseSegment s).hot = [] := hrc hp
    exact ⟨h1.ids, h1.ids_lt, _, _, _, hs.begin hc (by rw [← hh])
      (by rw [hh, List.append_nil]; exact (hs.S_snap (by simp [hp])).symm)⟩
  case begun | written => exact h1.congr rfl fun _ _ _ => rfl
  all_goals exact walinv_touch h

theorem filter_not_pre {pre mid : List Segment} (hp : ((pre ++ mid).map (·.id)).Pairwise (· < ·)) :
    (pre ++ mid).filter (fun g => !(pre.map (·.id)).contains g.id) = mid := by
  rw [List.map_append, List.pairwise_append] at hp
  rw [List.filter_append, List.filter_eq_nil_iff.mpr, List.filter_eq_self.mpr, List.nil_append]
  · intro g hg
    cases hc : (pre.map (·.id)).contains g.id
    · rfl
    · exact absurd (hp.2.2 _ (List.contains_iff_mem.mp hc) _ (List.mem_map_of_mem hg)) (Nat.lt_irrefl _)
  · intro g hg
    rw [List.contains_iff_mem.mpr (List.mem_map_of_mem hg)]; decide

theorem walinv_stepSnapStep {s : State} (hi : Inv s) (h : WalInv s) : WalInv (stepSnapStep s) := by
  obtain ⟨pre, mid, S, hs⟩ := h.split
  unfold stepSnapStep
  cases hp : s.phase <;> simp only
  case idle | failed => exact h
  case cleared =>
    -- cleared → idle: the closed segments go
    have hpid := hs.pre_ids (by simp [hp])
    have hids := h.ids
    rw [State.wal, hs.closed_eq, List.map_append] at hids
    have hfil : s.walClosed.filter (fun g => !s.snapClosed.contains g.id) = mid := by
      rw [hs.closed_eq, ← hpid]
      exact filter_not_pre (List.pairwise_append.mp hids).1
    refine .of_idsOK (h.idsOK.of_sublist ?_) (pre := []) (mid := mid) (S := [])
      ⟨hfil, fun h' => absurd rfl h', fun _ => rfl, rfl, hs.post_hot, hs.post_hot, fun h' => by simp at h',
        nofun⟩
    show ((s.walClosed.filter (fun g => !s.snapClosed.contains g.id) ++ s.walCur.toList).map (·.id)).Sublist _
    rw [hfil, State.wal, hs.closed_eq, List.append_assoc]
    exact (List.sublist_append_right pre _).map _
  all_goals
    have hS : S = s.snap := hs.S_eq_snap hi (by simp [hp])
    have hne : s.phase ≠ .idle := by simp [hp]
  case begun =>
    split
    · next he => exact ⟨h.ids, h.ids_lt, _, _, _, hs.abandon (hS.trans (List.isEmpty_iff.mp he)) rfl⟩
    · exact ⟨h.ids, h.ids_lt, pre, mid, S, hs.closed_eq, fun _ => hs.pre_ids hne, nofun,
        hs.pre_S, hs.post_hot, hs.post_S, fun _ => hS, nofun⟩
  case written =>
    exact ⟨h.ids, h.ids_lt, pre, mid, S, hs.closed_eq, fun _ => hs.pre_ids hne, nofun,
      hs.pre_S, hs.post_hot, hs.post_S, fun _ => hS, nofun⟩
  case replaced =>
    exact ⟨h.ids, h.ids_lt, pre, mid, S, hs.closed_eq, fun _ => hs.pre_ids hne, nofun,
      hs.pre_S, hs.post_hot, hs.post_S, fun h' => by simp at h', fun _ => hS ▸ hi.replaced_le hp⟩

theorem phase_stepSnapBegin {s : State} (hp : s.phase = .idle ∨ s.phase = .failed) :
    (stepSnapBegin s).1.phase = .begun := by
  unfold stepSnapBegin
  rcases hp with hp | hp <;> rw [hp]

theorem walinv_stepSnapFail {s : State} (h : WalInv s) (hrc : RetryClean s) :
    WalInv (stepSnapFail s).1 := by
  have hB := walinv_stepSnapBegin h hrc
  rcases stepSnapFail_cases s with he | ⟨he, hsn, hp⟩ | ⟨he, hp⟩ <;> rw [he]
  · exact walinv_touch h
  all_goals
    have hph := phase_stepSnapBegin hp
    obtain ⟨pre, mid, S, hs⟩ := hB.split
  · exact ⟨hB.ids, hB.ids_lt, _, _, _, hs.abandon ((hs.S_snap (Or.inl hph)).trans hsn) rfl⟩
  · -- the attempt fails: the snapshot store and its closed segments stay as they are
    exact ⟨hB.ids, hB.ids_lt, pre, mid, S, hs.closed_eq, fun _ => hs.pre_ids (by simp [hph]), nofun,
      hs.pre_S, hs.post_hot, hs.post_S, fun _ => hs.S_snap (Or.inl hph), nofun⟩

theorem walinv_stepSnapTo {s : State} (hi : Inv s) (h : WalInv s) (p : Phase) : WalInv (stepSnapTo s p) :=
  (stepSnapTo_ind (P := fun s => Inv s ∧ WalInv s)
    (fun _ h' => ⟨inv_stepSnapStep h'.1, walinv_stepSnapStep h'.1 h'.2⟩) ⟨hi, h⟩ p).2

theorem walinv_openWith (s : State) (fs : List TsmFile) {segs : List Segment} (h : IdsOK segs s.nextSeg) :
    WalInv (openWith s fs segs) := by
  have hwal : (openWith s fs segs).wal = segs.filter fun g => !g.recs.isEmpty :=
    dropLast_append_getLast? _
  have hrep : applyAll [] (segRecs (segs.filter fun g => !g.recs.isEmpty).dropLast ++
      curRecs (segs.filter fun g => !g.recs.isEmpty).getLast?) = replay (segs.filter fun g => !g.recs.isEmpty) := by
    rw [curRecs, ← segRecs_append, dropLast_append_getLast?, replay_eq]
  exact .of_idsOK (hwal ▸ h.of_sublist (List.filter_sublist.map _)) (pre := []) (S := [])
    ⟨rfl, fun h' => absurd rfl h', fun _ => rfl, rfl, hrep, hrep, fun h' => by simp [openWith] at h',
      nofun⟩

theorem abs_openWith (s : State) (fs : List TsmFile) (segs : List Segment) (k : Key) (t : Int) :
    (openWith s fs segs).abs k t =
      (Log.get (applyAll [] (segRecs segs)) k t).or (Log.get (filesLog fs) k t) := by
  simp only [State.abs_eq, openWith, replay_eq, segRecs_filter_nonempty, Log.get_nil, Option.none_or]

/-- **Recovery**: opening a durable image of a state (WAL segments holding the state's records,
    and any file list that answers every cell like the state's files) gives back the same abstraction. -/
theorem abs_openWith_same {s : State} (hi : Inv s) (h : WalInv s) (s₀ : State) {fs : List TsmFile}
    {segs : List Segment} (hr : segRecs segs = segRecs s.wal)
    (hg : ∀ k t, Log.get (filesLog fs) k t = Log.get (filesLog s.files) k t) (k : Key) (t : Int) :
    (openWith s₀ fs segs).abs k t = s.abs k t := by
  obtain ⟨pre, mid, S, hs⟩ := h.split
  rw [abs_openWith, hr, hs.replay_all, Log.get_append, hg, State.abs_eq, Option.or_assoc]
  by_cases hp : s.phase = .cleared
  · -- the snapshot store is gone, its content is in the files
    rw [hi.cleared_snap hp]
    cases hS : Log.get S k t with
    | none => rfl
    | some v => rw [hs.S_files hp k t v hS]; rfl
  · rw [hs.S_eq_snap hi hp]

structure Good (s : State) : Prop where
  inv : Inv s
  wal : WalInv s

theorem good_init : Good init := ⟨inv_init, walinv_init⟩

/-- what a history must avoid for the crash theorems: a delete that covers a point of the
    in-flight (or failed, pending) snapshot store — F1 —, and a retry of a failed snapshot
    attempt after further writes — the retry's WAL removal loses them (F18) -/
def opSafe (s : State) : Op → Bool
  | .delete ss lo hi => decide (SnapClear s ss lo hi)
  | .snapBegin | .snapFail => decide (RetryClean s)
  | _ => true

theorem ids_dropLastRec (closed : List Segment) (cur : Option Segment) :
    (closed ++ (dropLastRec cur).toList).map (·.id) = (closed ++ cur.toList).map (·.id) := by
  cases cur <;> simp [dropLastRec]

/-- the segment files a crash leaves, the last record possibly torn off -/
theorem idsOK_crash {s : State} (h : WalInv s) (tear : Bool) :
    IdsOK (s.walClosed ++ (if tear && s.lastRec then dropLastRec s.walCur else s.walCur).toList) s.nextSeg := by
  have e : (s.walClosed ++ (if tear && s.lastRec then dropLastRec s.walCur else s.walCur).toList).map (·.id) =
      s.wal.map (·.id) := by
    split
    · exact ids_dropLastRec _ _
    · rfl
  exact h.idsOK.of_sublist (e ▸ List.Sublist.refl _)

theorem good_step {s : State} (h : Good s) {op : Op} (hop : ∀ idxs, op ≠ .compactSet idxs)
    (hs : opSafe s op = true) : Good (step s op).1 := by
  refine ⟨inv_step h.inv hop, ?_⟩
  obtain ⟨hinv, h⟩ := h
  cases op with
  | write es => exact walinv_stepWrite h es
  | delete ss lo hi =>
    cases hl : commitLocked s.phase
    case true => rw [step_delete_blocked hl]; exact walinv_touch h
    case false => rw [step_delete_ok hl]; exact walinv_stepDelete hinv h (of_decide_eq_true hs) hl
  | snapBegin => exact walinv_stepSnapBegin h (of_decide_eq_true hs)
  | snapFail => exact walinv_stepSnapFail h (of_decide_eq_true hs)
  | snapStep => exact walinv_touch (walinv_stepSnapStep hinv h)
  | snapTo p => exact walinv_touch (walinv_stepSnapTo hinv h p)
  | compact i j =>
    cases hv : validGroup s.files i j
    case true => rw [step_compact_valid hv]; exact h.congr rfl fun _ => get_filesLog_compact _ _ _ (validGroup_le hv)
    case false => rw [step_compact_bad hv]; exact walinv_touch h
  | compactSet idxs => exact absurd rfl (hop idxs)
  | read | files => exact walinv_touch h
  | crash tear => exact walinv_openWith _ _ (idsOK_crash h tear)
  | compactCrash => exact walinv_openWith _ _ h.idsOK
  | deleteCrash ss lo hi =>
    cases hl : commitLocked s.phase
    case true => rw [step_deleteCrash_blocked hl]; exact walinv_touch h
    case false => rw [step_deleteCrash_ok hl]; exact walinv_openWith _ _ h.idsOK

theorem segRecs_dropLast_appendCur (closed : List Segment) (cur : Option Segment) (n : Nat) (r : WalEntry) :
    segRecs (closed ++ (dropLastRec (some (appendCur cur n r).1)).toList) = segRecs (closed ++ cur.toList) := by
  cases cur <;> simp [dropLastRec, appendCur, segRecs]

theorem abs_tornWrite {s : State} (h : Good s) (es : Log) (k : Key) (t : Int) :
    (stepCrash (stepWrite s es) true).abs k t = s.abs k t :=
  abs_openWith_same h.inv h.wal _ (segRecs_dropLast_appendCur ..) (fun _ _ => rfl) k t

/-- the image of a delete whose WAL record is torn = the image of a delete interrupted after
    its tombstones -/
theorem abs_tornDelete {s : State} {ss : List Nat} {lo hi : Int}
    (hk : (hotKeys s.hot ss).isEmpty = false) (k : Key) (t : Int) :
    (stepCrash (stepDelete s ss lo hi) true).abs k t =
      (openWith s (s.files.map (addTomb ss lo hi)) s.wal).abs k t := by
  rw [stepDelete_eq_keys hk]
  unfold stepCrash
  simp only [Bool.and_self, if_true]
  rw [abs_openWith, abs_openWith]
  exact congrArg (fun r => (Log.get (applyAll [] r) k t).or _)
    (segRecs_dropLast_appendCur s.walClosed s.walCur s.nextSeg _)

/-- **A delete interrupted after its tombstones**: every cell is as before the delete, or
    (only inside the deleted range) empty. -/
theorem abs_deleteCrash {s : State} (h : Good s) {ss : List Nat} {lo hi : Int}
    (hl : commitLocked s.phase = false) (k : Key) (t : Int) :
    (openWith s (s.files.map (addTomb ss lo hi)) s.wal).abs k t = s.abs k t ∨
    (covered ss lo hi k t = true ∧ (openWith s (s.files.map (addTomb ss lo hi)) s.wal).abs k t = none) := by
  obtain ⟨pre, mid, S, hs⟩ := h.wal.split
  rw [abs_openWith, hs.replay_all, Log.get_append, filesLog_addTomb, get_filter_covered, State.abs_eq,
    hs.S_eq_snap h.inv fun hp => by rw [hp] at hl; cases hl]
  split
  · next hc =>
    cases Log.get s.hot k t with
    | some v => exact Or.inl rfl
    | none =>
      cases Log.get s.snap k t with
      | some v => exact Or.inl rfl
      | none => exact Or.inr ⟨hc, rfl⟩
  · exact Or.inl Option.or_assoc

theorem get_filesLog_drop_le (grp : List TsmFile) (n : Nat) (k : Key) (t : Int) :
    (Log.get (filesLog grp) k t).or (Log.get (filesLog (grp.drop n)) k t) = Log.get (filesLog grp) k t := by
  conv => lhs; arg 1; rw [← List.take_append_drop n grp]
  conv => rhs; rw [← List.take_append_drop n grp]
  rw [filesLog_append, Log.get_append]
  cases Log.get (filesLog (grp.drop n)) k t <;> cases Log.get (filesLog (grp.take n)) k t <;> rfl

/-- the directory images inside `FileStore.replace`: the old list, the new list, or the new file
    next to the not yet removed members of the group -/
theorem compactCrashFiles_cases (fs : List TsmFile) (i j : Nat) (pt : CPoint) (n : Nat) :
    compactCrashFiles fs i j pt n = fs ∨ compactCrashFiles fs i j pt n = compactFiles fs i j ∨
    ∃ m, compactCrashFiles fs i j pt n =
      fs.take i ++ (groupOf fs i j).drop m ++ compactOut (groupOf fs i j) ++ fs.drop (j + 1) := by
  unfold compactCrashFiles
  cases pt <;> simp only
  · split
    · exact Or.inl rfl
    · exact Or.inr (Or.inl rfl)
  · split
    · exact Or.inr (Or.inr ⟨0, rfl⟩)
    · exact Or.inr (Or.inl rfl)
  · split
    · exact Or.inr (Or.inr ⟨n, rfl⟩)
    · exact Or.inr (Or.inl rfl)

theorem get_compactCrashFiles (fs : List TsmFile) (i j : Nat) (hij : i ≤ j) (pt : CPoint) (n : Nat)
    (k : Key) (t : Int) :
    Log.get (filesLog (compactCrashFiles fs i j pt n)) k t = Log.get (filesLog fs) k t := by
  rcases compactCrashFiles_cases fs i j pt n with he | he | ⟨m, he⟩ <;> rw [he]
  · exact get_filesLog_compact fs i j hij k t
  · -- the new file is shadowed by nothing and shadows only equal answers
    conv => rhs; rw [split_group fs hij]
    simp only [filesLog_append, Log.get_append, get_compactOut]
    rw [← Option.or_assoc (o₁ := Log.get (filesLog (groupOf fs i j)) k t), get_filesLog_drop_le]

/-- a restart that tears nothing: a crash at a step boundary or inside FileStore.replace -/
def Op.restart : Op → Bool
  | .crash false | .compactCrash .. => true
  | _ => false

theorem abs_step_restart {s : State} (h : Good s) {op : Op} (hq : op.restart = true) (k : Key) (t : Int) :
    (step s op).1.abs k t = s.abs k t := by
  cases op with
  | crash tear =>
    cases tear
    · exact abs_openWith_same h.inv h.wal _ rfl (fun _ _ => rfl) k t
    · cases hq
  | compactCrash i j pt n =>
    refine abs_openWith_same h.inv h.wal _ rfl (fun k t => ?_) k t
    split
    · next hv => exact get_compactCrashFiles _ _ _ (validGroup_le hv) _ _ k t
    · rfl
  | _ => cases hq

end Influx.Model.Engine
