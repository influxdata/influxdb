/-
  Lemmas.TsmTombBytes — the v4 tombstone file reads back what was committed
  (the crash atomicity of the commit is in Lemmas.TsmCrash).
-/
import Influx.Model.TsmTombBytes
import Influx.Lemmas.TsmRoundtrip

namespace Influx.Tsm
open Influx.Generated.TsmLayout

structure WFTomb (t : Tombstone) : Prop where
  klen : t.key.length < 4294967296
  lo : inInt64 t.min
  hi : inInt64 t.max

theorem encTomb_ne_nil (t : Tombstone) : encTomb t ≠ [] := by
  rw [encTomb, List.append_assoc, List.append_assoc]; exact List.cons_ne_nil _ _

theorem encTombs_length_ge (ts : List Tombstone) : ts.length ≤ (encTombs ts).length :=
  length_le_flatMap_length _ encTomb_ne_nil ts

theorem decTombs_enc (ts : List Tombstone) (h : ∀ t ∈ ts, WFTomb t) (fuel : Nat) (hf : ts.length < fuel) :
    decTombs fuel (encTombs ts) = some ts := by
  induction ts generalizing fuel with
  | nil =>
    cases fuel with
    | zero => cases hf
    | succ f => rfl
  | cons t ts ih =>
    cases fuel with
    | zero => cases hf
    | succ f =>
      obtain ⟨key, lo, hi⟩ := t
      have hw := h ⟨key, lo, hi⟩ List.mem_cons_self
      have hk : key.length < 256 ^ 4 := hw.klen
      have harg : encTombs (⟨key, lo, hi⟩ :: ts) =
          be 4 key.length ++ (key ++ (be 8 (u64 lo) ++ (be 8 (u64 hi) ++ encTombs ts))) := by
        simp only [encTombs, List.flatMap_cons, encTomb, List.append_assoc]
      have l2 : ¬ (key ++ (be 8 (u64 lo) ++ (be 8 (u64 hi) ++ encTombs ts))).length < key.length + 16 := by
        rw [List.length_append, List.length_append, be_length, List.length_append, be_length]; omega
      rw [harg, decTombs, if_neg (by rw [List.length_append, be_length]; exact Nat.not_lt.mpr (Nat.le_add_right _ _))]
      dsimp only
      rw [drop_be, unbe_take_be 4 _ _ hk, if_neg l2, List.drop_left' rfl, List.take_left' rfl,
        show (16 : Nat) = 8 + 8 from rfl, ← List.drop_drop, drop_be, drop_be, i64_unbe_take _ hw.lo,
        i64_unbe_take _ hw.hi, ih (fun t ht => h t (List.mem_cons_of_mem _ ht)) f (Nat.lt_of_succ_lt_succ hf)]

theorem walkMembers_enc (G : Gzip) (ms : List (List Tombstone)) (h : ∀ m ∈ ms, ∀ t ∈ m, WFTomb t)
    (fuel : Nat) (hf : ms.length < fuel) :
    walkMembers G fuel (ms.flatMap fun m => G.zip (encTombs m)) = some ms.flatten := by
  induction ms generalizing fuel with
  | nil =>
    cases fuel with
    | zero => cases hf
    | succ f => rfl
  | cons m ms ih =>
    cases fuel with
    | zero => cases hf
    | succ f =>
      rw [List.flatMap_cons, walkMembers,
        List.isEmpty_eq_false_iff.mpr (List.append_ne_nil_of_left_ne_nil (G.ne _) _),
        if_neg Bool.false_ne_true, G.spec]
      dsimp only
      rw [decTombs_enc m (h m List.mem_cons_self) _ (Nat.lt_succ_of_le (encTombs_length_ge m)),
        ih (fun m' hm' => h m' (List.mem_cons_of_mem _ hm')) f (Nat.lt_of_succ_lt_succ hf)]
      rfl

theorem members_length_ge (G : Gzip) (ms : List (List Tombstone)) :
    ms.length ≤ (ms.flatMap fun m => G.zip (encTombs m)).length :=
  length_le_flatMap_length _ (fun _ => G.ne _) ms

theorem walkBytes_tfile (G : Gzip) (ms : List (List Tombstone)) (h : ∀ m ∈ ms, ∀ t ∈ m, WFTomb t) :
    walkBytes G (tfileBytes G ms) = some ms.flatten := by
  unfold walkBytes tfileBytes tombHeader
  have hh : headerSize = 4 := rfl
  rw [hh]
  rw [if_neg (by simp)]
  rw [unbe_take_be 4 v4header _ (by decide), drop_be]
  simp only [ne_eq, not_true_eq_false, if_false]
  apply walkMembers_enc G ms h
  have := members_length_ge G ms
  simp only [List.length_append, be_length]; omega

theorem tfileBytes_snoc (G : Gzip) (ms : List (List Tombstone)) (new : List Tombstone) :
    tfileBytes G (ms ++ [new]) = tfileBytes G ms ++ G.zip (encTombs new) := by
  simp [tfileBytes, List.flatMap_append]

theorem walk_commit (G : Gzip) (ms : List (List Tombstone)) (new : List Tombstone)
    (h : ∀ m ∈ ms, ∀ t ∈ m, WFTomb t) (hn : ∀ t ∈ new, WFTomb t) :
    walkBytes G (tfileBytes G ms ++ G.zip (encTombs new)) = some (ms.flatten ++ new) := by
  rw [← tfileBytes_snoc, walkBytes_tfile G (ms ++ [new])]
  · simp
  · intro m hm t ht
    rcases List.mem_append.mp hm with hm | hm
    · exact h m hm t ht
    · simp at hm; subst hm; exact hn t ht

end Influx.Tsm
