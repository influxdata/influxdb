/-
  Lemmas.CompactDedup — the decode pass and the outer loop of
  `combine<T>(dedup = true)` preserve the frontier invariant and the content.
-/
import Influx.Lemmas.CompactKey

namespace Influx.Model.Compact
open Influx.Generated

variable {V : Type}

def SameStatic (a b : Block V) : Prop :=
  a.minTime = b.minTime ∧ a.maxTime = b.maxTime ∧ a.pts = b.pts ∧ a.tombstones = b.tombstones

theorem SameStatic.refl (a : Block V) : SameStatic a a := ⟨rfl, rfl, rfl, rfl⟩

theorem SameStatic.trans {a b c : Block V} (h : SameStatic a b) (h' : SameStatic b c) : SameStatic a c :=
  ⟨h.1.trans h'.1, h.2.1.trans h'.2.1, h.2.2.1.trans h'.2.2.1, h.2.2.2.trans h'.2.2.2⟩

theorem SameStatic.wf {a b : Block V} (h : SameStatic a b) (w : BlockWF b) : BlockWF a := by
  obtain ⟨h1, h2, h3, _⟩ := h
  exact ⟨h3 ▸ w.asc, by rw [h3, h1]; exact w.hmin, by rw [h3, h2]; exact w.hmax, h3 ▸ w.inr⟩

def SameStaticL : List (Block V) → List (Block V) → Prop
  | [], [] => True
  | a :: as, b :: bs => SameStatic a b ∧ SameStaticL as bs
  | _, _ => False

theorem SameStaticL.refl : ∀ (l : List (Block V)), SameStaticL l l
  | [] => trivial
  | a :: as => ⟨SameStatic.refl a, SameStaticL.refl as⟩

theorem adjFrom_map {f : Block V → Block V} (hf : ∀ b, SameStatic (f b) b) {pm : Int} {L : List (Block V)}
    (h : AdjFrom pm L) : AdjFrom pm (L.map f) := by
  induction L generalizing pm with
  | nil => trivial
  | cons b L ih => exact ⟨(hf b).2.1 ▸ h.1, (hf b).1 ▸ ih h.2⟩

theorem adjOK_map {f : Block V → Block V} (hf : ∀ b, SameStatic (f b) b) {L : List (Block V)}
    (h : AdjOK L) : AdjOK (L.map f) := by
  cases L with
  | nil => trivial
  | cons b L =>
    show AdjFrom (f b).minTime (L.map f)
    rw [(hf b).1]; exact adjFrom_map hf h

theorem BlockSt.advance {T M : Int} {b b' : Block V} (s : BlockSt T b) (hs : SameStatic b' b)
    (hmin : b'.readMin ≤ b.readMin) (hmax : b.readMax ≤ b'.readMax) (hM : b'.readMax ≤ M)
    (hcov : ∀ p ∈ b.pts, T < p.1 → p.1 ≤ M → b'.readMin ≤ p.1 ∧ p.1 ≤ b'.readMax) : BlockSt M b' := by
  refine ⟨hs.wf s.wf, fun p hp => ⟨fun hpM => ?_, fun h => Int.le_trans h.2 hM⟩, hM⟩
  rw [hs.2.2.1] at hp
  by_cases hpT : p.1 ≤ T
  · have := (s.cons p hp).mp hpT
    exact ⟨Int.le_trans hmin this.1, Int.le_trans this.2 hmax⟩
  · exact hcov p hp (Int.not_le.mp hpT) hpM

theorem BlockSt.mono {T M : Int} {b : Block V} (s : BlockSt T b) (hTM : T ≤ M)
    (h : ¬ b.maxTime ≤ T → M < b.minTime) : BlockSt M b := by
  refine s.advance (SameStatic.refl b) (Int.le_refl _) (Int.le_refl _) (Int.le_trans s.rmax hTM)
    fun p hp h1 h2 => ?_
  by_cases hr : b.maxTime ≤ T
  · exact absurd (Int.le_trans (s.wf.mem_range hp).2 hr) (Int.not_le.mpr h1)
  · exact absurd (Int.lt_of_lt_of_le (h hr) (s.wf.mem_range hp).1) (Int.not_lt.mpr h2)

theorem BlockSt.lookup_live_above {T M : Int} {b b' : Block V} (s : BlockSt T b) (s' : BlockSt M b')
    (hs : SameStatic b' b) (hTM : T ≤ M) {t : Int} (ht : M < t) :
    lookup (live b') t = lookup (live b) t := by
  rw [s'.lookup_live, s.lookup_live, hs.2.2.1, hs.2.2.2]
  have : T < t := Int.lt_of_le_of_lt hTM ht
  simp only [ht, this]

theorem BlockSt.lookup_live_le {T : Int} {b : Block V} (s : BlockSt T b) {t : Int} (ht : t ≤ T) :
    lookup (live b) t = none := by
  rw [s.lookup_live, if_neg fun h => Int.not_le.mpr h.1 ht]

/-- What the decode pass does to one block: the block with its new read marks, and the values
    it contributes to the merge (none if the block is passed over). -/
def passBlock (lo hi : Int) (b : Block V) : Block V × Pts V :=
  if !CompactBlock.overlapsTimeRange b lo hi || CompactBlock.read b then (b, [])
  else
    let v2 := vInclude lo hi (unread b)
    let b2 := match v2.head?, v2.getLast? with
      | some a, some z => markRead b a.1 z.1
      | _, _ => b
    (b2, applyTombs b.tombstones v2)

theorem passBlock_static (lo hi : Int) (b : Block V) : SameStatic (passBlock lo hi b).1 b := by
  unfold passBlock
  split
  · exact SameStatic.refl b
  · dsimp only
    split <;> exact ⟨rfl, rfl, rfl, rfl⟩

/-- `decodePass` on a well-formed head block (the `v.MaxTime() != maxTime` repair does not fire) -/
theorem decodePass_cons (b : Block V) (bs : List (Block V)) (lo hi : Int) (mv : Pts V) (w : BlockWF b) :
    decodePass (b :: bs) lo hi mv =
      (decodePass bs lo hi (vMerge mv (passBlock lo hi b).2)).map
        (fun r => ((passBlock lo hi b).1 :: r.1, r.2.1, r.2.2)) := by
  rw [decodePass, passBlock]
  by_cases h : (!CompactBlock.overlapsTimeRange b lo hi || CompactBlock.read b) = true
  · rw [if_pos h, if_pos h, vMerge_nil_right]
    cases decodePass bs lo hi mv <;> rfl
  · rw [if_neg h, if_neg h]
    simp only [w.ptsMax, bind, Except.bind, ne_eq, not_true_eq_false, false_and, if_false]
    unfold unread
    cases hh : (vInclude lo hi (vExclude b.readMin b.readMax b.pts)).head? with
    | none =>
      have hnil := List.head?_eq_none_iff.mp hh
      simp only [hnil, List.length_nil, gt_iff_lt, Nat.lt_irrefl, if_false, pure, Except.pure, ]
      cases decodePass bs lo hi (vMerge mv (applyTombs b.tombstones [])) <;> rfl
    | some a =>
      have hne : vInclude lo hi (vExclude b.readMin b.readMax b.pts) ≠ [] := by
        intro h0; rw [h0] at hh; cases hh
      have hz := List.getLast?_eq_some_getLast hne
      simp only [List.length_pos_iff.mpr hne, if_true, ptsMin_of_head hh, ptsMax_of_last hz, hz, pure,
        Except.pure, markRead]
      cases decodePass bs lo hi (vMerge mv (applyTombs b.tombstones (vInclude lo hi (vExclude b.readMin b.readMax b.pts)))) <;> rfl

theorem passBlock_spec {T M m : Int} {b : Block V} (s : BlockSt T b) (hTM : T < M)
    (hC : CompactBlock.read b = false → (m ≤ b.minTime ∨ M < b.minTime)) :
    BlockSt M (passBlock m M b).1 ∧ Asc (passBlock m M b).2 ∧
    (∀ p ∈ (passBlock m M b).2, T < p.1 ∧ p.1 ≤ M) ∧
    (∀ t, t ≤ M → lookup (passBlock m M b).2 t = lookup (live b) t) := by
  have hmm := s.wf.min_le_max
  rw [← Bool.not_eq_true, s.read_iff'] at hC
  by_cases h : (!CompactBlock.overlapsTimeRange b m M || CompactBlock.read b) = true
  · rw [passBlock, if_pos h]
    -- passed over: read, or (by `hC`) entirely above `M`
    rw [Bool.or_eq_true, Bool.not_eq_true', ← Bool.not_eq_true, overlaps_iff, s.read_iff'] at h
    have sM : BlockSt M b := s.mono (Int.le_of_lt hTM) fun hr =>
      (hC hr).elim (fun h1 => Int.not_le.mp fun h2 => h.resolve_right hr ⟨h2, Int.le_trans h1 hmm⟩) id
    exact ⟨sM, asc_nil, by simp, fun t ht => (sM.lookup_live_le ht).symm⟩
  · rw [passBlock, if_neg h]
    rw [Bool.or_eq_true, Bool.not_eq_true', ← Bool.not_eq_true, overlaps_iff, s.read_iff', not_or,
      Classical.not_not] at h
    have hmin : m ≤ b.minTime := (hC h.2).resolve_right (Int.not_lt.mpr h.1.1)
    dsimp only
    have hv2 : ∀ p, p ∈ vInclude m M (unread b) ↔ p ∈ b.pts ∧ T < p.1 ∧ p.1 ≤ M := by
      intro p
      rw [mem_vInclude, s.mem_unread]
      constructor
      · rintro ⟨⟨h1, h2⟩, h3, h4⟩; exact ⟨h1, h2, h4⟩
      · rintro ⟨h1, h2, h3⟩
        exact ⟨⟨h1, h2⟩, Int.le_trans hmin (s.wf.mem_range h1).1, h3⟩
    have hasc2 : Asc (vInclude m M (unread b)) := asc_vInclude (asc_unread s.wf) _ _
    refine ⟨?_, asc_applyTombs hasc2 _, fun p hp => ((hv2 p).mp (mem_applyTombs.mp hp).1).2, fun t ht => ?_⟩
    · -- the new read marks
      cases hh : (vInclude m M (unread b)).head? with
      | none =>
        have hnil := List.head?_eq_none_iff.mp hh
        show BlockSt M b
        refine s.advance (SameStatic.refl b) (Int.le_refl _) (Int.le_refl _)
          (Int.le_trans s.rmax (Int.le_of_lt hTM)) fun p hp h1 h2 => ?_
        have := (hv2 p).mpr ⟨hp, h1, h2⟩
        rw [hnil] at this; cases this
      | some a =>
        have hne : vInclude m M (unread b) ≠ [] := by intro h0; rw [h0] at hh; cases hh
        have hz := List.getLast?_eq_some_getLast hne
        rw [hz]
        have hzM := ((hv2 _).mp (List.mem_of_getLast? hz)).2.2
        refine s.advance ⟨rfl, rfl, rfl, rfl⟩ (ite_lt_le_right _ _) (le_ite_gt_right _ _)
          (ite_gt_le hzM (Int.le_trans s.rmax (Int.le_of_lt hTM))) fun p hp h1 h2 => ?_
        have hin := (hv2 p).mpr ⟨hp, h1, h2⟩
        exact ⟨Int.le_trans (ite_lt_le_left _ _) (asc_head_le hasc2 hh p hin),
          Int.le_trans (asc_le_last hasc2 hz p hin) (le_ite_gt_left _ _)⟩
    · -- below `m` the block has nothing
      rw [live, lookup_applyTombs, lookup_applyTombs, lookup_vInclude]
      split
      · rfl
      · split
        · rfl
        · next hm =>
          exact (lookup_eq_none (t := t) |>.mpr fun p hp heq =>
            hm ⟨heq ▸ Int.le_trans hmin (s.wf.mem_range (s.mem_unread.mp hp).1).1, ht⟩).symm

structure Advance (T T' : Int) (blocks : List (Block V)) (mv : Pts V) (blocks' : List (Block V)) (mv' : Pts V) :
    Prop where
  le : T ≤ T'
  hb : ∀ b ∈ blocks', BlockSt T' b
  asc : Asc mv'
  hle : ∀ p ∈ mv', p.1 ≤ T'
  orig : ∀ p ∈ mv', p ∈ mv ∨ T < p.1
  same : ∀ t, (restAt blocks' t).or (lookup mv' t) = (restAt blocks t).or (lookup mv t)

theorem Advance.trans {T T' T'' : Int} {B B' B'' : List (Block V)} {mv mv' mv'' : Pts V}
    (a : Advance T T' B mv B' mv') (b : Advance T' T'' B' mv' B'' mv'') : Advance T T'' B mv B'' mv'' :=
  ⟨Int.le_trans a.le b.le, b.hb, b.asc, b.hle,
    fun p hp => (b.orig p hp).elim (a.orig p) fun h => Or.inr (Int.lt_of_le_of_lt a.le h),
    fun t => (b.same t).trans (a.same t)⟩

theorem decodePass_spec {T M m : Int} (hTM : T < M) (L : List (Block V)) (mv : Pts V)
    (hst : ∀ b ∈ L, BlockSt T b)
    (hC : ∀ b ∈ L, CompactBlock.read b = false → (m ≤ b.minTime ∨ M < b.minTime))
    (hasc : Asc mv) (hle : ∀ p ∈ mv, p.1 ≤ M) :
    ∃ mv', decodePass L m M mv = .ok (L.map fun b => (passBlock m M b).1, M, mv') ∧
      Advance T M L mv (L.map fun b => (passBlock m M b).1) mv' := by
  have parts : ∃ mv', decodePass L m M mv = .ok (L.map fun b => (passBlock m M b).1, M, mv') ∧
      Asc mv' ∧ (∀ p ∈ mv', p.1 ≤ M) ∧ (∀ p ∈ mv', p ∈ mv ∨ T < p.1) ∧
      (∀ t, t ≤ M → lookup mv' t = (restAt L t).or (lookup mv t)) ∧
      (∀ t, M < t → restAt (L.map fun b => (passBlock m M b).1) t = restAt L t) := by
    induction L generalizing mv with
    | nil => exact ⟨mv, rfl, hasc, hle, fun _ => Or.inl, fun _ _ => rfl, fun _ _ => rfl⟩
    | cons b L ih =>
      have sb := hst b (by simp)
      obtain ⟨t1, t2, t3, t4⟩ := passBlock_spec sb hTM (hC b (by simp))
      obtain ⟨mv', e, r1, r2, r3, r4, r5⟩ := ih (vMerge mv (passBlock m M b).2)
        (fun x hx => hst x (List.mem_cons_of_mem _ hx)) (fun x hx => hC x (List.mem_cons_of_mem _ hx))
        (asc_vMerge hasc t2) (fun p hp => (mem_vMerge hp).elim (hle p) fun h => (t3 p h).2)
      refine ⟨mv', by rw [decodePass_cons _ _ _ _ _ sb.wf, e]; rfl, r1, r2, fun p hp => ?_, fun t ht => ?_,
        fun t ht => ?_⟩
      · exact (r3 p hp).elim (fun h => (mem_vMerge h).imp_right fun h => (t3 p h).1) Or.inr
      · rw [r4 t ht, lookup_vMerge t2, t4 t ht, restAt, Option.or_assoc]
      · rw [List.map_cons, restAt, restAt, r5 t ht,
          sb.lookup_live_above t1 (passBlock_static m M b) (Int.le_of_lt hTM) ht]
  obtain ⟨mv', e, r1, r2, r3, r4, r5⟩ := parts
  have hM : ∀ b ∈ L.map fun b => (passBlock m M b).1, BlockSt M b := fun b hb => by
    obtain ⟨x, hx, rfl⟩ := List.mem_map.mp hb
    exact (passBlock_spec (hst x hx) hTM (hC x hx)).1
  refine ⟨mv', e, Int.le_of_lt hTM, hM, r1, r2, r3, fun t => ?_⟩
  by_cases ht : t ≤ M
  · rw [restAt_none_le hM ht, Option.none_or, r4 t ht]
  · have ht := Int.not_le.mp ht
    rw [r5 t ht, lookup_eq_none_of_le r2 ht, lookup_eq_none_of_le hle ht]

theorem adjOK_of_adjFrom {pm : Int} {L : List (Block V)} (h : AdjFrom pm L) : AdjOK L := by
  cases L with
  | nil => trivial
  | cons _ _ => exact h.2

theorem live_none_of_read {T : Int} {b : Block V} (s : BlockSt T b) (hr : CompactBlock.read b = true) (t : Int) :
    lookup (live b) t = none := by
  cases h : lookup (live b) t with
  | none => rfl
  | some v =>
    have := (live_time_range s.wf h).2
    rw [s.lookup_live_le (Int.le_trans this (s.read_iff'.mp hr))] at h
    cases h

/-- `k.blocks[i:]` past the leading read blocks -/
theorem dropWhile_read_spec {T : Int} (L : List (Block V)) (hst : ∀ b ∈ L, BlockSt T b) (hadj : AdjOK L) :
    AdjOK (L.dropWhile CompactBlock.read) ∧
    (∀ t, restAt (L.dropWhile CompactBlock.read) t = restAt L t) := by
  induction L with
  | nil => exact ⟨trivial, fun _ => rfl⟩
  | cons b L ih =>
    rw [List.dropWhile_cons]
    split
    · next hr =>
      obtain ⟨r1, r2⟩ := ih (fun x hx => hst x (List.mem_cons_of_mem _ hx)) (adjOK_of_adjFrom hadj)
      refine ⟨r1, fun t => ?_⟩
      rw [r2 t, restAt, live_none_of_read (hst b (by simp)) hr t, Option.or_none]
    · exact ⟨hadj, fun _ => rfl⟩

theorem dedupLoop_spec (size : Nat) :
    ∀ (fuel : Nat) (blocks : List (Block V)) (mv : Pts V) (T : Int),
      (∀ b ∈ blocks, BlockSt T b) → AdjOK blocks → Asc mv → (∀ p ∈ mv, p.1 ≤ T) →
      ∀ blocks' mv', dedupLoop size fuel blocks mv = .ok (blocks', mv') →
        ∃ T', Advance T T' blocks mv blocks' mv' ∧
          blocks'.length ≤ blocks.length ∧
          (size ≤ mv'.length ∨ blocks' = []) ∧
          (∀ b' ∈ blocks', ∃ b ∈ blocks, SameStatic b' b) := by
  intro fuel
  induction fuel with
  | zero => intro _ _ _ _ _ _ _ _ _ h; cases h
  | succ fuel ih =>
    intro blocks mv T hst hadj hasc hle blocks' mv' h
    rw [dedupLoop] at h
    split at h
    · obtain ⟨d2, d3⟩ := dropWhile_read_spec blocks hst hadj
      have d1 : ∀ b ∈ blocks.dropWhile CompactBlock.read, b ∈ blocks :=
        fun b hb => (List.dropWhile_sublist _).subset hb
      have d4 := (List.dropWhile_sublist CompactBlock.read (l := blocks)).length_le
      dsimp only at h
      split at h
      · next hnil =>
        obtain ⟨rfl, rfl⟩ := Prod.mk.inj (Except.ok.inj h)
        exact ⟨T, ⟨Int.le_refl _, by simp, hasc, hle, fun p => Or.inl, fun t => by rw [← d3 t, hnil]⟩,
          Nat.zero_le _, Or.inr rfl, by simp⟩
      · next first rest hdw =>
        rw [hdw] at d1 d2 d3 d4 h
        have hstd : ∀ b ∈ first :: rest, BlockSt T b := fun b hb => hst b (d1 b hb)
        have sf := hstd first (by simp)
        have hfT : T < first.maxTime := by
          have := List.head_dropWhile_not CompactBlock.read (l := blocks) (by rw [hdw]; simp)
          simp only [hdw, List.head_cons, ← Bool.not_eq_true, sf.read_iff'] at this
          exact Int.not_le.mp this
        cases hws : windowScan (first :: rest) first.minTime first.maxTime with
        | mk m M =>
          rw [hws] at h
          obtain ⟨_, _, w3, _, w5⟩ := windowScan_spec (first :: rest) first.minTime first.minTime first.maxTime
            hstd ⟨sf.wf.min_le_max, d2⟩ (Or.inl (Int.le_refl _)) hfT sf.wf.min_le_max m M hws
          obtain ⟨mv1, e, ap⟩ := decodePass_spec w3 (first :: rest) mv hstd w5 hasc
            fun p hp => Int.le_trans (hle p hp) (Int.le_of_lt w3)
          simp only [e, bind, Except.bind] at h
          obtain ⟨T', aq, q7, q8, q9⟩ :=
            ih _ mv1 M ap.hb (adjOK_map (passBlock_static m M) d2) ap.asc ap.hle blocks' mv' h
          -- dropping the read blocks, the decode pass, the remaining rounds
          have ad : Advance T T blocks mv (first :: rest) mv :=
            ⟨Int.le_refl _, hstd, hasc, hle, fun p => Or.inl, fun t => by rw [d3 t]⟩
          refine ⟨T', ad.trans (ap.trans aq), ?_, q8, fun b' hb' => ?_⟩
          · rw [List.length_map] at q7; exact Nat.le_trans q7 d4
          · obtain ⟨y, hy, hy'⟩ := q9 b' hb'
            obtain ⟨x, hx, rfl⟩ := List.mem_map.mp hy
            exact ⟨x, d1 x hx, hy'.trans (passBlock_static m M x)⟩
    · next hc =>
      obtain ⟨rfl, rfl⟩ := Prod.mk.inj (Except.ok.inj h)
      refine ⟨T, ⟨Int.le_refl _, hst, hasc, hle, fun p => Or.inl, fun _ => rfl⟩, Nat.le_refl _, ?_,
        fun b hb => ⟨b, hb, SameStatic.refl b⟩⟩
      by_cases h1 : mv.length < size
      · exact Or.inr (List.length_eq_zero_iff.mp (Nat.eq_zero_of_not_pos fun h2 => hc ⟨h1, h2⟩))
      · exact Or.inl (Nat.not_lt.mp h1)

end Influx.Model.Compact
