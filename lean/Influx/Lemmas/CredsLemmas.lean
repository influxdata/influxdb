/-
  Lemmas.CredsLemmas — what the password check, the digest match and the request handler of
  Model.Creds decide, and the simulation between the statement checker of Spec.C44 and the model.
-/
import Influx.Lemmas.TenantKV
import Influx.Model.Creds
import Influx.Spec.C44

namespace Influx.Creds
open Influx.Tenant Influx.Tenant.KV Influx.Spec.C44

theorem take_all (p : String) (h : p.length ≤ maxPasswordLen) : first72 p = p := by
  have : p.toList.length ≤ maxPasswordLen := by rw [String.length_toList]; exact h
  rw [first72, List.take_of_length_le (by exact this), String.ofList_toList]

/-- bcrypt's horizon: beyond 72 bytes nothing of the candidate takes part -/
theorem first72_append (p x : String) (h : p.length = maxPasswordLen) : first72 (p ++ x) = p := by
  have : p.toList.length = 72 := by rw [String.length_toList]; exact h
  rw [first72, String.toList_append, List.take_left' this, String.ofList_toList]

theorem strength_plain (p : String) :
    strength false p = some (decide (p.length < minPasswordLen) || decide (p.length > maxPasswordLen), false) := rfl

theorem strength_len {strong : Bool} {p : String} {lb cb : Bool} (h : strength strong p = some (lb, cb)) :
    lb = (decide (p.length < minPasswordLen) || decide (p.length > maxPasswordLen)) := by
  unfold strength at h
  cases strong
  · cases h; rfl
  · by_cases h0 : p.length = 0
    · rw [if_pos rfl, if_pos h0] at h; cases h
    · rw [if_pos rfl, if_neg h0] at h; cases h; rfl

theorem setPassword_ok_iff {s s' : State} {uid : Nat} {p : String} (hs : s.strong = false) :
    setPassword s uid p = (s', .pw { ok := true }) ↔
      (minPasswordLen ≤ p.length ∧ p.length ≤ maxPasswordLen ∧ uid ≠ 0 ∧ has s.active uid = true) ∧
        s' = { s with pw := put s.pw uid p } := by
  unfold setPassword
  rw [hs, strength_plain]
  dsimp only
  by_cases hb : (decide (p.length < minPasswordLen) || decide (p.length > maxPasswordLen) || false) = true
  · rw [if_pos hb]
    have : ¬ (minPasswordLen ≤ p.length ∧ p.length ≤ maxPasswordLen) := by
      simp only [Bool.or_false, Bool.or_eq_true, decide_eq_true_eq] at hb; omega
    simp only [Prod.mk.injEq, Ans.pw.injEq, PwRes.mk.injEq, Bool.false_eq_true, false_and, and_false, false_iff]
    exact fun c => this ⟨c.1.1, c.1.2.1⟩
  rw [if_neg hb]
  have hl : minPasswordLen ≤ p.length ∧ p.length ≤ maxPasswordLen := by
    simp only [Bool.or_false, Bool.or_eq_true, decide_eq_true_eq] at hb; omega
  by_cases hu : (decide (uid = 0) || !has s.active uid) = true
  · rw [if_pos hu]
    simp only [Prod.mk.injEq, Ans.pw.injEq, PwRes.mk.injEq, Bool.false_eq_true, false_and, and_false, false_iff]
    rintro ⟨⟨_, _, h0, ha⟩, _⟩
    simp [h0, ha] at hu
  · rw [if_neg hu]
    simp only [Bool.or_eq_true, decide_eq_true_eq, Bool.not_eq_true', not_or, Bool.not_eq_false] at hu
    simp only [Prod.mk.injEq, and_true, hl, hu, true_and, ne_eq, not_false_eq_true]
    exact eq_comm

theorem verify_eq (stored p : String) : verify stored p = decide (first72 p = stored) := rfl

theorem compareNoStrength_ok {s : State} {uid : Nat} {p : String} :
    (compareNoStrength s uid p).ok = true ↔
      uid ≠ 0 ∧ has s.active uid = true ∧ get s.pw uid = some (first72 p) := by
  unfold compareNoStrength
  by_cases h0 : uid = 0
  · simp [h0]
  by_cases ha : has s.active uid = true
  · rcases hg : get s.pw uid with _ | st
    · simp [h0, ha]
    · by_cases hv : first72 p = st
      · simp [h0, ha, verify_eq, hv]
      · simp [h0, ha, verify_eq, hv, Ne.symm hv]
  · simp [h0, ha]

theorem compareNoStrength_eq {s : State} {uid : Nat} {p : String} (h : (compareNoStrength s uid p).ok = true) :
    compareNoStrength s uid p = { ok := true } := by
  obtain ⟨h0, ha, hg⟩ := compareNoStrength_ok.mp h
  simp [compareNoStrength, h0, ha, hg, verify_eq]

theorem comparePassword_ok {s : State} {uid : Nat} {p : String} {r : PwRes}
    (h : comparePassword s uid p = .pw r) (hr : r.ok = true) :
    r = { ok := true } ∧ uid ≠ 0 ∧ has s.active uid = true ∧ get s.pw uid = some p ∧
      minPasswordLen ≤ p.length ∧ p.length ≤ maxPasswordLen := by
  unfold comparePassword at h
  rcases hst : strength s.strong p with _ | ⟨lb, cb⟩
  · rw [hst] at h; cases h
  rw [hst] at h; dsimp only at h
  by_cases hw : ((compareNoStrength s uid p).ok && (lb || cb)) = true
  · rw [if_pos hw] at h; cases h; cases hr
  rw [if_neg hw] at h; cases h
  obtain ⟨h0, ha, hg⟩ := compareNoStrength_ok.mp hr
  have hlb : lb = false := by cases lb <;> simp_all
  rw [strength_len hst, Bool.or_eq_false_iff, decide_eq_false_iff_not, decide_eq_false_iff_not] at hlb
  have hle : p.length ≤ maxPasswordLen := Nat.le_of_not_lt hlb.2
  rw [take_all p hle] at hg
  exact ⟨compareNoStrength_eq hr, h0, ha, hg, Nat.le_of_not_lt hlb.1, hle⟩

theorem phcMatch_true {ds : List Variant} {v : Variant} {m : Mangle} {p q : String}
    (h : phcMatch ds v m p q = .matched true) : q = p := by
  unfold phcMatch at h
  cases m <;> simp only [reduceCtorEq] at h
  all_goals (split at h <;> simp at h)
  exact h

theorem phcMatch_none {ds : List Variant} {v : Variant} (p q : String) (hv : ds.contains v = true) :
    phcMatch ds v .none p q = .matched (decide (q = p)) := by
  simp only [phcMatch, hv, ↓reduceIte]

theorem getToken_presents {hdr : Option String} {t : String} (h : getToken hdr = some t) : presents hdr t = true := by
  unfold getToken at h
  cases hdr with
  | none => simp at h
  | some hd =>
    simp only at h
    unfold presents
    simp only
    split at h
    · simp at h
    · split at h
      · rename_i hc
        simp only [Option.some.injEq] at h
        simp only [Bool.and_eq_true, decide_eq_true_eq] at hc
        simp [lower] at hc
        simp [hc.2, h]
      · split at h
        · rename_i hc
          simp only [Option.some.injEq] at h
          simp only [Bool.and_eq_true, decide_eq_true_eq] at hc
          simp [lower] at hc
          simp [hc.2, h]
        · simp at h

/-- what `extractAuthorization` / `extractSession` found: a token record, or — without a token header —
    a session record under the cookie's key -/
theorem authorizerOf_iff {s : State} {hdr ck : Option String} {uid : Nat} {ok : Bool} :
    authorizerOf s hdr ck = some (uid, ok) ↔
      (∃ t e, getToken hdr = some t ∧ findTok s t = some e ∧ e.2.2.1 = ok ∧ e.2.2.2 = uid) ∨
      (getToken hdr = none ∧ ∃ k, ck = some k ∧ get s.sess k = some (uid, !ok)) := by
  unfold authorizerOf
  rcases getToken hdr with _ | t
  · dsimp only
    constructor
    · intro h
      rcases ck with _ | k
      · cases h
      · dsimp only at h
        rcases hs : get s.sess k with _ | ⟨u, x⟩
        · rw [hs] at h; cases h
        · rw [hs] at h; cases h; exact .inr ⟨rfl, k, rfl, by rw [Bool.not_not]; exact hs⟩
    · rintro (⟨t, _, c, _⟩ | ⟨_, k, rfl, hs⟩)
      · cases c
      · dsimp only; rw [hs, Option.map_some, Bool.not_not]
  · dsimp only
    constructor
    · intro h
      rcases hf : findTok s t with _ | e
      · rw [hf] at h; cases h
      · rw [hf] at h; cases h; exact .inl ⟨t, e, rfl, hf, rfl, rfl⟩
    · rintro (⟨t', e, c, hf, rfl, rfl⟩ | ⟨c, _⟩)
      · cases c; rw [hf]; rfl
      · cases c

theorem serve_reached {s : State} {hdr ck : Option String} {st uid : Nat} {pset : Option Bool} :
    serve s hdr ck = .http st true pset uid ↔
      st = 200 ∧ ∃ ok, pset = some ok ∧ authorizerOf s hdr ck = some (uid, ok) ∧
        (uid ≠ 0 → get s.active uid = some true) := by
  unfold serve
  rcases authorizerOf s hdr ck with _ | ⟨u, ok⟩
  · simp
  · dsimp only
    by_cases hu : (u ≠ 0 && get s.active u ≠ some true) = true
    · rw [if_pos hu]
      simp only [ne_eq, Bool.and_eq_true, decide_eq_true_eq] at hu
      simp only [Ans.http.injEq, reduceCtorEq, false_and, and_false, false_iff, not_and, not_exists]
      rintro rfl ok' rfl h; cases h; exact fun c => hu.2 (c hu.1)
    · rw [if_neg hu]
      simp only [ne_eq, Bool.and_eq_true, decide_eq_true_eq, not_and, Decidable.not_not] at hu
      simp only [Ans.http.injEq, true_and, Option.some.injEq, Prod.mk.injEq]
      constructor
      · rintro ⟨rfl, rfl, rfl⟩; exact ⟨rfl, _, rfl, ⟨rfl, rfl⟩, hu⟩
      · rintro ⟨rfl, ok', rfl, ⟨rfl, rfl⟩, _⟩; exact ⟨rfl, rfl, rfl⟩

/-- the checker's bookkeeping agrees with the model's stores -/
structure Sim (t : Track) (s : State) : Prop where
  ok : t.ok = true
  pw : t.pw = s.pw
  users : t.users = s.active
  toks : t.toks = s.toks
  sess : ∀ k u, get s.sess k = some (u, false) → get t.sess k = some u
  /-- with the production session store no expired session is ever present -/
  noExp : s.cfgB = false → ∀ k u, get s.sess k ≠ some (u, true)

theorem sim_init : Sim {} init := ⟨rfl, rfl, rfl, rfl, nofun, fun _ _ _ => nofun⟩

variable {t : Track} {s : State}

theorem Sim.ite {op : Op} {c : Prop} [Decidable c] {a b : State × Ans}
    (ha : c → Sim (trackStep t (op, a.2)) a.1) (hb : ¬ c → Sim (trackStep t (op, b.2)) b.1) :
    Sim (trackStep t (op, (if c then a else b).2)) (if c then a else b).1 := by
  by_cases h : c
  · rw [if_pos h]; exact ha h
  · rw [if_neg h]; exact hb h

theorem sim_setPassword (h : Sim t s) (uid : Nat) (p : String) :
    Sim (trackStep t (.sp uid p, (setPassword s uid p).2)) (setPassword s uid p).1 := by
  unfold setPassword
  rcases strength s.strong p with _ | ⟨lb, cb⟩
  · exact h
  · exact .ite (fun _ => h) fun _ => .ite (fun _ => h) fun _ => { h with pw := congrArg (put · uid p) h.pw }

theorem sim_cas (h : Sim t s) (uid : Nat) (old new : String) :
    Sim (trackStep t (.cas uid old new, (compareAndSet s uid old new).2)) (compareAndSet s uid old new).1 := by
  unfold compareAndSet
  dsimp only
  by_cases hok : (compareNoStrength s uid old).ok = true
  · rw [if_pos hok]
    have hold : get t.pw uid = some (first72 old) := h.pw ▸ (compareNoStrength_ok.mp hok).2.2
    unfold setPassword
    rcases strength s.strong new with _ | ⟨lb, cb⟩
    · exact h
    · refine .ite (fun _ => h) fun _ => .ite (fun _ => h) fun _ => ?_
      show Sim (let t' := if get t.pw uid = some (first72 old) then t else _
                ({ t' with pw := put t'.pw uid new } : Track)) _
      rw [if_pos hold]
      exact { h with pw := congrArg (put · uid new) h.pw }
  · rw [if_neg hok]
    show Sim (if (compareNoStrength s uid old).ok = true then _ else t) s
    rw [if_neg hok]
    exact h

theorem sim_cp (h : Sim t s) (uid : Nat) (p : String) : Sim (trackStep t (.cp uid p, comparePassword s uid p)) s := by
  cases hc : comparePassword s uid p with
  | pw r =>
    show Sim (if r.ok = true then (if get t.pw uid = some p then t else _) else t) s
    by_cases hr : r.ok = true
    · rw [if_pos hr, if_pos (h.pw ▸ (comparePassword_ok hc hr).2.2.2.1)]; exact h
    · rw [if_neg hr]; exact h
  | _ => exact h

theorem sim_createUser (h : Sim t s) (n : String) :
    Sim (trackStep t (.cu n, (createUser s n).2)) (createUser s n).1 :=
  have hs : Sim t { s with nextUser := s.nextUser + 1 } := { h with }
  .ite (fun _ => hs) fun _ => .ite (fun _ => hs) fun _ => .ite (fun _ => hs) fun _ =>
    { hs with users := congrArg (put · s.nextUser true) h.users }

theorem sim_setUserStatus (h : Sim t s) (u : Nat) (a : Bool) :
    Sim (trackStep t (.us u a, (setUserStatus s u a).2)) (setUserStatus s u a).1 :=
  .ite (fun _ => h) fun _ => .ite (fun _ => h) fun _ => { h with users := congrArg (put · u a) h.users }

theorem sim_deleteUser (h : Sim t s) (u : Nat) :
    Sim (trackStep t (.du u, (deleteUser s u).2)) (deleteUser s u).1 :=
  .ite (fun _ => h) fun _ => .ite (fun _ => h) fun _ =>
    { h with users := congrArg (del · u) h.users, pw := congrArg (del · u) h.pw }

theorem sim_createTok (h : Sim t s) (u : Nat) (tk : String) (a : Bool) :
    Sim (trackStep t (.ct u tk a, (createTok s u tk a).2)) (createTok s u tk a).1 :=
  .ite (fun _ => h) fun _ => .ite (fun _ => h) fun _ => { h with toks := congrArg (put · s.nextTok (tk, a, u)) h.toks }

theorem sim_updateTok (h : Sim t s) (i : Nat) (a : Bool) :
    Sim (trackStep t (.ut i a, (updateTok s i a).2)) (updateTok s i a).1 := by
  unfold updateTok
  rcases hr : get s.toks i with _ | ⟨tok, x, u⟩
  · exact h
  · refine .ite (fun _ => h) fun _ => ?_
    show Sim (match get t.toks i with
      | some (tok, _, u) => { t with toks := put t.toks i (tok, a, u) }
      | none => t) _
    rw [show get t.toks i = some (tok, x, u) from h.toks ▸ hr]
    exact { h with toks := congrArg (put · i (tok, a, u)) h.toks }

theorem sim_deleteTok (h : Sim t s) (i : Nat) :
    Sim (trackStep t (.dt i, (deleteTok s i).2)) (deleteTok s i).1 := by
  unfold deleteTok
  refine .ite (fun _ => h) fun _ => ?_
  rcases get s.toks i with _ | r
  · exact h
  · exact { h with toks := congrArg (del · i) h.toks }

/-! sessions: the checker keeps the live ones (`sess`), the production store holds no expired one (`noExp`) -/

section
variable {ts : List (String × Nat)} {ss : List (String × (Nat × Bool))}

theorem sess_put (h : ∀ k u, get ss k = some (u, false) → get ts k = some u) (k₀ : String) (u₀ : Nat) :
    ∀ k u, get (put ss k₀ (u₀, false)) k = some (u, false) → get (put ts k₀ u₀) k = some u := by
  intro k u hk
  rw [get_put] at hk ⊢
  by_cases e : k₀ = k
  · rw [if_pos e] at hk ⊢; cases hk; rfl
  · rw [if_neg e] at hk ⊢; exact h k u hk

/-- a record written by the model alone: expired, or of a session the checker holds already -/
theorem sess_put_model (h : ∀ k u, get ss k = some (u, false) → get ts k = some u) (k₀ : String) (u₀ : Nat)
    (x : Bool) (hx : x = false → get ts k₀ = some u₀) :
    ∀ k u, get (put ss k₀ (u₀, x)) k = some (u, false) → get ts k = some u := by
  intro k u hk
  rw [get_put] at hk
  by_cases e : k₀ = k
  · rw [if_pos e] at hk; cases hk; exact e ▸ hx rfl
  · rw [if_neg e] at hk; exact h k u hk

theorem sess_del (h : ∀ k u, get ss k = some (u, false) → get ts k = some u) (k₀ : String) :
    ∀ k u, get (del ss k₀) k = some (u, false) → get (del ts k₀) k = some u := by
  intro k u hk
  rw [get_del] at hk ⊢
  by_cases e : k₀ = k
  · rw [if_pos e] at hk; cases hk
  · rw [if_neg e] at hk ⊢; exact h k u hk

theorem noExp_put (h : ∀ k u, get ss k ≠ some (u, true)) (k₀ : String) (u₀ : Nat) :
    ∀ k u, get (put ss k₀ (u₀, false)) k ≠ some (u, true) := by
  intro k u hk
  rw [get_put] at hk
  by_cases e : k₀ = k
  · rw [if_pos e] at hk; cases hk
  · rw [if_neg e] at hk; exact h k u hk

end

theorem sim_createSession (h : Sim t s) (n : String) (l : Bool) :
    Sim (trackStep t (.cs n l, (createSession s n l).2)) (createSession s n l).1 := by
  unfold createSession
  split
  · exact h
  rename_i uid nm _
  dsimp only
  refine .ite (fun hc => ?_) fun hc => ?_
  · cases l
    · -- born expired: kept only by the store without TTL
      exact { h with
        sess := sess_put_model h.sess _ uid true nofun
        noExp := fun hB => by rw [show s.cfgB = false from hB] at hc; cases hc }
    · exact { h with sess := sess_put h.sess _ uid, noExp := fun hB => noExp_put (h.noExp hB) _ uid }
  · have hl : l = false := by cases l <;> simp_all
    subst hl
    exact { h with }

theorem sim_expireSession (h : Sim t s) (k : String) :
    Sim (trackStep t (.xs k, (expireSession s k).2)) (expireSession s k).1 := by
  unfold expireSession
  rcases get s.sess k with _ | r
  · exact h
  · exact { h with sess := sess_del h.sess k, noExp := fun hB k' u hk => h.noExp hB k' u (get_of_get_del hk) }

/-- `RenewSession` leaves the state alone or — with the production store only — re-writes a session
    record that is there, as unexpired -/
theorem renewSession_state (s : State) (k : String) (far : Bool) :
    (renewSession s k far).1 = s ∨ ∃ u x, s.cfgB = false ∧ get s.sess k = some (u, x) ∧
      (renewSession s k far).1 = { s with sess := put s.sess k (u, false) } := by
  unfold renewSession
  by_cases hB : s.cfgB = true
  · rw [if_pos hB]; exact .inl rfl
  rw [if_neg hB]
  rcases get s.handles k with _ | x
  · exact .inl rfl
  dsimp only
  rcases hg : get s.sess k with _ | ⟨u, expired⟩
  · exact .inl rfl
  dsimp only
  by_cases hf : (far || expired) = true
  · rw [if_pos hf]; exact .inr ⟨u, expired, Bool.eq_false_iff.mpr hB, rfl, rfl⟩
  · rw [if_neg hf]; exact .inl rfl

/-- renewing never makes the checker's and the model's sessions disagree: an ended session is "not
    found" and nothing is written; a present one is (with the production store) unexpired already -/
theorem sim_renew (h : Sim t s) (k : String) (far : Bool) :
    Sim (trackStep t (.renew k far, (renewSession s k far).2)) (renewSession s k far).1 := by
  show Sim t (renewSession s k far).1
  obtain e | ⟨u, x, hB, hg, e⟩ := renewSession_state s k far
  · rw [e]; exact h
  · rw [e]
    cases x
    · exact { h with
        sess := sess_put_model h.sess k u false fun _ => h.sess k u hg
        noExp := fun _ => noExp_put (h.noExp hB) k u }
    · exact absurd hg (h.noExp hB k u)

theorem serve_justified (h : Sim t s) (hdr ck : Option String) {st uid : Nat}
    (hs : serve s hdr ck = .http st true (some true) uid) : justified t hdr ck uid = true := by
  obtain ⟨_, ok, hp, hau, hact⟩ := serve_reached.mp hs
  cases hp
  unfold justified
  rw [Bool.and_eq_true, Bool.or_eq_true, Bool.or_eq_true, decide_eq_true_eq, decide_eq_true_eq, h.users]
  refine ⟨?_, Decidable.or_iff_not_imp_left.mpr hact⟩
  obtain ⟨tk, e, hg, hf, ha, hu⟩ | ⟨_, k, rfl, hk⟩ := authorizerOf_iff.mp hau
  · left
    rw [h.toks, List.any_eq_true]
    refine ⟨e, List.mem_of_find?_eq_some hf, ?_⟩
    unfold findTok at hf
    have hp := List.find?_some hf
    simp only [decide_eq_true_eq] at hp
    rw [hp, getToken_presents hg, ha, hu, decide_eq_true rfl]; rfl
  · exact .inr (decide_eq_true (h.sess k uid hk))

theorem sim_req (h : Sim t s) (hd ck : Option String) : Sim (trackStep t (.req hd ck, serve s hd ck)) s := by
  cases hs : serve s hd ck with
  | http st reached pset uid =>
    by_cases hc : (reached && decide (pset = some true)) = true
    · rw [Bool.and_eq_true, decide_eq_true_eq] at hc
      obtain ⟨rfl, rfl⟩ := hc
      show Sim (if justified t hd ck uid = true then t else _) s
      rw [if_pos (serve_justified h hd ck hs)]
      exact h
    · show Sim (if (reached && decide (pset = some true)) = true then _ else t) s
      rw [if_neg hc]
      exact h
  | _ => exact h

theorem sim_phc (h : Sim t s) (ds : List Variant) (v : Variant) (m : Mangle) (p q : String) :
    Sim (trackStep t (.phc ds v m p q, .phc (phcMatch ds v m p q))) s := by
  have e1 : (decide (phcMatch ds v m p q = .matched true) && decide (q ≠ p)) = false :=
    Bool.eq_false_iff.mpr fun c => by
      rw [Bool.and_eq_true, decide_eq_true_eq, decide_eq_true_eq] at c
      exact c.2 (phcMatch_true c.1)
  have e2 : (decide (m = .none) && ds.contains v && decide (phcMatch ds v m p q ≠ .matched (decide (q = p)))) = false :=
    Bool.eq_false_iff.mpr fun c => by
      rw [Bool.and_eq_true, Bool.and_eq_true, decide_eq_true_eq, decide_eq_true_eq] at c
      obtain ⟨⟨rfl, hv⟩, hne⟩ := c
      exact hne (phcMatch_none p q hv)
  show Sim (let t' := if (decide (phcMatch ds v m p q = .matched true) && decide (q ≠ p)) = true then _ else t
            if (decide (m = .none) && ds.contains v &&
              decide (phcMatch ds v m p q ≠ .matched (decide (q = p)))) = true then _ else t') s
  rw [e1, e2]
  exact h

theorem sim_step (h : Sim t s) (op : Op) : Sim (trackStep t (op, (step s op).2)) (step s op).1 := by
  cases op with
  | cfg a b c => exact ⟨rfl, rfl, rfl, rfl, nofun, fun _ _ _ => nofun⟩
  | strong b => exact { h with }
  | cu n => exact sim_createUser h n
  | us u a => exact sim_setUserStatus h u a
  | du u => exact sim_deleteUser h u
  | sp u p => exact sim_setPassword h u p
  | cp u p => exact sim_cp h u p
  | cas u o n => exact sim_cas h u o n
  | ct u tk a => exact sim_createTok h u tk a
  | ut i a => exact sim_updateTok h i a
  | dt i => exact sim_deleteTok h i
  | cs n l => exact sim_createSession h n l
  | xs k => exact sim_expireSession h k
  | renew k far => exact sim_renew h k far
  | req hd ck => exact sim_req h hd ck
  | phc ds v m p q => exact sim_phc h ds v m p q

theorem track_run (ops : List Op) (h : Sim t s) : ((run s ops).foldl trackStep t).ok = true := by
  induction ops generalizing t s with
  | nil => exact h.ok
  | cons op ops ih => exact ih (sim_step h op)

end Influx.Creds
