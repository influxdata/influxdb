/-
  Lemmas.MetaRetention — safety of `deletionCheck`: every call it makes concerns a shard
  of an already-deleted or expired group of the metadata it started from.
-/
import Influx.Lemmas.MetaBasic

namespace Influx.Meta
open Influx.Generated.Meta

def Removable (d : Data) (now : Int) (id : Nat) : Prop :=
  ∃ di ∈ d.Databases, ∃ r ∈ di.RetentionPolicies, ∃ g ∈ r.ShardGroups,
    (g.DeletedAt ≠ zeroTime ∨ g ∈ expiredShardGroups r now) ∧ ∃ sh ∈ g.Shards, sh.ID = id

/-- what each logged call is allowed to be -/
def EvGood (d : Data) (now : Int) (loc : List Nat) : Ev → Prop
  | .dsg db rp id ok => ok = true → ∃ di ∈ d.Databases, di.Name = db ∧ ∃ r ∈ di.RetentionPolicies, r.Name = rp ∧
      ∃ g ∈ expiredShardGroups r now, g.ID = id
  | .block id _ | .unblock id | .inUse id _ _ | .delete id _ => id ∈ loc ∧ Removable d now id
  | .dropRef id _ _ => Removable d now id
  | .prune => True

structure DCInv (d : Data) (now : Int) (loc : List Nat) (s : DC) : Prop where
  del : ∀ id ∈ s.del, Removable d now id
  log : ∀ e ∈ s.log, EvGood d now loc e

theorem mem_mapPut {m : List Nat} {id x : Nat} (h : x ∈ mapPut m id) : x ∈ m ∨ x = id := by
  unfold mapPut at h
  split at h
  · exact Or.inl h
  · simpa using h

theorem forall_mem_foldl_mapPut {p : Nat → Prop} {ids m : List Nat} (hm : ∀ x ∈ m, p x) (hids : ∀ x ∈ ids, p x) :
    ∀ x ∈ ids.foldl mapPut m, p x :=
  foldl_inv (fun acc => ∀ x ∈ acc, p x) _ ids m hm fun _ i hi ih x hx =>
    (mem_mapPut hx).elim (ih x) fun h => h ▸ hids i hi

theorem dcExpire_inv {d now loc} {di : DatabaseInfo} {r : RetentionPolicyInfo}
    (hdi : di ∈ d.Databases) (hr : r ∈ di.RetentionPolicies)
    (s : DC) (g : ShardGroupInfo) (hg : g ∈ expiredShardGroups r now) (h : DCInv d now loc s) :
    DCInv d now loc (dcExpire di.Name r.Name now s g) := by
  unfold dcExpire
  refine ite_rule (fun _ => ⟨h.del, forall_mem_push h.log (by nofun)⟩) fun _ => ?_
  split
  · exact ⟨h.del, forall_mem_push h.log (by nofun)⟩
  · refine ⟨forall_mem_foldl_mapPut h.del fun id hid => ?_,
      forall_mem_push h.log fun _ => ⟨di, hdi, rfl, r, hr, rfl, g, hg, rfl⟩⟩
    obtain ⟨sh, hsh, rfl⟩ := List.mem_map.mp hid
    exact ⟨di, hdi, r, hr, g, ((mem_expired_iff r now g).mp hg).1, Or.inr hg, sh, hsh, rfl⟩

theorem dcPolicy_inv {d now loc} {di : DatabaseInfo} (hdi : di ∈ d.Databases) {r : RetentionPolicyInfo}
    (hr : r ∈ di.RetentionPolicies) (s : DC) (h : DCInv d now loc s) :
    DCInv d now loc (dcPolicy di.Name now s r) := by
  refine foldl_inv _ _ _ _ ⟨forall_mem_foldl_mapPut h.del fun id hid => ?_, h.log⟩
    fun s g hg hs => dcExpire_inv hdi hr s g hg hs
  obtain ⟨g, hg, hid⟩ := List.mem_flatMap.mp hid
  obtain ⟨sh, hsh, rfl⟩ := List.mem_map.mp hid
  have := (mem_deleted_iff r g).mp hg
  exact ⟨di, hdi, r, hr, g, this.1, Or.inl this.2, sh, hsh, rfl⟩

theorem dcCollect_inv {d now loc} (s : DC) (hd : s.data.Databases = d.Databases) (h : DCInv d now loc s) :
    DCInv d now loc (dcCollect now s) := by
  unfold dcCollect
  rw [hd]
  exact foldl_inv _ _ _ _ h fun s di hdi hs => foldl_inv _ _ _ _ hs fun s r hr hs => dcPolicy_inv hdi hr s hs

theorem dcDropRef_inv {d now loc} (ph : Bool) (s : DC) (id : Nat) (hid : Removable d now id)
    (h : DCInv d now loc s) : DCInv d now loc (dcDropRef now ph s id) :=
  ite_rule (fun _ => ⟨h.del, forall_mem_push h.log hid⟩) fun _ => ⟨h.del, forall_mem_push h.log hid⟩

def isLocalEv (id : Nat) : Ev → Prop
  | .block i _ | .unblock i | .inUse i _ _ | .delete i _ => i = id
  | .dropRef i _ _ => i = id
  | _ => False

/-- `dcLocal … id` as far as a property `P` of the state can tell that does not read the store: `id` leaves the
    map, the log grows by events about `id`, and `dcDropRef … id` may run at the end -/
theorem dcLocal_rule {P : DC → Prop} {now : Int} {id : Nat}
    (hstore : ∀ {dat st del log} st', P ⟨dat, st, del, log⟩ → P ⟨dat, st', del, log⟩)
    (hlog : ∀ {dat st del log e}, isLocalEv id e → P ⟨dat, st, del, log⟩ → P ⟨dat, st, del, log ++ [e]⟩)
    (hdrop : ∀ {s}, P s → P (dcDropRef now false s id))
    {s : DC} (hs : P ⟨s.data, s.store, s.del.erase id, s.log⟩) (hid : id ∈ s.del) : P (dcLocal now s id) := by
  unfold dcLocal
  rw [if_neg (by simpa using hid)]
  dsimp only
  exact ite_rule (fun _ => hlog rfl hs) fun _ =>
    ite_rule (fun _ => hlog rfl (hlog rfl (hlog rfl (hstore _ hs)))) fun _ =>
    ite_rule (fun _ => hlog rfl (hlog rfl (hlog rfl (hstore _ hs)))) fun _ =>
    ite_rule (fun _ => hdrop (hlog rfl (hlog rfl (hlog rfl (hstore _ hs))))) fun _ =>
    ite_rule (fun _ => hlog rfl (hlog rfl (hlog rfl (hlog rfl (hstore _ hs))))) fun _ =>
    hdrop (hlog rfl (hlog rfl (hlog rfl (hstore _ hs))))

theorem dcLocal_of_not_mem {now : Int} {s : DC} {id : Nat} (h : id ∉ s.del) : dcLocal now s id = s := by
  simp [dcLocal, h]

theorem dcLocal_inv {d now loc} (s : DC) (id : Nat) (hloc : id ∈ loc) (h : DCInv d now loc s) :
    DCInv d now loc (dcLocal now s id) := by
  by_cases hid : id ∈ s.del
  · have hrem := h.del id hid
    refine dcLocal_rule (fun _ h => ⟨h.del, h.log⟩) (fun {_ _ _ _ e} he h => ⟨h.del, forall_mem_push h.log ?_⟩) (dcDropRef_inv _ _ _ hrem)
      ⟨fun x hx => h.del x (List.mem_of_mem_erase hx), h.log⟩ hid
    cases e <;> first | exact he.elim | (cases he; first | exact ⟨hloc, hrem⟩ | exact hrem)
  · rwa [dcLocal_of_not_mem hid]

theorem dcCollect_store (now : Int) (s : DC) : (dcCollect now s).store = s.store := by
  let P (s' : DC) : Prop := s'.store = s.store
  refine foldl_inv P _ _ _ rfl fun _ _ _ h => foldl_inv P _ _ _ h fun _ _ _ h => foldl_inv P _ _ _ h fun s' g _ h => ?_
  unfold dcExpire
  exact ite_rule (fun _ => h) fun _ => by split <;> exact h

theorem mem_sortNat {xs : List Nat} {x : Nat} : x ∈ sortNat xs → x ∈ xs := by
  refine foldl_inv (fun acc => x ∈ acc → x ∈ xs) _ xs [] (by simp) fun acc y hy ih hx => ?_
  induction acc with
  | nil => exact List.mem_singleton.mp hx ▸ hy
  | cons z zs ih2 =>
    simp only [sortNat.ins] at hx
    split at hx
    · rcases List.mem_cons.mp hx with rfl | hx
      · exact hy
      · exact ih hx
    · rcases List.mem_cons.mp hx with rfl | hx
      · exact ih (List.mem_cons_self ..)
      · exact ih2 (fun h => ih (List.mem_cons_of_mem _ h)) hx

theorem deletionCheck_safe (now : Int) (d : Data) (st : Store) :
    ∀ e ∈ (deletionCheck now d st).log, EvGood d now st.shards e := by
  have h1 : DCInv d now st.shards (dcCollect now ⟨d, st, [], []⟩) := dcCollect_inv _ rfl ⟨forall_mem_nil, forall_mem_nil⟩
  have h2 := foldl_inv _ (dcLocal now) (dcCollect now ⟨d, st, [], []⟩).store.shards _ h1 fun s id hid hs =>
    dcLocal_inv s id (by rwa [dcCollect_store] at hid) hs
  intro e he
  rcases List.mem_append.mp he with he | he
  · refine (foldl_inv (DCInv d now st.shards) _ _ _ ?_ fun s id hid hs =>
      dcDropRef_inv true s id (h2.del id (mem_sortNat hid)) hs).log e he
    exact ⟨forall_mem_nil, h2.log⟩
  · cases List.mem_singleton.mp he
    trivial

end Influx.Meta
