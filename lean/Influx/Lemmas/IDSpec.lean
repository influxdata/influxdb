/-
  Lemmas.IDSpec — the O(n log n) distinctness test of `Spec.C31` decides `List.Nodup`.
-/
import Influx.Spec.C31

namespace Influx.Lemmas.IDSpec
open Influx.Spec.C31

theorem strictAsc_iff (l : List Nat) : strictAsc l = true ↔ l.Pairwise (· < ·) := by
  induction l with
  | nil => simp [strictAsc]
  | cons a t ih =>
    cases t with
    | nil => simp [strictAsc]
    | cons b r =>
      simp only [strictAsc, Bool.and_eq_true, decide_eq_true_eq, ih, List.pairwise_cons]
      constructor
      · rintro ⟨hab, hb, hr⟩
        refine ⟨?_, hb, hr⟩
        intro x hx
        rcases List.mem_cons.mp hx with rfl | hx
        · exact hab
        · exact Nat.lt_trans hab (hb x hx)
      · rintro ⟨ha, hb, hr⟩
        exact ⟨ha b (List.mem_cons_self ..), hb, hr⟩

theorem distinctB_iff (l : List Nat) : distinctB l = true ↔ l.Nodup := by
  unfold distinctB
  rw [strictAsc_iff]
  have hperm := List.mergeSort_perm l (fun a b => decide (a ≤ b))
  have hsorted : (l.mergeSort (fun a b => decide (a ≤ b))).Pairwise (fun a b => decide (a ≤ b) = true) :=
    List.pairwise_mergeSort (le := fun a b => decide (a ≤ b))
      (fun _ _ _ hab hbc => decide_eq_true (Nat.le_trans (of_decide_eq_true hab) (of_decide_eq_true hbc)))
      (fun a b => Bool.or_eq_true_iff.mpr ((Nat.le_total a b).imp decide_eq_true decide_eq_true)) l
  rw [← hperm.nodup_iff]
  generalize l.mergeSort (fun a b => decide (a ≤ b)) = m at hsorted
  constructor
  · exact fun h => h.imp Nat.ne_of_lt
  · exact fun h => (hsorted.and h).imp fun ⟨h1, h2⟩ => Nat.lt_of_le_of_ne (of_decide_eq_true h1) h2

end Influx.Lemmas.IDSpec
