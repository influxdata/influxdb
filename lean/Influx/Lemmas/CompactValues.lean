/-
  Lemmas.CompactValues — the values algebra used by the compaction proofs:
  ascending point lists as finite maps `Time → Option V`.
-/
import Influx.Model.CompactIter

namespace Influx.Model.Compact

variable {V : Type}

def Asc (l : Pts V) : Prop := l.Pairwise (fun p q => p.1 < q.1)

def lookup (l : Pts V) (t : Int) : Option V := (l.find? (fun p => p.1 == t)).map (·.2)

@[simp] theorem lookup_nil (t : Int) : lookup ([] : Pts V) t = none := rfl

theorem lookup_cons (p : Int × V) (l : Pts V) (t : Int) :
    lookup (p :: l) t = if p.1 = t then some p.2 else lookup l t := by
  unfold lookup
  by_cases h : p.1 = t
  · simp [List.find?, h]
  · have : (p.1 == t) = false := by simp [h]
    simp [List.find?, this, h]

theorem lookup_eq_none {l : Pts V} {t : Int} : lookup l t = none ↔ ∀ p ∈ l, p.1 ≠ t := by
  simp only [lookup, Option.map_eq_none_iff, List.find?_eq_none, beq_iff_eq]

theorem lookup_some_mem {l : Pts V} {t : Int} {v : V} (h : lookup l t = some v) : (t, v) ∈ l := by
  obtain ⟨p, hp, rfl⟩ := Option.map_eq_some_iff.mp h
  have := List.find?_some hp
  rw [← beq_iff_eq.mp this]
  exact List.mem_of_find?_eq_some hp

theorem lookup_append (a b : Pts V) (t : Int) :
    lookup (a ++ b) t = (lookup a t).or (lookup b t) := by
  simp only [lookup, List.find?_append, Option.map_or]

theorem asc_cons {p : Int × V} {l : Pts V} : Asc (p :: l) ↔ (∀ q ∈ l, p.1 < q.1) ∧ Asc l :=
  List.pairwise_cons

theorem asc_nil : Asc ([] : Pts V) := List.Pairwise.nil

theorem asc_append {a b : Pts V} : Asc (a ++ b) ↔ Asc a ∧ Asc b ∧ ∀ p ∈ a, ∀ q ∈ b, p.1 < q.1 :=
  List.pairwise_append

theorem pairwise_cons_cons {α : Type} {R : α → α → Prop} (trans : ∀ {a b c}, R a b → R b c → R a c)
    {a b : α} {l : List α} (hab : R a b) (h : (b :: l).Pairwise R) : (a :: b :: l).Pairwise R :=
  List.pairwise_cons.mpr ⟨fun x hx => (List.mem_cons.mp hx).elim (fun e => e ▸ hab)
    fun hx => trans hab ((List.pairwise_cons.mp h).1 x hx), h⟩

theorem pairwise_head_le {α : Type} {R : α → α → Prop} {l : List α} (hp : l.Pairwise R) {h x : α}
    (hh : l.head? = some h) (hx : x ∈ l) : x = h ∨ R h x := by
  cases l with
  | nil => simp at hh
  | cons y ys =>
    simp at hh; subst hh
    rcases List.mem_cons.mp hx with rfl | h2
    · exact Or.inl rfl
    · exact Or.inr ((List.pairwise_cons.mp hp).1 x h2)

theorem pairwise_le_last {α : Type} {R : α → α → Prop} {l : List α} (hp : l.Pairwise R) {z x : α}
    (hz : l.getLast? = some z) (hx : x ∈ l) : x = z ∨ R x z := by
  obtain ⟨ys, rfl⟩ := List.getLast?_eq_some_iff.mp hz
  rcases List.mem_append.mp hx with h1 | h1
  · exact Or.inr ((List.pairwise_append.mp hp).2.2 x h1 z (by simp))
  · simp at h1; exact Or.inl h1

theorem asc_head_le {l : Pts V} (h : Asc l) {p : Int × V} (hp : l.head? = some p) : ∀ q ∈ l, p.1 ≤ q.1 :=
  fun _ hq => (pairwise_head_le h hp hq).elim (fun e => e ▸ Int.le_refl _) Int.le_of_lt

theorem asc_le_last {l : Pts V} (h : Asc l) {p : Int × V} (hp : l.getLast? = some p) : ∀ q ∈ l, q.1 ≤ p.1 :=
  fun _ hq => (pairwise_le_last h hp hq).elim (fun e => e ▸ Int.le_refl _) Int.le_of_lt

theorem Asc.sublist {a b : Pts V} (h : Asc b) (hs : a.Sublist b) : Asc a := List.Pairwise.sublist hs h

theorem Asc.filter {l : Pts V} (h : Asc l) (f : Int × V → Bool) : Asc (l.filter f) :=
  h.sublist List.filter_sublist

theorem Asc.take {l : Pts V} (h : Asc l) (n : Nat) : Asc (l.take n) := h.sublist (List.take_sublist n l)
theorem Asc.drop {l : Pts V} (h : Asc l) (n : Nat) : Asc (l.drop n) := h.sublist (List.drop_sublist n l)

theorem Asc.lt_of_lt_head {y : Int × V} {b : Pts V} (h : Asc (y :: b)) {t : Int} (ht : t < y.1) :
    ∀ q ∈ y :: b, t < q.1 := fun q hq => by
  rcases List.mem_cons.mp hq with rfl | hq
  · exact ht
  · exact Int.lt_trans ht ((asc_cons.mp h).1 q hq)

theorem lookup_eq_none_of_lt {l : Pts V} {t : Int} (h : ∀ q ∈ l, t < q.1) : lookup l t = none :=
  lookup_eq_none.mpr fun q hq => Int.ne_of_gt (h q hq)

theorem lookup_eq_none_of_le {l : Pts V} {M t : Int} (h : ∀ q ∈ l, q.1 ≤ M) (ht : M < t) : lookup l t = none :=
  lookup_eq_none.mpr fun q hq => Int.ne_of_lt (Int.lt_of_le_of_lt (h q hq) ht)

theorem lookup_of_mem_asc {l : Pts V} (h : Asc l) {p : Int × V} (hp : p ∈ l) : lookup l p.1 = some p.2 := by
  induction l with
  | nil => simp at hp
  | cons q l ih =>
    rw [lookup_cons]
    obtain ⟨hq, hl⟩ := asc_cons.mp h
    rcases List.mem_cons.mp hp with rfl | hm
    · rw [if_pos rfl]
    · rw [if_neg (Int.ne_of_lt (hq p hm)), ih hl hm]

theorem vMerge_nil_left (b : Pts V) : vMerge [] b = b := rfl

theorem vMerge_nil_right (a : Pts V) : vMerge a [] = a := by
  cases a <;> rfl

theorem vMerge_cons (x : Int × V) (a : Pts V) (y : Int × V) (b : Pts V) :
    vMerge (x :: a) (y :: b) =
      if x.1 < y.1 then x :: vMerge a (y :: b)
      else if x.1 = y.1 then y :: vMerge a b
      else y :: vMerge (x :: a) b := by
  simp [vMerge, mergeInner]

/-- induction along the two fingers of `vMerge`, each step with the equation it takes -/
theorem vMerge_induct {P : Pts V → Pts V → Prop}
    (nil_left : ∀ b, P [] b) (nil_right : ∀ x a, P (x :: a) [])
    (lt : ∀ x a y b, x.1 < y.1 → vMerge (x :: a) (y :: b) = x :: vMerge a (y :: b) →
      P a (y :: b) → P (x :: a) (y :: b))
    (eq : ∀ x a y b, x.1 = y.1 → vMerge (x :: a) (y :: b) = y :: vMerge a b →
      P a b → P (x :: a) (y :: b))
    (gt : ∀ x a y b, y.1 < x.1 → vMerge (x :: a) (y :: b) = y :: vMerge (x :: a) b →
      P (x :: a) b → P (x :: a) (y :: b)) : ∀ a b, P a b := by
  intro a
  induction a with
  | nil => exact nil_left
  | cons x a iha =>
    intro b
    induction b with
    | nil => exact nil_right x a
    | cons y b ihb =>
      have e := vMerge_cons x a y b
      by_cases h1 : x.1 < y.1
      · rw [if_pos h1] at e; exact lt x a y b h1 e (iha _)
      · rw [if_neg h1] at e
        by_cases h2 : x.1 = y.1
        · rw [if_pos h2] at e; exact eq x a y b h2 e (iha _)
        · rw [if_neg h2] at e; exact gt x a y b (by omega) e ihb

theorem mem_vMerge {a b : Pts V} {p : Int × V} : p ∈ vMerge a b → p ∈ a ∨ p ∈ b := by
  induction a, b using vMerge_induct with
  | nil_left b => exact Or.inr
  | nil_right x a => rw [vMerge_nil_right]; exact Or.inl
  | lt x a y b _ e ih =>
    rw [e, List.mem_cons, List.mem_cons]
    rintro (h | h)
    · exact Or.inl (Or.inl h)
    · exact (ih h).imp_left Or.inr
  | eq x a y b _ e ih =>
    rw [e, List.mem_cons, List.mem_cons, List.mem_cons]
    rintro (h | h)
    · exact Or.inr (Or.inl h)
    · exact (ih h).imp Or.inr Or.inr
  | gt x a y b _ e ih =>
    rw [e, List.mem_cons, List.mem_cons (a := p) (b := y)]
    rintro (h | h)
    · exact Or.inr (Or.inl h)
    · exact (ih h).imp_right Or.inr

theorem asc_vMerge {a b : Pts V} (ha : Asc a) (hb : Asc b) : Asc (vMerge a b) := by
  induction a, b using vMerge_induct with
  | nil_left b => exact hb
  | nil_right x a => rw [vMerge_nil_right]; exact ha
  | lt x a y b hlt e ih =>
    obtain ⟨hxa, ha'⟩ := asc_cons.mp ha
    rw [e, asc_cons]
    refine ⟨fun q hq => ?_, ih ha' hb⟩
    exact (mem_vMerge hq).elim (hxa q) (hb.lt_of_lt_head hlt q)
  | eq x a y b heq e ih =>
    obtain ⟨hxa, ha'⟩ := asc_cons.mp ha
    obtain ⟨hyb, hb'⟩ := asc_cons.mp hb
    rw [e, asc_cons]
    refine ⟨fun q hq => ?_, ih ha' hb'⟩
    exact (mem_vMerge hq).elim (fun h => heq ▸ hxa q h) (hyb q)
  | gt x a y b hgt e ih =>
    obtain ⟨hyb, hb'⟩ := asc_cons.mp hb
    rw [e, asc_cons]
    refine ⟨fun q hq => ?_, ih ha hb'⟩
    exact (mem_vMerge hq).elim (ha.lt_of_lt_head hgt q) (hyb q)

/-- `b` wins -/
theorem lookup_vMerge {a b : Pts V} (hb : Asc b) (t : Int) :
    lookup (vMerge a b) t = (lookup b t).or (lookup a t) := by
  induction a, b using vMerge_induct with
  | nil_left b => rw [vMerge_nil_left, lookup_nil, Option.or_none]
  | nil_right x a => rw [vMerge_nil_right, lookup_nil, Option.none_or]
  | lt x a y b hlt e ih =>
    rw [e, lookup_cons, ih hb, lookup_cons x a]
    by_cases h1 : x.1 = t
    · -- `x` is below all of `y :: b`
      have : lookup (y :: b) t = none := lookup_eq_none_of_lt (hb.lt_of_lt_head (h1 ▸ hlt))
      rw [if_pos h1, if_pos h1, this]; rfl
    · rw [if_neg h1, if_neg h1]
  | eq x a y b heq e ih =>
    rw [e, lookup_cons, ih (asc_cons.mp hb).2, lookup_cons y b, lookup_cons x a]
    by_cases h1 : y.1 = t
    · rw [if_pos h1, if_pos h1]; rfl
    · rw [if_neg h1, if_neg h1, if_neg (heq ▸ h1)]
  | gt x a y b _ e ih =>
    rw [e, lookup_cons, ih (asc_cons.mp hb).2, lookup_cons y b]
    split <;> rfl

theorem vMerge_eq_append {a b : Pts V} (h : ∀ p ∈ a, ∀ q ∈ b, p.1 < q.1) : vMerge a b = a ++ b := by
  induction a with
  | nil => rfl
  | cons x a ih =>
    cases b with
    | nil => rw [vMerge_nil_right, List.append_nil]
    | cons y b =>
      rw [vMerge_cons, if_pos (h x (by simp) y (by simp)), ih fun p hp => h p (List.mem_cons_of_mem _ hp)]
      rfl

theorem lookup_filter_time (f : Int → Bool) (l : Pts V) (t : Int) :
    lookup (l.filter (fun p => f p.1)) t = if f t then lookup l t else none := by
  induction l with
  | nil => simp
  | cons p l ih =>
    rw [List.filter_cons, lookup_cons]
    by_cases h1 : p.1 = t
    · subst h1; cases hp : f p.1 <;> simp [lookup_cons, ih, hp]
    · cases hp : f p.1 <;> simp [lookup_cons, ih, h1]

theorem lookup_vExclude (lo hi : Int) (l : Pts V) (t : Int) :
    lookup (vExclude lo hi l) t = if lo ≤ t ∧ t ≤ hi then none else lookup l t := by
  rw [vExclude, lookup_filter_time (fun t => !(decide (lo ≤ t) && decide (t ≤ hi)))]
  by_cases h : lo ≤ t ∧ t ≤ hi <;> simp [h]

theorem lookup_vInclude (lo hi : Int) (l : Pts V) (t : Int) :
    lookup (vInclude lo hi l) t = if lo ≤ t ∧ t ≤ hi then lookup l t else none := by
  rw [vInclude, lookup_filter_time (fun t => (decide (lo ≤ t) && decide (t ≤ hi)))]
  by_cases h : lo ≤ t ∧ t ≤ hi <;> simp [h]

theorem asc_vExclude {l : Pts V} (h : Asc l) (lo hi : Int) : Asc (vExclude lo hi l) := h.filter _
theorem asc_vInclude {l : Pts V} (h : Asc l) (lo hi : Int) : Asc (vInclude lo hi l) := h.filter _

theorem mem_vExclude {l : Pts V} {lo hi : Int} {p : Int × V} :
    p ∈ vExclude lo hi l ↔ p ∈ l ∧ ¬ (lo ≤ p.1 ∧ p.1 ≤ hi) := by
  simp only [vExclude, List.mem_filter, Bool.not_eq_true', Bool.and_eq_false_iff, decide_eq_false_iff_not,
    Classical.not_and_iff_not_or_not]

theorem mem_vInclude {l : Pts V} {lo hi : Int} {p : Int × V} :
    p ∈ vInclude lo hi l ↔ p ∈ l ∧ (lo ≤ p.1 ∧ p.1 ≤ hi) := by
  simp only [vInclude, List.mem_filter, Bool.and_eq_true, decide_eq_true_eq]

def inTombs (ts : List (Int × Int)) (t : Int) : Bool := ts.any fun r => decide (r.1 ≤ t) && decide (t ≤ r.2)

theorem applyTombs_eq_filter (ts : List (Int × Int)) (l : Pts V) :
    applyTombs ts l = l.filter (fun p => !inTombs ts p.1) := by
  unfold applyTombs
  induction ts generalizing l with
  | nil => exact (List.filter_eq_self.mpr fun _ _ => rfl).symm
  | cons r ts ih =>
    rw [List.foldl_cons, ih, vExclude, List.filter_filter]
    congr 1; funext p
    rw [Bool.and_comm, ← Bool.not_or]; rfl

theorem asc_applyTombs {l : Pts V} (h : Asc l) (ts : List (Int × Int)) : Asc (applyTombs ts l) := by
  rw [applyTombs_eq_filter]; exact h.filter _

theorem lookup_applyTombs (ts : List (Int × Int)) (l : Pts V) (t : Int) :
    lookup (applyTombs ts l) t = if inTombs ts t then none else lookup l t := by
  rw [applyTombs_eq_filter, lookup_filter_time (fun t => !inTombs ts t)]
  cases inTombs ts t <;> rfl

theorem mem_applyTombs {ts : List (Int × Int)} {l : Pts V} {p : Int × V} :
    p ∈ applyTombs ts l ↔ p ∈ l ∧ inTombs ts p.1 = false := by
  rw [applyTombs_eq_filter, List.mem_filter, Bool.not_eq_true']

end Influx.Model.Compact
