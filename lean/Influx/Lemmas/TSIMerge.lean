/-
  Lemmas.TSIMerge — views of compacted files: `LogFile.CompactTo` (compactLogData) and
  `IndexFiles.CompactTo` (mergeData), on the accessors; `buildSeriesSet` / `mergeSets` in
  terms of the newest mention of an id.
-/
import Influx.Lemmas.TSIExec

namespace Influx.Model.TSI

structure NoFlags (d : FileData) : Prop where
  key : ∀ n k tk, keyElem n k d = some tk → tk.deleted = false
  val : ∀ n k v tv, valElem n k v d = some tv → tv.deleted = false

theorem alookup_map_snd {α β : Type} (l : List (String × α)) (f : String × α → String × β)
    (hf : ∀ p, (f p).1 = p.1) (k : String) :
    alookup (l.map f) k = (alookup l k).map (fun v => (f (k, v)).2) := by
  induction l with
  | nil => rfl
  | cons kv rest ih =>
    obtain ⟨k₀, v₀⟩ := kv
    rw [List.map_cons, alookup, alookup, hf (k₀, v₀)]
    split
    · next h => rw [← h]; rfl
    · exact ih

theorem alookup_filterMap_keys {β γ : Type} (vs : List String) (F : String → Option γ) (g : γ → β)
    (v₀ : String) :
    alookup (vs.filterMap (fun v => (F v).map (fun t => (v, g t)))) v₀ =
      if v₀ ∈ vs then (F v₀).map g else none := by
  induction vs with
  | nil => rfl
  | cons x xs ih =>
    simp only [List.filterMap_cons, List.mem_cons]
    by_cases h : v₀ = x
    · subst h
      cases hx : F v₀ with
      | none => simp only [Option.map_none, ih, hx, ite_self]
      | some t => simp only [Option.map_some, alookup, if_true, true_or]
    · have h' : ¬ x = v₀ := fun e => h e.symm
      cases hx : F x with
      | none => simp only [Option.map_none, ih, h, false_or]
      | some t => simp only [Option.map_some, alookup, h', if_false, ih, h, false_or]

theorem compactLog_mms (d : FileData) (n : String) :
    alookup (compactLogData d).mms n =
      (alookup d.mms n).map (fun mm => { mm with keys := mm.keys.map (fun (k, tk) =>
        if tk.deleted then (k, { tk with values := [] }) else (k, tk)) }) := by
  unfold compactLogData
  refine alookup_map_snd d.mms _ (fun p => ?_) n
  rfl

theorem compactLog_measFlag (d : FileData) (n : String) :
    measFlag n (compactLogData d) = measFlag n d := by
  unfold measFlag
  rw [compactLog_mms]
  cases alookup d.mms n <;> rfl

theorem compactLog_fileMeasSeries (d : FileData) (n : String) :
    fileMeasSeries n (compactLogData d) = fileMeasSeries n d := by
  unfold fileMeasSeries
  rw [compactLog_mms]
  cases alookup d.mms n <;> rfl

theorem compactLog_keyElem (d : FileData) (n k : String) :
    keyElem n k (compactLogData d) =
      (keyElem n k d).map (fun tk => if tk.deleted then { tk with values := [] } else tk) := by
  unfold keyElem
  rw [compactLog_mms]
  cases alookup d.mms n with
  | none => rfl
  | some mm =>
    simp only [Option.map_some, Option.bind_some]
    refine (alookup_map_snd mm.keys _ (fun p => ?_) k).trans ?_
    · split <;> rfl
    · cases alookup mm.keys k with
      | none => rfl
      | some tk => dsimp only [Option.map_some]; split <;> rfl

theorem compactLog_keyElem_noflags {d : FileData} (h : NoFlags d) (n k : String) :
    keyElem n k (compactLogData d) = keyElem n k d := by
  rw [compactLog_keyElem]
  cases hk : keyElem n k d with
  | none => rfl
  | some tk => simp [h.key n k tk hk]

theorem compactLog_valElem_noflags {d : FileData} (h : NoFlags d) (n k v : String) :
    valElem n k v (compactLogData d) = valElem n k v d := by
  unfold valElem
  rw [compactLog_keyElem_noflags h]

theorem compactLog_noflags {d : FileData} (h : NoFlags d) : NoFlags (compactLogData d) where
  key n k tk hk := h.key n k tk (by rwa [compactLog_keyElem_noflags h] at hk)
  val n k v tv hv := h.val n k v tv (by rwa [compactLog_valElem_noflags h] at hv)

theorem compactLog_sets (d : FileData) :
    (compactLogData d).sset = d.sset ∧ (compactLogData d).tomb = d.tomb := ⟨rfl, rfl⟩

theorem merge_mms (fs : List FileData) (n : String) :
    alookup (mergeData fs).mms n =
      if (∃ f ∈ fs, (alookup f.mms n).isSome) then some (mergeMeas fs n) else none := by
  unfold mergeData
  simp only [alookup_map_keys, dedupStr, mem_sortStr, List.mem_flatMap, alookup_isSome_iff]

theorem merge_measFlag (fs : List FileData) (n : String) :
    measFlag n (mergeData fs) = firstSome (measFlag n) fs := by
  have hiff : (firstSome (measFlag n) fs).isSome ↔ ∃ f ∈ fs, (alookup f.mms n).isSome := by
    rw [firstSome_isSome]; simp only [measFlag, Option.isSome_map]
  rw [measFlag, merge_mms]
  cases hf : firstSome (measFlag n) fs with
  | none => rw [if_neg (fun h => by have := hiff.mpr h; rw [hf] at this; cases this)]; rfl
  | some b =>
    rw [if_pos (hiff.mp (by rw [hf]; rfl))]
    simp only [Option.map_some, mergeMeas, hf, Option.getD_some]

theorem mem_fsMeasSeries (fs : List FileData) (n : String) (x : Nat) :
    x ∈ fsMeasSeries fs n ↔ ∃ f ∈ fs, x ∈ fileMeasSeries n f :=
  mem_foldl_sunion_nil (fun f => fileMeasSeries n f) fs x

theorem mem_fileMeasSeries_isSome {n : String} {f : FileData} {x : Nat}
    (h : x ∈ fileMeasSeries n f) : (alookup f.mms n).isSome := by
  unfold fileMeasSeries at h
  cases hm : alookup f.mms n with
  | none => simp [hm] at h
  | some mm => rfl

theorem merge_mem_fileMeasSeries (fs : List FileData) (n : String) (x : Nat) :
    x ∈ fileMeasSeries n (mergeData fs) ↔ ∃ f ∈ fs, x ∈ fileMeasSeries n f := by
  rw [fileMeasSeries, merge_mms]
  by_cases h : ∃ f ∈ fs, (alookup f.mms n).isSome
  · rw [if_pos h]; exact mem_fsMeasSeries fs n x
  · rw [if_neg h]
    exact ⟨fun hx => absurd hx List.not_mem_nil,
      fun ⟨f, hf, hx⟩ => absurd ⟨f, hf, mem_fileMeasSeries_isSome hx⟩ h⟩

theorem mem_fileKeys_iff (n k : String) (f : FileData) :
    k ∈ fileKeys n f ↔ (keyElem n k f).isSome := by
  unfold fileKeys keyElem
  cases alookup f.mms n with
  | none => exact ⟨fun h => absurd h List.not_mem_nil, fun h => (by cases h)⟩
  | some mm => exact (alookup_isSome_iff mm.keys k).symm

theorem keyElem_isSome_meas {n k : String} {f : FileData} (h : (keyElem n k f).isSome) :
    (alookup f.mms n).isSome :=
  Option.isSome_of_isSome_bind h

theorem merge_keyElem (fs : List FileData) (n k : String) :
    keyElem n k (mergeData fs) =
      if (∃ f ∈ fs, (keyElem n k f).isSome) then some (mergeKey fs n k) else none := by
  rw [keyElem, merge_mms]
  by_cases hm : ∃ f ∈ fs, (alookup f.mms n).isSome
  · rw [if_pos hm, Option.bind_some]
    simp only [mergeMeas, alookup_map_keys, dedupStr, mem_sortStr, List.mem_flatMap, mem_fileKeys_iff]
  · rw [if_neg hm, if_neg (fun ⟨f, hf, hk⟩ => hm ⟨f, hf, keyElem_isSome_meas hk⟩)]; rfl

theorem upto_noflags (l : List TagKey) (h : ∀ tk ∈ l, tk.deleted = false) :
    mergedKeyValues.upto l = l := by
  induction l with
  | nil => rfl
  | cons tk rest ih =>
    unfold mergedKeyValues.upto
    have h0 := h tk (by simp)
    simp only [h0, Bool.false_eq_true, if_false]
    rw [ih (fun t ht => h t (List.mem_cons_of_mem _ ht))]

theorem findSome_valElem (fs : List FileData) (n k v : String) :
    (fs.filterMap (keyElem n k)).findSome? (fun tk => alookup tk.values v) = firstSome (valElem n k v) fs := by
  induction fs with
  | nil => rfl
  | cons f rest ih =>
    simp only [List.filterMap_cons, firstSome_cons]
    have hve : valElem n k v f = (keyElem n k f).bind (fun tk => alookup tk.values v) := rfl
    rw [hve]
    cases hk : keyElem n k f with
    | none => simp only [Option.bind_none]; exact ih
    | some tk =>
      simp only [List.findSome?_cons, Option.bind_some]
      cases hv : alookup tk.values v with
      | none => exact ih
      | some tv => rfl

theorem alookup_mergedKeyValues (fs : List FileData) (hnf : ∀ f ∈ fs, NoFlags f) (n k v : String) :
    alookup (mergedKeyValues fs n k) v = (firstSome (valElem n k v) fs).map (·.deleted) := by
  have hup : mergedKeyValues.upto (fs.filterMap (keyElem n k)) = fs.filterMap (keyElem n k) :=
    upto_noflags _ fun tk htk => by
      obtain ⟨f, hf, hkf⟩ := List.mem_filterMap.mp htk
      exact (hnf f hf).key n k tk hkf
  unfold mergedKeyValues
  simp only
  rw [hup]
  refine (alookup_filterMap_keys _ _ TagValue.deleted v).trans ?_
  rw [findSome_valElem]
  split
  · rfl
  · next hmem =>
    -- not listed: no input has the value
    cases hf : firstSome (valElem n k v) fs with
    | none => rfl
    | some tv =>
      obtain ⟨f, hfm, hvf⟩ := firstSome_eq_some hf
      obtain ⟨tk, htk, hlv⟩ := valElem_keyElem hvf
      refine absurd ((mem_sortStr _ _).mpr (List.mem_flatMap.mpr
        ⟨tk, List.mem_filterMap.mpr ⟨f, hfm, htk⟩, ?_⟩)) hmem
      exact (alookup_isSome_iff tk.values v).mp (by rw [hlv]; rfl)

theorem valElem_isSome_keyElem {n k v : String} {f : FileData} (h : (valElem n k v f).isSome) :
    (keyElem n k f).isSome :=
  Option.isSome_of_isSome_bind h

theorem merge_valElem (fs : List FileData) (hnf : ∀ f ∈ fs, NoFlags f) (n k v : String) :
    valElem n k v (mergeData fs) =
      (firstSome (valElem n k v) fs).map (fun tv => mergeVal fs n k v tv.deleted) := by
  rw [valElem, merge_keyElem]
  by_cases hk : ∃ f ∈ fs, (keyElem n k f).isSome
  · rw [if_pos hk, Option.bind_some]
    rw [mergeKey, alookup_map_snd (mergedKeyValues fs n k) (fun p => (p.1, mergeVal fs n k p.1 p.2))
      (fun _ => rfl), alookup_mergedKeyValues fs hnf]
    cases firstSome (valElem n k v) fs <;> rfl
  · -- no input has the key, so none has the value
    have hnone : firstSome (valElem n k v) fs = none := firstSome_eq_none.mpr fun f hf =>
      Option.not_isSome_iff_eq_none.mp fun h => hk ⟨f, hf, valElem_isSome_keyElem h⟩
    rw [if_neg hk, hnone]; rfl

theorem merge_mem_fileValSeries (fs : List FileData) (hnf : ∀ f ∈ fs, NoFlags f) (n k v : String)
    (x : Nat) : x ∈ fileValSeries n k v (mergeData fs) ↔ ∃ f ∈ fs, x ∈ fileValSeries n k v f := by
  rw [fileValSeries_eq, merge_valElem fs hnf]
  cases hf : firstSome (valElem n k v) fs with
  | none =>
    refine ⟨fun hx => absurd hx List.not_mem_nil, fun ⟨f, hfm, hx⟩ => ?_⟩
    obtain ⟨tv, htv, _⟩ := mem_fileValSeries_valElem hx
    rw [firstSome_eq_none.mp hf f hfm] at htv; cases htv
  | some tv => exact mem_foldl_sunion_nil (fun f => fileValSeries n k v f) fs x

theorem merge_noflags (fs : List FileData) (hnf : ∀ f ∈ fs, NoFlags f) : NoFlags (mergeData fs) where
  key n k tk hk := by
    rw [merge_keyElem] at hk
    by_cases he : ∃ f ∈ fs, (keyElem n k f).isSome
    · rw [if_pos he] at hk; cases hk
      -- the merged key carries the flag of the newest input that has it
      show (firstSome (fun f => (keyElem n k f).map (·.deleted)) fs).getD false = false
      cases hf : firstSome (fun f => (keyElem n k f).map (·.deleted)) fs with
      | none => rfl
      | some b =>
        obtain ⟨f, hfm, hg⟩ := firstSome_eq_some hf
        obtain ⟨tk', hkf, rfl⟩ := Option.map_eq_some_iff.mp hg
        exact (hnf f hfm).key n k tk' hkf
    · rw [if_neg he] at hk; cases hk
  val n k v tv hv := by
    rw [merge_valElem fs hnf] at hv
    obtain ⟨tv', hf, rfl⟩ := Option.map_eq_some_iff.mp hv
    obtain ⟨f, hfm, hg⟩ := firstSome_eq_some hf
    exact (hnf f hfm).val n k v tv' hg

/-- the newest file mentioning `id` in its series set (`some true`) or its tombstone set. -/
def status (id : Nat) (fs : List FileData) : Option Bool :=
  firstSome (fun f => if id ∈ f.sset then some true else if id ∈ f.tomb then some false else none) fs

theorem status_cons (id : Nat) (d : FileData) (ds : List FileData) :
    status id (d :: ds) =
      if id ∈ d.sset then some true else if id ∈ d.tomb then some false else status id ds := by
  unfold status
  rw [firstSome_cons]
  by_cases h1 : id ∈ d.sset
  · rw [if_pos h1, if_pos h1]
  · rw [if_neg h1, if_neg h1]
    by_cases h2 : id ∈ d.tomb
    · rw [if_pos h2, if_pos h2]
    · rw [if_neg h2, if_neg h2]

theorem mergeSets_cons (f : FileData) (fs : List FileData) :
    mergeSets (f :: fs) =
      (sunion (sdiff (mergeSets fs).1 f.tomb) f.sset, sdiff (sunion (mergeSets fs).2 f.tomb) f.sset) := by
  simp only [mergeSets, List.reverse_cons, List.foldl_append, List.foldl_cons, List.foldl_nil]

theorem mem_mergeSets (id : Nat) (fs : List FileData) :
    (id ∈ (mergeSets fs).1 ↔ status id fs = some true) ∧
    (id ∈ (mergeSets fs).2 ↔ status id fs = some false) := by
  induction fs with
  | nil => exact ⟨⟨nofun, nofun⟩, ⟨nofun, nofun⟩⟩
  | cons f rest ih =>
    rw [mergeSets_cons, status_cons]
    simp only [mem_sunion, mem_sdiff, ih.1, ih.2]
    by_cases h1 : id ∈ f.sset
    · simp [h1]
    · by_cases h2 : id ∈ f.tomb <;> simp [h1, h2]

theorem buildSeriesSet_eq (fs : List FileData) : buildSeriesSet fs = (mergeSets fs).1 := by
  induction fs with
  | nil => rfl
  | cons f rest ih =>
    rw [mergeSets_cons, ← ih]
    simp only [buildSeriesSet, List.reverse_cons, List.foldl_append, List.foldl_cons, List.foldl_nil]

theorem mem_buildSeriesSet (id : Nat) (fs : List FileData) :
    id ∈ buildSeriesSet fs ↔ status id fs = some true := by
  rw [buildSeriesSet_eq]; exact (mem_mergeSets id fs).1

end Influx.Model.TSI
