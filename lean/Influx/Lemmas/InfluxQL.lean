/-
  Lemmas.InfluxQL — stage lemmas relating Model.InfluxQLPipe to Spec.C22:
  the limit iterator is drop/take; the sorted merge iterator over streams of one tag set
  emits the time-sorted list of all their points (the specification's `sortBy timeLe`);
  the call iterator emits one aggregate per GROUP BY time window.
-/
import Influx.Model.InfluxQLPipe

namespace Influx.InfluxQLPipe.Lemmas
open Influx.Reducers Influx.Spec.C22 Influx.InfluxQLPipe

section Limit
/-- one step of `floatLimitIterator` inside a series -/
theorem limitGo_cons {α : Type} (o : Opt) (p : SP α) (ps : List (SP α)) (n : Nat) :
    limitGo o (some p.tag) n (p :: ps) =
      if n + 1 ≤ o.offset then limitGo o (some p.tag) (n + 1) ps
      else if o.limit > 0 ∧ n + 1 - o.offset > o.limit then limitGo o (some p.tag) (n + 1) ps
      else p :: limitGo o (some p.tag) (n + 1) ps := by
  rw [limitGo, if_pos rfl]

variable {α : Type} (o : Opt) (tg : Option String)

theorem limitGo_skip (l : List (SP α)) (h : ∀ p ∈ l, p.tag = tg) :
    ∀ d n, n + d = o.offset → limitGo o (some tg) n l = limitGo o (some tg) o.offset (l.drop d) := by
  induction l with
  | nil => intro d n _; rw [List.drop_nil]; rfl
  | cons p ps ih =>
    intro d n hd
    cases d with
    | zero => rw [← hd]; rfl
    | succ d =>
      cases h p List.mem_cons_self
      rw [limitGo_cons, if_pos (hd ▸ Nat.succ_le_succ (Nat.le_add_right n d)), List.drop_succ_cons]
      exact ih (fun q hq => h q (List.mem_cons_of_mem _ hq)) d (n + 1) ((Nat.add_right_comm n 1 d).trans hd)

theorem not_inside_offset (k : Nat) : ¬ o.offset + k + 1 ≤ o.offset :=
  fun h => Nat.not_succ_le_self _ (Nat.le_trans (Nat.succ_le_succ (Nat.le_add_right _ k)) h)

theorem limitGo_full (hl : 0 < o.limit) (l : List (SP α)) (h : ∀ p ∈ l, p.tag = tg) :
    ∀ k, o.limit ≤ k → limitGo o (some tg) (o.offset + k) l = [] := by
  induction l with
  | nil => intro _ _; rfl
  | cons p ps ih =>
    intro k hk
    cases h p List.mem_cons_self
    rw [limitGo_cons, if_neg (not_inside_offset o k), Nat.add_assoc, Nat.add_sub_cancel_left,
      if_pos ⟨hl, Nat.lt_succ_of_le hk⟩]
    exact ih (fun q hq => h q (List.mem_cons_of_mem _ hq)) (k + 1) (Nat.le_succ_of_le hk)

theorem limitGo_take (hl : 0 < o.limit) (l : List (SP α)) (h : ∀ p ∈ l, p.tag = tg) :
    ∀ k m, k + m = o.limit → limitGo o (some tg) (o.offset + k) l = l.take m := by
  induction l with
  | nil => intro _ _ _; rw [List.take_nil]; rfl
  | cons p ps ih =>
    intro k m hm
    cases m with
    | zero => exact limitGo_full o tg hl _ h k (Nat.le_of_eq hm.symm)
    | succ m =>
      cases h p List.mem_cons_self
      have hle : k + 1 ≤ o.limit := hm ▸ Nat.succ_le_succ (Nat.le_add_right k m)
      rw [limitGo_cons, if_neg (not_inside_offset o k), Nat.add_assoc, Nat.add_sub_cancel_left,
        if_neg (fun hk => Nat.lt_irrefl _ (Nat.lt_of_lt_of_le hk.2 hle)), List.take_succ_cons,
        ih (fun q hq => h q (List.mem_cons_of_mem _ hq)) (k + 1) m ((Nat.add_right_comm k 1 m).trans hm)]

theorem limitGo_all (hl : o.limit = 0) (l : List (SP α)) (h : ∀ p ∈ l, p.tag = tg) :
    ∀ k, limitGo o (some tg) (o.offset + k) l = l := by
  induction l with
  | nil => intro _; rfl
  | cons p ps ih =>
    intro k
    cases h p List.mem_cons_self
    rw [limitGo_cons, if_neg (not_inside_offset o k), if_neg (fun hk => Nat.ne_of_gt hk.1 hl),
      Nat.add_assoc, ih (fun q hq => h q (List.mem_cons_of_mem _ hq)) (k + 1)]

theorem limitIter_single (l : List (SP α)) (h : ∀ p ∈ l, p.tag = tg) :
    limitIter o l = if o.limit = 0 then l.drop o.offset else (l.drop o.offset).take o.limit := by
  have hd : ∀ p ∈ l.drop o.offset, p.tag = tg := fun p hp => h p (List.mem_of_mem_drop hp)
  -- the first step (no previous tag) resets the counter to 0, as a step from `some tg` at 0 does
  have h0 : limitGo o none 0 l = limitGo o (some tg) 0 l := by
    cases l with
    | nil => rfl
    | cons p ps => rw [limitGo, limitGo, h p List.mem_cons_self, if_pos rfl]; rfl
  unfold limitIter
  by_cases hc : o.limit > 0 ∨ o.offset > 0
  · rw [if_pos hc, h0, limitGo_skip o tg l h o.offset 0 (Nat.zero_add _)]
    by_cases hl : o.limit = 0
    · rw [if_pos hl]; exact limitGo_all o tg hl _ hd 0
    · rw [if_neg hl]; exact limitGo_take o tg (Nat.pos_of_ne_zero hl) _ hd 0 o.limit (Nat.zero_add _)
  · rw [if_neg hc, if_pos (Nat.eq_zero_of_not_pos fun h => hc (Or.inl h)),
      Nat.eq_zero_of_not_pos fun h => hc (Or.inr h), List.drop_zero]

end Limit

variable {V : Type}

/-- `a` is not after `b` in the statement's time order -/
def tLe : Bool → Int → Int → Bool
  | true, a, b => decide (a ≤ b)
  | false, a, b => decide (b ≤ a)

theorem tLe_total (asc : Bool) (a b : Int) (h : tLe asc a b = false) : tLe asc b a = true := by
  cases asc
  · exact decide_eq_true (Int.le_of_lt (Int.not_le.mp (of_decide_eq_false h)))
  · exact decide_eq_true (Int.le_of_lt (Int.not_le.mp (of_decide_eq_false h)))

theorem tLe_trans (asc : Bool) (a b c : Int) (h1 : tLe asc a b = true) (h2 : tLe asc b c = true) :
    tLe asc a c = true := by
  cases asc
  · exact decide_eq_true (Int.le_trans (of_decide_eq_true h2) (of_decide_eq_true h1))
  · exact decide_eq_true (Int.le_trans (of_decide_eq_true h1) (of_decide_eq_true h2))

theorem tLe_antisymm (asc : Bool) (a b : Int) (h1 : tLe asc a b = true) (h2 : tLe asc b a = true) : a = b := by
  cases asc
  · exact Int.le_antisymm (of_decide_eq_true h2) (of_decide_eq_true h1)
  · exact Int.le_antisymm (of_decide_eq_true h1) (of_decide_eq_true h2)

theorem tLe_refl (asc : Bool) (a : Int) : tLe asc a a = true := by
  cases asc <;> exact decide_eq_true (Int.le_refl a)

theorem timeLe_eq (q : Query) : timeLe q = tLe (!q.desc) := by
  funext a b; unfold timeLe; cases q.desc <;> rfl

/-- the merge heap's `Less` on two points of one tag set is the strict statement order -/
theorem sortedBefore_eq (asc : Bool) (a b : SP V) (h : a.tag = b.tag) :
    sortedBefore asc a b = !tLe asc b.t a.t := by
  unfold sortedBefore keyBefore
  rw [if_neg (fun h' => h' h)]
  cases asc <;> simp only [tLe, Bool.false_eq_true, if_false, if_true, ← Int.not_le, decide_not]

theorem insertBy_perm {α : Type} (le : α → α → Bool) (x : α) (l : List α) : (insertBy le x l).Perm (x :: l) := by
  induction l with
  | nil => exact List.Perm.refl _
  | cons y ys ih =>
    rw [insertBy]
    by_cases h : le x y = true
    · rw [if_pos h]
    · rw [if_neg h]; exact (List.Perm.cons y ih).trans (List.Perm.swap x y ys)

theorem sortBy_perm {α : Type} (le : α → α → Bool) (l : List α) : (sortBy le l).Perm l := by
  induction l with
  | nil => exact List.Perm.refl _
  | cons x xs ih => exact (insertBy_perm le x _).trans (List.Perm.cons x ih)

theorem sortBy_pairwise {α : Type} (le : α → α → Bool) (tot : ∀ a b, le a b = false → le b a = true)
    (tr : ∀ a b c, le a b = true → le b c = true → le a c = true) (l : List α) :
    List.Pairwise (fun a b => le a b = true) (sortBy le l) := by
  induction l with
  | nil => exact List.Pairwise.nil
  | cons x xs ih =>
    show List.Pairwise _ (insertBy le x (sortBy le xs))
    generalize sortBy le xs = s at ih
    induction s with
    | nil => exact List.pairwise_singleton _ _
    | cons y ys ihs =>
      have hy := List.pairwise_cons.mp ih
      rw [insertBy]
      cases hle : le x y with
      | true =>
        rw [if_pos rfl]
        refine List.pairwise_cons.mpr ⟨fun z hz => ?_, ih⟩
        rcases List.mem_cons.mp hz with rfl | hz
        · exact hle
        · exact tr x y z hle (hy.1 z hz)
      | false =>
        rw [if_neg Bool.false_ne_true]
        refine List.pairwise_cons.mpr ⟨fun z hz => ?_, ihs hy.2⟩
        rcases List.mem_cons.mp ((insertBy_perm le x ys).mem_iff.mp hz) with rfl | hz
        · exact tot _ _ hle
        · exact hy.1 z hz

/-- every input is ordered in statement order and carries the tag set `tg` -/
def InputsOK (asc : Bool) (tg : Option String) (ins : List (List (SP V))) : Prop :=
  ∀ l ∈ ins, List.Pairwise (fun a b => tLe asc a.t b.t = true) l ∧ ∀ p ∈ l, p.tag = tg

/-- the heap yields nothing only when every input is exhausted; otherwise an input whose
    head no point of any input precedes -/
theorem pickSorted_spec (asc : Bool) (tg : Option String) (ins : List (List (SP V))) (hok : InputsOK asc tg ins) :
    match pickSorted asc ins with
    | none => ∀ l ∈ ins, l = []
    | some i => ∃ p ps, ins[i]? = some (p :: ps) ∧ ∀ l ∈ ins, ∀ q ∈ l, tLe asc p.t q.t = true := by
  induction ins with
  | nil => exact fun _ h => (List.not_mem_nil h).elim
  | cons l ls ih =>
    have ih' := ih fun l' hl' => hok l' (List.mem_cons_of_mem _ hl')
    -- the head of an ordered input precedes the rest of it
    have headMin : ∀ p ps, l = p :: ps → ∀ q ∈ l, tLe asc p.t q.t = true := by
      intro p ps e q hq
      subst e
      rcases List.mem_cons.mp hq with rfl | hq
      · exact tLe_refl asc _
      · exact (List.pairwise_cons.mp (hok _ List.mem_cons_self).1).1 q hq
    cases hp : pickSorted asc ls with
    | none =>
      rw [hp] at ih'
      cases l with
      | nil =>
        simp only [pickSorted, hp]
        intro l' hl'
        rcases List.mem_cons.mp hl' with rfl | hl'
        · rfl
        · exact ih' l' hl'
      | cons p ps =>
        simp only [pickSorted, hp]
        refine ⟨p, ps, rfl, fun l' hl' q hq => ?_⟩
        rcases List.mem_cons.mp hl' with rfl | hl'
        · exact headMin p ps rfl q hq
        · rw [ih' l' hl'] at hq; cases hq
    | some j =>
      rw [hp] at ih'
      obtain ⟨p', ps', hget, hmin⟩ := ih'
      cases l with
      | nil =>
        simp only [pickSorted, hp]
        refine ⟨p', ps', hget, fun l' hl' q hq => ?_⟩
        rcases List.mem_cons.mp hl' with rfl | hl'
        · cases hq
        · exact hmin l' hl' q hq
      | cons p ps =>
        have htag : p'.tag = p.tag :=
          ((hok _ (List.mem_cons_of_mem _ (List.mem_of_getElem? hget))).2 p' List.mem_cons_self).trans
            ((hok _ List.mem_cons_self).2 p List.mem_cons_self).symm
        simp only [pickSorted, hp, hget, Option.bind_some, List.head?_cons, sortedBefore_eq asc p' p htag]
        -- the heap compares `p'`, minimal among the rest, with the new head `p`
        cases hb : tLe asc p.t p'.t with
        | false =>
          simp only [Bool.not_false, if_true]
          refine ⟨p', ps', hget, fun l' hl' q hq => ?_⟩
          rcases List.mem_cons.mp hl' with rfl | hl'
          · exact tLe_trans asc _ _ _ (tLe_total asc _ _ hb) (headMin p ps rfl q hq)
          · exact hmin l' hl' q hq
        | true =>
          simp only [Bool.not_true, Bool.false_eq_true, if_false]
          refine ⟨p, ps, rfl, fun l' hl' q hq => ?_⟩
          rcases List.mem_cons.mp hl' with rfl | hl'
          · exact headMin p ps rfl q hq
          · exact tLe_trans asc _ _ _ hb (hmin l' hl' q hq)

theorem flatten_set_perm {α : Type} (ins : List (List α)) (i : Nat) (p : α) (ps : List α)
    (h : ins[i]? = some (p :: ps)) : (p :: (ins.set i ps).flatten).Perm ins.flatten := by
  induction ins generalizing i with
  | nil => cases h
  | cons l ls ih =>
    cases i with
    | zero => cases h; exact List.Perm.refl _
    | succ i =>
      exact (List.perm_middle.symm).trans (List.Perm.append_left l (ih i h))

theorem sortedMergeGo_facts (asc : Bool) (tg : Option String) :
    ∀ (fuel : Nat) (ins : List (List (SP V))), InputsOK asc tg ins → ins.flatten.length ≤ fuel →
      (sortedMergeGo asc fuel ins).Perm ins.flatten ∧
      List.Pairwise (fun a b => tLe asc a.t b.t = true) (sortedMergeGo asc fuel ins) := by
  intro fuel
  induction fuel with
  | zero =>
    intro ins _ hlen
    rw [List.length_eq_zero_iff.mp (Nat.le_zero.mp hlen)]
    exact ⟨List.Perm.refl _, List.Pairwise.nil⟩
  | succ fuel ih =>
    intro ins hok hlen
    have hpick := pickSorted_spec asc tg ins hok
    rw [sortedMergeGo]
    cases hp : pickSorted asc ins with
    | none =>
      rw [hp] at hpick
      rw [List.flatten_eq_nil_iff.mpr hpick]
      exact ⟨List.Perm.refl _, List.Pairwise.nil⟩
    | some i =>
      rw [hp] at hpick
      obtain ⟨p, ps, hget, hmin⟩ := hpick
      simp only [hget]
      have hperm := flatten_set_perm ins i p ps hget
      have hok' : InputsOK asc tg (ins.set i ps) := by
        intro l hl
        rcases List.mem_or_eq_of_mem_set hl with hl | rfl
        · exact hok l hl
        · have := hok (p :: l) (List.mem_of_getElem? hget)
          exact ⟨(List.pairwise_cons.mp this.1).2, fun q hq => this.2 q (List.mem_cons_of_mem _ hq)⟩
      have hlen' : (ins.set i ps).flatten.length + 1 ≤ fuel + 1 := by
        rw [← List.length_cons, hperm.length_eq]; exact hlen
      obtain ⟨h1, h2⟩ := ih (ins.set i ps) hok' (Nat.le_of_succ_le_succ hlen')
      refine ⟨(List.Perm.cons p h1).trans hperm, List.pairwise_cons.mpr ⟨fun q hq => ?_, h2⟩⟩
      obtain ⟨l, hl, hql⟩ := List.mem_flatten.mp (hperm.mem_iff.mp (List.mem_cons_of_mem _ (h1.mem_iff.mp hq)))
      exact hmin l hl q hql

theorem eq_of_key_eq {α β : Type} (f : α → β) {l : List α} (h : l.Pairwise (fun a b => f a ≠ f b))
    {a b : α} (ha : a ∈ l) (hb : b ∈ l) (e : f a = f b) : a = b :=
  List.Pairwise.forall_of_forall_of_flip (R := fun a b => f a = f b → a = b) (fun _ _ _ => rfl)
    (h.imp fun ne e => absurd e ne) (h.imp fun ne e => absurd e.symm ne) ha hb e

/-- **sorted merge stage**: when all timestamps differ, the merge emits THE arrangement of
    its inputs' points in statement order (for equal timestamps the order is a
    `container/heap` detail) -/
theorem sortedMergeGo_unique (asc : Bool) (tg : Option String) (fuel : Nat) (ins : List (List (SP V)))
    (hok : InputsOK asc tg ins) (hfuel : ins.flatten.length ≤ fuel)
    (hdist : ins.flatten.Pairwise (fun a b => a.t ≠ b.t)) (S : List (SP V)) (hperm : S.Perm ins.flatten)
    (hS : S.Pairwise (fun a b => tLe asc a.t b.t = true)) : sortedMergeGo asc fuel ins = S := by
  obtain ⟨h1, h2⟩ := sortedMergeGo_facts asc tg fuel ins hok hfuel
  exact List.Perm.eq_of_pairwise
    (fun a b ha hb hab hba =>
      eq_of_key_eq (·.t) hdist (h1.mem_iff.mp ha) (hperm.mem_iff.mp hb) (tLe_antisymm asc _ _ hab hba))
    h2 hS (h1.trans hperm.symm)

/-! ### call iterator over GROUP BY time windows

  `IteratorOptions.Window` away from the int64 clamps is the floor window, "inside
  [start, end)" is "same window start", and on a stream in statement order the iterator
  emits one aggregate per distinct window start. -/

/-- start of the window of `t` -/
def wsOf (o : Opt) (t : Int) : Int := t - (t - o.off) % o.dur

/-- `t` is far enough from MinTime / MaxTime for `Window` not to clamp -/
def NoClamp (o : Opt) (t : Int) : Prop := minTime + o.dur < t - o.off ∧ t - o.off + o.dur < maxTime

/-- Go's `%` with the negative-remainder fix-up is the Euclidean remainder -/
theorem tmod_fix (x d : Int) (hd : 0 < d) :
    (if Int.tmod x d < 0 then Int.tmod x d + d else Int.tmod x d) = x % d := by
  rw [Int.tmod_eq_emod]
  by_cases hc : 0 ≤ x ∨ d ∣ x
  · rw [if_pos hc, Int.natCast_zero, Int.sub_zero, if_neg (Int.not_lt.mpr (Int.emod_nonneg x (Int.ne_of_gt hd)))]
  · rw [if_neg hc, Int.natAbs_of_nonneg (Int.le_of_lt hd), if_pos (Int.sub_neg_of_lt (Int.emod_lt_of_pos x hd)),
      Int.sub_add_cancel]

/-- **`IteratorOptions.Window`** (Go `%`, negative-remainder fix-up, offset) away from the
    clamps: `[t − (t−off) mod d, … + d)` -/
theorem window_eq (o : Opt) (hd : 0 < o.dur) (t : Int) (hc : NoClamp o t) :
    window o t = (wsOf o t, wsOf o t + o.dur) := by
  have h1 := Int.emod_nonneg (t - o.off) (Int.ne_of_gt hd)
  have h2 := Int.emod_lt_of_pos (t - o.off) hd
  unfold window wsOf
  simp only [tmod_fix (t - o.off) o.dur hd]
  -- neither clamp applies: `minTime + m < minTime + d < t − off` and `t − off + (d − m) ≤ t − off + d < maxTime`
  rw [if_neg (Int.ne_of_gt hd),
    if_neg (Int.not_le.mpr (Int.lt_trans (Int.add_lt_add_left h2 _) hc.1)),
    if_neg (fun h => Int.not_le.mpr hc.2 (Int.le_trans (Int.le_add_of_sub_right_le h)
      (Int.add_le_add_left (Int.sub_le_self _ h1) _)))]
  congr 1 <;> omega

theorem wsOf_eq_mul (o : Opt) (t : Int) : wsOf o t = o.off + o.dur * ((t - o.off) / o.dur) := by
  rw [wsOf, Int.emod_def, Int.sub_sub, Int.sub_sub_self]

theorem inWindow_iff (o : Opt) (hd : 0 < o.dur) (t u : Int) :
    (u < wsOf o t + o.dur ∧ wsOf o t ≤ u) ↔ wsOf o u = wsOf o t := by
  rw [wsOf_eq_mul o t, wsOf_eq_mul o u, Int.add_assoc]
  -- with `k` the quotient of `t`: `(u − off) / d = k ↔ d·k ≤ u − off < d·k + d`
  have h := Int.ediv_eq_iff_of_pos hd (x := u - o.off) (y := (t - o.off) / o.dur)
  rw [Int.mul_comm] at h
  constructor
  · intro hw
    rw [h.mpr ⟨Int.le_sub_left_of_add_le hw.2, Int.sub_left_lt_of_lt_add hw.1⟩]
  · intro he
    have := h.mp (Int.eq_of_mul_eq_mul_left (Int.ne_of_gt hd) (Int.add_left_cancel he))
    exact ⟨Int.lt_add_of_sub_left_lt this.2, Int.add_le_of_le_sub_left this.1⟩

theorem wsOf_mono (o : Opt) (hd : 0 < o.dur) (asc : Bool) (t u : Int) (h : tLe asc t u = true) :
    tLe asc (wsOf o t) (wsOf o u) = true := by
  have mono : ∀ t u, t ≤ u → wsOf o t ≤ wsOf o u := by
    intro t u h
    rw [wsOf_eq_mul, wsOf_eq_mul]
    exact Int.add_le_add_left (Int.mul_le_mul_of_nonneg_left
      (Int.ediv_le_ediv hd (Int.sub_le_sub_right h _)) (Int.le_of_lt hd)) _
  cases asc <;> exact decide_eq_true (mono _ _ (of_decide_eq_true h))

theorem dedupAdj_cons_same (k : Int) (l : List Int) : dedupAdj (k :: k :: l) = dedupAdj (k :: l) := by
  rw [dedupAdj, if_pos rfl]

theorem dedupAdj_cons_ne (k k' : Int) (l : List Int) (h : k ≠ k') :
    dedupAdj (k :: k' :: l) = k :: dedupAdj (k' :: l) := by
  rw [dedupAdj, if_neg h]

theorem mem_dedupAdj (l : List Int) : ∀ x, x ∈ dedupAdj l → x ∈ l := by
  induction l with
  | nil => intro x hx; cases hx
  | cons a l ih =>
    intro x hx
    cases l with
    | nil => exact hx
    | cons b l =>
      by_cases hab : a = b
      · subst hab
        rw [dedupAdj_cons_same] at hx
        exact List.mem_cons_of_mem _ (ih x hx)
      · rw [dedupAdj_cons_ne _ _ _ hab] at hx
        rcases List.mem_cons.mp hx with rfl | hx
        · exact List.mem_cons_self
        · exact List.mem_cons_of_mem _ (ih x hx)

/-- **call iterator over window boundaries**, with a window `[wsOf t, wsOf t + d)` open
    that holds `acc`: on a stream of one tag set (no clamping) whose window starts never
    go back, the reduce iterator emits, for each distinct window start in order,
    `emit start (all points of that window)` -/
theorem reduceGo_groups {α β : Type} (o : Opt) (hd : 0 < o.dur) (emit : Int → List (SP α) → SP β)
    (asc : Bool) (tg : Option String) (rest : List (SP α))
    (htag : ∀ p ∈ rest, p.tag = tg) (hc : ∀ p ∈ rest, NoClamp o p.t) :
    ∀ (t : Int) (acc : List (SP α)), (∀ a ∈ acc, wsOf o a.t = wsOf o t) →
      (∀ r ∈ rest, tLe asc (wsOf o t) (wsOf o r.t) = true) →
      List.Pairwise (fun a b => tLe asc (wsOf o a.t) (wsOf o b.t) = true) rest →
      reduceGo o emit (some ((wsOf o t, wsOf o t + o.dur), tg, acc)) rest =
        (dedupAdj (wsOf o t :: rest.map fun p => wsOf o p.t)).map fun k =>
          emit k ((acc ++ rest).filter fun a => decide (wsOf o a.t = k)) := by
  induction rest with
  | nil =>
    intro t acc hacc _ _
    show [emit (wsOf o t) acc] = [emit (wsOf o t) ((acc ++ []).filter _)]
    rw [List.append_nil, List.filter_eq_self.mpr fun a ha => decide_eq_true (hacc a ha)]
  | cons p ps ih =>
    intro t acc hacc hrest hpw
    have hpw' := List.pairwise_cons.mp hpw
    have ih' := ih (fun q hq => htag q (List.mem_cons_of_mem _ hq)) (fun q hq => hc q (List.mem_cons_of_mem _ hq))
    have hin : (decide (p.t < wsOf o t + o.dur) && decide (wsOf o t ≤ p.t)) = decide (wsOf o p.t = wsOf o t) := by
      rw [← Bool.decide_and, decide_eq_decide]; exact inWindow_iff o hd t p.t
    simp only [reduceGo, hin, htag p List.mem_cons_self, decide_true, Bool.and_true, List.map_cons]
    by_cases hk : wsOf o p.t = wsOf o t
    · rw [if_pos (decide_eq_true hk), hk, dedupAdj_cons_same,
        ih' t (acc ++ [p]) (fun a ha => (List.mem_append.mp ha).elim (hacc a) fun h => by
          rw [List.mem_singleton.mp h]; exact hk)
          (fun r hr => hrest r (List.mem_cons_of_mem _ hr)) hpw'.2,
        List.append_assoc, List.singleton_append]
    · -- the window of `t` is closed: no later point falls into it
      have hafter : ∀ r ∈ p :: ps, wsOf o r.t ≠ wsOf o t := by
        intro r hr e
        have hpr : tLe asc (wsOf o p.t) (wsOf o r.t) = true := by
          rcases List.mem_cons.mp hr with rfl | hr
          · exact tLe_refl asc _
          · exact hpw'.1 r hr
        exact hk (tLe_antisymm asc _ _ (e ▸ hpr) (hrest p List.mem_cons_self))
      rw [if_neg (fun h => hk (of_decide_eq_true h)), window_eq o hd p.t (hc p List.mem_cons_self),
        dedupAdj_cons_ne _ _ _ (Ne.symm hk), List.map_cons]
      congr 1
      · rw [List.filter_append, List.filter_eq_self.mpr fun a ha => decide_eq_true (hacc a ha),
          List.filter_eq_nil_iff.mpr fun r hr h => hafter r hr (of_decide_eq_true h), List.append_nil]
      · rw [ih' p.t [p] (fun a ha => by rw [List.mem_singleton.mp ha]) hpw'.1 hpw'.2]
        apply List.map_congr_left
        intro k hk'
        obtain ⟨r, hr, hrk⟩ := List.mem_map.mp
          (show k ∈ (p :: ps).map (fun p => wsOf o p.t) from mem_dedupAdj _ k hk')
        rw [List.filter_append (l₁ := acc), (List.filter_eq_nil_iff (l := acc)).mpr fun a ha h =>
          hafter r hr (hrk.trans ((of_decide_eq_true h).symm.trans (hacc a ha))), List.nil_append]
        rfl

theorem reduceStream_groups {α β : Type} (o : Opt) (hd : 0 < o.dur) (emit : Int → List (SP α) → SP β)
    (asc : Bool) (tg : Option String) (l : List (SP α)) (htag : ∀ p ∈ l, p.tag = tg)
    (hc : ∀ p ∈ l, NoClamp o p.t) (hnil : ∀ p ∈ l, p.nil = false)
    (hord : l.Pairwise fun a b => tLe asc a.t b.t = true) :
    reduceStream o emit l =
      (dedupAdj (l.map fun p => wsOf o p.t)).map fun k => emit k (l.filter fun a => decide (wsOf o a.t = k)) := by
  unfold reduceStream
  rw [List.filter_eq_self.mpr fun p hp => by rw [hnil p hp]; rfl]
  cases l with
  | nil => rfl
  | cons p ps =>
    have hpw := List.pairwise_cons.mp hord
    rw [reduceGo, window_eq o hd p.t (hc p List.mem_cons_self), htag p List.mem_cons_self]
    exact reduceGo_groups o hd emit asc tg ps (fun q hq => htag q (List.mem_cons_of_mem _ hq))
      (fun q hq => hc q (List.mem_cons_of_mem _ hq)) p.t [p] (fun a ha => by rw [List.mem_singleton.mp ha])
      (fun r hr => wsOf_mono o hd asc _ _ (hpw.1 r hr)) (hpw.2.imp fun h => wsOf_mono o hd asc _ _ h)

end Influx.InfluxQLPipe.Lemmas
