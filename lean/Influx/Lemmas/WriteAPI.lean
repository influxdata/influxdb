/-
  Lemmas.WriteAPI — helper lemmas about the write-path model (Model/WriteAPI.lean):
  one `Read` of the scripted source and of the LimitedReadCloser, what a body still has
  to deliver (`Body.drain`) and with it the closed form of `io.ReadAll` / `readAll` for
  every chunking script, and the invariant of a LimitedReadCloser under arbitrary use.
-/
import Influx.Model.WriteAPI
import Influx.Spec.C32

namespace Influx.WriteAPI

theorem Src.read_spec (s : Src) (k : Nat) {s' : Src} {bs : List Nat} {e : Option RErr}
    (h : s.read k = (s', bs, e)) :
    s.data = bs ++ s'.data ∧ s'.term = s.term ∧ s'.closeErr = s.closeErr ∧ bs.length ≤ k ∧
    (e = none ∨ (e = some s.term ∧ s'.data = [])) := by
  unfold Src.read at h
  by_cases hd : s.data.isEmpty = true
  · rw [if_pos hd] at h
    cases h
    exact ⟨rfl, rfl, rfl, Nat.zero_le _, Or.inr ⟨rfl, List.isEmpty_iff.1 hd⟩⟩
  · rw [if_neg hd] at h
    have hc := s.chunk_le k
    generalize s.chunk k = c at h hc
    cases h
    refine ⟨(List.take_append_drop _ _).symm, rfl, rfl,
      Nat.le_trans (List.length_take_le _ _) (Nat.le_trans (Nat.min_le_left _ _) hc), ?_⟩
    by_cases hh : min c s.data.length = s.data.length ∧ s.eager = true
    · right; rw [if_pos hh]; exact ⟨rfl, List.drop_eq_nil_of_le (Nat.le_of_eq hh.1.symm)⟩
    · left; rw [if_neg hh]

theorem LRC.read_cases {l : LRC} {k : Nat} (hn : 0 ≤ l.n) {l' : LRC} {bs : List Nat} {e : Option RErr}
    (h : l.read k = (l', bs, e)) :
    l'.closed = l.closed ∧ l'.err = l.err ∧ l'.r.term = l.r.term ∧ l'.r.closeErr = l.r.closeErr ∧
    ((l.n = 0 ∧ l.limitExceeded = true ∧ l' = l ∧ bs = [] ∧ e = some .eof) ∨
     (l.n = 0 ∧ l.limitExceeded = false ∧ bs = [] ∧ l'.n = 0 ∧ l'.limitExceeded = true ∧
        0 < l.r.data.length ∧ e = some .eof) ∨
     ((0 < l.n ∨ l.limitExceeded = false) ∧ l'.limitExceeded = l.limitExceeded ∧ l.r.data = bs ++ l'.r.data ∧
        l'.n = l.n - bs.length ∧ (bs.length : Int) ≤ l.n ∧
        (e = none ∨ (e = some l.r.term ∧ l'.r.data = [])))) := by
  unfold LRC.read at h
  by_cases h0 : l.n ≤ 0
  · rw [if_pos h0] at h
    have hn0 : l.n = 0 := Int.le_antisymm h0 hn
    by_cases hx : l.limitExceeded = true
    · rw [if_pos hx] at h
      cases h
      exact ⟨rfl, rfl, rfl, rfl, Or.inl ⟨hn0, hx, rfl, rfl, rfl⟩⟩
    · rw [if_neg hx] at h
      have hx' : l.limitExceeded = false := by simpa using hx
      generalize hs : l.r.read 1 = res at h
      obtain ⟨r1, bs1, e1⟩ := res
      obtain ⟨hd, ht, hce, hlen, he⟩ := Src.read_spec _ _ hs
      by_cases hpos : bs1.length > 0
      · simp only [if_pos hpos] at h
        cases h
        refine ⟨rfl, rfl, ht, hce, Or.inr (Or.inl ⟨hn0, hx', rfl, hn0, rfl, ?_, rfl⟩)⟩
        rw [hd, List.length_append]; exact Nat.lt_of_lt_of_le hpos (Nat.le_add_right _ _)
      · simp only [if_neg hpos] at h
        cases h
        have hb : bs1 = [] := List.eq_nil_of_length_eq_zero (Nat.eq_zero_of_not_pos hpos)
        subst hb
        exact ⟨rfl, rfl, ht, hce, Or.inr (Or.inr ⟨Or.inr hx', rfl, hd, (Int.sub_zero _).symm, hn, he⟩)⟩
  · rw [if_neg h0] at h
    simp only at h
    generalize hk' : (if (k : Int) > l.n then l.n.toNat else k) = k' at h
    generalize hs : l.r.read k' = res at h
    obtain ⟨r1, bs1, e1⟩ := res
    obtain ⟨hd, ht, hce, hlen, he⟩ := Src.read_spec _ _ hs
    cases h
    have hk2 : (bs1.length : Int) ≤ l.n := by
      by_cases hk : (k : Int) > l.n
      · rw [if_pos hk] at hk'; subst hk'; exact (Int.le_toNat hn).1 hlen
      · rw [if_neg hk] at hk'; subst hk'; exact Int.le_trans (Int.ofNat_le.2 hlen) (Int.not_lt.1 hk)
    exact ⟨rfl, rfl, ht, hce, Or.inr (Or.inr ⟨Or.inl (Int.not_le.1 h0), rfl, hd, rfl, hk2, he⟩)⟩

/-- the error io.ReadAll reports for a stream ending in `t` -/
def termErr (t : RErr) : Option RErr := if t = .eof then none else some t

theorem ioReadAll_eq (old : Bool) (b : Body) (bufs acc : List Nat) :
    ioReadAll old b bufs acc =
      match b.read old (bufSize bufs) with
      | (b', bs, none) => ioReadAll old b' bufs.tail (acc ++ bs)
      | (b', bs, some e) => (b', acc ++ bs, termErr e) := by
  rw [ioReadAll]
  split
  · next h => rw [h]
  · next h => rw [h]; rfl
  · next e hne h => rw [h]; simp only [termErr]; rw [if_neg hne]

theorem ioReadAll_none {old b bufs acc b' bs} (h : Body.read old b (bufSize bufs) = (b', bs, none)) :
    ioReadAll old b bufs acc = ioReadAll old b' bufs.tail (acc ++ bs) := by
  rw [ioReadAll_eq, h]

theorem ioReadAll_some {old b bufs acc b' bs e} (h : Body.read old b (bufSize bufs) = (b', bs, some e)) :
    ioReadAll old b bufs acc = (b', acc ++ bs, termErr e) := by
  rw [ioReadAll_eq, h]

theorem LRC.close_err (l : LRC) (hc : l.closed = false) (he : l.err = none) :
    l.close.2 = if l.limitExceeded then some .limit
      else if l.r.closeErr then some (.under .other) else none := by
  obtain ⟨⟨d, ch, eg, t, ce, cl⟩, n, err, closed, ex⟩ := l
  simp only at hc he
  subst hc he
  cases ex <;> cases ce <;> rfl

theorem Body.close_raw (s : Src) : (Body.raw s).close.2 = if s.closeErr then some (.under .other) else none := by
  cases h : s.closeErr <;> simp [Body.close, Src.close, h]

/-- a body as `openBody` hands it out or as `io.ReadAll` finds it between two `Read`s that reported no error -/
def Body.ready : Body → Prop
  | .raw _ => True
  | .limited l => 0 ≤ l.n ∧ l.limitExceeded = false ∧ l.closed = false ∧ l.err = none

/-- what is still to come from a body: the bytes it delivers when read to its end, the error
    `io.ReadAll` reports for that, and the error of the `Close` that follows.  A limited reader
    with enough room left behaves as the reader it wraps. -/
def Body.drain : Body → List Nat × Option RErr × Option CErr
  | .raw s => (s.data, termErr s.term, if s.closeErr then some (.under .other) else none)
  | .limited l =>
    if l.n.toNat < l.r.data.length then (l.r.data.take l.n.toNat, none, some .limit)
    else (l.r.data, termErr l.r.term, if l.r.closeErr then some (.under .other) else none)

theorem Body.drain_limited_append {l l1 : LRC} {bs : List Nat} (hn0 : 0 ≤ l.n) (hd : l.r.data = bs ++ l1.r.data)
    (hn : l1.n = l.n - bs.length) (hle : (bs.length : Int) ≤ l.n) (ht : l1.r.term = l.r.term)
    (hc : l1.r.closeErr = l.r.closeErr) :
    (Body.limited l).drain = (bs ++ (Body.limited l1).drain.1, (Body.limited l1).drain.2) := by
  obtain ⟨N, hN⟩ := Int.eq_ofNat_of_zero_le hn0
  rw [hN] at hn hle
  have hle' : bs.length ≤ N := Int.ofNat_le.1 hle
  simp only [Body.drain]
  rw [hn, hN, Int.toNat_sub, Int.toNat_natCast, hd, List.length_append, ht, hc]
  have hiff := Nat.sub_lt_iff_lt_add' (c := l1.r.data.length) hle'
  by_cases hlt : N < bs.length + l1.r.data.length
  · rw [if_pos hlt, if_pos (hiff.2 hlt), List.take_append, List.take_of_length_le hle']
  · rw [if_neg hlt, if_neg (fun h => hlt (hiff.1 h))]

theorem Body.read_raw {old : Bool} {s : Src} {k : Nat} {s' bs e} (h : s.read k = (s', bs, e)) :
    Body.read old (.raw s) k = (.raw s', bs, e) := by
  simp only [Body.read, h]

theorem Body.read_limited {l : LRC} {k : Nat} {l' bs e} (h : l.read k = (l', bs, e)) :
    Body.read false (.limited l) k = (.limited l', bs, e) := by
  simp only [Body.read, Bool.false_eq_true, if_false, h]

theorem Body.read_drain {b : Body} (hb : b.ready) {k : Nat} {b' : Body} {bs : List Nat} {e : Option RErr}
    (h : b.read false k = (b', bs, e)) :
    (e = none → b'.ready ∧ b.drain = (bs ++ b'.drain.1, b'.drain.2)) ∧
    (∀ t, e = some t → b.drain = (bs, termErr t, b'.close.2)) := by
  cases b with
  | raw s =>
    rcases hs : s.read k with ⟨s1, bs1, e1⟩
    rw [Body.read_raw hs] at h
    cases h
    obtain ⟨hd, ht, hce, -, he⟩ := Src.read_spec s k hs
    simp only [Body.drain]
    rcases he with rfl | ⟨rfl, hnil⟩
    · exact ⟨fun _ => ⟨trivial, by rw [hd, ht, hce]⟩, nofun⟩
    · refine ⟨nofun, fun t ht => ?_⟩
      cases ht
      rw [Body.close_raw, hce, hd, hnil, List.append_nil]
  | limited l =>
    rcases hs : l.read k with ⟨l1, bs1, e1⟩
    rw [Body.read_limited hs] at h
    cases h
    obtain ⟨hn, hx, hcl, her⟩ := hb
    obtain ⟨c1, c2, c3, c4, hc⟩ := LRC.read_cases hn hs
    have hclose : (Body.limited l1).close.2 =
        if l1.limitExceeded then some .limit else if l.r.closeErr then some (.under .other) else none := by
      rw [← c4]; exact LRC.close_err l1 (c1.trans hcl) (c2.trans her)
    rcases hc with ⟨-, hx', -⟩ | ⟨h0, -, rfl, -, hx', hpos, rfl⟩ | ⟨-, hx', hd, hn', hle, he⟩
    · rw [hx] at hx'; cases hx'
    · refine ⟨nofun, fun t ht => ?_⟩
      cases ht
      simp only [Body.drain]
      rw [hclose, hx', h0, if_pos (show Int.toNat 0 < _ from hpos), if_pos rfl]; rfl
    · have hshift := Body.drain_limited_append hn hd hn' hle c3 c4
      rcases he with rfl | ⟨rfl, hnil⟩
      · exact ⟨fun _ => ⟨⟨by rw [hn']; exact Int.sub_nonneg_of_le hle, hx'.trans hx, c1.trans hcl, c2.trans her⟩, hshift⟩, nofun⟩
      · refine ⟨nofun, fun t ht => ?_⟩
        cases ht
        rw [hshift, hclose, hx', hx]
        simp only [Body.drain]
        rw [hnil, if_neg (show ¬_ < [].length from Nat.not_lt_zero _), c3, c4, List.append_nil]
        rfl

theorem ioReadAll_drain (b : Body) (bufs acc : List Nat) (hb : b.ready) :
    ∃ b', ioReadAll false b bufs acc = (b', acc ++ b.drain.1, b.drain.2.1) ∧ b'.close.2 = b.drain.2.2 := by
  induction b, bufs, acc using ioReadAll.induct false with
  | case1 b bufs acc b' bs hr ih =>
    obtain ⟨hb', hd⟩ := (Body.read_drain hb hr).1 rfl
    obtain ⟨bf, h1, h2⟩ := ih hb'
    exact ⟨bf, by rw [ioReadAll_none hr, h1, hd, List.append_assoc], by rw [h2, hd]⟩
  | case2 b bufs acc b' bs hr | case3 b bufs acc b' bs e hne hr =>
    have hd := (Body.read_drain hb hr).2 _ rfl
    exact ⟨b', by rw [ioReadAll_some hr, hd], by rw [hd]⟩

theorem readAll_eq (old : Bool) (b : Body) (bufs : List Nat) :
    (readAll old b bufs).2 =
      match (ioReadAll old b bufs []).2.2 with
      | some e => .error (.rd e)
      | none =>
        match (ioReadAll old b bufs []).1.close.2 with
        | some .limit => .error .tooLarge
        | some (.under e) => .error (.cl e)
        | none => .ok (ioReadAll old b bufs []).2.1 := by
  unfold readAll
  generalize ioReadAll old b bufs [] = res
  obtain ⟨b1, data, rerr⟩ := res
  generalize hc : b1.close = res2
  obtain ⟨b2, cerr⟩ := res2
  cases rerr with
  | some e => rfl
  | none =>
    simp only
    cases cerr with
    | none => simp [hc]
    | some c => cases c <;> simp [hc]

/-- what `readAll` returns, in closed form -/
def readAllResult (s : Src) (limit : Int) : Except ReadErr (List Nat) :=
  if 0 < limit ∧ limit.toNat < s.data.length then .error .tooLarge
  else if s.term ≠ .eof then .error (.rd s.term)
  else if s.closeErr then .error (.cl .other)
  else .ok s.data

theorem ready_openBody (s : Src) (limit : Int) : (openBody s limit).ready := by
  unfold openBody
  by_cases hl : limit > 0
  · rw [if_pos hl]; exact ⟨Int.le_of_lt hl, rfl, rfl, rfl⟩
  · rw [if_neg hl]; trivial

theorem drain_openBody (s : Src) (limit : Int) :
    (openBody s limit).drain =
      if 0 < limit ∧ limit.toNat < s.data.length then (s.data.take limit.toNat, none, some .limit)
      else (s.data, termErr s.term, if s.closeErr then some (.under .other) else none) := by
  unfold openBody
  by_cases hl : limit > 0
  · rw [if_pos hl]
    show (if limit.toNat < s.data.length then _ else _) = _
    by_cases hx : limit.toNat < s.data.length
    · rw [if_pos hx, if_pos ⟨hl, hx⟩]; rfl
    · rw [if_neg hx, if_neg (fun h : 0 < limit ∧ _ => hx h.2)]; rfl
  · rw [if_neg hl, if_neg (fun h => hl h.1)]; rfl

theorem readAll_spec (s : Src) (limit : Int) (bufs : List Nat) :
    (readAll false (openBody s limit) bufs).2 = readAllResult s limit := by
  obtain ⟨b', h1, h2⟩ := ioReadAll_drain _ bufs [] (ready_openBody s limit)
  rw [readAll_eq, h1, h2, drain_openBody]
  unfold readAllResult
  by_cases hx : 0 < limit ∧ limit.toNat < s.data.length
  · rw [if_pos hx, if_pos hx]
  · rw [if_neg hx, if_neg hx]
    simp only [termErr]
    by_cases ht : s.term = .eof
    · rw [if_pos ht, if_neg (fun h : s.term ≠ .eof => h ht)]
      cases s.closeErr <;> rfl
    · rw [if_neg ht, if_pos ht]

section
open Influx.Spec.C32

/-- invariant of a LimitedReadCloser (limit ≥ 0) around a clean stream of `size`
    bytes while it is being read: `d` bytes delivered so far, `e`: some Read has
    reported an error -/
def LInv (limit : Int) (size : Nat) (l : LRC) (d : Nat) (e : Bool) : Prop :=
  l.closed = false ∧ l.err = none ∧ l.r.term = .eof ∧ 0 ≤ l.n ∧ l.n = limit - d ∧
  (l.limitExceeded = false → d + l.r.data.length = size) ∧
  (l.limitExceeded = true → (d : Int) = limit ∧ limit < size) ∧
  (e = true → l.limitExceeded = true ∨ l.r.data = [])

theorem LInv.read {limit : Int} {size : Nat} {l : LRC} {d : Nat} {e : Bool} (hi : LInv limit size l d e)
    {k : Nat} {l' : LRC} {bs : List Nat} {er : Option RErr} (h : l.read k = (l', bs, er)) :
    LInv limit size l' (d + bs.length) (e || er.isSome) := by
  obtain ⟨i1, i2, i3, i4, i5, i6, i7, i8⟩ := hi
  obtain ⟨c1, c2, c3, -, hc⟩ := LRC.read_cases i4 h
  rcases hc with ⟨-, hx, rfl, rfl, rfl⟩ | ⟨hn, hx, rfl, hn', hx', hpos, rfl⟩ | ⟨hpos, hx', hd, hn', hle, he⟩
  · exact ⟨i1, i2, i3, i4, i5, i6, i7, fun _ => Or.inl hx⟩
  · show LInv limit size l' d _
    refine ⟨c1.trans i1, c2.trans i2, c3.trans i3, Int.le_of_eq hn'.symm, hn'.trans (hn.symm.trans i5), ?_, ?_,
      fun _ => Or.inl hx'⟩
    · intro hf; rw [hx'] at hf; cases hf
    · intro _
      have hld : limit = d := Int.eq_of_sub_eq_zero (i5.symm.trans hn)
      exact ⟨hld.symm, by rw [hld, ← i6 hx]; exact Int.ofNat_lt.2 (Nat.lt_add_of_pos_right hpos)⟩
  · have hlen : l.r.data.length = bs.length + l'.r.data.length := by rw [hd, List.length_append]
    refine ⟨c1.trans i1, c2.trans i2, c3.trans i3, by rw [hn']; exact Int.sub_nonneg_of_le hle,
      by rw [hn', i5, Int.natCast_add, Int.sub_sub], ?_, ?_, ?_⟩
    · intro hf; rw [Nat.add_assoc, ← hlen]; exact i6 (hx'.symm.trans hf)
    · intro hf
      have hx := hx'.symm.trans hf
      have hpos := hpos.resolve_right (by rw [hx]; nofun)
      rw [i5, (i7 hx).1, Int.sub_self] at hpos
      exact absurd hpos (Int.lt_irrefl 0)
    · intro he'
      rcases he with rfl | ⟨rfl, hnil⟩
      · rcases i8 ((Bool.or_false e).symm.trans he') with h1 | h1
        · exact Or.inl (hx'.trans h1)
        · rw [h1] at hd; exact Or.inr (List.append_eq_nil_iff.1 hd.symm).2
      · exact Or.inr hnil

theorem LInv.close {limit : Int} {size : Nat} {l : LRC} {d : Nat} (hi : LInv limit size l d true) :
    d = min size limit.toNat ∧ (l.close.2 == some .limit) = decide (limit < (size : Int)) := by
  obtain ⟨i1, i2, -, i4, i5, i6, i7, i8⟩ := hi
  rw [LRC.close_err l i1 i2]
  cases hx : l.limitExceeded
  · have hd : l.r.data = [] := (i8 rfl).resolve_left (by rw [hx]; nofun)
    have hs : d + ([] : List Nat).length = size := hd ▸ i6 hx
    have hs : d = size := hs
    subst hs
    have hle : (d : Int) ≤ limit := Int.le_of_sub_nonneg (i5 ▸ i4)
    exact ⟨(Nat.min_eq_left ((Int.le_toNat (Int.le_trans (Int.natCast_nonneg d) hle)).2 hle)).symm,
      by rw [decide_eq_false (Int.not_lt.2 hle)]; cases l.r.closeErr <;> rfl⟩
  · obtain ⟨h1, h2⟩ := i7 hx
    subst h1
    exact ⟨by rw [Int.toNat_natCast]; exact (Nat.min_eq_right (Nat.le_of_lt (Int.ofNat_lt.1 h2))).symm,
      by rw [decide_eq_true h2]; rfl⟩

theorem LRC.runSteps_read (l : LRC) (k : Nat) (ss : List Step) :
    (l.runSteps (.read k :: ss)).2 = .rd (l.read k).2.1 (l.read k).2.2 :: ((l.read k).1.runSteps ss).2 := rfl

theorem LRC.runSteps_close (l : LRC) (ss : List Step) :
    (l.runSteps (.close :: ss)).2 = .cl l.close.2 :: (l.close.1.runSteps ss).2 := rfl

theorem lrc_run (limit : Int) (size : Nat) (steps : List Step) :
    ∀ (l : LRC) (d : Nat) (e : Bool), LInv limit size l d e →
    (match readsThenClose steps ((l.runSteps steps).2.map obsOfRes) d e with
    | none => true
    | some (n, c) => n == min size limit.toNat && (c.isLimit == decide (limit < (size : Int)))) = true := by
  induction steps with
  | nil => intro l d e _; rfl
  | cons st ss ih =>
    intro l d e hi
    cases st with
    | read k =>
      rw [LRC.runSteps_read]
      exact ih _ _ _ (hi.read rfl)
    | close =>
      rw [LRC.runSteps_close]
      cases e with
      | false => rfl
      | true => exact Bool.and_eq_true_iff.2 ⟨beq_iff_eq.2 hi.close.1, beq_iff_eq.2 hi.close.2⟩

end

end Influx.WriteAPI
