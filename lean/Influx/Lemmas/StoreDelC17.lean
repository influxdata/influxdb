/-
  Lemmas.StoreDelC17 — invariants of the store model under writes and deletes: lists of entries
  with distinct keys (a write updates the entry of its key or appends one), ascending point lists,
  tombstones of one file, one series, one shard, the handler's measurement short-cut.
-/
import Influx.Model.StoreDel
import Influx.Lemmas.StoreDelOrder
import Influx.Spec.C16
import Influx.Lemmas.DelPredRunInv

namespace Influx.Model.StoreDel
open Influx.Model.DelPred (Bytes Pred)

/-- Update the entries satisfying `P`, or append `new` when there is none: what `Shard.write` does
    to the series, and both histories (`Spec.C17.Abs.write`, `Spec.C42.Hist.write`) to their entries. -/
def upsert {α : Type} (P : α → Prop) [DecidablePred P] (upd : α → α) (new : α) (l : List α) : List α :=
  if l.any (fun e => decide (P e)) then l.map fun e => if P e then upd e else e else l ++ [new]

section
variable {α : Type} {P : α → Prop} [DecidablePred P] {upd : α → α} {new : α} {l : List α}

theorem forall_mem_upsert {Q : α → Prop} (hl : ∀ e ∈ l, Q e) (hu : ∀ e ∈ l, P e → Q (upd e)) (hn : Q new) :
    ∀ x ∈ upsert P upd new l, Q x := by
  unfold upsert
  split
  · intro x hx
    obtain ⟨e, he, rfl⟩ := List.mem_map.1 hx
    split
    · exact hu e he ‹_›
    · exact hl e he
  · intro x hx
    rcases List.mem_append.1 hx with hx | hx
    · exact hl x hx
    · rw [List.mem_singleton.1 hx]; exact hn

theorem map_upsert {κ : Type} [DecidableEq κ] {f : α → κ} {k : κ} (hP : ∀ e, P e ↔ f e = k)
    (hu : ∀ e, f (upd e) = f e) (hn : f new = k) :
    (upsert P upd new l).map f = if k ∈ l.map f then l.map f else l.map f ++ [k] := by
  have hany : (l.any fun e => decide (P e)) = true ↔ k ∈ l.map f := by
    simp only [List.any_eq_true, decide_eq_true_eq, List.mem_map, hP]
  unfold upsert
  by_cases h : k ∈ l.map f
  · rw [if_pos (hany.2 h), if_pos h, List.map_map]
    exact List.map_congr_left fun e _ => by simp only [Function.comp]; split <;> simp only [hu]
  · rw [if_neg (mt hany.1 h), if_neg h, List.map_append, List.map_singleton, hn]

theorem mem_map_upsert {κ : Type} [DecidableEq κ] {f : α → κ} {k : κ} (hP : ∀ e, P e ↔ f e = k)
    (hu : ∀ e, f (upd e) = f e) (hn : f new = k) (y : κ) :
    y ∈ (upsert P upd new l).map f ↔ y ∈ l.map f ∨ y = k := by
  rw [map_upsert hP hu hn]
  split
  · exact ⟨Or.inl, fun h => h.elim id (· ▸ ‹_›)⟩
  · simp only [List.mem_append, List.mem_singleton]

theorem nodup_map_upsert {κ : Type} [DecidableEq κ] {f : α → κ} {k : κ} (hP : ∀ e, P e ↔ f e = k)
    (hu : ∀ e, f (upd e) = f e) (hn : f new = k) (h : (l.map f).Nodup) : ((upsert P upd new l).map f).Nodup := by
  rw [map_upsert hP hu hn]
  split
  · exact h
  · exact List.nodup_append.2 ⟨h, List.nodup_cons.2 ⟨List.not_mem_nil, List.nodup_nil⟩, fun a ha b hb hab => ‹k ∉ _› (List.mem_singleton.1 hb ▸ hab ▸ ha)⟩

theorem find?_map_of_comm (g : α → α) (q : α → Bool) (hq : ∀ e, q (g e) = q e) (l : List α) :
    (l.map g).find? q = (l.find? q).map g := by
  induction l with
  | nil => rfl
  | cons x xs ih => simp only [List.map_cons, List.find?_cons, hq x]; cases q x <;> simp only [ih, Option.map_some]

theorem find?_of_mem_nodup {κ : Type} {f : α → κ} (hu : (l.map f).Nodup) {x : α} (hx : x ∈ l) {q : α → Bool}
    (hq : ∀ y, q y = true ↔ f y = f x) : l.find? q = some x := by
  induction l with
  | nil => cases hx
  | cons y ys ih =>
    rw [List.map_cons, List.nodup_cons] at hu
    rw [List.find?_cons]
    rcases List.mem_cons.1 hx with rfl | hx'
    · rw [(hq x).2 rfl]
    · have : q y = false := Bool.eq_false_iff.2 fun h => hu.1 ((hq y).1 h ▸ List.mem_map_of_mem hx')
      rw [this]; exact ih hu.2 hx'

theorem find?_filterMap_of_nodup {κ : Type} {f : α → κ} {g : α → Option α} (hg : ∀ x y, g x = some y → f y = f x)
    {q : α → Bool} {k : κ} (hq : ∀ x, q x = true ↔ f x = k) (hu : (l.map f).Nodup) :
    (l.filterMap g).find? q = (l.find? q).bind g := by
  induction l with
  | nil => rfl
  | cons x xs ih =>
    have ih := ih (List.nodup_cons.1 hu).2
    rw [List.filterMap_cons, List.find?_cons]
    cases hd : g x with
    | none =>
      cases hk : q x with
      | false => exact ih
      | true =>
        -- the entry looked for is dropped, and no other has its key
        refine (List.find?_eq_none.2 fun y hy hqy => ?_).trans hd.symm
        obtain ⟨x', hx', hd'⟩ := List.mem_filterMap.1 hy
        exact (List.nodup_cons.1 hu).1 (List.mem_map.2
          ⟨x', hx', (hg x' y hd').symm.trans (((hq y).1 hqy).trans ((hq x).1 hk).symm)⟩)
    | some y =>
      have hqy : q y = q x := Bool.eq_iff_iff.2 (by rw [hq, hq, hg x y hd])
      rw [List.find?_cons, hqy]
      cases hk : q x with
      | false => exact ih
      | true => exact hd.symm

theorem map_filterMap_sublist {κ : Type} (f : α → κ) (g : α → Option α) (hg : ∀ x y, g x = some y → f y = f x)
    (l : List α) : List.Sublist ((l.filterMap g).map f) (l.map f) := by
  induction l with
  | nil => exact List.Sublist.slnil
  | cons x xs ih =>
    rw [List.filterMap_cons]
    cases hd : g x with
    | none => exact List.Sublist.cons _ ih
    | some y => rw [List.map_cons, List.map_cons, hg x y hd]; exact List.Sublist.cons_cons _ ih

theorem find?_upsert {κ : Type} [DecidableEq κ] {f : α → κ} {k k' : κ} (hP : ∀ e, P e ↔ f e = k)
    (hu : ∀ e, f (upd e) = f e) (hn : f new = k) {q : α → Bool} (hq : ∀ e, q e = true ↔ f e = k') :
    (upsert P upd new l).find? q =
      if k' = k then some (match l.find? q with | some e => upd e | none => new) else l.find? q := by
  have hmap : (l.map fun e => if P e then upd e else e).find? q = (l.find? q).map fun e => if P e then upd e else e :=
    find?_map_of_comm _ q (fun e => by split <;> simp only [Bool.eq_iff_iff, hq, hu]) l
  unfold upsert
  by_cases hk : k' = k
  · subst hk
    have hqP : ∀ e, q e = true ↔ P e := fun e => (hq e).trans (hP e).symm
    rw [if_pos rfl]
    split
    · next hany =>
      rw [hmap]
      cases hf : l.find? q with
      | none =>
        obtain ⟨e, he, hp⟩ := List.any_eq_true.1 hany
        exact absurd ((hqP e).2 (of_decide_eq_true hp)) (by simpa using List.find?_eq_none.1 hf e he)
      | some e => simp only [Option.map_some, if_pos ((hqP e).1 (List.find?_some hf))]
    · next hany =>
      have : l.find? q = none := List.find?_eq_none.2 fun e he hqe =>
        hany (List.any_eq_true.2 ⟨e, he, decide_eq_true ((hqP e).1 hqe)⟩)
      simp only [List.find?_append, this, List.find?_cons, (hq new).2 hn, Option.none_or]
  · have hqP : ∀ e, q e = true → ¬P e := fun e he hp => hk (((hq e).1 he).symm.trans ((hP e).1 hp))
    have hqn : q new = false := Bool.eq_false_iff.2 fun h => hk (((hq new).1 h).symm.trans hn)
    rw [if_neg hk]
    split
    · rw [hmap]
      cases hf : l.find? q with
      | none => rfl
      | some e => simp only [Option.map_some, if_neg (hqP e (List.find?_some hf))]
    · simp only [List.find?_append, List.find?_cons, hqn, List.find?_nil, Option.or_none]

end

theorem Shard.write_series (sh : Shard) (name : Bytes) (tags : Tags) (pts : List (Int × Int)) :
    (sh.write name tags pts).series =
      upsert (fun s => s.name = name ∧ s.tags = tags) (fun s => { s with cache := addPts s.cache pts })
        ⟨name, tags, [], addPts [] pts⟩ sh.series := by
  unfold Shard.write upsert; split <;> rfl

theorem Shard.write_id (sh : Shard) (name : Bytes) (tags : Tags) (pts : List (Int × Int)) :
    (sh.write name tags pts).id = sh.id := by
  unfold Shard.write; split <;> rfl

def Asc (l : List (Int × Int)) : Prop := l.Pairwise fun a b => a.1 < b.1

theorem filter_of_after {p : Int × Int} {l : List (Int × Int)} (h : ∀ x ∈ l, p.1 < x.1) :
    l.filter (fun q => q.1 < p.1) = [] ∧ l.filter (fun q => p.1 < q.1) = l :=
  ⟨List.filter_eq_nil_iff.2 fun x hx hd => Int.lt_irrefl _ (Int.lt_trans (h x hx) (of_decide_eq_true hd)),
   List.filter_eq_self.2 fun x hx => decide_eq_true (h x hx)⟩

theorem insertPt_of_asc (p : Int × Int) {l : List (Int × Int)} (h : Asc l) :
    insertPt p l = l.filter (fun q => q.1 < p.1) ++ p :: l.filter (fun q => p.1 < q.1) := by
  induction l with
  | nil => rfl
  | cons q qs ih =>
    have hq : ∀ x ∈ qs, q.1 < x.1 := (List.pairwise_cons.1 h).1
    rw [insertPt]
    by_cases h1 : p.1 < q.1
    · obtain ⟨e1, e2⟩ := filter_of_after (p := p) (l := q :: qs) fun x hx =>
        (List.mem_cons.1 hx).elim (fun e => e ▸ h1) fun hx => Int.lt_trans h1 (hq x hx)
      rw [if_pos h1, e1, e2]; rfl
    · rw [if_neg h1]
      have hq2 : ¬decide (p.1 < q.1) = true := fun hd => h1 (of_decide_eq_true hd)
      by_cases h2 : p.1 = q.1
      · obtain ⟨e1, e2⟩ := filter_of_after (p := p) (l := qs) fun x hx => h2 ▸ hq x hx
        rw [if_pos h2, List.filter_cons_of_neg (p := fun x : Int × Int => decide (x.1 < p.1)) fun hd =>
            Int.ne_of_gt (of_decide_eq_true hd) h2,
          List.filter_cons_of_neg (p := fun x : Int × Int => decide (p.1 < x.1)) hq2, e1, e2]; rfl
      · rw [if_neg h2, ih (List.pairwise_cons.1 h).2,
          List.filter_cons_of_pos (p := fun x : Int × Int => decide (x.1 < p.1))
            (decide_eq_true (Int.lt_iff_le_and_ne.2 ⟨Int.not_lt.1 h1, Ne.symm h2⟩)),
          List.filter_cons_of_neg (p := fun x : Int × Int => decide (p.1 < x.1)) hq2]; rfl

theorem mem_insertPt_iff {p x : Int × Int} {l : List (Int × Int)} (h : Asc l) :
    x ∈ insertPt p l ↔ x = p ∨ (x ∈ l ∧ x.1 ≠ p.1) := by
  rw [insertPt_of_asc p h]
  simp only [List.mem_append, List.mem_cons, List.mem_filter, decide_eq_true_eq]
  constructor
  · rintro (⟨hx, hlt⟩ | rfl | ⟨hx, hgt⟩)
    · exact Or.inr ⟨hx, Int.ne_of_lt hlt⟩
    · exact Or.inl rfl
    · exact Or.inr ⟨hx, Int.ne_of_gt hgt⟩
  · rintro (rfl | ⟨hx, hne⟩)
    · exact Or.inr (Or.inl rfl)
    · exact (Int.lt_or_gt_of_ne hne).imp (fun hlt => ⟨hx, hlt⟩) fun hgt => Or.inr ⟨hx, hgt⟩

theorem asc_insertPt (p : Int × Int) (l : List (Int × Int)) (h : Asc l) : Asc (insertPt p l) := by
  rw [insertPt_of_asc p h]
  refine List.pairwise_append.2 ⟨h.filter _, List.pairwise_cons.2
    ⟨fun x hx => of_decide_eq_true (List.mem_filter.1 hx).2, h.filter _⟩, fun a ha b hb => ?_⟩
  have ha : a.1 < p.1 := of_decide_eq_true (List.mem_filter.1 ha).2
  rcases List.mem_cons.1 hb with rfl | hb
  · exact ha
  · exact Int.lt_trans ha (of_decide_eq_true (List.mem_filter.1 hb).2)

theorem asc_addPts (a b : List (Int × Int)) (h : Asc a) : Asc (addPts a b) := by
  unfold addPts
  induction b generalizing a with
  | nil => exact h
  | cons p ps ih => exact ih _ (asc_insertPt p a h)

theorem asc_cutPts (lo hi : Int) (l : List (Int × Int)) (h : Asc l) : Asc (cutPts lo hi l) :=
  List.Pairwise.filter _ h

def inRange (lo hi : Int) (p : Int × Int) : Bool := decide (lo ≤ p.1 ∧ p.1 ≤ hi)

theorem cutPts_cons (lo hi : Int) (p : Int × Int) (l : List (Int × Int)) :
    cutPts lo hi (p :: l) = if inRange lo hi p then cutPts lo hi l else p :: cutPts lo hi l := by
  simp only [cutPts, inRange, List.filter_cons]
  by_cases h : lo ≤ p.1 ∧ p.1 ≤ hi <;> simp [h]

theorem cutPts_insertPt_in (lo hi : Int) (p : Int × Int) (l : List (Int × Int)) (hp : inRange lo hi p = true) :
    cutPts lo hi (insertPt p l) = cutPts lo hi l := by
  induction l with
  | nil => rw [insertPt, cutPts_cons, hp]; simp
  | cons q qs ih =>
    simp only [insertPt]
    split
    · rw [cutPts_cons, hp]; simp
    · split
      · next _ heq =>
        have hq : inRange lo hi q = true := by
          simp only [inRange, decide_eq_true_eq] at hp ⊢; omega
        rw [cutPts_cons, hp, cutPts_cons, hq]; simp
      · rw [cutPts_cons, cutPts_cons, ih]

theorem cutPts_insertPt_out (lo hi : Int) (p : Int × Int) (l : List (Int × Int)) (h : Asc l)
    (hp : inRange lo hi p = false) :
    cutPts lo hi (insertPt p l) = insertPt p (cutPts lo hi l) := by
  have hp' : (!decide (lo ≤ p.1 ∧ p.1 ≤ hi)) = true := by rw [← inRange, hp]; rfl
  rw [insertPt_of_asc p h, insertPt_of_asc p (asc_cutPts lo hi l h)]
  unfold cutPts
  rw [List.filter_append, List.filter_cons_of_pos (p := fun x : Int × Int => !decide (lo ≤ x.1 ∧ x.1 ≤ hi)) hp']
  simp only [List.filter_filter, Bool.and_comm]

theorem cutPts_addPts (lo hi : Int) (a b : List (Int × Int)) (h : Asc a) :
    cutPts lo hi (addPts a b) = addPts (cutPts lo hi a) (cutPts lo hi b) := by
  unfold addPts
  induction b generalizing a with
  | nil => rfl
  | cons p ps ih =>
    simp only [List.foldl_cons]
    rw [ih _ (asc_insertPt p a h), cutPts_cons]
    by_cases hp : inRange lo hi p = true
    · simp only [hp, if_true, cutPts_insertPt_in lo hi p a hp]
    · have hp' : inRange lo hi p = false := by simpa using hp
      simp only [hp', Bool.false_eq_true, if_false, List.foldl_cons, cutPts_insertPt_out lo hi p a h hp']

def covered (ts : List (Int × Int)) (x : Int) : Prop := ∃ r ∈ ts, r.1 ≤ x ∧ x ≤ r.2

theorem hull_covered {w1 w2 p1 p2 t1 t2 x : Int} (hw1 : w1 ≤ p1) (hp : p1 ≤ p2) (hw2 : p2 ≤ w2)
    (hadj : ¬(p2 ≠ t1 - 1 ∧ ¬(p1 ≤ t2 ∧ p2 ≥ t1)))
    (hx1 : (if t1 < w1 then t1 else w1) ≤ x) (hx2 : x ≤ (if t2 > w2 then t2 else w2)) :
    (w1 ≤ x ∧ x ≤ w2) ∨ (t1 ≤ x ∧ x ≤ t2) := by
  split at hx1 <;> split at hx2 <;> omega

/-- Invariant of `go`: `prev`, the last range seen, lies inside the window `w`, and each next range
    touches or overlaps `prev`. -/
theorem tombWindow_go_covers (prev w : Int × Int) (rest : List (Int × Int))
    (hpw : w.1 ≤ prev.1 ∧ prev.2 ≤ w.2) (hpne : prev.1 ≤ prev.2) (hne : ∀ r ∈ rest, r.1 ≤ r.2)
    (w' : Int × Int) (h : tombWindow.go prev w rest = some w') :
    ∀ x, w'.1 ≤ x → x ≤ w'.2 → (w.1 ≤ x ∧ x ≤ w.2) ∨ covered rest x := by
  induction rest generalizing prev w with
  | nil =>
    cases h
    exact fun x h1 h2 => Or.inl ⟨h1, h2⟩
  | cons t ts ih =>
    simp only [tombWindow.go] at h
    split at h
    · cases h
    · next hc =>
      have htne : t.1 ≤ t.2 := hne t List.mem_cons_self
      intro x hx1 hx2
      rcases ih t _ ⟨by dsimp only; split <;> omega, by dsimp only; split <;> omega⟩ htne
        (fun r hr => hne r (List.mem_cons_of_mem _ hr)) h x hx1 hx2 with hx | ⟨r, hr, hrx⟩
      · rcases hull_covered hpw.1 hpne hpw.2 hc hx.1 hx.2 with hxw | hxt
        · exact Or.inl hxw
        · exact Or.inr ⟨t, List.mem_cons_self, hxt⟩
      · exact Or.inr ⟨r, List.mem_cons_of_mem _ hr, hrx⟩

/-- **The window test is sound**: when the tombstones line up, every instant of the window lies
    in one of them. -/
theorem tombWindow_covers (ts : List (Int × Int)) (hne : ∀ r ∈ ts, r.1 ≤ r.2) (w : Int × Int)
    (h : tombWindow ts = some w) : ∀ x, w.1 ≤ x → x ≤ w.2 → covered ts x := by
  cases ts with
  | nil => simp [tombWindow] at h
  | cons r rest =>
    intro x h1 h2
    rcases tombWindow_go_covers r r rest ⟨Int.le_refl _, Int.le_refl _⟩ (hne r List.mem_cons_self)
      (fun y hy => hne y (List.mem_cons_of_mem _ hy)) w h x h1 h2 with hx | ⟨y, hy, hyx⟩
    · exact ⟨r, List.mem_cons_self, hx⟩
    · exact ⟨y, List.mem_cons_of_mem _ hy, hyx⟩

theorem mem_insertTomb {r x : Int × Int} {l : List (Int × Int)} : x ∈ insertTomb r l ↔ x = r ∨ x ∈ l := by
  induction l with
  | nil => simp [insertTomb]
  | cons q qs ih =>
    simp only [insertTomb]
    split
    · exact List.mem_cons
    · simp only [List.mem_cons, ih, or_left_comm]

theorem insertTomb_nonempty {lo hi : Int} (hlh : lo ≤ hi) {tombs : List (Int × Int)} (h : ∀ r ∈ tombs, r.1 ≤ r.2) :
    ∀ r ∈ insertTomb (lo, hi) tombs, r.1 ≤ r.2 := fun r hr =>
  (mem_insertTomb.1 hr).elim (fun e => e ▸ hlh) (h r)

/-- a file entry as the engine writes it: values strictly ascending, tombstones non-empty ranges -/
def FileEnt.WF (f : FileEnt) : Prop := Asc f.pts ∧ ∀ r ∈ f.tombs, r.1 ≤ r.2

def inTombs (tombs : List (Int × Int)) (p : Int × Int) : Bool :=
  tombs.any fun r => decide (r.1 ≤ p.1 ∧ p.1 ≤ r.2)

theorem visible_def (f : FileEnt) : f.visible = if f.gone then [] else f.pts.filter fun p => !inTombs f.tombs p := rfl

theorem inTombs_insertTomb (lo hi : Int) (tombs : List (Int × Int)) (p : Int × Int) :
    inTombs (insertTomb (lo, hi) tombs) p = (inRange lo hi p || inTombs tombs p) := by
  simp only [inTombs, inRange]
  rw [Bool.eq_iff_iff]
  simp only [List.any_eq_true, Bool.or_eq_true, decide_eq_true_eq, mem_insertTomb]
  constructor
  · rintro ⟨r, (rfl | hr), h⟩
    · exact Or.inl h
    · exact Or.inr ⟨r, hr, h⟩
  · rintro (h | ⟨r, hr, h⟩)
    · exact ⟨(lo, hi), Or.inl rfl, h⟩
    · exact ⟨r, Or.inr hr, h⟩

theorem asc_bounds {l : List (Int × Int)} (h : Asc l) {a b : Int × Int}
    (ha : l.head? = some a) (hb : l.getLast? = some b) : ∀ p ∈ l, a.1 ≤ p.1 ∧ p.1 ≤ b.1 := by
  intro p hp
  constructor
  · obtain ⟨xs, rfl⟩ := List.head?_eq_some_iff.1 ha
    rcases List.mem_cons.1 hp with rfl | hp
    · exact Int.le_refl _
    · exact Int.le_of_lt ((List.pairwise_cons.1 h).1 p hp)
  · obtain ⟨xs, rfl⟩ := List.getLast?_eq_some_iff.1 hb
    rcases List.mem_append.1 hp with hp | hp
    · exact Int.le_of_lt ((List.pairwise_append.1 h).2.2 p hp b (List.mem_singleton.2 rfl))
    · exact List.mem_singleton.1 hp ▸ Int.le_refl _

theorem tombAct_spec (f : FileEnt) (hwf : f.WF) (lo hi : Int) (hlh : lo ≤ hi) :
    match f.tombAct lo hi with
    | .keep => f.gone = true ∨ ∀ p ∈ f.pts, inRange lo hi p = false
    | .drop => f.gone = false ∧ ∀ p ∈ f.pts, inRange lo hi p = true ∨ inTombs f.tombs p = true
    | .tomb ts => f.gone = false ∧ ts = insertTomb (lo, hi) f.tombs := by
  unfold FileEnt.tombAct
  by_cases hg : f.gone = true
  · rw [if_pos hg]; exact Or.inl hg
  rw [if_neg hg]
  have hg' : f.gone = false := Bool.eq_false_iff.2 hg
  cases ha : f.pts.head? with
  | none => exact Or.inr fun p hp => absurd (List.head?_eq_none_iff.1 ha) (List.ne_nil_of_mem hp)
  | some a =>
  cases hb : f.pts.getLast? with
  | none => rw [List.getLast?_eq_none_iff.1 hb] at ha; cases ha
  | some b =>
    have hbnd := asc_bounds hwf.1 ha hb
    show match (if lo > b.1 ∨ hi < a.1 then TombAct.keep else _) with | .keep => _ | .drop => _ | .tomb ts => _
    by_cases hout : lo > b.1 ∨ hi < a.1
    · rw [if_pos hout]
      refine Or.inr fun p hp => decide_eq_false ?_
      have := hbnd p hp
      omega
    rw [if_neg hout]
    by_cases hcov : lo ≤ a.1 ∧ hi ≥ b.1
    · rw [if_pos hcov]
      exact ⟨hg', fun p hp => Or.inl (decide_eq_true
        ⟨Int.le_trans hcov.1 (hbnd p hp).1, Int.le_trans (hbnd p hp).2 hcov.2⟩)⟩
    rw [if_neg hcov]
    dsimp only
    cases hw : tombWindow (insertTomb (lo, hi) f.tombs) with
    | none => exact ⟨hg', rfl⟩
    | some w =>
      show match (if w.1 ≤ a.1 ∧ w.2 ≥ b.1 then TombAct.drop else _) with | .keep => _ | .drop => _ | .tomb ts => _
      by_cases hwc : w.1 ≤ a.1 ∧ w.2 ≥ b.1
      · -- the tombstones, the new one included, cover the window, and the window the key's times
        rw [if_pos hwc]
        refine ⟨hg', fun p hp => ?_⟩
        have hcovd : inTombs (insertTomb (lo, hi) f.tombs) p = true :=
          List.any_eq_true.2 ((tombWindow_covers _ (insertTomb_nonempty hlh hwf.2) w hw p.1 (Int.le_trans hwc.1 (hbnd p hp).1)
            (Int.le_trans (hbnd p hp).2 hwc.2)).imp fun r hr => ⟨hr.1, decide_eq_true hr.2⟩)
        rwa [inTombs_insertTomb, Bool.or_eq_true] at hcovd
      · rw [if_neg hwc]; exact ⟨hg', rfl⟩

/-- **`indirectIndex.DeleteRange` removes exactly the values in the range** from what the file
    shows of the key — also when it decides to drop the key altogether. -/
theorem visible_deleteRange (f : FileEnt) (hwf : f.WF) (lo hi : Int) (hlh : lo ≤ hi) :
    (f.deleteRange lo hi).visible = cutPts lo hi f.visible := by
  have hspec := tombAct_spec f hwf lo hi hlh
  unfold FileEnt.deleteRange
  generalize f.tombAct lo hi = act at hspec ⊢
  cases act with
  | keep =>
    rcases hspec with hg | hno
    · simp [visible_def, hg, cutPts]
    · simp only [visible_def, cutPts]
      split
      · rfl
      · rw [List.filter_filter]
        apply List.filter_congr
        intro p hp
        have := hno p hp
        simp only [inRange] at this
        simp [this]
  | drop =>
    obtain ⟨hg, hall⟩ := hspec
    simp only [visible_def, hg, Bool.false_eq_true, if_false, if_true, cutPts, List.filter_filter]
    symm
    rw [List.filter_eq_nil_iff]
    intro p hp
    rcases hall p hp with h | h
    · simp only [inRange] at h; simp [h]
    · simp [h]
  | tomb ts =>
    obtain ⟨hg, rfl⟩ := hspec
    simp only [visible_def, hg, Bool.false_eq_true, if_false, cutPts, List.filter_filter]
    apply List.filter_congr
    intro p _
    rw [inTombs_insertTomb]
    simp only [inRange]
    cases decide (lo ≤ p.1 ∧ p.1 ≤ hi) <;> cases inTombs f.tombs p <;> rfl

theorem wf_deleteRange (f : FileEnt) (hwf : f.WF) (lo hi : Int) (hlh : lo ≤ hi) : (f.deleteRange lo hi).WF := by
  have hspec := tombAct_spec f hwf lo hi hlh
  unfold FileEnt.deleteRange
  generalize f.tombAct lo hi = act at hspec ⊢
  cases act with
  | keep => exact hwf
  | drop => exact hwf
  | tomb ts =>
    obtain ⟨_, rfl⟩ := hspec
    exact ⟨hwf.1, insertTomb_nonempty hlh hwf.2⟩

def Series.WF (s : Series) : Prop := (∀ f ∈ s.files, f.WF) ∧ Asc s.cache

def mergeFrom (acc : List (Int × Int)) (fs : List FileEnt) : List (Int × Int) :=
  fs.foldl (fun acc f => addPts acc f.visible) acc

theorem pts_def (s : Series) : s.pts = addPts (mergeFrom [] s.files) s.cache := rfl

theorem asc_mergeFrom (acc : List (Int × Int)) (fs : List FileEnt) (h : Asc acc) : Asc (mergeFrom acc fs) := by
  unfold mergeFrom
  induction fs generalizing acc with
  | nil => exact h
  | cons f fs ih => exact ih _ (asc_addPts acc f.visible h)

theorem cut_mergeFrom (lo hi : Int) (hlh : lo ≤ hi) (acc : List (Int × Int)) (fs : List FileEnt)
    (h : Asc acc) (hwf : ∀ f ∈ fs, f.WF) :
    cutPts lo hi (mergeFrom acc fs) = mergeFrom (cutPts lo hi acc) (fs.map (·.deleteRange lo hi)) := by
  unfold mergeFrom
  induction fs generalizing acc with
  | nil => rfl
  | cons f fs ih =>
    simp only [List.foldl_cons, List.map_cons]
    rw [ih _ (asc_addPts acc f.visible h) (fun g hg => hwf g (by simp [hg])),
      cutPts_addPts lo hi acc f.visible h, visible_deleteRange f (hwf f (by simp)) lo hi hlh]

/-- **A range delete removes exactly the points of the series inside the range** — through
    every TSM file (tombstones, dropped keys) and the cache, whatever overwrites what. -/
theorem pts_cut (s : Series) (hwf : s.WF) (lo hi : Int) (hlh : lo ≤ hi) :
    (s.cut lo hi).pts = cutPts lo hi s.pts := by
  rw [pts_def, pts_def, cutPts_addPts lo hi _ _ (asc_mergeFrom [] s.files (by simp [Asc])),
    cut_mergeFrom lo hi hlh [] s.files (by simp [Asc]) hwf.1]
  rfl

theorem wf_cut (s : Series) (hwf : s.WF) (lo hi : Int) (hlh : lo ≤ hi) : (s.cut lo hi).WF := by
  refine ⟨?_, asc_cutPts lo hi _ hwf.2⟩
  intro f hf
  simp only [Series.cut, List.mem_map] at hf
  obtain ⟨g, hg, rfl⟩ := hf
  exact wf_deleteRange g (hwf.1 g hg) lo hi hlh

theorem addPts_nil_nil : addPts [] [] = [] := rfl

theorem mergeFrom_all_gone (acc : List (Int × Int)) (fs : List FileEnt) (h : ∀ f ∈ fs, f.gone = true) :
    mergeFrom acc fs = acc := by
  unfold mergeFrom
  induction fs generalizing acc with
  | nil => rfl
  | cons f fs ih =>
    simp only [List.foldl_cons]
    have : f.visible = [] := by simp [visible_def, h f (by simp)]
    rw [this]
    exact ih _ (fun g hg => h g (by simp [hg]))

theorem listed_of_pts (s : Series) (h : s.pts ≠ []) : s.listed = true := by
  by_cases hl : s.listed = true
  · exact hl
  · exfalso
    apply h
    simp only [Series.listed, Bool.or_eq_true, List.any_eq_true, Bool.not_eq_true', not_or, not_exists,
      not_and, Bool.not_eq_false] at hl
    obtain ⟨hf, hc⟩ := hl
    have hc' : s.cache = [] := by simpa [List.isEmpty_iff] using hc
    rw [pts_def, mergeFrom_all_gone [] s.files (fun f hf' => by simpa using hf f hf'), hc']
    rfl

theorem delSeries_some {sel lo hi} {s s' : Series} (h : delSeries sel lo hi s = some s') :
    s' = s ∨ s' = s.cut lo hi := by
  unfold delSeries at h
  split at h
  · split at h
    · exact Or.inr (Option.some.inj h).symm
    · cases h
  · exact Or.inl (Option.some.inj h).symm

theorem delSeries_name {sel lo hi} {s s' : Series} (h : delSeries sel lo hi s = some s') :
    s'.name = s.name ∧ s'.tags = s.tags := by
  rcases delSeries_some h with rfl | rfl <;> exact ⟨rfl, rfl⟩

/-- **Clause 1 on one series.**  A selected series keeps exactly its points outside `[lo, hi]`;
    it leaves the index only if none is left; a series that is not selected is untouched. -/
theorem delSeries_exact (sel : Bool) (lo hi : Int) (hlh : lo ≤ hi) (s : Series) (hwf : s.WF)
    (hl0 : s.listed = true) :
    match delSeries sel lo hi s with
    | some s' => s'.name = s.name ∧ s'.tags = s.tags ∧ s'.WF ∧ s'.listed = true ∧
        s'.pts = (if sel then cutPts lo hi s.pts else s.pts)
    | none => sel = true ∧ cutPts lo hi s.pts = [] := by
  unfold delSeries
  cases sel with
  | false => exact ⟨rfl, rfl, hwf, hl0, rfl⟩
  | true =>
    simp only [if_true]
    by_cases hl : (s.cut lo hi).listed = true
    · rw [if_pos hl]
      exact ⟨rfl, rfl, wf_cut s hwf lo hi hlh, hl, pts_cut s hwf lo hi hlh⟩
    · rw [if_neg hl]
      refine ⟨trivial, ?_⟩
      rw [← pts_cut s hwf lo hi hlh]
      by_cases hp : (s.cut lo hi).pts = []
      · exact hp
      · exact absurd (listed_of_pts _ hp) hl

def sameKey (name : Bytes) (tags : Tags) (s : Series) : Bool := s.name = name ∧ s.tags = tags

def findSeries (sh : Shard) (name : Bytes) (tags : Tags) : Option Series := sh.series.find? (sameKey name tags)

/-- what a read of the series returns in this shard -/
def readPts (sh : Shard) (name : Bytes) (tags : Tags) : List (Int × Int) :=
  match findSeries sh name tags with
  | some s => s.pts
  | none => []

def isListed (sh : Shard) (name : Bytes) (tags : Tags) : Bool := (findSeries sh name tags).isSome

structure ShardWF (sh : Shard) : Prop where
  wf : ∀ s ∈ sh.series, s.WF ∧ s.listed = true
  uniq : (sh.series.map fun s => (s.name, s.tags)).Nodup

/-- is the series handed to `DeleteSeriesRange`? -/
def selOf (sh : Shard) (pred : Option Pred) (mname : Option Bytes) (name : Bytes) (tags : Tags) : Bool :=
  (visited sh mname).contains name && predSelects pred name tags

/-- **Clause 1 on one shard** (`abs' = abs minus {(k, t) | selected k ∧ lo ≤ t ≤ hi}`): after the
    delete every series reads as before minus the points of the range, if it was selected, and
    exactly as before otherwise. -/
theorem readPts_delete (sh : Shard) (hwf : ShardWF sh) (lo hi : Int) (hlh : lo ≤ hi) (pred : Option Pred)
    (mname : Option Bytes) (name : Bytes) (tags : Tags) :
    readPts (sh.delete lo hi pred mname) name tags =
      if selOf sh pred mname name tags then cutPts lo hi (readPts sh name tags) else readPts sh name tags := by
  unfold readPts findSeries
  simp only [Shard.delete]
  rw [find?_filterMap_of_nodup (f := fun s : Series => (s.name, s.tags)) (k := (name, tags))
    (fun _ _ hd => by rw [(delSeries_name hd).1, (delSeries_name hd).2])
    (fun _ => by simp only [sameKey, decide_eq_true_eq, Prod.mk.injEq]) hwf.uniq]
  cases hf : sh.series.find? (sameKey name tags) with
  | none => simp [cutPts]
  | some s =>
    have hk := List.find?_some hf
    simp only [sameKey, decide_eq_true_eq] at hk
    obtain ⟨rfl, rfl⟩ := hk
    obtain ⟨hswf, hsl⟩ := hwf.wf s (List.mem_of_find?_eq_some hf)
    have hex := delSeries_exact (selOf sh pred mname s.name s.tags) lo hi hlh s hswf hsl
    show (match delSeries (selOf sh pred mname s.name s.tags) lo hi s with | some s' => s'.pts | none => []) = _
    generalize delSeries (selOf sh pred mname s.name s.tags) lo hi s = r at hex ⊢
    cases r with
    | none => rw [hex.1, if_pos rfl, hex.2]
    | some s' => exact hex.2.2.2.2

/-- **Clause 2, the direction that always holds**: a series that still reads a point is listed. -/
theorem listed_of_readPts (sh : Shard) (name : Bytes) (tags : Tags) (h : readPts sh name tags ≠ []) :
    isListed sh name tags = true := by
  unfold readPts at h
  unfold isListed
  cases hf : findSeries sh name tags with
  | none => simp [hf] at h
  | some s => rfl

theorem shardWF_delete (sh : Shard) (hwf : ShardWF sh) (lo hi : Int) (hlh : lo ≤ hi) (pred : Option Pred)
    (mname : Option Bytes) : ShardWF (sh.delete lo hi pred mname) := by
  constructor
  · intro s' hs'
    obtain ⟨s, hs, hd⟩ := List.mem_filterMap.1 hs'
    have hex := delSeries_exact ((visited sh mname).contains s.name && predSelects pred s.name s.tags) lo hi hlh s
      (hwf.wf s hs).1 (hwf.wf s hs).2
    rw [hd] at hex
    exact ⟨hex.2.2.1, hex.2.2.2.1⟩
  · exact List.Nodup.sublist (map_filterMap_sublist _ _ (fun x y hd => by
      rw [(delSeries_name hd).1, (delSeries_name hd).2]) _) hwf.uniq

open Influx.Spec.C16 (evalPred PredWF SeriesWF) in
theorem predSelects_eq (p : Pred) (name : Bytes) (tags : Tags)
    (hp : PredWF p = true) (hs : SeriesWF name tags = true) (hk : DelPred.KeyOK name tags = true) :
    predSelects (some p) name tags = evalPred name tags p := by
  simp [predSelects, DelPred.matchSeries_spec p name tags hp hs hk]

open Influx.Spec.C16 (evalPred) in
theorem evalPred_conjuncts (name : Bytes) (tags : Tags) (p : Pred) (h : evalPred name tags p = true) :
    ∀ c ∈ conjuncts p, evalPred name tags c = true := by
  induction p with
  | rule k neq v => intro c hc; simp only [conjuncts, List.mem_singleton] at hc; subst hc; exact h
  | or l r _ _ => intro c hc; simp only [conjuncts, List.mem_singleton] at hc; subst hc; exact h
  | and l r ihl ihr =>
    simp only [evalPred, Bool.and_eq_true] at h
    intro c hc
    simp only [conjuncts, List.mem_append] at hc
    rcases hc with hc | hc
    · exact ihl h.1 c hc
    · exact ihr h.2 c hc

open Influx.Spec.C16 (evalPred keyValue) in
/-- the measurement the handler's short-cut names is the only one the predicate can be true of -/
theorem measNameOf_sound (p : Pred) (nm name : Bytes) (tags : Tags) (h : measNameOf p = some nm)
    (he : evalPred name tags p = true) : name = nm := by
  unfold measNameOf at h
  split at h
  · next k v heq =>
    cases h
    have hmem : Pred.rule k false nm ∈ (conjuncts p).filter isMeasRule := by rw [heq]; simp
    obtain ⟨hc, hk⟩ := List.mem_filter.1 hmem
    simp only [isMeasRule, decide_eq_true_eq] at hk
    have := evalPred_conjuncts name tags p he _ hc
    simp only [evalPred, keyValue, hk, if_true] at this
    simpa using this
  · cases h

theorem mem_measurements {sh : Shard} {s : Series} (hs : s ∈ sh.series) : s.name ∈ sh.measurements := by
  unfold Shard.measurements
  exact mem_sortDedup.2 (List.mem_map.2 ⟨s, hs, rfl⟩)

theorem contains_visited_none {sh : Shard} {s : Series} (hs : s ∈ sh.series) :
    (visited sh none).contains s.name = true :=
  List.contains_iff_mem.2 (mem_measurements hs)

open Influx.Spec.C16 (evalPred) in
/-- **The measurement short-cut of `DeleteSeriesWithPredicate` loses nothing** (after fix
    C17-delete-measurement-neq-shortcut): for a series of the shard on which the compiled predicate
    agrees with `evalPred` (`hsel`), visiting only the measurements up to the named one selects it
    exactly when the predicate is true of it. -/
theorem selOf_handler (sh : Shard) (p : Pred) (s : Series) (hs : s ∈ sh.series)
    (hsel : predSelects (some p) s.name s.tags = evalPred s.name s.tags p) :
    selOf sh (some p) (measNameOf p) s.name s.tags = evalPred s.name s.tags p := by
  unfold selOf
  rw [hsel]
  cases hm : measNameOf p with
  | none =>
    rw [contains_visited_none hs]; simp
  | some nm =>
    cases he : evalPred s.name s.tags p with
    | false => simp
    | true =>
      have hn := measNameOf_sound p nm s.name s.tags hm he
      have hin : nm ∈ sh.measurements := hn ▸ mem_measurements hs
      have : (visited sh (some nm)).contains s.name = true := by
        simp only [visited, List.contains_eq_mem, hin, decide_true, if_true, decide_eq_true_eq,
          List.mem_filter]
        exact ⟨hn ▸ hin, by simp [hn, cmpBytes_refl]⟩
      rw [this]; simp

theorem insertPt_ne_nil (p : Int × Int) (l : List (Int × Int)) : insertPt p l ≠ [] := by
  cases l with
  | nil => exact List.cons_ne_nil _ _
  | cons q qs =>
    simp only [insertPt]
    split
    · exact List.cons_ne_nil _ _
    · split <;> exact List.cons_ne_nil _ _

theorem addPts_ne_nil (acc new : List (Int × Int)) (h : new ≠ []) : addPts acc new ≠ [] := by
  unfold addPts
  induction new generalizing acc with
  | nil => exact absurd rfl h
  | cons p ps ih =>
    cases ps with
    | nil => exact insertPt_ne_nil p acc
    | cons q qs => exact ih _ (List.cons_ne_nil _ _)

theorem listed_of_cache {s : Series} (h : s.cache ≠ []) : s.listed = true := by
  simp [Series.listed, h]

theorem shardWF_write (sh : Shard) (hwf : ShardWF sh) (name : Bytes) (tags : Tags) (pts : List (Int × Int))
    (hp : pts ≠ []) : ShardWF (sh.write name tags pts) := by
  constructor <;> rw [Shard.write_series]
  · refine forall_mem_upsert hwf.wf (fun s hs _ => ?_) ?_
    · exact ⟨⟨(hwf.wf s hs).1.1, asc_addPts _ _ (hwf.wf s hs).1.2⟩, listed_of_cache (addPts_ne_nil _ _ hp)⟩
    · exact ⟨⟨fun _ hf => (nomatch hf), asc_addPts [] pts List.Pairwise.nil⟩, listed_of_cache (addPts_ne_nil _ _ hp)⟩
  · exact nodup_map_upsert (f := fun s : Series => (s.name, s.tags)) (k := (name, tags)) (fun _ => by rw [Prod.mk.injEq])
      (fun _ => rfl) rfl hwf.uniq

theorem shardWF_snapshot (sh : Shard) (hwf : ShardWF sh) : ShardWF sh.snapshot := by
  unfold Shard.snapshot
  constructor
  · intro s' hs'
    simp only [List.mem_map] at hs'
    obtain ⟨s, hs, rfl⟩ := hs'
    obtain ⟨hswf, hsl⟩ := hwf.wf s hs
    split
    · exact ⟨hswf, hsl⟩
    · refine ⟨⟨?_, by simp [Asc]⟩, by simp [Series.listed]⟩
      intro f hf
      simp only [List.mem_append, List.mem_singleton] at hf
      rcases hf with hf | rfl
      · exact hswf.1 f hf
      · exact ⟨hswf.2, by simp⟩
  · show ((sh.series.map _).map _).Nodup
    rw [List.map_map, List.map_congr_left (g := fun s : Series => (s.name, s.tags)) fun s _ => by
      simp only [Function.comp]; split <;> rfl]
    exact hwf.uniq

/-- no value of the series is in a TSM file (everything still in the cache) -/
def CacheOnly (s : Series) : Prop := s.files = []

theorem addPts_of_asc_append (c : List (Int × Int)) : ∀ acc, Asc (acc ++ c) → addPts acc c = acc ++ c := by
  induction c with
  | nil => exact fun acc _ => (List.append_nil acc).symm
  | cons p ps ih =>
    intro acc hasc
    obtain ⟨hacc, _, hlt⟩ := List.pairwise_append.1 hasc
    have hins : insertPt p acc = acc ++ [p] := by
      rw [insertPt_of_asc p hacc,
        List.filter_eq_self.2 fun q hq => decide_eq_true (hlt q hq p List.mem_cons_self),
        List.filter_eq_nil_iff.2 fun q hq hd =>
          Int.lt_irrefl _ (Int.lt_trans (hlt q hq p List.mem_cons_self) (of_decide_eq_true hd))]
    show addPts (insertPt p acc) ps = _
    rw [hins, ih _ (by rwa [List.append_assoc]), List.append_assoc]; rfl

theorem addPts_nil_asc (c : List (Int × Int)) (h : Asc c) : addPts [] c = c :=
  addPts_of_asc_append c [] h

theorem pts_cacheOnly (s : Series) (hwf : s.WF) (hc : CacheOnly s) : s.pts = s.cache := by
  unfold CacheOnly at hc
  rw [pts_def, hc]
  exact addPts_nil_asc s.cache hwf.2

theorem listed_iff_pts_cacheOnly (s : Series) (hwf : s.WF) (hc : CacheOnly s) :
    s.listed = true ↔ s.pts ≠ [] := by
  rw [pts_cacheOnly s hwf hc]
  unfold Series.listed
  rw [show s.files = [] from hc]
  cases s.cache <;> simp

end Influx.Model.StoreDel
