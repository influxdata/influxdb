/-
  Lemmas.KCBlocks — vocabulary and basic facts for the C06 proofs: well-formed blocks, live and
  unread values of a location, read marks, the window of one Read…Block and its merge loop as a
  fold.  Both directions are treated at once: `beyond asc W x` says that `x` lies strictly
  beyond `W` in the direction of travel.

  Locations are written `B.get i` and marks `rd.get i`: the same terms as the model's `B[i]`
  and `rd[i]`, without the index-bound tactic that the bracket notation runs at each occurrence.
-/
import Influx.Lemmas.KCAlgebra

namespace Influx.KC
open Influx.Generated.KeyCursor

variable {V : Type} {n : Nat} {B : Vector (Block V) n} {rd : Marks n} {asc : Bool}

/-- what the TSM writer guarantees of a block and its index entry: timestamps strictly
    ascending, inside the entry's bounds, bounds are int64 values -/
structure BlockWF (b : Block V) : Prop where
  sorted : SortedV b.vals
  inEntry : ∀ p ∈ b.vals, b.entry.MinTime ≤ p.1 ∧ p.1 ≤ b.entry.MaxTime
  lo : minI64 ≤ b.entry.MinTime
  hi : b.entry.MaxTime ≤ maxI64

def live (b : Block V) : Vals V := excludeTombs b.tombs b.vals

theorem mem_live {b : Block V} {p : Int × V} : p ∈ live b ↔ p ∈ b.vals ∧ ¬ covered b.tombs p.1 :=
  mem_excludeTombs

theorem BlockWF.live_sorted {b : Block V} (h : BlockWF b) : SortedV (live b) := h.sorted.excludeTombs _

theorem BlockWF.live_inEntry {b : Block V} (h : BlockWF b) {p : Int × V} (hp : p ∈ live b) :
    b.entry.MinTime ≤ p.1 ∧ p.1 ≤ b.entry.MaxTime := h.inEntry p (mem_live.1 hp).1

theorem BlockWF.live_i64 {b : Block V} (h : BlockWF b) {p : Int × V} (hp : p ∈ live b) :
    minI64 ≤ p.1 ∧ p.1 ≤ maxI64 :=
  ⟨Int.le_trans h.lo (h.live_inEntry hp).1, Int.le_trans (h.live_inEntry hp).2 h.hi⟩

/-- OrderOK on the vector of `seeks`: entries that overlap in time come older file first -/
def OrderOKv (B : Vector (Block V) n) : Prop :=
  ∀ i j : Fin n, i < j →
    (B.get i).entry.MinTime ≤ (B.get j).entry.MaxTime → (B.get j).entry.MinTime ≤ (B.get i).entry.MaxTime →
    (B.get i).file < (B.get j).file

/-- the point delivered for a timestamp by "newest file wins" over the locations in `seeks` -/
def IsWinner (B : Vector (Block V) n) (p : Int × V) : Prop :=
  ∃ i : Fin n, p ∈ live (B.get i) ∧ ∀ k : Fin n, p.1 ∈ keys (live (B.get k)) → (B.get k).file ≤ (B.get i).file

def beyond (asc : Bool) (W x : Int) : Prop := if asc then W < x else x < W

instance (asc : Bool) (W x : Int) : Decidable (beyond asc W x) := by unfold beyond; infer_instance

/-- the read mark of a location of which everything up to `W` has been read: ascending marks
    grow from MinInt64 upwards, descending marks from MaxInt64 downwards -/
def readTo (asc : Bool) (W : Int) : Int × Int := if asc then (minI64, W) else (W, maxI64)

def lead (asc : Bool) (minT maxT : Int) : Int := if asc then maxT else minT

theorem beyond_irrefl (asc : Bool) (W : Int) : ¬ beyond asc W W := by
  cases asc <;> simp only [beyond, Bool.false_eq_true, if_false, if_true] <;> omega

theorem beyond_trans {a b c : Int} (h1 : beyond asc a b) (h2 : beyond asc b c) : beyond asc a c := by
  cases asc <;> simp only [beyond, Bool.false_eq_true, if_false, if_true] at * <;> omega

theorem not_beyond_mono {W W' w : Int} (h1 : ¬ beyond asc W w) (h2 : beyond asc W W') :
    ¬ beyond asc W' w := by
  cases asc <;> simp only [beyond, Bool.false_eq_true, if_false, if_true] at * <;> omega

theorem beyond_of_not_beyond {W a b : Int} (h1 : ¬ beyond asc W a) (h2 : beyond asc W b) :
    beyond asc a b := by
  cases asc <;> simp only [beyond, Bool.false_eq_true, if_false, if_true] at * <;> omega

theorem beyond_lead {W lo hi minT maxT : Int} (h1 : beyond asc W lo) (h2 : beyond asc W hi)
    (hlo : minT ≤ lo) (hhi : hi ≤ maxT) : beyond asc W (lead asc minT maxT) := by
  cases asc <;> simp only [beyond, lead, Bool.false_eq_true, if_false, if_true] at * <;> omega

theorem not_beyond_lead {minT maxT x : Int} (h1 : minT ≤ x) (h2 : x ≤ maxT) :
    ¬ beyond asc (lead asc minT maxT) x := by
  cases asc <;> simp only [beyond, lead, Bool.false_eq_true, if_false, if_true] <;> omega

theorem inside_readTo {W x : Int} (h1 : minI64 ≤ x) (h2 : x ≤ maxI64) :
    ((readTo asc W).1 ≤ x ∧ x ≤ (readTo asc W).2) ↔ ¬ beyond asc W x := by
  cases asc <;> simp only [beyond, readTo, Bool.false_eq_true, if_false, if_true] <;> omega

theorem markRead_readTo {W w minT maxT : Int} (hw : ¬ beyond asc W w)
    (hW : beyond asc W (lead asc minT maxT)) (h1 : minI64 ≤ minT) (h2 : maxT ≤ maxI64) :
    markRead (readTo asc w) minT maxT = readTo asc (lead asc minT maxT) := by
  cases asc <;> simp only [beyond, lead, readTo, markRead, Bool.false_eq_true, if_false, if_true] at * <;>
    apply Prod.ext <;> simp only <;> split <;> omega

theorem isRead_iff {i : Fin n} :
    isRead B rd i = true ↔
      (rd.get i).1 ≤ (B.get i).entry.MinTime ∧ (B.get i).entry.MaxTime ≤ (rd.get i).2 := by
  show (decide (_ ≤ _) && decide (_ ≥ _)) = true ↔ _
  simp only [Bool.and_eq_true, decide_eq_true_eq, ge_iff_le]
  exact Iff.rfl

theorem mem_curVals {i : Fin n} {p : Int × V} :
    p ∈ curVals B rd i ↔ p ∈ live (B.get i) ∧ ¬ ((rd.get i).1 ≤ p.1 ∧ p.1 ≤ (rd.get i).2) :=
  mem_exclude

theorem mem_curVals_readTo (hwf : ∀ i : Fin n, BlockWF (B.get i)) {i : Fin n} {W : Int}
    (h : rd.get i = readTo asc W) {p : Int × V} :
    p ∈ curVals B rd i ↔ p ∈ live (B.get i) ∧ beyond asc W p.1 := by
  rw [mem_curVals, h]
  refine and_congr_right fun hl => ?_
  rw [inside_readTo ((hwf i).live_i64 hl).1 ((hwf i).live_i64 hl).2, Decidable.not_not]

theorem mem_firstVals {i : Fin n} {p : Int × V} :
    p ∈ firstVals B rd i ↔ p ∈ live (B.get i) ∧ ¬ ((rd.get i).1 ≤ p.1 ∧ p.1 ≤ (rd.get i).2) := by
  show p ∈ excludeTombs _ (exclude _ _ _) ↔ _
  rw [mem_excludeTombs, mem_exclude, mem_live]
  exact ⟨fun ⟨⟨h1, h2⟩, h3⟩ => ⟨⟨h1, h3⟩, h2⟩, fun ⟨⟨h1, h3⟩, h2⟩ => ⟨⟨h1, h2⟩, h3⟩⟩

theorem curVals_sorted (hwf : ∀ i : Fin n, BlockWF (B.get i)) (rd : Marks n) (i : Fin n) :
    SortedV (curVals B rd i) := ((hwf i).sorted.excludeTombs _).exclude _ _

/-- "Remove values we already read; remove tombstones" in either order is the same list -/
theorem firstVals_eq_curVals (hwf : ∀ i : Fin n, BlockWF (B.get i)) (rd : Marks n)
    (i : Fin n) : firstVals B rd i = curVals B rd i :=
  sorted_ext (((hwf i).sorted.exclude _ _).excludeTombs _) (curVals_sorted hwf rd i) fun _ => by
    rw [mem_firstVals, mem_curVals]

theorem curVals_nil_of_isRead (hwf : ∀ i : Fin n, BlockWF (B.get i))
    {i : Fin n} (h : isRead B rd i = true) : curVals B rd i = [] := by
  apply List.eq_nil_iff_forall_not_mem.2
  intro p hp
  obtain ⟨hl, hn⟩ := mem_curVals.1 hp
  have := (hwf i).live_inEntry hl
  have := isRead_iff.1 h
  omega

theorem isRead_false_of_mem (hwf : ∀ i : Fin n, BlockWF (B.get i))
    {i : Fin n} {p : Int × V} (hp : p ∈ curVals B rd i) : isRead B rd i = false := by
  cases h : isRead B rd i with
  | false => rfl
  | true => rw [curVals_nil_of_isRead hwf h] at hp; cases hp

theorem markRead_idem (r : Int × Int) (lo hi : Int) : markRead (markRead r lo hi) lo hi = markRead r lo hi := by
  unfold markRead
  apply Prod.ext <;> simp only <;> split <;> simp only [ite_self]

theorem markAt_get (rd : Marks n) (i j : Fin n) (lo hi : Int) :
    (markAt rd i lo hi).get j = if i = j then markRead (rd.get i) lo hi else rd.get j := by
  refine (Vector.getElem_set i.isLt j.isLt).trans ?_
  by_cases h : i = j
  · subst h; rw [if_pos rfl, if_pos rfl]; rfl
  · rw [if_neg h, if_neg (fun e => h (Fin.ext e))]; rfl

/-- marking a list of locations, one after the other (no matter whether one occurs twice) -/
theorem foldl_markAt_get (lo hi : Int) (j : Fin n) : ∀ (is : List (Fin n)) (rd : Marks n),
    (is.foldl (fun r i => markAt r i lo hi) rd).get j =
      if j ∈ is then markRead (rd.get j) lo hi else rd.get j := by
  intro is
  induction is with
  | nil => exact fun _ => rfl
  | cons i is ih =>
    intro rd
    rw [List.foldl_cons, ih, markAt_get]
    by_cases e : i = j
    · subst e
      simp only [if_true, List.mem_cons, true_or, markRead_idem, ite_self]
    · have : ¬ j = i := fun e' => e e'.symm
      simp only [if_neg e, List.mem_cons, this, false_or]

theorem growMin_spec (B : Vector (Block V) n) (rd : Marks n) : ∀ (rest : List (Fin n)) (m : Int),
    growMin B rd rest m ≤ m ∧
    (∀ i ∈ rest, isRead B rd i = false → growMin B rd rest m ≤ (B.get i).entry.MinTime) ∧
    ∀ b, b ≤ m → (∀ i : Fin n, b ≤ (B.get i).entry.MinTime) → b ≤ growMin B rd rest m := by
  intro rest
  induction rest with
  | nil => exact fun m => ⟨Int.le_refl _, (fun _ h => nomatch h), fun _ h _ => h⟩
  | cons j js ih =>
    intro m
    let m' := if (B.get j).entry.MinTime < m && !isRead B rd j then (B.get j).entry.MinTime else m
    obtain ⟨h1, h2, h3⟩ := ih m'
    have hm' : m' ≤ m := by
      show (if _ then _ else _) ≤ m
      split
      · rename_i h; simp only [Bool.and_eq_true, decide_eq_true_eq] at h; omega
      · exact Int.le_refl _
    refine ⟨Int.le_trans h1 hm', ?_, ?_⟩
    · intro i hi hr
      rcases List.mem_cons.1 hi with rfl | hi
      · refine Int.le_trans h1 ?_
        show (if _ then _ else _) ≤ _
        split
        · exact Int.le_refl _
        · rename_i h; simp only [hr, Bool.not_false, Bool.and_true, decide_eq_true_eq] at h; omega
      · exact h2 i hi hr
    · intro b hb hB
      refine h3 b ?_ hB
      show b ≤ (if _ then _ else _)
      split
      · exact hB j
      · exact hb

theorem growMax_spec (B : Vector (Block V) n) (rd : Marks n) : ∀ (rest : List (Fin n)) (m : Int),
    m ≤ growMax B rd rest m ∧
    (∀ i ∈ rest, isRead B rd i = false → (B.get i).entry.MaxTime ≤ growMax B rd rest m) ∧
    ∀ b, m ≤ b → (∀ i : Fin n, (B.get i).entry.MaxTime ≤ b) → growMax B rd rest m ≤ b := by
  intro rest
  induction rest with
  | nil => exact fun m => ⟨Int.le_refl _, (fun _ h => nomatch h), fun _ h _ => h⟩
  | cons j js ih =>
    intro m
    let m' := if (B.get j).entry.MaxTime > m && !isRead B rd j then (B.get j).entry.MaxTime else m
    obtain ⟨h1, h2, h3⟩ := ih m'
    have hm' : m ≤ m' := by
      show m ≤ (if _ then _ else _)
      split
      · rename_i h; simp only [Bool.and_eq_true, decide_eq_true_eq] at h; omega
      · exact Int.le_refl _
    refine ⟨Int.le_trans hm' h1, ?_, ?_⟩
    · intro i hi hr
      rcases List.mem_cons.1 hi with rfl | hi
      · refine Int.le_trans ?_ h1
        show _ ≤ (if _ then _ else _)
        split
        · exact Int.le_refl _
        · rename_i h; simp only [hr, Bool.not_false, Bool.and_true, decide_eq_true_eq] at h; omega
      · exact h2 i hi hr
    · intro b hb hB
      refine h3 b ?_ hB
      show (if _ then _ else _) ≤ b
      split
      · exact hB j
      · exact hb

/-- the window `(minT, maxT)` of Read…Block when the first block's remaining values span
    `[lo, hi]`: the trailing edge is grown over the unread locations of `rest`, the leading edge
    taken from the first location that overlaps -/
def window (asc : Bool) (B : Vector (Block V) n) (rd : Marks n) (rest : List (Fin n)) (lo hi : Int) : Int × Int :=
  if asc then
    (growMin B rd rest lo,
     match firstOverlap B rd rest (growMin B rd rest lo) hi with
     | some i => if (B.get i).entry.MaxTime > hi then (B.get i).entry.MaxTime else hi
     | none => hi)
  else
    (match firstOverlap B rd rest lo (growMax B rd rest hi) with
     | some i => if (B.get i).entry.MinTime < lo then (B.get i).entry.MinTime else lo
     | none => lo,
     growMax B rd rest hi)

theorem include_eq_self {a : Vals V} {lo hi : Int} (h : ∀ p ∈ a, lo ≤ p.1 ∧ p.1 ≤ hi) : include_ a lo hi = a :=
  List.filter_eq_self.2 fun p hp => by
    simp only [h p hp, decide_true, Bool.and_self]

theorem window_spec (hwf : ∀ i : Fin n, BlockWF (B.get i)) (asc : Bool) (rd : Marks n)
    (f : Fin n) (rest : List (Fin n)) {lo hi minT maxT : Int} (hlo : minI64 ≤ lo) (hhi : hi ≤ maxI64)
    (hb : ∀ p ∈ curVals B rd f, lo ≤ p.1 ∧ p.1 ≤ hi) (hw : window asc B rd rest lo hi = (minT, maxT)) :
    minT ≤ lo ∧ hi ≤ maxT ∧ minI64 ≤ minT ∧ maxT ≤ maxI64 ∧
    ∀ i ∈ f :: rest, ∀ p ∈ curVals B rd i, ¬ beyond asc (lead asc minT maxT) p.1 → minT ≤ p.1 ∧ p.1 ≤ maxT := by
  obtain ⟨rfl, rfl⟩ : (window asc B rd rest lo hi).1 = minT ∧ (window asc B rd rest lo hi).2 = maxT :=
    ⟨congrArg Prod.fst hw, congrArg Prod.snd hw⟩
  cases asc
  · obtain ⟨g1, g2, g3⟩ := growMax_spec B rd rest hi
    have g3' := g3 maxI64 hhi fun i => (hwf i).hi
    have hmin : (window false B rd rest lo hi).1 ≤ lo ∧ minI64 ≤ (window false B rd rest lo hi).1 := by
      show (match firstOverlap B rd rest lo (growMax B rd rest hi) with | some i => _ | none => lo) ≤ lo ∧
        minI64 ≤ (match firstOverlap B rd rest lo (growMax B rd rest hi) with | some i => _ | none => lo)
      split
      · rename_i i _
        have := (hwf i).lo
        split <;> omega
      · exact ⟨Int.le_refl _, hlo⟩
    refine ⟨hmin.1, g1, hmin.2, g3', ?_⟩
    intro i hi' p hp hnb
    simp only [beyond, lead, Bool.false_eq_true, if_false] at hnb
    refine ⟨by omega, ?_⟩
    rcases List.mem_cons.1 hi' with rfl | hi'
    · exact Int.le_trans (hb p hp).2 g1
    · exact Int.le_trans ((hwf i).live_inEntry (mem_curVals.1 hp).1).2 (g2 i hi' (isRead_false_of_mem hwf hp))
  · obtain ⟨g1, g2, g3⟩ := growMin_spec B rd rest lo
    have g3' := g3 minI64 hlo fun i => (hwf i).lo
    have hmax : hi ≤ (window true B rd rest lo hi).2 ∧ (window true B rd rest lo hi).2 ≤ maxI64 := by
      show hi ≤ (match firstOverlap B rd rest (growMin B rd rest lo) hi with | some i => _ | none => hi) ∧
        (match firstOverlap B rd rest (growMin B rd rest lo) hi with | some i => _ | none => hi) ≤ maxI64
      split
      · rename_i i _
        have := (hwf i).hi
        split <;> omega
      · exact ⟨Int.le_refl _, hhi⟩
    refine ⟨g1, hmax.1, g3', hmax.2, ?_⟩
    intro i hi' p hp hnb
    simp only [beyond, lead, if_true] at hnb
    refine ⟨?_, by omega⟩
    rcases List.mem_cons.1 hi' with rfl | hi'
    · exact Int.le_trans g1 (hb p hp).1
    · exact Int.le_trans (g2 i hi' (isRead_false_of_mem hwf hp)) ((hwf i).live_inEntry (mem_curVals.1 hp).1).1

/-- `values.Merge(v)` ascending, `v.Merge(values)` descending -/
def mergeDir (asc : Bool) (acc v : Vals V) : Vals V := if asc then merge acc v else merge v acc

theorem mergeDir_nil (asc : Bool) (acc : Vals V) : mergeDir asc acc [] = acc := by
  unfold mergeDir; split <;> simp only [merge_nil_left, merge_nil_right]

def windowed (B : Vector (Block V) n) (rd : Marks n) (minT maxT : Int) (i : Fin n) : Vals V :=
  include_ (curVals B rd i) minT maxT

theorem mem_windowed {minT maxT : Int} {i : Fin n} {p : Int × V} :
    p ∈ windowed B rd minT maxT i ↔ p ∈ curVals B rd i ∧ minT ≤ p.1 ∧ p.1 ≤ maxT := mem_include

theorem windowed_sorted (hwf : ∀ i : Fin n, BlockWF (B.get i)) (rd : Marks n)
    (minT maxT : Int) (i : Fin n) : SortedV (windowed B rd minT maxT i) := (curVals_sorted hwf rd i).include _ _

theorem windowed_congr {rd rd' : Marks n} {i : Fin n} (h : rd.get i = rd'.get i)
    (minT maxT : Int) : windowed B rd minT maxT i = windowed B rd' minT maxT i := by
  show include_ (exclude _ (rd.get i).1 (rd.get i).2) _ _ = include_ (exclude _ (rd'.get i).1 (rd'.get i).2) _ _
  rw [h]

theorem windowed_nil_of_skip (hwf : ∀ i : Fin n, BlockWF (B.get i))
    {minT maxT : Int} {i : Fin n}
    (h : (!OverlapsTimeRange (B.get i).entry minT maxT || isRead B rd i) = true) :
    windowed B rd minT maxT i = [] := by
  apply List.eq_nil_iff_forall_not_mem.2
  intro p hp
  obtain ⟨hc, h1, h2⟩ := mem_windowed.1 hp
  rcases Bool.or_eq_true_iff.1 h with h | h
  · have := (hwf i).live_inEntry (mem_curVals.1 hc).1
    simp only [OverlapsTimeRange, Bool.not_eq_true', Bool.and_eq_false_iff, decide_eq_false_iff_not] at h
    omega
  · rw [curVals_nil_of_isRead hwf h] at hc; cases hc

/-- one iteration: the location is marked with the window, and its unread values inside the
    window (none, if it is skipped) are merged in -/
theorem mergeLoop_cons (hwf : ∀ i : Fin n, BlockWF (B.get i)) (asc : Bool)
    (minT maxT : Int) (i : Fin n) (is : List (Fin n)) (rd : Marks n) (acc : Vals V) :
    mergeLoop asc B minT maxT (i :: is) rd acc =
      mergeLoop asc B minT maxT is (markAt rd i minT maxT) (mergeDir asc acc (windowed B rd minT maxT i)) := by
  rw [mergeLoop]
  split
  · rename_i hskip
    rw [windowed_nil_of_skip hwf hskip, mergeDir_nil]
  · dsimp only
    congr 1
    split
    · rename_i he
      rw [windowed, List.isEmpty_iff.1 he]
      exact (mergeDir_nil asc acc).symm
    · rfl

/-- The loop marks every visited location with the window and folds the windowed unread values
    (taken with the marks at loop entry: a location's own mark changes only when it is visited,
    and no location is visited twice). -/
theorem mergeLoop_eq (hwf : ∀ i : Fin n, BlockWF (B.get i)) (asc : Bool)
    (minT maxT : Int) (rd0 : Marks n) : ∀ (is : List (Fin n)) (rd : Marks n) (acc : Vals V), is.Nodup →
      (∀ j ∈ is, rd.get j = rd0.get j) →
      mergeLoop asc B minT maxT is rd acc =
        (is.foldl (fun r i => markAt r i minT maxT) rd,
         is.foldl (fun a i => mergeDir asc a (windowed B rd0 minT maxT i)) acc) := by
  intro is
  induction is with
  | nil => exact fun _ _ _ _ => rfl
  | cons i is ih =>
    intro rd acc hnd hrd
    obtain ⟨hni, hnd'⟩ := List.nodup_cons.1 hnd
    rw [mergeLoop_cons hwf, windowed_congr (hrd i (List.mem_cons_self ..)), ih _ _ hnd']
    · rfl
    · intro j hj
      rw [markAt_get, if_neg (fun (e : i = j) => hni (e ▸ hj))]
      exact hrd j (List.mem_cons_of_mem _ hj)

/-- Read…Block on `current = f :: rest` (also for `rest = []`) when the first block's remaining
    values span `[lo, hi]` -/
theorem readMulti_eq (hwf : ∀ i : Fin n, BlockWF (B.get i)) (asc : Bool) (rd : Marks n)
    (f : Fin n) {rest : List (Fin n)} (hnd : rest.Nodup) {values : Vals V} {lo hi minT maxT : Int}
    (hlo : minTime? values = some lo) (hhi : maxTime? values = some hi)
    (hb' : ∀ p ∈ values, lo ≤ p.1 ∧ p.1 ≤ hi) (hw : window asc B rd rest lo hi = (minT, maxT)) :
    readMulti asc B rd f rest values =
      ((rest ++ [f]).foldl (fun r i => markAt r i minT maxT) rd,
       rest.foldl (fun a i => mergeDir asc a (windowed B rd minT maxT i)) values) := by
  obtain ⟨rfl, rfl⟩ : (window asc B rd rest lo hi).1 = minT ∧ (window asc B rd rest lo hi).2 = maxT :=
    ⟨congrArg Prod.fst hw, congrArg Prod.snd hw⟩
  have key : ∀ minT maxT : Int,
      (markAt (mergeLoop asc B minT maxT rest rd values).1 f minT maxT,
        (mergeLoop asc B minT maxT rest rd values).2) =
      ((rest ++ [f]).foldl (fun r i => markAt r i minT maxT) rd,
        rest.foldl (fun a i => mergeDir asc a (windowed B rd minT maxT i)) values) := by
    intro minT maxT
    rw [mergeLoop_eq hwf asc minT maxT rd rest rd values hnd (fun _ _ => rfl), List.foldl_append]
    rfl
  have hincl : ∀ a b : Int, a ≤ lo → hi ≤ b → include_ values a b = values := fun a b ha hb =>
    include_eq_self fun p hp => ⟨Int.le_trans ha (hb' p hp).1, Int.le_trans (hb' p hp).2 hb⟩
  have g1 := (growMin_spec B rd rest lo).1
  have g2 := (growMax_spec B rd rest hi).1
  unfold readMulti windowInit window
  simp only [hlo, hhi]
  cases asc
  · simp only [Bool.false_eq_true, if_false]
    cases hfo : firstOverlap B rd rest lo (growMax B rd rest hi) with
    | none => exact key _ _
    | some i =>
      dsimp only
      rw [hincl]
      · exact key _ _
      · split <;> omega
      · exact g2
  · simp only [if_true]
    cases hfo : firstOverlap B rd rest (growMin B rd rest lo) hi with
    | none => exact key _ _
    | some i =>
      dsimp only
      rw [hincl]
      · exact key _ _
      · exact g1
      · split <;> omega

end Influx.KC
