/-
  Lemmas.TsmSpecCover — the finite test `fullyCovered` of the statement checker decides
  "every time of [lo, hi] is covered by a request".
-/
import Influx.Spec.C08

namespace Influx.Tsm
open Influx.Spec.C08

theorem covers_iff (rs : List Req) (t : Int) : covers rs t = true ↔ ∃ r ∈ rs, r.lo ≤ t ∧ t ≤ r.hi := by
  simp [covers, List.any_eq_true]

/-- The least uncovered time of `[lo, hi]` is `lo` or follows the upper end of a request covering its
    predecessor: so testing these candidates decides the interval. -/
theorem fullyCovered_iff (rs : List Req) (lo hi : Int) (hle : lo ≤ hi) :
    fullyCovered rs lo hi = true ↔ ∀ t, lo ≤ t → t ≤ hi → covers rs t = true := by
  unfold fullyCovered
  rw [List.all_eq_true]
  constructor
  · intro hall
    have key : ∀ n : Nat, lo + n ≤ hi → covers rs (lo + n) = true := by
      intro n
      induction n with
      | zero => intro _; exact hall _ (by rw [Int.natCast_zero, Int.add_zero]; exact List.mem_cons_self)
      | succ n ih =>
        intro hthi
        have hstep : lo + (n : Int) ≤ lo + (n + 1 : Nat) := Int.add_le_add_left (Int.ofNat_le.mpr (Nat.le_succ n)) lo
        obtain ⟨r, hr, h1, h2⟩ := (covers_iff rs _).mp (ih (Int.le_trans hstep hthi))
        by_cases hc : lo + (n + 1 : Nat) ≤ r.hi
        · exact (covers_iff rs _).mpr ⟨r, hr, Int.le_trans h1 hstep, hc⟩
        · -- `r` covers the predecessor and not this time: this time is the candidate `r.hi + 1`
          have e : r.hi + 1 = lo + (n + 1 : Nat) := by
            rw [Int.natCast_succ, ← Int.add_assoc] at hc ⊢
            exact congrArg (· + 1) (Int.le_antisymm (Int.lt_add_one_iff.mp (Int.not_le.mp hc)) h2)
          exact hall _ (List.mem_cons_of_mem _ (List.mem_filterMap.mpr
            ⟨r, hr, by rw [e, if_pos ⟨Int.le_add_of_nonneg_right (Int.natCast_nonneg _), hthi⟩]⟩))
    intro t h1 h2
    have := key (t - lo).toNat
    rw [Int.toNat_of_nonneg (Int.sub_nonneg.mpr h1), Int.add_comm, Int.sub_add_cancel] at this
    exact this h2
  · intro h x hx
    rcases List.mem_cons.mp hx with rfl | hx
    · exact h x (Int.le_refl _) hle
    · obtain ⟨r, _, hr⟩ := List.mem_filterMap.mp hx
      split at hr
      · next hc => cases hr; exact h _ hc.1 hc.2
      · cases hr

end Influx.Tsm
