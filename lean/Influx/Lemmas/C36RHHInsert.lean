/-
  Lemmas.C36RHHInsert — `(*HashMap).insert` (robin-hood displacement) keeps the invariant
  and changes the contents exactly as a map update does.
-/
import Influx.Lemmas.C36RHHBase

namespace Influx.RHH

theorem insertLoop_at {s : Slots} {pos : Nat} {e : Entry} (h : At s pos e) (c fuel d : Nat) (x : Entry) :
    insertLoop c (fuel + 1) s pos d x =
      if e.key = x.key then some (s.set pos (some x), true)
      else if dist e.hash pos c < d then insertLoop c fuel (s.set pos (some x)) (next pos c) (dist e.hash pos c + 1) e
      else insertLoop c fuel s (next pos c) (d + 1) x := by
  rw [insertLoop, show s[pos]? = some (some e) from h]; rfl

theorem insertLoop_existing {hf : Key → Nat} {s : Slots} (hw : WF hf s) (x : Entry)
    {p : Nat} {e : Entry} (hp : At s p e) (hk : e.key = x.key) :
    ∀ (n fuel pos : Nat), pos < s.length → dist e.hash pos s.length + n = dist e.hash p s.length → n < fuel →
      insertLoop s.length fuel s pos (dist e.hash pos s.length) x = some (s.set p (some x), true) := by
  intro n
  induction n with
  | zero =>
    intro fuel pos hpos hd hf
    obtain ⟨fuel, rfl⟩ := Nat.exists_eq_succ_of_ne_zero (Nat.ne_of_gt hf)
    cases dist_inj e.hash pos p s.length hpos hp.lt hd
    rw [insertLoop_at hp, if_pos hk]
  | succ n ih =>
    intro fuel pos hpos hd hf
    obtain ⟨fuel, rfl⟩ := Nat.exists_eq_succ_of_ne_zero (Nat.ne_of_gt (Nat.zero_lt_of_lt hf))
    obtain ⟨e', h', hne, hle, hnext⟩ := hw.walk hp hpos hd
    rw [insertLoop_at h', if_neg (hk ▸ hne), if_neg (Nat.not_lt.mpr hle), ← hnext]
    exact ih fuel _ (next_lt _ _ hw.pos) (by rw [hnext, Nat.add_right_comm]; exact hd) (Nat.lt_of_succ_lt_succ hf)

/-- loop invariant of `insert` while the carried element's key is not in the table -/
structure LoopInv (hf : Key → Nat) (t : Slots) (pos d : Nat) (x : Entry) : Prop where
  wf : WF hf t
  xhash : x.hash = hf x.key
  fresh : ∀ e, Mem t e → e.key ≠ x.key
  pos_lt : pos < t.length
  d_eq : d = dist x.hash pos t.length
  /-- the carried element may stand at `pos`: its predecessor is occupied and rich enough -/
  fits : ∀ i, i < t.length → next i t.length = pos → d ≠ 0 →
    ∃ e', At t i e' ∧ d ≤ dist e'.hash i t.length + 1
  /-- a free slot lies ahead, closer than a full turn -/
  gap : ∃ q, q < t.length ∧ Free t q ∧ d + dist pos q t.length < t.length

/-- one step of the loop: the carried distance `b` grows by one or gives way to a smaller one plus
    one, and the way `D` to the free slot shrinks by one -/
theorem gap_step {a b D D' L : Nat} (hoff : D' + 1 = D) (hab : a ≤ b) (hgap : b + D < L) :
    a + 1 + D' < L := by omega

theorem LoopInv.wf_set {hf : Key → Nat} {t : Slots} {pos d : Nat} {x : Entry} (hI : LoopInv hf t pos d x)
    (hold : ∀ y, At t pos y → dist y.hash pos t.length ≤ d) : WF hf (t.set pos (some x)) := by
  have hd := hI.d_eq
  subst hd
  exact hI.wf.set hI.pos_lt hI.xhash (fun i e hi hk => absurd hk (hI.fresh e ⟨i, hi⟩)) hI.fits hold

theorem insertLoop_new {hf : Key → Nat} :
    ∀ (fuel : Nat) (t : Slots) (pos d : Nat) (x : Entry), LoopInv hf t pos d x →
      (∀ q, q < t.length → Free t q → dist pos q t.length < fuel) →
      ∃ t', insertLoop t.length fuel t pos d x = some (t', false) ∧ WF hf t' ∧
        t'.length = t.length ∧ (∀ e, Mem t' e ↔ Mem t e ∨ e = x) ∧ count t' = count t + 1 := by
  intro fuel
  induction fuel with
  | zero =>
    intro t pos d x hI hfuel
    obtain ⟨q, hq, hfq, _⟩ := hI.gap
    exact absurd (hfuel q hq hfq) (Nat.not_lt_zero _)
  | succ fuel ih =>
    intro t pos d x hI hfuel
    have hw := hI.wf
    have hc := hw.pos
    obtain ⟨o, ho⟩ : ∃ o, t[pos]? = some o := ⟨_, List.getElem?_eq_getElem hI.pos_lt⟩
    cases o with
    | none =>
      rw [insertLoop, ho]
      exact ⟨_, rfl, hI.wf_set (fun y hy => absurd hy (Free.not_at ho)), List.length_set,
        mem_set_free ho, count_set_free x ho⟩
    | some y =>
      have hy : At t pos y := ho
      have hyk : ¬ y.key = x.key := hI.fresh y ⟨pos, hy⟩
      obtain ⟨q, hq, hfq, hgap⟩ := hI.gap
      have hqp : q ≠ pos := fun h => (h ▸ hfq).not_at hy
      have hoff := off_next pos q t.length hc hI.pos_lt hq hqp
      have hnl := next_lt pos t.length hc
      have hfuel' : ∀ q', q' < t.length → Free t q' → dist (next pos t.length) q' t.length < fuel := by
        intro q' hq' hf'
        have hfu := hfuel q' hq' hf'
        rw [← off_next pos q' t.length hc hI.pos_lt hq' (fun h => (h ▸ hf').not_at hy)] at hfu
        exact Nat.lt_of_succ_lt_succ hfu
      rw [insertLoop_at hy, if_neg hyk]
      by_cases hsw : dist y.hash pos t.length < d
      · -- swap: x takes the slot, y travels on
        rw [if_pos hsw]
        have hlen : (t.set pos (some x)).length = t.length := List.length_set
        have hdl := dist_lt x.hash pos t.length hc
        have hd := hI.d_eq
        have hI' : LoopInv hf (t.set pos (some x)) (next pos t.length) (dist y.hash pos t.length + 1) y := by
          refine ⟨hI.wf_set (fun y' hy' => At.inj hy hy' ▸ Nat.le_of_lt hsw), hw.hash pos y hy, ?_,
            by rw [hlen]; exact hnl, ?_, ?_, ?_⟩
          · rintro e ⟨i, hi⟩ hk
            rcases (at_set hI.pos_lt i x e).mp hi with ⟨_, rfl⟩ | ⟨hip, hi'⟩
            · exact hyk hk.symm
            · exact hip (hw.uniq i pos e y hi' hy hk)
          · rw [hlen]
            exact (dist_next y.hash pos t.length hI.pos_lt (Nat.lt_of_le_of_lt hsw (hd ▸ hdl))).symm
          · intro i hi hnp _
            rw [hlen] at hi hnp ⊢
            cases next_inj i pos t.length hi hI.pos_lt hnp
            exact ⟨x, at_set_self hi x, Nat.succ_le_succ (Nat.le_of_lt (hd ▸ hsw))⟩
          · rw [hlen]
            exact ⟨q, hq, (free_set t pos q x).mpr ⟨hqp, hfq⟩, gap_step hoff (Nat.le_of_lt hsw) hgap⟩
        obtain ⟨t', hrun, hwf', hlen', hmem, hcnt⟩ := ih _ _ _ _ hI' (by
          intro q' hq' hf'
          rw [hlen] at hq' ⊢
          exact hfuel' q' hq' ((free_set t pos q' x).mp hf').2)
        rw [hlen] at hrun hlen'
        exact ⟨t', hrun, hwf', hlen', fun e => (hmem e).trans (mem_set_at hy e),
          by rw [hcnt, count_set_at x hy]⟩
      · -- no swap: x moves on
        rw [if_neg hsw]
        have hI' : LoopInv hf t (next pos t.length) (d + 1) x := by
          have hgap' := gap_step hoff (Nat.le_refl d) hgap
          refine ⟨hw, hI.xhash, hI.fresh, hnl, ?_, ?_, ⟨q, hq, hfq, hgap'⟩⟩
          · rw [hI.d_eq]
            exact (dist_next x.hash pos t.length hI.pos_lt
              (by rw [← hI.d_eq]; exact Nat.lt_of_le_of_lt (Nat.le_add_right _ _) hgap')).symm
          · intro i hi hnp _
            cases next_inj i pos t.length hi hI.pos_lt hnp
            exact ⟨y, hy, Nat.succ_le_succ (Nat.le_of_not_lt hsw)⟩
        exact ih _ _ _ _ hI' hfuel'

end Influx.RHH
