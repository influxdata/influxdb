/-
  Lemmas.Sched — invariants of the TreeScheduler model (Model/Sched.lean) used by Props.C24: the order of
  the queue, what one `process()` pass does, what one event does to queue / workers / log, the timer
  invariant of the repaired scheduler, workers, unique ids.
-/
import Influx.Model.Sched
namespace Influx.Lemmas.Sched
open Influx.Model.Sched

def Item.le (a b : Item) : Prop := ¬ (b.lt a = true)

theorem lt_iff (a b : Item) : a.lt b = true ↔ a.when < b.when ∨ (a.when = b.when ∧ a.id < b.id) := by
  simp [Item.lt]

theorem le_iff (a b : Item) : Item.le a b ↔ a.when < b.when ∨ (a.when = b.when ∧ a.id ≤ b.id) := by
  unfold Item.le; rw [lt_iff]; omega

theorem le_when {a b : Item} (h : Item.le a b) : a.when ≤ b.when := by
  rw [le_iff] at h; omega

theorem le_of_lt {a b : Item} (h : a.lt b = true) : Item.le a b := by
  rw [lt_iff] at h; rw [le_iff]; omega

theorem le_trans {a b c : Item} (h1 : Item.le a b) (h2 : Item.le b c) : Item.le a c := by
  rw [le_iff] at *; omega

def Sorted (q : List Item) : Prop := q.Pairwise Item.le

theorem insertItem_perm (it : Item) (q : List Item) : (insertItem it q).Perm (it :: q) := by
  induction q with
  | nil => exact .refl _
  | cons x xs ih =>
    unfold insertItem
    split
    · exact .refl _
    · exact (ih.cons x).trans (.swap it x xs)

theorem mem_insertItem {it y : Item} {q : List Item} : y ∈ insertItem it q ↔ y = it ∨ y ∈ q :=
  (insertItem_perm it q).mem_iff.trans List.mem_cons

theorem sorted_insert {it : Item} {q : List Item} (hs : Sorted q) : Sorted (insertItem it q) := by
  induction q with
  | nil => exact List.pairwise_singleton _ _
  | cons x xs ih =>
    obtain ⟨hx, hxs⟩ := List.pairwise_cons.mp hs
    unfold insertItem
    split
    · next h =>
      refine List.pairwise_cons.mpr ⟨fun y hy => ?_, hs⟩
      rcases List.mem_cons.mp hy with rfl | hy
      · exact le_of_lt h
      · exact le_trans (le_of_lt h) (hx y hy)
    · next h =>
      exact List.pairwise_cons.mpr ⟨fun y hy => (mem_insertItem.mp hy).elim (· ▸ h) (hx y), ih hxs⟩

theorem mem_removeId {id : Nat} {q : List Item} {x : Item} (h : x ∈ removeId id q) : x ∈ q ∧ x.id ≠ id := by
  simpa [removeId] using h

theorem sorted_removeId {id : Nat} {q : List Item} (hs : Sorted q) : Sorted (removeId id q) :=
  hs.sublist List.filter_sublist

theorem sorted_head_le {m : Item} {q : List Item} (hs : Sorted (m :: q)) : ∀ x ∈ m :: q, m.when ≤ x.when := by
  intro x hx
  rcases List.mem_cons.mp hx with rfl | hx
  · exact Int.le_refl _
  · exact le_when ((List.pairwise_cons.mp hs).1 x hx)

theorem reinsert_perm (ins kept : List Item) : (reinsert ins kept).Perm (ins ++ kept) := by
  induction ins generalizing kept with
  | nil => exact .refl _
  | cons x xs ih => exact (ih _).trans (((insertItem_perm x kept).append_left xs).trans List.perm_middle)

theorem sorted_reinsert {ins kept : List Item} (hs : Sorted kept) : Sorted (reinsert ins kept) := by
  induction ins generalizing kept with
  | nil => exact hs
  | cons x xs ih => exact ih (sorted_insert hs)

def ids (q : List Item) : List Nat := q.map (·.id)

def runIds (rs : List (Nat × Run)) : List Nat := rs.map (·.2.id)

theorem mem_ids_iff {q : List Item} {i : Nat} : i ∈ ids q ↔ ∃ x ∈ q, x.id = i := List.mem_map

theorem mem_ids {q : List Item} {x : Item} (h : x ∈ q) : x.id ∈ ids q := mem_ids_iff.mpr ⟨x, h, rfl⟩

theorem mem_runIds {rs : List (Nat × Run)} {wr : Nat × Run} (h : wr ∈ rs) : wr.2.id ∈ runIds rs :=
  List.mem_map_of_mem h

theorem ids_append (a b : List Item) : ids (a ++ b) = ids a ++ ids b := List.map_append

theorem ids_insertItem_perm (it : Item) (q : List Item) : (ids (insertItem it q)).Perm (it.id :: ids q) :=
  (insertItem_perm it q).map _

theorem ids_reinsert_perm (ins kept : List Item) : (ids (reinsert ins kept)).Perm (ids ins ++ ids kept) :=
  ids_append _ _ ▸ (reinsert_perm ins kept).map _

theorem mem_ids_removeId {i id : Nat} {q : List Item} (h : i ∈ ids q) (hne : i ≠ id) : i ∈ ids (removeId id q) :=
  let ⟨x, hx, hi⟩ := mem_ids_iff.mp h
  hi ▸ mem_ids (List.mem_filter.mpr ⟨hx, by simpa [hi] using hne⟩)

theorem ids_removeId (id : Nat) (q : List Item) : id ∉ ids (removeId id q) :=
  fun h => let ⟨_, hx, hid⟩ := mem_ids_iff.mp h; (mem_removeId hx).2 hid

theorem ids_removeId_sublist (id : Nat) (q : List Item) : (ids (removeId id q)).Sublist (ids q) :=
  List.filter_sublist.map _

/-- the run `iterator` sends to the worker of a due item -/
def runOf (cfg : Cfg) (it : Item) : Nat × Run := (cfg.wk it.id, { id := it.id, sf := it.next, runAt := it.when })

/-- `updateNext`: the item of the task's following run, if its cron has a next time -/
def nextItem (it : Item) : Option Item := (it.cron it.next).map fun n => { it with next := n }

theorem workerBusy_iff (busy : List (Nat × Run)) (w : Nat) : workerBusy busy w = true ↔ w ∈ busy.map (·.1) := by
  simp [workerBusy]

theorem workerBusy_append {a b : List (Nat × Run)} {w : Nat} :
    workerBusy (a ++ b) w = (workerBusy a w || workerBusy b w) := List.any_append

/-- What a pass over `q` does, in terms of the items `tk` it hands to workers: they are due, their workers
    were idle and are pairwise different, they leave the queue, and every due item that stays has a busy
    worker (the queue being ascending, the pass stops at the first item not yet due). -/
structure Split (cfg : Cfg) (now : Int) (q : List Item) (busy : List (Nat × Run)) (p : Pass) (tk : List Item) :
    Prop where
  perm : q.Perm (p.kept ++ tk)
  kept : p.kept.Sublist q
  due : ∀ y ∈ tk, y.when ≤ now
  runs : p.runs = tk.map (runOf cfg)
  ins : p.ins = tk.filterMap nextItem
  busy_eq : p.busy = p.runs.reverse ++ busy
  free : ∀ y ∈ tk, workerBusy busy (cfg.wk y.id) = false
  wks : (tk.map (cfg.wk ·.id)).Nodup
  held : Sorted q → ∀ y ∈ p.kept, y.when ≤ now → workerBusy p.busy (cfg.wk y.id) = true

theorem Split.skip {cfg : Cfg} {now : Int} {it : Item} {rest : List Item} {busy : List (Nat × Run)} {p : Pass}
    {tk : List Item} (h : Split cfg now rest busy p tk) (hb : workerBusy busy (cfg.wk it.id) = true) :
    Split cfg now (it :: rest) busy { p with kept := it :: p.kept } tk := by
  refine ⟨h.perm.cons it, h.kept.cons_cons it, h.due, h.runs, h.ins, h.busy_eq, h.free, h.wks, fun hs y hy hd => ?_⟩
  rcases List.mem_cons.mp hy with rfl | hy
  · show workerBusy p.busy _ = true
    rw [h.busy_eq, workerBusy_append, hb, Bool.or_true]
  · exact h.held (List.pairwise_cons.mp hs).2 y hy hd

theorem Split.take {cfg : Cfg} {now : Int} {it : Item} {rest ins : List Item} {busy : List (Nat × Run)} {p : Pass}
    {tk : List Item} (h : Split cfg now rest (runOf cfg it :: busy) p tk) (hdue : it.when ≤ now)
    (hb : workerBusy busy (cfg.wk it.id) = false) (hins : ins = (nextItem it).toList ++ p.ins) :
    Split cfg now (it :: rest) busy { p with runs := runOf cfg it :: p.runs, ins := ins } (it :: tk) := by
  have hfree : ∀ y ∈ tk, (cfg.wk it.id == cfg.wk y.id) = false ∧ workerBusy busy (cfg.wk y.id) = false :=
    fun y hy => Bool.or_eq_false_iff.mp (h.free y hy)
  refine ⟨(h.perm.cons it).trans List.perm_middle.symm, h.kept.cons it, List.forall_mem_cons.mpr ⟨hdue, h.due⟩,
    congrArg (runOf cfg it :: ·) h.runs, ?_,
    h.busy_eq.trans (by simp only [List.reverse_cons, List.append_assoc, List.singleton_append]),
    List.forall_mem_cons.mpr ⟨hb, fun y hy => (hfree y hy).2⟩, List.nodup_cons.mpr ⟨fun hm => ?_, h.wks⟩,
    fun hs => h.held (List.pairwise_cons.mp hs).2⟩
  · show ins = _
    rw [hins, h.ins, List.filterMap_cons]
    cases nextItem it <;> rfl
  · obtain ⟨y, hy, he⟩ := List.mem_map.mp hm
    exact ne_of_beq_false (hfree y hy).1 he.symm

theorem dispatch_split (cfg : Cfg) (now : Int) (q : List Item) (busy : List (Nat × Run)) :
    ∃ tk, Split cfg now q busy (dispatch cfg now q busy) tk := by
  fun_induction dispatch cfg now q busy with
  | case1 busy => exact ⟨[], .refl _, .refl _, nofun, rfl, rfl, rfl, nofun, .nil, fun _ => nofun⟩
  | case2 it rest busy hnd =>
    refine ⟨[], List.append_nil _ ▸ .refl _, .refl _, nofun, rfl, rfl, rfl, nofun, .nil, fun hs y hy hd => ?_⟩
    exact absurd (Int.le_trans (sorted_head_le hs y hy) hd) (Int.not_le.mpr hnd)
  | case3 it rest busy hdue hb p ih =>
    obtain ⟨tk, h⟩ := ih
    exact ⟨tk, h.skip hb⟩
  | case4 it rest busy hdue hb r p hc ih =>
    obtain ⟨tk, h⟩ := ih
    exact ⟨it :: tk, h.take (Int.not_lt.mp hdue) (Bool.eq_false_iff.mpr hb) (by rw [nextItem, hc]; rfl)⟩
  | case5 it rest busy hdue hb r p n hc ih =>
    obtain ⟨tk, h⟩ := ih
    exact ⟨it :: tk, h.take (Int.not_lt.mp hdue) (Bool.eq_false_iff.mpr hb) (by rw [nextItem, hc]; rfl)⟩

theorem runIds_runOf (cfg : Cfg) (tk : List Item) : runIds (tk.map (runOf cfg)) = ids tk := by
  simp [runIds, ids, runOf]

theorem nextItem_eq_some {it x : Item} (h : nextItem it = some x) :
    ∃ n, it.cron it.next = some n ∧ x = { it with next := n } :=
  let ⟨n, hn, hx⟩ := Option.map_eq_some_iff.mp h
  ⟨n, hn, hx.symm⟩

theorem ids_filterMap_nextItem (tk : List Item) : (ids (tk.filterMap nextItem)).Sublist (ids tk) := by
  induction tk with
  | nil => exact .refl _
  | cons a tk ih =>
    rw [List.filterMap_cons]
    split
    · exact ih.cons _
    · next x hx =>
      obtain ⟨n, _, rfl⟩ := nextItem_eq_some hx
      exact ih.cons_cons _

namespace Split
variable {cfg : Cfg} {now : Int} {q : List Item} {busy : List (Nat × Run)} {p : Pass} {tk : List Item}

theorem ids_perm (h : Split cfg now q busy p tk) : (ids q).Perm (ids p.kept ++ ids tk) :=
  ids_append _ _ ▸ h.perm.map _

theorem runIds_eq (h : Split cfg now q busy p tk) : runIds p.runs = ids tk := h.runs ▸ runIds_runOf cfg tk

theorem nodup (h : Split cfg now q busy p tk) (hn : (ids q).Nodup) : (ids p.kept ++ runIds p.runs).Nodup :=
  h.runIds_eq ▸ h.ids_perm.nodup_iff.mp hn

theorem mem_runs (h : Split cfg now q busy p tk) {wr : Nat × Run} (hwr : wr ∈ p.runs) :
    ∃ y ∈ q, y ∈ tk ∧ wr = runOf cfg y ∧ y.when ≤ now := by
  rw [h.runs] at hwr
  obtain ⟨y, hy, rfl⟩ := List.mem_map.mp hwr
  exact ⟨y, h.perm.mem_iff.mpr (List.mem_append_right _ hy), hy, rfl, h.due y hy⟩

theorem ids_ins (h : Split cfg now q busy p tk) : (ids p.ins).Sublist (runIds p.runs) :=
  h.runIds_eq ▸ h.ins ▸ ids_filterMap_nextItem tk

end Split

theorem iter_idle {r : Bool} {cfg : Cfg} {s : State} (h : s.mode ≠ .looping) : iter r cfg s = s := by
  simp [iter, h]

theorem iter_cases (r : Bool) (cfg : Cfg) (s : State) (hl : s.mode = .looping) :
    (s.queue = [] ∧ iter r cfg s = { s with when_ := none, mode := .idle }) ∨
    (∃ it rest, s.queue = it :: rest ∧ it.when > s.now ∧ iter r cfg s = notDue r s it) ∨
    (∃ it rest, s.queue = it :: rest ∧ it.when ≤ s.now ∧ iter r cfg s = afterProcess (processStep cfg s)) := by
  unfold iter
  simp only [hl, ne_eq, not_true_eq_false, if_false]
  cases hq : s.queue with
  | nil => exact Or.inl ⟨rfl, rfl⟩
  | cons it rest =>
    by_cases hdue : it.when > s.now
    · exact Or.inr (Or.inl ⟨it, rest, rfl, hdue, if_pos hdue⟩)
    · exact Or.inr (Or.inr ⟨it, rest, rfl, Int.not_lt.mp hdue, if_neg hdue⟩)

theorem afterProcess_cases (s : State) :
    (s.queue = [] ∧ afterProcess s = { s with when_ := none, mode := .idle }) ∨
    (∃ m q, s.queue = m :: q ∧ m.when > s.now ∧
        afterProcess s = { s with when_ := some m.when, timer := some m.when, mode := .idle }) ∨
    (∃ m q, s.queue = m :: q ∧ m.when ≤ s.now ∧ afterProcess s = { s with when_ := some m.when }) := by
  unfold afterProcess
  cases hq : s.queue with
  | nil => exact Or.inl ⟨rfl, rfl⟩
  | cons m q =>
    by_cases h : m.when > s.now
    · exact Or.inr (Or.inl ⟨m, q, rfl, h, if_pos h⟩)
    · exact Or.inr (Or.inr ⟨m, q, rfl, Int.not_lt.mp h, if_neg h⟩)

theorem iter_asleep (cfg : Cfg) {s : State} (hl : s.mode = .looping) (hi : (iter true cfg s).mode = .idle)
    {m : Item} {q : List Item} (hq : (iter true cfg s).queue = m :: q) :
    (iter true cfg s).when_ = some m.when ∧ (iter true cfg s).timer = some m.when ∧
      (iter true cfg s).now < m.when := by
  revert hq hi
  rcases iter_cases true cfg s hl with ⟨hq0, he⟩ | ⟨it, rest, hq0, hdue, he⟩ | ⟨_, _, _, _, he⟩
  · rw [he]
    exact fun _ hq => nomatch hq0.symm.trans hq
  · rw [he]
    intro _ hq
    cases hq0.symm.trans hq
    exact ⟨rfl, rfl, hdue⟩
  · rcases afterProcess_cases (processStep cfg s) with
      ⟨hq2, ha⟩ | ⟨m2, q2, hq2, hlater, ha⟩ | ⟨_, _, _, _, ha⟩ <;> rw [he, ha]
    · exact fun _ hq => nomatch hq2.symm.trans hq
    · intro _ hq
      cases hq2.symm.trans hq
      exact ⟨rfl, rfl, hlater⟩
    · exact fun hi => nomatch hl.symm.trans hi

theorem iter_nothing_due (cfg : Cfg) {s : State} (hl : s.mode = .looping) (hne : s.queue ≠ [])
    (hnd : ∀ it ∈ s.queue, s.now < it.when) :
    (iter true cfg s).mode = .idle ∧ timerExpired (iter true cfg s) = false ∧ (iter true cfg s).queue = s.queue ∧
      (iter true cfg s).log = s.log ∧ stepEv true cfg (iter true cfg s) .timerFire = iter true cfg s ∧
      stepEv true cfg (iter true cfg s) .iter = iter true cfg s := by
  rcases iter_cases true cfg s hl with ⟨hq0, _⟩ | ⟨it, rest, _, hdue, he⟩ | ⟨it, rest, hq0, hdue, _⟩
  · exact absurd hq0 hne
  · have hx : timerExpired (notDue true s it) = false := decide_eq_false (Int.not_le.mpr hdue)
    rw [he]
    exact ⟨rfl, hx, rfl, rfl, if_neg (hx ▸ Bool.false_ne_true), iter_idle (s := notDue true s it) nofun⟩
  · exact absurd (hnd it (hq0 ▸ List.mem_cons_self)) (Int.not_lt.mpr hdue)

theorem armFor_cases (s : State) (it : Item) :
    ((∀ w, s.when_ = some w → it.when < w) ∧ armFor s it =
        { s with when_ := some it.when, timer := some (if it.when ≤ s.now then s.now else it.when) }) ∨
    ((∃ w, s.when_ = some w ∧ w ≤ it.when) ∧ armFor s it = s) := by
  unfold armFor
  cases hw : s.when_ with
  | none => exact Or.inl ⟨nofun, rfl⟩
  | some w =>
    by_cases h : w > it.when
    · exact Or.inl ⟨fun _ h' => Option.some.inj h' ▸ h, if_pos (decide_eq_true h)⟩
    · exact Or.inr ⟨⟨w, rfl, Int.not_lt.mp h⟩, if_neg fun hd => h (of_decide_eq_true hd)⟩

theorem schedule_some {s s' : State} {id : Nat} {c : Cron} {off : Int} {last : Nat}
    (h : schedule s id c off last = some s') :
    ∃ nt, c last = some nt ∧
      s' = { armFor s { id := id, next := nt, offset := off, cron := c } with
             queue := insertItem { id := id, next := nt, offset := off, cron := c } (removeId id s.queue),
             log := .scheduled id c off last :: s.log } := by
  unfold schedule at h
  split at h
  · cases h
  · next nt hc => exact ⟨nt, hc, (Option.some.inj h).symm⟩

def SameData (s s' : State) : Prop := s'.queue = s.queue ∧ s'.busy = s.busy ∧ s'.log = s.log

theorem sameData_armFor (s : State) (it : Item) : SameData s (armFor s it) ∧ (armFor s it).now = s.now := by
  rcases armFor_cases s it with ⟨_, he⟩ | ⟨_, he⟩ <;> rw [he] <;> exact ⟨⟨rfl, rfl, rfl⟩, rfl⟩

theorem sameData_afterProcess (s : State) : SameData s (afterProcess s) ∧ (afterProcess s).now = s.now := by
  rcases afterProcess_cases s with ⟨_, he⟩ | ⟨_, _, _, _, he⟩ | ⟨_, _, _, _, he⟩ <;> rw [he] <;>
    exact ⟨⟨rfl, rfl, rfl⟩, rfl⟩

theorem sameData_notDue (r : Bool) (s : State) (it : Item) : SameData s (notDue r s it) ∧ (notDue r s it).now = s.now := by
  unfold notDue; split <;> exact ⟨⟨rfl, rfl, rfl⟩, rfl⟩

/-- A property of queue, workers and log is kept by every event if the four moves that touch them keep
    it: `Schedule`, `Release`, a `process()` pass, a worker finishing. -/
theorem stepEv_data {P : State → Prop} (r : Bool) (cfg : Cfg) {s : State} (e : Ev)
    (congr : ∀ {s s'}, P s → SameData s s' → P s') (h0 : P s)
    (sched : ∀ id c off last nt, e = .schedule id c off last → c last = some nt →
      P { s with queue := insertItem { id := id, next := nt, offset := off, cron := c } (removeId id s.queue),
                 log := .scheduled id c off last :: s.log })
    (rel : ∀ id, P (release s id))
    (pass : P (processStep cfg s))
    (done : ∀ w b, s.busy.find? (fun b => b.1 == w) = some b →
      P { s with busy := s.busy.filter (fun x => x.1 ≠ w), log := .finished w b.2 :: s.log }) :
    P (stepEv r cfg s e) := by
  cases e with
  | schedule id c off last =>
    show P ((schedule s id c off last).getD s)
    cases h : schedule s id c off last with
    | none => exact h0
    | some s' =>
      obtain ⟨nt, hc, rfl⟩ := schedule_some h
      exact congr (sched id c off last nt rfl hc) ⟨rfl, (sameData_armFor s _).1.2.1, rfl⟩
  | release id => exact rel id
  | advance d => exact congr h0 ⟨rfl, rfl, rfl⟩
  | timerFire => show P (if _ then _ else _); split <;> exact congr h0 ⟨rfl, rfl, rfl⟩
  | wake => show P (if _ then _ else _); split <;> exact congr h0 ⟨rfl, rfl, rfl⟩
  | iter =>
    show P (iter r cfg s)
    by_cases hl : s.mode = .looping
    · rcases iter_cases r cfg s hl with ⟨_, he⟩ | ⟨it, _, _, _, he⟩ | ⟨_, _, _, _, he⟩ <;> rw [he]
      · exact congr h0 ⟨rfl, rfl, rfl⟩
      · exact congr h0 (sameData_notDue r s it).1
      · exact congr pass (sameData_afterProcess _).1
    · rw [iter_idle hl]; exact h0
  | done w =>
    show P (match s.busy.find? (fun b => b.1 == w) with | none => _ | some b => _)
    split
    · exact h0
    · next b hb => exact done w b hb

theorem runEvs_inv {P : State → Prop} (r : Bool) (cfg : Cfg) (step : ∀ s e, P s → P (stepEv r cfg s e))
    (evs : List Ev) {s : State} (h : P s) : P (runEvs r cfg s evs) := by
  induction evs generalizing s with
  | nil => exact h
  | cons e rest ih => exact ih (step s e h)

structure InvT (s : State) : Prop where
  sorted : Sorted s.queue
  /-- `when` never lies after a pending due time -/
  k2 : ∀ w, s.when_ = some w → ∀ it ∈ s.queue, w ≤ it.when
  /-- something pending ⇒ `when` is set -/
  k4 : s.queue ≠ [] → s.when_.isSome = true
  /-- loop asleep with no tick pending ⇒ the timer is armed and fires no later than `when` (or is already due) -/
  k3 : s.mode = .idle → s.tick = false → ∀ w, s.when_ = some w →
        ∃ d, s.timer = some d ∧ (d ≤ w ∨ d ≤ s.now)

theorem invT_init : InvT init := ⟨.nil, fun _ _ _ => nofun, fun h => absurd rfl h, fun _ _ _ => nofun⟩

theorem InvT.when_le {s : State} (hI : InvT s) {x : Item} (hx : x ∈ s.queue) :
    ∃ w, s.when_ = some w ∧ w ≤ x.when := by
  obtain ⟨w, hw⟩ := Option.isSome_iff_exists.mp (hI.k4 (List.ne_nil_of_mem hx))
  exact ⟨w, hw, hI.k2 w hw x hx⟩

theorem InvT.at_rest {s : State} (hI : InvT s) (hm : s.mode = .idle) (ht : s.tick = false)
    (he : timerExpired s = false) :
    (∀ it ∈ s.queue, s.now < it.when) ∧
    ∀ w, s.when_ = some w → ∃ d, s.timer = some d ∧ s.now < d ∧ d ≤ w ∧ ∀ it ∈ s.queue, w ≤ it.when := by
  have key : ∀ w, s.when_ = some w →
      ∃ d, s.timer = some d ∧ s.now < d ∧ d ≤ w ∧ ∀ it ∈ s.queue, w ≤ it.when := by
    intro w hw
    obtain ⟨d, hd, hle⟩ := hI.k3 hm ht w hw
    rw [timerExpired, hd] at he
    have hne : s.now < d := Int.not_le.mp (of_decide_eq_false he)
    exact ⟨d, hd, hne, hle.resolve_right (Int.not_le.mpr hne), hI.k2 w hw⟩
  refine ⟨fun it hit => ?_, key⟩
  obtain ⟨w, hw, hle⟩ := hI.when_le hit
  obtain ⟨d, _, h1, h2, _⟩ := key w hw
  exact Int.lt_of_lt_of_le h1 (Int.le_trans h2 hle)

theorem invT_schedule {s s' : State} {id : Nat} {c : Cron} {off : Int} {last : Nat}
    (hI : InvT s) (h : schedule s id c off last = some s') : InvT s' := by
  obtain ⟨nt, hc, rfl⟩ := schedule_some h
  generalize ({ id := id, next := nt, offset := off, cron := c } : Item) = it
  have hq : ∀ x ∈ insertItem it (removeId id s.queue), x = it ∨ x ∈ s.queue :=
    fun x hx => (mem_insertItem.mp hx).imp_right fun h => (mem_removeId h).1
  have hs := sorted_insert (it := it) (sorted_removeId (id := id) hI.sorted)
  rcases armFor_cases s it with ⟨hpre, he⟩ | ⟨⟨w0, hw0, hle⟩, he⟩ <;> rw [he]
  · -- `when` and the timer are set for the new item, which is earlier than all that is pending
    refine ⟨hs, ?_, fun _ => rfl, ?_⟩
    · rintro _ ⟨⟩ x hx
      rcases hq x hx with rfl | hx
      · exact Int.le_refl _
      · obtain ⟨w, hw, hle⟩ := hI.when_le hx
        exact Int.le_trans (Int.le_of_lt (hpre w hw)) hle
    · rintro _ _ _ ⟨⟩
      refine ⟨_, rfl, ?_⟩
      show (if it.when ≤ s.now then s.now else it.when) ≤ it.when ∨ (if it.when ≤ s.now then s.now else it.when) ≤ s.now
      split
      · exact Or.inr (Int.le_refl _)
      · exact Or.inl (Int.le_refl _)
  · refine ⟨hs, ?_, fun _ => hw0 ▸ rfl, hI.k3⟩
    intro w hw x hx
    rcases hq x hx with rfl | hx
    · exact (Option.some.inj (hw0.symm.trans hw)) ▸ hle
    · exact hI.k2 w hw x hx

theorem invT_release {s : State} (hI : InvT s) (id : Nat) : InvT (release s id) :=
  ⟨sorted_removeId hI.sorted, fun w hw it hit => hI.k2 w hw it (mem_removeId hit).1,
    fun hne => hI.k4 fun hq => hne (by simp [release, hq, removeId]), hI.k3⟩

theorem invT_sleep {s : State} {m : Item} {q : List Item} (hs : Sorted s.queue) (hq : s.queue = m :: q) :
    InvT { s with when_ := some m.when, timer := some m.when, mode := .idle } :=
  ⟨hs, by rintro _ ⟨⟩ x hx; exact sorted_head_le (hq ▸ hs) x (hq ▸ hx), fun _ => rfl,
    by rintro _ _ _ ⟨⟩; exact ⟨_, rfl, Or.inl (Int.le_refl _)⟩⟩

theorem invT_empty {s : State} (hq : s.queue = []) : InvT { s with when_ := none, mode := .idle } :=
  ⟨hq ▸ .nil, fun _ => nofun, fun h => absurd hq h, fun _ _ _ => nofun⟩

theorem sorted_processStep {s : State} (cfg : Cfg) (hs : Sorted s.queue) : Sorted (processStep cfg s).queue :=
  let ⟨_, h⟩ := dispatch_split cfg s.now s.queue s.busy
  sorted_reinsert (hs.sublist h.kept)

theorem invT_afterProcess {s : State} (hs : Sorted s.queue) (hm : s.mode = .looping) :
    InvT (afterProcess s) := by
  rcases afterProcess_cases s with ⟨hq, he⟩ | ⟨m, q, hq, _, he⟩ | ⟨m, q, hq, _, he⟩ <;> rw [he]
  · exact invT_empty hq
  · exact invT_sleep hs hq
  · exact ⟨hs, by rintro _ ⟨⟩ x hx; exact sorted_head_le (hq ▸ hs) x (hq ▸ hx), fun _ => rfl,
      fun h => by rw [hm] at h; cases h⟩

theorem invT_iter {s : State} (cfg : Cfg) (hI : InvT s) : InvT (iter true cfg s) := by
  by_cases hl : s.mode = .looping
  · rcases iter_cases true cfg s hl with ⟨hq, he⟩ | ⟨it, rest, hq, _, he⟩ | ⟨_, _, _, _, he⟩ <;> rw [he]
    · exact invT_empty hq
    · exact invT_sleep hI.sorted hq
    · exact invT_afterProcess (sorted_processStep cfg hI.sorted) hl
  · rw [iter_idle hl]; exact hI

theorem invT_step (cfg : Cfg) {s : State} (hI : InvT s) (e : Ev) : InvT (stepEv true cfg s e) := by
  cases e with
  | schedule id c off last =>
    show InvT ((schedule s id c off last).getD s)
    cases h : schedule s id c off last with
    | none => exact hI
    | some s' => exact invT_schedule hI h
  | release id => exact invT_release hI id
  | advance d =>
    refine ⟨hI.sorted, hI.k2, hI.k4, fun hm ht w hw => ?_⟩
    obtain ⟨d', hd, hle⟩ := hI.k3 hm ht w hw
    exact ⟨d', hd, hle.imp_right fun h => Int.le_trans h (Int.le_add_of_nonneg_right (Int.natCast_nonneg d))⟩
  | timerFire =>
    show InvT (if _ then _ else _)
    split
    · exact ⟨hI.sorted, hI.k2, hI.k4, fun _ => nofun⟩
    · exact hI
  | wake =>
    show InvT (if _ then _ else _)
    split
    · exact ⟨hI.sorted, hI.k2, hI.k4, nofun⟩
    · exact hI
  | iter => exact invT_iter cfg hI
  | done w =>
    show InvT (match s.busy.find? (fun b => b.1 == w) with | none => _ | some b => _)
    split
    · exact hI
    · exact ⟨hI.sorted, hI.k2, hI.k4, hI.k3⟩

theorem invT_run (cfg : Cfg) (evs : List Ev) {s : State} (hI : InvT s) : InvT (runEvs true cfg s evs) :=
  runEvs_inv (P := InvT) true cfg (fun _ e h => invT_step cfg h e) evs hI

structure InvB (cfg : Cfg) (s : State) : Prop where
  /-- a run executes on the worker its id hashes to -/
  wk : ∀ b ∈ s.busy, b.1 = cfg.wk b.2.id
  /-- a worker executes one run at a time -/
  uniq : (s.busy.map (·.1)).Nodup

theorem invB_init (cfg : Cfg) : InvB cfg init := ⟨nofun, .nil⟩

theorem invB_sublist {cfg : Cfg} {s s' : State} (hI : InvB cfg s) (h : s'.busy.Sublist s.busy) : InvB cfg s' :=
  ⟨fun b hb => hI.wk b (h.subset hb), hI.uniq.sublist (h.map _)⟩

theorem invB_step (r : Bool) (cfg : Cfg) {s : State} (hI : InvB cfg s) (e : Ev) : InvB cfg (stepEv r cfg s e) := by
  refine stepEv_data r cfg e (fun hI h => invB_sublist hI (h.2.1 ▸ .refl _)) hI
    (fun _ _ _ _ _ _ _ => ⟨hI.wk, hI.uniq⟩) (fun _ => ⟨hI.wk, hI.uniq⟩) ?_ (fun _ _ _ => invB_sublist hI List.filter_sublist)
  -- the workers taken by a pass were idle and are pairwise different
  obtain ⟨tk, h⟩ := dispatch_split cfg s.now s.queue s.busy
  have hb : (processStep cfg s).busy = (tk.map (runOf cfg)).reverse ++ s.busy := h.runs ▸ h.busy_eq
  refine ⟨fun b hb' => ?_, ?_⟩
  · rcases List.mem_append.mp (hb ▸ hb') with hm | hm
    · obtain ⟨y, _, rfl⟩ := List.mem_map.mp (List.mem_reverse.mp hm)
      rfl
    · exact hI.wk b hm
  · rw [hb, List.map_append, List.map_reverse, List.map_map]
    refine List.nodup_append.mpr ⟨(List.reverse_perm _).nodup_iff.mpr h.wks, hI.uniq, fun a ha b hb hab => ?_⟩
    obtain ⟨y, hy, rfl⟩ := List.mem_map.mp (List.mem_reverse.mp ha)
    have := h.free y hy
    rw [← Bool.not_eq_true, workerBusy_iff] at this
    have hab : cfg.wk y.id = b := hab
    exact this (hab ▸ hb)

theorem invB_run (r : Bool) (cfg : Cfg) (evs : List Ev) {s : State} (hI : InvB cfg s) :
    InvB cfg (runEvs r cfg s evs) :=
  runEvs_inv (P := InvB cfg) r cfg (fun _ e h => invB_step r cfg h e) evs hI

/-- no two executions of one id at the same time: the worker is a function of the id -/
theorem busy_ids_nodup {cfg : Cfg} {s : State} (h : InvB cfg s) : (s.busy.map (·.2.id)).Nodup := by
  have : (s.busy.map (·.2.id)).map cfg.wk = s.busy.map (·.1) := by
    rw [List.map_map]; exact List.map_congr_left fun b hb => (h.wk b hb).symm
  exact List.Pairwise.of_map cfg.wk (fun _ _ hab heq => hab (congrArg _ heq)) (this ▸ h.uniq)

structure InvU (s : State) : Prop where
  uniq : (ids s.queue).Nodup

theorem invU_init : InvU init := ⟨.nil⟩

theorem processStep_ids_nodup {s : State} (cfg : Cfg) (hn : (ids s.queue).Nodup) :
    (ids (processStep cfg s).queue).Nodup := by
  obtain ⟨tk, h⟩ := dispatch_split cfg s.now s.queue s.busy
  rw [show (processStep cfg s).queue = reinsert _ _ from rfl, (ids_reinsert_perm _ _).nodup_iff,
    List.perm_append_comm.nodup_iff]
  exact (h.nodup hn).sublist (h.ids_ins.append_left _)

theorem invU_step (r : Bool) (cfg : Cfg) {s : State} (hI : InvU s) (e : Ev) : InvU (stepEv r cfg s e) := by
  refine stepEv_data r cfg e (fun hI h => ⟨h.1 ▸ hI.uniq⟩) hI (fun id c off last nt _ _ => ⟨?_⟩)
    (fun id => ⟨hI.uniq.sublist (ids_removeId_sublist id s.queue)⟩) ⟨processStep_ids_nodup cfg hI.uniq⟩
    (fun _ _ _ => ⟨hI.uniq⟩)
  rw [(ids_insertItem_perm _ _).nodup_iff, List.nodup_cons]
  exact ⟨ids_removeId id s.queue, hI.uniq.sublist (ids_removeId_sublist id s.queue)⟩

end Influx.Lemmas.Sched
