/-
  Lemmas.DBRPStep — the harness operations keep the invariant; the statement checker on the
  model's trace.
-/
import Influx.Lemmas.DBRPFind

namespace Influx.DBRP
open Influx.Spec.C43

/-- histories of the statement's domain: mappings are created, updated and deleted through the ids
    the service handed out (odd; bucket ids are even — the two id spaces of the harness) -/
def physOp : Op → Bool
  | .bucket _ id _ => id % 2 == 0
  | .update _ id _ _ => id % 2 == 1
  | .delete _ id => id % 2 == 1
  | _ => true

theorem foldl_inv' {α β : Type} (P : β → Prop) (f : β → α → β) (l : List α) (s : β)
    (h0 : P s) (hstep : ∀ s x, x ∈ l → P s → P (f s x)) : P (l.foldl f s) := by
  induction l generalizing s with
  | nil => simpa using h0
  | cons x xs ih =>
    simp only [List.foldl_cons]
    apply ih
    · exact hstep s x (by simp) h0
    · intro s y hy hs; exact hstep s y (by simp [hy]) hs

theorem inv_buckets {s : St} (h : Inv s) (bs : List Bucket) (hb : ∀ b ∈ bs, b.ID % 2 = 0) :
    Inv { s with buckets := bs } :=
  ⟨h.sorted, h.recOK, h.idx, h.idxND, h.byOrg, h.byOrgND, h.defSome, h.defEx, h.uniq, h.nextOdd, hb⟩

theorem findMany_removed_bucket_ids {s : St} (h : Inv s) (org bid : Nat) (hgone : ∀ b ∈ s.buckets, b.ID ≠ bid)
    {ms : List Mapping} (hf : findMany s { OrgID := some org, BucketID := some bid } = .ok ms) :
    ∀ m ∈ ms, m.ID % 2 = 1 := by
  unfold findMany findPhysical at hf
  simp only at hf
  rw [addAll_ok h _ _ _ (fun v hv => ((walkOrg_mem h).mp hv).1)] at hf
  have hb : findBuckets s { OrgID := some org, BucketID := some bid } = [] := by
    simp only [findBuckets, List.filter_eq_nil_iff, Option.isNone_some, Bool.false_or, Bool.and_eq_true, beq_iff_eq,
      Option.some.injEq, not_and]
    intro b hb hc
    exact absurd hc.symm (hgone b hb)
  simp only [hb, mergeVirtual, List.nil_append, Except.ok.injEq] at hf
  subst hf
  intro m hm
  simp only [List.mem_filter, List.mem_map] at hm
  obtain ⟨⟨v, hv, rfl⟩, _⟩ := hm
  exact (h.recOK v ((walkOrg_mem h).mp hv).1).1

theorem step_inv (s : St) (op : Op) (h : Inv s) (hd : physOp op = true) : Inv (step s op).1 := by
  cases op with
  | bucket org id name =>
    simp only [step]
    split
    · exact h
    · apply inv_buckets h
      intro b hb
      simp only [List.mem_append, List.mem_singleton] at hb
      rcases hb with hb | rfl
      · exact h.bucketsEven b hb
      · simpa [physOp] using hd
  | delBucket id =>
    simp only [step]
    have key : Inv (deleteBucket s id).1 := by
      unfold deleteBucket
      cases hb : findBucketByID s id with
      | none => exact h
      | some b =>
        simp only
        have h1 : Inv { s with buckets := s.buckets.filter (·.ID != id) } :=
          inv_buckets h _ (fun b hb => h.bucketsEven b (List.mem_filter.mp hb).1)
        cases hf : findMany { s with buckets := s.buckets.filter (·.ID != id) } { OrgID := some b.OrgID, BucketID := some b.ID } with
        | error e => exact h1
        | ok ms =>
          simp only
          have hbid : b.ID = id := by
            unfold findBucketByID at hb; simpa using List.find?_some hb
          have hodd := findMany_removed_bucket_ids h1 b.OrgID b.ID
            (by intro b' hb'; have := (List.mem_filter.mp hb').2; rw [hbid]; simpa using this) hf
          apply foldl_inv' Inv _ _ _ h1
          intro s' m hm hs'
          exact delete_inv hs' b.OrgID m.ID (hodd m hm)
    generalize deleteBucket s id = p at key ⊢
    obtain ⟨s', _ | _⟩ := p <;> exact key
  | create org db rp dflt bucket =>
    simp only [step]
    have := create_inv h { ID := 0, Database := db, RetentionPolicy := rp, Default := dflt, Virtual := false, OrganizationID := org, BucketID := bucket } rfl rfl
    generalize create s _ = p at this ⊢
    obtain ⟨s', _ | _⟩ := p <;> exact this
  | update org id rp dflt =>
    simp only [step]
    have hodd : id % 2 = 1 := by simpa [physOp] using hd
    rcases findByID_odd h (org := org) hodd with ⟨r, hr, hid, horg, hf⟩ | ⟨_, hf⟩
    · simp only [hf]
      have := update_inv h { r with RetentionPolicy := rp.getD r.RetentionPolicy, Default := dflt.getD (getDefault s r.OrganizationID r.Database == some id) } (hid ▸ hodd) (h.recOK r hr).2.2
      generalize update s _ = p at this ⊢
      obtain ⟨s', _ | _⟩ := p <;> exact this
    · simp only [hf]; exact h
  | delete org id =>
    simp only [step]
    have hodd : id % 2 = 1 := by simpa [physOp] using hd
    have := delete_inv h org id hodd
    generalize delete s org id = p at this ⊢
    obtain ⟨s', _ | _⟩ := p <;> exact this
  | get org id => simp only [step]; split <;> exact h
  | find f => simp only [step]; split <;> exact h
  | dump => exact h

/-- the three filter shapes the statement is observed through -/
theorem classify_eq {f : Filter} {q : Query} : classify f = some q →
    match q with
    | .listing org => f = orgFilter org
    | .resolve org db rp => f = resFilter org db rp ∧ db ≠ ""
    | .dflt org db => f = defFilter org db ∧ db ≠ "" := by
  intro h
  obtain ⟨id, o, b, dbo, rpo, d, v⟩ := f
  simp only [classify] at h
  split at h
  · cases h; rfl
  · split at h
    · next hne => cases h; exact ⟨rfl, bne_iff_ne.mp hne⟩
    · cases h
  · split at h
    · next hne => cases h; exact ⟨rfl, bne_iff_ne.mp hne⟩
    · cases h
  · cases h

/-- the remembered listings are the listings of the current state -/
def KnownOK (s : St) (known : List (Nat × List Mapping)) : Prop :=
  ∀ p ∈ known, findMany s (orgFilter p.1) = .ok p.2

theorem listing_eq {s : St} (h : Inv s) {known : List (Nat × List Mapping)} (hk : KnownOK s known) {org : Nat}
    {o' : Nat} {l : List Mapping} (hf : known.find? (·.1 == org) = some (o', l)) :
    l = mergeVirtual (orgFilter org) (physOrg s org) (findBuckets s (orgFilter org)) := by
  have hm := List.mem_of_find?_eq_some hf
  have ho : o' = org := by simpa using List.find?_some hf
  have := hk _ hm
  simp only [ho] at this
  rw [findMany_listing h org] at this
  exact (Except.ok.inj this).symm

theorem find_holds {s : St} (h : Inv s) (known : List (Nat × List Mapping)) (hk : KnownOK s known) (f : Filter) :
    holdsOp known (.find f, (step s (.find f)).2) = true := by
  simp only [step]
  cases hc : classify f with
  | none =>
    cases findMany s f <;> simp [holdsOp, hc]
  | some q =>
    cases q with
    | listing org =>
      have hf : f = orgFilter org := classify_eq hc
      subst hf
      rw [findMany_listing h org]
      simp only [holdsOp, hc]
      exact listing_ok h org
    | resolve org db rp =>
      obtain ⟨hf, hdb⟩ : f = resFilter org db rp ∧ db ≠ "" := classify_eq hc
      subst hf
      rw [findMany_resolve h org db rp hdb]
      have hr := resolve_ok h org db rp
      simp only [holdsOp, hc, Bool.and_eq_true, decide_eq_true_eq]
      refine ⟨hr.1, ?_⟩
      cases hkf : known.find? (·.1 == org) with
      | none => rfl
      | some p =>
        obtain ⟨o', l⟩ := p
        simp only
        rw [listing_eq h hk hkf, hr.2]
        simp
    | dflt org db =>
      obtain ⟨hf, hdb⟩ : f = defFilter org db ∧ db ≠ "" := classify_eq hc
      subst hf
      obtain ⟨R, hfR, hlen, hcmp⟩ := default_ok h org db hdb
      rw [hfR]
      simp only [holdsOp, hc, Bool.and_eq_true, decide_eq_true_eq]
      refine ⟨hlen, ?_⟩
      cases hkf : known.find? (·.1 == org) with
      | none => rfl
      | some p =>
        obtain ⟨o', l⟩ := p
        simp only
        rw [listing_eq h hk hkf]
        by_cases hany : ((mergeVirtual (orgFilter org) (physOrg s org) (findBuckets s (orgFilter org))).any
            fun m => m.Database == db && !m.Virtual) = true
        · rw [hcmp hany]; simp
        · simp only [Bool.not_eq_true] at hany
          simp [hany]

theorem judge_run (ops : List Op) (hd : ∀ op ∈ ops, physOp op = true) (s : St) (known : List (Nat × List Mapping))
    (h : Inv s) (hk : KnownOK s known) : judge known (run s ops) = true := by
  induction ops generalizing s known with
  | nil => rfl
  | cons op ops ih =>
    have hop := hd op (by simp)
    have hinv := step_inv s op h hop
    simp only [run, judge, Bool.and_eq_true]
    refine ⟨?_, ih (fun o ho => hd o (by simp [ho])) _ _ hinv ?_⟩
    · cases op with
      | find f => exact find_holds h known hk f
      | _ => simp [holdsOp]
    · -- the remembered listings after the step
      cases op with
      | find f =>
        have hs : (step s (.find f)).1 = s := by simp only [step]; split <;> rfl
        rw [hs]
        simp only [step]
        cases hf : findMany s f with
        | error e => simpa [learn, mutates] using hk
        | ok r =>
          simp only [learn]
          cases hc : classify f with
          | none => exact hk
          | some q =>
            cases q with
            | listing org =>
              have : f = orgFilter org := classify_eq hc
              subst this
              intro p hp
              simp only [List.mem_cons, List.mem_filter] at hp
              rcases hp with rfl | ⟨hp, _⟩
              · exact hf
              · exact hk p hp
            | resolve => exact hk
            | dflt => exact hk
      | get org id =>
        have hs : (step s (.get org id)).1 = s := by simp only [step]; split <;> rfl
        rw [hs]
        simp only [step]
        split <;> simpa [learn, mutates] using hk
      | dump => simpa [step, learn, mutates] using hk
      | bucket | delBucket | create | update | delete => exact fun p hp => (List.not_mem_nil hp).elim

end Influx.DBRP
