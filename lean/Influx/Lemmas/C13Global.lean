/-
  Lemmas.C13Global — the whole series file: 8 partitions with their invariants, and the
  relation to the abstract state of the statement (`live`, `used`).
-/
import Influx.Lemmas.C13Steps
import Influx.Model.C13
import Influx.Spec.C13

namespace Influx.C13
open Influx.SF Influx.Spec.C13

structure PartsInv (ess : Nat → List Entry) (ps : List Part) : Prop where
  len : ps.length = partN
  inv : ∀ i p, ps[i]? = some p → p.pid = i ∧ PInv2 p (ess i) ∧ p.seq < 2 ^ 64
  out : ∀ i, partN ≤ i → ess i = []

/-- a key of an op: its partition is the one the hash function `pf` selects -/
structure KeyOK (pf : Bytes → Nat) (k : Bytes × Nat) : Prop where
  part : k.2 = pf k.1
  lt : k.2 < partN
  short : shortKey k.1

def GLive (pf : Bytes → Nat) (ess : Nat → List Entry) (k : Bytes) (id : Nat) : Prop :=
  ∃ e, Live (ess (pf k)) e ∧ e.key = k ∧ e.id = id

def GIssued (ess : Nat → List Entry) (id : Nat) : Prop :=
  ∃ i, i < partN ∧ ∃ e ∈ ess i, e.flag = insertFlag ∧ e.id = id

structure Rel0 (pf : Bytes → Nat) (ess : Nat → List Entry) (sp : SpecState) : Prop where
  live : ∀ k id, (k, id) ∈ sp.live ↔ GLive pf ess k id
  used : ∀ id, id ∈ sp.used → GIssued ess id
  c1 : sp.tornInID = false
  c2 : sp.tornInKey = false
  c3 : sp.tornDelete = false
  c4 : sp.segCompacted = false

theorem Rel0.ctx {pf ess sp} (h : Rel0 pf ess sp) : sp.ctx = "" := by
  simp [SpecState.ctx, h.c1, h.c2, h.c3, h.c4]

theorem Rel0.crashed {pf ess sp} (h : Rel0 pf ess sp) : sp.crashed = false := by
  simp [SpecState.crashed, h.c1, h.c2, h.c3]

variable {pf : Bytes → Nat} {ess : Nat → List Entry} {ps : List Part} {sp : SpecState}

theorem PartsInv.get (h : PartsInv ess ps) {i : Nat} (hi : i < partN) :
    ∃ p, ps[i]? = some p ∧ p.pid = i ∧ PInv2 p (ess i) ∧ p.seq < 2 ^ 64 := by
  have : i < ps.length := by rw [h.len]; exact hi
  exact ⟨ps[i], List.getElem?_eq_getElem this, h.inv i _ (List.getElem?_eq_getElem this)⟩

theorem glive_lt (h : PartsInv ess ps) {k : Bytes} {id : Nat} (hl : GLive pf ess k id) : pf k < partN := by
  obtain ⟨e, he, _⟩ := hl
  apply Classical.byContradiction
  intro hn
  have := h.out (pf k) (Nat.le_of_not_lt hn)
  rw [this] at he
  exact absurd he.1 (by simp)

/-- ids of partition `i` are ≡ `i + 1` mod 8: the residue tells the partition -/
theorem succ_mod_inj : ∀ i < partN, ∀ j < partN, (i + 1) % partN = (j + 1) % partN → i = j := by decide

theorem idPart_of_mod {id i : Nat} (hpos : 0 < id) (hi : i < partN) (hmod : id % partN = (i + 1) % partN) :
    SFile.idPart id = i := by
  obtain ⟨m, rfl⟩ := Nat.exists_eq_succ_of_ne_zero (Nat.ne_of_gt hpos)
  unfold SFile.idPart
  rw [if_neg (Nat.succ_ne_zero m), Nat.succ_sub_one]
  refine succ_mod_inj _ (Nat.mod_lt _ (by decide)) i hi ?_
  rw [← hmod, Nat.succ_eq_add_one, Nat.add_mod m 1 partN]
  rfl

theorem glive_idPart (h : PartsInv ess ps) {k : Bytes} {id : Nat} (hl : GLive pf ess k id) :
    SFile.idPart id = pf k ∧ 0 < id := by
  have hlt := glive_lt h hl
  obtain ⟨e, he, _, hid⟩ := hl
  obtain ⟨p, _, hpid, hinv, _⟩ := h.get hlt
  obtain ⟨hpos, _, hmod⟩ := hinv.idPos e he.1 he.2.1
  rw [hpid, hid] at hmod
  rw [hid] at hpos
  exact ⟨idPart_of_mod hpos hlt hmod, hpos⟩

theorem glive_unique_id (h : PartsInv ess ps) {k : Bytes} {id id' : Nat}
    (h1 : GLive pf ess k id) (h2 : GLive pf ess k id') : id = id' := by
  have hlt := glive_lt h h1
  obtain ⟨e, he, hk, hid⟩ := h1
  obtain ⟨e', he', hk', hid'⟩ := h2
  obtain ⟨p, _, _, hinv, _⟩ := h.get hlt
  have := live_unique hinv.toPInv he he' (by rw [hk, hk'])
  rw [← hid, ← hid', this]

theorem glive_unique_key (h : PartsInv ess ps) {k k' : Bytes} {id : Nat}
    (h1 : GLive pf ess k id) (h2 : GLive pf ess k' id) : k = k' := by
  have hp1 := (glive_idPart h h1).1
  have hp2 := (glive_idPart h h2).1
  have hpk : pf k = pf k' := by rw [← hp1, ← hp2]
  have hlt := glive_lt h h1
  obtain ⟨e, he, hk, hid⟩ := h1
  obtain ⟨e', he', hk', hid'⟩ := h2
  rw [← hpk] at he'
  obtain ⟨p, _, _, hinv, _⟩ := h.get hlt
  have := hinv.toPInv.id_unique he.1 he'.1 he.2.1 he'.2.1 (by rw [hid, hid'])
  rw [← hk, ← hk', this]

theorem idOf_iff (h : PartsInv ess ps) (hr : Rel0 pf ess sp) (k : Bytes) (id : Nat) :
    sp.idOf k = some id ↔ GLive pf ess k id := by
  have hu : ∀ a ∈ sp.live, ∀ b ∈ sp.live, decide (a.1 = k) = true → decide (b.1 = k) = true → a = b := by
    intro a ha b hb qa qb
    obtain rfl := of_decide_eq_true qa
    have hab : b.1 = a.1 := of_decide_eq_true qb
    exact Prod.ext hab.symm (glive_unique_id h ((hr.live _ _).mp ha) (hab ▸ (hr.live _ _).mp hb))
  unfold SpecState.idOf
  constructor
  · intro hf
    obtain ⟨⟨xk, xid⟩, hx, rfl⟩ := Option.map_eq_some_iff.mp hf
    have hq := List.find?_some hx
    obtain rfl : xk = k := of_decide_eq_true hq
    exact (hr.live _ _).mp (List.mem_of_find?_eq_some hx)
  · intro hl
    rw [find?_unique hu ((hr.live k id).mpr hl) (decide_eq_true rfl)]; rfl

theorem idOf_none_iff (h : PartsInv ess ps) (hr : Rel0 pf ess sp) (k : Bytes) :
    sp.idOf k = none ↔ ∀ id, ¬ GLive pf ess k id := by
  constructor
  · intro hn id hl
    rw [(idOf_iff h hr k id).mpr hl] at hn; cases hn
  · intro hno
    cases hc : sp.idOf k with
    | none => rfl
    | some id => exact absurd ((idOf_iff h hr k id).mp hc) (hno id)

theorem keyOf_iff (h : PartsInv ess ps) (hr : Rel0 pf ess sp) (id : Nat) (k : Bytes) :
    sp.keyOf id = some k ↔ GLive pf ess k id := by
  have hu : ∀ a ∈ sp.live, ∀ b ∈ sp.live, decide (a.2 = id) = true → decide (b.2 = id) = true → a = b := by
    intro a ha b hb qa qb
    obtain rfl := of_decide_eq_true qa
    have hab : b.2 = a.2 := of_decide_eq_true qb
    exact Prod.ext (glive_unique_key h ((hr.live _ _).mp ha) (hab ▸ (hr.live _ _).mp hb)) hab.symm
  unfold SpecState.keyOf
  constructor
  · intro hf
    obtain ⟨⟨xk, xid⟩, hx, rfl⟩ := Option.map_eq_some_iff.mp hf
    have hq := List.find?_some hx
    obtain rfl : xid = id := of_decide_eq_true hq
    exact (hr.live _ _).mp (List.mem_of_find?_eq_some hx)
  · intro hl
    rw [find?_unique hu ((hr.live k id).mpr hl) (decide_eq_true rfl)]; rfl

theorem findID_part {s : SFile} {k : Bytes × Nat} {p : Part} (hp : s.parts[k.2]? = some p) :
    s.findID k = p.findID k.1 := by
  unfold SFile.findID; rw [hp]

/-- what `SeriesFile.SeriesID` answers, globally -/
theorem findID_global {s : SFile} (h : PartsInv ess s.parts) {k : Bytes × Nat} (hk : KeyOK pf k) :
    (s.findID k ≠ 0 → GLive pf ess k.1 (s.findID k)) ∧
    (s.findID k = 0 → ∀ id, ¬ GLive pf ess k.1 id) := by
  obtain ⟨p, hp, _, hinv, _⟩ := h.get hk.lt
  rw [findID_part hp]
  rw [hk.part] at hinv
  by_cases hex : ∃ e, Live (ess (pf k.1)) e ∧ e.key = k.1
  · obtain ⟨e, hl, hke⟩ := hex
    have := findID_live hinv.toPInv hl
    rw [hke] at this
    have hpos := (hinv.idPos e hl.1 hl.2.1).1
    refine ⟨fun _ => ⟨e, hl, hke, this.symm⟩, fun h0 => ?_⟩
    exact absurd (this.symm.trans h0) (Nat.ne_of_gt hpos)
  · have := findID_none hinv.toPInv k.1 (fun e hl hke => hex ⟨e, hl, hke⟩)
    exact ⟨fun hne => absurd this hne, fun _ id ⟨e, hl', hke, _⟩ => hex ⟨e, hl', hke⟩⟩

end Influx.C13
