/-
  Lemmas.SchedFlight — executions in flight read off the log (no run of a task is taken while an
  earlier one executes), and `settle` with all invariants, ending (unless the fuel runs out) at rest or
  spinning against workers held by the environment.
-/
import Influx.Lemmas.SchedMacro
namespace Influx.Lemmas.Sched
open Influx.Model.Sched

/-- has task `id` a run that was taken and has not finished (log newest first) -/
def inflight (id : Nat) : List LogEv → Bool
  | [] => false
  | .took _ r _ :: rest => if r.id = id then true else inflight id rest
  | .finished _ r :: rest => if r.id = id then false else inflight id rest
  | .scheduled _ _ _ _ :: rest => inflight id rest
  | .released _ :: rest => inflight id rest

/-- no run of a task is taken while an earlier run of it is in flight -/
def NoOverlap : List LogEv → Prop
  | [] => True
  | .took _ r _ :: rest => inflight r.id rest = false ∧ NoOverlap rest
  | _ :: rest => NoOverlap rest

def busyIds (s : State) : List Nat := s.busy.map (·.2.id)

structure InvF (s : State) : Prop where
  busy : ∀ id, inflight id s.log = true ↔ id ∈ busyIds s
  no : NoOverlap s.log

theorem invF_init : InvF init := ⟨by simp [init, inflight, busyIds], by simp [init, NoOverlap]⟩

theorem inflight_tooks (now : Int) (id : Nat) (rs : List (Nat × Run)) (log : List LogEv) :
    inflight id (tooks now rs ++ log) = ((runIds rs).contains id || inflight id log) := by
  induction rs generalizing log with
  | nil => rfl
  | cons a rs ih =>
    rw [tooks_cons, ih, show runIds (a :: rs) = a.2.id :: runIds rs from rfl, List.contains_cons]
    by_cases h : a.2.id = id
    · simp [inflight, h]
    · simp [inflight, h, beq_false_of_ne (Ne.symm h)]

theorem noOverlap_tooks (now : Int) {rs : List (Nat × Run)} {log : List LogEv} (hn : (runIds rs).Nodup)
    (hfree : ∀ wr ∈ rs, inflight wr.2.id log = false) (hno : NoOverlap log) :
    NoOverlap (tooks now rs ++ log) := by
  induction rs generalizing log with
  | nil => exact hno
  | cons a rs ih =>
    obtain ⟨ha, hn⟩ : a.2.id ∉ runIds rs ∧ (runIds rs).Nodup := List.nodup_cons.mp hn
    rw [tooks_cons]
    refine ih hn (fun wr hwr => ?_) ⟨hfree a List.mem_cons_self, hno⟩
    exact (if_neg fun (h : a.2.id = wr.2.id) => ha (h ▸ mem_runIds hwr)).trans
      (hfree wr (List.mem_cons_of_mem _ hwr))

theorem invF_processStep (cfg : Cfg) {s : State} (hB : InvB cfg s) (hU : InvU s) (hF : InvF s) :
    InvF (processStep cfg s) := by
  obtain ⟨tk, h⟩ := dispatch_split cfg s.now s.queue s.busy
  have hrn := (List.nodup_append.mp (h.nodup hU.uniq)).2.1
  refine ⟨fun id => ?_, noOverlap_tooks s.now hrn (fun wr hwr => ?_) hF.no⟩
  · show inflight id (tooks s.now _ ++ s.log) = true ↔ id ∈ (dispatch cfg s.now s.queue s.busy).busy.map _
    rw [inflight_tooks, h.busy_eq, List.map_append, List.map_reverse, List.mem_append, List.mem_reverse,
      Bool.or_eq_true, List.contains_iff_mem, hF.busy id]
    rfl
  · -- a task that is executing keeps its worker busy, so the pass does not take it
    obtain ⟨y, _, hy, rfl, _⟩ := h.mem_runs hwr
    refine Bool.eq_false_iff.mpr fun hfl => ?_
    obtain ⟨b, hb, hbid⟩ := List.mem_map.mp ((hF.busy y.id).mp hfl)
    have hw : workerBusy s.busy (cfg.wk y.id) = true :=
      (workerBusy_iff _ _).mpr (List.mem_map.mpr ⟨b, hb, (hB.wk b hb).trans (congrArg cfg.wk hbid)⟩)
    exact absurd hw (Bool.eq_false_iff.mp (h.free y hy))

theorem inflight_finisheds (id : Nat) (fin : List (Nat × Run)) (log : List LogEv) :
    inflight id ((fin.map (fun b => LogEv.finished b.1 b.2)).reverse ++ log) =
      (!(runIds fin).contains id && inflight id log) := by
  induction fin generalizing log with
  | nil => rfl
  | cons a fin ih =>
    rw [List.map_cons, List.reverse_cons, List.append_assoc, ih,
      show runIds (a :: fin) = a.2.id :: runIds fin from rfl, List.contains_cons]
    by_cases h : a.2.id = id
    · simp [inflight, h]
    · simp [inflight, h, beq_false_of_ne (Ne.symm h)]

theorem noOverlap_append_finished {blocked : List Nat} {fs log : List LogEv}
    (h : ∀ ev ∈ fs, ∃ w r, ev = LogEv.finished w r ∧ r.id ∉ blocked) (hno : NoOverlap log) :
    NoOverlap (fs ++ log) := by
  induction fs with
  | nil => exact hno
  | cons ev fs ih =>
    obtain ⟨⟨_, _, rfl, _⟩, hfs⟩ := List.forall_mem_cons.mp h
    exact ih hfs

theorem mem_ids_filter (busy : List (Nat × Run)) (p : Nat → Bool) (id : Nat) :
    id ∈ runIds (busy.filter (fun b => p b.2.id)) ↔ id ∈ runIds busy ∧ p id = true := by
  simp only [runIds, List.mem_map, List.mem_filter]
  constructor
  · rintro ⟨b, ⟨hb, hp⟩, rfl⟩
    exact ⟨⟨b, hb, rfl⟩, hp⟩
  · rintro ⟨⟨b, hb, rfl⟩, hp⟩
    exact ⟨b, ⟨hb, hp⟩, rfl⟩

theorem invF_finishFree (blocked : List Nat) {s : State} (hF : InvF s) : InvF (finishFree blocked s) := by
  obtain ⟨fs, hlog, hfs⟩ := finishFree_log blocked s
  refine ⟨fun id => ?_, hlog ▸ noOverlap_append_finished hfs hF.no⟩
  show inflight id (_ ++ s.log) = true ↔ id ∈ runIds (s.busy.filter _)
  rw [inflight_finisheds, mem_ids_filter s.busy (fun i => blocked.contains i), Bool.and_eq_true, hF.busy id,
    Bool.not_eq_true', ← Bool.not_eq_true, List.contains_iff_mem,
    mem_ids_filter s.busy (fun i => !blocked.contains i)]
  show ¬ (id ∈ runIds s.busy ∧ _) ∧ id ∈ runIds s.busy ↔ id ∈ runIds s.busy ∧ _
  cases blocked.contains id <;> simp

theorem nodup_map_inj {α β : Type} (f : α → β) (l : List α) (h : (l.map f).Nodup) {a b : α}
    (ha : a ∈ l) (hb : b ∈ l) (hf : f a = f b) : a = b := by
  induction l with
  | nil => cases ha
  | cons y ys ih =>
    obtain ⟨hy, h⟩ := List.nodup_cons.mp h
    rcases List.mem_cons.mp ha with rfl | ha' <;> rcases List.mem_cons.mp hb with rfl | hb'
    · rfl
    · exact absurd (List.mem_map.mpr ⟨b, hb', hf.symm⟩) hy
    · exact absurd (List.mem_map.mpr ⟨a, ha', hf⟩) hy
    · exact ih h ha' hb'

theorem invF_step (r : Bool) (cfg : Cfg) {s : State} (hB : InvB cfg s) (hU : InvU s) (hF : InvF s) (e : Ev) :
    InvF (stepEv r cfg s e) := by
  refine stepEv_data (P := InvF) r cfg e
    (fun hF h => ⟨fun id => by rw [h.2.2, busyIds, h.2.1]; exact hF.busy id, h.2.2 ▸ hF.no⟩) hF
    (fun _ _ _ _ _ _ _ => ⟨hF.busy, hF.no⟩) (fun _ => ⟨hF.busy, hF.no⟩) (invF_processStep cfg hB hU hF)
    fun w b hf => ⟨fun id => ?_, hF.no⟩
  have hbm : b ∈ s.busy := List.mem_of_find?_eq_some hf
  have hbw : b.1 = w := by simpa using List.find?_some hf
  -- among the executing runs, `b` is the one on worker `w` and the one of its task
  have key : ∀ x ∈ s.busy, x.1 = w ↔ x.2.id = b.2.id := fun x hx =>
    ⟨fun h => congrArg (·.2.id) (nodup_map_inj _ _ hB.uniq hx hbm (h.trans hbw.symm)),
      fun h => (congrArg (·.1) (nodup_map_inj _ _ (busy_ids_nodup hB) hx hbm h)).trans hbw⟩
  show (if b.2.id = id then false else inflight id s.log) = true ↔ id ∈ (s.busy.filter _).map _
  simp only [List.mem_map, List.mem_filter, decide_eq_true_eq]
  split
  · next hid =>
    exact ⟨nofun, fun ⟨x, ⟨hx, hxw⟩, hxid⟩ => absurd ((key x hx).mpr (hxid.trans hid.symm)) hxw⟩
  · next hid =>
    rw [hF.busy id]
    constructor
    · intro hm
      obtain ⟨x, hx, rfl⟩ := List.mem_map.mp hm
      exact ⟨x, ⟨hx, fun h => hid ((key x hx).mp h).symm⟩, rfl⟩
    · rintro ⟨x, ⟨hx, _⟩, rfl⟩
      exact List.mem_map_of_mem hx

structure Good2 (cfg : Cfg) (s : State) : Prop where
  g : Good cfg s
  f : InvF s

theorem good2_step (cfg : Cfg) {s : State} (h : Good2 cfg s) (e : Ev) : Good2 cfg (stepEv true cfg s e) :=
  ⟨good_step cfg h.g e, invF_step true cfg h.g.b h.g.l.u h.f e⟩

theorem good2_finishFree (cfg : Cfg) (blocked : List Nat) {s : State} (h : Good2 cfg s) :
    Good2 cfg (finishFree blocked s) :=
  ⟨good_finishFree cfg blocked h.g, invF_finishFree blocked h.f⟩

theorem segB_mono {blocked : List Nat} {b1 b2 : Int} {seg : List LogEv} (h : SegB blocked b1 seg) (hb : b1 ≤ b2) :
    SegB blocked b2 seg := by
  intro ev hev
  rcases h ev hev with ⟨w, r, n, rfl, hn⟩ | h
  · exact Or.inl ⟨w, r, n, rfl, by omega⟩
  · exact Or.inr h

theorem settle_spec2 (cfg : Cfg) (blocked : List Nat) (fuel : Nat) (s : State) (hG : Good2 cfg s) :
    Good2 cfg (settle true cfg blocked fuel s).1 ∧
    (settle true cfg blocked fuel s).1.now = s.now ∧
    (∃ seg, (settle true cfg blocked fuel s).1.log = seg ++ s.log ∧ SegB blocked s.now seg) ∧
    ((settle true cfg blocked fuel s).2 ≠ .outOfFuel →
      EndOK cfg (settle true cfg blocked fuel s).1 ∧
      ∀ b ∈ (settle true cfg blocked fuel s).1.busy, b.2.id ∈ blocked) :=
  let ⟨a, ⟨b, c⟩, d⟩ := settle_inv (P := Good2 cfg) cfg blocked (fun _ => good2_finishFree cfg blocked)
    (fun _ e h => good2_step cfg h e) (fun _ h => h.g.t.sorted) fuel s hG
  ⟨a, b, c, d⟩

end Influx.Lemmas.Sched
