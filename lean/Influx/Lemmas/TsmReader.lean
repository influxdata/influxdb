/-
  Lemmas.TsmReader — the reader level: `NewTSMReader` (apply the tombstone file),
  `TSMReader.DeleteRange` (batch: filter, append a member to the tombstone file, apply)
  and `TSMReader.Delete`.  `Req` is the list of all acknowledged requests (k, lo, hi).
  `RInv file r Req` says: the index hides exactly what `Req` asks for, and the tombstone
  file holds every request that matters — so re-opening the file restores the same.
-/
import Influx.Lemmas.TsmVisible

namespace Influx.Tsm

/-- every tombstone of the file, in order (= `allTombs` of Model/TsmOps) -/
def fileTombs (f : TFile) : List Tombstone := (f.getD []).flatten

def fileReqs (f : TFile) : Hist := (fileTombs f).map toReq

/-- a request that can hide something: its key is in the file and its range meets the key's span -/
def matters (all : List KeyEntry) (q : Key × Int × Int) : Prop :=
  ∃ ke ∈ all, ke.key = q.1 ∧ ∃ t, q.2.1 ≤ t ∧ t ≤ q.2.2 ∧ spanIn ke t

structure RInv (file : TFile) (r : Reader) (Req : Hist) : Prop where
  nopend : r.ts.pending = none
  applied : r.ts.lastApplied ≤ (file.getD []).length
  idx : ∃ H, TInv r.ix H ∧ (∀ q ∈ H, q ∈ Req) ∧ (∀ q ∈ Req, matters r.ix.all q → q ∈ H)
  fileSub : ∀ q ∈ fileReqs file, q ∈ Req
  filePersist : ∀ q ∈ Req, matters r.ix.all q → q ∈ fileReqs file

theorem reader_visible_iff (file : TFile) (r : Reader) (Req : Hist) (h : RInv file r Req) (k : Key) (t : Int) :
    containsValue r.ix k t = true ↔ hasPoint r.ix.all k t ∧ ¬ coveredH Req k t := by
  obtain ⟨H, hT, hsub, hmat⟩ := h.idx
  rw [containsValue_iff r.ix H hT]
  refine and_congr_right fun hp => not_congr ⟨coveredH_mono hsub, ?_⟩
  rintro ⟨q, hq, hqk, h1, h2⟩
  obtain ⟨ke, hke, hkk, e, he, he1, he2⟩ := hp
  exact ⟨q, hmat q hq ⟨ke, hke, hkk.trans hqk.symm, t, h1, h2, (hT.wf ke hke).within e he t he1 he2⟩, hqk, h1, h2⟩

theorem tWalk_spec (f : TFile) (o : TObj) :
    (tWalk f o).1 = ((f.getD []).drop o.lastApplied).flatten ∧ (tWalk f o).2.pending = o.pending ∧
    (o.lastApplied ≤ (f.getD []).length → (tWalk f o).2.lastApplied ≤ (f.getD []).length) := by
  unfold tWalk
  cases f with
  | none => exact ⟨by simp, rfl, id⟩
  | some ms =>
    dsimp only [Option.getD_some]
    split
    · next h => rw [List.drop_eq_nil_of_le h]; exact ⟨rfl, rfl, id⟩
    · exact ⟨rfl, rfl, fun _ => Nat.le_refl _⟩

theorem applyTombstones_eq (file : TFile) (r : Reader) :
    applyTombstones file r =
      { r with ix := applyWalked r.ix (tWalk file r.ts).1, ts := (tWalk file r.ts).2 } := rfl

theorem open_inv (file : TFile) (kes : List KeyEntry) (hs : SortedKE kes) (hwf : ∀ ke ∈ kes, WFKE ke) :
    RInv file (openReader file kes) (fileReqs file) ∧ (openReader file kes).ix.all = kes := by
  unfold openReader
  rw [applyTombstones_eq]
  dsimp only
  obtain ⟨w1, w2, w3⟩ := tWalk_spec file {}
  rw [show (tWalk file {}).1 = fileTombs file from w1]
  obtain ⟨hT, hall⟩ := applyWalked_inv (mkIndex kes) [] (TInv_mkIndex _ hs hwf) (fileTombs file)
  exact ⟨⟨w2, w3 (Nat.zero_le _), ⟨_, hT, fun _ hq => hq, fun _ hq _ => hq⟩, fun _ hq => hq, fun _ hq _ => hq⟩, hall⟩

theorem reopen_inv (file : TFile) (r : Reader) (Req : Hist) (h : RInv file r Req)
    (hs : SortedKE r.ix.all) (hwf : ∀ ke ∈ r.ix.all, WFKE ke) :
    RInv file (openReader file r.ix.all) Req ∧ (openReader file r.ix.all).ix.all = r.ix.all := by
  obtain ⟨⟨np, ap, ⟨H, hT, hsub, hmat⟩, _, _⟩, hall⟩ := open_inv file r.ix.all hs hwf
  have hp : ∀ q ∈ Req, matters (openReader file r.ix.all).ix.all q → q ∈ fileReqs file :=
    fun q hq hm => h.filePersist q hq (by rw [← hall]; exact hm)
  exact ⟨⟨np, ap, ⟨H, hT, fun q hq => h.fileSub q (hsub q hq), fun q hq hm => hmat q (hp q hq hm) hm⟩,
    h.fileSub, hp⟩, hall⟩

theorem RInv_step {file file' : TFile} {r r' : Reader} {Req New R : Hist} (h : RInv file r Req)
    (hall : r'.ix.all = r.ix.all) (np : r'.ts.pending = none) (ap : r'.ts.lastApplied ≤ (file'.getD []).length)
    (hF : ∀ q, q ∈ fileReqs file' ↔ q ∈ fileReqs file ∨ q ∈ R) (hR : ∀ q ∈ R, q ∈ New)
    (hM : ∀ q ∈ New, matters r.ix.all q → q ∈ R)
    (hidx : ∀ H, TInv r.ix H → ∃ H', TInv r'.ix H' ∧ (∀ q ∈ H', q ∈ H ∨ q ∈ fileReqs file' ∨ q ∈ New) ∧
      (∀ q ∈ H, q ∈ H') ∧ (∀ q ∈ R, q ∈ H')) :
    RInv file' r' (Req ++ New) ∧ r'.ix.all = r.ix.all := by
  obtain ⟨H, hT, hsub, hmat⟩ := h.idx
  obtain ⟨H', hT', hsub', hold, hnew⟩ := hidx H hT
  have hfs : ∀ q ∈ fileReqs file', q ∈ Req ++ New := fun q hq =>
    ((hF q).mp hq).elim (fun h1 => List.mem_append_left _ (h.fileSub q h1)) (fun h1 => List.mem_append_right _ (hR q h1))
  rw [← hall] at hM hmat
  refine ⟨⟨np, ap, ⟨H', hT', fun q hq => ?_, fun q hq hm => ?_⟩, hfs, fun q hq hm => ?_⟩, hall⟩
  · rcases hsub' q hq with h1 | h1 | h1
    · exact List.mem_append_left _ (hsub q h1)
    · exact hfs q h1
    · exact List.mem_append_right _ h1
  · rcases List.mem_append.mp hq with h1 | h1
    · exact hold q (hmat q h1 hm)
    · exact hnew q (hM q h1 hm)
  · rcases List.mem_append.mp hq with h1 | h1
    · exact (hF q).mpr (Or.inl (h.filePersist q h1 (hall ▸ hm)))
    · exact (hF q).mpr (Or.inr (hM q h1 hm))

theorem dropWhile_not_filter (f : Key → Bool) (keys : List Key) :
    (keys.dropWhile fun k => !f k).filter f = keys.filter f ∧
    (keys.dropWhile fun k => !f k).isEmpty = (keys.filter f).isEmpty := by
  induction keys with
  | nil => exact ⟨rfl, rfl⟩
  | cons k ks ih =>
    simp only [List.dropWhile_cons, List.filter_cons]
    cases hf : f k <;> simp [*]

theorem tAddRange_none (file : TFile) (o : TObj) (f : Key → Bool) (keys : List Key) (lo hi : Int)
    (hp : o.pending = none) :
    (tAddRange file o (some f) keys lo hi).pending =
      (if (keys.filter f).isEmpty then none
       else some ⟨file.getD [], (keys.filter f).map fun k => ⟨k, lo, hi⟩⟩) ∧
    (tAddRange file o (some f) keys lo hi).lastApplied = o.lastApplied := by
  unfold tAddRange
  simp only [(dropWhile_not_filter f keys).1, (dropWhile_not_filter f keys).2]
  split
  · exact ⟨hp, rfl⟩
  · simp [hp]

theorem tFlush_tAddRange (file : TFile) (o : TObj) (f : Key → Bool) (keys : List Key) (lo hi : Int)
    (hp : o.pending = none) :
    ∃ ms, ms.flatten = (keys.filter f).map (fun k => (⟨k, lo, hi⟩ : Tombstone)) ∧
      (tFlush file (tAddRange file o (some f) keys lo hi)).1.getD [] = file.getD [] ++ ms ∧
      (tFlush file (tAddRange file o (some f) keys lo hi)).2.pending = none ∧
      (tFlush file (tAddRange file o (some f) keys lo hi)).2.lastApplied = o.lastApplied := by
  obtain ⟨p1, p2⟩ := tAddRange_none file o f keys lo hi hp
  unfold tFlush
  rw [p1]
  by_cases he : (keys.filter f).isEmpty = true
  · rw [if_pos he, List.isEmpty_iff.mp he]
    exact ⟨[], rfl, (List.append_nil _).symm, by rw [p1, if_pos he], p2⟩
  · rw [if_neg he]
    exact ⟨[_], List.flatten_singleton .., rfl, rfl, p2⟩

/-- `batchDelete.DeleteRange` for sorted keys is an `AddRange` of `keys`, or of nothing when no
    request matters -/
theorem bdRange_spec (file : TFile) (r : Reader) (H : Hist) (hT : TInv r.ix H) (keys : List Key)
    (hsk : SortedK keys) (lo hi : Int) :
    ∃ ks, bdRange file r keys lo hi = { r with ts := tAddRange file r.ts (some (containsKey r.ix)) ks lo hi } ∧
      (∀ k ∈ ks, k ∈ keys) ∧ ∀ q ∈ reqs keys lo hi, matters r.ix.all q → q.1 ∈ ks := by
  cases keys with
  | nil => exact ⟨[], rfl, fun _ hk => absurd hk List.not_mem_nil, fun _ hq => absurd hq List.not_mem_nil⟩
  | cons k0 l =>
    obtain ⟨kN, hN⟩ : ∃ kN, (k0 :: l).getLast? = some kN := ⟨_, List.getLast?_eq_some_getLast (List.cons_ne_nil k0 l)⟩
    have h0 : (k0 :: l).head? = some k0 := rfl
    generalize k0 :: l = keys at *
    unfold bdRange
    rw [h0, hN]
    dsimp only
    have hm : ∀ q ∈ reqs keys lo hi, matters r.ix.all q →
        overlapsKeyRange r.ix k0 kN = true ∧ overlapsTimeRange r.ix lo hi = true := by
      intro q hq ⟨ke, hke, hkk, t, h1, h2, hsp⟩
      obtain ⟨hqk, hqlo, hqhi⟩ := mem_reqs.mp hq
      have hck := containsKey_all hT.inv hke
      have hrange := hT.range ke hke t hsp
      simp only [containsKey, hkk, Bool.and_eq_true] at hck
      simp only [overlapsKeyRange, overlapsTimeRange, Bool.and_eq_true, decide_eq_true_eq]
      exact ⟨⟨kle_trans hck.1 (pairwise_rel_getLast kle_refl hsk hN q.1 hqk),
        kle_trans (pairwise_head_rel kle_refl hsk h0 q.1 hqk) hck.2⟩,
        Int.le_trans hrange.1 (hqhi ▸ h2), Int.le_trans (hqlo ▸ h1) hrange.2⟩
    by_cases c : overlapsKeyRange r.ix k0 kN = true ∧ overlapsTimeRange r.ix lo hi = true
    · exact ⟨keys, by simp [c.1, c.2], fun _ hk => hk, fun q hq _ => (mem_reqs.mp hq).1⟩
    · refine ⟨[], ?_, fun _ hk => absurd hk List.not_mem_nil, fun q hq hmq => absurd (hm q hq hmq) c⟩
      by_cases c1 : overlapsKeyRange r.ix k0 kN = true
      · have c2 : ¬ overlapsTimeRange r.ix lo hi = true := fun c2 => c ⟨c1, c2⟩
        simp [c1, c2]; rfl
      · simp [c1]; rfl

theorem flush_inv {file file' : TFile} {r r' : Reader} {Req : Hist} (h : RInv file r Req)
    {ks keys : List Key} {lo hi : Int}
    (hks : ∀ k ∈ ks, k ∈ keys) (hm : ∀ q ∈ reqs keys lo hi, matters r.ix.all q → q.1 ∈ ks)
    {ms : List (List Tombstone)} (hms : ms.flatten = (ks.filter (containsKey r.ix)).map fun k => ⟨k, lo, hi⟩)
    (hfile : file'.getD [] = file.getD [] ++ ms) (hall : r'.ix.all = r.ix.all)
    (hts : r'.ts.pending = none ∧ r'.ts.lastApplied ≤ (file'.getD []).length)
    (hidx : ∀ H, TInv r.ix H → ∃ H', TInv r'.ix H' ∧ (∀ q ∈ H', q ∈ H ∨ q ∈ fileReqs file' ∨ q ∈ reqs keys lo hi) ∧
      (∀ q ∈ H, q ∈ H') ∧ (∀ q ∈ reqs (ks.filter (containsKey r.ix)) lo hi, q ∈ H')) :
    RInv file' r' (Req ++ reqs keys lo hi) ∧ r'.ix.all = r.ix.all := by
  obtain ⟨H, hT, _, _⟩ := h.idx
  refine RInv_step (R := reqs (ks.filter (containsKey r.ix)) lo hi) h hall hts.1 hts.2 (fun q => ?_)
    (fun q hq => ?_) (fun q hq hmq => ?_) hidx
  · rw [fileReqs, fileTombs, hfile, List.flatten_append, hms, List.map_append, map_toReq, List.mem_append]
    rfl
  · obtain ⟨h1, h23⟩ := mem_reqs.mp hq
    exact mem_reqs.mpr ⟨hks _ (List.mem_filter.mp h1).1, h23⟩
  · have ⟨ke, hke, hkk, _⟩ := hmq
    exact mem_reqs.mpr ⟨List.mem_filter.mpr ⟨hm q hq hmq, hkk ▸ containsKey_all hT.inv hke⟩, (mem_reqs.mp hq).2⟩

theorem rDeleteRange_inv (file : TFile) (r : Reader) (Req : Hist) (h : RInv file r Req) (keys : List Key)
    (hsk : SortedK keys) (lo hi : Int) :
    RInv (rDeleteRange file r keys lo hi).1 (rDeleteRange file r keys lo hi).2 (Req ++ reqs keys lo hi) ∧
    (rDeleteRange file r keys lo hi).2.ix.all = r.ix.all := by
  unfold rDeleteRange
  by_cases hk : keys.isEmpty = true
  · rw [if_pos hk, List.isEmpty_iff.mp hk]; simpa [reqs] using h
  rw [if_neg hk]
  obtain ⟨H, hT, _, _⟩ := h.idx
  obtain ⟨ks, e, hks, hm⟩ := bdRange_spec file r H hT keys hsk lo hi
  obtain ⟨ms, hms, hfile, hpn, hla⟩ := tFlush_tAddRange file r.ts (containsKey r.ix) ks lo hi h.nopend
  rw [e]
  unfold bdCommit
  dsimp only
  rw [applyTombstones_eq]
  dsimp only
  -- the walk after the commit: a part of the new file that contains the member just written
  obtain ⟨w1, w2, w3⟩ := tWalk_spec (tFlush file (tAddRange file r.ts (some (containsKey r.ix)) ks lo hi)).1
    (tFlush file (tAddRange file r.ts (some (containsKey r.ix)) ks lo hi)).2
  rw [hfile, hla, List.drop_append_of_le_length h.applied, List.flatten_append, hms] at w1
  refine flush_inv h hks hm hms hfile (applyWalked_inv r.ix H hT _).2
    ⟨w2.trans hpn, w3 (by rw [hla, hfile, List.length_append]; exact Nat.le_add_right_of_le h.applied)⟩
    (fun H hT => ⟨_, (applyWalked_inv r.ix H hT _).1, fun q hq => ?_, fun q hq => List.mem_append_left _ hq,
      fun q hq => List.mem_append_right _ ?_⟩)
  · refine (List.mem_append.mp hq).imp_right fun hq => Or.inl ?_
    rw [w1] at hq
    simp only [fileReqs, fileTombs, hfile, List.flatten_append, hms]
    obtain ⟨t, ht, rfl⟩ := List.mem_map.mp hq
    refine List.mem_map_of_mem (List.mem_append.mpr ((List.mem_append.mp ht).imp_left fun ht => ?_))
    obtain ⟨m, hm, htm⟩ := List.mem_flatten.mp ht
    exact List.mem_flatten.mpr ⟨m, List.mem_of_mem_drop hm, htm⟩
  · rw [w1, List.map_append, map_toReq]
    exact List.mem_append_right _ hq

theorem rDelete_inv (file : TFile) (r : Reader) (Req : Hist) (h : RInv file r Req) (keys : List Key) :
    RInv (rDelete file r keys).1 (rDelete file r keys).2 (Req ++ reqs keys minInt64 maxInt64) ∧
    (rDelete file r keys).2.ix.all = r.ix.all := by
  obtain ⟨ms, hms, hfile, hpn, hla⟩ := tFlush_tAddRange file r.ts (containsKey r.ix) keys minInt64 maxInt64 h.nopend
  unfold rDelete
  exact flush_inv h (fun _ hk => hk) (fun q hq _ => (mem_reqs.mp hq).1) hms hfile (delete_fields r.ix keys).2.1
    ⟨hpn, by rw [hla, hfile, List.length_append]; exact Nat.le_add_right_of_le h.applied⟩
    (fun H hT => ⟨_, TInv_delete r.ix H hT keys, fun q hq => (List.mem_append.mp hq).imp_right fun hq => Or.inr hq,
      fun q hq => List.mem_append_left _ hq, fun q hq => List.mem_append_right _
        (mem_reqs.mpr ⟨(List.mem_filter.mp (mem_reqs.mp hq).1).1, (mem_reqs.mp hq).2⟩)⟩)

end Influx.Tsm
