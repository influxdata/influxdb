/-
  Lemmas.FluxTableCompose — "group by window" of Spec.C20 (what the storage cursor is proved to
  return) restated over the window indices of Spec.C41.
-/
import Influx.Lemmas.FluxTable
import Influx.Lemmas.WindowAggSpec

namespace Influx.FluxTable
open Influx.WindowAgg Influx.Spec.C41

/-- the C20 window function of the request -/
def stopFn (q : Req) : Int → Int := (Spec.C20.W.every q.every q.offset).stopOf

theorem stopFn_eq (q : Req) (t : Int) : stopFn q t = q.offset + (widx q t + 1) * q.every := rfl

theorem stopFn_beq (q : Req) (h : 0 < q.every) (t u : Int) :
    (stopFn q t == stopFn q u) = (widx q t == widx q u) := by
  rw [stopFn_eq, stopFn_eq]
  by_cases hw : widx q t = widx q u
  · rw [hw, beq_self_eq_true, beq_self_eq_true]
  · have : ¬ (q.offset + (widx q t + 1) * q.every = q.offset + (widx q u + 1) * q.every) := by
      intro he
      have : (widx q t + 1) * q.every = (widx q u + 1) * q.every := by omega
      have := Int.eq_of_mul_eq_mul_right (by omega : q.every ≠ 0) this
      omega
    rw [beq_eq_false_iff_ne.mpr this, beq_eq_false_iff_ne.mpr hw]

/-- the aggregate of window `i` over the points `l` -/
def rowOfIn (o : Ops Val) (q : Req) (l : List (Pt Val)) (i : Int) : Option (Pt Val) :=
  Spec.C20.aggregate o q.agg (q.offset + (i + 1) * q.every) (l.filter fun x => widx q x.1 == i)

theorem mem_distinctIdx (q : Req) : ∀ (pts : List (Pt Val)) (i : Int),
    i ∈ distinctIdx q pts ↔ ∃ x ∈ pts, widx q x.1 = i := by
  intro pts
  fun_induction distinctIdx q pts with
  | case1 => intro i; simp
  | case2 p ps ih =>
    intro i
    simp only [List.mem_cons, ih, List.mem_filter, Bool.not_eq_eq_eq_not, Bool.not_true, beq_eq_false_iff_ne, ne_eq]
    constructor
    · rintro (rfl | ⟨x, ⟨hx, _⟩, rfl⟩)
      · exact ⟨p, Or.inl rfl, rfl⟩
      · exact ⟨x, Or.inr hx, rfl⟩
    · rintro ⟨x, (rfl | hx), rfl⟩
      · exact Or.inl rfl
      · by_cases he : widx q x.1 = widx q p.1
        · exact Or.inl he
        · exact Or.inr ⟨x, ⟨hx, he⟩, rfl⟩

theorem filterMap_cons_toList {β γ : Type} (f : β → Option γ) (x : β) (xs : List β) :
    (x :: xs).filterMap f = (f x).toList ++ xs.filterMap f := by
  cases h : f x <;> simp [h]

theorem filterMap_congr' {β γ : Type} (f g : β → Option γ) (l : List β) (h : ∀ x ∈ l, f x = g x) :
    l.filterMap f = l.filterMap g := by
  induction l with
  | nil => rfl
  | cons x xs ih =>
    rw [filterMap_cons_toList, filterMap_cons_toList, h x (by simp), ih (fun y hy => h y (by simp [hy]))]

theorem aggSpec_windows (o : Ops Val) (q : Req) (h : 0 < q.every) :
    ∀ pts : List (Pt Val),
    Spec.C20.aggSpec o q.agg (stopFn q) pts = (distinctIdx q pts).filterMap (rowOfIn o q pts) := by
  intro pts
  fun_induction Spec.C20.aggSpec o q.agg (stopFn q) pts with
  | case1 => simp [distinctIdx]
  | case2 p ps s ih =>
    rw [distinctIdx, filterMap_cons_toList]
    have hf1 : ps.filter (fun x => stopFn q x.1 == s) = ps.filter (fun x => widx q x.1 == widx q p.1) :=
      List.filter_congr (fun x _ => stopFn_beq q h x.1 p.1)
    have hf2 : ps.filter (fun x => !(stopFn q x.1 == s)) = ps.filter (fun x => !(widx q x.1 == widx q p.1)) :=
      List.filter_congr (fun x _ => by rw [show s = stopFn q p.1 from rfl, stopFn_beq q h])
    rw [hf2] at ih
    rw [hf1, hf2, ih]
    congr 1
    · simp only [rowOfIn, List.filter_cons, beq_self_eq_true, ↓reduceIte]
      rfl
    · apply filterMap_congr'
      intro i hi
      obtain ⟨x, hx, hxi⟩ := (mem_distinctIdx q _ i).mp hi
      have hne : ¬ widx q p.1 = i := by
        have := (List.mem_filter.mp hx).2
        simp at this
        rw [← hxi]; exact fun he => this he.symm
      simp only [rowOfIn]
      congr 1
      simp only [List.filter_cons, beq_iff_eq, hne, ↓reduceIte, List.filter_filter]
      apply List.filter_congr
      intro y _
      by_cases hy : widx q y.1 = i
      · simp [hy]; exact fun he => hne he.symm
      · simp [hy]

theorem distinctIdx_ascending (q : Req) (h : 0 < q.every) :
    ∀ pts : List (Pt Val), Sorted pts → (distinctIdx q pts).Pairwise (· < ·) := by
  intro pts
  fun_induction distinctIdx q pts with
  | case1 => intro _; exact List.Pairwise.nil
  | case2 p ps ih =>
    intro hs
    unfold Sorted at hs
    rw [List.pairwise_cons] at hs
    rw [List.pairwise_cons]
    refine ⟨?_, ih (hs.2.sublist List.filter_sublist)⟩
    intro i hi
    obtain ⟨x, hx, rfl⟩ := (mem_distinctIdx q _ i).mp hi
    have hm := List.mem_filter.mp hx
    have hle := widx_mono q h (hs.1 x hm.1)
    have hne : ¬ widx q x.1 = widx q p.1 := by simpa using hm.2
    omega

end Influx.FluxTable

namespace Influx.FluxTable
open Influx.WindowAgg Influx.Spec.C41

def members (q : Req) (pts : List (Pt Val)) (i : Int) : List (Pt Val) := pts.filter fun x => widx q x.1 == i

/-- value of a non-selector aggregate over a non-empty group -/
def aggVal (o : Ops Val) (agg : Agg) (l : List (Pt Val)) : Val :=
  match agg with
  | .count => o.ofCount l.length
  | .mean => o.mean (l.foldl (fun a x => o.add a x.2) o.zero) l.length
  | _ => l.foldl (fun a x => o.add a x.2) o.zero

theorem aggregate_nonsel (o : Ops Val) (agg : Agg) (hns : isSelector agg = false) (s : Int) (p : Pt Val) (ps : List (Pt Val)) :
    Spec.C20.aggregate o agg s (p :: ps) = some (s, aggVal o agg (p :: ps)) := by
  cases agg <;> simp_all [isSelector, Spec.C20.aggregate, aggVal]

theorem members_nonempty (q : Req) (pts : List (Pt Val)) (i : Int) (hi : i ∈ distinctIdx q pts) :
    members q pts i ≠ [] := by
  obtain ⟨x, hx, hxi⟩ := (mem_distinctIdx q pts i).mp hi
  intro he
  have : x ∈ members q pts i := List.mem_filter.mpr ⟨hx, by simp [hxi]⟩
  rw [he] at this; cases this

theorem members_empty (q : Req) (pts : List (Pt Val)) (i : Int) (hi : i ∉ distinctIdx q pts) :
    members q pts i = [] := by
  rw [members, List.filter_eq_nil_iff]
  intro x hx hxi
  exact hi ((mem_distinctIdx q pts i).mpr ⟨x, hx, by simpa using hxi⟩)

theorem out_nonsel (o : Ops Val) (q : Req) (h : 0 < q.every) (hns : isSelector q.agg = false) (pts : List (Pt Val)) :
    Spec.C20.aggSpec o q.agg (stopFn q) pts =
      (distinctIdx q pts).map fun i => (q.offset + (i + 1) * q.every, aggVal o q.agg (members q pts i)) := by
  rw [aggSpec_windows o q h]
  have : ∀ i ∈ distinctIdx q pts, rowOfIn o q pts i = some (q.offset + (i + 1) * q.every, aggVal o q.agg (members q pts i)) := by
    intro i hi
    have hne := members_nonempty q pts i hi
    unfold rowOfIn
    cases hm : members q pts i with
    | nil => exact absurd hm hne
    | cons x xs =>
      have : (pts.filter fun x => widx q x.1 == i) = x :: xs := hm
      rw [this, aggregate_nonsel o q.agg hns]
  generalize distinctIdx q pts = W at *
  induction W with
  | nil => rfl
  | cons i is ih =>
    rw [filterMap_cons_toList, this i (by simp), ih (fun j hj => this j (by simp [hj]))]
    rfl

theorem valueAt_out (q : Req) (h : 0 < q.every) (f : Int → Val) :
    ∀ (W : List Int) (k : Int),
    valueAt q true (W.map fun i => (q.offset + (i + 1) * q.every, f i)) k = if k ∈ W then some (f k) else none := by
  intro W
  induction W with
  | nil => intro k; simp [valueAt]
  | cons i is ih =>
    intro k
    have hi := ih k
    simp only [valueAt, List.map_cons, List.find?_cons, pointWin_stop q h] at hi ⊢
    by_cases hik : i = k
    · subst hik; simp
    · have : (i == k) = false := by simpa using hik
      simp only [this]
      rw [hi]
      have hk : (k = i) = False := by simp; exact fun he => hik he.symm
      simp [List.mem_cons, hk]

end Influx.FluxTable
