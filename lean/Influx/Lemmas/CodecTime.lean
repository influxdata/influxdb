/-
  Lemmas.CodecTime — the timestamp codec (scalar streaming encoder and batch encoder) decodes what it encodes,
  into at most 30 + 8 n bytes for n timestamps (so the length of the section fits the uvarint of the block framing).
-/
import Influx.Lemmas.CodecInt
namespace Influx.Codec
open Influx.Generated.Codec

/-- the header byte: encoding type in the high nibble, the exponent of the divisor in the low one -/
theorem hdr_div (e k : Nat) (hk : k < 16) : (e * 16 + k) / 16 = e := by
  rw [Nat.add_comm, Nat.add_mul_div_right _ _ (by decide), Nat.div_eq_of_lt hk, Nat.zero_add]

theorem hdr_mod (e k : Nat) (hk : k < 16) : (e * 16 + k) % 16 = k := by
  rw [Nat.add_comm, Nat.add_mul_mod_self_right, Nat.mod_eq_of_lt hk]

theorem timeDecode_rle_fmt (k first q n : Nat) (hk : k < 16) (hf : first < W) (hq : q < W) (hn : n < W) :
    timeDecode ((timeCompressedRLE * 16 + k) :: (putU64 first ++ putUvarint q ++ putUvarint n)) =
      some (rleTimes first (q * 10 ^ k % W) n) := by
  have hcnt := getUvarint_put n hn []
  rw [List.append_nil] at hcnt
  simp only [timeDecode, hdr_div _ k hk, hdr_mod _ k hk, (by decide : ¬ timeCompressedRLE = timeUncompressed),
    (by decide : ¬ timeCompressedRLE = timeCompressedPackedSimple), if_false, if_true, List.append_assoc,
    getU64_putU64 _ hf, getUvarint_put _ hq, hcnt]

theorem timeDecode_raw_fmt (w : Nat) (rest : List Nat) (h : ∀ x ∈ w :: rest, x < W) :
    timeDecode ((timeUncompressed * 16) :: (w :: rest).flatMap putU64) = some (w :: unTsDeltas 1 w rest) := by
  simp only [timeDecode, (by decide : timeUncompressed * 16 / 16 = timeUncompressed), if_true,
    words_flatMap_putU64 _ h]

theorem timeDecode_packed_fmt (k first : Nat) (ws : List Nat) (hk : k < 16) (hf : first < W) (h : ∀ w ∈ ws, w < W) :
    timeDecode ((timeCompressedPackedSimple * 16 + k) :: (putU64 first ++ wordsToBytes ws)) =
      some (first :: unTsDeltas (10 ^ k) first (decodeWords ws)) := by
  simp only [timeDecode, hdr_div _ k hk, hdr_mod _ k hk, (by decide : ¬ timeCompressedPackedSimple = timeUncompressed),
    if_false, if_true, getU64_putU64 _ hf, words_wordsToBytes ws h]

theorem unTs_div (div last : Nat) (ds : List Nat) (hdiv : ∀ d ∈ ds, div ∣ d) :
    unTsDeltas div last (ds.map (· / div)) = unTsDeltas 1 last ds := by
  induction ds generalizing last with
  | nil => rfl
  | cons d ds ih =>
    obtain ⟨hd, hds⟩ := List.forall_mem_cons.mp hdiv
    simp only [List.map_cons, unTsDeltas]
    rw [Nat.div_mul_cancel hd, Nat.mul_one, ih _ hds]

theorem reduceDiv_spec (v : Nat) : ∀ k, ∃ k', k' ≤ k ∧ reduceDiv (10 ^ k) v = 10 ^ k' ∧ 10 ^ k' ∣ v := by
  intro k
  induction k with
  | zero => exact ⟨0, Nat.le_refl 0, by rw [reduceDiv, dif_neg (fun h => absurd h.1 (by decide))], Nat.one_dvd v⟩
  | succ k ih =>
    by_cases hc : v % 10 ^ (k + 1) = 0
    · exact ⟨k + 1, Nat.le_refl _, by rw [reduceDiv, dif_neg (fun h => h.2 hc)], Nat.dvd_of_mod_eq_zero hc⟩
    · obtain ⟨k', h1, h2, h3⟩ := ih
      refine ⟨k', Nat.le_succ_of_le h1, ?_, h3⟩
      rw [reduceDiv, dif_pos ⟨Nat.one_lt_pow (Nat.succ_ne_zero k) (by decide), hc⟩, Nat.pow_succ,
        Nat.mul_div_cancel _ (by decide), h2]

theorem foldl_reduceDiv_spec (ds : List Nat) :
    ∀ k, ∃ k', k' ≤ k ∧ ds.foldl reduceDiv (10 ^ k) = 10 ^ k' ∧ ∀ d ∈ ds, 10 ^ k' ∣ d := by
  induction ds with
  | nil => intro k; exact ⟨k, Nat.le_refl _, rfl, nofun⟩
  | cons d ds ih =>
    intro k
    obtain ⟨k1, h1, h2, h3⟩ := reduceDiv_spec d k
    obtain ⟨k2, g1, g2, g3⟩ := ih k1
    exact ⟨k2, Nat.le_trans g1 h1, by rw [List.foldl_cons, h2, g2],
      List.forall_mem_cons.mpr ⟨Nat.dvd_trans (Nat.pow_dvd_pow 10 g1) h3, g3⟩⟩

theorem log10_pow (k : Nat) : log10 (10 ^ k) = k := by
  induction k with
  | zero => rw [log10, dif_neg (by decide)]
  | succ k ih =>
    have hge : 10 ^ (k + 1) ≥ 10 := by rw [Nat.pow_succ]; exact Nat.le_mul_of_pos_left _ (Nat.pow_pos (by decide))
    rw [log10, dif_pos hge, Nat.pow_succ, Nat.mul_div_cancel _ (by decide), ih]

theorem e12 : (1000000000000 : Nat) = 10 ^ 12 := by decide

theorem listMax_le (l : List Nat) : ∀ (init : Nat), init ≤ l.foldl max init ∧ ∀ x ∈ l, x ≤ l.foldl max init := by
  induction l with
  | nil => intro init; exact ⟨Nat.le_refl _, nofun⟩
  | cons a l ih =>
    intro init
    obtain ⟨h1, h2⟩ := ih (max init a)
    exact ⟨Nat.le_trans (Nat.le_max_left _ _) h1, List.forall_mem_cons.mpr ⟨Nat.le_trans (Nat.le_max_right _ _) h1, h2⟩⟩

/-! ### each layout decodes back and is short; the scalar and the batch encoder only differ in which one they pick -/

theorem allEqTail'_eq (l : List Nat) : allEqTail' l = allEqTail l := by
  unfold allEqTail' allEqTail; rfl

theorem wordsToBytes_length (ws : List Nat) : (wordsToBytes ws).length = 8 * ws.length := flatMap_putU64_length ws

theorem tsDeltas_length (ts : List Nat) : (tsDeltas ts).length = ts.length := by
  cases ts with
  | nil => rfl
  | cons t rest => exact congrArg (· + 1) (tsGo_length t rest)

theorem map_div_if_length (c : Prop) [Decidable c] (ds : List Nat) (k : Nat) :
    (if c then ds.map (· / k) else ds).length = ds.length := by split <;> simp

theorem time_rle_case (t0 : Nat) (rest : List Nat) (d1 : Nat) (ds' : List Nat) (k : Nat)
    (ht0 : t0 < W) (hrest : ∀ x ∈ rest, x < W) (hlen : rest.length + 1 < W)
    (hds : tsDeltas.go t0 rest = d1 :: ds') (hk : k ≤ 12) (hdvd : 10 ^ k ∣ d1)
    (hrle : allEqTail' (t0 :: d1 :: ds') = true) :
    timeDecode (timeRleBytes t0 d1 (10 ^ k) ((d1 :: ds').length + 1)) = some (t0 :: rest) ∧
    (timeRleBytes t0 d1 (10 ^ k) ((d1 :: ds').length + 1)).length ≤ 30 + 8 * (rest.length + 1) := by
  have hdW : d1 < W := tsGo_lt t0 rest d1 (by rw [hds]; exact List.mem_cons_self)
  have hqW : d1 / 10 ^ k < W := Nat.lt_of_le_of_lt (Nat.div_le_self _ _) hdW
  have hl : (d1 :: ds').length = rest.length := by rw [← hds, tsGo_length]
  rw [allEqTail'_eq] at hrle
  rw [hl]
  unfold timeRleBytes
  constructor
  · rw [log10_pow, timeDecode_rle_fmt k t0 _ _ (Nat.lt_succ_of_le (Nat.le_trans hk (by decide))) ht0 hqW hlen,
      Nat.div_mul_cancel hdvd, Nat.mod_eq_of_lt hdW, rleTimes,
      rleTimes_go d1 rest t0 ht0 hrest (by rw [hds]; exact allEqTail_spec _ _ _ hrle)]
  · -- 1 + 8 + 10 + 10 bytes at most
    simp only [List.length_cons, List.length_append, putU64_length]
    exact Nat.le_trans (Nat.succ_le_succ (Nat.add_le_add (Nat.add_le_add_left (putUvarint_length _ hqW) 8)
      (putUvarint_length _ hlen))) (Nat.le_trans (by decide : 29 ≤ 30) (Nat.le_add_right 30 _))

theorem time_raw_case (t0 : Nat) (rest : List Nat) (ht0 : t0 < W) (hrest : ∀ x ∈ rest, x < W) :
    timeDecode (timeRawBytes (t0 :: tsDeltas.go t0 rest)) = some (t0 :: rest) ∧
    (timeRawBytes (t0 :: tsDeltas.go t0 rest)).length ≤ 30 + 8 * (rest.length + 1) := by
  unfold timeRawBytes
  constructor
  · rw [timeDecode_raw_fmt t0 _ (List.forall_mem_cons.mpr ⟨ht0, tsGo_lt t0 rest⟩), unTs_go t0 rest ht0 hrest]
  · rw [List.length_cons, flatMap_putU64_length, List.length_cons, tsGo_length, Nat.add_comm]
    exact Nat.add_le_add_right (by decide : 1 ≤ 30) _

theorem time_packed_case (t0 : Nat) (rest ws : List Nat) (k : Nat) (ht0 : t0 < W) (hrest : ∀ x ∈ rest, x < W)
    (hk : k ≤ 12) (hdvd : ∀ d ∈ tsDeltas.go t0 rest, 10 ^ k ∣ d)
    (hp : Packs ws (if 10 ^ k > 1 then (tsDeltas.go t0 rest).map (· / 10 ^ k) else tsDeltas.go t0 rest)) :
    timeDecode (timePackedBytes (10 ^ k) t0 ws) = some (t0 :: rest) ∧
    (timePackedBytes (10 ^ k) t0 ws).length ≤ 30 + 8 * (rest.length + 1) := by
  obtain ⟨hdec, hws, hwl, _⟩ := hp
  unfold timePackedBytes
  constructor
  · rw [log10_pow, timeDecode_packed_fmt k t0 ws (Nat.lt_succ_of_le (Nat.le_trans hk (by decide))) ht0 hws, hdec]
    split
    · rw [unTs_div _ _ _ hdvd, unTs_go t0 rest ht0 hrest]
    · next h1 =>
      rw [Nat.le_antisymm (Nat.le_of_not_lt h1) (Nat.pow_pos (by decide)), unTs_go t0 rest ht0 hrest]
  · rw [map_div_if_length, tsGo_length] at hwl
    simp only [List.length_cons, List.length_append, putU64_length, wordsToBytes_length]
    exact Nat.le_trans (Nat.succ_le_succ (Nat.add_le_add_left (Nat.mul_le_mul_left 8 hwl) 8))
      (Nat.add_le_add (Nat.add_le_add_right (by decide : 8 ≤ 30) _) (by decide : 1 ≤ 8))

theorem packed_vals_good (ds : List Nat) (k : Nat) (hmx : ¬ listMax ds > MaxValue) :
    ∀ v ∈ (if 10 ^ k > 1 then ds.map (· / 10 ^ k) else ds), v ≤ MaxValue := by
  have hle : ∀ d ∈ ds, d ≤ MaxValue := fun d hd => Nat.le_trans ((listMax_le ds 0).2 d hd) (Nat.le_of_not_lt hmx)
  split
  · intro v hv
    obtain ⟨d, hd, rfl⟩ := List.mem_map.mp hv
    exact Nat.le_trans (Nat.div_le_self _ _) (hle d hd)
  · exact hle

theorem timeEncodeS_roundtrip (ts : List Nat) (hv : ∀ v ∈ ts, v < W) (hlen : ts.length < W) :
    ∃ b, timeEncodeS ts = some b ∧ timeDecode b = some ts ∧ b.length ≤ 30 + 8 * ts.length := by
  cases ts with
  | nil => exact ⟨[], rfl, rfl, Nat.zero_le _⟩
  | cons t0 rest =>
    obtain ⟨ht0, hrest⟩ := List.forall_mem_cons.mp hv
    unfold timeEncodeS
    rw [show tsDeltas (t0 :: rest) = t0 :: tsDeltas.go t0 rest from rfl]
    simp only
    -- reduce(): the divisor is a power of ten that divides every delta
    obtain ⟨k, hk, hdiv, hdvd⟩ := foldl_reduceDiv_spec (tsDeltas.go t0 rest).reverse 12
    rw [e12, hdiv]
    have hdvd' : ∀ d ∈ tsDeltas.go t0 rest, 10 ^ k ∣ d := fun d hd => hdvd d (List.mem_reverse.mpr hd)
    cases hds : tsDeltas.go t0 rest with
    | nil => exact ⟨_, rfl, time_packed_case t0 rest [] k ht0 hrest hk hdvd' (by rw [hds, List.map_nil, ite_self]; exact Packs.nil)⟩
    | cons d1 ds' =>
      simp only
      by_cases hrle : allEqTail' (t0 :: d1 :: ds') = true
      · rw [if_pos hrle]
        exact ⟨_, rfl, time_rle_case t0 rest d1 ds' k ht0 hrest hlen hds hk
          (hdvd' d1 (by rw [hds]; exact List.mem_cons_self)) hrle⟩
      · rw [if_neg hrle]
        by_cases hmx : listMax (d1 :: ds') > MaxValue
        · rw [if_pos hmx]
          exact ⟨_, rfl, hds ▸ time_raw_case t0 rest ht0 hrest⟩
        · rw [if_neg hmx]
          obtain ⟨ws, e1, hp⟩ := (encodeStream_encodes _).ok (packed_vals_good (d1 :: ds') k hmx)
          rw [e1]
          exact ⟨_, rfl, time_packed_case t0 rest ws k ht0 hrest hk hdvd' (by rw [hds]; exact hp)⟩

theorem timeEncodeB_roundtrip (ts : List Nat) (hv : ∀ v ∈ ts, v < W) (hlen : ts.length < W) :
    ∃ b, timeEncodeB ts = some b ∧ timeDecode b = some ts ∧ b.length ≤ 30 + 8 * ts.length := by
  cases ts with
  | nil => exact ⟨[], rfl, rfl, Nat.zero_le _⟩
  | cons t0 rest =>
    obtain ⟨ht0, hrest⟩ := List.forall_mem_cons.mp hv
    unfold timeEncodeB
    rw [show tsDeltas (t0 :: rest) = t0 :: tsDeltas.go t0 rest from rfl]
    simp only
    cases hds : tsDeltas.go t0 rest with
    | nil =>
      simp only [show encodeAllI 0 [] = some [] from rfl]
      rw [e12]
      exact ⟨_, rfl, time_packed_case t0 rest [] 12 ht0 hrest (Nat.le_refl _) (by rw [hds]; nofun)
        (by rw [hds, List.map_nil, ite_self]; exact Packs.nil)⟩
    | cons d1 ds' =>
      simp only
      by_cases hrle : allEqTail' (t0 :: d1 :: ds') = true
      · obtain ⟨k, hk, hdiv, hdvd⟩ := reduceDiv_spec d1 12
        rw [if_pos hrle, e12, hdiv]
        exact ⟨_, rfl, time_rle_case t0 rest d1 ds' k ht0 hrest hlen hds hk hdvd hrle⟩
      · rw [if_neg hrle]
        by_cases hmx : listMax (d1 :: ds') > MaxValue
        · rw [if_pos hmx]
          exact ⟨_, rfl, hds ▸ time_raw_case t0 rest ht0 hrest⟩
        · obtain ⟨k, hk, hdiv, hdvd⟩ := foldl_reduceDiv_spec (d1 :: ds') 12
          rw [if_neg hmx, e12, hdiv]
          obtain ⟨ws, e1, hp⟩ := (encodeAllI_encodes (d1 :: ds').length _ (Nat.le_of_eq (map_div_if_length _ _ _))).ok
            (packed_vals_good (d1 :: ds') k hmx)
          rw [e1]
          exact ⟨_, rfl, time_packed_case t0 rest ws k ht0 hrest hk (by rw [hds]; exact hdvd) (by rw [hds]; exact hp)⟩

end Influx.Codec
