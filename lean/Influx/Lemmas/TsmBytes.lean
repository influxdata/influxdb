/-
  Lemmas.TsmBytes — big-endian round trips, int64 two's complement round trip,
  `bytes.Compare` (`kcmp`) is the lexicographic order of lists, hence a linear order,
  and what an insertion sort of the model's shape does to any list.
-/
import Influx.Model.TsmBytes

namespace Influx.Tsm

theorem unbe_foldl (bs : Bytes) (a : Nat) :
    bs.foldl (fun a b => a * 256 + b) a = a * 256 ^ bs.length + unbe bs := by
  induction bs generalizing a with
  | nil => simp [unbe]
  | cons b bs ih =>
    simp only [List.foldl_cons, List.length_cons, unbe]
    rw [ih, ih (0 * 256 + b)]
    simp [Nat.pow_succ, Nat.add_mul, Nat.mul_assoc, Nat.mul_comm 256, Nat.add_assoc]

@[simp] theorem be_length (n v : Nat) : (be n v).length = n := by
  induction n with
  | zero => rfl
  | succ n ih => simp [be, ih]

theorem unbe_be (n v : Nat) : unbe (be n v) = v % 256 ^ n := by
  induction n with
  | zero => simp [be, unbe, Nat.mod_one]
  | succ n ih =>
    simp only [be, unbe, List.foldl_cons]
    rw [unbe_foldl, ih, be_length]
    simp only [Nat.zero_mul, Nat.zero_add]
    rw [Nat.pow_succ, Nat.mod_mul, Nat.add_comm, Nat.mul_comm]

theorem unbe_be_lt (n v : Nat) (h : v < 256 ^ n) : unbe (be n v) = v := by
  rw [unbe_be, Nat.mod_eq_of_lt h]

theorem unbe_take_be (n v : Nat) (rest : Bytes) (h : v < 256 ^ n) :
    unbe ((be n v ++ rest).take n) = v := by
  rw [List.take_left' (be_length n v), unbe_be_lt n v h]

theorem drop_be (n v : Nat) (rest : Bytes) : (be n v ++ rest).drop n = rest :=
  List.drop_left' (be_length n v)

theorem length_le_flatMap_length {α : Type} (f : α → Bytes) (hf : ∀ x, f x ≠ []) (l : List α) :
    l.length ≤ (l.flatMap f).length := by
  induction l with
  | nil => exact Nat.le_refl _
  | cons x l ih =>
    rw [List.flatMap_cons, List.length_append, List.length_cons, Nat.add_comm]
    exact Nat.add_le_add (List.length_pos_iff.mpr (hf x)) ih

theorem pairwise_head_rel {α : Type} {R : α → α → Prop} (hr : ∀ a, R a a) {l : List α} (h : l.Pairwise R)
    {a : α} (h0 : l.head? = some a) : ∀ x ∈ l, R a x := by
  cases l with
  | nil => cases h0
  | cons b l =>
    cases h0
    intro x hx
    rcases List.mem_cons.mp hx with rfl | hx
    · exact hr _
    · exact List.rel_of_pairwise_cons h hx

theorem pairwise_rel_getLast {α : Type} {R : α → α → Prop} (hr : ∀ a, R a a) {l : List α} (h : l.Pairwise R)
    {z : α} (hz : l.getLast? = some z) : ∀ x ∈ l, R x z := by
  obtain ⟨ys, rfl⟩ := List.getLast?_eq_some_iff.mp hz
  intro x hx
  rcases List.mem_append.mp hx with hx | hx
  · exact (List.pairwise_append.mp h).2.2 x hx z (List.mem_singleton_self z)
  · rw [List.mem_singleton.mp hx]; exact hr _

/-! Keys, time ranges, index entries and blocks are all sorted by folding an insertion
  `ins e (x :: xs) = if lt e x then e :: x :: xs else x :: ins e xs` over the list. -/

section InsertionSort
variable {α : Type} {ins : α → List α → List α} {lt : α → α → Prop} [DecidableRel lt]
  (hnil : ∀ e, ins e [] = [e])
  (hcons : ∀ e x xs, ins e (x :: xs) = if lt e x then e :: x :: xs else x :: ins e xs)
include hnil hcons

theorem mem_ins {e x : α} {l : List α} : x ∈ ins e l ↔ x = e ∨ x ∈ l := by
  induction l with
  | nil => rw [hnil, List.mem_singleton, or_iff_left List.not_mem_nil]
  | cons y ys ih =>
    rw [hcons]
    by_cases h : lt e y
    · rw [if_pos h]; exact List.mem_cons
    · rw [if_neg h, List.mem_cons, ih, List.mem_cons, or_left_comm]

theorem foldl_ins_spec {R : α → α → Prop} (h1 : ∀ a b, lt a b → R a b) (h2 : ∀ a b, ¬ lt a b → R b a)
    (ht : ∀ a b c, R a b → R b c → R a c) (l : List α) :
    ∀ acc : List α, acc.Pairwise R →
      (l.foldl (fun acc e => ins e acc) acc).Pairwise R ∧
      ∀ x, x ∈ l.foldl (fun acc e => ins e acc) acc ↔ x ∈ l ∨ x ∈ acc := by
  have step : ∀ (e : α) (acc : List α), acc.Pairwise R → (ins e acc).Pairwise R := by
    intro e acc h
    induction acc with
    | nil => rw [hnil]; exact List.pairwise_singleton _ _
    | cons y ys ih =>
      have hy := List.pairwise_cons.mp h
      rw [hcons]
      by_cases hk : lt e y
      · rw [if_pos hk]
        refine List.pairwise_cons.mpr ⟨fun z hz => ?_, h⟩
        rcases List.mem_cons.mp hz with rfl | hz
        · exact h1 _ _ hk
        · exact ht _ _ _ (h1 _ _ hk) (hy.1 z hz)
      · rw [if_neg hk]
        refine List.pairwise_cons.mpr ⟨fun z hz => ?_, ih hy.2⟩
        rcases (mem_ins hnil hcons).mp hz with rfl | hz
        · exact h2 _ _ hk
        · exact hy.1 z hz
  induction l with
  | nil => exact fun acc h => ⟨h, fun x => by rw [List.foldl_nil, or_iff_right List.not_mem_nil]⟩
  | cons e l ih =>
    intro acc h
    obtain ⟨s, m⟩ := ih (ins e acc) (step e acc h)
    refine ⟨s, fun x => ?_⟩
    rw [List.foldl_cons, m, mem_ins hnil hcons, List.mem_cons, or_left_comm, or_assoc]

theorem foldl_ins_sorted (l : List α) (h : l.Pairwise fun a b => ¬ lt b a) :
    l.foldl (fun acc e => ins e acc) [] = l := by
  have last : ∀ (acc : List α) (e : α), (∀ x ∈ acc, ¬ lt e x) → ins e acc = acc ++ [e] := by
    intro acc e hacc
    induction acc with
    | nil => exact hnil e
    | cons x xs ih =>
      rw [hcons, if_neg (hacc x List.mem_cons_self), ih fun y hy => hacc y (List.mem_cons_of_mem _ hy)]; rfl
  have : ∀ (l acc : List α), (acc ++ l).Pairwise (fun a b => ¬ lt b a) →
      l.foldl (fun acc e => ins e acc) acc = acc ++ l := by
    intro l
    induction l with
    | nil => intro acc _; exact (List.append_nil _).symm
    | cons e l ih =>
      intro acc hp
      rw [List.foldl_cons, last acc e fun x hx => (List.pairwise_append.mp hp).2.2 x hx e List.mem_cons_self,
        ih _ (by rwa [List.append_assoc]), List.append_assoc]; rfl
  exact this l [] h

end InsertionSort

theorem u64_lt (t : Int) : u64 t < 18446744073709551616 :=
  (Int.toNat_lt (Int.emod_nonneg _ (by decide))).mpr (Int.emod_lt_of_pos _ (by decide))

/-- a non-negative int64 is its own residue; a negative one is shifted up by `2^64` and
    read back from the upper half -/
theorem i64_u64 (t : Int) (h : inInt64 t) : i64 (u64 t) = t := by
  obtain ⟨h1, h2⟩ := h
  unfold minInt64 at h1; unfold maxInt64 at h2
  unfold i64 u64
  by_cases h0 : 0 ≤ t
  · have e : t % 18446744073709551616 = t := Int.emod_eq_of_lt h0 (Int.lt_of_le_of_lt h2 (by decide))
    rw [e, if_pos ((Int.toNat_lt h0).mpr (Int.lt_of_le_of_lt h2 (by decide))), Int.toNat_of_nonneg h0]
  · have e : t % 18446744073709551616 = t + 18446744073709551616 := by
      rw [← Int.add_emod_right, Int.emod_eq_of_lt (by omega) (by omega)]
    rw [e, if_neg (by omega), Int.toNat_of_nonneg (by omega), Int.add_sub_cancel]

theorem kcmp_refl (a : Key) : kcmp a a = .eq := by
  induction a with
  | nil => rfl
  | cons x xs ih => rw [kcmp, if_neg (Nat.lt_irrefl x), if_neg (Nat.lt_irrefl x), ih]

theorem kcmp_swap (a b : Key) : kcmp b a = (kcmp a b).swap := by
  induction a generalizing b with
  | nil => cases b <;> rfl
  | cons x xs ih =>
    cases b with
    | nil => rfl
    | cons y ys =>
      rw [kcmp, kcmp]
      by_cases h1 : x < y
      · rw [if_pos h1, if_neg (Nat.lt_asymm h1), if_pos h1]; rfl
      · by_cases h2 : y < x
        · rw [if_pos h2, if_neg h1, if_pos h2]; rfl
        · rw [if_neg h2, if_neg h1, if_neg h1, if_neg h2, ih]

/-- `bytes.Compare` is the lexicographic order of lists -/
theorem kcmp_lt_iff {a b : Key} : kcmp a b = .lt ↔ a < b := by
  induction a generalizing b with
  | nil => cases b <;> simp [kcmp]
  | cons x xs ih =>
    cases b with
    | nil => simp [kcmp]
    | cons y ys =>
      rw [kcmp, List.cons_lt_cons_iff, ← ih]
      by_cases h1 : x < y
      · simp only [h1, if_true, true_or]
      · by_cases h2 : y < x
        · simp only [h1, h2, if_true, if_false, false_or, Nat.ne_of_gt h2, false_and, reduceCtorEq]
        · obtain rfl : x = y := Nat.le_antisymm (Nat.le_of_not_lt h2) (Nat.le_of_not_lt h1)
          simp only [h1, if_false, false_or, true_and]

theorem klt_iff_lt {a b : Key} : klt a b = true ↔ a < b := by
  rw [klt, beq_iff_eq, kcmp_lt_iff]

theorem kle_iff_le {a b : Key} : kle a b = true ↔ a ≤ b := by
  rw [kle, bne_iff_ne, ← List.not_lt, ← kcmp_lt_iff, kcmp_swap a b]
  cases kcmp a b <;> decide

theorem kcmp_eq {a b : Key} (h : kcmp a b = .eq) : a = b :=
  List.le_antisymm (kle_iff_le.mp (by rw [kle, h]; rfl)) (kle_iff_le.mp (by rw [kle, kcmp_swap a b, h]; rfl))

theorem klt_iff {a b : Key} : klt a b = true ↔ kcmp a b = .lt := by simp [klt]
theorem kle_iff {a b : Key} : kle a b = true ↔ kcmp a b ≠ .gt := by simp [kle]

theorem klt_irrefl (a : Key) : klt a a = false :=
  Bool.eq_false_iff.mpr (mt klt_iff_lt.mp (List.lt_irrefl a))

theorem klt_trans {a b c : Key} (h1 : klt a b = true) (h2 : klt b c = true) : klt a c = true :=
  klt_iff_lt.mpr (List.lt_trans (klt_iff_lt.mp h1) (klt_iff_lt.mp h2))

theorem kle_of_klt {a b : Key} (h : klt a b = true) : kle a b = true :=
  kle_iff_le.mpr (List.le_of_lt (klt_iff_lt.mp h))

theorem not_klt_iff_kle {a b : Key} : klt a b = false ↔ kle b a = true := by
  rw [kle_iff_le, ← List.not_lt, ← klt_iff_lt, Bool.not_eq_true]

theorem kle_refl (a : Key) : kle a a = true := kle_iff_le.mpr (List.le_refl a)

theorem kle_antisymm {a b : Key} (h1 : kle a b = true) (h2 : kle b a = true) : a = b :=
  List.le_antisymm (kle_iff_le.mp h1) (kle_iff_le.mp h2)

theorem kle_iff_lt_or_eq {a b : Key} : kle a b = true ↔ klt a b = true ∨ a = b := by
  rw [kle_iff_le, klt_iff_lt, List.le_iff_lt_or_eq]

theorem kle_trans {a b c : Key} (h1 : kle a b = true) (h2 : kle b c = true) : kle a c = true :=
  kle_iff_le.mpr (List.le_trans (kle_iff_le.mp h1) (kle_iff_le.mp h2))

theorem klt_ne {a b : Key} (h : klt a b = true) : a ≠ b := by
  rintro rfl; rw [klt_irrefl] at h; cases h

end Influx.Tsm
