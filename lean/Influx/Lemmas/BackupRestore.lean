/-
  Lemmas.BackupRestore — what Restore / Import make of a Backup archive, file by
  file: the same blocks under the same (Restore) or fresh ascending (Import)
  names, without any tombstone.
-/
import Influx.Lemmas.BackupLookup

namespace Influx.Backup

/-- file-name order: (generation, sequence) lexicographic -/
def nameLt (a b : TFile) : Prop := a.gen < b.gen ∨ (a.gen = b.gen ∧ a.seq < b.seq)

/-- the FileStore keeps its files sorted by name, names distinct -/
def SortedFiles (fs : List TFile) : Prop := fs.Pairwise nameLt

/-- a restored / imported file: same blocks, no tombstone, written now -/
def strip (f : TFile) : TFile := { f with mtime := .fresh, tombs := [], tombM := none }

@[simp] theorem strip_gen (f : TFile) : (strip f).gen = f.gen := rfl
@[simp] theorem strip_seq (f : TFile) : (strip f).seq = f.seq := rfl
@[simp] theorem strip_blocks (f : TFile) : (strip f).blocks = f.blocks := rfl
@[simp] theorem strip_tombs (f : TFile) : (strip f).tombs = [] := rfl

theorem nameLt_strip_left {a b : TFile} : nameLt (strip a) b ↔ nameLt a b := Iff.rfl
theorem nameLt_strip_right {a b : TFile} : nameLt a (strip b) ↔ nameLt a b := Iff.rfl

def restoreFiles : List TFile → Archive → List TFile
  | fs, [] => fs
  | fs, .tomb _ _ :: rest => restoreFiles fs rest
  | fs, .tsm g q bs :: rest =>
    restoreFiles (insertFile { gen := g, seq := q, mtime := .fresh, blocks := bs, tombs := [], tombM := none } fs) rest

theorem restoreFiles_append (fs : List TFile) (a b : Archive) :
    restoreFiles fs (a ++ b) = restoreFiles (restoreFiles fs a) b := by
  induction a generalizing fs with
  | nil => rfl
  | cons e rest ih =>
    cases e with
    | tomb g q => simp [restoreFiles, ih]
    | tsm g q bs => simp [restoreFiles, ih]

theorem insertFile_last (f : TFile) (l : List TFile) (h : ∀ g ∈ l, nameLt g f) :
    insertFile f l = l ++ [f] := by
  induction l with
  | nil => rfl
  | cons g l ih =>
    have hg : nameLt g f := h g (by simp)
    have hl : ∀ x ∈ l, nameLt x f := fun x hx => h x (by simp [hx])
    unfold insertFile
    have h1 : ¬ (f.gen < g.gen ∨ (f.gen = g.gen ∧ f.seq < g.seq)) := by
      unfold nameLt at hg; omega
    have h2 : ¬ (f.gen = g.gen ∧ f.seq = g.seq) := by
      unfold nameLt at hg; omega
    simp only [Bool.or_eq_true, decide_eq_true_eq, Bool.and_eq_true, beq_iff_eq, h1, h2, if_false]
    rw [ih hl]; rfl

theorem backupEntries_cons (since : Option Int) (f : TFile) (rest : List TFile) :
    backupEntries since (f :: rest) =
      (match f.tombM with
        | some m => if m.after since then [Entry.tomb f.gen f.seq] else []
        | none => []) ++
      (if f.mtime.after since then [Entry.tsm f.gen f.seq f.blocks] else []) ++
      backupEntries since rest := rfl

theorem mem_backupEntries {since : Option Int} {fs : List TFile} {e : Entry} :
    e ∈ backupEntries since fs ↔ ∃ f ∈ fs,
      (e = Entry.tsm f.gen f.seq f.blocks ∧ f.mtime.after since = true) ∨
      (e = Entry.tomb f.gen f.seq ∧ ∃ m, f.tombM = some m ∧ m.after since = true) := by
  induction fs with
  | nil => simp [backupEntries]
  | cons g fs ih =>
    rw [backupEntries_cons, List.mem_append, ih]
    simp only [List.mem_cons, exists_eq_or_imp]
    refine or_congr ?_ Iff.rfl
    cases g.tombM <;> by_cases h : g.mtime.after since = true <;> simp [h, or_comm, and_comm]

/-- Restore of a full backup (since = zero time) of sorted files appends them all,
    stripped of their tombstones. -/
theorem restoreFiles_backup_none (acc fs : List TFile) (h : SortedFiles (acc ++ fs)) :
    restoreFiles acc (backupEntries none fs) = acc ++ fs.map strip := by
  induction fs generalizing acc with
  | nil => simp [backupEntries, restoreFiles]
  | cons f fs ih =>
    have hacc : ∀ g ∈ acc, nameLt g f := by
      intro g hg
      have := List.pairwise_append.mp h
      exact this.2.2 g hg f (by simp)
    have hsorted : SortedFiles ((acc ++ [strip f]) ++ fs) := by
      unfold SortedFiles at *
      rw [List.append_assoc]
      simp only [List.cons_append, List.nil_append]
      rw [List.pairwise_append] at h ⊢
      refine ⟨h.1, ?_, ?_⟩
      · have := h.2.1
        rw [List.pairwise_cons] at this ⊢
        exact ⟨fun x hx => this.1 x hx, this.2⟩
      · intro a ha b hb
        rcases List.mem_cons.mp hb with rfl | hb
        · exact h.2.2 a ha f (by simp)
        · exact h.2.2 a ha b (by simp [hb])
    have hstep : restoreFiles acc (backupEntries none (f :: fs)) =
        restoreFiles (insertFile (strip f) acc) (backupEntries none fs) := by
      rw [backupEntries_cons]
      cases hm : f.tombM <;> simp [MTime.after, restoreFiles, strip]
    rw [hstep, insertFile_last _ _ (by intro g hg; exact hacc g hg), ih _ hsorted]
    simp

theorem lookup_strip (f : TFile) (k : Key) (t : TS) : (strip f).lookup k t = f.lookupRaw k t := by
  simp [TFile.lookup, TFile.lookupRaw, TFile.tombstoned]

theorem filesLookup_map_strip (fs : List TFile) (k : Key) (t : TS) :
    filesLookup (fs.map strip) k t = filesLookupRaw fs k t := by
  induction fs with
  | nil => rfl
  | cons f fs ih => simp [filesLookup, filesLookupRaw, ih, lookup_strip]

theorem lookup_eq_raw_of_no_tombs (f : TFile) (h : f.tombs = []) (k : Key) (t : TS) :
    f.lookup k t = f.lookupRaw k t := by
  simp [TFile.lookup, TFile.lookupRaw, TFile.tombstoned, h]

theorem filesLookup_eq_raw_of_no_tombs (fs : List TFile) (h : ∀ f ∈ fs, f.tombs = []) (k : Key) (t : TS) :
    filesLookup fs k t = filesLookupRaw fs k t := by
  induction fs with
  | nil => rfl
  | cons f fs ih =>
    simp only [filesLookup, filesLookupRaw]
    rw [ih (fun g hg => h g (by simp [hg])), lookup_eq_raw_of_no_tombs f (h f (by simp))]

theorem mem_addSeries {ser ks : List Key} {k : Key} : k ∈ addSeries ser ks ↔ k ∈ ser ∨ k ∈ ks := by
  unfold addSeries
  induction ks generalizing ser with
  | nil => simp
  | cons a ks ih =>
    rw [List.foldl_cons, ih, List.mem_cons]
    split
    · next hc =>
      exact ⟨Or.imp_right Or.inr,
        fun h => h.elim Or.inl (·.elim (fun e => Or.inl (e ▸ List.contains_iff_mem.mp hc)) Or.inr)⟩
    · rw [mem_insertKey, or_assoc, or_left_comm]

def archiveBlocks : Archive → List (List Block)
  | [] => []
  | .tomb _ _ :: rest => archiveBlocks rest
  | .tsm _ _ bs :: rest => bs :: archiveBlocks rest

theorem archiveBlocks_append (x y : Archive) :
    archiveBlocks (x ++ y) = archiveBlocks x ++ archiveBlocks y := by
  induction x with
  | nil => rfl
  | cons e x ih => cases e <;> simp [archiveBlocks, ih]

/-- the series index after `Engine.overlay` has read these block lists: the keys of every file are added -/
def overlaySeries (ser : List Key) (bss : List (List Block)) : List Key :=
  bss.foldl (fun acc bs => addSeries acc (blocksKeys bs)) ser

theorem mem_overlaySeries {ser : List Key} {bss : List (List Block)} {k : Key} :
    k ∈ overlaySeries ser bss ↔ k ∈ ser ∨ ∃ bs ∈ bss, ∃ b ∈ bs, b.key = k := by
  unfold overlaySeries
  induction bss generalizing ser with
  | nil => simp
  | cons bs bss ih =>
    rw [List.foldl_cons, ih, mem_addSeries]
    simp [blocksKeys, mem_sortKeys, or_assoc]

theorem restore_spec (s : Shard) (a : Archive) : (s.restore a).files = restoreFiles s.files a ∧
    (s.restore a).cache = s.cache ∧ (s.restore a).series = overlaySeries s.series (archiveBlocks a) := by
  induction a generalizing s with
  | nil => exact ⟨rfl, rfl, rfl⟩
  | cons e rest ih =>
    cases e with
    | tomb g q => exact ih s
    | tsm g q bs => exact ih _

theorem importA_spec (s : Shard) (a : Archive) : (s.importA a).cache = s.cache ∧
    (s.importA a).files.map (·.blocks) = s.files.map (·.blocks) ++ archiveBlocks a ∧
    ((∀ f ∈ s.files, f.tombs = []) → ∀ f ∈ (s.importA a).files, f.tombs = []) ∧
    (s.importA a).series = overlaySeries s.series (archiveBlocks a) := by
  induction a generalizing s with
  | nil => exact ⟨rfl, (List.append_nil _).symm, id, rfl⟩
  | cons e rest ih =>
    cases e with
    | tomb g q => exact ih s
    | tsm g q bs =>
      obtain ⟨h1, h2, h3, h4⟩ := ih { s with
        files := s.files ++ [{ gen := s.nextGen, seq := 1, mtime := .fresh, blocks := bs, tombs := [], tombM := none }]
        nextGen := s.nextGen + 1, series := addSeries s.series (blocksKeys bs) }
      refine ⟨h1, h2.trans (by simp [archiveBlocks]), fun h => h3 fun f hf => ?_, h4⟩
      rcases List.mem_append.mp hf with hf | hf
      · exact h f hf
      · rw [List.mem_singleton.mp hf]

theorem archiveBlocks_backup_none (fs : List TFile) :
    archiveBlocks (backupEntries none fs) = fs.map (·.blocks) := by
  induction fs with
  | nil => rfl
  | cons f fs ih =>
    rw [backupEntries_cons]
    cases hm : f.tombM <;> simp [MTime.after, archiveBlocks, ih]

end Influx.Backup
