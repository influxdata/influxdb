/-
  Lemmas.SnowflakeF12 — DESIGN §6 F12 worked out on `Model.Snowflake`: an explicit interleaving in
  which the 100-try fallback `AddUint64` carries out of a full sequence field and `Next` repeats an id.
-/
import Influx.Lemmas.Snowflake

namespace Influx.Lemmas.SnowflakeF12
open Influx.Model.Snowflake Influx.Generated.IDGen Influx.Lemmas.Snowflake

theorem run_append (s : Sys) (a b : Sched) : run s (a ++ b) = run (run s a) b := by
  induction a generalizing s with
  | nil => rfl
  | cons e a ih => obtain ⟨t, n⟩ := e; simp only [List.cons_append, run, ih]

/-- `k` rounds of a schedule, followed through a property indexed by the number of rounds done -/
theorem run_replicate (P : Nat → Sys → Prop) (sch : Sched) (k : Nat) (s : Sys) (h0 : P 0 s)
    (hs : ∀ i x, i < k → P i x → P (i + 1) (run x sch)) : P k (run s (List.replicate k sch).flatten) := by
  induction k generalizing s P with
  | zero => exact h0
  | succ k ih =>
    rw [List.replicate_succ, List.flatten_cons, run_append]
    exact ih (fun i => P (i + 1)) _ (hs 0 s (Nat.zero_lt_succ k) h0) fun i x hi => hs (i + 1) x (Nat.succ_lt_succ hi)

theorem step_frame (s : Sys) (tid now : Nat) :
    (step s tid now).machine = s.machine ∧ ∃ l, (step s tid now).out = s.out ++ l := by
  have keep : s.machine = s.machine ∧ ∃ l, s.out = s.out ++ l := ⟨rfl, [], (List.append_nil _).symm⟩
  apply step_cases (P := fun x => x.machine = s.machine ∧ ∃ l, x.out = s.out ++ l) s tid now
  · exact fun _ _ => keep
  · exact fun _ _ _ _ => ⟨rfl, _, rfl⟩
  · exact fun _ _ => keep

theorem run_frame (sch : Sched) (s : Sys) :
    (run s sch).machine = s.machine ∧ ∃ l, (run s sch).out = s.out ++ l := by
  induction sch generalizing s with
  | nil => exact ⟨rfl, [], (List.append_nil _).symm⟩
  | cons e rest ih =>
    obtain ⟨m1, l1, o1⟩ := step_frame s e.1 e.2
    obtain ⟨m2, l2, o2⟩ := ih (step s e.1 e.2)
    exact ⟨m2.trans m1, l1 ++ l2, by rw [run, o2, o1, List.append_assoc]⟩

theorem tOf_epoch : tOf epoch = 0 := by decide +kernel

/-- the word can be incremented without a carry out of the sequence field -/
def Room (g : Nat) : Prop := g < 2 ^ 64 - 1 ∧ g % 4096 ≠ 4095

/-- with the clock at the epoch (`t = 0`) a proposal is `current + 1` -/
theorem propose_inc (cur : Nat) (h : Room cur) : propose 0 cur = cur + 1 := by
  unfold propose
  dsimp only
  rw [if_neg (Nat.not_lt_zero _), seq_mod, if_neg (show ¬ cur % 2 ^ 12 = sequenceMask from h.2)]
  exact Nat.mod_eq_of_lt (Nat.add_lt_of_lt_sub h.1)

/-- caller 0 runs one whole uncontended `Next` with the clock at the epoch -/
def callA : Sched := [(0, epoch), (0, epoch), (0, epoch)]

/-- what `callA` does: one increment, one value handed out, nobody else moves -/
structure Stepped (s s' : Sys) (k : Nat) : Prop where
  g : s'.g = s.g + k
  machine : s'.machine = s.machine
  pc0 : s'.pc 0 = .idle
  others : ∀ j, j ≠ 0 → s'.pc j = s.pc j
  out : ∃ l, s'.out = s.out ++ l

theorem callA_spec (s : Sys) (hpc : s.pc 0 = .idle) (h : Room s.g) :
    Stepped s (run s callA) 1 ∧ (run s callA).out = s.out ++ [(s.g + 1) ||| s.machine] := by
  simp only [callA, run, step, hpc, tOf_epoch, setPC, if_true, propose_inc s.g h, Nat.add_one_ne_zero,
    if_false]
  exact ⟨⟨rfl, rfl, rfl, fun j hj => by simp only [setPC, if_neg hj], _, rfl⟩, trivial⟩

theorem stepped_trans (a b c : Sys) (j k : Nat) (h1 : Stepped a b j) (h2 : Stepped b c k) : Stepped a c (j + k) := by
  obtain ⟨l1, e1⟩ := h1.out
  obtain ⟨l2, e2⟩ := h2.out
  exact ⟨by rw [h2.g, h1.g, Nat.add_assoc], h2.machine.trans h1.machine, h2.pc0,
    fun i hi => by rw [h2.others i hi, h1.others i hi], ⟨l1 ++ l2, by rw [e2, e1, List.append_assoc]⟩⟩

/-- the word before round `i` of `k` -/
theorem room (g i k : Nat) (hi : i < k) (hc : g + k < 2 ^ 64) (hseq : g % 4096 + k ≤ 4095) : Room (g + i) := by
  have h : g % 4096 + i < 4095 := Nat.lt_of_lt_of_le (Nat.add_lt_add_left hi _) hseq
  refine ⟨Nat.lt_of_lt_of_le (Nat.add_lt_add_left hi g) (Nat.le_sub_one_of_lt hc), ?_⟩
  rw [← Nat.mod_add_mod, Nat.mod_eq_of_lt (Nat.lt_succ_of_lt h)]
  exact Nat.ne_of_lt h

theorem callsA_spec (k : Nat) (s : Sys) (hpc : s.pc 0 = .idle) (hc : s.g + k < 2 ^ 64)
    (hseq : s.g % 4096 + k ≤ 4095) : Stepped s (run s (List.replicate k callA).flatten) k := by
  refine run_replicate (fun i x => Stepped s x i) callA k s ⟨rfl, rfl, hpc, fun _ _ => rfl, [], (List.append_nil _).symm⟩ ?_
  intro i x hi st
  have h := room s.g i k hi hc hseq
  rw [← st.g] at h
  exact stepped_trans _ _ _ i 1 st (callA_spec x st.pc0 h).1

structure PcOnly (s s' : Sys) : Prop where
  g : s'.g = s.g
  machine : s'.machine = s.machine
  pc0 : s'.pc 0 = s.pc 0
  out : s'.out = s.out
  bad : s'.bad = s.bad

/-- caller 1's program counter at the head of its loop after `i` lost races -/
def lost (i : Nat) : PC := if i = 0 then .idle else if i < maxTries then .top i else .fallback

theorem stepB_read (s : Sys) (i : Nat) (hi : i < maxTries) (h : s.pc 1 = lost i) :
    PcOnly s (step s 1 epoch) ∧ (step s 1 epoch).pc 1 = .gotT i 0 := by
  unfold lost at h
  by_cases h0 : i = 0
  · rw [if_pos h0] at h
    simp [step, h, h0, tOf_epoch, setPC]; exact ⟨rfl, rfl, rfl, rfl, rfl⟩
  · rw [if_neg h0, if_pos hi] at h
    simp [step, h, tOf_epoch, setPC]; exact ⟨rfl, rfl, rfl, rfl, rfl⟩

theorem stepB_load (s : Sys) (i t : Nat) (h : s.pc 1 = .gotT i t) :
    PcOnly s (step s 1 epoch) ∧ (step s 1 epoch).pc 1 = .loaded i t s.g := by
  simp [step, h, setPC]; exact ⟨rfl, rfl, rfl, rfl, rfl⟩

theorem stepB_casfail (s : Sys) (i t cur : Nat) (h : s.pc 1 = .loaded i t cur) (hne : s.g ≠ cur) :
    PcOnly s (step s 1 epoch) ∧ (step s 1 epoch).pc 1 = lost (i + 1) := by
  simp only [step, h, hne, if_false, lost, Nat.add_one_ne_zero]
  split <;> (simp [setPC]; exact ⟨rfl, rfl, rfl, rfl, rfl⟩)

/-- one round: caller 1 reads the clock and loads, caller 0 completes a `Next`, caller 1's CAS fails -/
def failB : Sched := [(1, epoch), (1, epoch)] ++ (callA ++ [(1, epoch)])

theorem failB_spec (s : Sys) (i : Nat) (hi : i < maxTries) (hB : s.pc 1 = lost i)
    (hpc : s.pc 0 = .idle) (h : Room s.g) :
    (run s failB).g = s.g + 1 ∧ (run s failB).pc 0 = .idle ∧ (run s failB).pc 1 = lost (i + 1) := by
  obtain ⟨f1, p1⟩ := stepB_read s i hi hB
  obtain ⟨f2, p2⟩ := stepB_load (step s 1 epoch) i 0 p1
  have hg2 : (step (step s 1 epoch) 1 epoch).g = s.g := by rw [f2.g, f1.g]
  obtain ⟨st, _⟩ := callA_spec (step (step s 1 epoch) 1 epoch) (by rw [f2.pc0, f1.pc0, hpc]) (by rw [hg2]; exact h)
  have hg3 : (run (step (step s 1 epoch) 1 epoch) callA).g = s.g + 1 := by rw [st.g, hg2]
  obtain ⟨f4, p4⟩ := stepB_casfail _ i 0 s.g (by rw [st.others 1 (by decide), p2, f1.g]) (by rw [hg3]; exact Nat.succ_ne_self _)
  simp only [failB, List.cons_append, List.nil_append, run, run_append]
  exact ⟨by rw [f4.g, hg3], by rw [f4.pc0, st.pc0], p4⟩

theorem rounds_spec (j : Nat) (s : Sys) (hj : j ≤ maxTries) (hB : s.pc 1 = .idle) (hpc : s.pc 0 = .idle)
    (hc : s.g + j < 2 ^ 64) (hseq : s.g % 4096 + j ≤ 4095) :
    let s' := run s (List.replicate j failB).flatten
    s'.g = s.g + j ∧ s'.pc 0 = .idle ∧ s'.pc 1 = lost j := by
  refine run_replicate (fun i x => x.g = s.g + i ∧ x.pc 0 = .idle ∧ x.pc 1 = lost i) failB j s ⟨rfl, hpc, hB⟩ ?_
  intro i x hi ⟨a1, a2, a3⟩
  have h := room s.g i j hi hc hseq
  rw [← a1] at h
  obtain ⟨b1, b2, b3⟩ := failB_spec x i (Nat.lt_of_lt_of_le hi hj) a3 a2 h
  exact ⟨by rw [b1, a1, Nat.add_assoc], b2, b3⟩

theorem stepB_fallback (s : Sys) (h : s.pc 1 = .fallback) :
    (step s 1 epoch).g = u64 (s.g + 1) ∧ (step s 1 epoch).pc 0 = s.pc 0 ∧
      (step s 1 epoch).bad = (s.bad || decide (s.g &&& sequenceMask = sequenceMask)) := by
  simp [step, h, setPC]

/-- caller 1 loses 100 CAS races, caller 0 fills the sequence field, and caller 1's fallback `AddUint64`
    carries into the machine-id bits -/
def raceSched : Sched :=
  (List.replicate 100 failB).flatten ++ ((List.replicate 3994 callA).flatten ++ [(1, epoch)])

/-- the schedule of DESIGN §6 F12: one id, the lost races with their carry, and the next id repeats the very first one -/
def collisionSched : Sched := callA ++ (raceSched ++ callA)

/-- the start word: time field 2^41 (far ahead of the clock readings used), sequence 0 -/
def T0 : Nat := 2 ^ 41 <<< 22

theorem race_spec (s : Sys) (hg : s.g = 2 ^ 63 + 1) (h0 : s.pc 0 = .idle) (h1 : s.pc 1 = .idle) :
    (run s raceSched).g = 2 ^ 63 + 4096 ∧ (run s raceSched).pc 0 = .idle ∧ (run s raceSched).bad = true := by
  simp only [raceSched, run_append, run]
  obtain ⟨g2, p2, pcB⟩ := rounds_spec 100 s (Nat.le_refl _) h1 h0 (by rw [hg]; decide) (by rw [hg]; decide)
  generalize run s (List.replicate 100 failB).flatten = s2 at g2 p2 pcB
  have st3 := callsA_spec 3994 s2 p2 (by rw [g2, hg]; decide) (by rw [g2, hg]; decide)
  generalize run s2 (List.replicate 3994 callA).flatten = s3 at st3
  have g3 : s3.g = 2 ^ 63 + 4095 := by rw [st3.g, g2, hg]
  obtain ⟨g4, p4, b4⟩ := stepB_fallback s3 (by rw [st3.others 1 (by decide)]; exact pcB)
  refine ⟨by rw [g4, g3]; decide, by rw [p4, st3.pc0], ?_⟩
  rw [b4, g3, show decide ((2 ^ 63 + 4095) &&& sequenceMask = sequenceMask) = true by decide, Bool.or_true]

/-- **F12 on the model**: the generator with machine id 1, started from the well-formed word `T0`, hands
    out the same id twice under `collisionSched` — the first and the last of its ids are equal. -/
theorem fallback_collision :
    let s := run (Sys.init T0 (1 <<< serverShift)) collisionSched
    s.bad = true ∧ ∃ v l, s.out = v :: (l ++ [v]) := by
  have hT : (Sys.init T0 (1 <<< serverShift)).g = 2 ^ 63 := by decide
  obtain ⟨st1, o1⟩ := callA_spec (Sys.init T0 (1 <<< serverShift)) rfl (by rw [hT]; exact ⟨by decide, by decide⟩)
  simp only [collisionSched, run_append]
  generalize run (Sys.init T0 (1 <<< serverShift)) callA = s1 at st1 o1
  have g1 : s1.g = 2 ^ 63 + 1 := by rw [st1.g, hT]
  obtain ⟨g4, p4, b4⟩ := race_spec s1 g1 st1.pc0 (by rw [st1.others 1 (by decide)]; rfl)
  obtain ⟨m4, l, o4⟩ := run_frame raceSched s1
  generalize run s1 raceSched = s4 at g4 p4 b4 m4 o4
  obtain ⟨_, o5⟩ := callA_spec s4 p4 (by rw [g4]; exact ⟨by decide, by decide⟩)
  constructor
  · -- `bad` is sticky
    cases h : (run s4 callA).bad
    · rw [run_bad_sticky callA s4 h] at b4; cases b4
    · rfl
  · refine ⟨2 ^ 63 + 1 ||| 1 <<< serverShift, l, ?_⟩
    -- the carry set the bit that `| machine` sets anyway
    rw [o5, o4, o1, g4, m4, st1.machine, hT, show 2 ^ 63 + 4096 + 1 ||| (Sys.init T0 (1 <<< serverShift)).machine =
      2 ^ 63 + 1 ||| (Sys.init T0 (1 <<< serverShift)).machine by decide]
    rfl

end Influx.Lemmas.SnowflakeF12
