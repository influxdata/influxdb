/-
  Lemmas.BigEndian — `binary.BigEndian.Uint64 ∘ PutUint64 = id` as arithmetic: the eight base-256
  digits of a 64-bit number weigh back to it.  The byte-level models (Codec, series file, durable
  queue) each spell the digits their own way; all reduce to one of the two forms below.
-/
namespace Influx.BigEndian

/-- Horner form.  With `qₖ = v / 2^k`: `qₖ₊₈ * 256 + qₖ % 256 = qₖ`, and `q₅₆ < 256`. -/
theorem horner64 (v : Nat) (h : v < 2 ^ 64) :
    ((((((v / 2 ^ 56 % 256 * 256 + v / 2 ^ 48 % 256) * 256 + v / 2 ^ 40 % 256) * 256 + v / 2 ^ 32 % 256) * 256 +
      v / 2 ^ 24 % 256) * 256 + v / 2 ^ 16 % 256) * 256 + v / 2 ^ 8 % 256) * 256 + v % 256 = v := by
  have e (k : Nat) : v / 2 ^ (k + 8) * 256 + v / 2 ^ k % 256 = v / 2 ^ k := by
    rw [Nat.pow_add, ← Nat.div_div_eq_div_mul]
    exact Nat.div_add_mod' _ 256
  rw [Nat.mod_eq_of_lt (Nat.div_lt_of_lt_mul (by omega) : v / 2 ^ 56 < 256), e 48, e 40, e 32, e 24, e 16, e 8]
  exact Nat.div_add_mod' v 256

theorem horner_eq_weighted (d7 d6 d5 d4 d3 d2 d1 d0 : Nat) :
    ((((((d7 * 256 + d6) * 256 + d5) * 256 + d4) * 256 + d3) * 256 + d2) * 256 + d1) * 256 + d0 =
    d7 * 72057594037927936 + d6 * 281474976710656 + d5 * 1099511627776 + d4 * 4294967296 +
    d3 * 16777216 + d2 * 65536 + d1 * 256 + d0 := by
  simp only [Nat.add_mul, Nat.mul_assoc, Nat.reduceMul]

theorem weighted64 (v : Nat) (h : v < 2 ^ 64) :
    v / 72057594037927936 % 256 * 72057594037927936 + v / 281474976710656 % 256 * 281474976710656 +
    v / 1099511627776 % 256 * 1099511627776 + v / 4294967296 % 256 * 4294967296 +
    v / 16777216 % 256 * 16777216 + v / 65536 % 256 * 65536 + v / 256 % 256 * 256 + v % 256 = v := by
  rw [← horner_eq_weighted]
  exact horner64 v h

end Influx.BigEndian
