/-
  Lemmas.C36RadixSim2 — simulation between the radix part of the model (`stepT`) and of the
  statement (`checkT`, an association list read in key order): one radix op, the statement
  accepts the model's answer and the relation between the tree and the list is kept.
-/
import Influx.Lemmas.C36RadixMinMax
import Influx.Lemmas.C36RHHSim

namespace Influx.Radix
open Influx.RHH (keyLt_asymm)
open Influx.Spec.C36

theorem perm_insByKey (p : KV) (l : Assoc) : (insByKey p l).Perm (p :: l) := by
  induction l with
  | nil => exact .refl _
  | cons q qs ih =>
    rw [insByKey]
    split
    · exact .refl _
    · exact (ih.cons q).trans (.swap _ _ _)

theorem perm_sorted (m : Assoc) : m.sorted.Perm m := by
  induction m with
  | nil => exact .refl _
  | cons p ps ih => exact (perm_insByKey p _).trans (ih.cons p)

theorem sorted_sorted (m : Assoc) (h : NodupKeys m) : SortedKV m.sorted := by
  have hs := RHH.sortKeys_sorted _ (h : (m.map (·.1)).Nodup)
  rw [← sorted_keys] at hs
  exact List.pairwise_map.mp hs

/-- a tree whose pairs are those of `m` lists them as `m.sorted`: the strictly ascending list of
    a set of pairs with distinct keys is unique -/
theorem rel_eq_sorted {n : Node} {m : Assoc} (hsw : Node.SW n) (hnd : NodupKeys m) (h : (Node.rel n).Perm m) :
    Node.rel n = m.sorted :=
  List.Perm.eq_of_pairwise (fun x y _ _ hxy hyx => by rw [keyLt_asymm _ _ hxy] at hyx; cases hyx)
    (Node.rel_sorted n hsw) (sorted_sorted m hnd) (h.trans (perm_sorted m).symm)

theorem lookup_perm {a m : Assoc} (h : a.Perm m) (hm : NodupKeys m) (k : Key) : lookup k a = m.find k :=
  have ha : NodupKeys a := (h.map _).nodup_iff.mpr hm
  Option.ext fun v => (find_some_mem a k v ha).trans (h.mem_iff.trans (find_some_mem m k v hm).symm)

theorem isPrefix_eq_pfx (p : Key) : ∀ k : Key, isPrefix p k = pfx p k := by
  induction p with
  | nil => exact fun k => (pfx_nil k).symm
  | cons a as ih =>
    intro k
    cases k with
    | nil => exact (pfx_cons_nil a as).symm
    | cons b bs =>
      have hd : (b == a) = decide (b = a) := Bool.eq_iff_iff.mpr (beq_iff_eq.trans decide_eq_true_iff.symm)
      rw [isPrefix, pfx_cons_cons, ih bs, BEq.comm, hd]

theorem keep_eq (p : Key) : keep p = fun q => !isPrefix p q.1 :=
  funext fun q => by rw [isPrefix_eq_pfx]; rfl

end Influx.Radix

namespace Influx.C36
open Influx.Radix Influx.Spec.C36

structure RTok (tr : Radix.Tree) (m : Assoc) (deleted : Bool) : Prop where
  sw : Node.SW tr.root
  lk : Node.LK [] tr.root
  pre : tr.root.pre = []
  ne : deleted = false → Node.NE tr.root
  size : tr.size = m.length
  nodup : NodupKeys m
  rel : Node.rel tr.root = m.sorted

def RT : Option Radix.Tree → TSpec → Prop
  | none, sp => sp.tree = none
  | some tr, sp => ∃ m, sp.tree = some m ∧ RTok tr m sp.deleted

/-- `Minimum`/`Maximum` are only claimed while no `DeletePrefix` has run (known finding) -/
def TOp.okAt (deleted : Bool) : TOp → Prop
  | .min => deleted = false
  | .max => deleted = false
  | _ => True

theorem walk_pairs {tr : Radix.Tree} {m : Assoc} {d : Bool} (h : RTok tr m d) :
    (Node.walk tr.root).map (fun l => (l.key, l.val)) = m.sorted := by
  rw [Node.walk_rel tr.root [] h.lk, h.rel]
  exact List.map_id' _

/-- an emptied root (`Tree.empty`, `DeletePrefix` of the empty prefix) -/
theorem RTok_empty (pre : Key) (size : Int) (d : Bool) (hp : pre = []) (hs : size = 0) :
    RTok ⟨.mk none pre .nil, size⟩ [] d :=
  ⟨trivial, ⟨fun _ hl => (nomatch hl), trivial⟩, hp, fun _ => trivial, hs, .nil, rfl⟩

theorem stepT_sim (t : Option Radix.Tree) (sp : TSpec) (op : TOp) (hR : RT t sp) (hok : TOp.okAt sp.deleted op) :
    (checkT sp op (stepT t op).2).2 = none ∧ RT (stepT t op).1 (checkT sp op (stepT t op).2).1 := by
  cases t with
  | none =>
    have hn : sp.tree = none := hR
    cases op with
    | new =>
      simp only [stepT, checkT]
      exact ⟨expect_self _ _, [], rfl, RTok_empty [] 0 false rfl rfl⟩
    | _ =>
      simp only [stepT, checkT, hn]
      exact ⟨expect_self _ _, hn⟩
  | some tr =>
    obtain ⟨m, hm, h⟩ := hR
    have hlook : ∀ k, lookup k (Node.rel tr.root) = m.find k := fun k =>
      lookup_perm (h.rel ▸ perm_sorted m) h.nodup k
    cases op with
    | new =>
      simp only [stepT, checkT]
      exact ⟨expect_self _ _, [], rfl, RTok_empty [] 0 false rfl rfl⟩
    | ins k v =>
      obtain ⟨i1, i3, i4⟩ := insert_ok.1 tr.root k k v h.sw
      simp only [stepT, checkT, hm, Radix.Tree.insert]
      cases hf : m.find k with
      | some old =>
        obtain ⟨j1, j2⟩ := i3 old (by rw [hlook, hf])
        rw [j1, j2]
        exact ⟨expect_self _ _, m, hm, h⟩
      | none =>
        obtain ⟨j1, j2⟩ := i4 (by rw [hlook, hf])
        simp only [j1]
        have hnd : NodupKeys ((k, v) :: m) := (nodupKeys_cons _ _).mpr ⟨(find_none_iff m k).mp hf, h.nodup⟩
        exact ⟨expect_self _ _, (k, v) :: m, rfl, i1, insert_keeps_LK.1 tr.root k k v [] h.lk rfl,
          (Node.insert_spec_pre tr.root k k v).trans h.pre,
          fun hd => (insert_keeps_NE.1 tr.root k k v (h.ne hd)).1, by rw [h.size]; rfl, hnd,
          rel_eq_sorted i1 hnd (j2.trans ((h.rel ▸ perm_sorted m).cons _))⟩
    | get k =>
      have hget : tr.get k = m.find k := (Node.get_rel tr.root k h.sw).trans (hlook k)
      simp only [stepT, checkT, hm, hget]
      cases m.find k <;> exact ⟨expect_self _ _, m, hm, h⟩
    | del p =>
      simp only [stepT, checkT, hm]
      have hpart : (m.filter (fun q => isPrefix p q.1)).length + (m.filter (fun q => !isPrefix p q.1)).length
          = m.length := by
        rw [← List.length_append]
        exact (List.filter_append_perm _ m).length_eq
      cases p with
      | nil =>
        have hall : m.filter (fun q => isPrefix [] q.1) = m := List.filter_eq_self.mpr fun _ _ => rfl
        have hnone : m.filter (fun q => !isPrefix [] q.1) = [] := List.filter_eq_nil_iff.mpr fun _ _ => Bool.false_ne_true
        have hcnt : (Node.walk tr.root).length = m.length := by
          rw [Node.walk_len, h.rel, (perm_sorted m).length_eq]
        simp only [Radix.Tree.deletePrefix, hall, hnone, hcnt]
        exact ⟨expect_self _ _, [], rfl, RTok_empty _ _ _ h.pre (by rw [h.size]; exact Int.sub_self _)⟩
      | cons c rest =>
        have g := del_ok.1 tr.root true _ c rest rfl h.sw
        have hnd := nodup_filter m (fun q => !isPrefix (c :: rest) q.1) h.nodup
        have hrel' := rel_eq_sorted g.sw hnd (by
          rw [g.rel, h.rel, keep_eq]
          exact (perm_sorted m).filter _)
        have hcnt : (Node.del tr.root true (c :: rest)).2 = (m.filter (fun q => isPrefix (c :: rest) q.1)).length := by
          have := g.count
          rw [hrel', h.rel, (perm_sorted m).length_eq, (perm_sorted _).length_eq] at this
          exact Nat.add_right_cancel (this.trans hpart.symm)
        simp only [Radix.Tree.deletePrefix, hcnt]
        refine ⟨expect_self _ _, _, rfl, g.sw, g.lk [] h.lk, (g.pre_root rfl).trans h.pre, fun hd => (nomatch hd), ?_,
          hnd, hrel'⟩
        simp only
        rw [h.size]
        omega
    | min =>
      have hw := walk_pairs h
      simp only [stepT, checkT, hm, Node.min_eq tr.root (h.ne hok)]
      refine ⟨?_, m, hm, h⟩
      cases hwk : Node.walk tr.root with
      | nil =>
        rw [hwk] at hw
        simp [← hw, leafObs, expect]
      | cons l ls =>
        rw [hwk] at hw
        simp [← hw, leafObs, expect]
    | max =>
      have hw := walk_pairs h
      simp only [stepT, checkT, hm, Node.max_eq tr.root (h.ne hok)]
      refine ⟨?_, m, hm, h⟩
      rw [← hw, List.getLast?_map]
      cases (Node.walk tr.root).getLast? <;> simp [leafObs, expect]
    | len =>
      simp only [stepT, checkT, hm, h.size]
      exact ⟨expect_self _ _, m, hm, h⟩
    | walk =>
      simp only [stepT, checkT, hm, walk_pairs h]
      exact ⟨expect_self _ _, m, hm, h⟩
    | dump =>
      simp only [stepT, checkT, hm]
      exact ⟨trivial, m, hm, h⟩

end Influx.C36
