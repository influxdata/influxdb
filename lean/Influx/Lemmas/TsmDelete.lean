/-
  Lemmas.TsmDelete — the two mutators of `indirectIndex`.
  `Delete` removes exactly the given keys: the merge walk over the sorted offsets and the
  sorted keys is a filter.
  `DeleteRange`: the cursor loop visits exactly the live keys that are in the key list, each
  once; per key the outcome is: nothing (range outside the key's span), the key is removed
  (range covers the span), or the range is recorded (and the key removed when the recorded
  ranges line up to cover the span).
-/
import Influx.Model.TsmIndex
import Influx.Lemmas.TsmLookup

namespace Influx.Tsm

def SortedK (l : List Key) : Prop := l.Pairwise fun a b => kle a b = true

theorem sortKeys_spec (ks : List Key) : SortedK (sortKeys ks) ∧ ∀ x, x ∈ sortKeys ks ↔ x ∈ ks ∨ x ∈ [] :=
  foldl_ins_spec (ins := insertKey) (lt := fun a b => klt a b = true) (fun _ => rfl) (fun _ _ _ => rfl)
    (fun _ _ => kle_of_klt) (fun _ _ h => not_klt_iff_kle.mp (Bool.not_eq_true _ ▸ h)) (fun _ _ _ => kle_trans)
    ks [] List.Pairwise.nil

theorem sortKeys_sorted (ks : List Key) : SortedK (sortKeys ks) := (sortKeys_spec ks).1

theorem mem_sortKeys (ks : List Key) (x : Key) : x ∈ sortKeys ks ↔ x ∈ ks := by
  rw [(sortKeys_spec ks).2, or_iff_left List.not_mem_nil]

/-! `Delete` and `DeleteRange` walk the live keys with a cursor into the sorted key list,
  skipping at each live key `b` the keys below it (`keys.dropWhile (klt · b)`). -/

theorem mem_dropWhile_klt {keys : List Key} {b x : Key} (hx : kle b x = true) :
    x ∈ keys.dropWhile (klt · b) ↔ x ∈ keys := by
  induction keys with
  | nil => rfl
  | cons y ys ih =>
    rw [List.dropWhile_cons]
    split
    · next hy =>
      have : x ≠ y := fun e => by rw [← e, not_klt_iff_kle.mpr hx] at hy; cases hy
      simp [ih, this]
    · rfl

theorem dropWhile_klt_head {keys : List Key} {b k : Key} {ks : List Key}
    (h : keys.dropWhile (klt · b) = k :: ks) : kle b k = true := by
  induction keys with
  | nil => cases h
  | cons y ys ih =>
    rw [List.dropWhile_cons] at h
    split at h
    · exact ih h
    · next hy => cases h; exact not_klt_iff_kle.mp (by simpa using hy)

theorem not_mem_of_le_head {b k : Key} {ks : List Key} (hs : SortedK (k :: ks)) (hb : kle b k = true)
    (hne : k ≠ b) : b ∉ k :: ks := by
  intro h
  rcases List.mem_cons.mp h with e | h
  · exact hne e.symm
  · exact hne (kle_antisymm ((List.pairwise_cons.mp hs).1 b h) hb)

theorem cursor_mem {ke : KeyEntry} {rest : List KeyEntry} (hs : SortedKE (ke :: rest)) (keys : List Key) :
    ∀ x ∈ ke :: rest, (x.key ∈ keys.dropWhile (klt · ke.key) ↔ x.key ∈ keys) := by
  intro x hx
  apply mem_dropWhile_klt
  rcases List.mem_cons.mp hx with rfl | hx
  · exact kle_refl _
  · exact kle_of_klt ((List.pairwise_cons.mp hs).1 x hx)

theorem delWalk_eq_filter (live : List KeyEntry) (hs : SortedKE live) :
    ∀ keys : List Key, SortedK keys →
      delWalk live keys = live.filter fun ke => !decide (ke.key ∈ keys) := by
  induction live with
  | nil => intro keys _; rfl
  | cons ke rest ih =>
    intro keys hk
    obtain ⟨hlt, hrest⟩ := List.pairwise_cons.mp hs
    have hc := cursor_mem hs keys
    have hk' : SortedK (keys.dropWhile (klt · ke.key)) := hk.sublist (List.dropWhile_sublist _)
    rw [List.filter_congr (q := fun x => !decide (x.key ∈ keys.dropWhile (klt · ke.key)))
      fun x hx => by simp only [hc x hx], delWalk]
    cases hd : keys.dropWhile (klt · ke.key) with
    | nil => exact (List.filter_eq_self.mpr fun x _ => by simp).symm
    | cons k ks =>
      rw [hd] at hk'
      dsimp only
      by_cases heq : k = ke.key
      · subst heq
        rw [if_pos rfl, ih hrest ks (List.pairwise_cons.mp hk').2, List.filter_cons,
          if_neg (by simp)]
        exact List.filter_congr fun x hx => by simp [(klt_ne (hlt x hx)).symm]
      · rw [if_neg heq, ih hrest (k :: ks) hk', List.filter_cons,
          if_pos (by simpa using not_mem_of_le_head hk' (dropWhile_klt_head hd) heq)]

theorem delete_fields (ix : Index) (ks : List Key) :
    (delete ix ks).tombs = ix.tombs ∧ (delete ix ks).all = ix.all ∧ (delete ix ks).minKey = ix.minKey ∧
    (delete ix ks).maxKey = ix.maxKey ∧ (delete ix ks).minTime = ix.minTime ∧ (delete ix ks).maxTime = ix.maxTime := by
  unfold delete; split <;> simp

theorem delete_live (ix : Index) (h : IndexInv ix) (keys : List Key) :
    (delete ix keys).live = ix.live.filter fun ke => !decide (ke.key ∈ keys) := by
  unfold delete
  simp only [← mem_sortKeys keys]
  have hsk := sortKeys_sorted keys
  generalize sortKeys keys = sk at hsk ⊢
  cases sk with
  | nil => exact (List.filter_eq_self.mpr fun x _ => by simp).symm
  | cons k0 ks =>
    dsimp only
    rw [searchOffset_eq_rank ix h.sortedLive,
      delWalk_eq_filter _ (h.sortedLive.sublist (List.drop_sublist _ _)) _ hsk]
    conv => rhs; rw [← List.take_append_drop (rank ix.live k0) ix.live, List.filter_append]
    congr 1
    -- the keys before the start position are below `k0`, the least of the keys
    refine (List.filter_eq_self.mpr fun x hx => ?_).symm
    obtain ⟨p, hp, hl⟩ := List.mem_take_iff_getElem.mp hx
    have hlt := (klt_iff_lt_rank h.sortedLive k0 (hl ▸ List.getElem?_eq_getElem _)).mpr
      (Nat.lt_of_lt_of_le hp (Nat.min_le_left _ _))
    have : x.key ∉ k0 :: ks := fun hin => by
      have hle : kle k0 x.key = true := by
        rcases List.mem_cons.mp hin with e | hin
        · rw [e]; exact kle_refl _
        · exact (List.pairwise_cons.mp hsk).1 _ hin
      rw [not_klt_iff_kle.mpr hle] at hlt; cases hlt
    simp [this]

open Influx.Generated.TsmLayout

def spanKE (ke : KeyEntry) : Option (Int × Int) :=
  match ke.entries.head?, ke.entries.getLast? with
  | some a, some b => some (a.MinTime, b.MaxTime)
  | _, _ => none

inductive Outcome where
  | skip
  | full
  | recd (ts : List TimeRange) (gone : Bool)

def outcome (ix : Index) (lo hi : Int) (ke : KeyEntry) : Outcome :=
  match spanKE ke with
  | none => .skip
  | some (mn, mx) =>
    if lo > mx || hi < mn then .skip
    else if lo ≤ mn && hi ≥ mx then .full
    else
      let newTs := sortTR (tombRange ix ke.key ++ [⟨lo, hi⟩])
      .recd newTs (decide ((window newTs).1 ≤ mn) && decide ((window newTs).2 ≥ mx))

def Outcome.gone : Outcome → Bool
  | .skip => false
  | .full => true
  | .recd _ g => g

def Outcome.recorded : Outcome → Option (List TimeRange)
  | .recd ts _ => some ts
  | _ => none

def goneKeys (ix : Index) (lo hi : Int) (T : List KeyEntry) : List Key :=
  (T.filter fun ke => (outcome ix lo hi ke).gone).map (·.key)

def recList (ix : Index) (lo hi : Int) (T : List KeyEntry) : List (Key × List TimeRange) :=
  T.filterMap fun ke => (outcome ix lo hi ke).recorded.map fun ts => (ke.key, ts)

theorem goneKeys_cons (ix : Index) (lo hi : Int) (ke : KeyEntry) (T : List KeyEntry) :
    goneKeys ix lo hi (ke :: T) =
      if (outcome ix lo hi ke).gone then ke.key :: goneKeys ix lo hi T else goneKeys ix lo hi T := by
  unfold goneKeys; rw [List.filter_cons]; split <;> rfl

theorem recList_cons (ix : Index) (lo hi : Int) (ke : KeyEntry) (T : List KeyEntry) :
    recList ix lo hi (ke :: T) =
      ((outcome ix lo hi ke).recorded.map fun ts => (ke.key, ts)).toList ++ recList ix lo hi T := by
  unfold recList; rw [List.filterMap_cons]; split <;> simp [*]

theorem mapSet_absent (m : List (Key × List TimeRange)) (k : Key) (v : List TimeRange)
    (h : ∀ p ∈ m, p.1 ≠ k) : mapSet m k v = m ++ [(k, v)] := by
  induction m with
  | nil => rfl
  | cons p m ih =>
    obtain ⟨k', v'⟩ := p
    rw [mapSet, if_neg (h _ List.mem_cons_self), ih fun q hq => h q (List.mem_cons_of_mem _ hq)]; rfl

theorem outcome_none {ix : Index} {lo hi : Int} {ke : KeyEntry} (h : spanKE ke = none) :
    outcome ix lo hi ke = .skip := by
  unfold outcome; rw [h]

theorem outcome_some {ix : Index} {lo hi : Int} {ke : KeyEntry} {mn mx : Int} (h : spanKE ke = some (mn, mx)) :
    outcome ix lo hi ke =
      if lo > mx || hi < mn then .skip
      else if lo ≤ mn && hi ≥ mx then .full
      else .recd (sortTR (tombRange ix ke.key ++ [⟨lo, hi⟩]))
        (decide ((window (sortTR (tombRange ix ke.key ++ [⟨lo, hi⟩]))).1 ≤ mn) &&
          decide ((window (sortTR (tombRange ix ke.key ++ [⟨lo, hi⟩]))).2 ≥ mx)) := by
  unfold outcome; rw [h]

/-- the loop body on a key that has no range list in the call-local map yet -/
theorem drBody_outcome (ix : Index) (lo hi : Int) (ke : KeyEntry) (acc : DRAcc)
    (h : ∀ p ∈ acc.tombs, p.1 ≠ ke.key) :
    drBody ix lo hi ke acc =
      ({ full := if (outcome ix lo hi ke).gone then ke.key :: acc.full else acc.full,
         tombs := acc.tombs ++ ((outcome ix lo hi ke).recorded.map fun ts => (ke.key, ts)).toList },
       (outcome ix lo hi ke).gone) := by
  have hf : acc.tombs.find? (fun x => decide (x.1 = ke.key)) = none :=
    List.find?_eq_none.mpr fun p hp => by simpa using h p hp
  unfold drBody
  cases h0 : ke.entries.head? with
  | none => rw [outcome_none (by unfold spanKE; rw [h0])]; simp [Outcome.gone, Outcome.recorded]
  | some e0 =>
    cases hN : ke.entries.getLast? with
    | none => rw [outcome_none (by unfold spanKE; rw [h0, hN])]; simp [Outcome.gone, Outcome.recorded]
    | some eN =>
      have hs : spanKE ke = some (e0.MinTime, eN.MaxTime) := by unfold spanKE; rw [h0, hN]
      rw [hf]
      dsimp only [List.nil_append]
      rw [mapSet_absent _ _ _ h]
      by_cases c1 : (decide (lo > eN.MaxTime) || decide (hi < e0.MinTime)) = true
      · rw [show outcome ix lo hi ke = .skip by rw [outcome_some hs, if_pos c1], if_pos c1]
        simp [Outcome.gone, Outcome.recorded]
      · by_cases c2 : (decide (lo ≤ e0.MinTime) && decide (hi ≥ eN.MaxTime)) = true
        · rw [show outcome ix lo hi ke = .full by rw [outcome_some hs, if_neg c1, if_pos c2], if_neg c1, if_pos c2]
          simp [Outcome.gone, Outcome.recorded]
        · rw [outcome_some hs, if_neg c1, if_neg c1, if_neg c2, if_neg c2]
          by_cases c3 : (decide ((window (sortTR (tombRange ix ke.key ++ [⟨lo, hi⟩]))).1 ≤ e0.MinTime) &&
            decide ((window (sortTR (tombRange ix ke.key ++ [⟨lo, hi⟩]))).2 ≥ eN.MaxTime)) = true <;>
          simp only [c3, Outcome.gone, Outcome.recorded, Option.map_some, Option.toList_some, if_true, if_false,
            Bool.false_eq_true]

theorem drLoop_eq (ix : Index) (lo hi : Int) (live : List KeyEntry) (hs : SortedKE live) :
    ∀ (keys : List Key) (acc : DRAcc), SortedK keys → (∀ p ∈ acc.tombs, ∀ ke ∈ live, p.1 ≠ ke.key) →
      drLoop ix lo hi live keys acc =
        { full := (goneKeys ix lo hi (live.filter fun ke => decide (ke.key ∈ keys))).reverse ++ acc.full,
          tombs := acc.tombs ++ recList ix lo hi (live.filter fun ke => decide (ke.key ∈ keys)) } := by
  induction live with
  | nil => intro keys acc _ _; simp [drLoop, goneKeys, recList]
  | cons ke rest ih =>
    intro keys acc hk hacc
    obtain ⟨hlt, hrest⟩ := List.pairwise_cons.mp hs
    have hc := cursor_mem hs keys
    have hk' : SortedK (keys.dropWhile (klt · ke.key)) := hk.sublist (List.dropWhile_sublist _)
    have hacc' : ∀ p ∈ acc.tombs, ∀ x ∈ rest, p.1 ≠ x.key :=
      fun p hp x hx => hacc p hp x (List.mem_cons_of_mem _ hx)
    rw [List.filter_congr (q := fun x => decide (x.key ∈ keys.dropWhile (klt · ke.key)))
      fun x hx => by simp only [hc x hx], drLoop]
    cases hd : keys.dropWhile (klt · ke.key) with
    | nil => rw [List.filter_eq_nil_iff.mpr fun x _ => by simp]; simp [goneKeys, recList]
    | cons k ks =>
      rw [hd] at hk'
      dsimp only
      by_cases heq : k = ke.key
      · subst heq
        have hf : rest.filter (fun x => decide (x.key ∈ ke.key :: ks)) = rest.filter (fun x => decide (x.key ∈ ks)) :=
          List.filter_congr fun x hx => by simp [(klt_ne (hlt x hx)).symm]
        rw [if_neg (fun h : ke.key ≠ ke.key => h rfl), drBody_outcome ix lo hi ke acc fun p hp => hacc p hp ke List.mem_cons_self,
          List.filter_cons_of_pos (by simp), hf, goneKeys_cons, recList_cons]
        dsimp only
        have hacc'' : ∀ p ∈ acc.tombs ++ ((outcome ix lo hi ke).recorded.map fun ts => (ke.key, ts)).toList,
            ∀ x ∈ rest, p.1 ≠ x.key := by
          intro p hp x hx
          rcases List.mem_append.mp hp with hp | hp
          · exact hacc' p hp x hx
          · cases hr : (outcome ix lo hi ke).recorded <;> simp [hr] at hp
            rw [hp]; exact klt_ne (hlt x hx)
        cases (outcome ix lo hi ke).gone
        · rw [if_neg (by simp), ih hrest _ _ hk' hacc'', hf]; simp
        · rw [if_pos rfl, ih hrest _ _ (List.pairwise_cons.mp hk').2 hacc'']; simp
      · rw [if_pos heq, ih hrest (k :: ks) acc hk' hacc',
          List.filter_cons_of_neg (by simpa using not_mem_of_le_head hk' (dropWhile_klt_head hd) heq)]

theorem sorted_key_inj {l : List KeyEntry} (hs : SortedKE l) {a b : KeyEntry} (ha : a ∈ l) (hb : b ∈ l)
    (h : a.key = b.key) : a = b := by
  induction l with
  | nil => cases ha
  | cons x l ih =>
    have hx := List.pairwise_cons.mp hs
    rcases List.mem_cons.mp ha with rfl | ha' <;> rcases List.mem_cons.mp hb with rfl | hb'
    · rfl
    · exact absurd h (klt_ne (hx.1 b hb'))
    · exact absurd h.symm (klt_ne (hx.1 a ha'))
    · exact ih hx.2 ha' hb'

theorem deleteRange_eq (ix : Index) (keys : List Key) (lo hi : Int) :
    deleteRange ix keys lo hi =
      if keys = [] then ix
      else if lo = minInt64 ∧ hi = maxInt64 then delete ix (sortKeys keys)
      else if lo > ix.maxTime ∨ hi < ix.minTime then ix
      else
        let acc := drLoop ix lo hi ix.live (sortKeys keys) {}
        let ix' := if acc.full.isEmpty then ix else delete ix acc.full.reverse
        { ix' with tombs := acc.tombs.foldl (fun m p => mapSet m p.1 p.2) ix'.tombs } := by
  unfold deleteRange
  simp only [List.isEmpty_iff, Bool.and_eq_true, Bool.or_eq_true, decide_eq_true_eq]

theorem deleteRange_all (ix : Index) (keys : List Key) (lo hi : Int) : (deleteRange ix keys lo hi).all = ix.all := by
  have hd := fun ks => (delete_fields ix ks).2.1
  rw [deleteRange_eq]
  by_cases hk : keys = []
  · rw [if_pos hk]
  rw [if_neg hk]
  by_cases hfull : lo = minInt64 ∧ hi = maxInt64
  · rw [if_pos hfull, hd]
  rw [if_neg hfull]
  by_cases hout : lo > ix.maxTime ∨ hi < ix.minTime
  · rw [if_pos hout]
  rw [if_neg hout]
  show (if _ then ix else delete ix _).all = ix.all
  split
  · rfl
  · exact hd _

theorem deleteRange_main (ix : Index) (h : IndexInv ix) (keys : List Key) (lo hi : Int)
    (hk : keys ≠ []) (hfull : ¬ (lo = minInt64 ∧ hi = maxInt64)) (hin : ¬ (lo > ix.maxTime ∨ hi < ix.minTime)) :
    let T := ix.live.filter fun ke => decide (ke.key ∈ keys)
    (deleteRange ix keys lo hi).live = ix.live.filter (fun ke => !decide (ke.key ∈ goneKeys ix lo hi T)) ∧
    (deleteRange ix keys lo hi).tombs = (recList ix lo hi T).foldl (fun m p => mapSet m p.1 p.2) ix.tombs ∧
    (deleteRange ix keys lo hi).all = ix.all ∧ (deleteRange ix keys lo hi).minKey = ix.minKey ∧
    (deleteRange ix keys lo hi).maxKey = ix.maxKey ∧ (deleteRange ix keys lo hi).minTime = ix.minTime ∧
    (deleteRange ix keys lo hi).maxTime = ix.maxTime := by
  intro T
  have hacc : drLoop ix lo hi ix.live (sortKeys keys) {} =
      { full := (goneKeys ix lo hi T).reverse, tombs := recList ix lo hi T } := by
    rw [drLoop_eq ix lo hi ix.live h.sortedLive _ _ (sortKeys_sorted keys) (fun _ hp => absurd hp List.not_mem_nil)]
    simp [mem_sortKeys, T]
  rw [deleteRange_eq, if_neg hk, if_neg hfull, if_neg hin, hacc]
  dsimp only
  by_cases hg : goneKeys ix lo hi T = []
  · rw [hg]
    exact ⟨(List.filter_eq_self.mpr fun x _ => by simp).symm, rfl, rfl, rfl, rfl, rfl, rfl⟩
  · obtain ⟨d1, d⟩ := delete_fields ix (goneKeys ix lo hi T)
    rw [if_neg (by simpa using hg), List.reverse_reverse]
    exact ⟨delete_live ix h _, by rw [d1], d⟩

end Influx.Tsm
