/-
  Lemmas.TsmSpecLookup — the checker's judgement of every index lookup on the model's answers,
  for an index freshly built from the written content.  `TimeRange()` equals the checker's
  min / max over all blocks because the checker's fold over the blocks and the index's scan over
  the keys move together, key by key.
-/
import Influx.Lemmas.TsmSpecFile

namespace Influx.Tsm
open Influx.Spec.C08 Influx.Generated.TsmLayout

def optMinStep (m : Option Int) (b : SBlock) : Option Int :=
  match m with
  | none => some b.minT
  | some x => some (if b.minT < x then b.minT else x)

def optMaxStep (m : Option Int) (b : SBlock) : Option Int :=
  match m with
  | none => some b.maxT
  | some x => some (if b.maxT > x then b.maxT else x)

structure TimeOK (c : List SKey) : Prop where
  ne : ∀ sk ∈ c, sk.blocks ≠ []
  sortedMin : ∀ sk ∈ c, sk.blocks.Pairwise fun a b => a.minT ≤ b.minT
  sortedMax : ∀ sk ∈ c, sk.blocks.Pairwise fun a b => a.maxT ≤ b.maxT
  int64 : ∀ sk ∈ c, ∀ b ∈ sk.blocks, minInt64 ≤ b.minT ∧ b.minT ≤ maxInt64 ∧ minInt64 ≤ b.maxT ∧ b.maxT ≤ maxInt64

/-- over the blocks of one key in min-time order only the first block moves the checker's minimum -/
theorem foldMin_blocks (l : List SBlock) (hs : l.Pairwise fun a b => a.minT ≤ b.minT) (x : Int) :
    l.foldl optMinStep (some x) = some (match l.head? with | some a => if a.minT < x then a.minT else x | none => x) := by
  induction l generalizing x with
  | nil => rfl
  | cons a l ih =>
    have ha := List.pairwise_cons.mp hs
    rw [List.foldl_cons, optMinStep, ih ha.2]
    cases l with
    | nil => rfl
    | cons b l =>
      have := ha.1 b List.mem_cons_self
      show some (if b.minT < (if a.minT < x then a.minT else x) then b.minT else _) = some (if a.minT < x then a.minT else x)
      by_cases h : a.minT < x
      · rw [if_pos h, if_neg (Int.not_lt.mpr this)]
      · rw [if_neg h, if_neg (Int.not_lt.mpr (Int.le_trans (Int.not_lt.mp h) this))]

/-- with non-decreasing max times only the last block moves the checker's maximum -/
theorem foldMax_blocks (l : List SBlock) (hs : l.Pairwise fun a b => a.maxT ≤ b.maxT) (x : Int) :
    l.foldl optMaxStep (some x) = some (match l.getLast? with | some z => if z.maxT > x then z.maxT else x | none => x) := by
  induction l generalizing x with
  | nil => rfl
  | cons a l ih =>
    have ha := List.pairwise_cons.mp hs
    rw [List.foldl_cons, optMaxStep, ih ha.2]
    cases l with
    | nil => rfl
    | cons b l =>
      rw [List.getLast?_cons_cons]
      cases hz : (b :: l).getLast? with
      | none => simp at hz
      | some z =>
        have := ha.1 z (List.mem_of_getLast? hz)
        show some (if z.maxT > (if a.maxT > x then a.maxT else x) then z.maxT else _) = some (if z.maxT > x then z.maxT else x)
        by_cases h : a.maxT > x
        · rw [if_pos h, if_pos (Int.lt_of_lt_of_le h this)]
          split
          · rfl
          · exact congrArg some (Int.le_antisymm this (Int.not_lt.mp ‹_›))
        · rw [if_neg h]

theorem foldMin_keys (c : List SKey) (hs : ∀ sk ∈ c, sk.blocks.Pairwise fun a b => a.minT ≤ b.minT) (x : Int) :
    (c.flatMap (·.blocks)).foldl optMinStep (some x) = some ((c.map toKE).foldl scanMinStep x) := by
  induction c generalizing x with
  | nil => rfl
  | cons sk c ih =>
    rw [List.flatMap_cons, List.foldl_append, foldMin_blocks _ (hs sk List.mem_cons_self),
      ih fun sk h => hs sk (List.mem_cons_of_mem _ h)]
    unfold scanMinStep toKE Spec.C08.entriesOf
    rw [List.map_cons, List.foldl_cons, List.head?_map]
    cases sk.blocks.head? <;> rfl

theorem foldMax_keys (c : List SKey) (hs : ∀ sk ∈ c, sk.blocks.Pairwise fun a b => a.maxT ≤ b.maxT) (x : Int) :
    (c.flatMap (·.blocks)).foldl optMaxStep (some x) = some ((c.map toKE).foldl scanMaxStep x) := by
  induction c generalizing x with
  | nil => rfl
  | cons sk c ih =>
    rw [List.flatMap_cons, List.foldl_append, foldMax_blocks _ (hs sk List.mem_cons_self),
      ih fun sk h => hs sk (List.mem_cons_of_mem _ h)]
    unfold scanMaxStep toKE Spec.C08.entriesOf
    rw [List.map_cons, List.foldl_cons, List.getLast?_map]
    cases sk.blocks.getLast? <;> rfl

/-- **TimeRange agrees with the content**: on int64 times the checker's start value `none` acts as the scan's
    `maxInt64` (`minInt64`) -/
theorem timerange_rel (c : List SKey) (hc : TimeOK c) (hne : c ≠ []) :
    contentMin c = some (scanMinTime (c.map toKE)) ∧ contentMax c = some (scanMaxTime (c.map toKE)) := by
  unfold scanMinTime scanMaxTime
  rw [← foldMin_keys c hc.sortedMin, ← foldMax_keys c hc.sortedMax]
  show (c.flatMap (·.blocks)).foldl optMinStep none = _ ∧ (c.flatMap (·.blocks)).foldl optMaxStep none = _
  cases c with
  | nil => exact absurd rfl hne
  | cons sk c =>
    cases hb : sk.blocks with
    | nil => exact absurd hb (hc.ne sk List.mem_cons_self)
    | cons a l =>
      have := hc.int64 sk List.mem_cons_self a (hb ▸ List.mem_cons_self)
      simp only [List.flatMap_cons, hb, List.cons_append, List.foldl_cons, optMinStep, optMaxStep]
      have e1 : (if a.minT < maxInt64 then a.minT else maxInt64) = a.minT :=
        ite_eq_left_iff.mpr fun h => Int.le_antisymm (Int.not_lt.mp h) this.2.1
      have e2 : (if a.maxT > minInt64 then a.maxT else minInt64) = a.maxT :=
        ite_eq_left_iff.mpr fun h => Int.le_antisymm this.2.2.1 (Int.not_lt.mp h)
      rw [e1, e2]
      exact ⟨rfl, rfl⟩

def isLookup : Op → Bool
  | .keycount | .keyat _ | .key _ | .seek _ | .contains _ | .entries _ | .typ _ | .keyrange
  | .containsvalue .. | .timerange | .overlapstime .. => true
  | _ => false

structure LCtx (c : List SKey) (kes : List KeyEntry) : Prop where
  rel : c.map toKE = kes
  sorted : c.Pairwise fun a b => klt a.key b.key = true
  ne : ∀ sk ∈ c, sk.blocks ≠ []
  nonempty : c ≠ []
  time : TimeOK c

structure SSt (sp : SS) (c : List SKey) : Prop where
  content : sp.content = some c
  abstain : sp.abstain = none
  opened : sp.opened = true
  reqs : sp.reqs = []
  pend : sp.pend = none

theorem present_true (sk : SKey) (h : sk.blocks ≠ []) : mayBeAbsent [] sk = false := by
  unfold mayBeAbsent spanOf
  cases hb : sk.blocks with
  | nil => exact absurd hb h
  | cons b bs =>
    have : (b :: bs).getLast? ≠ none := by simp
    obtain ⟨z, hz⟩ := Option.ne_none_iff_exists'.mp this
    simp [hz, fullyCovered, reqsFor, covers]

theorem gone_false (sk : SKey) : mustBeAbsent [] sk = false := by
  unfold mustBeAbsent
  cases spanOf sk with
  | none => rfl
  | some p => simp [reqsFor]

theorem LCtx.sortedKE {c : List SKey} {kes : List KeyEntry} (h : LCtx c kes) : SortedKE kes := by
  rw [← h.rel]
  unfold SortedKE
  rw [List.pairwise_map]
  exact h.sorted

theorem search_rel {c : List SKey} {kes : List KeyEntry} (h : LCtx c kes) (k : Key) :
    search (mkIndex kes) k = (findKey c k).map toKE := by
  rw [search_eq_find (mkIndex_inv kes h.sortedKE)]
  show kes.find? (fun ke => ke.key = k) = _
  rw [← h.rel, List.find?_map]
  rfl

theorem findKey_mem {c : List SKey} {k : Key} {sk : SKey} (h : findKey c k = some sk) : sk ∈ c ∧ sk.key = k := by
  unfold findKey at h
  exact ⟨List.mem_of_find?_eq_some h, by simpa using List.find?_some h⟩

theorem entriesOf_ne (sk : SKey) (h : sk.blocks ≠ []) : Spec.C08.entriesOf sk ≠ [] := by
  unfold Spec.C08.entriesOf
  cases hb : sk.blocks with
  | nil => exact absurd hb h
  | cons b bs => simp

theorem getElem_rel {c : List SKey} {kes : List KeyEntry} (h : LCtx c kes) (n : Nat) :
    kes[n]? = (c[n]?).map toKE := by
  rw [← h.rel]; simp

theorem rank_rel {c : List SKey} {kes : List KeyEntry} (h : LCtx c kes) (k : Key) :
    rank kes k = (c.filter fun sk => klt sk.key k).length := by
  rw [← h.rel]
  unfold rank
  rw [List.filter_map, List.length_map]
  rfl

theorem find_any_blocks (bs : List SBlock) (t : Int) :
    ((bs.map (·.entry)).find? (fun x => entryContains x t)).isSome =
      bs.any (fun b => decide (b.minT ≤ t) && decide (t ≤ b.maxT)) := by
  induction bs with
  | nil => rfl
  | cons b bs ih =>
    have e : entryContains b.entry t = (decide (b.minT ≤ t) && decide (t ≤ b.maxT)) := rfl
    rw [List.map_cons, List.find?_cons, List.any_cons, ← ih, e]
    cases (decide (b.minT ≤ t) && decide (t ≤ b.maxT)) <;> rfl

theorem lookup_step (s : State) (sp : SS) (i : Nat) (op : Op) (hop : isLookup op = true)
    (c : List SKey) (kes : List KeyEntry) (hc : LCtx c kes) (r : Reader) (hr : s.rdr = some r)
    (hix : r.ix = mkIndex kes) (hs : SSt sp c) :
    (step s op).1 = s ∧ stepS sp i op (step s op).2 = sp := by
  have hfilterP : c.filter (fun sk => !mayBeAbsent [] sk) = c :=
    List.filter_eq_self.mpr fun sk hsk => by rw [present_true sk (hc.ne sk hsk)]; rfl
  have hfilterG : c.filter (fun sk => !mustBeAbsent [] sk) = c :=
    List.filter_eq_self.mpr fun sk _ => by rw [gone_false sk]; rfl
  have hlen : kes.length = c.length := by rw [← hc.rel, List.length_map]
  have hlive : (mkIndex kes).live = kes := rfl
  have hp : ¬ (none : Option (List Req)).isSome = true := Bool.false_ne_true
  have hq : ([] : List Req).isEmpty = true := rfl
  -- with the fields the hypotheses fix substituted into both states, `step` and `stepS` reduce by
  -- computation: the unchanged state is `rfl`, and `need_true` / `if_pos` unify with the reduced
  -- judgement, leaving its Boolean test
  obtain ⟨ix, ts, batch⟩ := r
  cases s; cases sp
  obtain ⟨h1, h2, h3, h4, h5⟩ := hs
  subst hr h1 h2 h3 h4 h5 hix
  cases op with
  | keycount =>
    refine ⟨rfl, need_true _ _ _ _ ?_⟩
    dsimp only
    rw [hfilterP, hfilterG]
    show (decide ((c.length : Int) ≤ kes.length) && decide ((kes.length : Int) ≤ c.length)) = true
    rw [hlen]; simp
  | seek k =>
    refine ⟨rfl, if_pos ?_⟩
    show ((searchOffset (mkIndex kes) k : Int)) = _
    rw [searchOffset_eq_rank _ hc.sortedKE]; exact congrArg _ (rank_rel hc k)
  | keyat j | key j =>
    refine ⟨rfl, ?_⟩
    dsimp only [stepS, step, judgeRead, keyAt]
    rw [if_neg hp, if_pos hq, hlive]
    by_cases hj : j < 0
    · simp only [hj, if_true]
    · simp only [hj, if_false]
      rw [getElem_rel hc]
      cases c[j.toNat]? with
      | none => rfl
      | some sk => exact need_true _ _ _ _ (by simp [toKE])
  | contains k =>
    refine ⟨rfl, ?_⟩
    dsimp only [stepS, step, judgeRead, contains, Tsm.entriesOf]
    rw [if_neg hp, search_rel hc]
    cases hf : findKey c k with
    | none => exact need_true _ _ _ _ rfl
    | some sk =>
      have hne := entriesOf_ne sk (hc.ne sk (findKey_mem hf).1)
      refine need_true _ _ _ _ ?_
      simp only [Option.map_some, toKE]
      cases he : Spec.C08.entriesOf sk with
      | nil => exact absurd he hne
      | cons a l => simp [gone_false]
  | entries k =>
    refine ⟨rfl, ?_⟩
    dsimp only [stepS, step, judgeRead, Tsm.entriesOf]
    rw [if_neg hp, search_rel hc]
    cases hf : findKey c k with
    | none => exact need_true _ _ _ _ rfl
    | some sk =>
      have hne := entriesOf_ne sk (hc.ne sk (findKey_mem hf).1)
      simp only [Option.map_some, toKE]
      cases he : Spec.C08.entriesOf sk with
      | nil => exact absurd he hne
      | cons a l => simp [gone_false, need_true]
  | typ k =>
    refine ⟨rfl, ?_⟩
    dsimp only [stepS, step, judgeRead, typeOf]
    rw [if_neg hp, search_rel hc]
    cases hf : findKey c k with
    | none => rfl
    | some sk => simp [toKE, gone_false, need_true]
  | keyrange =>
    refine ⟨rfl, need_true _ _ _ _ ?_⟩
    show (decide (some ((kes.head?.map (·.key)).getD []) = c.head?.map (·.key)) &&
      decide (some ((kes.getLast?.map (·.key)).getD []) = c.getLast?.map (·.key))) = true
    rw [← hc.rel, List.head?_map, List.getLast?_map]
    cases hcc : c with
    | nil => exact absurd hcc hc.nonempty
    | cons a l =>
      cases hl : (a :: l).getLast? with
      | none => simp at hl
      | some z => simp [toKE]
  | timerange =>
    refine ⟨rfl, ?_⟩
    obtain ⟨t1, t2⟩ := timerange_rel c hc.time hc.nonempty
    rw [hc.rel] at t1 t2
    dsimp only [stepS, step, judgeRead]
    rw [if_neg hp, t1, t2]
    exact if_pos ⟨rfl, rfl⟩
  | overlapstime lo hi =>
    refine ⟨rfl, ?_⟩
    obtain ⟨t1, t2⟩ := timerange_rel c hc.time hc.nonempty
    rw [hc.rel] at t1 t2
    dsimp only [stepS, step, judgeRead]
    rw [if_neg hp, t1, t2]
    exact if_pos rfl
  | containsvalue k t =>
    refine ⟨rfl, need_true _ _ _ _ ?_⟩
    show decide (containsValue (mkIndex kes) k t = visible c [] k t) = true
    apply decide_eq_true
    have htr : tombRange (mkIndex kes) k = [] := rfl
    simp only [containsValue, entryOf, Tsm.entriesOf, search_rel hc, visible, reqsFor, List.filter_nil, covers,
      List.any_nil, Bool.not_false, Bool.and_true, htr]
    cases hf : findKey c k with
    | none => rfl
    | some sk =>
      simp only [Option.map_some, toKE, Spec.C08.entriesOf]
      rw [← find_any_blocks sk.blocks t]
      cases List.find? (fun x => entryContains x t) (List.map (fun x => x.entry) sk.blocks) <;> rfl
  | _ => cases hop

end Influx.Tsm
