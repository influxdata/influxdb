/-
  Lemmas.FieldOpen — loading the change log at any byte cut, what `openFields`
  (Engine.Open + LoadMetadataIndex) makes of the files, and the invariant of the
  persistent model state.
-/
import Influx.Lemmas.FieldReplay

namespace Influx.Fields

/-- every stored value has the type on record for its field -/
def Typed (mem : Schema) (d : Store) : Prop := ∀ e ∈ d, mem.lookup (e.1.1, e.1.2.2.1) = some e.2.1

theorem typed_congr {a b : Schema} (h : SEq a b) (d : Store) (ht : Typed a d) : Typed b d :=
  fun e he => (h _).symm.trans (ht e he)

theorem typed_nil_data (d : Store) (h : Typed [] d) : d = [] := by
  cases d with
  | nil => rfl
  | cons e es => exact nomatch h e List.mem_cons_self

theorem logLen_cons (r : ChangeSet) (rs : List ChangeSet) : logLen (r :: rs) = recordLen r + logLen rs :=
  List.sum_cons

theorem logLen_append (a b : List ChangeSet) : logLen (a ++ b) = logLen a + logLen b := by
  simp [logLen, List.sum_append]

theorem cutLog_full (recs : List ChangeSet) (n : Nat) (h : logLen recs ≤ n) : cutLog recs n = recs := by
  induction recs generalizing n with
  | nil => rfl
  | cons r rs ih =>
    rw [logLen_cons] at h
    rw [cutLog, if_pos (Nat.le_trans (Nat.le_add_right _ _) h), ih _ (Nat.le_sub_of_add_le' h)]

theorem cutLog_append (recs : List ChangeSet) (last : ChangeSet) (x : Nat) :
    cutLog (recs ++ [last]) (logLen recs + x) = if recordLen last ≤ x then recs ++ [last] else recs := by
  induction recs with
  | nil =>
    rw [List.nil_append, cutLog, show logLen [] + x = x from Nat.zero_add x]
    split <;> rfl
  | cons r rs ih =>
    rw [logLen_cons, List.cons_append, cutLog, Nat.add_assoc, if_pos (Nat.le_add_right _ _),
      Nat.add_sub_cancel_left, ih]
    split <;> rfl

theorem cutLog_prefix (recs : List ChangeSet) (n : Nat) : ∃ k, cutLog recs n = recs.take k := by
  fun_induction cutLog recs n with
  | case1 => exact ⟨0, rfl⟩
  | case2 r rs n _ ih => exact ⟨ih.choose + 1, congrArg (r :: ·) ih.choose_spec⟩
  | case3 => exact ⟨0, rfl⟩

/-- the snapshot `WriteToFile` leaves (no file for the empty set) reads back as the set -/
theorem snapshot_getD (s : Schema) : (if s.isEmpty then none else some s : Option Schema).getD [] = s := by
  cases s <;> rfl

theorem loadFields_spec (st : PState) (n : Nat) :
    (loadFields st n).mem = replay (st.idx.getD []) (cutLog (st.log.getD []) n).flatten ∧
    (loadFields st n).data = st.data ∧ (loadFields st n).series = st.series ∧
    (loadFields st n).idx.getD [] = (loadFields st n).mem ∧ (loadFields st n).log.getD [] = [] := by
  unfold loadFields
  split
  · next hl => rw [hl]; exact ⟨rfl, rfl, rfl, rfl, rfl⟩
  · next recs hl =>
    rw [hl, Option.getD_some]
    split
    · next hr => rw [List.isEmpty_iff.1 hr]; exact ⟨rfl, rfl, rfl, rfl, rfl⟩
    · exact ⟨rfl, rfl, rfl, snapshot_getD _, rfl⟩

/-- `LoadMetadataIndex` on a loaded state whose stored values are on record
    changes nothing: an empty field set means there is no data to rebuild from -/
theorem loadMetadataIndex_spec (st : PState) (hT : Typed st.mem st.data)
    (h4 : st.idx.getD [] = st.mem) (h5 : st.log.getD [] = []) :
    ∃ st', loadMetadataIndex st = some st' ∧ st'.mem = st.mem ∧ st'.data = st.data ∧
      st'.series = st.series ∧ st'.idx.getD [] = st'.mem ∧ st'.log.getD [] = [] := by
  unfold loadMetadataIndex
  split
  · next he =>
    have hnil : st.mem = [] := List.isEmpty_iff.1 he
    rw [typed_nil_data st.data (hnil ▸ hT)]
    exact ⟨_, rfl, hnil.symm, rfl, rfl, rfl, rfl⟩
  · exact ⟨st, rfl, rfl, rfl, rfl, h4, h5⟩

theorem openFields_spec (st : PState) (n : Nat)
    (hT : Typed (replay (st.idx.getD []) (cutLog (st.log.getD []) n).flatten) st.data) :
    ∃ st', openFields st n = some st' ∧
      st'.mem = replay (st.idx.getD []) (cutLog (st.log.getD []) n).flatten ∧
      st'.data = st.data ∧ st'.series = st.series ∧
      st'.idx.getD [] = st'.mem ∧ st'.log.getD [] = [] := by
  obtain ⟨h1, h2, h3, h4, h5⟩ := loadFields_spec st n
  obtain ⟨st', g0, g1, g2, g3, g4, g5⟩ := loadMetadataIndex_spec (loadFields st n) (by rw [h1, h2]; exact hT) h4 h5
  exact ⟨st', g0, g1.trans h1, g2.trans h2, g3.trans h3, g4, g5⟩

theorem visible_typed (mem : Schema) (d : Store) (h : Typed mem d) : visible mem d = some d := by
  have h1 : d.any (mistyped mem) = false :=
    List.any_eq_false.2 fun e he => by rw [mistyped, h e he]; exact fun hh => bne_iff_ne.1 hh rfl
  rw [visible, h1, if_neg Bool.false_ne_true, List.filter_eq_self.2 fun e he => by rw [h e he]; rfl]

structure PInv (st : PState) : Prop where
  ndMem : ND st.mem
  ndIdx : ND (st.idx.getD [])
  ndData : (st.data.map (·.1)).Nodup
  typed : Typed st.mem st.data
  /-- the files always reconstruct the in-memory field set -/
  disk : SEq (replay (st.idx.getD []) (st.log.getD []).flatten) st.mem
  /-- every measurement that has stored values has a series in the index -/
  seriesOK : ∀ e ∈ st.data, st.series.contains e.1.1 = true

theorem pinv_init : PInv {} :=
  ⟨List.nodup_nil, List.nodup_nil, List.nodup_nil, fun _ he => (nomatch he), fun _ => rfl, fun _ he => (nomatch he)⟩

theorem seen_eq (st : PState) (h : PInv st) : seen st = { sch := st.mem, store := some st.data } := by
  rw [seen, visible_typed _ _ h.typed]

theorem reopen_inv (mk : Bool → Seen → Step10) (stc : PState) (n : Nat) (target : Schema)
    (hIdx : ND (stc.idx.getD [])) (hData : (stc.data.map (·.1)).Nodup)
    (hSer : ∀ e ∈ stc.data, stc.series.contains e.1.1 = true)
    (hseq : SEq (replay (stc.idx.getD []) (cutLog (stc.log.getD []) n).flatten) target)
    (hT : Typed target stc.data) :
    ∃ st', reopened mk stc n = (st', mk true { sch := st'.mem, store := some st'.data }) ∧
      PInv st' ∧ SEq st'.mem target ∧ st'.data = stc.data := by
  obtain ⟨st', h0, h1, h2, h3, h4, h5⟩ := openFields_spec stc n (typed_congr hseq.symm _ hT)
  have hnd : ND st'.mem := h1 ▸ nd_replay _ _ hIdx
  have hs : SEq st'.mem target := h1 ▸ hseq
  have hI' : PInv st' := ⟨hnd, h4 ▸ hnd, h2 ▸ hData, h2 ▸ typed_congr hs.symm _ hT,
    by rw [h4, h5]; exact SEq.refl _, by rw [h2, h3]; exact hSer⟩
  refine ⟨st', ?_, hI', hs, h2⟩
  rw [reopened, h0]
  exact congrArg (fun o => (st', mk true o)) (seen_eq st' hI')

end Influx.Fields
