/-
  Lemmas.TenantInv — the invariant of the tenant store model and what one operation does to
  it: `Step gone s s'` says that `s'` satisfies the invariant and still holds every bucket
  record of `s` outside `gone`.  Every operation of the model is a `Step`.
-/
import Influx.Lemmas.TenantKV

namespace Influx.Tenant
open KV

/-- an index bucket `idx` (key ↦ id) agrees with a record bucket `recs` (id ↦ record) under the
    key function `key`: every entry points to a record with that key, every record is entered -/
structure IdxOK {κ ρ : Type} [DecidableEq κ] (key : ρ → κ) (recs : List (Nat × ρ)) (idx : List (κ × Nat)) : Prop where
  sound : ∀ k id, get idx k = some id → ∃ r, get recs id = some r ∧ key r = k
  complete : ∀ id r, get recs id = some r → get idx (key r) = some id

section
variable {κ ρ : Type} [DecidableEq κ] {key : ρ → κ} {recs : List (Nat × ρ)} {idx : List (κ × Nat)}

theorem IdxOK.unique (h : IdxOK key recs idx) {i j : Nat} {r r' : ρ}
    (hi : get recs i = some r) (hj : get recs j = some r') (e : key r = key r') : i = j := by
  have a := h.complete i r hi
  have b := h.complete j r' hj
  rw [e] at a; rw [a] at b; exact Option.some.inj b

theorem IdxOK.insert (h : IdxOK key recs idx) {id : Nat} {r : ρ}
    (fresh : get recs id = none) (free : get idx (key r) = none) :
    IdxOK key (put recs id r) (put idx (key r) id) := by
  constructor
  · intro k i hk
    rw [get_put] at hk
    by_cases e : key r = k
    · rw [if_pos e] at hk; cases hk; exact ⟨r, get_put_self _ _ _, e⟩
    · rw [if_neg e] at hk
      obtain ⟨r', hr', hk'⟩ := h.sound k i hk
      exact ⟨r', (get_put_ne _ _ fun c => by rw [c, hr'] at fresh; cases fresh).trans hr', hk'⟩
  · intro i r' hr'
    rw [get_put] at hr'
    by_cases e : id = i
    · rw [if_pos e] at hr'; cases hr'; exact e ▸ get_put_self _ _ _
    · rw [if_neg e] at hr'
      have hc := h.complete i r' hr'
      exact (get_put_ne _ _ fun c => by rw [c, hc] at free; cases free).trans hc

theorem IdxOK.remove (h : IdxOK key recs idx) {id : Nat} {r : ρ} (hr : get recs id = some r) :
    IdxOK key (del recs id) (del idx (key r)) := by
  constructor
  · intro k i hk
    rw [get_del] at hk
    by_cases e : key r = k
    · rw [if_pos e] at hk; cases hk
    · rw [if_neg e] at hk
      obtain ⟨r', hr', hk'⟩ := h.sound k i hk
      exact ⟨r', (get_del_ne _ fun c => by rw [c, hr'] at hr; cases hr; exact e hk').trans hr', hk'⟩
  · intro i r' hr'
    rw [get_del] at hr'
    by_cases e : id = i
    · rw [if_pos e] at hr'; cases hr'
    · rw [if_neg e] at hr'
      exact (get_del_ne _ fun c => e (h.unique hr hr' c)).trans (h.complete i r' hr')

/-- a rename is a removal followed by an insertion under the same id -/
theorem IdxOK.rekey (h : IdxOK key recs idx) {id : Nat} {old new : ρ} (hr : get recs id = some old)
    (free : get idx (key new) = none) :
    IdxOK key (put recs id new) (put (del idx (key old)) (key new) id) := by
  rw [← put_del_self recs]
  refine (h.remove hr).insert (get_del_self _ _) ?_
  rw [get_del, free, ite_self]

/-- a record bucket with its name index: in agreement, and neither holds a key twice -/
structure Table (key : ρ → κ) (recs : List (Nat × ρ)) (idx : List (κ × Nat)) : Prop extends IdxOK key recs idx where
  wfRecs : WF recs
  wfIdx : WF idx

theorem Table.insert (h : Table key recs idx) {id : Nat} {r : ρ}
    (fresh : get recs id = none) (free : get idx (key r) = none) : Table key (put recs id r) (put idx (key r) id) :=
  ⟨h.toIdxOK.insert fresh free, wf_put h.wfRecs _ _, wf_put h.wfIdx _ _⟩

theorem Table.remove (h : Table key recs idx) {id : Nat} {r : ρ} (hr : get recs id = some r) :
    Table key (del recs id) (del idx (key r)) :=
  ⟨h.toIdxOK.remove hr, wf_del h.wfRecs _, wf_del h.wfIdx _⟩

theorem Table.rekey (h : Table key recs idx) {id : Nat} {old new : ρ} (hr : get recs id = some old)
    (free : get idx (key new) = none) : Table key (put recs id new) (put (del idx (key old)) (key new) id) :=
  ⟨h.toIdxOK.rekey hr free, wf_put h.wfRecs _ _, wf_put (wf_del h.wfIdx _) _ _⟩

end

/-- The invariant: the three name indexes agree with their record buckets, no kv bucket
    holds a key twice, and every bucket belongs to an existing organization. -/
structure Inv (s : State) : Prop where
  org : Table orgKey s.orgs s.orgIdx
  user : Table (fun n : String => n) s.users s.userIdx
  bkt : Table (fun b : BucketRec => (b.org, b.name)) s.bkts s.bktIdx
  wfUrms : WF s.urms
  wfUrmIdx : WF s.urmIdx
  orphan : ∀ id b, get s.bkts id = some b → has s.orgs b.org = true

theorem init_inv : Inv init :=
  have e {κ ρ : Type} [DecidableEq κ] (key : ρ → κ) : Table key [] [] := ⟨⟨nofun, nofun⟩, wf_nil, wf_nil⟩
  ⟨e _, e _, e _, wf_nil, wf_nil, nofun⟩

/-- the name tables of a state: what the invariant speaks of besides the mappings -/
def names (s : State) :=
  (s.orgs, s.orgIdx, s.bkts, s.bktIdx, s.users, s.userIdx)

theorem Inv.of_same {s t : State} (h : Inv s) (e : names t = names s) (w1 : WF t.urms) (w2 : WF t.urmIdx) : Inv t := by
  simp only [names, Prod.mk.injEq] at e
  obtain ⟨e1, e2, e3, e4, e5, e6⟩ := e
  constructor
  · rw [e1, e2]; exact h.org
  · rw [e5, e6]; exact h.user
  · rw [e3, e4]; exact h.bkt
  · exact w1
  · exact w2
  · rw [e1, e3]; exact h.orphan

/-- what one operation leaves behind: the invariant, and every bucket record outside `gone` -/
structure Step (gone : BucketRec → Prop) (s s' : State) : Prop where
  inv : Inv s'
  kept : ∀ id b, get s.bkts id = some b → ¬ gone b → get s'.bkts id = some b

variable {gone : BucketRec → Prop} {s : State}

theorem Step.refl (h : Inv s) : Step gone s s := ⟨h, fun _ _ hb _ => hb⟩

theorem Step.trans {s₁ s₂ : State} (a : Step gone s s₁) (b : Step gone s₁ s₂) : Step gone s s₂ :=
  ⟨b.inv, fun id r hr hg => b.kept id r (a.kept id r hr hg) hg⟩

theorem Step.weaken {gone' : BucketRec → Prop} {s' : State} (a : Step gone s s') (w : ∀ b, gone b → gone' b) :
    Step gone' s s' :=
  ⟨a.inv, fun id r hr hg => a.kept id r hr fun c => hg (w r c)⟩

theorem Step.of_same {t : State} (h : Inv s) (e : names t = names s) (w1 : WF t.urms) (w2 : WF t.urmIdx) :
    Step gone s t :=
  ⟨h.of_same e w1 w2, fun _ _ hb _ => (congrArg (·.2.2.1) e : t.bkts = s.bkts) ▸ hb⟩

theorem Step.ite {α : Type} {c : Prop} [Decidable c] {a b : Res α} (ha : c → Step gone s a.1) (hb : ¬ c → Step gone s b.1) :
    Step gone s (if c then a else b).1 := by
  by_cases h : c
  · rw [if_pos h]; exact ha h
  · rw [if_neg h]; exact hb h

theorem Step.guard {α : Type} {c : Prop} [Decidable c] {x : Except Err α} {b : Res α} (h : Inv s)
    (hb : ¬ c → Step gone s b.1) : Step gone s (if c then (s, x) else b).1 :=
  .ite (fun _ => .refl h) hb

theorem deleteURMRaw_step (h : Inv s) (k : Nat × Nat) : Step gone s (deleteURMRaw s k) :=
  .of_same h rfl (wf_del h.wfUrms _) (wf_del h.wfUrmIdx _)

theorem foldl_deleteURMRaw_step (l : List (Nat × Nat)) (h : Inv s) : Step gone s (l.foldl deleteURMRaw s) := by
  induction l generalizing s with
  | nil => exact .refl h
  | cons k l ih => exact (deleteURMRaw_step h k).trans (ih (deleteURMRaw_step (gone := gone) h k).inv)

theorem createURM_step (h : Inv s) (res user : Nat) (r : UrmRec) : Step gone s (createURM s res user r).1 := by
  refine .guard h fun _ => .guard h fun _ => .guard h fun _ =>
    .guard h fun _ => ?_
  exact .of_same h rfl (wf_put h.wfUrms _ _) (wf_put h.wfUrmIdx _ _)

theorem deleteURM_step (h : Inv s) (res user : Nat) : Step gone s (deleteURM s res user).1 :=
  .guard h fun _ => .guard h fun _ => deleteURMRaw_step h _

theorem removeResourceRelations_step (h : Inv s) (r : Nat) : Step gone s (removeResourceRelations s r) :=
  foldl_deleteURMRaw_step _ h

theorem foldl_deleteURMRaw_urms (l : List (Nat × Nat)) (s : State) (k : Nat × Nat) :
    get (l.foldl deleteURMRaw s).urms k = if k ∈ l then none else get s.urms k := by
  induction l generalizing s with
  | nil => simp
  | cons k' l ih =>
    rw [List.foldl_cons, ih]
    by_cases h : k ∈ l
    · simp [h]
    · simp only [h, ↓reduceIte, List.mem_cons, or_false]
      simp only [deleteURMRaw, get_del]
      by_cases e : k' = k
      · simp [e]
      · have : ¬ k = k' := fun c => e c.symm
        simp [e, this]

theorem removeResourceRelations_none (s : State) (r : Nat) (k : Nat × Nat) (hk : k.1 = r) :
    get (removeResourceRelations s r).urms k = none := by
  unfold removeResourceRelations
  rw [foldl_deleteURMRaw_urms]
  split
  · rfl
  · rename_i hn
    cases e : get s.urms k with
    | none => rfl
    | some v =>
      exfalso; apply hn
      exact List.mem_map.mpr ⟨(k, v), List.mem_filter.mpr ⟨mem_of_get e, by simp [hk]⟩, rfl⟩

theorem removeResourceRelations_urms_mono (s : State) (r : Nat) (k : Nat × Nat) (v : UrmRec)
    (h : get (removeResourceRelations s r).urms k = some v) : get s.urms k = some v := by
  unfold removeResourceRelations at h
  rw [foldl_deleteURMRaw_urms] at h
  split at h
  · cases h
  · exact h

theorem genSafe_ok {used : Nat → Bool} {fuel next id n' : Nat}
    (h : genSafe used fuel next = (.ok id, n')) : ¬ used id = true := by
  induction fuel generalizing next with
  | zero => cases h
  | succ f ih =>
    unfold genSafe at h
    by_cases h0 : next = 0
    · rw [if_pos h0] at h; cases h
    · rw [if_neg h0] at h
      by_cases hu : used next = true
      · rw [if_pos hu] at h; exact ih h
      · rw [if_neg hu] at h; cases h; exact hu

theorem orphan_put {orgs : List (Nat × String)} {bkts : List (Nat × BucketRec)} {id : Nat} {b : BucketRec}
    (h : ∀ id b, get bkts id = some b → has orgs b.org = true) (hb : has orgs b.org = true) :
    ∀ id' b', get (put bkts id b) id' = some b' → has orgs b'.org = true := by
  intro id' b' hg
  rw [get_put] at hg
  by_cases e : id = id'
  · rw [if_pos e] at hg; cases hg; exact hb
  · rw [if_neg e] at hg; exact h _ _ hg

theorem createOrgStore_step (h : Inv s) (name : String) : Step gone s (createOrgStore s name).1 := by
  unfold createOrgStore
  have hs : Step gone s { s with nextOrg := (genSafe (has s.orgs) maxIDGenerationN s.nextOrg).2 } :=
    .of_same h rfl h.wfUrms h.wfUrmIdx
  generalize hg : genSafe (has s.orgs) maxIDGenerationN s.nextOrg = g at hs ⊢
  obtain ⟨_ | id, n'⟩ := g
  · exact hs
  · refine .ite (fun _ => hs) fun _ => .ite (fun _ => hs) fun hfree => ⟨?_, hs.kept⟩
    exact { hs.inv with
      org := h.org.insert (get_of_not_has (genSafe_ok hg)) (get_of_not_has hfree)
      orphan := fun i b hb => has_put_of_has (h.orphan i b hb) _ _ }

theorem createBucketStore_step (h : Inv s) {org : Nat} (ho : has s.orgs org = true) (name : String) (sys : Bool) :
    Step gone s (createBucketStore s org name sys).1 := by
  unfold createBucketStore
  have hs : Step gone s { s with nextBkt := (genSafe (has s.bkts) maxIDGenerationN s.nextBkt).2 } :=
    .of_same h rfl h.wfUrms h.wfUrmIdx
  generalize hg : genSafe (has s.bkts) maxIDGenerationN s.nextBkt = g at hs ⊢
  obtain ⟨_ | id, n'⟩ := g
  · exact hs
  · have fresh := get_of_not_has (genSafe_ok hg)
    refine .ite (fun _ => hs) fun hfree => ⟨?_, fun i b hb _ => ?_⟩
    · exact { hs.inv with
        bkt := h.bkt.insert (r := ⟨org, name, sys⟩) fresh (get_of_not_has hfree)
        orphan := orphan_put h.orphan ho }
    · have : id ≠ i := fun c => by rw [c, hb] at fresh; cases fresh
      exact (get_put_ne _ _ this).trans hb

theorem createBucket_step (h : Inv s) (org : Nat) (name : String) (sys : Bool) :
    Step gone s (createBucket s org name sys).1 :=
  .guard h fun _ => .guard h fun _ => .guard h fun ho =>
    createBucketStore_step h (by simpa using ho) name sys

theorem createOrganization_step (h : Inv s) (name : String) (u : Nat) :
    Step gone s (createOrganization s name u).1 := by
  unfold createOrganization
  have h1 := createOrgStore_step (gone := gone) h name
  generalize createOrgStore s name = r at h1 ⊢
  obtain ⟨s1, e | id⟩ := r
  · exact h1
  dsimp only
  have h2 := h1.trans (createBucket_step h1.inv id "_tasks" true)
  generalize createBucket s1 id "_tasks" true = r at h2 ⊢
  obtain ⟨s2, e | _⟩ := r
  · exact h2
  dsimp only
  have h3 := h2.trans (createBucket_step h2.inv id "_monitoring" true)
  generalize createBucket s2 id "_monitoring" true = r at h3 ⊢
  obtain ⟨s3, e | _⟩ := r
  · exact h3
  dsimp only
  refine .ite (fun _ => h3) fun _ => ?_
  have h4 := h3.trans (createURM_step h3.inv id u ⟨true, true⟩)
  generalize createURM s3 id u ⟨true, true⟩ = r at h4 ⊢
  obtain ⟨s4, e | _⟩ := r <;> exact h4

theorem createUser_step (h : Inv s) (name : String) (id : Nat) : Step gone s (createUser s name id).1 := by
  unfold createUser
  have hp : Step gone s (if id = 0 then (s.nextUser, { s with nextUser := s.nextUser + 1 }) else (id, s)).2 := by
    by_cases h0 : id = 0
    · rw [if_pos h0]; exact .of_same h rfl h.wfUrms h.wfUrmIdx
    · rw [if_neg h0]; exact .refl h
  generalize (if id = 0 then (s.nextUser, { s with nextUser := s.nextUser + 1 }) else (id, s)) = p at hp ⊢
  obtain ⟨id', s'⟩ := p
  have h' := hp.inv
  refine hp.trans (.guard h' fun _ => .guard h' fun hn => .guard h' fun hi =>
    ⟨?_, fun _ _ hb _ => hb⟩)
  exact { h' with user := h'.user.insert (key := fun n : String => n) (get_of_not_has hi) (get_of_not_has hn) }

theorem updateOrganization_step (h : Inv s) (id : Nat) (name : Option String) :
    Step gone s (updateOrganization s id name).1 := by
  unfold updateOrganization
  refine .guard h fun _ => ?_
  rcases hold : get s.orgs id with _ | old
  · exact .refl h
  rcases name with _ | n
  · exact .refl h
  refine .guard h fun _ => .guard h fun _ => .guard h fun hfree =>
    ⟨?_, fun _ _ hb _ => hb⟩
  exact { h with
    org := h.org.rekey hold (get_of_not_has hfree)
    orphan := fun i b hb => has_put_of_has (h.orphan i b hb) _ _ }

/-- `UpdateBucket` changes no system bucket: it refuses to rename one -/
theorem updateBucket_step (h : Inv s) (x : Nat) (name : Option String) :
    Step (fun b => b.sys = false) s (updateBucket s x name).1 := by
  unfold updateBucket
  refine .guard h fun _ => ?_
  rcases hb : get s.bkts x with _ | b
  · exact .refl h
  rcases name with _ | n
  · exact .refl h
  refine .guard h fun _ => .guard h fun hsys => .guard h fun _ =>
    .guard h fun hfree => ⟨?_, fun i r hr hg => ?_⟩
  · exact { h with
      bkt := h.bkt.rekey (new := { b with name := n }) hb (get_of_not_has hfree)
      orphan := orphan_put h.orphan (h.orphan x b hb) }
  · have : x ≠ i := fun c => by rw [c, hr] at hb; cases hb; exact hg (by simpa using hsys)
    exact (get_put_ne _ _ this).trans hr

theorem updateUser_step (h : Inv s) (id : Nat) (name : Option String) : Step gone s (updateUser s id name).1 := by
  unfold updateUser
  refine .guard h fun _ => ?_
  rcases hold : get s.users id with _ | old
  · exact .refl h
  rcases name with _ | n
  · exact .refl h
  refine .guard h fun _ => .guard h fun hfree => ⟨?_, fun _ _ hb _ => hb⟩
  exact { h with user := h.user.rekey (key := fun n : String => n) hold (get_of_not_has hfree) }

theorem deleteUser_step (h : Inv s) (id : Nat) : Step gone s (deleteUser s id).1 := by
  unfold deleteUser
  refine .guard h fun _ => ?_
  rcases hn : get s.users id with _ | n
  · exact .refl h
  have h1 : Step gone s { s with userIdx := del s.userIdx n, users := del s.users id } :=
    ⟨{ h with user := h.user.remove (key := fun n : String => n) hn }, fun _ _ hb _ => hb⟩
  exact h1.trans (foldl_deleteURMRaw_step _ h1.inv)

theorem removeResourceRelations_bkts (s : State) (r : Nat) : (removeResourceRelations s r).bkts = s.bkts := by
  unfold removeResourceRelations
  generalize (s.urms.filter fun e => e.1.1 = r).map (·.1) = l
  induction l generalizing s with
  | nil => rfl
  | cons k l ih => exact ih (deleteURMRaw s k)

theorem deleteBucket_spec (h : Inv s) (x : Nat) (internal : Bool) :
    Inv (deleteBucket s x internal).1 ∧
    (((deleteBucket s x internal).1.bkts = s.bkts ∧ ∃ e, (deleteBucket s x internal).2 = .error e) ∨
     ((deleteBucket s x internal).1.bkts = del s.bkts x ∧ (deleteBucket s x internal).2 = .ok () ∧
        ∃ b, get s.bkts x = some b ∧ (b.sys = true → internal = true))) := by
  unfold deleteBucket
  by_cases h0 : x = 0
  · rw [if_pos h0]; exact ⟨h, .inl ⟨rfl, _, rfl⟩⟩
  rw [if_neg h0]
  rcases hb : get s.bkts x with _ | b
  · exact ⟨h, .inl ⟨rfl, _, rfl⟩⟩
  dsimp only
  by_cases hs : (b.sys && !internal) = true
  · rw [if_pos hs]; exact ⟨h, .inl ⟨rfl, _, rfl⟩⟩
  rw [if_neg hs]
  refine ⟨(removeResourceRelations_step (gone := fun _ => False) ?_ x).inv,
    .inr ⟨removeResourceRelations_bkts _ x, rfl, b, rfl, fun c => by simpa [c] using hs⟩⟩
  exact { h with
    bkt := h.bkt.remove hb
    orphan := fun i r hr => h.orphan i r (get_of_get_del hr) }

/-- the system-bucket guard of `DeleteBucket` -/
theorem deleteBucket_step (h : Inv s) (x : Nat) : Step (fun b => b.sys = false) s (deleteBucket s x false).1 := by
  obtain ⟨hi, ⟨e, _⟩ | ⟨e, _, b, hb, hsys⟩⟩ := deleteBucket_spec h x false
  · exact ⟨hi, fun _ _ hr _ => e ▸ hr⟩
  · refine ⟨hi, fun i r hr hg => ?_⟩
    have : x ≠ i := fun c => by
      rw [c, hr] at hb; cases hb
      exact hg (Bool.eq_false_iff.mpr fun hs => Bool.noConfusion (hsys hs))
    rw [e, get_del_ne _ this]; exact hr

theorem deleteBuckets_spec (l : List Nat) (h : Inv s) :
    Inv (deleteBuckets s l).1 ∧
    (∀ i, get (deleteBuckets s l).1.bkts i = get s.bkts i ∨ i ∈ l ∧ get (deleteBuckets s l).1.bkts i = none) ∧
    ∀ u, (deleteBuckets s l).2 = .ok u → ∀ x ∈ l, get (deleteBuckets s l).1.bkts x = none := by
  induction l generalizing s with
  | nil => exact ⟨h, fun _ => .inl rfl, fun _ _ _ hx => nomatch hx⟩
  | cons x l ih =>
    unfold deleteBuckets
    obtain ⟨h1, hx⟩ := deleteBucket_spec h x true
    generalize deleteBucket s x true = r at h1 hx ⊢
    obtain ⟨s1, e | u⟩ := r
    · obtain ⟨e1, _⟩ | ⟨_, c, _⟩ := hx
      · exact ⟨h1, fun i => .inl (by rw [e1]), nofun⟩
      · cases c
    · obtain ⟨_, _, c⟩ | ⟨e1, _⟩ := hx
      · cases c
      obtain ⟨h2, hpt, hgone⟩ := ih h1
      have hpt' : ∀ i, get (deleteBuckets s1 l).1.bkts i = get s.bkts i ∨
          i ∈ x :: l ∧ get (deleteBuckets s1 l).1.bkts i = none := fun i => by
        obtain e | ⟨hm, e⟩ := hpt i
        · by_cases c : x = i
          · exact .inr ⟨c ▸ List.mem_cons_self, by rw [e, e1, c, get_del_self]⟩
          · exact .inl (by rw [e, e1, get_del_ne _ c])
        · exact .inr ⟨List.mem_cons_of_mem _ hm, e⟩
      refine ⟨h2, hpt', fun u hu y hy => ?_⟩
      obtain rfl | hy := List.mem_cons.mp hy
      · obtain e | ⟨_, e⟩ := hpt y
        · rw [e, e1, get_del_self]
        · exact e
      · exact hgone u hu y hy

/-- the ids `listBucketsByOrg` reads from the index are exactly the buckets of that organization -/
theorem mem_bucketIdsOfOrg (h : Inv s) {org x : Nat} :
    x ∈ bucketIdsOfOrg s org ↔ ∃ b, get s.bkts x = some b ∧ b.org = org := by
  constructor
  · intro hx
    obtain ⟨⟨⟨o, n⟩, x'⟩, hm, rfl⟩ := List.mem_map.mp hx
    obtain ⟨hm, ho⟩ := List.mem_filter.mp hm
    obtain ⟨b, hb, hk⟩ := h.bkt.sound (o, n) x' (get_of_mem h.bkt.wfIdx hm)
    exact ⟨b, hb, (congrArg Prod.fst hk).trans (of_decide_eq_true ho)⟩
  · rintro ⟨b, hb, rfl⟩
    exact List.mem_map.mpr ⟨((b.org, b.name), x),
      List.mem_filter.mpr ⟨mem_of_get (h.bkt.complete x b hb), decide_eq_true rfl⟩, rfl⟩

/-- no bucket of `org`, no membership on `org` -/
def Casc (s : State) (org : Nat) : Prop :=
  (∀ id b, get s.bkts id = some b → b.org ≠ org) ∧ (∀ k, k.1 = org → get s.urms k = none)

/-- `DeleteOrganization org` keeps the invariant and the buckets of every other organization;
    when it succeeds, no bucket of `org` and no membership on `org` is left (**cascade**) -/
theorem deleteOrganization_spec (h : Inv s) (org : Nat) :
    Step (fun b => b.org = org) s (deleteOrganization s org).1 ∧
    ∀ r, (deleteOrganization s org).2 = .ok r → Casc (deleteOrganization s org).1 org := by
  unfold deleteOrganization
  by_cases h0 : org = 0
  · rw [if_pos h0]; exact ⟨.refl h, nofun⟩
  rw [if_neg h0]
  dsimp only
  by_cases hany : ((bucketIdsOfOrg s org).any fun b => !has s.bkts b) = true
  · rw [if_pos hany]; exact ⟨.refl h, nofun⟩
  rw [if_neg hany]
  obtain ⟨h1, hpt, hgone⟩ := deleteBuckets_spec (bucketIdsOfOrg s org) h
  generalize deleteBuckets s (bucketIdsOfOrg s org) = r1 at h1 hpt hgone ⊢
  -- only listed records were touched, and those belong to `org`
  have hk : ∀ i b, get s.bkts i = some b → ¬ b.org = org → get r1.1.bkts i = some b := fun i b hb hne => by
    obtain e | ⟨hm, _⟩ := hpt i
    · rw [e, hb]
    · obtain ⟨b', hb', ho⟩ := (mem_bucketIdsOfOrg h).mp hm
      rw [hb] at hb'; cases hb'; exact absurd ho hne
  obtain ⟨s1, e | u⟩ := r1
  · exact ⟨⟨h1, hk⟩, nofun⟩
  dsimp only at h1 hpt hgone hk ⊢
  -- every record left was there before; had it been of `org` it would have been listed and removed
  have hc : ∀ i b, get s1.bkts i = some b → b.org ≠ org := fun i b hb ho => by
    have hb0 : get s.bkts i = some b := by
      obtain e | ⟨_, e⟩ := hpt i
      · rw [← e, hb]
      · rw [e] at hb; cases hb
    rw [hgone u rfl i ((mem_bucketIdsOfOrg h).mpr ⟨b, hb0, ho⟩)] at hb; cases hb
  unfold deleteOrgStore
  rcases hn : get s1.orgs org with _ | n
  · exact ⟨⟨h1, hk⟩, nofun⟩
  dsimp only
  have h2 : Inv { s1 with orgIdx := del s1.orgIdx (orgKey n), orgs := del s1.orgs org } :=
    { h1 with
      org := h1.org.remove hn
      orphan := fun i b hb => by rw [has_del_ne _ (hc i b hb).symm]; exact h1.orphan i b hb }
  have h3 := removeResourceRelations_step (gone := fun b => b.org = org) h2 org
  refine ⟨⟨h3.inv, fun i b hb hne => h3.kept i b (hk i b hb hne) hne⟩, fun _ _ => ⟨fun i b hb => hc i b ?_, ?_⟩⟩
  · rwa [removeResourceRelations_bkts] at hb
  · exact removeResourceRelations_none _ org

section
variable {κ ρ : Type} [DecidableEq κ] {key : ρ → κ} {recs : List (Nat × ρ)} {idx : List (κ × Nat)}

/-- the common shape of `GetOrgByName`, `GetUserByName`, `GetBucketByName`: the index, then the record -/
def lookup (recs : List (Nat × ρ)) (idx : List (κ × Nat)) (k : κ) : Except Err (Nat × ρ) :=
  match get idx k with
  | none => .error .nf
  | some id => match get recs id with
    | none => .error .nf
    | some r => .ok (id, r)

theorem IdxOK.lookup_ok (h : IdxOK key recs idx) {k : κ} {id : Nat} {r : ρ} :
    lookup recs idx k = .ok (id, r) ↔ get recs id = some r ∧ key r = k := by
  unfold lookup
  constructor
  · intro hf
    rcases hi : get idx k with _ | i
    · rw [hi] at hf; cases hf
    · obtain ⟨r', hr', hk⟩ := h.sound k i hi
      simp only [hi, hr'] at hf; cases hf; exact ⟨hr', hk⟩
  · rintro ⟨hr, rfl⟩
    simp only [h.complete id r hr, hr]

theorem IdxOK.lookup_error (h : IdxOK key recs idx) {k : κ} {e : Err} (hf : lookup recs idx k = .error e) :
    e = .nf ∧ ∀ id r, get recs id = some r → key r ≠ k := by
  unfold lookup at hf
  rcases hi : get idx k with _ | i
  · rw [hi] at hf; cases hf
    exact ⟨rfl, fun id r hr c => by rw [← c, h.complete id r hr] at hi; cases hi⟩
  · obtain ⟨r', hr', _⟩ := h.sound k i hi
    simp only [hi, hr'] at hf; cases hf

end

theorem findOrg_eq (s : State) (n : String) : findOrg s n = lookup s.orgs s.orgIdx (orgKey n) := by
  unfold findOrg lookup
  rcases get s.orgIdx (orgKey n) with _ | id
  · rfl
  · dsimp only; rcases get s.orgs id with _ | r <;> rfl

theorem findUser_eq (s : State) (n : String) : findUser s n = lookup s.users s.userIdx n := by
  unfold findUser lookup
  rcases get s.userIdx n with _ | id
  · rfl
  · dsimp only; rcases get s.users id with _ | r <;> rfl

theorem findBucket_eq (s : State) {org : Nat} (ho : org ≠ 0) (n : String) :
    findBucket s org n = lookup s.bkts s.bktIdx (org, n) := by
  unfold findBucket lookup
  rw [if_neg ho]
  rcases get s.bktIdx (org, n) with _ | id
  · rfl
  · dsimp only; rcases get s.bkts id with _ | r <;> rfl

theorem step_step (h : Inv s) (op : Op) : Step (fun b => b.sys = false ∨ op = .dO b.org) s (step s op).1 := by
  cases op with
  | co n u => exact createOrganization_step h n u
  | uo id n => exact updateOrganization_step h id n
  | dO id => exact (deleteOrganization_spec h id).1.weaken fun b e => .inr (e ▸ rfl)
  | cb o n sys => exact createBucket_step h o n sys
  | ub id n => exact (updateBucket_step h id n).weaken fun _ => .inl
  | db id => exact (deleteBucket_step h id).weaken fun _ => .inl
  | cu n id => exact createUser_step h n id
  | uu id n => exact updateUser_step h id n
  | du id => exact deleteUser_step h id
  | cm r u a b => exact createURM_step h r u _
  | dm r u => exact deleteURM_step h r u
  | idgen g n => cases g <;> exact .of_same h rfl h.wfUrms h.wfUrmIdx
  | _ => exact .refl h

theorem exec_inv (ops : List Op) (h : Inv s) : Inv (exec s ops) := by
  induction ops generalizing s with
  | nil => exact h
  | cons op ops ih => exact ih (step_step h op).inv

end Influx.Tenant
