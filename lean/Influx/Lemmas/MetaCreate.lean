/-
  Lemmas.MetaCreate — `CreateShardGroup` keeps the meta data well-formed; the data only grows.
-/
import Influx.Lemmas.MetaInv

namespace Influx.Meta
open Influx.Generated.Meta

def inRange (t : Int) : Prop := MinNanoTime ≤ t ∧ t ≤ MaxNanoTime

def Mono (d d' : Data) : Prop :=
  ∀ db rp r, getRP d db rp = .ok r → ∃ r', getRP d' db rp = .ok r' ∧ (∀ g ∈ r.ShardGroups, g ∈ r'.ShardGroups)

theorem Mono.refl (d : Data) : Mono d d := fun _ _ r h => ⟨r, h, fun _ hg => hg⟩

theorem Mono.trans {a b c : Data} (h1 : Mono a b) (h2 : Mono b c) : Mono a c := by
  intro db rp r h
  obtain ⟨r1, hr1, hg1⟩ := h1 db rp r h
  obtain ⟨r2, hr2, hg2⟩ := h2 db rp r1 hr1
  exact ⟨r2, hr2, fun g hg => hg2 g (hg1 g hg)⟩

theorem Mono_setRP {d : Data} {db rp : String} {r r' : RetentionPolicyInfo} (h : getRP d db rp = .ok r)
    (hn : r'.Name = r.Name) (hg : ∀ g ∈ r.ShardGroups, g ∈ r'.ShardGroups) :
    Mono d (setRP d db rp r') := by
  intro db2 rp2 r2 h2
  by_cases hc : db2 = db ∧ rp2 = rp
  · obtain ⟨rfl, rfl⟩ := hc
    rw [h] at h2; cases h2
    exact ⟨r', getRP_setRP_same h hn, hg⟩
  · exact ⟨r2, by rw [getRP_setRP_other (hn.trans (getRP_name h)) hc]; exact h2, fun _ h => h⟩

theorem not_contains_of_none {gs : List ShardGroupInfo} {ts : Int} (h : shardGroupByTimestamp gs ts = none)
    {g : ShardGroupInfo} (hg : g ∈ gs) (hlive : g.DeletedAt = zeroTime) (htr : g.TruncatedAt = zeroTime) :
    ¬(g.StartTime ≤ ts ∧ ts < g.EndTime) := by
  intro hc
  have := List.find?_eq_none.mp h g hg
  simp only [sgMatches, Bool.and_eq_true, Bool.not_eq_true', Bool.or_eq_true, not_and] at this
  apply this
  · exact ⟨(contains_iff g ts).mpr hc, (deleted_false_iff g).mpr hlive⟩
  · exact Or.inl ((truncated_false_iff g).mpr htr)

theorem some_of_contains {gs : List ShardGroupInfo} {ts : Int} {g : ShardGroupInfo} (hg : g ∈ gs)
    (hlive : g.DeletedAt = zeroTime) (htr : g.TruncatedAt = zeroTime) (hc : g.StartTime ≤ ts ∧ ts < g.EndTime) :
    ∃ g', shardGroupByTimestamp gs ts = some g' := by
  cases h : shardGroupByTimestamp gs ts with
  | some g' => exact ⟨g', rfl⟩
  | none => exact absurd hc (not_contains_of_none h hg hlive htr)

/-- the group `CreateShardGroup` appends -/
def mkGroup (gid sid : Nat) (b : Int × Int) : ShardGroupInfo :=
  { ID := gid, StartTime := b.1, EndTime := b.2, DeletedAt := zeroTime,
    Shards := [{ ID := sid, Owners := [] }], TruncatedAt := zeroTime }

/-- the policy `CreateShardGroup` writes back -/
def rpAdd (r : RetentionPolicyInfo) (g : ShardGroupInfo) : RetentionPolicyInfo :=
  { r with ShardGroups := sgSort (r.ShardGroups ++ [g]) }

theorem WFRP_add {r : RetentionPolicyInfo} (hr : WFRP r) {ts : Int} (hts : inRange ts)
    (hnone : shardGroupByTimestamp r.ShardGroups ts = none) (gid sid : Nat) :
    WFRP (rpAdd r (mkGroup gid sid (newBounds r ts))) := by
  have hb := newBounds_spec r ts hr.sgd hts.1 hts.2
  refine ⟨hr.sgd, ?_, ?_⟩
  · intro g hg
    simp only [rpAdd, mem_sgSort, List.mem_append, List.mem_singleton] at hg
    rcases hg with hg | rfl
    · exact hr.groups g hg
    · exact ⟨hb.2.2.1, by simp only [mkGroup]; omega, hb.2.2.2, rfl, Or.inl rfl⟩
  · refine List.Pairwise.perm ?_ (perm_sgSort _).symm Disj.symm
    rw [List.pairwise_append]
    refine ⟨hr.disj, by simp, ?_⟩
    intro g hg x hx
    simp only [List.mem_singleton] at hx
    subst hx
    by_cases hlive : g.DeletedAt = zeroTime
    · have hw := hr.groups g hg
      have := newBounds_disjoint r ts hr.sgd hts.1 hts.2 g hg hlive hw.tr (not_contains_of_none hnone hg hlive hw.tr)
      unfold Disj; simp only [mkGroup]; omega
    · exact Or.inl hlive

/-- `Data.CreateShardGroup` on well-formed data, in-range timestamp -/
theorem createShardGroup_spec {d d' : Data} (hwf : WF d) {db rp : String} {ts : Int} (hts : inRange ts)
    (h : createShardGroup d db rp ts = .ok d') :
    WF d' ∧ Mono d d' ∧ ∃ r', getRP d' db rp = .ok r' ∧ ∃ g, shardGroupByTimestamp r'.ShardGroups ts = some g := by
  unfold createShardGroup at h
  cases hr : getRP d db rp with
  | error e => simp [hr] at h
  | ok r =>
    simp only [hr] at h
    have hwr := getRP_wf hwf hr
    cases hf : shardGroupByTimestamp r.ShardGroups ts with
    | some g =>
      simp only [hf, Option.isSome_some, ↓reduceIte, Except.ok.injEq] at h
      subst h
      exact ⟨hwf, Mono.refl d, r, hr, g, hf⟩
    | none =>
      simp only [hf, Option.isSome_none, Bool.false_eq_true, ↓reduceIte, Except.ok.injEq] at h
      subst h
      let g0 := mkGroup (d.MaxShardGroupID + 1) (d.MaxShardID + 1) (newBounds r ts)
      have hw' : WFRP (rpAdd r g0) := WFRP_add hwr hts hf (d.MaxShardGroupID + 1) (d.MaxShardID + 1)
      have hwf' := WF_setRP hwf hr (r' := rpAdd r g0) rfl fun _ => hw'
      have hmono : Mono d (setRP d db rp (rpAdd r g0)) :=
        Mono_setRP hr rfl (by intro g hg; simp [rpAdd, mem_sgSort, hg])
      have hget : getRP (setRP d db rp (rpAdd r g0)) db rp = .ok (rpAdd r g0) := getRP_setRP_same hr rfl
      have hb := newBounds_spec r ts hwr.sgd hts.1 hts.2
      have hsome : ∃ g, shardGroupByTimestamp (rpAdd r g0).ShardGroups ts = some g :=
        some_of_contains (g := g0) (by simp [rpAdd, mem_sgSort]) rfl rfl ⟨hb.1, hb.2.1⟩
      exact ⟨⟨hwf'.dbs, hwf'.names⟩, hmono, rpAdd r g0, hget, hsome⟩

def InRP (d : Data) (db rp : String) (g : ShardGroupInfo) : Prop :=
  ∃ r, getRP d db rp = .ok r ∧ g ∈ r.ShardGroups

theorem InRP.mono {d d' : Data} (hm : Mono d d') {db rp : String} {g : ShardGroupInfo} (h : InRP d db rp g) :
    InRP d' db rp g := by
  obtain ⟨r, hr, hg⟩ := h
  obtain ⟨r', hr', hg'⟩ := hm db rp r hr
  exact ⟨r', hr', hg' g hg⟩

/-- `Client.CreateShardGroup` on well-formed data, in-range timestamp: never `nil`, and the
    group returned is a live group of the policy containing the timestamp -/
theorem clientCreateShardGroup_spec {d d' : Data} (hwf : WF d) {db rp : String} {ts : Int} (hts : inRange ts)
    {og : Option ShardGroupInfo} (h : clientCreateShardGroup d db rp ts = .ok (d', og)) :
    WF d' ∧ Mono d d' ∧ ∃ g, og = some g ∧ InRP d' db rp g ∧ g.DeletedAt = zeroTime ∧ g.StartTime ≤ ts ∧ ts < g.EndTime := by
  obtain ⟨hd, r', hr', hog⟩ := clientCreateShardGroup_ok h
  have hnew : WF d' ∧ Mono d d' ∧ ∃ g, og = some g := by
    rcases hd with ⟨rfl, hg⟩ | hc
    · exact ⟨hwf, Mono.refl _, hg⟩
    · obtain ⟨hwf2, hm, r2, hr2, g, hg⟩ := createShardGroup_spec hwf hts hc
      cases hr'.symm.trans hr2
      exact ⟨hwf2, hm, g, hog.symm.trans hg⟩
  obtain ⟨hwf', hm, g, rfl⟩ := hnew
  have := shardGroupByTimestamp_some hog
  exact ⟨hwf', hm, g, rfl, ⟨r', hr', this.1⟩, this.2.2.2, this.2.1, this.2.2.1⟩

end Influx.Meta
