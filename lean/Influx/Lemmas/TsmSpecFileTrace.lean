/-
  Lemmas.TsmSpecFileTrace — the statement checker accepts the whole model trace of
  writing a well-formed file, `WriteIndex`, `open`, and any sequence of index lookups.
-/
import Influx.Lemmas.TsmSpecLookup

namespace Influx.Tsm
open Influx.Spec.C08 Influx.Generated.TsmLayout

def fileOps (kbs : List (Key × List Blk)) (qs : List Op) : List Op :=
  (flatWrites kbs).map wOp ++ ([.wi, .open_] ++ qs)

theorem runFrom_append (sp : SS) (i : Nat) (a b : List (Op × Ans)) :
    runFrom sp i (a ++ b) = runFrom (runFrom sp i a) (i + a.length) b := by
  induction a generalizing sp i with
  | nil => rfl
  | cons x a ih =>
    rw [List.cons_append, runFrom_cons, runFrom_cons, ih, List.length_cons, Nat.add_right_comm, Nat.add_assoc]

theorem lookups_trace (c : List SKey) (kes : List KeyEntry) (hc : LCtx c kes) (qs : List Op)
    (hq : ∀ q ∈ qs, isLookup q = true) : ∀ (s : State) (sp : SS) (i : Nat) (r : Reader),
    s.rdr = some r → r.ix = mkIndex kes → SSt sp c → runFrom sp i (traceFrom s qs) = sp := by
  induction qs with
  | nil => intro s sp i r _ _ _; rfl
  | cons q qs ih =>
    intro s sp i r hr hix hs
    obtain ⟨h1, h2⟩ := lookup_step s sp i q (hq q List.mem_cons_self) c kes hc r hr hix hs
    rw [traceFrom, runFrom_cons, h1, h2]
    exact ih (fun x hx => hq x (List.mem_cons_of_mem _ hx)) s sp (i + 1) r hr hix hs

theorem flat_ok (kbs : List (Key × List Blk)) (h : WFW kbs) :
    ∀ p ∈ flatWrites kbs, p.1.length ≤ 65535 ∧ ∃ b0 rest, p.2.data = b0 :: rest ∧ b0 ≤ 4 := by
  intro p hp
  obtain ⟨kb, hkb, b, hb, rfl⟩ : ∃ kb ∈ kbs, ∃ b ∈ kb.2, (kb.1, b) = p := by
    simpa only [flatWrites, List.mem_flatMap, List.mem_map] using hp
  have hw := (h.blks kb hkb).2.2 b hb
  refine ⟨(h.kne kb hkb).2, ?_⟩
  cases hd : b.data with
  | nil => exact absurd hd hw.ne
  | cons b0 rest => exact ⟨b0, rest, rfl, hw.typ b0 (by rw [hd]; rfl)⟩

theorem scontent_timeOK {kbs : List (Key × List Blk)} (h : DOM kbs) (pos : Nat) : TimeOK (scontent pos kbs) where
  ne sk hsk e := (h.wfw.blks _ (scontent_mem hsk)).1 (congrArg (List.map blkOf) e)
  sortedMin _ hsk := scontent_pairwise h.wfw.sorted hsk
  sortedMax _ hsk := scontent_pairwise h.mono hsk
  int64 sk hsk sb hsb := by
    have := (h.wff.kb _ (scontent_mem hsk)).blks _ (List.mem_map_of_mem hsb)
    exact ⟨this.1.1, this.1.2, this.2.1.1, this.2.1.2⟩

theorem scontent_lctx {kbs : List (Key × List Blk)} (h : DOM kbs) : LCtx (scontent 5 kbs) (layout 5 kbs) where
  rel := scontent_layout 5 kbs
  sorted := scontent_keys_sorted 5 kbs h.wfw
  ne := (scontent_timeOK h 5).ne
  nonempty e := h.wff.ne (by rw [← scontent_kbs 5 kbs, e]; rfl)
  time := scontent_timeOK h 5

theorem file_trace (crc : Bytes → Nat) (kbs : List (Key × List Blk)) (h : DOM kbs) (qs : List Op)
    (hq : ∀ q ∈ qs, isLookup q = true) : holdsOn (traceOf crc (fileOps kbs qs)) = true := by
  have hne := h.wff.ne
  obtain ⟨hansok, hwi⟩ := writeAll_serialise crc kbs h.wfw hne
  obtain ⟨hw1, hw2⟩ := writeAll_flat crc kbs
  obtain ⟨hrun, htr⟩ := model_writes (flatWrites kbs) (State.init crc) rfl fun a ha => hansok a (hw2 ▸ ha)
  simp only [State.init] at hrun htr
  unfold holdsOn traceOf fileOps
  rw [run_eq_runFrom, traceFrom_append, runFrom_append]
  simp only [State.init]
  rw [htr, hrun, spec_writes (flatWrites kbs) (flat_ok kbs h.wfw) {} 0 rfl, ← hw1]
  generalize (0 + ((flatWrites kbs).map fun p => (wOp p, Ans.ok)).length) = n
  have hstepwi : step { crc := crc, w := (writeAll crc kbs).1 } Op.wi =
      ({ crc := crc, w := (writeAll crc kbs).1, wdead := true, disk := some (serialise crc kbs) }, Ans.ok) := by
    unfold step; simp [hwi, WAns.toAns]
  have hcontent : mkContent ((flatWrites kbs).map toWrite) = scontent 5 kbs :=
    mkContent_flat kbs (fun kb hkb => (h.wfw.blks kb hkb).1) h.wfw.keys_ne h.wfw.sorted
  have hctx := scontent_lctx h
  simp only [List.cons_append, List.nil_append, traceFrom, hstepwi, runFrom_cons]
  rw [List.append_nil]
  have hspwi : stepS { writes := ((flatWrites kbs).map toWrite).reverse } n Op.wi Ans.ok =
      { writes := ((flatWrites kbs).map toWrite).reverse, wdone := true, content := some (scontent 5 kbs),
        emptyKey := (scontent 5 kbs).any (·.key.isEmpty), nontrivial := true } := by
    have hwne : ((flatWrites kbs).map toWrite).reverse.isEmpty = false := by
      rw [← hcontent] at hctx
      cases hx : ((flatWrites kbs).map toWrite).reverse with
      | nil => rw [List.reverse_eq_nil_iff.mp hx] at hctx; exact absurd rfl hctx.nonempty
      | cons a l => rfl
    show (if ((flatWrites kbs).map toWrite).reverse.isEmpty = true then _ else _) = _
    rw [if_neg (by rw [hwne]; exact Bool.false_ne_true)]
    simp only [List.reverse_reverse, hcontent, domain_ok kbs h]
  rw [hspwi]
  have hopen : step { crc := crc, w := (writeAll crc kbs).1, wdead := true, disk := some (serialise crc kbs) } Op.open_ =
      ({ crc := crc, w := (writeAll crc kbs).1, wdead := true, disk := some (serialise crc kbs),
         rdr := some (openReader none (layout 5 kbs)) }, Ans.ok) := by
    unfold step doOpen; simp [parseFile_serialise crc kbs h.wff]
  rw [hopen]
  rw [show stepS _ (n + 1) Op.open_ Ans.ok = _ from rfl,
    lookups_trace (scontent 5 kbs) (layout 5 kbs) hctx qs hq _ _ _ _ rfl rfl ⟨rfl, rfl, rfl, rfl, rfl⟩]
  rfl

end Influx.Tsm
