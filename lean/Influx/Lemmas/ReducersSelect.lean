/-
  Lemmas.ReducersSelect — percentile, median, spread of Model.Reducers against the
  counting / relational statements of Spec.C23, for value orders that are strict weak
  orders (the integer instance; floats without NaN).
-/
import Influx.Lemmas.ReducersSort
import Influx.Spec.C23
open Influx.Reducers Influx.Spec.C23

namespace Influx.Reducers.Lemmas
variable {V F : Type}

theorem rankIndex_eq (len : Nat) (pn : Int) (pd : Nat) :
    percentileIndex len pn pd = rankIndex len pn pd := by
  unfold percentileIndex rankIndex
  rw [Int.fdiv_eq_ediv_of_nonneg _ (Int.mul_nonneg (by decide) (Int.natCast_nonneg pd))]

/-- the point at index `k` of the value-sorted points: it carries an input value, its rank by
    counting is `k`, and it is the `(k − #smaller)`-th of the input points with its value -/
theorem sortByValue_kth (A : Arith V F) (h : StrictWeak A.vo.lt) (xs : List (Pt V)) (k : Nat)
    (hk : k < xs.length) :
    ∃ p, (sortByValue A.vo xs)[k]? = some p ∧ p.v ∈ xs.map (·.v) ∧ isKth A (xs.map (·.v)) k p.v = true ∧
      (xs.filter (fun q => sameV A q.v p.v))[k - (xs.map (·.v)).countP (fun x => A.vo.lt x p.v)]? = some p := by
  have hsw := h.comap (Pt.v (V := V))
  have hsorted := insertionSort_sorted hsw xs
  have hperm := insertionSort_perm (fun a b : Pt V => A.vo.lt a.v b.v) xs
  unfold sortByValue
  obtain ⟨p, hp⟩ : ∃ p, (insertionSort (fun a b : Pt V => A.vo.lt a.v b.v) xs)[k]? = some p :=
    ⟨_, List.getElem?_eq_getElem (by rw [hperm.length_eq]; exact hk)⟩
  have hrank := sorted_rank hsw _ hsorted k p hp
  have hidx := sorted_equiv_index hsw _ hsorted k p hp
  rw [insertionSort_stable hsw p xs, hperm.countP_eq] at hidx
  rw [hperm.countP_eq, hperm.countP_eq] at hrank
  refine ⟨p, hp, List.mem_map_of_mem (hperm.mem_iff.mp (List.mem_of_getElem? hp)), ?_, ?_⟩
  · simp only [isKth, List.countP_map, Bool.and_eq_true, decide_eq_true_eq]
    exact hrank
  · rw [List.countP_map]
    exact hidx

/-- **percentile** under a strict weak value order: the statement's rank and stable-index
    conditions hold of what the reducer emits -/
theorem percentile_ok (A : Arith V F) (h : StrictWeak A.vo.lt) (pn : Int) (pd : Nat) (xs : List (Pt V)) :
    percentileOK A pn pd xs (percentile A.vo pn pd xs) = true := by
  unfold percentile percentileOK
  rw [rankIndex_eq]
  by_cases hr : rankIndex xs.length pn pd < 0 ∨ rankIndex xs.length pn pd ≥ xs.length
  · simp [hr]
  · simp only [hr, if_false]
    obtain ⟨p, hp, -, h1, h2⟩ := sortByValue_kth A h xs (rankIndex xs.length pn pd).toNat (by omega)
    simp only [hp, h1, Bool.true_and]
    split
    · rw [h2]
      simp [A.eqvV_refl]
    · simp only [List.any_eq_true]
      exact ⟨p, List.mem_of_getElem? h2, by simp [A.eqvV_refl]⟩

/-- what the statement requires of a median observation -/
def medianOK (A : Arith V F) (xs : List (Pt V)) (out : List (Pt F)) : Bool :=
  match out with
  | [p] => medianValueOK A xs p.v && (decide (p.t = zeroTime) || decide (xs.map (·.t) = [p.t]))
  | _ => false

/-- **median** under a strict weak value order: one point, carrying the middle value by rank
    (or `lo + (hi − lo)/2` of the two middle ranks), stamped `ZeroTime` (the float reducer
    returns a one-point slice as is, with its own time) -/
theorem median_ok (A : Arith V F) (h : StrictWeak A.vo.lt) (xs : List (Pt V)) (hne : xs ≠ []) :
    ∃ p, median A.vo A.fo xs = [p] ∧ medianValueOK A xs p.v = true ∧
      (p.t = zeroTime ∨ xs.map (·.t) = [p.t]) := by
  match xs, hne with
  | [p], _ =>
    refine ⟨_, rfl, ?_, ?_⟩
    · simp [medianValueOK, isKth, h.irrefl, A.eqvF_refl]
    · by_cases hkt : A.vo.medianSingleKeepsTime = true <;> simp [hkt]
  | p :: q :: r, _ =>
    have hlen : (sortByValue A.vo (p :: q :: r)).length = (p :: q :: r).length := (insertionSort_perm _ _).length_eq
    have h2 : 0 < (p :: q :: r).length := Nat.succ_pos _
    simp only [median, hlen]
    generalize p :: q :: r = xs at h2 ⊢
    have hhalf : xs.length / 2 < xs.length := Nat.div_lt_self h2 (Nat.lt_succ_self 1)
    obtain ⟨hi, hhi, mhi, khi, -⟩ := sortByValue_kth A h xs (xs.length / 2) hhalf
    by_cases heven : xs.length % 2 = 0
    · obtain ⟨lo, hlo, mlo, klo, -⟩ :=
        sortByValue_kth A h xs (xs.length / 2 - 1) (Nat.lt_of_le_of_lt (Nat.sub_le _ _) hhalf)
      have hodd : ¬ xs.length % 2 = 1 := fun h => absurd (heven ▸ h) (by decide)
      simp only [if_pos heven, hlo, hhi]
      refine ⟨_, rfl, ?_, Or.inl rfl⟩
      simp only [medianValueOK, List.length_map, if_neg hodd, List.any_eq_true, List.mem_filter]
      exact ⟨lo.v, ⟨mlo, klo⟩, hi.v, ⟨mhi, khi⟩, A.eqvF_refl _⟩
    · have hodd : xs.length % 2 = 1 := (Nat.mod_two_eq_zero_or_one _).resolve_left heven
      simp only [if_neg heven, hhi]
      refine ⟨_, rfl, ?_, Or.inl rfl⟩
      simp only [medianValueOK, List.length_map, if_pos hodd, List.any_eq_true, Bool.and_eq_true]
      exact ⟨hi.v, mhi, khi, A.eqvF_refl _⟩


/-! ### spread over integers -/

/-- the running minimum under `lt` (the maximum, for the reversed order): it is the start value
    or an element, and nothing seen is below it -/
theorem foldl_pick {α : Type} {lt : α → α → Bool} (h : StrictWeak lt) (f : α → α → α)
    (hf : ∀ m v, f m v = if lt v m then v else m) (l : List α) : ∀ (init : α),
    (l.foldl f init = init ∨ l.foldl f init ∈ l) ∧ lt init (l.foldl f init) = false ∧
    ∀ x ∈ l, lt x (l.foldl f init) = false := by
  induction l with
  | nil => intro init; simp [h.irrefl]
  | cons a l ih =>
    intro init
    simp only [List.foldl_cons, hf]
    by_cases ha : lt a init = true
    · simp only [ha, if_true]
      obtain ⟨h1, h2, h3⟩ := ih a
      refine ⟨Or.inr ?_, ?_, ?_⟩
      · rcases h1 with h1 | h1
        · rw [h1]; exact List.mem_cons_self ..
        · exact List.mem_cons_of_mem _ h1
      · cases hi : lt init _ with
        | false => rfl
        | true => rw [h.trans _ _ _ ha hi] at h2; cases h2
      · intro x hx
        rcases List.mem_cons.mp hx with rfl | hx
        · exact h2
        · exact h3 x hx
    · have ha' : lt a init = false := by simpa using ha
      simp only [ha', Bool.false_eq_true, if_false]
      obtain ⟨h1, h2, h3⟩ := ih init
      refine ⟨h1.imp_right (List.mem_cons_of_mem _), h2, ?_⟩
      intro x hx
      rcases List.mem_cons.mp hx with rfl | hx
      · exact h.negTrans _ _ _ ha' h2
      · exact h3 x hx

/-- **spread** of an integer series inside the int64 range = maximum − minimum -/
theorem spread_int_ok (F : Type) (fo : FOps F) (eqvF : F → F → Bool) (hF : ∀ x, eqvF x x = true)
    (xs : List (Pt Int)) (hne : xs ≠ [])
    (hrange : ∀ p ∈ xs, -9223372036854775808 ≤ p.v ∧ p.v ≤ 9223372036854775807) :
    ∃ v, spread (intOps fo) xs = [⟨zeroTime, v⟩] ∧ spreadValueOK (intArith fo eqvF hF) xs v = true := by
  refine ⟨_, rfl, ?_⟩
  have hlt := strictWeak_ofKey (fun x : Int => x)
  obtain ⟨p, hp⟩ := List.exists_mem_of_ne_nil _ hne
  have ha : p.v ∈ xs.map (·.v) := List.mem_map_of_mem hp
  -- the folds over points are the running minimum / maximum of the value list
  obtain ⟨m1, -, m3⟩ := foldl_pick hlt (intOps fo).minStep (fun m v => by simp [intOps])
    (xs.map (·.v)) (intOps fo).spreadInitMin
  obtain ⟨M1, -, M3⟩ := foldl_pick hlt.flip (intOps fo).maxStep (fun m v => by simp [intOps])
    (xs.map (·.v)) (intOps fo).spreadInitMax
  rw [List.foldl_map] at m1 m3 M1 M3
  generalize xs.foldl (fun m (p : Pt Int) => (intOps fo).minStep m p.v) (intOps fo).spreadInitMin = mn at m1 m3 ⊢
  generalize xs.foldl (fun m (p : Pt Int) => (intOps fo).maxStep m p.v) (intOps fo).spreadInitMax = mx at M1 M3 ⊢
  -- a start value that survives is attained: every value is inside the range
  have hmn_mem : mn ∈ xs.map (·.v) := by
    refine m1.elim (fun (h : mn = 9223372036854775807) => ?_) id
    obtain rfl : p.v = mn :=
      Int.le_antisymm (h.symm ▸ (hrange p hp).2) (Int.not_lt.mp (of_decide_eq_false (m3 _ ha)))
    exact ha
  have hmx_mem : mx ∈ xs.map (·.v) := by
    refine M1.elim (fun (h : mx = -9223372036854775808) => ?_) id
    obtain rfl : p.v = mx :=
      Int.le_antisymm (Int.not_lt.mp (of_decide_eq_false (M3 _ ha))) (h.symm ▸ (hrange p hp).1)
    exact ha
  simp only [spreadValueOK, List.any_eq_true, Bool.and_eq_true, List.all_eq_true]
  exact ⟨mx, hmx_mem, fun x hx => (Bool.not_eq_true' _).mpr (M3 x hx),
    mn, hmn_mem, fun x hx => (Bool.not_eq_true' _).mpr (m3 x hx), (intArith fo eqvF hF).eqvV_refl _⟩

end Influx.Reducers.Lemmas
