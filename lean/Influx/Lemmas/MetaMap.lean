/-
  Lemmas.MetaMap — `sgList` finds every covered timestamp; `MapShards` drops exactly the
  points older than its lower bound (on well-formed data, in-range timestamps).
-/
import Influx.Lemmas.MetaCreate

namespace Influx.Meta
open Influx.Generated.Meta

/-- invariant of the `sgList` built by `MapShards` for policy `(db, rp)` of `d`: once there is an item,
    `earliest` and `latest` are set (not the zero time) and bound every item -/
structure SgOK (d : Data) (db rp : String) (l : SgList) : Prop where
  items : ∀ g ∈ l.items, InRP d db rp g ∧ g.DeletedAt = zeroTime ∧ WFGroup g
  early : ∀ g ∈ l.items, l.earliest ≠ zeroTime ∧ l.earliest ≤ g.StartTime
  late : ∀ g ∈ l.items, l.latest ≠ zeroTime ∧ g.EndTime ≤ l.latest

theorem SgOK.empty_ok (d : Data) (db rp : String) : SgOK d db rp SgList.empty :=
  ⟨forall_mem_nil, forall_mem_nil, forall_mem_nil⟩

theorem SgOK.mono {d d' : Data} {db rp : String} {l : SgList} (h : SgOK d db rp l) (hm : Mono d d') :
    SgOK d' db rp l :=
  ⟨fun g hg => ⟨(h.items g hg).1.mono hm, (h.items g hg).2⟩, h.early, h.late⟩

theorem minNano_ne_zero : MinNanoTime ≠ zeroTime := by unfold MinNanoTime zeroTime; omega

theorem SgOK.add {d : Data} {db rp : String} {l : SgList} (h : SgOK d db rp l) {g : ShardGroupInfo}
    (hin : InRP d db rp g) (hlive : g.DeletedAt = zeroTime) (hw : WFGroup g) : SgOK d db rp (l.add g) := by
  have hs : g.StartTime ≠ zeroTime ∧ g.EndTime ≠ zeroTime := by
    have := hw.lo; have := hw.ne; unfold MinNanoTime at *; unfold zeroTime; omega
  refine ⟨forall_mem_push h.items ⟨hin, hlive, hw⟩, fun x hx => ?_, fun x hx => ?_⟩
  -- a bound that is still the zero time has no item yet to answer for
  · refine ite_rule (P := fun e => e ≠ zeroTime ∧ e ≤ x.StartTime) (fun hc => ⟨hs.1, ?_⟩) fun hc => ?_
    · rw [Bool.or_eq_true, isZero_iff, after_iff] at hc
      rcases List.mem_append.mp hx with hx | hx
      · exact Int.le_trans (Int.le_of_lt (hc.resolve_left (h.early x hx).1)) (h.early x hx).2
      · cases List.mem_singleton.mp hx; exact Int.le_refl _
    · rw [Bool.or_eq_true, isZero_iff, after_iff] at hc
      rcases List.mem_append.mp hx with hx | hx
      · exact h.early x hx
      · cases List.mem_singleton.mp hx; exact ⟨fun h0 => hc (.inl h0), Int.not_lt.mp fun hlt => hc (.inr hlt)⟩
  · refine ite_rule (P := fun e => e ≠ zeroTime ∧ x.EndTime ≤ e) (fun hc => ⟨hs.2, ?_⟩) fun hc => ?_
    · rw [Bool.or_eq_true, isZero_iff, before_iff] at hc
      rcases List.mem_append.mp hx with hx | hx
      · exact Int.le_trans (h.late x hx).2 (Int.le_of_lt (hc.resolve_left (h.late x hx).1))
      · cases List.mem_singleton.mp hx; exact Int.le_refl _
    · rw [Bool.or_eq_true, isZero_iff, before_iff] at hc
      rcases List.mem_append.mp hx with hx | hx
      · exact h.late x hx
      · cases List.mem_singleton.mp hx; exact ⟨fun h0 => hc (.inl h0), Int.not_lt.mp fun hlt => hc (.inr hlt)⟩

theorem SgOK.at {d : Data} {db rp : String} {l : SgList} (h : SgOK d db rp l) (t : Int) :
    SgOK d db rp (l.shardGroupAt t).1 := by
  obtain ⟨h1, h2, h3⟩ := shardGroupAt_fst l t
  exact ⟨fun g hg => h.items g (h3.mem_iff.mp hg), fun g hg => h1 ▸ h.early g (h3.mem_iff.mp hg),
    fun g hg => h2 ▸ h.late g (h3.mem_iff.mp hg)⟩

theorem SgOK.covers {d : Data} {db rp : String} {l : SgList} (h : SgOK d db rp l) (t : Int) :
    SgOK d db rp (l.covers t).1 ∧ (∀ g, g ∈ (l.covers t).1.items ↔ g ∈ l.items) ∧
    ((l.covers t).2 = true → ∃ g ∈ l.items, g.StartTime ≤ t ∧ t < g.EndTime) := by
  unfold SgList.covers
  split
  · exact ⟨h, fun _ => .rfl, nofun⟩
  · refine ⟨h.at t, fun _ => (shardGroupAt_items l t).mem_iff, fun hc => ?_⟩
    obtain ⟨g, hg⟩ := Option.isSome_iff_exists.mp hc
    exact ⟨g, shardGroupAt_some l t g hg⟩

theorem shardGroupAt_finds {d : Data} {db rp : String} {l : SgList} (h : SgOK d db rp l) (t : Int)
    (hc : ∃ g ∈ l.items, g.StartTime ≤ t ∧ t < g.EndTime) : ∃ g', (l.shardGroupAt t).2 = some g' := by
  obtain ⟨g, hg, hgt⟩ := hc
  have hlen : ¬(l.items.length == 0) = true := by
    rw [beq_iff_eq]; intro hl; rw [List.eq_nil_of_length_eq_zero hl] at hg; cases hg
  unfold SgList.shardGroupAt
  simp only [hlen, Bool.false_eq_true, ↓reduceIte]
  split
  · next g' _ => exact ⟨g', rfl⟩
  · have he := (h.early g hg).2
    have hl := (h.late g hg).2
    have hb : (Time.Before t l.earliest || Time.After t l.latest) = false := by
      simp only [Bool.or_eq_false_iff, before_false_iff, after_false_iff]; omega
    simp only [hb, Bool.false_eq_true, ↓reduceIte]
    cases hf : (sgSort l.items).find? (Contains · t) with
    | some g' => exact ⟨g', rfl⟩
    | none =>
      have := List.find?_eq_none.mp hf g (mem_sgSort.mpr hg)
      exact absurd ((contains_iff g t).mpr hgt) (by simpa using this)

/-- result of the first loop of `MapShards` -/
theorem mapCreate_spec (db rp : String) (min : Int) :
    ∀ (ts : List Int) (d : Data) (l : SgList), WF d → SgOK d db rp l → (∀ t ∈ ts, inRange t) →
      WF (mapCreate db rp min d l ts).1 ∧ Mono d (mapCreate db rp min d l ts).1 ∧
      ∀ l', (mapCreate db rp min d l ts).2 = .ok l' →
        SgOK (mapCreate db rp min d l ts).1 db rp l' ∧ (∀ g ∈ l.items, g ∈ l'.items) ∧
        ∀ t ∈ ts, ¬(t < min) → ∃ g ∈ l'.items, g.StartTime ≤ t ∧ t < g.EndTime := by
  intro ts
  induction ts with
  | nil =>
    intro d l hwf hl _
    simp only [mapCreate]
    exact ⟨hwf, Mono.refl d, fun l' h => by cases h; exact ⟨hl, fun _ h => h, forall_mem_nil⟩⟩
  | cons t ts ih =>
    intro d l hwf hl hts
    obtain ⟨htr, hts'⟩ := List.forall_mem_cons.mp hts
    simp only [mapCreate]
    by_cases hold : Time.Before t min = true
    · simp only [hold, ↓reduceIte]
      obtain ⟨hw, hm, hres⟩ := ih d l hwf hl hts'
      refine ⟨hw, hm, fun l' h => ?_⟩
      obtain ⟨h1, h2, h3⟩ := hres l' h
      exact ⟨h1, h2, List.forall_mem_cons.mpr ⟨fun hmin => absurd ((before_iff _ _).mp hold) hmin, h3⟩⟩
    · simp only [hold, Bool.false_eq_true, ↓reduceIte]
      obtain ⟨hcov1, hcovmem, hcovers⟩ := hl.covers t
      by_cases hcov : (l.covers t).2 = true
      · simp only [hcov, ↓reduceIte]
        obtain ⟨hw, hm, hres⟩ := ih d (l.covers t).1 hwf hcov1 hts'
        refine ⟨hw, hm, fun l' h => ?_⟩
        obtain ⟨h1, h2, h3⟩ := hres l' h
        have h2' : ∀ g ∈ l.items, g ∈ l'.items := fun g hg => h2 g ((hcovmem g).mpr hg)
        obtain ⟨g, hg, hgt⟩ := hcovers hcov
        exact ⟨h1, h2', List.forall_mem_cons.mpr ⟨fun _ => ⟨g, h2' g hg, hgt⟩, h3⟩⟩
      · simp only [hcov, Bool.false_eq_true, ↓reduceIte]
        cases hc : clientCreateShardGroup d db rp t with
        | error e => exact ⟨hwf, Mono.refl d, fun l' h => by cases h⟩
        | ok res =>
          obtain ⟨d', og⟩ := res
          obtain ⟨hwf', hm, g, hog, hin, hlive, hgt⟩ := clientCreateShardGroup_spec hwf htr hc
          subst hog
          simp only
          have hwg : WFGroup g := by
            obtain ⟨r, hr, hg⟩ := hin
            exact (getRP_wf hwf' hr).groups g hg
          obtain ⟨hw, hm', hres⟩ := ih d' ((l.covers t).1.add g) hwf' ((hcov1.mono hm).add hin hlive hwg) hts'
          refine ⟨hw, hm.trans hm', fun l' h => ?_⟩
          obtain ⟨h1, h2, h3⟩ := hres l' h
          refine ⟨h1, fun x hx => h2 x (List.mem_append_left _ ((hcovmem x).mpr hx)), ?_⟩
          exact List.forall_mem_cons.mpr ⟨fun _ => ⟨g, h2 g (List.mem_append_right _ (List.mem_singleton_self g)), hgt⟩, h3⟩

/-- second loop of `MapShards` -/
theorem mapPlace_dropped (d : Data) (db rp : String) (min : Int) :
    ∀ (ts : List Int) (l : SgList) (ps : List Placement), SgOK d db rp l →
      (∀ t ∈ ts, ¬(t < min) → ∃ g ∈ l.items, g.StartTime ≤ t ∧ t < g.EndTime) →
      mapPlace min l ts = .ok ps →
      ps.map (· == Placement.dropped) = ts.map (fun t => decide (t < min)) := by
  intro ts
  induction ts with
  | nil => intro l ps _ _ h; cases h; rfl
  | cons t ts ih =>
    intro l ps hl hcov h
    obtain ⟨p, ps', rfl, hrec, hp⟩ := mapPlace_cons_ok h
    have hcov' : ∀ x ∈ ts, ¬(x < min) → ∃ g ∈ (l.shardGroupAt t).1.items, g.StartTime ≤ x ∧ x < g.EndTime := by
      intro x hx hmin
      obtain ⟨g, hg, hgt⟩ := hcov x (List.mem_cons_of_mem _ hx) hmin
      exact ⟨g, (shardGroupAt_items l t).mem_iff.mpr hg, hgt⟩
    rw [List.map_cons, List.map_cons, ih _ _ (hl.at t) hcov' hrec]
    congr 1
    rcases hp with ⟨rfl, hold | hnone⟩ | ⟨sh, g, rfl, hold, _, _⟩
    · simp [hold]
    · by_cases hold : t < min
      · simp [hold]
      · -- not older than `min`, hence covered, hence found
        obtain ⟨g', hg'⟩ := shardGroupAt_finds hl t (hcov t (List.mem_cons_self ..) hold)
        cases hg'.symm.trans hnone
    · simp [hold]

end Influx.Meta
