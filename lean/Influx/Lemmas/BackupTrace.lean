/-
  Lemmas.BackupTrace — the statement checker (Spec.C38.judge) along the runs of the
  model.  One theorem about one step (`judge_step`): whatever the checker reports has
  its known cause (`Blamed`), and the checker's records stay linked to the archives the
  model holds.  From it: on any run only the four known kinds of failure are reported
  (`failures_known`); on a run without range deletes and exports none is
  (`failures_clean`).
-/
import Influx.Lemmas.BackupDump

namespace Influx.Backup
open Influx.Spec.C38

/-- what the model stored under an archive id and what the checker recorded for it correspond -/
def RecOK (r : Rec) (kind : ArchKind) (ar : Archive) : Prop :=
  ∃ s : Shard, s.Inv ∧ s.cache = [] ∧ s.seriesOK = true ∧
    r.files = listing s.files ∧ r.blocks = blockListing s.files ∧ r.d = s.dump ∧
    ((kind = .backup ∧ ∃ since, r.made = .backup since ∧ ar = backupEntries since s.files) ∨
     (kind = .export ∧ ∃ a e, r.made = .export a e ∧ a ≤ e ∧ exportEntries a e s.files = .ok ar))

inductive Linked : List (String × ArchKind × Archive) → List Rec → Prop
  | nil : Linked [] []
  | cons {id : String} {kind : ArchKind} {ar : Archive} {r : Rec} {arcs : List (String × ArchKind × Archive)}
      {recs : List Rec} : r.id = id → RecOK r kind ar → Linked arcs recs →
      Linked ((id, kind, ar) :: arcs) (r :: recs)

theorem Linked.lookup {arcs : List (String × ArchKind × Archive)} {recs : List Rec} (h : Linked arcs recs)
    (id : String) :
    (arcs.lookup id = none ∧ findRec recs id = none) ∨
    ∃ kind ar r, arcs.lookup id = some (kind, ar) ∧ findRec recs id = some r ∧ RecOK r kind ar := by
  induction h with
  | nil => exact Or.inl ⟨rfl, rfl⟩
  | @cons id' kind ar r arcs recs hid hok _ ih =>
    by_cases he : id = id'
    · subst he
      exact Or.inr ⟨kind, ar, r, by simp [List.lookup], by simp [findRec, List.find?, hid], hok⟩
    · have h1 : (id == id') = false := by simp [he]
      have h2 : (r.id == id) = false := by rw [hid]; simp; exact fun h => he h.symm
      simpa only [findRec, List.find?, h2, List.lookup, h1] using ih

theorem Linked.single {st : State} {recs : List Rec} (hl : Linked st.archives recs) {id : String}
    {as : List (ArchKind × Archive)} (h : lookupAll st [id] = some as) :
    ∃ kind ar r, as = [(kind, ar)] ∧ findRec recs id = some r ∧ r ∈ recs ∧ RecOK r kind ar := by
  simp only [lookupAll, State.archive?] at h
  rcases hl.lookup id with ⟨hn, _⟩ | ⟨kind, ar, r, h1, h2, hok⟩
  · simp [hn] at h
  · simp only [h1, Option.some.injEq] at h
    exact ⟨kind, ar, r, h.symm, h2, List.mem_of_find?_eq_some h2, hok⟩

def contentCheck (r : Rec) (d : Dump) : List Sig :=
  if sameContent r.d d then [] else [if hasTombstone r.files then .restoreLostTombstone else .restoreDiffers]

theorem judge_restore_one (recs : List Rec) (id : String) (fs : List FName) (d : Dump) :
    judge recs (.restore [id]) (.target fs d) =
      match findRec recs id with
      | some r =>
        match r.made with
        | .backup none => (contentCheck r d, recs)
        | _ => ([], recs)
      | none => ([.badObservation], recs) := rfl

theorem judge_import_one (recs : List Rec) (id : String) (fs : List FName) (d : Dump) :
    judge recs (.importA [id]) (.target fs d) =
      match findRec recs id with
      | some r =>
        match r.made with
        | .backup none => (contentCheck r d, recs)
        | .backup (some _) => ([], recs)
        | .export a e =>
          ((if exportLower a e r.d d then [] else [.exportMissingPoint]) ++
           (if exportWithinBlocks a e r.blocks d then [] else [.exportOutsideBlocks]) ++
           (if exportExact a e r.d d then [] else [.exportExtraPoints]), recs)
      | none => ([.badObservation], recs) := rfl

theorem judge_overlay_quiet (recs : List Rec) (ids : List String) :
    judge recs (.restore ids) .noArchive = ([], recs) ∧ judge recs (.restore ids) .badOp = ([], recs) ∧
    judge recs (.importA ids) .noArchive = ([], recs) ∧
    (ids.length ≠ 1 → ∀ fs d, judge recs (.restore ids) (.target fs d) = ([], recs) ∧
      judge recs (.importA ids) (.target fs d) = ([], recs)) := by
  match ids with
  | [] => exact ⟨rfl, rfl, rfl, fun _ _ _ => ⟨rfl, rfl⟩⟩
  | [_] => exact ⟨rfl, rfl, rfl, fun h => absurd rfl h⟩
  | _ :: _ :: _ => exact ⟨rfl, rfl, rfl, fun _ _ _ => ⟨rfl, rfl⟩⟩

theorem judge_restore_multi (recs : List Rec) (i1 i2 : String) (rest : List String) (o : Obs) :
    (judge recs (.restore (i1 :: i2 :: rest)) o).1.all Sig.known = true ∨
    (judge recs (.restore (i1 :: i2 :: rest)) o).1 = [.badObservation] := by
  cases o <;> first | exact Or.inl rfl | exact Or.inr rfl

/-- The cause each kind of failure must have when the checker reports it on a trace of the
    model: a record of a shard that had a tombstone file, a record of an export, an export
    operation.  Every other kind has none: it is never reported. -/
def Blamed (recs : List Rec) (op : Op) : Sig → Prop
  | .restoreLostTombstone => ∃ r ∈ recs, hasTombstone r.files = true
  | .exportExtraPoints => ∃ r ∈ recs, ∃ a e, r.made = .export a e
  | .exportErrorTombstone | .exportErrorGap => ∃ id a e, op = .export id a e
  | _ => False

theorem Blamed.known {recs : List Rec} {op : Op} {sig : Sig} (h : Blamed recs op sig) : sig.known = true := by
  cases sig <;> first | rfl | exact h.elim

def RecsClean (recs : List Rec) : Prop :=
  ∀ r ∈ recs, hasTombstone r.files = false ∧ ∃ since, r.made = .backup since

theorem Blamed.not_clean {recs : List Rec} {op : Op} {sig : Sig} (h : Blamed recs op sig)
    (hrc : RecsClean recs) (hop : op.clean = true) : False := by
  cases sig <;> try exact h
  · obtain ⟨r, hr, ht⟩ := h
    rw [(hrc r hr).1] at ht; cases ht
  · obtain ⟨r, hr, a, e, hm⟩ := h
    obtain ⟨_, since, hb⟩ := hrc r hr
    rw [hb] at hm; cases hm
  all_goals
    obtain ⟨id, a, e, rfl⟩ := h
    cases hop

theorem contentCheck_blamed {r : Rec} {recs : List Rec} (hr : r ∈ recs) (op : Op) {d : Dump}
    (h : hasTombstone r.files = false → sameContent r.d d = true) :
    ∀ sig ∈ contentCheck r d, Blamed recs op sig := by
  unfold contentCheck
  split
  · exact fun _ h => (List.not_mem_nil h).elim
  · next hdiff =>
    intro sig hsig
    rw [List.mem_singleton.mp hsig]
    cases ht : hasTombstone r.files with
    | true => exact ⟨r, hr, ht⟩
    | false => exact absurd (h ht) hdiff

/-- What holds of a step to state `st'` on which the checker answers `j`: its failures have
    their causes, its records stay linked to the archives, and a new record lists the
    files of the source shard (and records a backup unless the operation is an export). -/
structure StepOK (st' : State) (recs : List Rec) (op : Op) (j : List Sig × List Rec) : Prop where
  blamed : ∀ sig ∈ j.1, Blamed recs op sig
  linked : Linked st'.archives j.2
  recs : j.2 = recs ∨ ∃ r, j.2 = r :: recs ∧ r.files = listing st'.src.files ∧
    (op.clean = true → ∃ since, r.made = .backup since)

theorem StepOK.quiet {st st' : State} {recs : List Rec} (hl : Linked st.archives recs)
    (ha : st'.archives = st.archives) (op : Op) : StepOK st' recs op ([], recs) :=
  ⟨fun _ h => (List.not_mem_nil h).elim, ha ▸ hl, Or.inl rfl⟩

theorem judge_step (st : State) (recs : List Rec) (hinv : st.src.Inv) (hl : Linked st.archives recs)
    (op : Op) (hso : (step st op).1.src.seriesOK = true) :
    StepOK (step st op).1 recs op (judge recs op (step st op).2) := by
  cases op with
  | write k t0 sp n v0 => simp only [step]; split <;> exact .quiet hl (by rfl) _
  | delete ks lo hi => simp only [step]; split <;> exact .quiet hl (by rfl) _
  | snap => exact .quiet hl (by rfl) _
  | compact => exact .quiet hl (by rfl) _
  | age sec => simp only [step]; split <;> exact .quiet hl (by rfl) _
  | dump => exact .quiet hl (by rfl) _
  | bigcase n imp =>
    simp only [step]; split
    · exact .quiet hl (by rfl) _
    · have : judge recs (.bigcase n imp) (.big (bigObs n) (bigObs n)) = ([], recs) :=
        congrArg (·, recs) (if_pos (beq_self_eq_true _))
      rw [this]; exact .quiet hl (by rfl) _
  | backup id since =>
    refine ⟨fun sig hsig => ?_, Linked.cons rfl ⟨st.src.flush, Shard.Inv_flush _ hinv, flush_cache _, hso,
      rfl, rfl, rfl, Or.inl ⟨rfl, since, rfl, rfl⟩⟩ hl, Or.inr ⟨_, rfl, rfl, fun _ => ⟨since, rfl⟩⟩⟩
    have : incrementalOK since (archiveNames (backupEntries since st.src.flush.files))
        (listing st.src.flush.files) = true := incrementalOK_backup ..
    have hj : (judge recs (.backup id since) (step st (.backup id since)).2).1 = [] := if_pos this
    rw [hj] at hsig; cases hsig
  | «export» id a e =>
    by_cases hae : a > e
    · simp only [step, if_pos hae]; exact .quiet hl (by rfl) _
    · simp only [step, if_neg hae, Shard.export] at hso ⊢
      cases hx : exportEntries a e st.src.flush.files with
      | error x =>
        refine ⟨fun sig hsig => ?_, hl, Or.inl rfl⟩
        rw [List.mem_singleton.mp hsig]
        split
        · exact ⟨id, a, e, rfl⟩
        · next hnt =>
          cases x with
          | tombstone => exact absurd (export_tombstone_listing hx) hnt
          | noValues =>
            rw [if_pos (gapFile_of_noValues _ (Shard.Inv_flush _ hinv) a e (Int.not_lt.mp hae)
              (Bool.not_eq_true _ ▸ hnt) hx)]
            exact ⟨id, a, e, rfl⟩
      | ok ar =>
        rw [hx] at hso
        exact ⟨fun _ h => (List.not_mem_nil h).elim, Linked.cons rfl ⟨st.src.flush, Shard.Inv_flush _ hinv,
          flush_cache _, hso, rfl, rfl, rfl, Or.inr ⟨rfl, a, e, rfl, Int.not_lt.mp hae, hx⟩⟩ hl,
          Or.inr ⟨_, rfl, rfl, fun h => nomatch h⟩⟩
  | restore ids =>
    obtain ⟨hq1, hq2, _, hmany⟩ := judge_overlay_quiet recs ids
    simp only [step]
    split
    · rw [hq1]; exact .quiet hl (by rfl) _
    · next as hla =>
      split
      · rw [hq2]; exact .quiet hl (by rfl) _
      · next hex =>
        by_cases hlen : ids.length = 1
        · obtain ⟨id, rfl⟩ := List.length_eq_one_iff.mp hlen
          obtain ⟨kind, ar, r, rfl, hr, hmem, hok⟩ := hl.single hla
          rw [judge_restore_one, hr]
          dsimp only
          obtain ⟨s, hsi, hsc, hsso, hfiles, _, hd, ⟨_, since, hmade, har⟩ | ⟨hk, _⟩⟩ := hok
          · rw [hmade]
            cases since with
            | some t => exact .quiet hl (by rfl) _
            | none =>
              refine ⟨contentCheck_blamed hmem _ fun hnt => ?_, hl, Or.inl rfl⟩
              rw [hd, har]
              exact restore_same s hsi hsc hsso (hfiles ▸ hnt)
          · exact absurd (by simp [hk]) hex
        · rw [(hmany hlen _ _).1]; exact .quiet hl (by rfl) _
  | importA ids =>
    obtain ⟨_, _, hq, hmany⟩ := judge_overlay_quiet recs ids
    simp only [step]
    split
    · rw [hq]; exact .quiet hl (by rfl) _
    · next as hla =>
      by_cases hlen : ids.length = 1
      · obtain ⟨id, rfl⟩ := List.length_eq_one_iff.mp hlen
        obtain ⟨kind, ar, r, rfl, hr, hmem, hok⟩ := hl.single hla
        rw [judge_import_one, hr]
        dsimp only
        obtain ⟨s, hsi, hsc, hsso, hfiles, hblocks, hd, ⟨_, since, hmade, har⟩ | ⟨_, a, e, hmade, hae, hx⟩⟩ := hok
        · rw [hmade]
          cases since with
          | some t => exact .quiet hl (by rfl) _
          | none =>
            refine ⟨contentCheck_blamed hmem _ fun hnt => ?_, hl, Or.inl rfl⟩
            rw [hd, har]
            exact import_same s hsi hsc hsso (hfiles ▸ hnt)
        · -- the lower and the block-bound checks pass; only `exportExact` can fail
          rw [hmade]
          refine ⟨fun sig hsig => ?_, hl, Or.inl rfl⟩
          have h1 : exportLower a e r.d (Shard.empty.importA ar).dump = true := by
            rw [hd]; exact exportLower_ok s hsi hsc a e ar hx
          have h2 : exportWithinBlocks a e r.blocks (Shard.empty.importA ar).dump = true := by
            rw [hblocks]; exact exportWithinBlocks_ok s hsi a e hae ar hx
          dsimp only [List.foldl] at hsig
          simp only [h1, h2, ↓reduceIte, List.nil_append] at hsig
          rw [List.mem_singleton.mp (List.mem_ite_nil_left.mp hsig).2]
          exact ⟨r, hmem, a, e, hmade⟩
      · rw [(hmany hlen _ _).2]; exact .quiet hl (by rfl) _

theorem failures_known (ops : List Op) (st : State) (recs : List Rec) (hinv : st.src.Inv)
    (hl : Linked st.archives recs) (hs : SeriesAlong st ops) :
    ∀ sig ∈ failuresFrom recs (run st ops), sig.known = true := by
  induction ops generalizing st recs with
  | nil => exact fun _ h => (List.not_mem_nil h).elim
  | cons op rest ih =>
    have hj := judge_step st recs hinv hl op hs.1
    intro sig hsig
    rcases List.mem_append.mp hsig with h | h
    · exact (hj.blamed sig h).known
    · exact ih _ _ (step_Inv st op hinv) hj.linked hs.2 sig h

theorem failures_clean (ops : List Op) (st : State) (recs : List Rec) (hinv : st.src.Inv)
    (hl : Linked st.archives recs) (hc : st.src.Clean) (hrc : RecsClean recs)
    (hops : ∀ op ∈ ops, op.clean = true) : failuresFrom recs (run st ops) = [] := by
  induction ops generalizing st recs with
  | nil => rfl
  | cons op rest ih =>
    have hop := hops op (List.mem_cons_self ..)
    have hc' := step_Clean st op hop hc
    have hj := judge_step st recs hinv hl op hc'.seriesOK
    have h1 : (judge recs op (step st op).2).1 = [] :=
      List.eq_nil_iff_forall_not_mem.mpr fun sig hsig => (hj.blamed sig hsig).not_clean hrc hop
    have h2 : RecsClean (judge recs op (step st op).2).2 := by
      rcases hj.recs with he | ⟨r, he, hf, hm⟩ <;> rw [he]
      · exact hrc
      · exact List.forall_mem_cons.mpr ⟨⟨hf ▸ hc'.noTombstone, hm hop⟩, hrc⟩
    show (judge recs op (step st op).2).1 ++ _ = []
    rw [h1]
    exact ih _ _ (step_Inv st op hinv) hj.linked hc' h2 fun o ho => hops o (List.mem_cons_of_mem _ ho)

end Influx.Backup
