/-
  Lemmas.BackupInv — invariants of the source shard of Model.Backup, preserved
  by every operation: files sorted by name with generations below the counter,
  a file without a tombstone file has no tombstone records, every point of a
  block lies within the block's index entry.

  Also here, because every invariant of the source shard needs them: what the
  files of a shard are after a snapshot, a compaction, a range delete, and the
  one case analysis of `step` on the source shard (`step_src`).
-/
import Influx.Lemmas.BackupRestore

namespace Influx.Backup

def Block.WF (b : Block) : Prop := ∀ p ∈ b.pts, b.lo ≤ p.1 ∧ p.1 ≤ b.hi

def TFile.WF (f : TFile) : Prop :=
  (∀ b ∈ f.blocks, b.WF) ∧ (f.tombM = none → f.tombs = []) ∧ f.blocks ≠ []

structure Shard.Inv (s : Shard) : Prop where
  sorted : SortedFiles s.files
  gens : ∀ f ∈ s.files, f.gen < s.nextGen
  wf : ∀ f ∈ s.files, f.WF

theorem Shard.Inv_empty : Shard.empty.Inv :=
  ⟨List.Pairwise.nil, by simp [Shard.empty], by simp [Shard.empty]⟩

theorem minT_le {l : List (TS × Val)} {p : TS × Val} (h : p ∈ l) : minT l ≤ p.1 := by
  induction l with
  | nil => simp at h
  | cons a l ih =>
    cases l with
    | nil => simp at h; subst h; simp [minT]
    | cons b l =>
      simp only [minT]
      rcases List.mem_cons.mp h with rfl | h
      · exact Int.min_le_left _ _
      · exact Int.le_trans (Int.min_le_right _ _) (ih h)

theorem le_maxT {l : List (TS × Val)} {p : TS × Val} (h : p ∈ l) : p.1 ≤ maxT l := by
  induction l with
  | nil => simp at h
  | cons a l ih =>
    cases l with
    | nil => simp at h; subst h; simp [maxT]
    | cons b l =>
      simp only [maxT]
      rcases List.mem_cons.mp h with rfl | h
      · exact Int.le_max_left _ _
      · exact Int.le_trans (ih h) (Int.le_max_right _ _)

theorem mem_mkBlocks {k : Key} {pts : List (TS × Val)} {b : Block} (h : b ∈ mkBlocks k pts) :
    b.key = k ∧ b.WF ∧ b.pts ≠ [] ∧ ∀ p ∈ b.pts, p ∈ pts := by
  obtain ⟨c, hc, rfl⟩ := List.mem_map.mp h
  refine ⟨rfl, fun p hp => ⟨minT_le hp, le_maxT hp⟩, chunk_ne_nil _ _ c hc, fun p hp => ?_⟩
  rw [← chunk_flatten blockSize pts]
  exact List.mem_flatten.mpr ⟨c, hc, hp⟩

theorem mem_flushBlocks {c : Cache} {b : Block} (h : b ∈ flushBlocks c) :
    b.WF ∧ b.pts ≠ [] ∧ ∃ e ∈ c, e.1 = b.key := by
  obtain ⟨k, hk, hb⟩ := List.mem_flatMap.mp h
  obtain ⟨hkey, hwf, hne, _⟩ := mem_mkBlocks hb
  obtain ⟨e, he, rfl⟩ := List.mem_map.mp (mem_sortKeys.mp hk)
  exact ⟨hwf, hne, e, he, hkey.symm⟩

theorem mem_compactBlocks {fs : List TFile} {b : Block} (h : b ∈ compactBlocks fs) :
    b.WF ∧ b.pts ≠ [] ∧ (∀ p ∈ b.pts, p ∈ filesPts fs b.key) ∧ ∃ f ∈ fs, ∃ b' ∈ f.blocks, b'.key = b.key := by
  obtain ⟨k, hk, hb⟩ := List.mem_flatMap.mp h
  obtain ⟨rfl, hwf, hne, hpts⟩ := mem_mkBlocks hb
  obtain ⟨f, hf, hkf⟩ := List.mem_flatMap.mp (mem_sortKeys.mp hk)
  obtain ⟨b', hb', hk'⟩ := List.mem_map.mp hkf
  exact ⟨hwf, hne, hpts, f, hf, b', hb', hk'⟩

theorem flush_spec (s : Shard) : s.flush.cache = [] ∧ s.flush.series = s.series ∧
    s.nextGen ≤ s.flush.nextGen ∧ (s.flush.files = s.files ∨
      (flushBlocks s.cache ≠ [] ∧ s.flush.nextGen = s.nextGen + 1 ∧
        s.flush.files = s.files ++ [⟨s.nextGen, 1, .fresh, flushBlocks s.cache, [], none⟩])) := by
  unfold Shard.flush
  split
  · next h =>
    rw [List.isEmpty_iff] at h
    split
    · exact ⟨h, rfl, Nat.le_succ _, Or.inl rfl⟩
    · exact ⟨h, rfl, Nat.le_refl _, Or.inl rfl⟩
  · refine ⟨rfl, rfl, Nat.le_succ _, ?_⟩
    cases h : flushBlocks s.cache with
    | nil => exact Or.inl (List.append_nil _)
    | cons b bs => exact Or.inr ⟨List.cons_ne_nil _ _, rfl, rfl⟩

theorem flush_cache (s : Shard) : s.flush.cache = [] := (flush_spec s).1

theorem flush_series (s : Shard) : s.flush.series = s.series := (flush_spec s).2.1

theorem forall_flush_files {s : Shard} {Q : TFile → Prop} (h : ∀ f ∈ s.files, Q f)
    (hnew : flushBlocks s.cache ≠ [] → Q ⟨s.nextGen, 1, .fresh, flushBlocks s.cache, [], none⟩) :
    ∀ f ∈ s.flush.files, Q f := by
  rcases (flush_spec s).2.2.2 with he | ⟨hne, _, he⟩ <;> rw [he]
  · exact h
  · intro f hf
    rcases List.mem_append.mp hf with hf | hf
    · exact h f hf
    · rw [List.mem_singleton.mp hf]; exact hnew hne

theorem compact_spec (s : Shard) : s.compact.cache = s.cache ∧ s.compact.series = s.series ∧
    s.compact.nextGen = s.nextGen ∧ (s.compact.files = s.files ∨ s.compact.files = [] ∨
      (s.files ≠ [] ∧ compactBlocks s.files ≠ [] ∧ s.compact.files =
        [⟨(maxGenSeq s.files).1, (maxGenSeq s.files).2 + 1, .fresh, compactBlocks s.files, [], none⟩])) := by
  unfold Shard.compact
  split
  · exact ⟨rfl, rfl, rfl, Or.inl rfl⟩
  · next hne =>
    refine ⟨rfl, rfl, rfl, Or.inr ?_⟩
    cases h : compactBlocks s.files with
    | nil => exact Or.inl rfl
    | cons b bs => exact Or.inr ⟨by intro hc; simp [hc] at hne, List.cons_ne_nil _ _, rfl⟩

theorem forall_compact_files {s : Shard} {Q : TFile → Prop} (h : ∀ f ∈ s.files, Q f)
    (hnew : s.files ≠ [] → compactBlocks s.files ≠ [] →
      Q ⟨(maxGenSeq s.files).1, (maxGenSeq s.files).2 + 1, .fresh, compactBlocks s.files, [], none⟩) :
    ∀ f ∈ s.compact.files, Q f := by
  rcases (compact_spec s).2.2.2 with he | he | ⟨h1, h2, he⟩ <;> rw [he]
  · exact h
  · exact fun _ hf => nomatch hf
  · intro f hf
    rw [List.mem_singleton.mp hf]; exact hnew h1 h2

theorem maxGenSeq_lt {fs : List TFile} {n : Nat} (hn : 0 < n) (h : ∀ f ∈ fs, f.gen < n) :
    (maxGenSeq fs).1 < n := by
  induction fs with
  | nil => exact hn
  | cons f fs ih =>
    have ih := ih (fun g hg => h g (List.mem_cons_of_mem _ hg))
    simp only [maxGenSeq]
    split
    · exact h f (List.mem_cons_self ..)
    · split <;> exact ih

theorem deleteRange_eq (f : TFile) (ks : List Key) (lo hi : TS) : f.deleteRange ks lo hi = f ∨
    ∃ hit : List Key, f.deleteRange ks lo hi =
      { f with tombs := f.tombs ++ hit.map (fun k => { key := k, lo := lo, hi := hi }), tombM := some .fresh } := by
  unfold TFile.deleteRange
  split
  · exact Or.inl rfl
  · dsimp only
    split
    · exact Or.inl rfl
    · exact Or.inr ⟨_, rfl⟩

theorem deleteRange_names (f : TFile) (ks : List Key) (lo hi : TS) :
    (f.deleteRange ks lo hi).gen = f.gen ∧ (f.deleteRange ks lo hi).seq = f.seq := by
  rcases deleteRange_eq f ks lo hi with h | ⟨_, h⟩ <;> rw [h] <;> exact ⟨rfl, rfl⟩

theorem deleteRange_blocks (f : TFile) (ks : List Key) (lo hi : TS) :
    (f.deleteRange ks lo hi).blocks = f.blocks := by
  rcases deleteRange_eq f ks lo hi with h | ⟨_, h⟩ <;> rw [h]

theorem deleteRange_WF (f : TFile) (ks : List Key) (lo hi : TS) (h : f.WF) :
    (f.deleteRange ks lo hi).WF := by
  rcases deleteRange_eq f ks lo hi with he | ⟨_, he⟩ <;> rw [he]
  · exact h
  · exact ⟨h.1, fun hc => (nomatch hc), h.2.2⟩

theorem SortedFiles_map (g : TFile → TFile) (hg : ∀ f, (g f).gen = f.gen ∧ (g f).seq = f.seq)
    (fs : List TFile) (h : SortedFiles fs) : SortedFiles (fs.map g) := by
  unfold SortedFiles at *
  rw [List.pairwise_map]
  exact h.imp (fun {a b} hab => by unfold nameLt at *; rw [(hg a).1, (hg a).2, (hg b).1, (hg b).2]; exact hab)

theorem Shard.Inv_write (s : Shard) (h : s.Inv) (k : Key) (t0 step : Int) (n : Nat) (v0 : Int) :
    (s.write k t0 step n v0).Inv := ⟨h.sorted, h.gens, h.wf⟩

theorem Shard.Inv_noteRead (s : Shard) (h : s.Inv) : s.noteRead.Inv := by
  unfold Shard.noteRead
  split
  · exact ⟨h.sorted, h.gens, h.wf⟩
  · exact h

theorem Shard.Inv_flush (s : Shard) (h : s.Inv) : s.flush.Inv := by
  have hwf := forall_flush_files h.wf fun hne => ⟨fun b hb => (mem_flushBlocks hb).1, fun _ => rfl, hne⟩
  obtain ⟨_, _, hle, he | ⟨_, hg, he⟩⟩ := flush_spec s
  · exact ⟨he ▸ h.sorted, fun f hf => Nat.lt_of_lt_of_le (h.gens f (he ▸ hf)) hle, hwf⟩
  · refine ⟨?_, ?_, hwf⟩
    · rw [he]
      exact List.pairwise_append.mpr ⟨h.sorted, List.pairwise_singleton _ _,
        fun a ha b hb => List.mem_singleton.mp hb ▸ Or.inl (h.gens a ha)⟩
    · rw [he, hg]
      intro f hf
      rcases List.mem_append.mp hf with hf | hf
      · exact Nat.lt_succ_of_lt (h.gens f hf)
      · rw [List.mem_singleton.mp hf]; exact Nat.lt_succ_self _

theorem Shard.Inv_delete (s : Shard) (h : s.Inv) (ks : List Key) (lo hi : TS) :
    (s.delete ks lo hi).Inv := by
  unfold Shard.delete
  split
  · exact h
  · refine ⟨SortedFiles_map _ (fun f => deleteRange_names f ks lo hi) _ h.sorted, ?_, ?_⟩
    · intro f hf
      obtain ⟨g, hg, rfl⟩ := List.mem_map.mp hf
      rw [(deleteRange_names g ks lo hi).1]; exact h.gens g hg
    · intro f hf
      obtain ⟨g, hg, rfl⟩ := List.mem_map.mp hf
      exact deleteRange_WF g ks lo hi (h.wf g hg)

theorem Shard.Inv_age (s : Shard) (h : s.Inv) (sec : Int) : (s.age sec).Inv := by
  unfold Shard.age
  refine ⟨SortedFiles_map _ (by exact fun f => ⟨rfl, rfl⟩) _ h.sorted, ?_, ?_⟩
  · intro f hf
    obtain ⟨g, hg, rfl⟩ := List.mem_map.mp hf
    exact h.gens g hg
  · intro f hf
    obtain ⟨g, hg, rfl⟩ := List.mem_map.mp hf
    exact ⟨(h.wf g hg).1, fun hn => (h.wf g hg).2.1 (Option.map_eq_none_iff.mp hn), (h.wf g hg).2.2⟩

theorem Shard.Inv_compact (s : Shard) (h : s.Inv) : s.compact.Inv := by
  refine ⟨?_, ?_, forall_compact_files h.wf fun _ hne =>
    ⟨fun b hb => (mem_compactBlocks hb).1, fun _ => rfl, hne⟩⟩
  · rcases (compact_spec s).2.2.2 with he | he | ⟨_, _, he⟩ <;> rw [he]
    · exact h.sorted
    · exact List.Pairwise.nil
    · exact List.pairwise_singleton _ _
  · rw [(compact_spec s).2.2.1]
    refine forall_compact_files h.gens fun hne _ => ?_
    obtain ⟨f, hf⟩ := List.exists_mem_of_ne_nil _ hne
    exact maxGenSeq_lt (Nat.zero_lt_of_lt (h.gens f hf)) h.gens

theorem Shard.Inv_backup (s : Shard) (h : s.Inv) (since : Option Int) : (s.backup since).1.Inv :=
  Shard.Inv_flush s h

theorem Shard.Inv_export (s : Shard) (h : s.Inv) (a e : TS) : (s.export a e).1.Inv :=
  Shard.Inv_flush s h

theorem src_ite {P : Shard → Prop} {c : Prop} [Decidable c] {x y : State × Obs}
    (hx : c → P x.1.src) (hy : ¬ c → P y.1.src) : P (if c then x else y).1.src := by
  by_cases h : c
  · rw [if_pos h]; exact hx h
  · rw [if_neg h]; exact hy h

/-- What an operation of the state machine does to the source shard: nothing, or one of
    six shard operations (a range delete only with `lo ≤ hi`).  Every invariant of the
    source shard is preserved by `step` once it is preserved by these. -/
theorem step_src {P : Shard → Prop} (st : State) (op : Op) (h : P st.src)
    (write : ∀ k t0 sp n v0, P (st.src.write k t0 sp n v0))
    (delete : ∀ ks lo hi, op = .delete ks lo hi → lo ≤ hi → P (st.src.delete ks lo hi))
    (flush : P st.src.flush) (compact : P st.src.compact) (age : ∀ sec, P (st.src.age sec))
    (noteRead : P st.src.noteRead) : P (step st op).1.src := by
  cases op with
  | write k t0 sp n v0 => exact src_ite (fun _ => h) fun _ => write ..
  | delete ks lo hi =>
    refine src_ite (fun _ => h) fun hc => ?_
    rw [Bool.or_eq_true, decide_eq_true_eq, not_or] at hc
    exact delete ks lo hi rfl (Int.not_lt.mp hc.2)
  | snap => exact flush
  | compact => exact compact
  | age sec => exact src_ite (fun _ => h) fun _ => age sec
  | backup id since => exact flush
  | «export» id a e =>
    refine src_ite (fun _ => h) fun _ => ?_
    dsimp only [Shard.export]
    cases exportEntries a e st.src.flush.files <;> exact flush
  | restore ids =>
    show P (match lookupAll st ids with | none => _ | some as => _ : State × Obs).1.src
    cases lookupAll st ids with
    | none => exact h
    | some as => exact src_ite (fun _ => h) fun _ => h
  | importA ids =>
    show P (match lookupAll st ids with | none => _ | some as => _ : State × Obs).1.src
    cases lookupAll st ids <;> exact h
  | dump => exact noteRead
  | bigcase n imp => exact src_ite (fun _ => h) fun _ => h

theorem step_Inv (st : State) (op : Op) (h : st.src.Inv) : (step st op).1.src.Inv :=
  step_src st op h (Shard.Inv_write _ h) (fun _ _ _ _ _ => Shard.Inv_delete _ h _ _ _) (Shard.Inv_flush _ h)
    (Shard.Inv_compact _ h) (Shard.Inv_age _ h) (Shard.Inv_noteRead _ h)

theorem step_restore_fst (st : State) (ids : List String) : (step st (.restore ids)).1 = st := by
  simp only [step]
  split
  · rfl
  · split <;> rfl

theorem step_import_fst (st : State) (ids : List String) : (step st (.importA ids)).1 = st := by
  simp only [step]
  split <;> rfl

theorem flush_abs_files (s : Shard) (k : Key) (t : TS) :
    s.flush.abs k t = filesLookup s.flush.files k t := by
  simp [Shard.abs, flush_cache, cacheLookup]

theorem flush_no_tombs (s : Shard) (h : ∀ f ∈ s.files, f.tombs = []) : ∀ f ∈ s.flush.files, f.tombs = [] :=
  forall_flush_files h fun _ => rfl

end Influx.Backup
