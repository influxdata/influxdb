/-
  Lemmas.TSIInvOps — the partition invariant through series creation and series drop.
-/
import Influx.Lemmas.TSIInv

namespace Influx.Model.TSI

theorem find_inj {sf : SFile} {id : Nat} {s t : SeriesInfo} (h1 : sf.find id = some s)
    (h2 : sf.find id = some t) : s = t :=
  Option.some.inj (h1.symm.trans h2)

theorem liveIn_cons_other {sf : SFile} {live : List Nat} {i id x : Nat} (hx : x ≠ id) :
    LiveIn sf (id :: live) i x ↔ LiveIn sf live i x := by
  unfold LiveIn
  rw [List.mem_cons, or_iff_right hx]

theorem liveIn_sdel {sf : SFile} {live : List Nat} {i id x : Nat} :
    LiveIn sf (sdel live id) i x ↔ LiveIn sf live i x ∧ x ≠ id := by
  unfold LiveIn
  rw [mem_sdel, and_right_comm]

def appendSeries (sf : SFile) (p : Partition) (isAdd : Bool) (id : Nat) : Partition :=
  let q := p.append sf [if isAdd then Entry.add id else Entry.delSeries id]
  { q with sset := if isAdd then sadd q.sset id else sdel q.sset id }

theorem exec_seriesEntry (sf : SFile) (d : FileData) (isAdd : Bool) (id : Nat) :
    exec sf d (if isAdd then Entry.add id else Entry.delSeries id) = execSeries sf d isAdd id := by
  cases isAdd <;> rfl

theorem appendSeries_files (sf : SFile) (p : Partition) (isAdd : Bool) (id : Nat) (a : File)
    (rest : List File) (h : p.files = a :: rest) :
    (appendSeries sf p isAdd id).files =
      { a with entries := a.entries ++ [if isAdd then Entry.add id else Entry.delSeries id],
               data := execSeries sf a.data isAdd id } :: rest := by
  rw [← exec_seriesEntry]
  exact append_files sf p _ a rest h

theorem appendSeries_datas (sf : SFile) (p : Partition) (isAdd : Bool) (id : Nat) (a : File)
    (rest : List File) (h : p.files = a :: rest) :
    (appendSeries sf p isAdd id).datas = execSeries sf a.data isAdd id :: rest.map (·.data) :=
  datas_cons _ _ rest (appendSeries_files sf p isAdd id a rest h)

theorem appendSeries_sset (sf : SFile) (p : Partition) (isAdd : Bool) (id : Nat) :
    (appendSeries sf p isAdd id).sset = if isAdd then sadd p.sset id else sdel p.sset id := by
  unfold appendSeries
  simp only [append_sset]

section
variable {sf : SFile} {id : Nat} {s : SeriesInfo} (hf : sf.find id = some s) (d : FileData) (isAdd : Bool)
  (ds : List FileData)
include hf

theorem status_execSeries (x : Nat) :
    status x (execSeries sf d isAdd id :: ds) = if x = id then some isAdd else status x (d :: ds) := by
  obtain ⟨h1, h2⟩ := execSeries_sset sf d isAdd id s hf
  rw [status_cons, status_cons, h1, h2]
  by_cases hx : x = id
  · cases isAdd <;> simp [hx, mem_sadd, mem_sdel]
  · cases isAdd <;> simp [hx, mem_sadd, mem_sdel]

theorem firstSome_measFlag_execSeries (n : String) :
    firstSome (measFlag n) (execSeries sf d isAdd id :: ds) =
      if n = s.name then some false else firstSome (measFlag n) (d :: ds) := by
  rw [firstSome_cons, firstSome_cons, execSeries_measFlag sf d isAdd id s hf]
  by_cases hn : n = s.name
  · rw [if_pos hn, if_pos hn]
  · rw [if_neg hn, if_neg hn]

end

section
variable {exc : String → Prop} {sf : SFile} {live : List Nat} {i : Nat} {p : Partition}
  (hok : SFOK sf) (hp : PInvX exc sf live i p) (isAdd : Bool) {id : Nat} {s : SeriesInfo}
  (hf : sf.find id = some s) {a : File} {rest : List File} (hfiles : p.files = a :: rest)
include hok hp hf hfiles

theorem fileOK_appendSeries : ∀ f ∈ (appendSeries sf p isAdd id).files, FileOK sf f := by
  have ha : a ∈ p.files := hfiles ▸ List.mem_cons_self
  have hl : a.isLog = true := by
    obtain ⟨_, _, h, hl⟩ := hp.head
    cases hfiles.symm.trans h; exact hl
  have hid : (sf.find id).isSome := by rw [hf]; rfl
  rw [appendSeries_files sf p isAdd id a rest hfiles, ← exec_seriesEntry]
  refine List.forall_mem_cons.mpr ⟨fileOK_append (pinv_fileOK hp ha) hl _ ?_ ?_ ?_ ?_,
    fun f h => pinv_fileOK hp (hfiles ▸ List.mem_cons_of_mem _ h)⟩
  · intro e he x hx
    cases List.mem_singleton.mp he
    cases isAdd <;> rcases hx with hx | hx <;> cases hx <;> exact hid
  · show NoFlags (exec sf a.data _)
    rw [exec_seriesEntry]; exact execSeries_noflags hok (hp.noflags a ha) isAdd id
  · show Sound sf (exec sf a.data _)
    rw [exec_seriesEntry]; exact execSeries_sound hok (hp.sound a ha) isAdd id
  · -- a tombstone of the new content is an old one, or the entry's
    intro x hx
    rw [List.foldl_cons, List.foldl_nil, exec_seriesEntry, (execSeries_sset sf a.data isAdd id s hf).2] at hx
    cases isAdd
    · exact ((mem_sadd _ _ _).mp hx).elim (fun e => e ▸ hid) (hp.tknown a ha x)
    · exact hp.tknown a ha x ((mem_sdel _ _ _).mp hx).1

theorem comp_appendSeries {x : Nat} {t : SeriesInfo} (hx : x ∈ live) (ht : sf.find x = some t)
    (hpx : t.part = i) (hkeep : isAdd = true ∨ x ≠ id) :
    ∃ f ∈ (appendSeries sf p isAdd id).files, x ∈ fileMeasSeries t.name f.data ∧
      ∀ k v, tagOf t.tags k = some v → x ∈ fileValSeries t.name k v f.data := by
  have hd := hok.nodup s (find_some_mem hf).1
  obtain ⟨f, hfm, hm, hv⟩ := hp.comp x t hx ht hpx
  rw [appendSeries_files sf p isAdd id a rest hfiles]
  rw [hfiles] at hfm
  rcases List.mem_cons.mp hfm with rfl | hfm
  · exact ⟨_, List.mem_cons_self,
      (execSeries_mem_fileMeasSeries sf f.data isAdd id s hf _ x).mpr (Or.inl ⟨hm, fun _ => hkeep⟩),
      fun k v hkv => (execSeries_mem_fileValSeries sf f.data isAdd id s hf hd _ k v x).mpr
        (Or.inl ⟨hv k v hkv, fun _ => hkeep⟩)⟩
  · exact ⟨f, List.mem_cons_of_mem _ hfm, hm, hv⟩

end

theorem pinv_create {exc : String → Prop} {sf : SFile} (hok : SFOK sf) {live : List Nat} {i : Nat}
    {p : Partition} (hp : PInvX exc sf live i p) (id : Nat) (s : SeriesInfo)
    (hf : sf.find id = some s) (hpart : s.part = i) (hnl : id ∉ live)
    (hnt : ∀ f ∈ p.files, id ∉ f.data.tomb) :
    PInvX exc sf (id :: live) i (appendSeries sf p true id) := by
  obtain ⟨a, rest, hfiles, halog⟩ := hp.head
  have hfiles' := appendSeries_files sf p true id a rest hfiles
  have hdatas := appendSeries_datas sf p true id a rest hfiles
  have hdatas0 := datas_cons p a rest hfiles
  have hd := hok.nodup s (find_some_mem hf).1
  have hself : LiveIn sf (id :: live) i id := ⟨List.mem_cons_self, s, hf, hpart⟩
  refine pinv_of_fileOK ⟨_, rest, hfiles', halog⟩ (fileOK_appendSeries hok hp true hf hfiles)
    ?comp ?notomb ?sset ?stat ?mflive ?mfdead
  case comp =>
    intro x t hx ht hpx
    rcases List.mem_cons.mp hx with rfl | hx
    · cases find_inj hf ht
      rw [hfiles']
      exact ⟨_, List.mem_cons_self,
        (execSeries_mem_fileMeasSeries sf a.data true x s hf _ x).mpr (Or.inr ⟨rfl, rfl, rfl⟩),
        fun k v hkv => (execSeries_mem_fileValSeries sf a.data true x s hf hd _ k v x).mpr
          (Or.inr ⟨⟨rfl, hkv⟩, rfl, rfl⟩)⟩
    · exact comp_appendSeries hok hp true hf hfiles hx ht hpx (Or.inl rfl)
  case notomb =>
    intro f hfm x hx hxt
    rw [hfiles'] at hfm
    rcases List.mem_cons.mp hfm with rfl | hfr
    · -- the add removed the id from the active log's tombstones
      obtain ⟨hxt, hne⟩ := (mem_sdel _ _ _).mp ((execSeries_sset sf a.data true id s hf).2 ▸ hxt)
      exact hp.notomb a (hfiles ▸ List.mem_cons_self) x ((List.mem_cons.mp hx).resolve_left hne) hxt
    · have hfp : f ∈ p.files := hfiles ▸ List.mem_cons_of_mem _ hfr
      rcases List.mem_cons.mp hx with rfl | hxl
      · exact hnt f hfp hxt
      · exact hp.notomb f hfp x hxl hxt
  case sset =>
    intro x
    rw [appendSeries_sset, if_pos rfl, mem_sadd]
    by_cases hx : x = id
    · subst hx; exact ⟨fun _ => hself, fun _ => Or.inl rfl⟩
    · rw [or_iff_right hx, liveIn_cons_other hx]; exact hp.sset x
  case stat =>
    intro x
    rw [hdatas, status_execSeries hf, ← hdatas0]
    by_cases hx : x = id
    · subst hx; rw [if_pos rfl]; exact ⟨fun _ => hself, fun _ => rfl⟩
    · rw [if_neg hx, liveIn_cons_other hx]; exact hp.stat x
  case mflive =>
    intro x t hx ht hpx
    rw [hdatas, firstSome_measFlag_execSeries hf, ← hdatas0]
    by_cases hn : t.name = s.name
    · rw [if_pos hn]
    · rw [if_neg hn]
      rcases List.mem_cons.mp hx with rfl | hx
      · cases find_inj hf ht; exact absurd rfl hn
      · exact hp.mflive x t hx ht hpx
  case mfdead =>
    intro n hn
    by_cases hns : n = s.name
    · exact Or.inl ⟨id, List.mem_cons_self, s, hf, hns.symm⟩
    · rw [hdatas, firstSome_measFlag_execSeries hf, ← hdatas0, if_neg hns] at hn
      exact (hp.mfdead n hn).imp (fun ⟨x, hx, h⟩ => ⟨x, List.mem_cons_of_mem _ hx, h⟩) (fun h => h)

theorem pinv_create_other {exc : String → Prop} {sf : SFile} {live : List Nat} {j : Nat}
    {q : Partition} (hq : PInvX exc sf live j q) (id : Nat) (s : SeriesInfo)
    (hf : sf.find id = some s) (hpart : s.part ≠ j) (hnt : ∀ f ∈ q.files, id ∉ f.data.tomb) :
    PInvX exc sf (id :: live) j q :=
  pinv_live_congr hq
    (fun _ _ ht hpt => ⟨fun hx => (List.mem_cons.mp hx).resolve_left fun e =>
      hpart (find_inj (e ▸ ht) hf ▸ hpt), List.mem_cons_of_mem _⟩)
    (fun f hfm x hx => (List.mem_cons.mp hx).elim (fun e => e ▸ hnt f hfm) (hq.notomb f hfm x))
    (fun _ => Or.imp_left fun ⟨x, hx, h⟩ => ⟨x, List.mem_cons_of_mem _ hx, h⟩)

/-- **series drop** (`Partition.DropSeries`): the partition of the series. Its measurement may
    now be listed without a live series (`exc` grows) until `DropMeasurementIfSeriesNotExist`. -/
theorem pinv_drop {exc : String → Prop} {sf : SFile} (hok : SFOK sf) {live : List Nat} {i : Nat}
    {p : Partition} (hp : PInvX exc sf live i p) (id : Nat) (s : SeriesInfo)
    (hf : sf.find id = some s) :
    PInvX (fun n => exc n ∨ n = s.name) sf (sdel live id) i (appendSeries sf p false id) := by
  obtain ⟨a, rest, hfiles, halog⟩ := hp.head
  have hfiles' := appendSeries_files sf p false id a rest hfiles
  have hdatas := appendSeries_datas sf p false id a rest hfiles
  have hdatas0 := datas_cons p a rest hfiles
  refine pinv_of_fileOK ⟨_, rest, hfiles', halog⟩ (fileOK_appendSeries hok hp false hf hfiles)
    ?comp ?notomb ?sset ?stat ?mflive ?mfdead
  case comp =>
    intro x t hx ht hpx
    obtain ⟨hxl, hxne⟩ := (mem_sdel live id x).mp hx
    exact comp_appendSeries hok hp false hf hfiles hxl ht hpx (Or.inr hxne)
  case notomb =>
    intro f hfm x hx hxt
    obtain ⟨hxl, hxne⟩ := (mem_sdel live id x).mp hx
    rw [hfiles'] at hfm
    rcases List.mem_cons.mp hfm with rfl | hfr
    · -- the only new tombstone is the dropped id's
      rcases (mem_sadd _ _ _).mp ((execSeries_sset sf a.data false id s hf).2 ▸ hxt) with h | h
      · exact hxne h
      · exact hp.notomb a (hfiles ▸ List.mem_cons_self) x hxl h
    · exact hp.notomb f (hfiles ▸ List.mem_cons_of_mem _ hfr) x hxl hxt
  case sset =>
    intro x
    rw [appendSeries_sset, if_neg Bool.false_ne_true, mem_sdel, liveIn_sdel, hp.sset x]
  case stat =>
    intro x
    rw [hdatas, status_execSeries hf, ← hdatas0, liveIn_sdel]
    by_cases hx : x = id
    · rw [if_pos hx]; exact ⟨fun h => (by cases h), fun h => absurd hx h.2⟩
    · rw [if_neg hx, hp.stat x, and_iff_left hx]
  case mflive =>
    intro x t hx ht hpx
    rw [hdatas, firstSome_measFlag_execSeries hf, ← hdatas0]
    by_cases hn : t.name = s.name
    · rw [if_pos hn]
    · rw [if_neg hn]; exact hp.mflive x t ((mem_sdel live id x).mp hx).1 ht hpx
  case mfdead =>
    intro n hn
    by_cases hns : n = s.name
    · exact Or.inr (Or.inr hns)
    · rw [hdatas, firstSome_measFlag_execSeries hf, ← hdatas0, if_neg hns] at hn
      rcases hp.mfdead n hn with ⟨x, hx, t, ht, hname⟩ | hex
      · -- the witness is not the dropped series: that one is named `s.name`
        refine Or.inl ⟨x, (mem_sdel live id x).mpr ⟨hx, ?_⟩, t, ht, hname⟩
        rintro rfl
        cases find_inj hf ht
        exact hns hname.symm
      · exact Or.inr (Or.inl hex)

theorem pinv_drop_other {exc : String → Prop} {sf : SFile} {live : List Nat} {j : Nat}
    {q : Partition} (hq : PInvX exc sf live j q) (id : Nat) (s : SeriesInfo)
    (hf : sf.find id = some s) (hpart : s.part ≠ j) :
    PInvX (fun n => exc n ∨ n = s.name) sf (sdel live id) j q :=
  pinv_live_congr hq
    (fun x t ht hpt => (mem_sdel live id x).trans
      (and_iff_left_of_imp fun _ hx => hpart (find_inj (hx ▸ ht) hf ▸ hpt)))
    (fun f hfm x hx => hq.notomb f hfm x ((mem_sdel live id x).mp hx).1)
    (fun n h => by
      rcases h with ⟨x, hx, t, ht, hname⟩ | hex
      · by_cases hxid : x = id
        · subst hxid
          cases find_inj hf ht
          exact Or.inr (Or.inr hname.symm)
        · exact Or.inl ⟨x, (mem_sdel live id x).mpr ⟨hx, hxid⟩, t, ht, hname⟩
      · exact Or.inr (Or.inl hex))

end Influx.Model.TSI
