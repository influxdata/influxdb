/-
  Lemmas about the escaping functions of Influx.Model.LineProtocol:
  the `bytes.Replace` chains are one-pass escapers, and un-escaping inverts them on
  every byte string.
-/
import Influx.Model.LineProtocol

namespace Influx.LP

theorem cBS_val : cBS = 92 := rfl
theorem cComma_val : cComma = 44 := rfl
theorem cSpace_val : cSpace = 32 := rfl
theorem cEq_val : cEq = 61 := rfl
theorem cQuote_val : cQuote = 34 := rfl
theorem cNL_val : cNL = 10 := rfl

def escBy (S : Nat → Bool) : Bytes → Bytes
  | [] => []
  | b :: rest => if S b then cBS :: b :: escBy S rest else b :: escBy S rest

def isTagSpecial (c : Nat) : Bool := c == cComma || c == cSpace || c == cEq
def isMeasSpecial (c : Nat) : Bool := c == cComma || c == cSpace

@[simp] theorem escBy_nil (S) : escBy S [] = [] := rfl
theorem escBy_cons (S b rest) :
    escBy S (b :: rest) = if S b then cBS :: b :: escBy S rest else b :: escBy S rest := rfl

theorem escBy_append (S) (a b : Bytes) : escBy S (a ++ b) = escBy S a ++ escBy S b := by
  induction a with
  | nil => rfl
  | cons x xs ih => simp only [List.cons_append, escBy_cons, ih]; split <;> rfl

theorem escBy_eq_nil (S) (s : Bytes) : escBy S s = [] ↔ s = [] := by
  cases s with
  | nil => simp
  | cons b r => simp [escBy_cons]; split <;> simp

theorem replace12_not_mem (k e1 e2 : Nat) (s : Bytes) (h : k ∉ s) : replace12 k e1 e2 s = s := by
  induction s with
  | nil => rfl
  | cons b r ih =>
    simp only [List.mem_cons, not_or] at h
    simp [replace12, Ne.symm h.1, ih h.2]

theorem replace12_guard (k e1 e2 : Nat) (s : Bytes) :
    (if s.contains k = true then replace12 k e1 e2 s else s) = replace12 k e1 e2 s := by
  split
  · rfl
  · next h => rw [replace12_not_mem]; simpa using h

/-- a further `bytes.Replace(k → \k)` pass extends the escaped set -/
theorem replace12_escBy (S : Nat → Bool) (k : Nat) (hk : k ≠ cBS) (hS : S k = false) (s : Bytes) :
    replace12 k cBS k (escBy S s) = escBy (fun b => S b || b == k) s := by
  induction s with
  | nil => rfl
  | cons b r ih =>
    simp only [escBy_cons]
    by_cases hb : S b = true
    · have hbk : b ≠ k := by intro h; rw [h, hS] at hb; cases hb
      have : cBS ≠ k := Ne.symm hk
      simp [hb, replace12, this, hbk, ih]
    · by_cases hbk : b = k
      · subst hbk; simp [hb, replace12, ih]
      · simp [hb, replace12, hbk, ih]

theorem escBy_congr (S T : Nat → Bool) (h : ∀ b, S b = T b) (s : Bytes) : escBy S s = escBy T s := by
  have : S = T := funext h
  rw [this]

theorem escBy_false (s : Bytes) : escBy (fun _ => false) s = s := by
  induction s with
  | nil => rfl
  | cons b r ih => simp [escBy_cons, ih]

theorem escapeTag_eq (s : Bytes) : escapeTag s = escBy isTagSpecial s := by
  unfold escapeTag escapeWith tagEscapeCodes
  simp only [List.foldl_cons, List.foldl_nil, replace12_guard]
  have h0 : s = escBy (fun _ => false) s := (escBy_false s).symm
  conv => lhs; rw [h0]
  rw [replace12_escBy _ _ (by decide) (by rfl), replace12_escBy _ _ (by decide) (by decide),
    replace12_escBy _ _ (by decide) (by decide)]
  apply escBy_congr
  intro b; simp [isTagSpecial]

theorem escapeMeasurement_eq (s : Bytes) : escapeMeasurement s = escBy isMeasSpecial s := by
  unfold escapeMeasurement escapeWith measurementEscapeCodes
  simp only [List.foldl_cons, List.foldl_nil, replace12_guard]
  have h0 : s = escBy (fun _ => false) s := (escBy_false s).symm
  conv => lhs; rw [h0]
  rw [replace12_escBy _ _ (by decide) (by rfl), replace12_escBy _ _ (by decide) (by decide)]
  apply escBy_congr
  intro b; simp [isMeasSpecial]

theorem replace21_cons_ne (e1 e2 k a : Nat) (l : Bytes) (h : a ≠ e1) :
    replace21 e1 e2 k (a :: l) = a :: replace21 e1 e2 k l := by
  cases l with
  | nil => rfl
  | cons b r => simp [replace21, h]

theorem replace21_cons_head (e1 e2 k a : Nat) (l : Bytes) (h : l.head? ≠ some e2) :
    replace21 e1 e2 k (a :: l) = a :: replace21 e1 e2 k l := by
  cases l with
  | nil => rfl
  | cons b r =>
    have : b ≠ e2 := by simpa using h
    simp [replace21, this]

theorem replace21_not_mem (e1 e2 k : Nat) (s : Bytes) (h : e2 ∉ s) : replace21 e1 e2 k s = s := by
  induction s with
  | nil => rfl
  | cons a r ih =>
    simp only [List.mem_cons, not_or] at h
    rw [replace21_cons_head, ih h.2]
    cases r with
    | nil => simp
    | cons b r' => simp only [List.mem_cons, not_or] at h; simpa using Ne.symm h.2.1

theorem replace21_guard (e1 e2 k : Nat) (s : Bytes) :
    (if s.contains e2 = true then replace21 e1 e2 k s else s) = replace21 e1 e2 k s := by
  split
  · rfl
  · next h => rw [replace21_not_mem]; simpa using h

theorem escBy_head (S : Nat → Bool) (s : Bytes) (c : Nat) (h : (escBy S s).head? = some c) :
    c = cBS ∨ (s.head? = some c ∧ S c = false) := by
  cases s with
  | nil => cases h
  | cons b r =>
    rw [escBy_cons] at h
    split at h
    · exact Or.inl (Option.some.inj h).symm
    · next hb => cases Option.some.inj h; exact Or.inr ⟨rfl, by simpa using hb⟩

theorem escBy_head_ne (S : Nat → Bool) (k : Nat) (hk : k ≠ cBS) (hS : S k = true) (r : Bytes) :
    (escBy S r).head? ≠ some k := by
  intro h
  rcases escBy_head S r k h with e | ⟨_, e⟩
  · exact hk e
  · rw [hS] at e; cases e

/-- a `bytes.Replace(\k → k)` pass removes `k` from the escaped set -/
theorem replace21_escBy (S : Nat → Bool) (k : Nat) (hk : k ≠ cBS) (hS : S k = true)
    (hbs : S cBS = false) (s : Bytes) :
    replace21 cBS k k (escBy S s) = escBy (fun b => S b && b != k) s := by
  induction s with
  | nil => rfl
  | cons b r ih =>
    simp only [escBy_cons]
    by_cases hb : S b = true
    · by_cases hbk : b = k
      · subst hbk; simp [hb, replace21, ih]
      · have hb92 : b ≠ cBS := by intro h; rw [h, hbs] at hb; cases hb
        simp only [hb, if_true, Bool.true_and, bne_iff_ne, ne_eq, hbk, not_false_eq_true]
        rw [replace21_cons_head _ _ _ _ _ (by simpa using hbk), replace21_cons_ne _ _ _ _ _ hb92, ih]
    · simp only [hb, Bool.false_and, Bool.false_eq_true, if_false]
      rw [replace21_cons_head _ _ _ _ _ (escBy_head_ne S k hk hS r), ih]

theorem escBy_no_bs (S : Nat → Bool) (s : Bytes) (h : cBS ∉ escBy S s) : escBy S s = s := by
  induction s with
  | nil => rfl
  | cons b r ih =>
    simp only [escBy_cons] at h ⊢
    by_cases hb : S b = true
    · simp [hb] at h
    · simp only [hb, Bool.false_eq_true, if_false, List.mem_cons, not_or] at h ⊢
      rw [ih h.2]

theorem unescapeTag_escBy (s : Bytes) : unescapeTag (escBy isTagSpecial s) = s := by
  unfold unescapeTag unescapeWith
  split
  · next h => exact escBy_no_bs _ _ (by simpa using h)
  · unfold tagEscapeCodes
    simp only [List.foldl_cons, List.foldl_nil, replace21_guard]
    rw [replace21_escBy _ _ (by decide) (by decide) (by decide),
      replace21_escBy _ _ (by decide) (by decide) (by decide),
      replace21_escBy _ _ (by decide) (by decide) (by decide)]
    rw [escBy_congr _ (fun _ => false), escBy_false]
    intro b; simp [isTagSpecial]; omega

theorem unescapeMeasurement_escBy (s : Bytes) : unescapeMeasurement (escBy isMeasSpecial s) = s := by
  unfold unescapeMeasurement unescapeWith
  split
  · next h => exact escBy_no_bs _ _ (by simpa using h)
  · unfold measurementEscapeCodes
    simp only [List.foldl_cons, List.foldl_nil, replace21_guard]
    rw [replace21_escBy _ _ (by decide) (by decide) (by decide),
      replace21_escBy _ _ (by decide) (by decide) (by decide)]
    rw [escBy_congr _ (fun _ => false), escBy_false]
    intro b; simp [isMeasSpecial]; omega

theorem unescapeTag_escapeTag (s : Bytes) : unescapeTag (escapeTag s) = s := by
  rw [escapeTag_eq, unescapeTag_escBy]

theorem unescapeMeasurement_escapeMeasurement (s : Bytes) :
    unescapeMeasurement (escapeMeasurement s) = s := by
  rw [escapeMeasurement_eq, unescapeMeasurement_escBy]

end Influx.LP
