/-
  Lemmas.C13Replay — what `SeriesIndex.Recover` (a left fold of `execEntry`) leaves in the
  in-memory maps, as a function of the replayed entries.
-/
import Influx.Lemmas.C13Bytes

namespace Influx.SF

def replay (p : Part) (l : List Entry) : Part := l.foldl Part.execEntry p

theorem replay_nil (p : Part) : replay p [] = p := rfl
theorem replay_cons (p : Part) (e : Entry) (l : List Entry) :
    replay p (e :: l) = replay (p.execEntry e) l := rfl
theorem replay_append (p : Part) (l1 l2 : List Entry) :
    replay p (l1 ++ l2) = replay (replay p l1) l2 := by simp [replay, List.foldl_append]

def lastWith (q : Entry → Bool) (l : List Entry) : Option Entry := l.reverse.find? q

theorem lastWith_nil (q : Entry → Bool) : lastWith q [] = none := rfl
theorem lastWith_snoc (q : Entry → Bool) (l : List Entry) (e : Entry) :
    lastWith q (l ++ [e]) = if q e then some e else lastWith q l := by
  simp [lastWith, List.find?_cons]
  split <;> simp_all
theorem lastWith_cons (q : Entry → Bool) (l : List Entry) (e : Entry) :
    lastWith q (e :: l) = match lastWith q l with | some x => some x | none => if q e then some e else none := by
  simp only [lastWith, List.reverse_cons, List.find?_append]
  cases h : List.find? q l.reverse with
  | some x => simp
  | none => simp [List.find?_cons]; split <;> simp_all

theorem lastWith_some {q : Entry → Bool} {l : List Entry} {e : Entry} (h : lastWith q l = some e) :
    e ∈ l ∧ q e = true := by
  unfold lastWith at h
  exact ⟨by simpa using List.mem_of_find?_eq_some h, List.find?_some h⟩

theorem lastWith_none {q : Entry → Bool} {l : List Entry} (h : lastWith q l = none) :
    ∀ e ∈ l, q e = false := by
  unfold lastWith at h
  rw [List.find?_eq_none] at h
  intro e he
  have := h e (by simpa using he)
  simpa using this

theorem find?_unique {α : Type} {l : List α} {q : α → Bool}
    (hu : ∀ a ∈ l, ∀ b ∈ l, q a = true → q b = true → a = b) {x : α} (hx : x ∈ l) (hq : q x = true) :
    l.find? q = some x := by
  cases h : l.find? q with
  | none => exact absurd hq (List.find?_eq_none.mp h x hx)
  | some y => rw [hu y (List.mem_of_find?_eq_some h) x hx (List.find?_some h) hq]

theorem lastWith_unique {q : Entry → Bool} {l : List Entry} {e : Entry}
    (hu : ∀ a ∈ l, ∀ b ∈ l, q a = true → q b = true → a = b) (he : e ∈ l) (hq : q e = true) :
    lastWith q l = some e :=
  find?_unique (fun a ha b hb => hu a (List.mem_reverse.mp ha) b (List.mem_reverse.mp hb))
    (List.mem_reverse.mpr he) hq

theorem lastWith_filter_some {q r : Entry → Bool} {l : List Entry} {e : Entry}
    (h : lastWith q (l.filter r) = some e) : e ∈ l ∧ q e = true ∧ r e = true := by
  obtain ⟨hm, hq⟩ := lastWith_some h
  have := List.mem_filter.mp hm
  exact ⟨this.1, hq, this.2⟩

theorem lastWith_max {q : Entry → Bool} {l : List Entry} (hs : l.Pairwise (fun a b => a.off < b.off)) {e : Entry}
    (h : lastWith q l = some e) : ∀ x ∈ l, q x = true → x.off ≤ e.off := by
  induction l with
  | nil => intro x hx; cases hx
  | cons y ys ih =>
    have hy := List.pairwise_cons.mp hs
    rw [lastWith_cons] at h
    intro x hx hq
    cases hl : lastWith q ys with
    | some z =>
      rw [hl] at h
      obtain rfl := Option.some.inj h
      rcases List.mem_cons.mp hx with rfl | hx
      · exact Nat.le_of_lt (hy.1 z (lastWith_some hl).1)
      · exact ih hy.2 hl x hx hq
    | none =>
      rw [hl] at h
      rcases List.mem_cons.mp hx with rfl | hx
      · rw [if_pos hq] at h
        obtain rfl := Option.some.inj h
        exact Nat.le_refl _
      · exact absurd hq (by rw [lastWith_none hl x hx]; decide)

theorem lastWith_lookup {γ : Type} {q : Entry → Prop} [DecidablePred q] {r : Entry → Bool} {v : Entry → γ}
    {l : List Entry} {m : Option γ}
    (hm : m = match lastWith (fun e => decide (q e)) (l.filter r) with | some e => some (v e) | none => none) :
    (∀ y, m = some y →
      ∃ e, lastWith (fun e => decide (q e)) (l.filter r) = some e ∧ e ∈ l ∧ q e ∧ r e = true ∧ v e = y) ∧
    (m = none → ∀ e ∈ l, q e → r e = false) := by
  cases hl : lastWith (fun e => decide (q e)) (l.filter r) with
  | none =>
    rw [hl] at hm
    refine ⟨fun y hy => (by cases hm.symm.trans hy), fun _ e he hq => ?_⟩
    cases hr : r e with
    | false => rfl
    | true =>
      exact absurd (lastWith_none hl e (List.mem_filter.mpr ⟨he, hr⟩)) (by rw [decide_eq_true hq]; decide)
  | some e =>
    rw [hl] at hm
    obtain ⟨he, hq, hr⟩ := lastWith_filter_some hl
    exact ⟨fun y hy => ⟨e, rfl, he, of_decide_eq_true hq, hr, Option.some.inj (hm.symm.trans hy)⟩,
      fun hn => (by cases hm.symm.trans hn)⟩

theorem execEntry_file (p : Part) (e : Entry) : (p.execEntry e).file = p.file := by
  rw [Part.execEntry, apply_ite Part.file]; exact ite_self _
theorem execEntry_idxFile (p : Part) (e : Entry) : (p.execEntry e).idxFile = p.idxFile := by
  rw [Part.execEntry, apply_ite Part.idxFile]; exact ite_self _
theorem execEntry_seq (p : Part) (e : Entry) : (p.execEntry e).seq = p.seq := by
  rw [Part.execEntry, apply_ite Part.seq]; exact ite_self _
theorem execEntry_pid (p : Part) (e : Entry) : (p.execEntry e).pid = p.pid := by
  rw [Part.execEntry, apply_ite Part.pid]; exact ite_self _
theorem execEntry_threshold (p : Part) (e : Entry) : (p.execEntry e).threshold = p.threshold := by
  rw [Part.execEntry, apply_ite Part.threshold]; exact ite_self _
theorem execEntry_ambiguous (p : Part) (e : Entry) : (p.execEntry e).ambiguous = p.ambiguous := by
  rw [Part.execEntry, apply_ite Part.ambiguous]; exact ite_self _

theorem replay_frame {α : Type} (f : Part → α) (hf : ∀ p e, f (p.execEntry e) = f p) (p : Part) (l : List Entry) :
    f (replay p l) = f p := by
  induction l generalizing p with
  | nil => rfl
  | cons e l ih => rw [replay_cons, ih, hf]

theorem replay_file (p : Part) (l : List Entry) : (replay p l).file = p.file :=
  replay_frame (·.file) execEntry_file p l
theorem replay_idxFile (p : Part) (l : List Entry) : (replay p l).idxFile = p.idxFile :=
  replay_frame (·.idxFile) execEntry_idxFile p l
theorem replay_seq (p : Part) (l : List Entry) : (replay p l).seq = p.seq :=
  replay_frame (·.seq) execEntry_seq p l
theorem replay_pid (p : Part) (l : List Entry) : (replay p l).pid = p.pid :=
  replay_frame (·.pid) execEntry_pid p l
theorem replay_threshold (p : Part) (l : List Entry) : (replay p l).threshold = p.threshold :=
  replay_frame (·.threshold) execEntry_threshold p l

/-- `idOffsetMap[id]` -/
def Part.memOff (p : Part) (id : Nat) : Option Nat := (p.memIDOff.find? (·.1 = id)).map (·.2)
/-- `keyIDMap.Get(key)` -/
def Part.memID (p : Part) (key : Bytes) : Option Nat := (p.memKeyID.find? (·.1 = key)).map (·.2)

theorem find?_cons_filter_ne {α β : Type} [DecidableEq α] (a : α) (b : β) (l : List (α × β)) (x : α) :
    (((a, b) :: l.filter (·.1 ≠ a)).find? (·.1 = x)).map (·.2) =
      if a = x then some b else (l.find? (·.1 = x)).map (·.2) := by
  by_cases h : a = x
  · simp [h]
  · simp only [List.find?_cons, h, decide_false, if_false]
    congr 1
    rw [List.find?_filter]
    congr 1
    funext y
    by_cases hx : y.1 = x
    · have : ¬ y.1 = a := fun h' => h (by rw [← h', hx])
      simp [hx, this]
      exact fun h' => h h'.symm
    · simp [hx]

theorem execEntry_memKeyID (p : Part) (e : Entry) : (p.execEntry e).memKeyID =
    if e.flag = insertFlag then (e.key, e.id) :: p.memKeyID.filter (·.1 ≠ e.key) else p.memKeyID := by
  rw [Part.execEntry, apply_ite Part.memKeyID]
theorem execEntry_memIDOff (p : Part) (e : Entry) : (p.execEntry e).memIDOff =
    if e.flag = insertFlag then (e.id, e.off) :: p.memIDOff.filter (·.1 ≠ e.id) else p.memIDOff := by
  rw [Part.execEntry, apply_ite Part.memIDOff]
theorem execEntry_tomb (p : Part) (e : Entry) : (p.execEntry e).tomb =
    if e.flag = insertFlag then p.tomb else if p.tomb.contains e.id then p.tomb else e.id :: p.tomb := by
  rw [Part.execEntry, apply_ite Part.tomb]
theorem execEntry_maxOffset (p : Part) (e : Entry) : (p.execEntry e).maxOffset =
    if e.flag = insertFlag then (if e.off > p.maxOffset then e.off else p.maxOffset) else p.maxOffset := by
  rw [Part.execEntry, apply_ite Part.maxOffset]

theorem memOff_execEntry (p : Part) (e : Entry) (id : Nat) :
    (p.execEntry e).memOff id =
      if e.flag = insertFlag ∧ e.id = id then some e.off else p.memOff id := by
  unfold Part.memOff
  rw [execEntry_memIDOff]
  by_cases hf : e.flag = insertFlag
  · simp only [hf, if_true, true_and]
    exact find?_cons_filter_ne e.id e.off p.memIDOff id
  · simp only [hf, if_false, false_and]

theorem memID_execEntry (p : Part) (e : Entry) (key : Bytes) :
    (p.execEntry e).memID key =
      if e.flag = insertFlag ∧ e.key = key then some e.id else p.memID key := by
  unfold Part.memID
  rw [execEntry_memKeyID]
  by_cases hf : e.flag = insertFlag
  · simp only [hf, if_true, true_and]
    exact find?_cons_filter_ne e.key e.id p.memKeyID key
  · simp only [hf, if_false, false_and]

theorem tomb_execEntry (p : Part) (e : Entry) (id : Nat) :
    id ∈ (p.execEntry e).tomb ↔ (e.flag ≠ insertFlag ∧ e.id = id) ∨ id ∈ p.tomb := by
  rw [execEntry_tomb]
  by_cases hf : e.flag = insertFlag
  · simp only [hf, if_true, ne_eq, not_true_eq_false, false_and, false_or]
  · simp only [hf, if_false, ne_eq, not_false_eq_true, true_and]
    by_cases hc : p.tomb.contains e.id = true
    · rw [if_pos hc]
      exact ⟨Or.inr, fun h => h.elim (fun h' => h' ▸ List.contains_iff_mem.mp hc) fun h => h⟩
    · rw [if_neg hc, List.mem_cons, eq_comm]

theorem lookup_replay {γ : Type} (m : Part → Option γ) (q : Entry → Prop) [DecidablePred q] (v : Entry → γ)
    (hm : ∀ p e, m (p.execEntry e) = if q e then some (v e) else m p) (p : Part) (l : List Entry) :
    m (replay p l) =
      match lastWith (fun e => decide (q e)) l with
      | some e => some (v e)
      | none => m p := by
  induction l generalizing p with
  | nil => rfl
  | cons e l ih =>
    rw [replay_cons, ih, lastWith_cons]
    cases lastWith (fun e => decide (q e)) l with
    | some x => rfl
    | none => by_cases hq : q e <;> simp [hm, hq]

theorem tomb_replay (p : Part) (l : List Entry) (id : Nat) :
    id ∈ (replay p l).tomb ↔ (∃ t ∈ l, t.flag ≠ insertFlag ∧ t.id = id) ∨ id ∈ p.tomb := by
  induction l generalizing p with
  | nil => simp [replay_nil]
  | cons e l ih =>
    rw [replay_cons, ih, tomb_execEntry]
    simp only [List.mem_cons, exists_eq_or_imp]
    rw [or_assoc, or_left_comm]

theorem foldMax_spec {α : Type} (q : α → Prop) [DecidablePred q] (f : α → Nat) (l : List α) : ∀ m : Nat,
    m ≤ l.foldl (fun m e => if q e ∧ f e > m then f e else m) m ∧
    (∀ e ∈ l, q e → f e ≤ l.foldl (fun m e => if q e ∧ f e > m then f e else m) m) ∧
    (l.foldl (fun m e => if q e ∧ f e > m then f e else m) m = m ∨
      ∃ e ∈ l, q e ∧ f e = l.foldl (fun m e => if q e ∧ f e > m then f e else m) m) := by
  induction l with
  | nil => exact fun m => ⟨Nat.le_refl _, fun e he => absurd he List.not_mem_nil, Or.inl rfl⟩
  | cons x xs ih =>
    intro m
    obtain ⟨h1, h2, h3⟩ := ih (if q x ∧ f x > m then f x else m)
    rw [List.foldl_cons]
    by_cases hc : q x ∧ f x > m
    · rw [if_pos hc] at h1 h2 h3 ⊢
      refine ⟨Nat.le_trans (Nat.le_of_lt hc.2) h1, ?_, Or.inr ?_⟩
      · intro e he hq
        rcases List.mem_cons.mp he with rfl | he
        · exact h1
        · exact h2 e he hq
      · rcases h3 with h3 | ⟨e, he, r⟩
        · exact ⟨x, List.mem_cons_self, hc.1, h3.symm⟩
        · exact ⟨e, List.mem_cons_of_mem _ he, r⟩
    · rw [if_neg hc] at h1 h2 h3 ⊢
      refine ⟨h1, ?_, h3.imp_right fun ⟨e, he, r⟩ => ⟨e, List.mem_cons_of_mem _ he, r⟩⟩
      intro e he hq
      rcases List.mem_cons.mp he with rfl | he
      · exact Nat.le_trans (Nat.le_of_not_lt fun hgt => hc ⟨hq, hgt⟩) h1
      · exact h2 e he hq

theorem maxOffset_execEntry (p : Part) (e : Entry) :
    (p.execEntry e).maxOffset = if e.flag = insertFlag ∧ e.off > p.maxOffset then e.off else p.maxOffset := by
  rw [execEntry_maxOffset]
  by_cases hf : e.flag = insertFlag <;> simp only [hf, if_true, if_false, true_and, false_and]

theorem maxOffset_replay (p : Part) (l : List Entry) :
    (replay p l).maxOffset =
      l.foldl (fun m e => if e.flag = insertFlag ∧ e.off > m then e.off else m) p.maxOffset := by
  induction l generalizing p with
  | nil => rfl
  | cons e l ih => rw [replay_cons, ih, maxOffset_execEntry, List.foldl_cons]

theorem maxOffset_replay_ge (p : Part) (l : List Entry) : p.maxOffset ≤ (replay p l).maxOffset := by
  rw [maxOffset_replay]; exact (foldMax_spec (·.flag = insertFlag) (·.off) l _).1

theorem maxOffset_replay_mem (p : Part) (l : List Entry) :
    ∀ e ∈ l, e.flag = insertFlag → e.off ≤ (replay p l).maxOffset := by
  rw [maxOffset_replay]; exact (foldMax_spec (·.flag = insertFlag) (·.off) l _).2.1

theorem maxOffset_replay_eq (p : Part) (l : List Entry) :
    (replay p l).maxOffset = p.maxOffset ∨
      ∃ e ∈ l, e.flag = insertFlag ∧ e.off = (replay p l).maxOffset := by
  rw [maxOffset_replay]; exact (foldMax_spec (·.flag = insertFlag) (·.off) l _).2.2

def SameMem (a b : Part) : Prop :=
  a.memKeyID = b.memKeyID ∧ a.memIDOff = b.memIDOff ∧ a.tomb = b.tomb ∧ a.maxOffset = b.maxOffset

theorem SameMem.execEntry {a b : Part} (h : SameMem a b) (e : Entry) : SameMem (a.execEntry e) (b.execEntry e) := by
  obtain ⟨h1, h2, h3, h4⟩ := h
  exact ⟨by rw [execEntry_memKeyID, execEntry_memKeyID, h1], by rw [execEntry_memIDOff, execEntry_memIDOff, h2],
    by rw [execEntry_tomb, execEntry_tomb, h3], by rw [execEntry_maxOffset, execEntry_maxOffset, h4]⟩

theorem SameMem.replay {a b : Part} (h : SameMem a b) (l : List Entry) : SameMem (replay a l) (replay b l) := by
  induction l generalizing a b with
  | nil => exact h
  | cons e l ih => exact ih (h.execEntry e)

theorem SameMem.trans {a b c : Part} (h : SameMem a b) (h' : SameMem b c) : SameMem a c :=
  ⟨h.1.trans h'.1, h.2.1.trans h'.2.1, h.2.2.1.trans h'.2.2.1, h.2.2.2.trans h'.2.2.2⟩

end Influx.SF
