/-
  Lemmas.EngineTrace — along any run of the schedule machine without two-phase
  reads, the statement checker Spec.C39 finds every atomic read explained: how the
  checker's admissible sets change, the relation `Rel` between machine and checker,
  and one lemma per kind of answer showing that the relation is kept.
-/
import Influx.Lemmas.EngineSteps
import Influx.Spec.C39

namespace Influx.Conc
open Influx.Spec.C39

def ptPred (k : Key) (t : TS) (p : PInfo) : Bool := p.k == k && p.t == t

theorem ptPred_iff {k : Key} {t : TS} {p : PInfo} : ptPred k t p = true ↔ p.k = k ∧ p.t = t := by
  simp only [ptPred, Bool.and_eq_true, beq_iff_eq]

theorem adm_eq (s : SpecSt) (k : Key) (t : TS) :
    s.adm k t = match s.pts.find? (ptPred k t) with | some p => p.adm | none => [none] := rfl

theorem find_ptPred_some {l : List PInfo} {k : Key} {t : TS} {p : PInfo}
    (h : l.find? (ptPred k t) = some p) : p.k = k ∧ p.t = t :=
  ptPred_iff.mp (List.find?_some h)

theorem find_mapIf (c : PInfo → Bool) (g : PInfo → PInfo) (hg : ∀ p, (g p).k = p.k ∧ (g p).t = p.t)
    (l : List PInfo) (k : Key) (t : TS) :
    (l.map fun p => if c p then g p else p).find? (ptPred k t) =
      (l.find? (ptPred k t)).map fun p => if c p then g p else p := by
  have : (ptPred k t ∘ fun p => if c p then g p else p) = ptPred k t := by
    funext p
    show ptPred k t (if c p then g p else p) = ptPred k t p
    split
    · rw [ptPred, ptPred, (hg p).1, (hg p).2]
    · rfl
  rw [List.find?_map, this]

theorem adm_setPoint (s : SpecSt) (k : Key) (t : TS) (a : List (Option Val)) (r : Bool) (k' : Key) (t' : TS) :
    (setPoint s k t a r).adm k' t' = if k' = k ∧ t' = t then a else s.adm k' t' := by
  show (match (if s.pts.any (ptPred k t) then
      s.pts.map fun p => if ptPred k t p then { p with adm := a, racing := r } else p
    else ⟨k, t, a, r⟩ :: s.pts).find? (ptPred k' t') with | some p => p.adm | none => [none]) = _
  by_cases hany : s.pts.any (ptPred k t) = true
  · rw [if_pos hany, find_mapIf (ptPred k t) (fun p => { p with adm := a, racing := r }) fun _ => ⟨rfl, rfl⟩, adm_eq]
    cases hf : s.pts.find? (ptPred k' t') with
    | none =>
      -- (k,t) is known, (k',t') is not
      obtain ⟨p, hp, hpp⟩ := List.any_eq_true.mp hany
      exact (if_neg fun e => List.find?_eq_none.mp hf p hp (by rw [e.1, e.2]; exact hpp)).symm
    | some q =>
      obtain ⟨rfl, rfl⟩ := find_ptPred_some hf
      show (if ptPred k t q = true then _ else q).adm = _
      by_cases hb : q.k = k ∧ q.t = t
      · rw [if_pos (ptPred_iff.mpr hb), if_pos hb]
      · rw [if_neg (mt ptPred_iff.mp hb), if_neg hb]
  · rw [if_neg hany, List.find?_cons, adm_eq]
    by_cases hb : k' = k ∧ t' = t
    · rw [if_pos hb, show ptPred k' t' ⟨k, t, a, r⟩ = true from ptPred_iff.mpr ⟨hb.1.symm, hb.2.symm⟩]
    · rw [if_neg hb, Bool.eq_false_iff.mpr (mt ptPred_iff.mp fun e => hb ⟨e.1.symm, e.2.symm⟩)]

theorem mem_setPoint {s : SpecSt} {k : Key} {t : TS} {a : List (Option Val)} {r : Bool} {p : PInfo}
    (h : p ∈ (setPoint s k t a r).pts) : (p.adm = a ∧ p.racing = r) ∨ p ∈ s.pts := by
  unfold setPoint at h
  simp only at h
  split at h
  · obtain ⟨q, hq, rfl⟩ := List.mem_map.mp h
    split
    · exact .inl ⟨rfl, rfl⟩
    · exact .inr hq
  · rcases List.mem_cons.mp h with rfl | h
    · exact .inl ⟨rfl, rfl⟩
    · exact .inr h

theorem adm_mapRange (s : SpecSt) (k : Key) (lo hi : TS) (f : PInfo → PInfo)
    (hf : ∀ p, (f p).k = p.k ∧ (f p).t = p.t) (k' : Key) (t' : TS) :
    (mapRange s k lo hi f).adm k' t' =
      if covers (k, lo, hi) k' t' then
        match s.pts.find? (ptPred k' t') with
        | some p => (f p).adm
        | none => [none]
      else s.adm k' t' := by
  show (match (s.pts.map fun p => if covers (k, lo, hi) p.k p.t then f p else p).find? (ptPred k' t') with
    | some p => p.adm | none => [none]) = _
  rw [find_mapIf (fun p => covers (k, lo, hi) p.k p.t) f hf, adm_eq]
  cases hfd : s.pts.find? (ptPred k' t') with
  | none => exact (ite_self _).symm
  | some q =>
    obtain ⟨rfl, rfl⟩ := find_ptPred_some hfd
    exact apply_ite PInfo.adm ..

def SpecSt.racing (s : SpecSt) (k : Key) (t : TS) : Bool :=
  match s.pts.find? (ptPred k t) with | some p => p.racing | none => false

theorem racing_mapRange {s : SpecSt} (hs : ∀ p ∈ s.pts, p.racing = true → none ∈ p.adm) (k : Key) (lo hi : TS)
    {f : PInfo → PInfo} (hf : ∀ p, (f p).racing = false) :
    ∀ p ∈ (mapRange s k lo hi f).pts, p.racing = true → none ∈ p.adm := by
  intro p hp hrac
  obtain ⟨q, hq, rfl⟩ := List.mem_map.mp (show p ∈ s.pts.map _ from hp)
  split at hrac
  · rw [hf q] at hrac; cases hrac
  · next hc => rw [if_neg hc]; exact hs q hq hrac

theorem noteReaders_nil (k : Key) (t : TS) (v : List (Option Val)) : noteReaders [] k t v = [] := rfl

theorem mapRange_readers_nil (s : SpecSt) (h : s.readers = []) (k : Key) (lo hi : TS) (f : PInfo → PInfo) :
    (mapRange s k lo hi f).readers = [] := by
  unfold mapRange
  simp only [h]
  generalize (s.pts.map fun p => if covers (k, lo, hi) p.k p.t = true then f p else p) = l
  induction l with
  | nil => rfl
  | cons p l ih =>
    rw [List.foldl_cons]
    split <;> exact ih

theorem mem_union {a b : List (Option Val)} {x : Option Val} : x ∈ union a b ↔ x ∈ a ∨ x ∈ b := by
  unfold union
  induction b generalizing a with
  | nil => simp only [List.foldl_nil, List.not_mem_nil, or_false]
  | cons y b ih =>
    rw [List.foldl_cons, ih, List.mem_cons, ← or_assoc]
    refine or_congr_left ?_
    split
    · next hc => exact ⟨.inl, fun h => h.elim id fun e => e ▸ List.contains_iff_mem.mp hc⟩
    · exact List.mem_append.trans (or_congr_right List.mem_singleton)

theorem covers_iff (k : Key) (lo hi : TS) (k' : Key) (t' : TS) :
    covers (k, lo, hi) k' t' = (k == k' && decide (lo ≤ t') && decide (t' ≤ hi)) := rfl

/-- the relation between the schedule machine and the checker's bookkeeping -/
structure Rel (y : Sys) (s : SpecSt) : Prop where
  inv : Inv y.st
  infl : s.inflight = y.deleting
  noReaders : s.readers = []
  delIdle : y.deleting.isSome = true → y.st.phase = .idle ∧ y.compacting = none
  delFiles : ∀ k lo hi, y.deleting = some (k, lo, hi) → ∀ t, lo ≤ t → t ≤ hi → y.st.filesView k t = none
  adm : ∀ k t, y.st.abs k t ∈ s.adm k t
  racing : ∀ p ∈ s.pts, p.racing = true → none ∈ p.adm

theorem Rel_init : Rel Sys.init SpecSt.init :=
  ⟨Inv_init, rfl, rfl, fun h => (by cases h), fun _ _ _ h => (by cases h), fun _ _ => List.mem_singleton.mpr rfl,
   fun _ hp => (by cases hp)⟩

theorem Rel.not_deleting {y : Sys} {s : SpecSt} (hr : Rel y s) (h : y.st.phase ≠ .idle ∨ y.compacting ≠ none) :
    y.deleting = none := by
  cases hd : y.deleting with
  | none => rfl
  | some d =>
    obtain ⟨h1, h2⟩ := hr.delIdle (by rw [hd]; rfl)
    exact (h.elim (absurd h1) (absurd h2))

/-- while no delete is in flight the relation sees the machine only through `Inv` and `abs` -/
theorem Rel.of_abs {y y' : Sys} {s : SpecSt} (hr : Rel y s) (hd : y.deleting = none) (hd' : y'.deleting = none)
    (hi : Inv y'.st) (ha : ∀ k t, y'.st.abs k t = y.st.abs k t) : Rel y' s :=
  ⟨hi, by rw [hr.infl, hd, hd'], hr.noReaders, fun h => (by rw [hd'] at h; cases h),
   fun _ _ _ h => (by rw [hd'] at h; cases h), fun k t => ha k t ▸ hr.adm k t, hr.racing⟩

theorem Rel.maintenance {y : Sys} {s : SpecSt} (hr : Rel y s) (hd : y.deleting = none) (σ : Step)
    (hm : maintenance σ = true) (c : Option Nat) : Rel { y with st := step y.st σ, compacting := c } s :=
  hr.of_abs hd hd (Inv_step _ hr.inv σ (admissible_of_maintenance _ hm)) (maintenance_invisible _ hr.inv σ hm)

/-- a write, racing the delete in flight (`r`) or not -/
theorem Rel.write {y : Sys} {s : SpecSt} (hr : Rel y s) (k : Key) (t : TS) (v : Val) (r : Bool) :
    Rel { y with st := step y.st (.wr k t v) } (setPoint s k t (if r then [some v, none] else [some v]) r) := by
  refine ⟨Inv_step y.st hr.inv (.wr k t v) rfl, hr.infl, ?_, hr.delIdle, hr.delFiles, fun k' t' => ?_, fun p hp hrac => ?_⟩
  · show noteReaders s.readers _ _ _ = []
    rw [hr.noReaders]; rfl
  · rw [abs_write, adm_setPoint]
    split
    · cases r <;> exact List.mem_cons_self
    · exact hr.adm k' t'
  · rcases mem_setPoint hp with ⟨ha, hr'⟩ | hp
    · rw [ha, if_pos (hr'.symm.trans hrac)]
      exact List.mem_cons_of_mem _ List.mem_cons_self
    · exact hr.racing p hp hrac

theorem Rel.readKey_ok {y : Sys} {s : SpecSt} (hr : Rel y s) (k : Key) : readOK s k (y.st.readKey k) = true := by
  unfold readOK
  rw [Bool.and_eq_true, List.all_eq_true, List.all_eq_true]
  refine ⟨fun p _ => Bool.or_eq_true_iff.mpr ?_, fun e he => ?_⟩
  · by_cases hk : p.k = k
    · right
      rw [observed, lookup_readKey]
      exact List.contains_iff_mem.mpr (hr.adm k p.t)
    · exact .inl (bne_iff_ne.mpr hk)
  · exact List.contains_iff_mem.mpr (mem_readKey he ▸ hr.adm k e.1)

/-- a delete that has run to its end: the range reads nothing, and the checker, through a `mapRange` that clears
    the racing flags and leaves `none` admissible in the range, allows that -/
theorem Rel.deleted {y y' : Sys} {s : SpecSt} (hr : Rel y s) (k : Key) (lo hi : TS) (f : PInfo → PInfo)
    (hf : ∀ p, (f p).k = p.k ∧ (f p).t = p.t) (hrac : ∀ p, (f p).racing = false)
    (hnone : ∀ p ∈ s.pts, none ∈ (f p).adm) {d : Option (Key × TS × TS)} (hd : d = y'.deleting)
    (hd' : y'.deleting = none) (hinv : Inv y'.st)
    (habs : ∀ k' t', y'.st.abs k' t' = if covers (k, lo, hi) k' t' then none else y.st.abs k' t') :
    Rel y' { mapRange s k lo hi f with inflight := d } := by
  refine ⟨hinv, hd, mapRange_readers_nil s hr.noReaders .., fun h => (by rw [hd'] at h; cases h),
    fun _ _ _ h => (by rw [hd'] at h; cases h), fun k' t' => ?_, racing_mapRange hr.racing k lo hi hrac⟩
  show y'.st.abs k' t' ∈ (mapRange s k lo hi f).adm k' t'
  rw [habs, adm_mapRange _ _ _ _ _ hf]
  split
  · cases hfd : s.pts.find? (ptPred k' t') with
    | none => exact List.mem_singleton.mpr rfl
    | some p => exact hnone p (List.mem_of_find?_eq_some hfd)
  · exact hr.adm k' t'

/-- the same for a delete whose range the checker simply clears -/
theorem Rel.cleared {y y' : Sys} {s : SpecSt} (hr : Rel y s) (k : Key) (lo hi : TS) (hd : y.deleting = none)
    (hd' : y'.deleting = none) (hinv : Inv y'.st)
    (habs : ∀ k' t', y'.st.abs k' t' = if covers (k, lo, hi) k' t' then none else y.st.abs k' t') :
    Rel y' (mapRange s k lo hi fun p => { p with adm := [none], racing := false }) :=
  hr.deleted k lo hi (fun p => { p with adm := [none], racing := false }) (fun _ => ⟨rfl, rfl⟩) (fun _ => rfl)
    (fun _ _ => List.mem_singleton.mpr rfl) (hr.infl.trans (hd.trans hd'.symm)) hd' hinv habs

/-- a delete held after its tombstones: in the range the cache still answers, or nothing does -/
theorem Rel.delBegin {y : Sys} {s : SpecSt} (hr : Rel y s) (hph : y.st.phase = .idle) (hc : y.compacting = none)
    (k : Key) (lo hi : TS) :
    Rel { y with st := delFilesAll y.st k lo hi, deleting := some (k, lo, hi) }
      { mapRange s k lo hi (fun p => { p with adm := union p.adm [none], racing := false }) with
        inflight := some (k, lo, hi) } := by
  refine ⟨Inv_of_idle hr.inv hph rfl rfl, rfl, mapRange_readers_nil s hr.noReaders .., fun _ => ⟨hph, hc⟩, ?_,
    fun k' t' => ?_, racing_mapRange hr.racing k lo hi fun _ => rfl⟩
  · intro k' lo' hi' h t h1 h2
    cases h
    exact (filesGet_delAll ..).trans (if_pos (Tomb.covers_iff.mpr ⟨rfl, h1, h2⟩))
  · show (delFilesAll y.st k lo hi).abs k' t' ∈ (mapRange s k lo hi _).adm k' t'
    rw [show (delFilesAll y.st k lo hi).abs k' t' = (y.st.cacheView k' t').or
      (if covers (k, lo, hi) k' t' then none else y.st.filesView k' t') from abs_delFilesAll .., adm_mapRange]
    case hf => exact fun _ => ⟨rfl, rfl⟩
    have hold := hr.adm k' t'
    split
    · rw [adm_eq] at hold
      cases hcv : y.st.cacheView k' t' with
      | none =>
        cases s.pts.find? (ptPred k' t') with
        | none => exact List.mem_singleton.mpr rfl
        | some p => exact mem_union.mpr (.inr (List.mem_singleton.mpr rfl))
      | some v =>
        rw [St.abs, hcv] at hold
        cases hfd : s.pts.find? (ptPred k' t') with
        | none => rw [hfd] at hold; exact hold
        | some p => rw [hfd] at hold; exact mem_union.mpr (.inl hold)
    · exact hold

/-- the guard of the harness on deletes: no snapshot, compaction or other delete in flight -/
theorem Sys.idle_of_not_busy {y : Sys}
    (h : ¬(y.st.phase != .idle || y.compacting.isSome || y.deleting.isSome) = true) :
    y.st.phase = .idle ∧ y.compacting = none ∧ y.deleting = none := by
  simpa only [Bool.or_eq_true, bne_iff_ne, ne_eq, not_or, Decidable.not_not, Option.not_isSome_iff_eq_none,
    and_assoc] using h

theorem judge_sys (y : Sys) (s : SpecSt) (hr : Rel y s) (op : Op) (hop : op.twoPhase = false) :
    (judge s op (sysStep y op).2).1 = [] ∧ Rel (sysStep y op).1 (judge s op (sysStep y op).2).2 := by
  cases op with
  | readBegin r k => cases hop
  | readEnd r => cases hop
  | write k t v =>
    simp only [sysStep]
    split
    · exact ⟨rfl, hr⟩
    · exact ⟨rfl, hr.write k t v _⟩
  | read k =>
    simp only [sysStep]
    split
    · exact ⟨rfl, hr⟩
    · exact ⟨if_pos (hr.readKey_ok k), hr⟩
  | snapBegin =>
    simp only [sysStep]
    split
    · exact ⟨rfl, hr⟩
    · next hc =>
      rw [Bool.or_eq_true, not_or, Option.not_isSome_iff_eq_none] at hc
      exact ⟨rfl, hr.maintenance hc.2 .snapBegin rfl _⟩
  | snapReplace =>
    simp only [sysStep]
    split
    · exact ⟨rfl, hr⟩
    · next hc =>
      have hph : y.st.phase = .begun := Decidable.of_not_not fun h => hc (bne_iff_ne.mpr h)
      exact ⟨rfl, hr.maintenance (hr.not_deleting (.inl (by rw [hph]; nofun))) .snapReplace rfl _⟩
  | snapClear =>
    simp only [sysStep]
    split
    · exact ⟨rfl, hr⟩
    · next hc =>
      have hph : y.st.phase = .replaced := Decidable.of_not_not fun h => hc (bne_iff_ne.mpr h)
      exact ⟨rfl, hr.maintenance (hr.not_deleting (.inl (by rw [hph]; nofun))) .snapClear rfl _⟩
  | compactBegin =>
    simp only [sysStep]
    split
    · exact ⟨rfl, hr⟩
    · next hc =>
      simp only [Bool.or_eq_true, not_or, Option.not_isSome_iff_eq_none] at hc
      exact ⟨rfl, hr.of_abs hc.1.2 hc.1.2 hr.inv fun _ _ => rfl⟩
  | compactCommit =>
    simp only [sysStep]
    cases hcp : y.compacting with
    | none => exact ⟨rfl, hr⟩
    | some n => exact ⟨rfl, hr.maintenance (hr.not_deleting (.inr (by rw [hcp]; nofun))) (.compact n) rfl none⟩
  | delete k lo hi =>
    simp only [sysStep]
    split
    · exact ⟨rfl, hr⟩
    · split
      · exact ⟨rfl, hr⟩
      · next hc =>
        obtain ⟨hph, _, hdel⟩ := Sys.idle_of_not_busy hc
        exact ⟨rfl, hr.cleared k lo hi hdel hdel (Inv_of_idle hr.inv hph rfl rfl) (abs_delete _ (hr.inv.idle hph) k lo hi)⟩
  | delBegin k lo hi =>
    simp only [sysStep]
    split
    · exact ⟨rfl, hr⟩
    · split
      · exact ⟨rfl, hr⟩
      · next hc =>
        obtain ⟨hph, hcomp, hdel⟩ := Sys.idle_of_not_busy hc
        split
        · next hnoop =>
          -- nothing overlaps: the delete returned at once, and nothing was in its range
          refine ⟨rfl, hr.cleared k lo hi hdel hdel hr.inv fun k' t' => ?_⟩
          split
          · next hcv =>
            obtain ⟨rfl, h1, h2⟩ := Tomb.covers_iff.mp hcv
            exact abs_none_of_deleteIsNoop (hr.inv.idle hph) hnoop k t' h1 h2
          · rfl
        · exact ⟨rfl, hr.delBegin hph hcomp k lo hi⟩
  | delEnd =>
    simp only [sysStep]
    cases hd : y.deleting with
    | none => exact ⟨rfl, hr⟩
    | some d =>
      obtain ⟨k, lo, hi⟩ := d
      have hinfl : s.inflight = some (k, lo, hi) := hr.infl.trans hd
      obtain ⟨hph, _⟩ := hr.delIdle (by rw [hd]; rfl)
      simp only [judge, hinfl]
      refine ⟨trivial, hr.deleted k lo hi _ (fun p => ?_) (fun p => ?_) (fun p hp => ?_) rfl rfl (Inv_of_idle hr.inv hph rfl rfl)
        (abs_delCache _ (hr.inv.idle hph) k lo hi (hr.delFiles k lo hi hd))⟩
      · split <;> exact ⟨rfl, rfl⟩
      · split
        · rfl
        · next h => exact Bool.eq_false_iff.mpr h
      · -- a point written while the delete covered it kept `none` admissible
        split
        · next h => exact hr.racing p hp h
        · exact List.mem_singleton.mpr rfl

theorem failures_sys (ops : List Op) (y : Sys) (s : SpecSt) (hr : Rel y s)
    (hops : ∀ op ∈ ops, op.twoPhase = false) : failuresFrom s (sysRun y ops) = [] := by
  induction ops generalizing y s with
  | nil => rfl
  | cons op rest ih =>
    simp only [sysRun, failuresFrom]
    obtain ⟨h1, h2⟩ := judge_sys y s hr op (hops op List.mem_cons_self)
    rw [h1, List.nil_append]
    exact ih _ _ h2 fun o ho => hops o (List.mem_cons_of_mem _ ho)

end Influx.Conc
