/-
  Lemmas.TSIBasic — association lists, id sets, sorting and `firstSome` of Model.TSI.
-/
import Influx.Model.TSI

namespace Influx.Model.TSI

theorem mem_sadd (l : List Nat) (x y : Nat) : y ∈ sadd l x ↔ y = x ∨ y ∈ l := by
  unfold sadd
  split
  · next h => exact ⟨Or.inr, fun hy => hy.elim (fun e => e ▸ List.contains_iff_mem.mp h) id⟩
  · exact List.mem_cons

theorem mem_sdel (l : List Nat) (x y : Nat) : y ∈ sdel l x ↔ y ∈ l ∧ y ≠ x := by
  simp [sdel]

theorem mem_sunion (a b : List Nat) (y : Nat) : y ∈ sunion a b ↔ y ∈ a ∨ y ∈ b := by
  simp only [sunion, List.mem_append, List.mem_filter, Bool.not_eq_true', List.contains_eq_mem,
    decide_eq_false_iff_not]
  by_cases ha : y ∈ a
  · exact ⟨fun _ => Or.inl ha, fun _ => Or.inl ha⟩
  · exact or_congr_right (and_iff_left ha)

theorem mem_sdiff (a b : List Nat) (y : Nat) : y ∈ sdiff a b ↔ y ∈ a ∧ y ∉ b := by
  simp [sdiff]

theorem mem_ite_sadd_sdel {T : Prop} [Decidable T] (isAdd : Bool) (l : List Nat) (id x : Nat) :
    x ∈ (if T then (if isAdd then sadd l id else sdel l id) else l) ↔
      (x ∈ l ∧ (T → isAdd = true ∨ x ≠ id)) ∨ (T ∧ isAdd = true ∧ x = id) := by
  by_cases hT : T
  · cases isAdd
    · simp [hT, mem_sdel]
    · simp only [hT, if_true, mem_sadd, true_or, imp_self, and_true, true_and]
      exact or_comm
  · simp [hT]

theorem mem_foldl_sunion {β : Type} (g : β → List Nat) (l : List β) (acc : List Nat) (y : Nat) :
    y ∈ l.foldl (fun acc x => sunion acc (g x)) acc ↔ y ∈ acc ∨ ∃ x ∈ l, y ∈ g x := by
  induction l generalizing acc with
  | nil => simp
  | cons x xs ih =>
    simp only [List.foldl_cons, ih, mem_sunion, List.mem_cons, exists_eq_or_imp, or_assoc]

theorem mem_foldl_sunion_nil {β : Type} (g : β → List Nat) (l : List β) (y : Nat) :
    y ∈ l.foldl (fun acc x => sunion acc (g x)) [] ↔ ∃ x ∈ l, y ∈ g x :=
  (mem_foldl_sunion g l [] y).trans (or_iff_right List.not_mem_nil)

theorem mem_insertNat (x y : Nat) (l : List Nat) : y ∈ insertNat x l ↔ y = x ∨ y ∈ l := by
  induction l with
  | nil => simp [insertNat]
  | cons z zs ih =>
    rw [insertNat]
    by_cases h1 : x < z
    · rw [if_pos h1]; exact List.mem_cons
    · rw [if_neg h1]
      by_cases h2 : z < x
      · rw [if_pos h2, List.mem_cons, ih, List.mem_cons]; exact or_left_comm
      · obtain rfl : x = z := Nat.le_antisymm (Nat.le_of_not_lt h2) (Nat.le_of_not_lt h1)
        rw [if_neg h2, List.mem_cons, ← or_assoc, or_self]

theorem mem_sortNat (l : List Nat) (y : Nat) : y ∈ sortNat l ↔ y ∈ l := by
  induction l with
  | nil => simp [sortNat]
  | cons x xs ih =>
    have : sortNat (x :: xs) = insertNat x (sortNat xs) := rfl
    rw [this, mem_insertNat, ih]; simp

theorem mem_insertStr (x y : String) (l : List String) : y ∈ insertStr x l ↔ y = x ∨ y ∈ l := by
  induction l with
  | nil => simp [insertStr]
  | cons z zs ih =>
    rw [insertStr]
    by_cases h1 : x < z
    · rw [if_pos h1]; exact List.mem_cons
    · rw [if_neg h1]
      by_cases h2 : z < x
      · rw [if_pos h2, List.mem_cons, ih, List.mem_cons]; exact or_left_comm
      · obtain rfl : x = z := String.le_antisymm h2 h1
        rw [if_neg h2, List.mem_cons, ← or_assoc, or_self]

theorem mem_sortStr (l : List String) (y : String) : y ∈ sortStr l ↔ y ∈ l := by
  induction l with
  | nil => simp [sortStr]
  | cons x xs ih =>
    have : sortStr (x :: xs) = insertStr x (sortStr xs) := rfl
    rw [this, mem_insertStr, ih]; simp

theorem alookup_aset_self {α : Type} (l : List (String × α)) (k : String) (v : α) :
    alookup (aset l k v) k = some v := by
  induction l with
  | nil => simp [aset, alookup]
  | cons kv rest ih =>
    obtain ⟨k', v'⟩ := kv
    unfold aset
    split
    · simp [alookup]
    · next h => simp [alookup, h, ih]

theorem alookup_aset_ne {α : Type} (l : List (String × α)) (k k' : String) (v : α) (h : k' ≠ k) :
    alookup (aset l k v) k' = alookup l k' := by
  induction l with
  | nil => simp [aset, alookup, Ne.symm h]
  | cons kv rest ih =>
    obtain ⟨k₀, v₀⟩ := kv
    unfold aset
    split
    · next h0 => subst h0; simp [alookup, Ne.symm h]
    · next h0 =>
      by_cases h1 : k₀ = k'
      · simp [alookup, h1]
      · simp [alookup, h1, ih]

theorem alookup_aset {α : Type} (l : List (String × α)) (k k' : String) (v : α) :
    alookup (aset l k v) k' = if k' = k then some v else alookup l k' := by
  by_cases h : k' = k
  · subst h; simp [alookup_aset_self]
  · simp [h, alookup_aset_ne l k k' v h]

theorem mem_keys_aset {α : Type} (l : List (String × α)) (k k' : String) (v : α) :
    k' ∈ (aset l k v).map (·.1) ↔ k' = k ∨ k' ∈ l.map (·.1) := by
  induction l with
  | nil => simp [aset]
  | cons kv rest ih =>
    obtain ⟨k₀, v₀⟩ := kv
    unfold aset
    split
    · next h0 => subst h0; simp only [List.map_cons, List.mem_cons, ← or_assoc, or_self]
    · simp only [List.map_cons, List.mem_cons, ih]
      exact or_left_comm

theorem alookup_isSome_iff {α : Type} (l : List (String × α)) (k : String) :
    (alookup l k).isSome ↔ k ∈ l.map (·.1) := by
  induction l with
  | nil => simp [alookup]
  | cons kv rest ih =>
    obtain ⟨k₀, v₀⟩ := kv
    unfold alookup
    split
    · next h => subst h; exact ⟨fun _ => List.mem_cons_self, fun _ => rfl⟩
    · next h =>
      simp only [ih, List.map_cons, List.mem_cons]
      exact (or_iff_right fun e => h e.symm).symm

theorem alookup_mem {α : Type} {l : List (String × α)} {k : String} {v : α}
    (h : alookup l k = some v) : (k, v) ∈ l := by
  induction l with
  | nil => simp [alookup] at h
  | cons kv rest ih =>
    obtain ⟨k₀, v₀⟩ := kv
    unfold alookup at h
    split at h
    · next hk => simp only [Option.some.injEq] at h; subst hk; subst h; simp
    · exact List.mem_cons_of_mem _ (ih h)

theorem alookup_map_keys {α : Type} (ks : List String) (F : String → α) (k : String) :
    alookup (ks.map (fun n => (n, F n))) k = if k ∈ ks then some (F k) else none := by
  induction ks with
  | nil => rfl
  | cons x xs ih =>
    simp only [List.map_cons, alookup, List.mem_cons]
    by_cases h : x = k
    · subst h; simp only [if_true, true_or]
    · have h' : ¬ k = x := fun e => h e.symm
      simp only [h, h', ih, if_false, false_or]

theorem firstSome_eq_some {β : Type} {get : FileData → Option β} {fs : List FileData} {b : β}
    (h : firstSome get fs = some b) : ∃ f ∈ fs, get f = some b := by
  induction fs with
  | nil => simp [firstSome] at h
  | cons f rest ih =>
    unfold firstSome at h
    split at h
    · next b' hb => simp only [Option.some.injEq] at h; subst h; exact ⟨f, by simp, hb⟩
    · obtain ⟨f', hf', hg⟩ := ih h
      exact ⟨f', List.mem_cons_of_mem _ hf', hg⟩

theorem firstSome_eq_none {β : Type} {get : FileData → Option β} {fs : List FileData} :
    firstSome get fs = none ↔ ∀ f ∈ fs, get f = none := by
  induction fs with
  | nil => simp [firstSome]
  | cons f rest ih =>
    unfold firstSome
    split
    · next b hb => simp [hb]
    · next hb => simp [hb, ih]

theorem firstSome_isSome {β : Type} (get : FileData → Option β) (fs : List FileData) :
    (firstSome get fs).isSome ↔ ∃ f ∈ fs, (get f).isSome :=
  ⟨fun h => by
    obtain ⟨b, hb⟩ := Option.isSome_iff_exists.mp h
    obtain ⟨f, hf, hg⟩ := firstSome_eq_some hb
    exact ⟨f, hf, hg ▸ rfl⟩,
   fun ⟨f, hf, hg⟩ => by
    cases h : firstSome get fs with
    | none => rw [firstSome_eq_none.mp h f hf] at hg; cases hg
    | some b => rfl⟩

theorem firstSome_cons {β : Type} (get : FileData → Option β) (f : FileData) (fs : List FileData) :
    firstSome get (f :: fs) = match get f with | some b => some b | none => firstSome get fs := rfl

theorem firstSome_append {β : Type} (get : FileData → Option β) (a b : List FileData) :
    firstSome get (a ++ b) = match firstSome get a with | some x => some x | none => firstSome get b := by
  induction a with
  | nil => rfl
  | cons f rest ih =>
    simp only [List.cons_append, firstSome_cons]
    split
    · rfl
    · exact ih

end Influx.Model.TSI
