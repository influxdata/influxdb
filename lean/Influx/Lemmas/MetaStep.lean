/-
  Lemmas.MetaStep — every harness operation keeps the meta data well-formed.
-/
import Influx.Lemmas.MetaMap
import Influx.Lemmas.MetaRetention
import Influx.Spec.C18

namespace Influx.Meta
open Influx.Generated.Meta

theorem marshalTime_id {t : Int} (h1 : MinNanoTime ≤ t) (h2 : t ≤ MaxNanoTime + 1) : MarshalTime t = t := by
  unfold MinNanoTime at h1; unfold MaxNanoTime at h2
  have hz : Time.IsZero t = false := by rw [isZero_false_iff]; unfold zeroTime; omega
  rw [MarshalTime, hz, if_neg Bool.false_ne_true]
  exact wrap64_id t (by omega) (by omega)

/-- a group bound through `marshal`/`unmarshal`, the Unix epoch included -/
theorem reloadBound {t : Int} (h1 : MinNanoTime ≤ t) (h2 : t ≤ MaxNanoTime + 1) :
    (if MarshalTime t == 0 then Time.Unix 0 else UnmarshalTime (MarshalTime t)) = t := by
  rw [marshalTime_id h1 h2, UnmarshalTime]
  split
  · exact (beq_iff_eq.mp ‹_›).symm
  · rfl

/-- a deletion mark through `marshal`/`unmarshal`: the zero time, or a wall-clock time after the epoch -/
theorem reloadMark {t : Int} (h : t = zeroTime ∨ (0 < t ∧ t ≤ MaxNanoTime)) : UnmarshalTime (MarshalTime t) = t := by
  rcases h with rfl | h
  · rfl
  · rw [marshalTime_id (by unfold MinNanoTime; omega) (by omega), UnmarshalTime, if_neg (by simp; omega)]
    rfl

theorem reloadSG_id {g : ShardGroupInfo} (h : WFGroup g) : reloadSG g = g := by
  obtain ⟨ID, S, E, D, Sh, T⟩ := g
  obtain ⟨lo, ne, hi, tr, del⟩ := h
  dsimp only at lo ne hi tr del
  subst tr
  simp only [reloadSG, unmarshalSG, marshalSG, reloadBound lo (by omega), reloadBound (by omega) hi, reloadMark del]
  rfl

theorem map_id_of_forall {α : Type} (f : α → α) (l : List α) (h : ∀ x ∈ l, f x = x) : l.map f = l :=
  (List.map_congr_left h).trans l.map_id

theorem reload_id {d : Data} (h : WF d) : reload d = d := by
  unfold reload
  rw [map_id_of_forall _ d.Databases fun di hdi => ?_]
  rw [map_id_of_forall _ di.RetentionPolicies fun r hr => ?_]
  rw [map_id_of_forall _ r.ShardGroups fun g hg => reloadSG_id (((h.dbs di hdi).rps r hr).groups g hg)]

theorem modelNow_ok : (0 : Int) < modelNow ∧ modelNow ≤ MaxNanoTime := by
  unfold modelNow MaxNanoTime; omega

theorem deleteGo_eq (id : Nat) (t : Int) :
    deleteShardGroup.go id t = replaceFirst (·.ID == id) fun g => { g with DeletedAt := t } := by
  funext l
  induction l with
  | nil => rfl
  | cons x xs ih => simp only [deleteShardGroup.go, replaceFirst, ih]

theorem deleteShardGroup_wf {d d' : Data} (hwf : WF d) {db rp : String} {id : Nat} {t : Int}
    (ht : 0 < t ∧ t ≤ MaxNanoTime) (h : deleteShardGroup d db rp id t = .ok d') : WF d' := by
  unfold deleteShardGroup at h
  cases hr : getRP d db rp with
  | error e => simp [hr] at h
  | ok r =>
    simp only [hr] at h
    split at h
    · cases h
      refine WF_setRP hwf hr rfl fun hwr => hwr.of_rel ?_
      rw [deleteGo_eq]
      exact replaceFirst_rel (fun g hg => .refl (hwr.groups g hg)) fun g hg _ => .of_fields (hwr.groups g hg) rfl rfl rfl (.inr ht)
    · cases h

theorem setDeletedAt_wf {d : Data} (hwf : WF d) (db rp : String) (id : Nat) {t : Int}
    (ht : 0 < t ∧ t ≤ MaxNanoTime) : WF (setDeletedAt d db rp id t) := by
  unfold setDeletedAt
  cases hr : getRP d db rp with
  | error e => exact hwf
  | ok r =>
    refine WF_setRP hwf hr rfl fun hwr => hwr.of_rel (.map_left fun g hg => ?_)
    split
    · exact .of_fields (hwr.groups g hg) rfl rfl rfl (.inr ht)
    · exact .refl (hwr.groups g hg)

theorem setDuration_wf {d : Data} (hwf : WF d) (db rp : String) (D : Int) : WF (setDuration d db rp D) := by
  unfold setDuration
  cases hr : getRP d db rp with
  | error e => exact hwf
  | ok r =>
    exact WF_setRP hwf hr rfl fun hwr => ⟨hwr.sgd, hwr.groups, hwr.disj⟩

theorem setDuration_mono (d : Data) (db rp : String) (D : Int) : Mono d (setDuration d db rp D) := by
  unfold setDuration
  cases hr : getRP d db rp with
  | error e => exact Mono.refl d
  | ok r => exact Mono_setRP hr rfl fun _ h => h

theorem dropShardGroups_rel {l l' : List ShardGroupInfo} (h : ∀ g ∈ l, WFGroup g) (id : Nat) {t : Int}
    (ht : 0 < t ∧ t ≤ MaxNanoTime) (hd : dropShardGroups id t l = some l') : Rel₂ Sub l' l := by
  induction l generalizing l' with
  | nil => cases hd
  | cons y ys ih =>
    have hy := h y (List.mem_cons_self ..)
    have hys : ∀ g ∈ ys, WFGroup g := fun g hg => h g (List.mem_cons_of_mem _ hg)
    unfold dropShardGroups at hd
    split at hd
    · cases hd
      refine .cons ?_ (.refl fun g hg => .refl (hys g hg))
      split
      · exact .of_fields hy rfl rfl rfl (.inr ht)
      · exact .of_fields hy rfl rfl rfl (.inl rfl)
    · obtain ⟨zs, hzs, rfl⟩ := Option.map_eq_some_iff.mp hd
      exact .cons (.refl hy) (ih hys hzs)

theorem dropShardRPs_rel {l l' : List RetentionPolicyInfo} (id : Nat) {t : Int} (ht : 0 < t ∧ t ≤ MaxNanoTime)
    (hd : dropShardRPs id t l = some l') : Rel₂ (Keeps (·.Name) WFRP) l' l := by
  induction l generalizing l' with
  | nil => cases hd
  | cons y ys ih =>
    unfold dropShardRPs at hd
    split at hd
    · next gs hg =>
      cases hd
      exact .cons ⟨rfl, fun hy => hy.of_rel (dropShardGroups_rel hy.groups id ht hg)⟩ (.refl fun _ _ => .rfl)
    · obtain ⟨zs, hzs, rfl⟩ := Option.map_eq_some_iff.mp hd
      exact .cons .rfl (ih hzs)

theorem dropShardDBs_rel {l l' : List DatabaseInfo} (id : Nat) {t : Int} (ht : 0 < t ∧ t ≤ MaxNanoTime)
    (hd : dropShardDBs id t l = some l') : Rel₂ (Keeps (·.Name) WFDB) l' l := by
  induction l generalizing l' with
  | nil => cases hd
  | cons y ys ih =>
    unfold dropShardDBs at hd
    split at hd
    · next rs hr =>
      cases hd
      exact .cons ⟨rfl, fun hy => hy.of_rel (dropShardRPs_rel id ht hr)⟩ (.refl fun _ _ => .rfl)
    · obtain ⟨zs, hzs, rfl⟩ := Option.map_eq_some_iff.mp hd
      exact .cons .rfl (ih hzs)

theorem dropShard_wf {d : Data} (hwf : WF d) (id : Nat) {t : Int} (ht : 0 < t ∧ t ≤ MaxNanoTime) :
    WF (dropShard d id t) := by
  unfold dropShard
  split
  · next ds hd => exact hwf.of_rel (dropShardDBs_rel id ht hd)
  · exact hwf

theorem WF_mapRP {d : Data} (hwf : WF d) {f : RetentionPolicyInfo → RetentionPolicyInfo}
    (hf : ∀ r, Keeps (·.Name) WFRP (f r) r) :
    WF { d with Databases := d.Databases.map fun di =>
      { di with RetentionPolicies := di.RetentionPolicies.map f } } :=
  hwf.of_rel (.map_left fun _ _ => ⟨rfl, fun hdi => hdi.of_rel (.map_left fun r _ => hf r)⟩)

theorem pruneShardGroups_wf {d : Data} (hwf : WF d) (e : Int) : WF (pruneShardGroups d e) :=
  WF_mapRP hwf fun _ => ⟨rfl, fun hr => ⟨hr.sgd, fun g hg => hr.groups g (List.mem_filter.mp hg).1, hr.disj.filter _⟩⟩

theorem shardGroupDuration_pos (d : Int) : 0 < shardGroupDuration d := by
  unfold shardGroupDuration
  split
  · decide
  · split <;> decide

theorem normalised_pos (sgd : Int) : 0 < NormalisedShardDuration sgd 0 := by
  unfold NormalisedShardDuration
  split
  · exact shardGroupDuration_pos _
  · split
    · exact shardGroupDuration_pos _
    · next h => unfold MinRetentionPolicyDuration at h; simp only [decide_eq_true_eq] at h; omega

theorem nodup_names_push {α : Type} {name : α → String} {l : List α} {x : α} (hl : (l.map name).Nodup)
    (hx : l.find? (name · == name x) = none) : ((l ++ [x]).map name).Nodup := by
  rw [List.map_append, List.nodup_append]
  refine ⟨hl, by simp, fun a ha b hb hab => ?_⟩
  obtain ⟨y, hy, rfl⟩ := List.mem_map.mp ha
  cases List.mem_singleton.mp hb
  simpa using List.find?_eq_none.mp hx y hy (by simpa using hab)

theorem Mono_of_mem {d d' : Data} (hwf' : WF d')
    (h : ∀ di ∈ d.Databases, ∀ r ∈ di.RetentionPolicies,
      ∃ di' ∈ d'.Databases, di'.Name = di.Name ∧ r ∈ di'.RetentionPolicies) : Mono d d' := by
  intro db rp r hr
  obtain ⟨di, hdi, rfl, hrm, rfl⟩ := getRP_ok hr
  obtain ⟨di', hdi', hn, hr'⟩ := h di hdi r hrm
  exact ⟨r, hn ▸ getRP_of_mem hwf' hdi' hr', fun _ h => h⟩

/-- the domain of the harness op `rp`: a raw shard group duration is positive -/
theorem opRP_wf {d d' : Data} (hwf : WF d) {db rp : String} {sgd : Int} {raw : Bool}
    (hdom : raw = true → 0 < sgd) (h : opRP d db rp sgd raw = .ok d') : WF d' ∧ Mono d d' := by
  unfold opRP at h
  -- the data with the database in place
  generalize hd1 : (if (findDB d db).isSome = true then d else
      { d with Databases := d.Databases ++ [{ Name := db, DefaultRetentionPolicy := "", RetentionPolicies := [] }] }) = d1 at h
  have hwf1 : WF d1 ∧ Mono d d1 := by
    subst hd1
    split
    · exact ⟨hwf, .refl d⟩
    · next hnone =>
      have hw : WF { d with Databases := d.Databases ++ [{ Name := db, DefaultRetentionPolicy := "", RetentionPolicies := [] }] } :=
        ⟨forall_mem_push hwf.dbs ⟨forall_mem_nil, .nil⟩, nodup_names_push hwf.names (by simpa [findDB] using hnone)⟩
      exact ⟨hw, Mono_of_mem hw fun di hdi r hr => ⟨di, List.mem_append_left _ hdi, rfl, hr⟩⟩
  cases hdb : findDB d1 db with
  | none => simp [hdb] at h
  | some di =>
    simp only [hdb] at h
    have hdi : di ∈ d1.Databases := List.mem_of_find?_eq_some hdb
    have hdin : di.Name = db := by simpa using List.find?_some hdb
    have fin : ∀ d2 d3 : Data, WF d2 ∧ Mono d d2 →
        (if raw = true then
          match getRP d2 db rp with
          | .ok r => Except.ok (setRP d2 db rp { r with ShardGroupDuration := sgd })
          | .error e => Except.error e
        else Except.ok d2) = Except.ok d3 → WF d3 ∧ Mono d d3 := by
      intro d2 d3 ⟨hw2, hm2⟩ hfin
      split at hfin
      · next hraw =>
        split at hfin
        · next r hr =>
          cases hfin
          exact ⟨WF_setRP hw2 hr rfl fun hwr => ⟨hdom hraw, hwr.groups, hwr.disj⟩, hm2.trans (Mono_setRP hr rfl fun _ h => h)⟩
        · cases hfin
      · cases hfin
        exact ⟨hw2, hm2⟩
    cases hrp : di.findRP rp with
    | some r =>
      simp only [hrp] at h
      split at h
      · cases h
      · exact fin d1 d' hwf1 h
    | none =>
      simp only [hrp] at h
      -- the database is replaced by one with the same name that has a new, empty policy in addition
      have key : ∀ (di' : DatabaseInfo) (d2 : Data),
          d2 = { d1 with Databases := d1.Databases.map fun x => if x.Name == db then di' else x } → di'.Name = db →
          (∀ r ∈ di.RetentionPolicies, r ∈ di'.RetentionPolicies) → WFDB di' → WF d2 ∧ Mono d d2 := by
        intro di' d2 hd2 hn' hsub hdi'
        have hw2 : WF d2 := hd2 ▸ hwf1.1.of_rel (.map_left fun x _ => by
          split
          · next hx => exact ⟨hn'.trans (beq_iff_eq.mp hx).symm, fun _ => hdi'⟩
          · exact .rfl)
        refine ⟨hw2, hwf1.2.trans (Mono_of_mem hw2 fun x hx r hr => ?_)⟩
        subst hd2
        by_cases hxn : x.Name = db
        · have : x = di := Option.some.inj ((findDB_of_mem hwf1.1.names hx).symm.trans (hxn ▸ hdb))
          exact ⟨_, List.mem_map.mpr ⟨x, hx, if_pos (beq_iff_eq.mpr hxn)⟩, hn'.trans hxn.symm, hsub r (this ▸ hr)⟩
        · exact ⟨x, List.mem_map.mpr ⟨x, hx, if_neg (by simpa using hxn)⟩, rfl, hr⟩
      refine fin _ d' ?_ h
      exact key _ _ rfl hdin (fun r hr => List.mem_append_left _ hr)
        ⟨forall_mem_push (hwf1.1.dbs di hdi).rps ⟨normalised_pos sgd, forall_mem_nil, .nil⟩,
          nodup_names_push (hwf1.1.dbs di hdi).names hrp⟩

theorem dcExpire_wf (db rp : String) {now : Int} (hn : 0 < now ∧ now ≤ MaxNanoTime) (s : DC) (g : ShardGroupInfo)
    (h : WF s.data) : WF (dcExpire db rp now s g).data := by
  unfold dcExpire
  refine ite_rule (P := fun s' : DC => WF s'.data) (fun _ => h) fun _ => ?_
  cases hd : deleteShardGroup s.data db rp g.ID now with
  | error e => exact h
  | ok d' => exact deleteShardGroup_wf h hn hd

theorem dcDropRef_wf {now : Int} (hn : 0 < now ∧ now ≤ MaxNanoTime) (ph : Bool) (s : DC) (id : Nat)
    (h : WF s.data) : WF (dcDropRef now ph s id).data :=
  ite_rule (P := fun s' : DC => WF s'.data) (fun _ => h) fun _ => dropShard_wf h id hn

theorem dcLocal_wf {now : Int} (hn : 0 < now ∧ now ≤ MaxNanoTime) (s : DC) (id : Nat)
    (h : WF s.data) : WF (dcLocal now s id).data := by
  by_cases hid : id ∈ s.del
  · exact dcLocal_rule (P := fun s' => WF s'.data) (fun _ h => h) (fun _ h => h) (dcDropRef_wf hn _ _ _) h hid
  · rwa [dcLocal_of_not_mem hid]

theorem deletionCheck_wf {now : Int} (hn : 0 < now ∧ now ≤ MaxNanoTime) (d : Data) (st : Store) (h : WF d) :
    WF (deletionCheck now d st).data := by
  let P (s : DC) : Prop := WF s.data
  have h1 : P (dcCollect now ⟨d, st, [], []⟩) :=
    foldl_inv P _ _ _ h fun _ _ _ h => foldl_inv P _ _ _ h fun _ _ _ h => foldl_inv P _ _ _ h fun s g _ h =>
      dcExpire_wf _ _ hn s g h
  refine pruneShardGroups_wf (foldl_inv P _ _ _ ?_ fun s id _ hs => dcDropRef_wf hn true s id hs) _
  exact foldl_inv P _ _ _ h1 fun s id _ hs => dcLocal_wf hn s id hs

theorem mapShards_wf {d : Data} (hwf : WF d) (db rp : String) (now : Int) {ts : List Int}
    (hts : ∀ t ∈ ts, inRange t) : WF (mapShards d db rp now ts).1 ∧ Mono d (mapShards d db rp now ts).1 := by
  unfold mapShards
  cases hr : getRP d db rp with
  | error e => exact ⟨hwf, Mono.refl d⟩
  | ok r =>
    simp only
    have := mapCreate_spec db rp (minTime r now) ts d SgList.empty hwf (SgOK.empty_ok d db rp) hts
    cases hm : mapCreate db rp (minTime r now) d SgList.empty ts with
    | mk d' res =>
      rw [hm] at this
      cases res with
      | error e => exact ⟨this.1, this.2.1⟩
      | ok l =>
        simp only
        cases mapPlace (minTime r now) l ts <;> exact ⟨this.1, this.2.1⟩

theorem precreateRP_spec {d : Data} (hwf : WF d) (from_ to : Int) (hto : to ≤ MaxNanoTime) (db : String)
    (r : RetentionPolicyInfo) (hr : WFRP r) :
    WF (precreateRP from_ to db d r) ∧ Mono d (precreateRP from_ to db d r) := by
  unfold precreateRP
  cases hl : r.ShardGroups.getLast? with
  | none => exact ⟨hwf, Mono.refl d⟩
  | some g =>
    simp only
    split
    · next hcond =>
      simp only [Bool.and_eq_true, Bool.not_eq_true', before_iff, after_iff] at hcond
      have hg : g ∈ r.ShardGroups := List.mem_of_getLast? hl
      have hwg := hr.groups g hg
      have hin : inRange (Time.Add g.EndTime 1) := by
        have := hwg.lo; have := hwg.ne
        simp only [inRange, add_eq]; omega
      cases hrp : getRP d db r.Name with
      | error e => exact ⟨hwf, Mono.refl d⟩
      | ok r' =>
        simp only
        split
        · exact ⟨hwf, Mono.refl d⟩
        · cases hc : createShardGroup d db r.Name (Time.Add g.EndTime 1) with
          | error e => exact ⟨hwf, Mono.refl d⟩
          | ok d' =>
            have := createShardGroup_spec hwf hin hc
            exact ⟨this.1, this.2.1⟩
    · exact ⟨hwf, Mono.refl d⟩

theorem precreate_spec {d : Data} (hwf : WF d) (from_ to : Int) (hto : to ≤ MaxNanoTime) :
    WF (precreateShardGroups d from_ to) ∧ Mono d (precreateShardGroups d from_ to) := by
  unfold precreateShardGroups
  apply foldl_inv (fun acc : Data => WF acc ∧ Mono d acc) _ _ _ ⟨hwf, Mono.refl d⟩
  intro acc di hdi hacc
  apply foldl_inv (fun acc : Data => WF acc ∧ Mono d acc) _ _ _ hacc
  intro acc2 r hr hacc2
  have := precreateRP_spec hacc2.1 from_ to hto di.Name r ((hwf.dbs di hdi).rps r hr)
  exact ⟨this.1, hacc2.2.trans this.2⟩

/-- the quantifier domain of the meta properties, per operation -/
def opDom : Op → Prop
  | .rp _ _ sgd raw => raw = true → 0 < sgd
  | .sgd _ _ d => 0 < d
  | .csg _ _ t => inRange t
  | .ms _ _ _ ts => ∀ t ∈ ts, inRange t
  | .setdel _ _ _ a => 0 < a ∧ a ≤ MaxNanoTime
  | .pre _ to => to ≤ MaxNanoTime
  | .trunc _ => False
  | _ => True

theorem dom18_of_spec {op : Op} (h : Spec.C18.opInDomain op = true) : opDom op := by
  cases op <;> simp only [Spec.C18.opInDomain, opDom, Spec.C18.inRange, Bool.and_eq_true, decide_eq_true_eq,
    Bool.or_eq_true, Bool.not_eq_true', List.all_eq_true] at h ⊢
  · intro hr; rcases h with h | h
    · rw [hr] at h; cases h
    · exact h
  · exact h
  · exact h
  · intro t ht; exact h t ht
  · exact h
  · exact h
  · cases h

theorem foldl_setDuration_wf (cs : List (String × String × Int)) (d : Data) (h : WF d) :
    WF (cs.foldl (fun d (x : String × String × Int) => setDuration d x.1 x.2.1 (modelNow - x.2.2)) d) := by
  induction cs generalizing d with
  | nil => exact h
  | cons c cs ih => exact ih _ (setDuration_wf h _ _ _)

theorem clearDurations_wf {d : Data} (h : WF d) : WF (clearDurations d) :=
  WF_mapRP h fun _ => ⟨rfl, fun hr => ⟨hr.sgd, hr.groups, hr.disj⟩⟩

theorem init_wf : WF State.init.data := ⟨forall_mem_nil, .nil⟩

/-- operations that never remove a group from a policy -/
def keeps : Op → Bool
  | .del .. | .dc .. | .setdel .. | .dropshard .. => false
  | _ => true

theorem step_spec (s : State) (op : Op) (hwf : WF s.data) (hd : opDom op) :
    WF (step s op).1.data ∧ (keeps op = true → Mono s.data (step s op).1.data) := by
  have same : WF s.data ∧ (keeps op = true → Mono s.data s.data) := ⟨hwf, fun _ => .refl _⟩
  cases op with
  | rp db rp sgd raw =>
    simp only [step]
    cases h : opRP s.data db rp sgd raw with
    | ok d => exact ⟨(opRP_wf hwf hd h).1, fun _ => (opRP_wf hwf hd h).2⟩
    | error e => exact same
  | sgd db rp d =>
    simp only [step]
    cases hr : getRP s.data db rp with
    | error e => exact same
    | ok r => exact ⟨WF_setRP hwf hr rfl fun hwr => ⟨hd, hwr.groups, hwr.disj⟩, fun _ => Mono_setRP hr rfl fun _ h => h⟩
  | csg db rp t =>
    simp only [step]
    cases h : clientCreateShardGroup s.data db rp t with
    | error e => exact same
    | ok res =>
      obtain ⟨h1, h2, _⟩ := clientCreateShardGroup_spec (og := res.2) hwf hd h
      exact ⟨h1, fun _ => h2⟩
  | ms db rp c ts =>
    simp only [step]
    have h0 := setDuration_wf hwf db rp (cutoffDur c)
    have := mapShards_wf h0 db rp modelNow hd
    generalize mapShards _ db rp modelNow ts = res at this
    obtain ⟨d, _ | _⟩ := res <;> exact ⟨this.1, fun _ => Mono.trans (setDuration_mono _ _ _ _) this.2⟩
  | dump db rp => simp only [step]; split <;> exact same
  | restart => simp only [step]; rw [reload_id hwf]; exact same
  | find db rp t => simp only [step]; split <;> exact same
  | range db rp a b => simp only [step]; split <;> exact same
  | exp db rp D t => simp only [step]; split <;> exact same
  | store f ids => exact same
  | del db rp id =>
    simp only [step]
    cases h : deleteShardGroup s.data db rp id modelNow with
    | ok d => exact ⟨deleteShardGroup_wf hwf modelNow_ok h, nofun⟩
    | error e => exact same
  | dc cs =>
    exact ⟨deletionCheck_wf modelNow_ok _ _ (foldl_setDuration_wf cs _ (clearDurations_wf hwf)), nofun⟩
  | setdel db rp id a => exact ⟨setDeletedAt_wf hwf db rp id hd, nofun⟩
  | dropshard id => exact ⟨dropShard_wf hwf id modelNow_ok, nofun⟩
  | pre a b => exact ⟨(precreate_spec hwf a b hd).1, fun _ => (precreate_spec hwf a b hd).2⟩
  | trunc t => exact hd.elim

theorem step_wf (s : State) (op : Op) (hwf : WF s.data) (hd : opDom op) : WF (step s op).1.data :=
  (step_spec s op hwf hd).1

theorem all_run_fst (f : Op → Bool) (s : State) (l : List Op) : ((run s l).all fun p => f p.1) = l.all f := by
  induction l generalizing s with
  | nil => rfl
  | cons o os ih => simp only [run, List.all_cons, ih]

theorem all_run {P : Op × Obs → Bool} {Inv : State → Prop} {l : List Op}
    (hstep : ∀ s, ∀ o ∈ l, Inv s → P (o, (step s o).2) = true ∧ Inv (step s o).1) {s : State} (hs : Inv s) :
    (run s l).all P = true := by
  induction l generalizing s with
  | nil => rfl
  | cons o os ih =>
    have h := hstep s o (List.mem_cons_self ..) hs
    simp only [run, List.all_cons, h.1, Bool.true_and]
    exact ih (fun s o ho => hstep s o (List.mem_cons_of_mem _ ho)) h.2

end Influx.Meta
