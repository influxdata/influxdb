/-
  Lemmas.KCRead — one Read…Block of a cursor travelling in either direction: the invariant
  `Inv` of the read marks relative to a watermark `W` (everything not beyond `W` has been
  delivered, nothing beyond it), and what the call returns and does to the marks.
-/
import Influx.Lemmas.KCFold

namespace Influx.KC
open Influx.Generated.KeyCursor

variable {V : Type} {n : Nat} {B : Vector (Block V) n} {rd : Marks n} {asc : Bool}

def precedes (asc : Bool) (i j : Fin n) : Prop := if asc then i < j else j < i

theorem precedes_ne {i j : Fin n} (h : precedes asc i j) : i ≠ j := by
  cases asc <;> simp only [precedes, Bool.false_eq_true, if_false, if_true] at h
  · exact Fin.ne_of_gt h
  · exact Fin.ne_of_lt h

/-- shape of `current`: after the first element, `seeks` indices in the direction of travel, all
    of them past the first — except that nextDescending appends `seeks[pos]` twice, so that a
    descending cursor may meet its first element once more -/
def Shape (asc : Bool) : List (Fin n) → Prop
  | [] => True
  | f :: rest => rest.Pairwise (precedes asc) ∧ ∀ b ∈ rest, precedes asc f b ∨ (asc = false ∧ b = f)

theorem Shape.of_pairwise : ∀ {l : List (Fin n)}, l.Pairwise (precedes asc) → Shape asc l
  | [], _ => trivial
  | _ :: _, h => ⟨(List.pairwise_cons.1 h).2, fun b hb => Or.inl ((List.pairwise_cons.1 h).1 b hb)⟩

/-- Every mark reaches from the int64 end the cursor started from to a point not beyond `W`;
    what a location has left unread are its live points beyond `W`; the locations that have
    any are in `current`. -/
structure Inv (asc : Bool) (B : Vector (Block V) n) (rd : Marks n) (W : Int) (cur : List (Fin n)) : Prop where
  mark : ∀ i : Fin n, ∃ w, rd.get i = readTo asc w ∧ ¬ beyond asc W w
  unread : ∀ (i : Fin n) (p : Int × V), p ∈ curVals B rd i ↔ p ∈ live (B.get i) ∧ beyond asc W p.1
  cover : ∀ i : Fin n, curVals B rd i ≠ [] → i ∈ cur
  shape : Shape asc cur

theorem Inv.recur {W : Int} {cur cur' : List (Fin n)}
    (inv : Inv asc B rd W cur) (hc : ∀ i : Fin n, curVals B rd i ≠ [] → i ∈ cur') (hs : Shape asc cur') :
    Inv asc B rd W cur' :=
  ⟨inv.mark, inv.unread, hc, hs⟩

theorem Inv.drop {W : Int} {f : Fin n} {rest : List (Fin n)}
    (inv : Inv asc B rd W (f :: rest)) (he : curVals B rd f = []) : Inv asc B rd W rest :=
  inv.recur (fun i hi => (List.mem_cons.1 (inv.cover i hi)).elim (fun e => absurd (e ▸ he) hi) id)
    (Shape.of_pairwise inv.shape.1)

theorem Inv.advance (hwf : ∀ i : Fin n, BlockWF (B.get i))
    {rd rd' : Marks n} {W W' : Int} {cur : List (Fin n)} (inv : Inv asc B rd W cur) (hW : beyond asc W W')
    (h : ∀ j : Fin n, rd'.get j = if j ∈ cur then readTo asc W' else rd.get j) : Inv asc B rd' W' cur := by
  have hun : ∀ (j : Fin n) (p : Int × V), p ∈ curVals B rd' j ↔ p ∈ live (B.get j) ∧ beyond asc W' p.1 := by
    intro j p
    by_cases hj : j ∈ cur
    · exact mem_curVals_readTo hwf ((h j).trans (if_pos hj))
    · rw [mem_curVals, (h j).trans (if_neg hj), ← mem_curVals, inv.unread]
      have hnil : ∀ q ∈ live (B.get j), ¬ beyond asc W q.1 := fun q hq hb =>
        hj (inv.cover j (List.ne_nil_of_mem ((inv.unread j q).2 ⟨hq, hb⟩)))
      exact ⟨fun hp => absurd hp.2 (hnil p hp.1), fun hp => absurd (beyond_trans hW hp.2) (hnil p hp.1)⟩
  refine ⟨?_, hun, ?_, inv.shape⟩
  · intro j
    rw [h j]
    split
    · exact ⟨W', rfl, beyond_irrefl asc W'⟩
    · obtain ⟨w, e, hw⟩ := inv.mark j
      exact ⟨w, e, not_beyond_mono hw hW⟩
  · intro j hj
    obtain ⟨p, hp⟩ := List.exists_mem_of_ne_nil _ hj
    obtain ⟨hl, hb⟩ := (hun j p).1 hp
    exact inv.cover j (List.ne_nil_of_mem ((inv.unread j p).2 ⟨hl, beyond_trans hW hb⟩))

/-- locations that contribute the same timestamp overlap, so OrderOK says which file is older -/
theorem file_lt_of_precedes (hwf : ∀ i : Fin n, BlockWF (B.get i)) (hord : OrderOKv B)
    {a b : Fin n} (h : precedes asc a b) {minT maxT ts : Int}
    (ha : ts ∈ keys (windowed B rd minT maxT a)) (hb : ts ∈ keys (windowed B rd minT maxT b)) :
    if asc then (B.get a).file < (B.get b).file else (B.get b).file < (B.get a).file := by
  obtain ⟨va, hva⟩ := mem_keys.1 ha
  obtain ⟨vb, hvb⟩ := mem_keys.1 hb
  have h1 := (hwf a).live_inEntry (mem_curVals.1 (mem_windowed.1 hva).1).1
  have h2 := (hwf b).live_inEntry (mem_curVals.1 (mem_windowed.1 hvb).1).1
  cases asc <;> simp only [precedes, Bool.false_eq_true, if_false, if_true] at h ⊢
  · exact hord b a h (Int.le_trans h2.1 h1.2) (Int.le_trans h1.1 h2.2)
  · exact hord a b h (Int.le_trans h1.1 h2.2) (Int.le_trans h2.1 h1.2)

/-- Read…Block with `current = f :: rest` (also for `rest = []`): the watermark moves on to the
    leading edge of the window, and the block holds the newest-file-wins points in between. -/
theorem readMulti_spec (hwf : ∀ i : Fin n, BlockWF (B.get i)) (hord : OrderOKv B)
    {W : Int} {f : Fin n} {rest : List (Fin n)} (inv : Inv asc B rd W (f :: rest))
    (hne : curVals B rd f ≠ []) :
    ∃ W', beyond asc W W' ∧ Inv asc B (readMulti asc B rd f rest (curVals B rd f)).1 W' (f :: rest) ∧
      SortedV (readMulti asc B rd f rest (curVals B rd f)).2 ∧
      (readMulti asc B rd f rest (curVals B rd f)).2 ≠ [] ∧
      ∀ p, p ∈ (readMulti asc B rd f rest (curVals B rd f)).2 ↔
        IsWinner B p ∧ beyond asc W p.1 ∧ ¬ beyond asc W' p.1 := by
  obtain ⟨lo, hi, hlo, hhi, hlok, hhik, hb⟩ := span_of_ne_nil (curVals_sorted hwf rd f) hne
  obtain ⟨vlo, hvlo⟩ := mem_keys.1 hlok
  obtain ⟨vhi, hvhi⟩ := mem_keys.1 hhik
  obtain ⟨llo, hWlo⟩ := (inv.unread f _).1 hvlo
  obtain ⟨lhi, hWhi⟩ := (inv.unread f _).1 hvhi
  obtain ⟨hdecr, hlef⟩ := inv.shape
  rcases hw : window asc B rd rest lo hi with ⟨minT, maxT⟩
  rw [readMulti_eq hwf asc rd f (hdecr.imp precedes_ne) hlo hhi hb hw]
  obtain ⟨w1, w2, w3, w4, w5⟩ :=
    window_spec hwf asc rd f rest ((hwf f).live_i64 llo).1 ((hwf f).live_i64 lhi).2 hb hw
  have hW := beyond_lead hWlo hWhi w1 w2
  have hUf : windowed B rd minT maxT f = curVals B rd f :=
    include_eq_self fun p hp => ⟨Int.le_trans w1 (hb p hp).1, Int.le_trans (hb p hp).2 w2⟩
  have won : Won (windowed B rd minT maxT) (fun i => (B.get i).file) (fun x => x = f ∨ x ∈ rest)
      (rest.foldl (fun a i => mergeDir asc a (windowed B rd minT maxT i)) (curVals B rd f)) := by
    have won0 := Won.single (windowed B rd minT maxT) (fun i => (B.get i).file) f (windowed_sorted hwf rd _ _ f)
    rw [hUf] at won0
    refine Won.fold (windowed_sorted hwf rd _ _) rest _ _ won0 ?_ ?_
    · intro i hi
      rcases hlef i hi with h | ⟨e, rfl⟩
      · right
        rintro k rfl ts hk hi'
        exact file_lt_of_precedes hwf hord h hk hi'
      · exact Or.inl ⟨e, rfl⟩
    · exact hdecr.imp fun h ts ha hb => file_lt_of_precedes hwf hord h ha hb
  have hU : ∀ i, (i = f ∨ i ∈ rest) → ∀ p, p ∈ windowed B rd minT maxT i ↔
      p ∈ live (B.get i) ∧ beyond asc W p.1 ∧ ¬ beyond asc (lead asc minT maxT) p.1 := by
    intro i hi p
    rw [mem_windowed, inv.unread, and_assoc]
    refine and_congr_right fun hl => and_congr_right fun hbw => ?_
    exact ⟨fun h => not_beyond_lead h.1 h.2, w5 i (List.mem_cons.2 hi) p ((inv.unread i p).2 ⟨hl, hbw⟩)⟩
  have hout : ∀ i, ¬ (i = f ∨ i ∈ rest) → ∀ p ∈ live (B.get i),
      ¬ (beyond asc W p.1 ∧ ¬ beyond asc (lead asc minT maxT) p.1) := fun i hi p hp hr =>
    hi (List.mem_cons.1 (inv.cover i (List.ne_nil_of_mem ((inv.unread i p).2 ⟨hp, hr.1⟩))))
  refine ⟨lead asc minT maxT, hW, ?_, won.sorted, ?_,
    won.mem_iff (L := fun i => live (B.get i)) (R := fun x => beyond asc W x ∧ ¬ beyond asc (lead asc minT maxT) x)
      hU hout⟩
  · refine inv.advance hwf hW fun j => ?_
    rw [foldl_markAt_get]
    by_cases hj : j ∈ f :: rest
    · obtain ⟨w, e, hw⟩ := inv.mark j
      rw [if_pos hj, if_pos (List.mem_append.2 ((List.mem_cons.1 hj).symm.imp id List.mem_singleton.2)), e,
        markRead_readTo hw hW w3 w4]
    · rw [if_neg hj, if_neg]
      intro h
      exact hj (List.mem_cons.2 ((List.mem_append.1 h).symm.imp List.mem_singleton.1 id))
  · -- non-empty: the first block's values are in it
    intro e
    have hk := (won.kmem lo).2 ⟨f, Or.inl rfl, hUf ▸ hlok⟩
    dsimp only at e
    rw [e] at hk
    cases hk

theorem readLoop_skip (hwf : ∀ i : Fin n, BlockWF (B.get i)) (asc : Bool)
    {f : Fin n} (rest : List (Fin n)) (he : curVals B rd f = []) :
    readLoop asc B (f :: rest) rd = readLoop asc B rest rd := by
  cases rest
  · rw [readLoop.eq_2, firstVals_eq_curVals hwf, he, List.isEmpty_nil, if_pos rfl]
  · rw [readLoop.eq_3, firstVals_eq_curVals hwf, he, List.isEmpty_nil, if_pos rfl]

/-- "Only one block with this key and time range so return it" is the general case with an
    empty merge loop -/
theorem readLoop_cons (hwf : ∀ i : Fin n, BlockWF (B.get i)) (asc : Bool)
    {f : Fin n} (rest : List (Fin n)) (hne : curVals B rd f ≠ []) :
    readLoop asc B (f :: rest) rd =
      ((readMulti asc B rd f rest (curVals B rd f)).1, f :: rest, (readMulti asc B rd f rest (curVals B rd f)).2) := by
  have he : (curVals B rd f).isEmpty = false := List.isEmpty_eq_false_iff.2 hne
  cases rest with
  | cons r rs =>
    rw [readLoop.eq_3]
    simp only [firstVals_eq_curVals hwf, he, Bool.false_eq_true, if_false]
  | nil =>
    rw [readLoop.eq_2]
    simp only [firstVals_eq_curVals hwf, he, Bool.false_eq_true, if_false]
    obtain ⟨lo, hi, hlo, hhi, _, _, hb⟩ := span_of_ne_nil (curVals_sorted hwf rd f) hne
    simp only [hlo, hhi]
    rw [readMulti_eq (minT := lo) (maxT := hi) hwf asc rd f List.nodup_nil hlo hhi hb (by cases asc <;> rfl)]
    rfl

/-- what one Read…Block (with its `goto LOOP` drops) does to a cursor -/
theorem readLoop_spec (hwf : ∀ i : Fin n, BlockWF (B.get i)) (hord : OrderOKv B)
    : ∀ (cur : List (Fin n)) (rd : Marks n) (W : Int), Inv asc B rd W cur →
      ((readLoop asc B cur rd).2.2 = [] ∧ ∀ i : Fin n, curVals B rd i = []) ∨
      (∃ W', beyond asc W W' ∧ Inv asc B (readLoop asc B cur rd).1 W' (readLoop asc B cur rd).2.1 ∧
        (∀ i ∈ (readLoop asc B cur rd).2.1, i ∈ cur) ∧
        SortedV (readLoop asc B cur rd).2.2 ∧ (readLoop asc B cur rd).2.2 ≠ [] ∧
        ∀ p, p ∈ (readLoop asc B cur rd).2.2 ↔ IsWinner B p ∧ beyond asc W p.1 ∧ ¬ beyond asc W' p.1) := by
  intro cur
  induction cur with
  | nil => exact fun rd W inv => Or.inl ⟨rfl, fun i => Classical.byContradiction fun h => nomatch inv.cover i h⟩
  | cons f rest ih =>
    intro rd W inv
    by_cases he : curVals B rd f = []
    · rw [readLoop_skip hwf asc rest he]
      rcases ih rd W (inv.drop he) with h | ⟨W', h1, h2, h3, h4⟩
      · exact Or.inl h
      · exact Or.inr ⟨W', h1, h2, fun i hi => List.mem_cons_of_mem _ (h3 i hi), h4⟩
    · rw [readLoop_cons hwf asc rest he]
      obtain ⟨W', h1, h2, h3⟩ := readMulti_spec hwf hord inv he
      exact Or.inr ⟨W', h1, h2, fun i hi => hi, h3⟩

end Influx.KC
