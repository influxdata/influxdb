/-
  Lemmas.C13Lookup — the invariant of one series partition (`PInv`) and what the index lookups
  (`FindOffsetByID`, `IsDeleted`, `FindIDBySeriesKey`, `SeriesKey`) mean in terms of the
  entries of the segment — across the in-memory part and the compacted index file.
-/
import Influx.Lemmas.C13Replay

namespace Influx.SF

def Tombed (es : List Entry) (id : Nat) : Prop := ∃ t ∈ es, t.flag ≠ insertFlag ∧ t.id = id

/-- the replay boundary: entries at or before it are covered by the index file -/
def Part.bound (p : Part) : Nat := match p.idxFile with | some d => d.maxOffset | none => 0

/-- `SeriesIndex.Open`: empty in-memory maps, header fields from the index file -/
def Part.base (p : Part) : Part :=
  { p with
    maxSeriesID := match p.idxFile with | some d => d.maxSeriesID | none => 0
    maxOffset := match p.idxFile with | some d => d.maxOffset | none => 0
    memKeyID := [], memIDOff := [], tomb := [] }

theorem recover_eq (p : Part) :
    p.recover = replay p.base ((entries p.file).filter (fun e => e.off > p.bound)) := by
  unfold Part.recover Part.base Part.bound replay
  rfl

theorem pairwise_mem_or {α : Type} {R : α → α → Prop} {l : List α} (h : l.Pairwise R) :
    ∀ {a b : α}, a ∈ l → b ∈ l → a ≠ b → R a b ∨ R b a := by
  induction h with
  | nil => intro a b ha; cases ha
  | cons hx _ ih =>
    intro a b ha hb hne
    rcases List.mem_cons.mp ha with h1 | h1
    · rcases List.mem_cons.mp hb with h2 | h2
      · exact absurd (h1.trans h2.symm) hne
      · subst h1; exact Or.inl (hx b h2)
    · rcases List.mem_cons.mp hb with h2 | h2
      · subst h2; exact Or.inr (hx a h1)
      · exact ih h1 h2 hne

structure DiskOK (d : IndexFile) (es : List Entry) : Prop where
  d1 : ∀ x ∈ d.idOff, ∃ e ∈ es, e.flag = insertFlag ∧ e.id = x.1 ∧ e.off = x.2 ∧ e.off ≤ d.maxOffset
  d2 : ∀ e ∈ es, e.flag = insertFlag → e.off ≤ d.maxOffset → (e.id, e.off) ∈ d.idOff ∨ Tombed es e.id
  d3 : ∀ x ∈ d.idOff, ∀ t ∈ es, t.flag ≠ insertFlag → t.id = x.1 → d.maxOffset < t.off
  d4 : d.keyID = d.idOff.map (fun x => (x.2, x.1))

structure PInv (p : Part) (es : List Entry) : Prop where
  file : p.file = fileOf es
  chain : Chain hdrSize es
  idPos : ∀ e ∈ es, e.flag = insertFlag → 0 < e.id ∧ e.id < p.seq ∧ e.id % partN = (p.pid + 1) % partN
  idInc : es.Pairwise (fun a b => a.flag = insertFlag → b.flag = insertFlag → a.id < b.id)
  seqMod : p.seq % partN = (p.pid + 1) % partN
  /-- a key is re-created only after its previous series was deleted -/
  keys : es.Pairwise (fun a b => a.flag = insertFlag → b.flag = insertFlag → a.key = b.key →
    ∃ t ∈ es, t.flag ≠ insertFlag ∧ t.id = a.id ∧ t.off < b.off)
  /-- a tombstone follows the insert entry it deletes -/
  tombAfter : ∀ t ∈ es, t.flag ≠ insertFlag → ∃ e ∈ es, e.flag = insertFlag ∧ e.id = t.id ∧ e.off < t.off
  memKeyID : p.memKeyID = (replay p.base (es.filter (fun e => e.off > p.bound))).memKeyID
  memIDOff : p.memIDOff = (replay p.base (es.filter (fun e => e.off > p.bound))).memIDOff
  tomb : p.tomb = (replay p.base (es.filter (fun e => e.off > p.bound))).tomb
  maxOffset : p.maxOffset = (replay p.base (es.filter (fun e => e.off > p.bound))).maxOffset
  disk : ∀ d, p.idxFile = some d → DiskOK d es

namespace PInv
variable {p : Part} {es : List Entry}

theorem entries_eq (h : PInv p es) : entries p.file = es := by
  rw [h.file]; exact entries_fileOf es h.chain

theorem offInc (h : PInv p es) : es.Pairwise (fun a b => a.off < b.off) := Chain.off_inc _ _ h.chain

theorem off_ge (h : PInv p es) : ∀ e ∈ es, hdrSize ≤ e.off := Chain.off_ge _ _ h.chain

/-- offset 0 is the header: `FindOffsetByID` uses it for "not found" -/
theorem off_ne_zero (h : PInv p es) {e : Entry} (he : e ∈ es) : e.off ≠ 0 :=
  Nat.ne_of_gt (Nat.lt_of_lt_of_le (by decide) (h.off_ge e he))

theorem id_unique (h : PInv p es) {a b : Entry} (ha : a ∈ es) (hb : b ∈ es)
    (hfa : a.flag = insertFlag) (hfb : b.flag = insertFlag) (hid : a.id = b.id) : a = b := by
  have hp := h.idInc
  by_cases hab : a = b
  · exact hab
  · exfalso
    rcases pairwise_mem_or hp ha hb hab with h1 | h1
    · exact Nat.lt_irrefl _ (hid ▸ h1 hfa hfb)
    · exact Nat.lt_irrefl _ (hid ▸ h1 hfb hfa)

theorem mem (h : PInv p es) : SameMem p (replay p.base (es.filter (fun e => e.off > p.bound))) :=
  ⟨h.memKeyID, h.memIDOff, h.tomb, h.maxOffset⟩

theorem memOff_eq (h : PInv p es) (id : Nat) :
    p.memOff id =
      match lastWith (fun e => decide (e.flag = insertFlag ∧ e.id = id)) (es.filter (fun e => e.off > p.bound)) with
      | some e => some e.off
      | none => none := by
  unfold Part.memOff; rw [h.memIDOff]
  exact lookup_replay (·.memOff id) _ (·.off) (memOff_execEntry · · id) _ _

theorem memID_eq (h : PInv p es) (key : Bytes) :
    p.memID key =
      match lastWith (fun e => decide (e.flag = insertFlag ∧ e.key = key)) (es.filter (fun e => e.off > p.bound)) with
      | some e => some e.id
      | none => none := by
  unfold Part.memID; rw [h.memKeyID]
  exact lookup_replay (·.memID key) _ (·.id) (memID_execEntry · · key) _ _

end PInv

theorem base_tomb (p : Part) : p.base.tomb = [] := rfl
theorem base_idxFile (p : Part) : p.base.idxFile = p.idxFile := rfl

theorem bound_congr {a b : Part} (h : a.idxFile = b.idxFile) : a.bound = b.bound := by
  unfold Part.bound; rw [h]

theorem sameMem_base {a b : Part} (h : a.idxFile = b.idxFile) : SameMem a.base b.base := by
  unfold Part.base; rw [h]; exact ⟨rfl, rfl, rfl, rfl⟩

theorem PInv.of_durable {p q : Part} {es : List Entry} (h : PInv p es) (hfile : q.file = p.file)
    (hseq : q.seq = p.seq) (hpid : q.pid = p.pid) (hdisk : ∀ d, q.idxFile = some d → DiskOK d es)
    (hm : SameMem q (replay q.base (es.filter (fun e => e.off > q.bound)))) : PInv q es :=
  ⟨hfile.trans h.file, h.chain, by rw [hseq, hpid]; exact h.idPos, h.idInc, by rw [hseq, hpid]; exact h.seqMod,
    h.keys, h.tombAfter, hm.1, hm.2.1, hm.2.2.1, hm.2.2.2, hdisk⟩

theorem PInv.congr {p q : Part} {es : List Entry} (h : PInv p es) (hfile : q.file = p.file)
    (hidx : q.idxFile = p.idxFile) (hseq : q.seq = p.seq) (hpid : q.pid = p.pid) (hm : SameMem q p) :
    PInv q es :=
  h.of_durable hfile hseq hpid (by rw [hidx]; exact h.disk)
    (by rw [bound_congr hidx]; exact hm.trans (h.mem.trans ((sameMem_base hidx.symm).replay _)))

open Part

/-- the on-disk part of `FindOffsetByID` -/
def Part.diskOff (p : Part) (id : Nat) : Nat :=
  match p.idxFile with
  | none => 0
  | some d =>
    match d.idOff.find? (·.1 = id) with
    | some (_, off) => off
    | none => 0

theorem findOffsetByID_def (p : Part) (id : Nat) :
    p.findOffsetByID id = match p.memOff id with | some off => off | none => p.diskOff id := by
  unfold Part.findOffsetByID Part.memOff Part.diskOff
  cases h : p.memIDOff.find? (·.1 = id) with
  | none => rfl
  | some x => cases x; rfl

variable {p : Part} {es : List Entry}

theorem memOff_some (h : PInv p es) {id off : Nat} (hm : p.memOff id = some off) :
    ∃ e ∈ es, e.flag = insertFlag ∧ e.id = id ∧ e.off = off ∧ p.bound < e.off := by
  obtain ⟨e, _, he, hq, hr, hv⟩ := (lastWith_lookup (h.memOff_eq id)).1 off hm
  exact ⟨e, he, hq.1, hq.2, hv, of_decide_eq_true hr⟩

theorem memOff_none (h : PInv p es) {id : Nat} (hm : p.memOff id = none) :
    ∀ e ∈ es, e.flag = insertFlag → e.id = id → e.off ≤ p.bound := fun e he hf hid =>
  Nat.le_of_not_lt (of_decide_eq_false ((lastWith_lookup (h.memOff_eq id)).2 hm e he ⟨hf, hid⟩))

theorem diskOff_some (h : PInv p es) {id : Nat} (hne : p.diskOff id ≠ 0) :
    ∃ e ∈ es, e.flag = insertFlag ∧ e.id = id ∧ e.off = p.diskOff id ∧ e.off ≤ p.bound ∧
      ∃ d, p.idxFile = some d ∧ (id, e.off) ∈ d.idOff := by
  unfold Part.diskOff at hne ⊢
  cases hd : p.idxFile with
  | none => simp [hd] at hne
  | some d =>
    simp only [hd] at hne ⊢
    cases hf : d.idOff.find? (·.1 = id) with
    | none => simp [hf] at hne
    | some x =>
      have hmem := List.mem_of_find?_eq_some hf
      have hq := List.find?_some hf
      obtain rfl : x.1 = id := of_decide_eq_true hq
      obtain ⟨e, he, hfl, hid, hoff, hle⟩ := (h.disk d hd).d1 _ hmem
      exact ⟨e, he, hfl, hid, hoff, by rw [Part.bound, hd]; exact hle, d, rfl, by rw [hoff]; exact hmem⟩

/-- the index file holds at most one offset per id -/
theorem diskOff_mem (h : PInv p es) {d : IndexFile} (hd : p.idxFile = some d) {id off : Nat}
    (hm : (id, off) ∈ d.idOff) : p.diskOff id = off := by
  have hu : ∀ a ∈ d.idOff, ∀ b ∈ d.idOff, decide (a.1 = id) = true → decide (b.1 = id) = true → a = b := by
    intro a ha b hb qa qb
    obtain ⟨e, he, hf, hid, hoff, _⟩ := (h.disk d hd).d1 a ha
    obtain ⟨e', he', hf', hid', hoff', _⟩ := (h.disk d hd).d1 b hb
    have hab : a.1 = b.1 := (of_decide_eq_true qa).trans (of_decide_eq_true qb).symm
    have := h.id_unique he he' hf hf' (by rw [hid, hid', hab])
    exact Prod.ext hab (by rw [← hoff, ← hoff', this])
  unfold Part.diskOff
  simp only [hd, find?_unique hu hm (decide_eq_true rfl)]

theorem findOffsetByID_cases (h : PInv p es) (id : Nat) :
    p.findOffsetByID id = 0 ∨
      ∃ e ∈ es, e.flag = insertFlag ∧ e.id = id ∧ e.off = p.findOffsetByID id ∧
        ∀ t ∈ es, t.flag ≠ insertFlag → t.id = id → p.bound < t.off := by
  rw [findOffsetByID_def]
  cases hm : p.memOff id with
  | some off =>
    obtain ⟨e, he, hf, hid, hoff, hb⟩ := memOff_some h hm
    refine Or.inr ⟨e, he, hf, hid, hoff, fun t ht hft htid => ?_⟩
    obtain ⟨e2, he2, hf2, hid2, hlt2⟩ := h.tombAfter t ht hft
    obtain rfl := h.id_unique he2 he hf2 hf (hid2.trans (htid.trans hid.symm))
    exact Nat.lt_trans hb hlt2
  | none =>
    by_cases hz : p.diskOff id = 0
    · exact Or.inl hz
    · obtain ⟨e, he, hf, hid, hoff, _, d, hd, hmem⟩ := diskOff_some h hz
      refine Or.inr ⟨e, he, hf, hid, hoff, fun t ht hft htid => ?_⟩
      rw [Part.bound, hd]
      exact (h.disk d hd).d3 _ hmem t ht hft htid

theorem findOffsetByID_live (h : PInv p es) {e : Entry} (he : e ∈ es) (hf : e.flag = insertFlag)
    (hnt : ¬ Tombed es e.id) : p.findOffsetByID e.id = e.off := by
  rw [findOffsetByID_def]
  cases hm : p.memOff e.id with
  | some off =>
    obtain ⟨e', he', hf', hid', hoff', _⟩ := memOff_some h hm
    have := h.id_unique he' he hf' hf hid'
    subst this; exact hoff'.symm
  | none =>
    have hle := memOff_none h hm e he hf rfl
    cases hd : p.idxFile with
    | none =>
      rw [Part.bound, hd] at hle
      exact absurd (Nat.le_zero.mp hle) (h.off_ne_zero he)
    | some d =>
      have hb : p.bound = d.maxOffset := by rw [Part.bound, hd]
      rcases (h.disk d hd).d2 e he hf (hb ▸ hle) with hmem | ht
      · exact diskOff_mem h hd hmem
      · exact absurd ht hnt

/-- **`IsDeleted`**: true exactly for ids with a tombstone and for ids never issued here -/
theorem isDeleted_iff (h : PInv p es) (id : Nat) :
    p.isDeleted id = true ↔ Tombed es id ∨ ∀ e ∈ es, e.flag = insertFlag → e.id ≠ id := by
  unfold Part.isDeleted
  simp only [Bool.or_eq_true, List.contains_iff_mem, beq_iff_eq]
  constructor
  · rintro (ht | hz)
    · rw [h.tomb, tomb_replay, base_tomb] at ht
      rcases ht with ⟨t, ht, hfl, hid⟩ | ht
      · exact Or.inl ⟨t, (List.mem_filter.mp ht).1, hfl, hid⟩
      · cases ht
    · by_cases htb : Tombed es id
      · exact Or.inl htb
      · refine Or.inr (fun e he hf hid => ?_)
        subst hid
        exact h.off_ne_zero he ((findOffsetByID_live h he hf htb).symm.trans hz)
  · rintro (⟨t, ht, hfl, hid⟩ | hno)
    · by_cases hb : t.off > p.bound
      · left
        rw [h.tomb, tomb_replay]
        exact Or.inl ⟨t, List.mem_filter.mpr ⟨ht, by simpa using hb⟩, hfl, hid⟩
      · -- an old tombstone: the series was dropped from the index file, and is not in memory
        right
        rcases findOffsetByID_cases h id with hz | ⟨_, _, _, _, _, hall⟩
        · exact hz
        · exact absurd (hall t ht hfl hid) hb
    · right
      rcases findOffsetByID_cases h id with hz | ⟨e, he, hf, hid, _⟩
      · exact hz
      · exact absurd hid (hno e he hf)

theorem isDeleted_false_iff (h : PInv p es) (id : Nat) :
    p.isDeleted id = false ↔ ¬ Tombed es id ∧ ∃ e ∈ es, e.flag = insertFlag ∧ e.id = id := by
  rw [← Bool.not_eq_true, isDeleted_iff h]
  constructor
  · intro hn
    refine ⟨fun ht => hn (Or.inl ht), ?_⟩
    apply Classical.byContradiction
    intro hne
    exact hn (Or.inr (fun e he hf hid => hne ⟨e, he, hf, hid⟩))
  · rintro ⟨hnt, e, he, hf, hid⟩ (ht | hno)
    · exact hnt ht
    · exact hno e he hf hid

def Live (es : List Entry) (e : Entry) : Prop := e ∈ es ∧ e.flag = insertFlag ∧ ¬ Tombed es e.id

theorem live_unique (h : PInv p es) {a b : Entry} (ha : Live es a) (hb : Live es b)
    (hk : a.key = b.key) : a = b := by
  by_cases hab : a = b
  · exact hab
  · exfalso
    rcases pairwise_mem_or h.keys ha.1 hb.1 hab with h1 | h1
    · obtain ⟨t, ht, hf, hid, _⟩ := h1 ha.2.1 hb.2.1 hk
      exact ha.2.2 ⟨t, ht, hf, hid⟩
    · obtain ⟨t, ht, hf, hid, _⟩ := h1 hb.2.1 ha.2.1 hk.symm
      exact hb.2.2 ⟨t, ht, hf, hid⟩

theorem PInv.off_inj (h : PInv p es) {a b : Entry} (ha : a ∈ es) (hb : b ∈ es) (ho : a.off = b.off) : a = b :=
  Classical.byContradiction fun hne =>
    (pairwise_mem_or h.offInc ha hb hne).elim (fun h1 => Nat.lt_irrefl _ (ho ▸ h1)) fun h1 => Nat.lt_irrefl _ (ho ▸ h1)

theorem key_reuse (h : PInv p es) {a b : Entry} (ha : a ∈ es) (hb : b ∈ es) (hfa : a.flag = insertFlag)
    (hfb : b.flag = insertFlag) (hk : a.key = b.key) (hlt : a.off < b.off) :
    ∃ t ∈ es, t.flag ≠ insertFlag ∧ t.id = a.id ∧ t.off < b.off := by
  have hne : a ≠ b := fun hab => Nat.lt_irrefl _ (hab ▸ hlt)
  rcases pairwise_mem_or h.keys ha hb hne with h1 | h1
  · exact h1 hfa hfb hk
  · obtain ⟨t, ht, hf, hid, hlt'⟩ := h1 hfb hfa hk.symm
    obtain ⟨e2, he2, hf2, hid2, hlt2⟩ := h.tombAfter t ht hf
    obtain rfl := h.id_unique he2 hb hf2 hfb (hid2.trans hid)
    exact absurd (Nat.lt_trans hlt2 (Nat.lt_trans hlt' hlt)) (Nat.lt_irrefl _)

theorem keyAt_entry (h : PInv p es) {e : Entry} (he : e ∈ es) (hf : e.flag = insertFlag) :
    p.keyAt e.off = some e.key := by
  unfold Part.keyAt
  rw [h.file]
  exact keyAt_fileOf es h.chain e he hf

theorem memID_some (h : PInv p es) {key : Bytes} {id : Nat} (hm : p.memID key = some id) :
    ∃ e ∈ es, e.flag = insertFlag ∧ e.key = key ∧ e.id = id ∧ p.bound < e.off ∧
      ∀ e' ∈ es, e'.flag = insertFlag → e'.key = key → p.bound < e'.off → e'.off ≤ e.off := by
  obtain ⟨e, hl, he, hq, hr, hv⟩ := (lastWith_lookup (h.memID_eq key)).1 id hm
  exact ⟨e, he, hq.1, hq.2, hv, of_decide_eq_true hr, fun e' he' hf' hk' hb' =>
    lastWith_max (h.offInc.filter _) hl e' (List.mem_filter.mpr ⟨he', decide_eq_true hb'⟩)
      (decide_eq_true ⟨hf', hk'⟩)⟩

theorem memID_none (h : PInv p es) {key : Bytes} (hm : p.memID key = none) :
    ∀ e ∈ es, e.flag = insertFlag → e.key = key → e.off ≤ p.bound := fun e he hf hk =>
  Nat.le_of_not_lt (of_decide_eq_false ((lastWith_lookup (h.memID_eq key)).2 hm e he ⟨hf, hk⟩))

/-- the on-disk part of `FindIDBySeriesKey` -/
def Part.diskID (p : Part) (key : Bytes) : Nat :=
  match p.idxFile with
  | none => 0
  | some d =>
    match d.keyID.find? (fun (off, _) => p.keyAt off == some key) with
    | some (_, id) => if p.isDeleted id then 0 else id
    | none => 0

theorem findID_def (p : Part) (key : Bytes) :
    p.findID key = match p.memID key with
      | some id => if id ≠ 0 ∧ !p.isDeleted id then id else p.diskID key
      | none => p.diskID key := by
  unfold Part.findID Part.memID Part.diskID
  cases h : p.memKeyID.find? (·.1 = key) with
  | none => rfl
  | some x => cases x; rfl

theorem live_not_deleted (h : PInv p es) {e : Entry} (hl : Live es e) : p.isDeleted e.id = false :=
  (isDeleted_false_iff h e.id).mpr ⟨hl.2.2, e, hl.1, hl.2.1, rfl⟩

theorem keyID_find (h : PInv p es) {d : IndexFile} (hd : p.idxFile = some d) {key : Bytes} {x : Nat × Nat}
    (hx : d.keyID.find? (fun (off, _) => p.keyAt off == some key) = some x) :
    ∃ e ∈ es, e.flag = insertFlag ∧ e.key = key ∧ e.id = x.2 ∧ (e.id, e.off) ∈ d.idOff ∧ e.off ≤ p.bound := by
  have hmem := List.mem_of_find?_eq_some hx
  have hq := List.find?_some hx
  rw [(h.disk d hd).d4] at hmem
  obtain ⟨y, hy, rfl⟩ := List.mem_map.mp hmem
  obtain ⟨e, he, hfl, hid, hoff, hle⟩ := (h.disk d hd).d1 y hy
  have hko : p.keyAt y.2 = some key := by simpa using hq
  rw [← hoff, keyAt_entry h he hfl] at hko
  exact ⟨e, he, hfl, Option.some.inj hko, hid, by rw [hid, hoff]; exact hy, by rw [Part.bound, hd]; exact hle⟩

/-- the index file holds at most one series per key: an earlier one would have a tombstone before the
    later one, but tombstones of indexed series lie behind the bound -/
theorem disk_key_unique (h : PInv p es) {d : IndexFile} (hd : p.idxFile = some d) {a b : Entry}
    (ha : a ∈ es) (hb : b ∈ es) (hfa : a.flag = insertFlag) (hfb : b.flag = insertFlag)
    (hma : (a.id, a.off) ∈ d.idOff) (hmb : (b.id, b.off) ∈ d.idOff) (hk : a.key = b.key) : a = b := by
  have hbnd : ∀ x : Entry, (x.id, x.off) ∈ d.idOff → x.off ≤ d.maxOffset := fun x hx =>
    let ⟨_, _, _, _, ho, hle⟩ := (h.disk d hd).d1 _ hx
    Nat.le_trans (Nat.le_of_eq (Eq.symm ho)) hle
  apply Classical.byContradiction
  intro hne
  rcases pairwise_mem_or h.keys ha hb hne with h1 | h1
  · obtain ⟨t, ht, hf, hid, hlt⟩ := h1 hfa hfb hk
    exact absurd (Nat.lt_trans ((h.disk d hd).d3 _ hma t ht hf hid) hlt) (Nat.not_lt.mpr (hbnd b hmb))
  · obtain ⟨t, ht, hf, hid, hlt⟩ := h1 hfb hfa hk.symm
    exact absurd (Nat.lt_trans ((h.disk d hd).d3 _ hmb t ht hf hid) hlt) (Nat.not_lt.mpr (hbnd a hma))

theorem diskID_cases (h : PInv p es) (key : Bytes) :
    p.diskID key = 0 ∨ ∃ e, Live es e ∧ e.key = key ∧ e.id = p.diskID key ∧ e.off ≤ p.bound := by
  unfold Part.diskID
  cases hd : p.idxFile with
  | none => exact Or.inl rfl
  | some d =>
    simp only
    cases hf : d.keyID.find? (fun (off, _) => p.keyAt off == some key) with
    | none => exact Or.inl rfl
    | some x =>
      obtain ⟨e, he, hfl, hke, hid, _, hle⟩ := keyID_find h hd hf
      simp only
      by_cases hdel : p.isDeleted x.2 = true
      · rw [if_pos hdel]; exact Or.inl rfl
      · rw [if_neg hdel]
        have := (isDeleted_false_iff h e.id).mp (by rw [hid]; exact Bool.eq_false_iff.mpr hdel)
        exact Or.inr ⟨e, ⟨he, hfl, this.1⟩, hke, hid, hle⟩

theorem diskID_live (h : PInv p es) {e : Entry} (hl : Live es e) (hb : e.off ≤ p.bound) :
    p.diskID e.key = e.id := by
  unfold Part.diskID
  cases hd : p.idxFile with
  | none => rw [Part.bound, hd] at hb; exact absurd (Nat.le_zero.mp hb) (h.off_ne_zero hl.1)
  | some d =>
    simp only
    have hin : (e.id, e.off) ∈ d.idOff :=
      ((h.disk d hd).d2 e hl.1 hl.2.1 (by rw [Part.bound, hd] at hb; exact hb)).resolve_right hl.2.2
    cases hf : d.keyID.find? (fun (off, _) => p.keyAt off == some e.key) with
    | none =>
      have hinK : (e.off, e.id) ∈ d.keyID := by
        rw [(h.disk d hd).d4]; exact List.mem_map.mpr ⟨(e.id, e.off), hin, rfl⟩
      have := List.find?_eq_none.mp hf _ hinK
      simp [keyAt_entry h hl.1 hl.2.1] at this
    | some x =>
      obtain ⟨e', he', hfl', hk, hid', hin', _⟩ := keyID_find h hd hf
      obtain rfl := disk_key_unique h hd he' hl.1 hfl' hl.2.1 hin' hin hk
      simp only
      rw [← hid', live_not_deleted h hl]; rfl

/-- **`FindIDBySeriesKey`**: the id of the live series with that key -/
theorem findID_live (h : PInv p es) {e : Entry} (hl : Live es e) : p.findID e.key = e.id := by
  rw [findID_def]
  have hdel := live_not_deleted h hl
  have hidpos := (h.idPos e hl.1 hl.2.1).1
  cases hm : p.memID e.key with
  | none =>
    simp only
    exact diskID_live h hl (memID_none h hm e hl.1 hl.2.1 rfl)
  | some id =>
    obtain ⟨em, hem, hfm, hkm, hidm, hbm, hlast⟩ := memID_some h hm
    simp only
    by_cases hcond : id ≠ 0 ∧ (!p.isDeleted id) = true
    · rw [if_pos hcond]
      -- em is live, hence it is e
      have hdm : p.isDeleted em.id = false := by rw [hidm]; simpa using hcond.2
      have := (isDeleted_false_iff h em.id).mp hdm
      have : em = e := live_unique h ⟨hem, hfm, this.1⟩ hl hkm
      rw [← hidm, this]
    · rw [if_neg hcond]
      -- em was deleted, so it is not e; e cannot lie behind em, nor behind the bound at all
      have hne : em ≠ e := by
        intro heq; subst heq
        apply hcond
        rw [← hidm]
        exact ⟨Nat.ne_of_gt hidpos, by rw [hdel]; rfl⟩
      by_cases hbe : p.bound < e.off
      · exfalso
        have hlt : e.off < em.off :=
          Nat.lt_of_le_of_ne (hlast e hl.1 hl.2.1 rfl hbe) fun ho => hne (h.off_inj hem hl.1 ho.symm)
        obtain ⟨t, ht, hf, hid, _⟩ := key_reuse h hl.1 hem hl.2.1 hfm hkm.symm hlt
        exact hl.2.2 ⟨t, ht, hf, hid⟩
      · exact diskID_live h hl (Nat.le_of_not_lt hbe)

theorem findID_none (h : PInv p es) (key : Bytes) (hno : ∀ e, Live es e → e.key ≠ key) :
    p.findID key = 0 := by
  rw [findID_def]
  have hdisk : p.diskID key = 0 := by
    rcases diskID_cases h key with hz | ⟨e, hl, hk, _, _⟩
    · exact hz
    · exact absurd hk (hno e hl)
  cases hm : p.memID key with
  | none => exact hdisk
  | some id =>
    obtain ⟨em, hem, hfm, hkm, hidm, _, _⟩ := memID_some h hm
    simp only
    by_cases hcond : id ≠ 0 ∧ (!p.isDeleted id) = true
    · exfalso
      have hdm : p.isDeleted em.id = false := by rw [hidm]; simpa using hcond.2
      have := (isDeleted_false_iff h em.id).mp hdm
      exact hno em ⟨hem, hfm, this.1⟩ hkm
    · rw [if_neg hcond]; exact hdisk

/-- **`SeriesKey`** of a live series is its key -/
theorem seriesKey_live (h : PInv p es) {e : Entry} (hl : Live es e) : p.seriesKey e.id = some e.key := by
  unfold Part.seriesKey
  have hidpos := (h.idPos e hl.1 hl.2.1).1
  have hoff := findOffsetByID_live h hl.1 hl.2.1 hl.2.2
  rw [if_neg (Nat.ne_of_gt hidpos)]
  simp only [hoff, if_neg (h.off_ne_zero hl.1)]
  exact keyAt_entry h hl.1 hl.2.1

end Influx.SF
