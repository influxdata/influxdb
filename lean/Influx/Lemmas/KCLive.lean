/-
  Lemmas.KCLive — a file's live points (Spec.C06: written and not in a deleted range) are
  exactly the live points of its locations; the locations are well-formed blocks.
-/
import Influx.Lemmas.KCFiles

namespace Influx.KC
open Influx.Generated.KeyCursor Influx.Spec.C06

/-- what `fileOK` says -/
structure FileWF (f : FileSpec) : Prop where
  ne : ∀ b ∈ f.blocks, b ≠ []
  sorted : f.blocks.flatten.Pairwise (· < ·)
  range : ∀ ts ∈ f.blocks.flatten, minI64 ≤ ts ∧ ts ≤ maxI64

theorem fileWF_of_ok {f : FileSpec} (h : fileOK f = true) : FileWF f := by
  simp only [fileOK, Bool.and_eq_true, List.all_eq_true, decide_eq_true_eq] at h
  refine { ne := ?_, sorted := sortedInts_pairwise _ h.1.2, range := h.2 }
  intro b hb e
  have := h.1.1 b hb
  simp [e] at this

theorem FileWF.block_sorted {f : FileSpec} (w : FileWF f) {b : List Int} (hb : b ∈ f.blocks) : b.Pairwise (· < ·) :=
  (List.pairwise_flatten.1 w.sorted).1 b hb

theorem FileWF.mem_flatten {f : FileSpec} {b : List Int} (hb : b ∈ f.blocks) {ts : Int} (h : ts ∈ b) :
    ts ∈ f.blocks.flatten := List.mem_flatten.2 ⟨b, hb, h⟩

theorem entry_bounds {b : List Int} (hs : b.Pairwise (· < ·)) (hne : b ≠ []) :
    (entryOfInts b).MinTime ∈ b ∧ (entryOfInts b).MaxTime ∈ b ∧
    ∀ ts ∈ b, (entryOfInts b).MinTime ≤ ts ∧ ts ≤ (entryOfInts b).MaxTime := by
  obtain ⟨a, z, ha, hz⟩ := ends_of_ne_nil hne
  simp only [entryOfInts, ha, hz, Option.getD_some]
  refine ⟨List.mem_of_head? ha, List.mem_of_getLast? hz, ?_⟩
  intro ts hts
  exact ⟨head_le_of_sorted hs ha ts hts, le_last_of_sorted hs hz ts hts⟩

/-- the entries of file `fi` as written -/
def entriesOf (fi : Nat) (f : FileSpec) : List (IndexEntry × Vals Nat) :=
  f.blocks.map fun b => (entryOfInts b, tag fi b)

theorem fileState_eq {f : FileSpec} (w : FileWF f) (fi : Nat) :
    fileState fi f = some (f.deletes.foldl applyDelete { entries := entriesOf fi f, tombs := [] }) := by
  unfold fileState mkFile
  have : (f.blocks.map fun b => b.map fun ts => (ts, fi)) = f.blocks.map (tag fi) := rfl
  rw [this, mkEntries_tag fi f.blocks w.ne]
  rfl

theorem key_bounds {f : FileSpec} (w : FileWF f) {fi : Nat} {first last : IndexEntry × Vals Nat}
    (hf : (entriesOf fi f).head? = some first) (hl : (entriesOf fi f).getLast? = some last) :
    (∀ ts ∈ f.blocks.flatten, first.1.MinTime ≤ ts ∧ ts ≤ last.1.MaxTime) ∧
    minI64 ≤ first.1.MinTime ∧ first.1.MinTime ≤ last.1.MaxTime ∧ last.1.MaxTime ≤ maxI64 := by
  unfold entriesOf at hf hl
  rw [List.head?_map] at hf
  rw [List.getLast?_map] at hl
  cases hb0 : f.blocks.head? with
  | none => rw [hb0] at hf; cases hf
  | some b0 =>
    cases hbl : f.blocks.getLast? with
    | none => rw [hbl] at hl; cases hl
    | some bl =>
      rw [hb0] at hf; rw [hbl] at hl
      simp at hf hl
      subst hf hl
      simp only
      have hb0m : b0 ∈ f.blocks := List.mem_of_head? hb0
      have hblm : bl ∈ f.blocks := List.mem_of_getLast? hbl
      obtain ⟨m0, _, _⟩ := entry_bounds (w.block_sorted hb0m) (w.ne b0 hb0m)
      obtain ⟨_, ml, _⟩ := entry_bounds (w.block_sorted hblm) (w.ne bl hblm)
      have hh : f.blocks.flatten.head? = some (entryOfInts b0).MinTime := by
        obtain ⟨rest, hr⟩ := List.head?_eq_some_iff.1 hb0
        rw [hr, List.flatten_cons]
        cases b0 with
        | nil => exact absurd rfl (w.ne [] hb0m)
        | cons a as => simp [entryOfInts]
      have hlst : f.blocks.flatten.getLast? = some (entryOfInts bl).MaxTime := by
        obtain ⟨ys, hr⟩ := List.getLast?_eq_some_iff.1 hbl
        rw [hr, List.flatten_append, List.getLast?_append]
        simp only [List.flatten_cons, List.flatten_nil, List.append_nil]
        cases hz : bl.getLast? with
        | none => exact absurd (List.getLast?_eq_none_iff.1 hz) (w.ne bl hblm)
        | some z => simp [entryOfInts, hz]
      have hall : ∀ ts ∈ f.blocks.flatten, (entryOfInts b0).MinTime ≤ ts ∧ ts ≤ (entryOfInts bl).MaxTime :=
        fun ts hts => ⟨head_le_of_sorted w.sorted hh ts hts, le_last_of_sorted w.sorted hlst ts hts⟩
      refine ⟨hall, ?_⟩
      have h1 := w.range _ (FileWF.mem_flatten hb0m m0)
      have h2 := w.range _ (FileWF.mem_flatten hblm ml)
      have h3 := hall _ (FileWF.mem_flatten hb0m m0)
      omega

theorem deleted_iff {f : FileSpec} {ts : Int} : f.deleted ts = true ↔ covered f.deletes ts := by
  unfold FileSpec.deleted covered
  simp [List.any_eq_true]

theorem holds_iff {f : FileSpec} {ts : Int} : f.holds ts = true ↔ ∃ b ∈ f.blocks, ts ∈ b := by
  unfold FileSpec.holds
  simp [List.any_eq_true]

/-- the state of file `fi` after its deletes: the invariant `DelInv` of Lemmas.KCDelete, read for
    the timestamps of the file -/
theorem fileState_inv {f : FileSpec} (w : FileWF f) (fi : Nat) {st : FileState Nat}
    (hst : fileState fi f = some st) :
    (st.entries = entriesOf fi f ∨ st.entries = []) ∧ (∀ tr ∈ st.tombs, tr ∈ f.deletes) ∧
    ∀ ts ∈ f.blocks.flatten,
      (st.entries = entriesOf fi f → covered f.deletes ts → covered st.tombs ts) ∧
      (st.entries = [] → covered f.deletes ts) := by
  rw [fileState_eq w fi] at hst
  cases hst
  by_cases he : entriesOf fi f = []
  · rw [foldl_applyDelete_nil _ _ he]
    refine ⟨Or.inl rfl, (fun _ h => nomatch h), fun ts hts => ?_⟩
    rw [List.map_eq_nil_iff.1 he] at hts
    cases hts
  · obtain ⟨first, last, hE, hL⟩ := ends_of_ne_nil he
    obtain ⟨hbounds, h64⟩ := key_bounds w hE hL
    have inv0 : DelInv (entriesOf fi f) first.1.MinTime last.1.MaxTime []
        ({ entries := entriesOf fi f, tombs := [] } : FileState Nat) :=
      .kept he rfl (fun _ h => nomatch h) fun _ _ _ ⟨_, hd, _⟩ => nomatch hd
    have inv := foldl_applyDelete_inv hE hL h64 f.deletes [] _ inv0
    rw [List.nil_append] at inv
    exact ⟨inv.ent, inv.sub, fun ts hts =>
      ⟨fun e => inv.alive e ts (hbounds ts hts).1 (hbounds ts hts).2,
       fun e => inv.dead e ts (hbounds ts hts).1 (hbounds ts hts).2⟩⟩

theorem entry_of_state {f : FileSpec} (w : FileWF f) (fi : Nat) {st : FileState Nat}
    (hst : fileState fi f = some st) {bi : Nat} {e : IndexEntry} {vals : Vals Nat}
    (h : st.entries[bi]? = some (e, vals)) :
    st.entries = entriesOf fi f ∧ ∃ b, f.blocks[bi]? = some b ∧ e = entryOfInts b ∧ vals = tag fi b := by
  rcases (fileState_inv w fi hst).1 with he | he
  · refine ⟨he, ?_⟩
    rw [he] at h
    unfold entriesOf at h
    rw [List.getElem?_map] at h
    cases hb : f.blocks[bi]? with
    | none => rw [hb] at h; cases h
    | some b =>
      rw [hb] at h
      simp at h
      exact ⟨b, rfl, h.1.symm, h.2.symm⟩
  · rw [he] at h; simp at h

theorem location_wf {f : FileSpec} (w : FileWF f) (fi : Nat) {st : FileState Nat}
    (hst : fileState fi f = some st) {bi : Nat} {e : IndexEntry} {vals : Vals Nat}
    (h : st.entries[bi]? = some (e, vals)) :
    BlockWF ({ file := fi, blk := bi, entry := e, vals := vals, tombs := st.tombs } : Block Nat) ∧
    ∀ p ∈ vals, p.2 = fi := by
  obtain ⟨_, b, hb, rfl, rfl⟩ := entry_of_state w fi hst h
  have hbm : b ∈ f.blocks := List.mem_of_getElem? hb
  obtain ⟨m0, ml, hall⟩ := entry_bounds (w.block_sorted hbm) (w.ne b hbm)
  refine ⟨{ sorted := sortedV_tag (w.block_sorted hbm), inEntry := ?_, lo := ?_, hi := ?_ }, ?_⟩
  · intro p hp
    exact hall p.1 (mem_tag.1 hp).1
  · exact (w.range _ (FileWF.mem_flatten hbm m0)).1
  · exact (w.range _ (FileWF.mem_flatten hbm ml)).2
  · intro p hp; exact (mem_tag.1 hp).2

theorem live_to_location {f : FileSpec} (w : FileWF f) (fi : Nat) {st : FileState Nat}
    (hst : fileState fi f = some st) (t : Int) (asc : Bool) {ts : Int}
    (hlive : f.live ts = true) (hdir : if asc then t ≤ ts else ts ≤ t) :
    ∃ bi e vals, st.entries[bi]? = some (e, vals) ∧ keepEntry st.tombs t asc e = true ∧
      (ts, fi) ∈ live ({ file := fi, blk := bi, entry := e, vals := vals, tombs := st.tombs } : Block Nat) := by
  simp only [FileSpec.live, Bool.and_eq_true, Bool.not_eq_true'] at hlive
  obtain ⟨hh, hd⟩ := hlive
  obtain ⟨b, hbm, htsb⟩ := holds_iff.1 hh
  have hnd : ¬ covered f.deletes ts := by
    intro h; rw [deleted_iff.2 h] at hd; cases hd
  have hflat : ts ∈ f.blocks.flatten := FileWF.mem_flatten hbm htsb
  obtain ⟨hent', hsub, hdel⟩ := fileState_inv w fi hst
  have hent : st.entries = entriesOf fi f := hent'.resolve_right fun he => hnd ((hdel ts hflat).2 he)
  obtain ⟨bi, hbi⟩ := List.mem_iff_getElem?.1 hbm
  have hget : st.entries[bi]? = some (entryOfInts b, tag fi b) := by
    rw [hent]; unfold entriesOf; rw [List.getElem?_map, hbi]; rfl
  obtain ⟨_, _, hall⟩ := entry_bounds (w.block_sorted hbm) (w.ne b hbm)
  obtain ⟨e1, e2⟩ := hall ts htsb
  have hncov : ¬ covered st.tombs ts := by
    rintro ⟨tr, htr, h1, h2⟩
    exact hnd ⟨tr, hsub tr htr, h1, h2⟩
  refine ⟨bi, entryOfInts b, tag fi b, hget, ?_, ?_⟩
  · unfold keepEntry
    simp only [Bool.and_eq_true, Bool.not_eq_true', List.any_eq_false]
    constructor
    · intro tr htr
      rintro ⟨h1, h2⟩
      have h1' := of_decide_eq_true h1
      have h2' := of_decide_eq_true h2
      exact hncov ⟨tr, htr, by omega, by omega⟩
    · cases asc
      · simp only [Bool.false_eq_true, if_false] at hdir ⊢
        simp; omega
      · simp only [if_true] at hdir ⊢
        simp; omega
  · rw [mem_live]
    exact ⟨mem_tag.2 ⟨htsb, rfl⟩, hncov⟩

theorem location_to_live {f : FileSpec} (w : FileWF f) (fi : Nat) {st : FileState Nat}
    (hst : fileState fi f = some st) {bi : Nat} {e : IndexEntry} {vals : Vals Nat}
    (h : st.entries[bi]? = some (e, vals)) {p : Int × Nat}
    (hp : p ∈ live ({ file := fi, blk := bi, entry := e, vals := vals, tombs := st.tombs } : Block Nat)) :
    f.live p.1 = true ∧ p.2 = fi := by
  obtain ⟨hent, b, hb, rfl, rfl⟩ := entry_of_state w fi hst h
  have hbm : b ∈ f.blocks := List.mem_of_getElem? hb
  obtain ⟨hpv, hncov⟩ := mem_live.1 hp
  simp only at hpv hncov
  obtain ⟨hpb, hp2⟩ := mem_tag.1 hpv
  refine ⟨?_, hp2⟩
  simp only [FileSpec.live, Bool.and_eq_true, Bool.not_eq_true']
  refine ⟨holds_iff.2 ⟨b, hbm, hpb⟩, ?_⟩
  cases hd : f.deleted p.1 with
  | false => rfl
  | true =>
    exfalso
    have hreq := deleted_iff.1 hd
    exact hncov (((fileState_inv w fi hst).2.2 p.1 (FileWF.mem_flatten hbm hpb)).1 hent hreq)

end Influx.KC
