/-
  Lemmas.TenantKV — association lists as finite maps: `get` after `put`/`del`,
  and the "no duplicate keys" well-formedness that makes list membership and `get` agree.
-/
import Influx.Model.Tenant

namespace Influx.Tenant.KV
variable {κ ν : Type} [DecidableEq κ]

@[simp] theorem get_nil (k : κ) : get ([] : List (κ × ν)) k = none := rfl

theorem get_cons (k' : κ) (v : ν) (r : List (κ × ν)) (k : κ) :
    get ((k', v) :: r) k = if k' = k then some v else get r k := rfl

theorem del_cons (k' : κ) (v : ν) (r : List (κ × ν)) (k : κ) :
    del ((k', v) :: r) k = if k' = k then del r k else (k', v) :: del r k := by
  by_cases h : k' = k <;> simp [del, h]

@[simp] theorem del_nil (k : κ) : del ([] : List (κ × ν)) k = [] := rfl

theorem get_del (m : List (κ × ν)) (k k' : κ) : get (del m k') k = if k' = k then none else get m k := by
  induction m with
  | nil => exact (ite_self _).symm
  | cons p r ih =>
    obtain ⟨k₀, v⟩ := p
    rw [del_cons, get_cons]
    by_cases h : k' = k
    · rw [if_pos h]
      by_cases h0 : k₀ = k'
      · rw [if_pos h0, ih, if_pos h]
      · rw [if_neg h0, get_cons, if_neg fun c => h0 (c.trans h.symm), ih, if_pos h]
    · rw [if_neg h]
      by_cases h0 : k₀ = k'
      · rw [if_pos h0, ih, if_neg h, if_neg fun c => h (h0 ▸ c)]
      · rw [if_neg h0, get_cons, ih, if_neg h]

@[simp] theorem get_del_self (m : List (κ × ν)) (k : κ) : get (del m k) k = none := by
  rw [get_del, if_pos rfl]

theorem get_del_ne (m : List (κ × ν)) {k k' : κ} (h : k' ≠ k) : get (del m k') k = get m k := by
  rw [get_del, if_neg h]

theorem get_put (m : List (κ × ν)) (k k' : κ) (v : ν) :
    get (put m k' v) k = if k' = k then some v else get m k := by
  rw [put, get_cons, get_del]
  by_cases h : k' = k
  · rw [if_pos h, if_pos h]
  · rw [if_neg h, if_neg h, if_neg h]

@[simp] theorem get_put_self (m : List (κ × ν)) (k : κ) (v : ν) : get (put m k v) k = some v := by
  rw [get_put, if_pos rfl]

theorem get_put_ne (m : List (κ × ν)) {k k' : κ} (v : ν) (h : k' ≠ k) : get (put m k' v) k = get m k := by
  rw [get_put, if_neg h]

theorem get_of_get_del {m : List (κ × ν)} {k k' : κ} {v : ν} (h : get (del m k') k = some v) : get m k = some v := by
  rw [get_del] at h
  by_cases e : k' = k
  · rw [if_pos e] at h; cases h
  · rwa [if_neg e] at h

theorem put_del_self (m : List (κ × ν)) (k : κ) (v : ν) : put (del m k) k v = put m k v := by
  simp only [put, del, List.filter_filter, Bool.and_self]

theorem has_eq (m : List (κ × ν)) (k : κ) : has m k = (get m k).isSome := rfl

theorem get_of_not_has {m : List (κ × ν)} {k : κ} (h : ¬ has m k = true) : get m k = none := by
  simpa only [has_eq, Option.isSome_iff_ne_none, ne_eq, Decidable.not_not] using h

theorem has_put_of_has {m : List (κ × ν)} {k' : κ} (h : has m k' = true) (k : κ) (v : ν) :
    has (put m k v) k' = true := by
  rw [has_eq, get_put]
  by_cases e : k = k'
  · rw [if_pos e]; rfl
  · rw [if_neg e]; exact h

theorem has_del_ne (m : List (κ × ν)) {k k' : κ} (h : k ≠ k') : has (del m k) k' = has m k' := by
  rw [has_eq, get_del_ne m h, has_eq]

def WF (m : List (κ × ν)) : Prop := (m.map Prod.fst).Nodup

omit [DecidableEq κ] in
theorem wf_nil : WF ([] : List (κ × ν)) := by simp [WF]

theorem mem_of_get {m : List (κ × ν)} {k : κ} {v : ν} (h : get m k = some v) : (k, v) ∈ m := by
  induction m with
  | nil => simp at h
  | cons p r ih =>
    obtain ⟨k', v'⟩ := p
    rw [get_cons] at h
    by_cases e : k' = k
    · simp [e] at h; simp [e, h]
    · simp [e] at h; exact List.mem_cons_of_mem _ (ih h)

omit [DecidableEq κ] in
theorem key_mem_of_mem {m : List (κ × ν)} {k : κ} {v : ν} (h : (k, v) ∈ m) : k ∈ m.map Prod.fst :=
  List.mem_map.mpr ⟨(k, v), h, rfl⟩

theorem get_of_mem {m : List (κ × ν)} (wf : WF m) {k : κ} {v : ν} (h : (k, v) ∈ m) : get m k = some v := by
  induction m with
  | nil => simp at h
  | cons p r ih =>
    obtain ⟨k', v'⟩ := p
    simp only [WF, List.map_cons, List.nodup_cons] at wf
    rw [get_cons]
    rcases List.mem_cons.mp h with e | e
    · cases e; simp
    · have hk : k ∈ r.map Prod.fst := key_mem_of_mem e
      have : k' ≠ k := fun c => wf.1 (c ▸ hk)
      simp [this]; exact ih wf.2 e

theorem mem_iff_get {m : List (κ × ν)} (wf : WF m) (k : κ) (v : ν) : (k, v) ∈ m ↔ get m k = some v :=
  ⟨get_of_mem wf, mem_of_get⟩

theorem wf_del {m : List (κ × ν)} (wf : WF m) (k : κ) : WF (del m k) :=
  List.Nodup.sublist (List.filter_sublist.map _) wf

theorem key_not_mem_del (m : List (κ × ν)) (k : κ) : k ∉ (del m k).map Prod.fst := by
  intro h
  obtain ⟨q, hq, e⟩ := List.mem_map.mp h
  have := (List.mem_filter.mp hq).2
  simp [e] at this

theorem wf_put {m : List (κ × ν)} (wf : WF m) (k : κ) (v : ν) : WF (put m k v) := by
  unfold put
  show ((k, v) :: del m k |>.map Prod.fst).Nodup
  simp only [List.map_cons, List.nodup_cons]
  exact ⟨key_not_mem_del m k, wf_del wf k⟩

theorem get_none_of_not_mem {m : List (κ × ν)} {k : κ} (h : k ∉ m.map Prod.fst) : get m k = none := by
  cases e : get m k with
  | none => rfl
  | some v => exact absurd (key_mem_of_mem (mem_of_get e)) h

end Influx.Tenant.KV
