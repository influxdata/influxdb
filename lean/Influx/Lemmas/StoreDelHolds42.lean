/-
  Lemmas.StoreDelHolds42 — the statement checker of C42 accepts the model's MeasurementNames
  answers on cases that only write (no deletes, so nothing lingers in the index) and query with
  conditions in `condOK`.
-/
import Influx.Lemmas.StoreDelC42
import Influx.Lemmas.StoreDelHolds

namespace Influx.Model.StoreDel
open Influx.Model.DelPred (Bytes Pred)
open Influx.Spec.C42 (Hist Entry holdsOf optHolds visible expected returned subset judgeQuery judgeCase
  sortedAns shapeOK strictAsc)

/-- the history's live entries are the model's series, shard by shard -/
def Rel42 (st : State) (h : Hist) : Prop :=
  ∀ (i : Nat) (name : Bytes) (tags : Tags),
    (∃ e ∈ h.live, e.shard = i ∧ e.name = name ∧ e.tags = tags) ↔
    (∃ sh ∈ st, sh.id = i ∧ ∃ s ∈ sh.series, s.name = name ∧ s.tags = tags)

theorem Hist.write_live (h : Hist) (sh : Nat) (name : Bytes) (tags : Tags) (ts : List Int) :
    (h.write sh name tags ts).live =
      upsert (fun e => e.shard = sh ∧ e.name = name ∧ e.tags = tags)
        (fun e => { e with times := e.times ++ ts }) ⟨sh, name, tags, ts⟩ h.live := by
  unfold Influx.Spec.C42.Hist.write upsert; split <;> rfl

theorem strictAsc_bool (l : List Bytes) (h : StrictAsc l) : strictAsc l = true := by
  induction l with
  | nil => rfl
  | cons a rest ih =>
    cases rest with
    | nil => rfl
    | cons b rest' =>
      simp only [strictAsc, Bool.and_eq_true, beq_iff_eq]
      exact ⟨h.1, ih h.2⟩

/-- tag keys strictly ascending (`models.Tags`) -/
def TagsAsc (tags : Tags) : Prop := tags.Pairwise fun a b => cmpBytes a.1 b.1 = .lt

theorem tagsAsc_of_sorted (tags : Tags) (h : tagsSorted tags = true) : TagsAsc tags := by
  refine List.pairwise_map.1 (strictAsc_iff_pairwise.1 ?_)
  induction tags with
  | nil => trivial
  | cons a rest ih =>
    cases rest with
    | nil => trivial
    | cons b rest' =>
      simp only [tagsSorted, Bool.and_eq_true, beq_iff_eq] at h
      exact ⟨h.1, ih h.2⟩

theorem tagGet_iff_mem (tags : Tags) (hs : TagsAsc tags) (k v : Bytes) :
    (k, v) ∈ tags ↔ tagGet tags k = some v := by
  induction tags with
  | nil => simp [tagGet]
  | cons t ts ih =>
    obtain ⟨tk, tv⟩ := t
    have hts : TagsAsc ts := (List.pairwise_cons.1 hs).2
    have hlt : ∀ x ∈ ts, cmpBytes tk x.1 = .lt := (List.pairwise_cons.1 hs).1
    simp only [tagGet, List.find?_cons, List.mem_cons, Prod.mk.injEq]
    by_cases hk : tk = k
    · subst hk
      simp only [decide_true, Option.map_some, Option.some.injEq]
      constructor
      · rintro (⟨_, rfl⟩ | hmem)
        · rfl
        · have := hlt (tk, v) hmem
          rw [cmpBytes_refl] at this; cases this
      · intro h; exact Or.inl ⟨trivial, h.symm⟩
    · have hk' : decide (tk = k) = false := by simp [hk]
      simp only [hk']
      have := ih hts
      simp only [tagGet] at this
      rw [← this]
      constructor
      · rintro (⟨rfl, _⟩ | hmem)
        · exact absurd rfl hk
        · exact hmem
      · intro h; exact Or.inr h

/-- what the theorem needs of a state: exact index, tag keys ascending (so one value per key) -/
structure Inv42 (st : State) : Prop where
  idx : IndexExact st
  tags : ∀ sh ∈ st, ∀ s ∈ sh.series, TagsAsc s.tags

theorem tagsFn_of_inv {st : State} (h : Inv42 st) : TagsFn st :=
  fun sh hsh s hs k v => tagGet_iff_mem s.tags (h.tags sh hsh s hs) k v

theorem Shard.exists_write_key (sh : Shard) (name : Bytes) (tags : Tags) (pts : List (Int × Int)) (Q : Bytes → Tags → Prop) :
    (∃ s ∈ (sh.write name tags pts).series, Q s.name s.tags) ↔ ((∃ s ∈ sh.series, Q s.name s.tags) ∨ Q name tags) := by
  have hkeys : ∀ k, k ∈ (sh.write name tags pts).series.map (fun s : Series => (s.name, s.tags)) ↔
      k ∈ sh.series.map (fun s : Series => (s.name, s.tags)) ∨ k = (name, tags) := by
    rw [Shard.write_series]
    exact mem_map_upsert (fun _ => by rw [Prod.mk.injEq]) (fun _ => rfl) rfl
  have hQ : ∀ {l : List Series}, (∃ s ∈ l, Q s.name s.tags) ↔ ∃ k ∈ l.map (fun s : Series => (s.name, s.tags)), Q k.1 k.2 := by
    intro l
    constructor
    · rintro ⟨s, hs, hq⟩
      exact ⟨_, List.mem_map_of_mem hs, hq⟩
    · rintro ⟨_, hk, hq⟩
      obtain ⟨s, hs, rfl⟩ := List.mem_map.1 hk
      exact ⟨s, hs, hq⟩
  rw [hQ, hQ]
  constructor
  · rintro ⟨k, hk, hq⟩
    rcases (hkeys k).1 hk with hold | rfl
    · exact Or.inl ⟨k, hold, hq⟩
    · exact Or.inr hq
  · rintro (⟨k, hk, hq⟩ | hq)
    · exact ⟨k, (hkeys k).2 (Or.inl hk), hq⟩
    · exact ⟨(name, tags), (hkeys _).2 (Or.inr rfl), hq⟩

theorem Shard.mem_write_tagvals (sh : Shard) (name : Bytes) (tags : Tags) (pts : List (Int × Int)) (m k v : Bytes) :
    (m, k, v) ∈ (sh.write name tags pts).tagvals ↔
      ((m, k, v) ∈ sh.tagvals ∨ (¬ (∃ s ∈ sh.series, s.name = name ∧ s.tags = tags) ∧ m = name ∧ (k, v) ∈ tags)) := by
  have hany : (sh.series.any fun s => decide (s.name = name ∧ s.tags = tags)) = true ↔
      ∃ s ∈ sh.series, s.name = name ∧ s.tags = tags := by
    simp only [List.any_eq_true, decide_eq_true_eq]
  unfold Shard.write
  split
  · next h => exact ⟨Or.inl, fun h' => h'.elim (fun x => x) fun h' => absurd (hany.1 h) h'.1⟩
  · next h =>
    simp only [List.mem_append, List.mem_filter, List.mem_map, Bool.not_eq_true', List.contains_eq_mem,
      decide_eq_false_iff_not, Prod.mk.injEq]
    constructor
    · rintro (h' | ⟨⟨t, ht, rfl, rfl, rfl⟩, _⟩)
      · exact Or.inl h'
      · exact Or.inr ⟨mt hany.2 h, rfl, ht⟩
    · rintro (h' | ⟨_, rfl, hkv⟩)
      · exact Or.inl h'
      · exact (Classical.em _).imp_right fun hin => ⟨⟨(k, v), hkv, rfl, rfl, rfl⟩, hin⟩

theorem inv42_write (st : State) (h : Inv42 st) (sh : Nat) (name : Bytes) (tags : Tags) (pts : List (Int × Int))
    (hta : TagsAsc tags) : Inv42 (write st sh name tags pts) := by
  constructor
  · intro sh' hsh' m k v
    obtain ⟨sh0, hsh0, rfl⟩ := List.mem_map.1 hsh'
    split
    · -- both sides gain the pairs of `tags` under `name`; the index only when the series is new
      rw [Shard.mem_write_tagvals, h.idx sh0 hsh0 m k v,
        Shard.exists_write_key sh0 name tags pts fun n t => n = m ∧ (k, v) ∈ t]
      constructor
      · exact Or.imp_right fun hnew => ⟨hnew.2.1.symm, hnew.2.2⟩
      · rintro (hold | ⟨rfl, hkv⟩)
        · exact Or.inl hold
        · by_cases hex : ∃ s ∈ sh0.series, s.name = name ∧ s.tags = tags
          · obtain ⟨s, hs, hn, ht⟩ := hex
            exact Or.inl ⟨s, hs, hn, ht ▸ hkv⟩
          · exact Or.inr ⟨hex, rfl, hkv⟩
    · exact h.idx sh0 hsh0 m k v
  · intro sh' hsh'
    obtain ⟨sh0, hsh0, rfl⟩ := List.mem_map.1 hsh'
    split
    · rw [Shard.write_series]
      exact forall_mem_upsert (h.tags sh0 hsh0) (fun s hs _ => h.tags sh0 hsh0 s hs) hta
    · exact h.tags sh0 hsh0

theorem rel42_write (st : State) (h : Hist) (hr : Rel42 st h)
    (sh : Nat) (name : Bytes) (tags : Tags) (pts : List (Int × Int)) (hex : st.any (·.id = sh) = true) :
    Rel42 (write st sh name tags pts) (h.write sh name tags (pts.map (·.1))) := by
  intro i n2 t2
  -- either side gains exactly the written series
  have hH : (∃ e ∈ (h.write sh name tags (pts.map (·.1))).live, e.shard = i ∧ e.name = n2 ∧ e.tags = t2) ↔
      ((∃ e ∈ h.live, e.shard = i ∧ e.name = n2 ∧ e.tags = t2) ∨ (i = sh ∧ n2 = name ∧ t2 = tags)) := by
    have : (i, n2, t2) ∈ (h.write sh name tags (pts.map (·.1))).live.map (fun e : Entry => (e.shard, e.name, e.tags)) ↔
        (i, n2, t2) ∈ h.live.map (fun e : Entry => (e.shard, e.name, e.tags)) ∨ (i, n2, t2) = (sh, name, tags) := by
      rw [Hist.write_live]
      refine mem_map_upsert ?_ ?_ ?_ _
      · intro _; simp only [Prod.mk.injEq]
      · intro _; rfl
      · rfl
    simpa only [List.mem_map, Prod.mk.injEq] using this
  have hM : (∃ x ∈ write st sh name tags pts, x.id = i ∧ ∃ s ∈ x.series, s.name = n2 ∧ s.tags = t2) ↔
      ((∃ x ∈ st, x.id = i ∧ ∃ s ∈ x.series, s.name = n2 ∧ s.tags = t2) ∨ (i = sh ∧ n2 = name ∧ t2 = tags)) := by
    simp only [write, List.mem_map]
    constructor
    · rintro ⟨x, ⟨sh0, hsh0, rfl⟩, hid, hs⟩
      split at hid
      · next hsid =>
        rw [if_pos hsid] at hs
        rw [Shard.write_id] at hid
        exact ((Shard.exists_write_key sh0 name tags pts fun n t => n = n2 ∧ t = t2).1 hs).imp
          (fun hold => ⟨sh0, hsh0, hid, hold⟩) fun hnew => ⟨hid.symm.trans hsid, hnew.1.symm, hnew.2.symm⟩
      · next hsid =>
        rw [if_neg hsid] at hs
        exact Or.inl ⟨sh0, hsh0, hid, hs⟩
    · rintro (⟨sh0, hsh0, hid, hs⟩ | ⟨rfl, rfl, rfl⟩)
      · refine ⟨_, ⟨sh0, hsh0, rfl⟩, ?_, ?_⟩ <;> split
        · exact (Shard.write_id ..).trans hid
        · exact hid
        · exact (Shard.exists_write_key sh0 name tags pts fun n t => n = n2 ∧ t = t2).2 (Or.inl hs)
        · exact hs
      · obtain ⟨sh0, hsh0, hsid⟩ : ∃ sh0 ∈ st, sh0.id = i := by
          simpa [List.any_eq_true] using hex
        refine ⟨_, ⟨sh0, hsh0, rfl⟩, ?_, ?_⟩ <;> rw [if_pos hsid]
        · exact (Shard.write_id ..).trans hsid
        · exact (Shard.exists_write_key sh0 n2 t2 pts fun n t => n = n2 ∧ t = t2).2 (Or.inr ⟨rfl, rfl⟩)
  rw [hH, hM, hr i n2 t2]

theorem judge_mn42 (st : State) (h : Hist) (hr : Rel42 st h) (hinv : Inv42 st) (a : Auth) (c : Option Cond)
    (hc : ∀ c', c = some c' → condOK c' = true) :
    judgeQuery h.live (.mn a c) (.names (measurementNames a st c)) = .ok := by
  have hsorted : sortedAns (.names (measurementNames a st c)) = true :=
    strictAsc_bool _ (strictAsc_measurementNames a st c)
  have hmem : ∀ m, m ∈ measurementNames a st c ↔
      ∃ sh ∈ st, ∃ s ∈ sh.series, s.name = m ∧ a.allows s.name s.tags = true ∧ optHolds s.name s.tags c = true := by
    intro m
    cases c with
    | none =>
      rw [mem_measurementNames_none]
      simp [LiveAuth, optHolds]
    | some c' =>
      have := mem_namesByExpr a st hinv.idx (tagsFn_of_inv hinv) c' (hc c' rfl) m
      simp only [measurementNames, optHolds]
      rw [this]; rfl
  have hexp : ∀ m, (m, ([] : Bytes), ([] : Bytes)) ∈ expected h.live (.mn a c) ↔
      ∃ e ∈ h.live, e.name = m ∧ a.allows e.name e.tags = true ∧ optHolds e.name e.tags c = true := by
    intro m
    simp only [expected, visible, List.mem_map, List.mem_filter, Bool.and_eq_true, Bool.true_and, Prod.mk.injEq,
      and_true]
    constructor
    · rintro ⟨e, ⟨⟨he, hal⟩, hh⟩, hn⟩; exact ⟨e, he, hn, hal, hh⟩
    · rintro ⟨e, he, hn, hal, hh⟩; exact ⟨e, ⟨⟨he, hal⟩, hh⟩, hn⟩
  have hsub1 : subset (returned (.names (measurementNames a st c))) (expected h.live (.mn a c)) = true := by
    simp only [subset, returned, List.all_eq_true, List.mem_map, List.contains_eq_mem, decide_eq_true_eq]
    rintro x ⟨m, hm, rfl⟩
    obtain ⟨sh, hsh, s, hs, hn, hal, hh⟩ := (hmem m).1 hm
    obtain ⟨e, he, _, hen, het⟩ := (hr sh.id s.name s.tags).2 ⟨sh, hsh, rfl, s, hs, rfl, rfl⟩
    exact (hexp m).2 ⟨e, he, hen.trans hn, by rw [hen, het]; exact hal, by rw [hen, het]; exact hh⟩
  have hsub2 : subset (expected h.live (.mn a c)) (returned (.names (measurementNames a st c))) = true := by
    simp only [subset, List.all_eq_true, List.contains_eq_mem, decide_eq_true_eq]
    intro x hx
    have hx' := hx
    simp only [expected, List.mem_map] at hx'
    obtain ⟨e, _, rfl⟩ := hx'
    obtain ⟨e', he', hn', hal, hh⟩ := (hexp e.name).1 hx
    obtain ⟨sh, hsh, _, s, hs, hsn, hst⟩ := (hr e'.shard e'.name e'.tags).1 ⟨e', he', rfl, rfl, rfl⟩
    simp only [returned, List.mem_map]
    refine ⟨e.name, (hmem e.name).2 ⟨sh, hsh, s, hs, hsn.trans hn', ?_, ?_⟩, rfl⟩
    · rw [hsn, hst]; exact hal
    · rw [hsn, hst]; exact hh
  unfold judgeQuery
  have hshape : shapeOK (.mn a c) (.names (measurementNames a st c)) = true := rfl
  simp only [hshape, hsorted, hsub1, hsub2, Bool.not_true, Bool.false_eq_true, if_false, Bool.and_self, if_true]

/-- the domain of the theorem: writes with sorted tags, MeasurementNames queries with no condition
    or one in `condOK`; no deletes, snapshots, TagKeys/TagValues queries -/
def opOK42 : Op → Bool
  | .write _ _ tags _ => tagsSorted tags
  | .mn _ c => (match c with | none => true | some c' => condOK c')
  | .open_ _ | .read _ | .ls _ => true
  | _ => false

def ansOf42 (st : Option State) (op : Op) : Influx.Spec.C42.Ans :=
  match st, op with
  | some s, .mn a c => .names (measurementNames a s c)
  | some s, .write sh _ _ _ => if s.any (·.id = sh) then .other "ok" else .other "bad-op"
  | none, .open_ _ => .other "ok"
  | _, _ => .other "-"

def runT42 : Option State → List Op → List (Op × Influx.Spec.C42.Ans)
  | _, [] => []
  | st, op :: ops => (op, ansOf42 st op) :: runT42 (stepOp st op).1 ops

theorem judgeCase_runT42 (ops : List Op) (hok : ops.all opOK42 = true) (st : State) (h : Hist)
    (hr : Rel42 st h) (hinv : Inv42 st) :
    (judgeCase h (runT42 (some st) ops)).all (· = .ok) = true := by
  induction ops generalizing st h with
  | nil => rfl
  | cons op ops ih =>
    simp only [List.all_cons, Bool.and_eq_true] at hok
    obtain ⟨hop, hrest⟩ := hok
    cases op with
    | open_ k => simp only [runT42, stepOp, judgeCase]; exact ih hrest st h hr hinv
    | write sh name tags pts =>
      simp only [opOK42] at hop
      by_cases hex : st.any (·.id = sh) = true
      · simp only [runT42, ansOf42, stepOp, hex, if_true, judgeCase]
        exact ih hrest _ _ (rel42_write st h hr sh name tags pts hex)
          (inv42_write st hinv sh name tags pts (tagsAsc_of_sorted tags hop))
      · simp only [runT42, ansOf42, stepOp, hex, Bool.false_eq_true, if_false, judgeCase]
        exact ih hrest st h hr hinv
    | snap sh => cases hop
    | del lo hi pred hm => cases hop
    | read sh =>
      simp only [runT42, stepOp]
      split <;> (simp only [judgeCase]; exact ih hrest st h hr hinv)
    | ls sh =>
      simp only [runT42, stepOp]
      split <;> (simp only [judgeCase]; exact ih hrest st h hr hinv)
    | mn au c =>
      simp only [opOK42] at hop
      simp only [runT42, ansOf42, stepOp, judgeCase, List.all_cons, Bool.and_eq_true]
      refine ⟨?_, ih hrest st h hr hinv⟩
      rw [judge_mn42 st h hr hinv au c]
      · rfl
      · intro c' hc'; subst hc'; exact hop
    | tk au ids nc kc f => cases hop
    | tv au ids nc kc f => cases hop

theorem rel42_init (n : Nat) :
    Rel42 ((List.range n).map fun i => ⟨i + 1, [], []⟩) ⟨[], []⟩ ∧ Inv42 ((List.range n).map fun i => ⟨i + 1, [], []⟩) := by
  constructor
  · intro i name tags
    constructor
    · rintro ⟨e, he, _⟩; cases he
    · rintro ⟨sh, hsh, _, s, hs, _⟩
      simp only [List.mem_map] at hsh
      obtain ⟨j, _, rfl⟩ := hsh
      cases hs
  · constructor
    · intro sh hsh m k v
      simp only [List.mem_map] at hsh
      obtain ⟨j, _, rfl⟩ := hsh
      simp
    · intro sh hsh s hs
      simp only [List.mem_map] at hsh
      obtain ⟨j, _, rfl⟩ := hsh
      cases hs

end Influx.Model.StoreDel
