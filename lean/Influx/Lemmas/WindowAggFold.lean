/-
  Lemmas.WindowAggFold — chunking / block independence of the window cursors.
  * `drain_blocks`: for any block cursor, if every `Next()` returns a prefix of the one-pass
    result that is cut short only when it is full, calling `Next()` until an empty array comes
    back returns that result.
  * the five accumulating cursors (`Fold.next`): draining yields, concatenated, exactly the
    one-pass sequential semantics `seqAll` of the concatenated input, for every way the input
    is cut into arrays and every block size `B ≥ 1`.
-/
import Influx.Model.WindowAgg

namespace Influx.WindowAgg
variable {σ τ β : Type}

/-- all arrays the input cursor will return are non-empty (the cursor contract: an empty
    array means "exhausted") -/
def NonEmptyChunks (inp : List (List β)) : Prop := ∀ c ∈ inp, c ≠ []

theorem NonEmptyChunks.tail {c : List β} {cs : List (List β)} (h : NonEmptyChunks (c :: cs)) :
    NonEmptyChunks cs := fun x hx => h x (List.mem_cons_of_mem _ hx)

theorem NonEmptyChunks.isEmpty_head {c : List β} {cs : List (List β)} (h : NonEmptyChunks (c :: cs)) :
    c.isEmpty = false := by
  cases c with
  | nil => exact absurd rfl (h [] List.mem_cons_self)
  | cons => rfl

theorem drain_sim (f : σ → Option (σ × List β)) (g : τ → Option (τ × List β)) (emb : τ → σ)
    (h : ∀ t, f (emb t) = (g t).map (fun r => (emb r.1, r.2))) :
    ∀ (fuel : Nat) (t : τ), drain f fuel (emb t) = drain g fuel t := by
  intro fuel
  induction fuel with
  | zero => intro t; rfl
  | succ n ih =>
    intro t
    simp only [drain, h t]
    cases g t with
    | none => rfl
    | some r => simp only [Option.map_some]; split <;> simp [ih]

/-- **Draining a block cursor.**  `len` counts the points the cursor has still to read, `sem`
    is what it should still return (`none` = the panic of the Go code).  If every `Next()`
    returns a block `o` that starts `sem`, is cut short of the whole of it only when it holds
    `B ≥ 1` points, and is empty unless a point was read, then calling `Next()` until an empty
    array comes back returns `sem`, in non-empty arrays. -/
theorem drain_blocks (next : σ → Option (σ × List β)) (Inv : σ → Prop) (len : σ → Nat)
    (sem : σ → Option (List β)) (B : Nat) (hB : 1 ≤ B)
    (hend : ∀ s, len s = 0 → sem s = some [])
    (hstep : ∀ s, Inv s → match next s with
      | none => sem s = none
      | some (s', o) => sem s = (sem s').map (o ++ ·) ∧ (len s' = 0 ∨ B ≤ o.length) ∧
          (o ≠ [] → len s' < len s) ∧ Inv s') :
    ∀ (fuel : Nat) (s : σ) (res : List β), Inv s → len s < fuel → sem s = some res →
    ∃ arrs, drain next fuel s = some arrs ∧ arrs.flatten = res ∧ ∀ a ∈ arrs, a ≠ [] := by
  intro fuel
  induction fuel with
  | zero => intro s _ _ h; omega
  | succ n ih =>
    intro s res hi hlen hres
    have hn := hstep s hi
    rw [drain]
    cases hnx : next s with
    | none => rw [hnx] at hn; rw [hn] at hres; cases hres
    | some r =>
      obtain ⟨s', o⟩ := r
      rw [hnx] at hn
      obtain ⟨hsem, hfull, hprog, hi'⟩ := hn
      rw [hsem] at hres
      cases o with
      | nil =>
        -- an empty block: nothing was cut off, so nothing is left
        have h0 : len s' = 0 := hfull.resolve_right (by simp only [List.length_nil]; omega)
        rw [hend s' h0] at hres
        exact ⟨[], rfl, Option.some.inj hres, fun _ h => nomatch h⟩
      | cons x xs =>
        cases hsub : sem s' with
        | none => rw [hsub] at hres; cases hres
        | some res' =>
          rw [hsub] at hres
          obtain ⟨arrs, h1, h2, h3⟩ := ih s' res' hi' (by have := hprog (List.cons_ne_nil _ _); omega) hsub
          refine ⟨(x :: xs) :: arrs, by simp [h1], by rw [List.flatten_cons, h2]; exact Option.some.inj hres, ?_⟩
          intro a ha
          rcases List.mem_cons.mp ha with rfl | ha
          · exact List.cons_ne_nil _ _
          · exact h3 a ha

namespace Fold
variable {α γ : Type}

/-- one pass over the points, no arrays, no blocks: the running accumulator and `windowEnd` -/
def seq1 (F : Folder α γ) (w : Win) : List (Pt α) → Option γ → Int → List (Pt α)
  | [], acc, we => flush F acc we
  | p :: ps, acc, we =>
    if w.newWindow p.1 we then flush F acc we ++ seq1 F w ps (some (F.add1 none p)) (w.stop p.1)
    else seq1 F w ps (some (F.add1 acc p)) we

def seqAll (F : Folder α γ) (w : Win) : List (Pt α) → List (Pt α)
  | [] => []
  | p :: ps => seq1 F w (p :: ps) none (w.stop p.1)

theorem seqAll_cons (F : Folder α γ) (w : Win) (p : Pt α) (l : List (Pt α)) :
    seqAll F w (p :: l) = seq1 F w l (some (F.add1 none p)) (w.stop p.1) := by
  simp only [seqAll, seq1, flush]
  split <;> simp

/-- the scan takes the same step as `seq1`: a row of a new window first writes the finished
    window (`flush`), and that is the only place where the output can become full -/
theorem scan_cons (B : Nat) (F : Folder α γ) (w : Win) (p : Pt α) (ps : List (Pt α)) (acc : Option γ)
    (we : Int) (out : List (Pt α)) :
    scan B F w (p :: ps) acc we out =
      if w.newWindow p.1 we then
        if acc.isSome ∧ B ≤ (out ++ flush F acc we).length then .full (out ++ flush F acc we) (p :: ps)
        else scan B F w ps (some (F.add1 none p)) (w.stop p.1) (out ++ flush F acc we)
      else scan B F w ps (some (F.add1 acc p)) we out := by
  cases acc <;> simp [scan, flush]

theorem scan_spec (B : Nat) (F : Folder α γ) (w : Win) (rest : List (Pt α)) :
    ∀ (a : List (Pt α)) (acc : Option γ) (we : Int) (out : List (Pt α)),
    match scan B F w a acc we out with
    | .more acc' we' o => out ++ seq1 F w (a ++ rest) acc we = o ++ seq1 F w rest acc' we'
    | .full o r =>
        out ++ seq1 F w (a ++ rest) acc we = o ++ seqAll F w (r ++ rest) ∧
        B ≤ o.length ∧ r.length ≤ a.length ∧ (acc = none → r.length < a.length) := by
  intro a
  induction a with
  | nil => intro acc we out; rfl
  | cons p ps ih =>
    intro acc we out
    -- a recursive call of the scan: `seq1` has taken the same step
    have step : ∀ acc2 we2 out2,
        out ++ seq1 F w (p :: ps ++ rest) acc we = out2 ++ seq1 F w (ps ++ rest) acc2 we2 →
        match scan B F w ps acc2 we2 out2 with
        | .more acc' we' o => out ++ seq1 F w (p :: ps ++ rest) acc we = o ++ seq1 F w rest acc' we'
        | .full o r => out ++ seq1 F w (p :: ps ++ rest) acc we = o ++ seqAll F w (r ++ rest) ∧
            B ≤ o.length ∧ r.length ≤ (p :: ps).length ∧ (acc = none → r.length < (p :: ps).length) := by
      intro acc2 we2 out2 e
      have := ih acc2 we2 out2
      rw [e]
      split at this
      · exact this
      · exact ⟨this.1, this.2.1, Nat.le_succ_of_le this.2.2.1, fun _ => Nat.lt_succ_of_le this.2.2.1⟩
    rw [scan_cons]
    by_cases hn : w.newWindow p.1 we = true
    · rw [if_pos hn]
      by_cases hfull : acc.isSome = true ∧ B ≤ (out ++ flush F acc we).length
      · rw [if_pos hfull]
        refine ⟨?_, hfull.2, Nat.le_refl _, fun h => by simp [h] at hfull⟩
        rw [List.cons_append, seq1, if_pos hn, seqAll_cons, List.append_assoc]
      · rw [if_neg hfull]
        exact step _ _ _ (by rw [List.cons_append, seq1, if_pos hn, List.append_assoc])
    · rw [if_neg hn]
      exact step _ _ _ (by rw [List.cons_append, seq1, if_neg hn])

/-- the `WINDOWS` loop from one array on -/
theorem run_spec (B : Nat) (F : Folder α γ) (w : Win) :
    ∀ (inp : List (List (Pt α))) (a : List (Pt α)) (acc : Option γ) (we : Int) (out : List (Pt α))
      (s' : St α) (o : List (Pt α)),
    NonEmptyChunks inp → run B F w a inp acc we out = (s', o) →
    out ++ seq1 F w (a ++ inp.flatten) acc we = o ++ seqAll F w s'.rest ∧
    (s'.rest.length = 0 ∨ B ≤ o.length) ∧
    s'.rest.length ≤ (a ++ inp.flatten).length ∧
    (acc = none → a ≠ [] → s'.rest.length < (a ++ inp.flatten).length) ∧
    NonEmptyChunks s'.inp := by
  intro inp
  induction inp with
  | nil =>
    intro a acc we out s' o hne hr
    have hs := scan_spec B F w [] a acc we out
    rw [run] at hr
    split at hs
    · next acc' we' o' heq =>
      rw [heq] at hr
      cases hr
      refine ⟨by simpa [seq1, St.rest, seqAll] using hs, Or.inl rfl, Nat.zero_le _, ?_, hne⟩
      intro _ ha
      simpa [St.rest] using List.length_pos_iff.mpr ha
    · next o' r heq =>
      rw [heq] at hr
      cases hr
      simp only [St.rest, List.append_nil, List.flatten_nil] at hs ⊢
      exact ⟨hs.1, Or.inr hs.2.1, hs.2.2.1, fun h _ => hs.2.2.2 h, hne⟩
  | cons c cs ih =>
    intro a acc we out s' o hne hr
    have hs := scan_spec B F w (c ++ cs.flatten) a acc we out
    rw [run] at hr
    split at hs
    · next acc' we' o' heq =>
      rw [heq] at hr
      simp only [hne.isEmpty_head, Bool.false_eq_true, ↓reduceIte] at hr
      have ih' := ih c acc' we' o' s' o hne.tail hr
      rw [List.flatten_cons, hs]
      simp only [List.length_append] at ih' ⊢
      exact ⟨ih'.1, ih'.2.1, by omega, fun _ ha => by have := List.length_pos_iff.mpr ha; omega, ih'.2.2.2.2⟩
    · next o' r heq =>
      rw [heq] at hr
      cases hr
      simp only [St.rest, List.flatten_cons, List.length_append] at hs ⊢
      exact ⟨hs.1, Or.inr hs.2.1, by omega, fun h _ => by have := hs.2.2.2 h; omega, hne⟩

theorem next_spec (B : Nat) (F : Folder α γ) (w : Win) (s s' : St α) (o : List (Pt α))
    (hne : NonEmptyChunks s.inp) (hn : next B F w s = (s', o)) :
    seqAll F w s.rest = o ++ seqAll F w s'.rest ∧
    (s'.rest.length = 0 ∨ B ≤ o.length) ∧
    (o ≠ [] → s'.rest.length < s.rest.length) ∧
    NonEmptyChunks s'.inp := by
  obtain ⟨tmp, inp⟩ := s
  unfold next at hn
  cases tmp with
  | cons p ps =>
    have := run_spec B F w inp (p :: ps) none _ [] s' o hne hn
    exact ⟨this.1, this.2.1, fun _ => this.2.2.2.1 rfl (List.cons_ne_nil _ _), this.2.2.2.2⟩
  | nil =>
    cases inp with
    | nil => cases hn; exact ⟨rfl, Or.inl rfl, fun h => absurd rfl h, hne⟩
    | cons c cs =>
      cases c with
      | nil => exact absurd rfl (hne [] List.mem_cons_self)
      | cons p ps =>
        have := run_spec B F w cs (p :: ps) none _ [] s' o hne.tail hn
        exact ⟨this.1, this.2.1, fun _ => this.2.2.2.1 rfl (List.cons_ne_nil _ _), this.2.2.2.2⟩

theorem drain_spec (B : Nat) (hB : 1 ≤ B) (F : Folder α γ) (w : Win)
    (fuel : Nat) (s : St α) (hne : NonEmptyChunks s.inp) (hlen : s.rest.length < fuel) :
    ∃ arrs, drain (fun s => some (next B F w s)) fuel s = some arrs ∧
      arrs.flatten = seqAll F w s.rest ∧ (∀ a ∈ arrs, a ≠ []) := by
  refine drain_blocks _ (fun s => NonEmptyChunks s.inp) (fun s => s.rest.length)
    (fun s => some (seqAll F w s.rest)) B hB ?_ ?_ fuel s _ hne hlen rfl
  · intro s h0
    rw [List.length_eq_zero_iff.mp h0]; rfl
  · intro s hi
    have := next_spec B F w s _ _ hi rfl
    exact ⟨congrArg some this.1, this.2⟩

end Fold
end Influx.WindowAgg
