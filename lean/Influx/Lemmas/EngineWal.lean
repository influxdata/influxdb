/-
  Lemmas.EngineWal — WAL framing: complete records decode back; a torn last record (any strict
  prefix of its bytes) is dropped and everything before it is kept, the file being truncated
  exactly at the end of the last complete record.
-/
import Influx.Model.EngineWal

namespace Influx.Model.Engine.Wal

/-- the four bytes are the base-256 digits of `n` -/
theorem unbe32_be32 {n : Nat} (h : n < 4294967296) : unbe32 (be32 n) = n := by
  have e2 : n / 65536 = n / 256 / 256 := (Nat.div_div_eq_div_mul n 256 256).symm
  have e3 : n / 16777216 = n / 256 / 256 / 256 := (Nat.div_div_eq_div_mul n 65536 256).symm.trans (e2 ▸ rfl)
  have h3 : n / 16777216 < 256 := Nat.div_lt_of_lt_mul h
  show ((n / 16777216 % 256 * 256 + n / 65536 % 256) * 256 + n / 256 % 256) * 256 + n % 256 = n
  rw [Nat.mod_eq_of_lt h3, e3, e2]
  -- on the right, `n` = 256 * (n / 256) + n % 256, three times over
  conv => rhs; rw [← Nat.div_add_mod n 256, ← Nat.div_add_mod (n / 256) 256, ← Nat.div_add_mod (n / 256 / 256) 256]
  simp only [Nat.mul_comm 256]

theorem be32_length (n : Nat) : (be32 n).length = 4 := rfl

theorem encode_length (r : Rec) : r.encode.length = 5 + r.payload.length := by
  simp [Rec.encode, be32_length]; omega

theorem decodeAll_succ (valid : Nat → List Nat → Bool) (fuel : Nat) (bs : List Nat) :
    decodeAll valid (fuel + 1) bs =
      if bs.length < 5 then ([], 0)
      else if (bs.drop 5).length < unbe32 ((bs.drop 1).take 4) then ([], 0)
      else if !valid (bs.headD 0) ((bs.drop 5).take (unbe32 ((bs.drop 1).take 4))) then ([], 0)
      else (⟨bs.headD 0, (bs.drop 5).take (unbe32 ((bs.drop 1).take 4))⟩ ::
              (decodeAll valid fuel ((bs.drop 5).drop (unbe32 ((bs.drop 1).take 4)))).1,
            5 + unbe32 ((bs.drop 1).take 4) +
              (decodeAll valid fuel ((bs.drop 5).drop (unbe32 ((bs.drop 1).take 4)))).2) := rfl

theorem decodeAll_frame (valid : Nat → List Nat → Bool) (fuel typ len : Nat) (rest : List Nat)
    (hl : len < 4294967296) :
    decodeAll valid (fuel + 1) (typ :: (be32 len ++ rest)) =
      if rest.length < len then ([], 0)
      else if !valid typ (rest.take len) then ([], 0)
      else (⟨typ, rest.take len⟩ :: (decodeAll valid fuel (rest.drop len)).1,
            5 + len + (decodeAll valid fuel (rest.drop len)).2) := by
  have h2 : ((typ :: (be32 len ++ rest)).drop 1).take 4 = be32 len := rfl
  rw [decodeAll_succ, h2, unbe32_be32 hl, if_neg (show ¬ (typ :: (be32 len ++ rest)).length < 5 from
    Nat.not_lt.mpr (Nat.le_add_left 5 rest.length))]
  rfl

theorem decodeAll_cons (valid : Nat → List Nat → Bool) (fuel : Nat) (r : Rec) (tail : List Nat)
    (hv : valid r.typ r.payload = true) (hl : r.payload.length < 4294967296) :
    decodeAll valid (fuel + 1) (r.encode ++ tail) =
      (r :: (decodeAll valid fuel tail).1, 5 + r.payload.length + (decodeAll valid fuel tail).2) := by
  rw [Rec.encode, List.cons_append, List.append_assoc, decodeAll_frame _ _ _ _ _ hl,
    if_neg (by rw [List.length_append]; exact Nat.not_lt.mpr (Nat.le_add_right ..)), List.take_left,
    List.drop_left, hv]
  rfl

theorem decodeAll_torn (valid : Nat → List Nat → Bool) (fuel : Nat) (r : Rec) (n : Nat)
    (hn : n < r.encode.length) (hl : r.payload.length < 4294967296) :
    decodeAll valid fuel (r.encode.take n) = ([], 0) := by
  cases fuel with
  | zero => rfl
  | succ fuel =>
    rw [encode_length] at hn
    by_cases h5 : n < 5
    · rw [decodeAll_succ, if_pos (by rw [List.length_take]; exact Nat.lt_of_le_of_lt (Nat.min_le_left ..) h5)]
    · -- the header is complete, the payload is short
      obtain ⟨m, rfl⟩ : ∃ m, n = m + 5 := ⟨n - 5, (Nat.sub_add_cancel (Nat.not_lt.mp h5)).symm⟩
      show decodeAll valid (fuel + 1) (r.typ :: (be32 r.payload.length ++ r.payload.take m)) = _
      rw [decodeAll_frame _ _ _ _ _ hl, if_pos (by
        rw [List.length_take]
        exact Nat.lt_of_le_of_lt (Nat.min_le_left ..) (Nat.lt_of_add_lt_add_right (Nat.add_comm 5 _ ▸ hn)))]

theorem encodeAll_cons (r : Rec) (rs : List Rec) : encodeAll (r :: rs) = r.encode ++ encodeAll rs := by
  simp [encodeAll]

theorem encodeAll_length_le_fuel (rs : List Rec) : rs.length ≤ (encodeAll rs).length := by
  induction rs with
  | nil => simp [encodeAll]
  | cons r rs ih =>
    rw [encodeAll_cons, List.length_append, encode_length]
    simp only [List.length_cons]; omega

/-- **Framing**: complete records followed by a torn one (`n` of its bytes, `n` strictly less
    than its length; `n = 0` is the clean end) decode to exactly the complete records, and the
    file is truncated at their end.  For any fuel that covers the records. -/
theorem decodeAll_records_torn (valid : Nat → List Nat → Bool) (rs : List Rec) (e : Rec) (n : Nat) (fuel : Nat)
    (hv : ∀ r ∈ rs, valid r.typ r.payload = true) (hl : ∀ r ∈ rs, r.payload.length < 4294967296)
    (hle : e.payload.length < 4294967296) (hn : n < e.encode.length) (hf : rs.length < fuel) :
    decodeAll valid fuel (encodeAll rs ++ e.encode.take n) = (rs, (encodeAll rs).length) := by
  induction rs generalizing fuel with
  | nil =>
    simp only [encodeAll, List.flatMap_nil, List.nil_append, List.length_nil]
    exact decodeAll_torn valid fuel e n hn hle
  | cons r rs ih =>
    cases fuel with
    | zero => exact absurd hf (Nat.not_lt_zero _)
    | succ fuel' =>
      rw [encodeAll_cons, List.append_assoc,
        decodeAll_cons valid fuel' r _ (hv r List.mem_cons_self) (hl r List.mem_cons_self),
        ih fuel' (fun x hx => hv x (List.mem_cons_of_mem _ hx)) (fun x hx => hl x (List.mem_cons_of_mem _ hx))
          (Nat.lt_of_succ_lt_succ hf)]
      simp only [List.length_append, encode_length]

theorem loadSegment_torn (valid : Nat → List Nat → Bool) (rs : List Rec) (e : Rec) (n : Nat)
    (hv : ∀ r ∈ rs, valid r.typ r.payload = true) (hl : ∀ r ∈ rs, r.payload.length < 4294967296)
    (hle : e.payload.length < 4294967296) (hn : n < e.encode.length) :
    loadSegment valid (encodeAll rs ++ e.encode.take n) = (rs, (encodeAll rs).length) := by
  unfold loadSegment
  apply decodeAll_records_torn valid rs e n _ hv hl hle hn
  have := encodeAll_length_le_fuel rs
  rw [List.length_append]; omega

theorem Codec.load_torn (c : Codec) (recs : List WalEntry) (e : WalEntry) (n : Nat)
    (hn : n < (c.enc e).encode.length) :
    c.load (c.segBytes recs ++ (c.enc e).encode.take n) = recs.map some ∧
    (loadSegment c.valid (c.segBytes recs ++ (c.enc e).encode.take n)).2 = (c.segBytes recs).length := by
  have h := loadSegment_torn c.valid (recs.map c.enc) (c.enc e) n
    (fun r hr => by obtain ⟨x, _, rfl⟩ := List.mem_map.mp hr; exact c.valid_enc x)
    (fun r hr => by obtain ⟨x, _, rfl⟩ := List.mem_map.mp hr; exact c.len_ok x)
    (c.len_ok e) hn
  constructor
  · simp only [Codec.load, Codec.segBytes, h, List.map_map]
    apply List.map_congr_left
    intro x _
    exact c.dec_enc x
  · simp only [Codec.segBytes, h]

theorem Codec.load_clean (c : Codec) (recs : List WalEntry) :
    c.load (c.segBytes recs) = recs.map some ∧
    (loadSegment c.valid (c.segBytes recs)).2 = (c.segBytes recs).length := by
  have h := c.load_torn recs (.write []) 0 (by rw [encode_length]; omega)
  simpa using h

end Influx.Model.Engine.Wal
