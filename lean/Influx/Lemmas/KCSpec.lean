/-
  Lemmas.KCSpec — the statement side (Spec.C06): `expectedAsc` is the strictly ascending list of
  the newest-file-wins live points, and "newest file wins over the cursor's locations" is the
  same thing; assembly of the main theorem.
-/
import Influx.Lemmas.KCLive
import Influx.Lemmas.KCInit

namespace Influx.KC
open Influx.Generated.KeyCursor Influx.Spec.C06

theorem newestFrom_none : ∀ (files : List FileSpec) (i : Nat) (ts : Int),
    newestFrom i files ts = none → ∀ g ∈ files, g.live ts = false := by
  intro files
  induction files with
  | nil => exact fun _ _ _ _ h => nomatch h
  | cons f fs ih =>
    intro i ts h
    simp only [newestFrom] at h
    cases hrec : newestFrom (i + 1) fs ts with
    | some w => rw [hrec] at h; cases h
    | none =>
      rw [hrec] at h
      dsimp only at h
      intro g hg
      rcases List.mem_cons.1 hg with rfl | hg
      · cases hl : g.live ts with
        | false => rfl
        | true => rw [hl, if_pos rfl] at h; cases h
      · exact ih (i + 1) ts hrec g hg

theorem newestFrom_some : ∀ (files : List FileSpec) (i : Nat) (ts : Int) (v : Nat),
    newestFrom i files ts = some v →
      ∃ k, v = i + k ∧ (∃ f : FileSpec, files[k]? = some f ∧ f.live ts = true) ∧
        ∀ (j : Nat) (g : FileSpec), k < j → files[j]? = some g → g.live ts = false := by
  intro files
  induction files with
  | nil => exact fun _ _ _ h => nomatch h
  | cons f fs ih =>
    intro i ts v h
    simp only [newestFrom] at h
    cases hrec : newestFrom (i + 1) fs ts with
    | some w =>
      rw [hrec] at h
      cases h
      obtain ⟨k, hk, hg, hl⟩ := ih (i + 1) ts v hrec
      refine ⟨k + 1, by omega, hg, fun j g hj hg' => ?_⟩
      cases j with
      | zero => omega
      | succ j => exact hl j g (by omega) hg'
    | none =>
      rw [hrec] at h
      dsimp only at h
      split at h
      · rename_i hl
        cases h
        refine ⟨0, rfl, ⟨f, rfl, hl⟩, fun j g hj hg => ?_⟩
        cases j with
        | zero => omega
        | succ j => exact newestFrom_none fs (i + 1) ts hrec g (List.mem_of_getElem? hg)
      · cases h

theorem newest_spec (files : List FileSpec) (ts : Int) (v : Nat) :
    newest files ts = some v ↔
      (∃ f : FileSpec, files[v]? = some f ∧ f.live ts = true) ∧
      ∀ (j : Nat) (f : FileSpec), v < j → files[j]? = some f → f.live ts = false := by
  unfold newest
  constructor
  · intro h
    obtain ⟨k, hv, h1, h2⟩ := newestFrom_some files 0 ts v h
    rw [hv, Nat.zero_add]
    exact ⟨h1, h2⟩
  · rintro ⟨⟨f, hf, hl⟩, h2⟩
    cases h : newestFrom 0 files ts with
    | none => rw [newestFrom_none files 0 ts h f (List.mem_of_getElem? hf)] at hl; cases hl
    | some w =>
      -- both `v` and `w` hold the timestamp live, and no later file does
      obtain ⟨k, hw, ⟨g, hg, hgl⟩, h3⟩ := newestFrom_some files 0 ts w h
      rw [Nat.zero_add] at hw
      subst hw
      rcases Nat.lt_trichotomy v w with hlt | heq | hgt
      · rw [h2 w g hlt hg] at hgl; cases hgl
      · rw [heq]
      · rw [h3 v f hgt hf] at hl; cases hl

theorem mem_insertU {x y : Int} {l : List Int} : y ∈ insertU x l ↔ y = x ∨ y ∈ l := by
  induction l with
  | nil => simp [insertU]
  | cons z zs ih =>
    unfold insertU
    split
    · simp
    · split
      · rename_i h; subst h; simp
      · simp only [List.mem_cons, ih]
        exact or_left_comm

theorem sorted_insertU {x : Int} {l : List Int} (h : l.Pairwise (· < ·)) : (insertU x l).Pairwise (· < ·) := by
  induction l with
  | nil => simp [insertU]
  | cons z zs ih =>
    obtain ⟨h1, h2⟩ := List.pairwise_cons.1 h
    unfold insertU
    split
    · rename_i hlt
      apply List.pairwise_cons.2
      refine ⟨?_, h⟩
      intro y hy
      rcases List.mem_cons.1 hy with rfl | hy
      · exact hlt
      · have := h1 y hy; omega
    · split
      · exact h
      · apply List.pairwise_cons.2
        refine ⟨?_, ih h2⟩
        intro y hy
        rcases mem_insertU.1 hy with rfl | hy
        · omega
        · exact h1 y hy

theorem mem_sortDedup {y : Int} {l : List Int} : y ∈ sortDedup l ↔ y ∈ l := by
  unfold sortDedup
  induction l with
  | nil => simp
  | cons x xs ih => simp only [List.foldr_cons, mem_insertU, ih, List.mem_cons]

theorem sorted_sortDedup (l : List Int) : (sortDedup l).Pairwise (· < ·) := by
  unfold sortDedup
  induction l with
  | nil => simp
  | cons x xs ih => simp only [List.foldr_cons]; exact sorted_insertU ih

theorem mem_merged {files : List FileSpec} {p : Int × Nat} :
    p ∈ merged files ↔ p.1 ∈ allTimes files ∧ newest files p.1 = some p.2 := by
  unfold merged
  rw [List.mem_filterMap]
  constructor
  · rintro ⟨ts, hts, h⟩
    cases hn : newest files ts with
    | none => rw [hn] at h; cases h
    | some i =>
      rw [hn] at h
      simp at h
      subst h
      exact ⟨hts, hn⟩
  · rintro ⟨h1, h2⟩
    exact ⟨p.1, h1, by rw [h2]; rfl⟩

theorem sorted_merged (files : List FileSpec) : SortedV (merged files) := by
  unfold merged SortedV
  apply List.Pairwise.filterMap _ _ (sorted_sortDedup _)
  intro a a' hlt b hb b' hb'
  cases hn : newest files a with
  | none => rw [hn] at hb; cases hb
  | some i =>
    cases hn' : newest files a' with
    | none => rw [hn'] at hb'; cases hb'
    | some i' =>
      rw [hn] at hb; rw [hn'] at hb'
      simp at hb hb'
      subst hb hb'
      exact hlt

theorem newest_mem_allTimes {files : List FileSpec} {ts : Int} {v : Nat} (h : newest files ts = some v) :
    ts ∈ allTimes files := by
  obtain ⟨⟨f, hf, hl⟩, _⟩ := (newest_spec files ts v).1 h
  unfold allTimes
  rw [mem_sortDedup, List.mem_flatMap]
  refine ⟨f, List.mem_of_getElem? hf, ?_⟩
  simp only [FileSpec.live, Bool.and_eq_true] at hl
  obtain ⟨b, hb, hts⟩ := holds_iff.1 hl.1
  exact List.mem_flatten.2 ⟨b, hb, hts⟩

theorem mem_expectedAsc {files : List FileSpec} {t : Int} {asc : Bool} {p : Int × Nat} :
    p ∈ expectedAsc files t asc ↔ newest files p.1 = some p.2 ∧ (if asc then t ≤ p.1 else p.1 ≤ t) := by
  unfold expectedAsc
  rw [List.mem_filter, mem_merged]
  constructor
  · rintro ⟨⟨_, h2⟩, h3⟩
    refine ⟨h2, ?_⟩
    cases asc <;> simpa using h3
  · rintro ⟨h1, h2⟩
    refine ⟨⟨newest_mem_allTimes h1, h1⟩, ?_⟩
    cases asc <;> simpa using h2

theorem sorted_expectedAsc (files : List FileSpec) (t : Int) (asc : Bool) : SortedV (expectedAsc files t asc) :=
  (sorted_merged files).filter _

theorem filesOK_get {files : List FileSpec} (h : filesOK files = true) {k : Nat} {f : FileSpec}
    (hf : files[k]? = some f) : FileWF f := by
  unfold filesOK at h
  rw [List.all_eq_true] at h
  exact fileWF_of_ok (h f (List.mem_of_getElem? hf))

theorem fileStates_get {files : List FileSpec} {sts : List (FileState Nat)} (h : fileStates files = some sts) :
    sts.length = files.length ∧
    ∀ k f, files[k]? = some f → ∃ st, sts[k]? = some st ∧ fileState k f = some st := by
  obtain ⟨h1, h2⟩ := fileStatesFrom_spec files 0 sts h
  refine ⟨h1, fun k f hf => ?_⟩
  have := h2 k f hf
  rwa [Nat.zero_add] at this

/-- a well-formed layout can be written and deleted from: the file states exist -/
theorem fileStates_some {files : List FileSpec} (hok : filesOK files = true) : ∃ sts, fileStates files = some sts := by
  unfold fileStates
  suffices ∀ (fs : List FileSpec) (i : Nat), (∀ f ∈ fs, fileOK f = true) → ∃ sts, fileStatesFrom i fs = some sts by
    exact this files 0 (by unfold filesOK at hok; exact List.all_eq_true.1 hok)
  intro fs
  induction fs with
  | nil => intro i _; exact ⟨[], rfl⟩
  | cons f fs ih =>
    intro i h
    obtain ⟨rest, hr⟩ := ih (i + 1) (fun g hg => h g (List.mem_cons_of_mem _ hg))
    have w := fileWF_of_ok (h f (List.mem_cons_self ..))
    simp only [fileStatesFrom, fileState_eq w i, hr]
    exact ⟨_, rfl⟩

theorem location_file {files : List FileSpec} {sts : List (FileState Nat)} (h : fileStates files = some sts)
    {fi : Nat} {st : FileState Nat} (hst : sts[fi]? = some st) :
    ∃ f, files[fi]? = some f ∧ fileState fi f = some st := by
  obtain ⟨hlen, hget⟩ := fileStates_get h
  have hlt : fi < files.length := by
    have := (List.getElem?_eq_some_iff.1 hst).1
    omega
  obtain ⟨st', h1, h2⟩ := hget fi files[fi] (by simp [hlt])
  rw [hst] at h1; cases h1
  exact ⟨files[fi], by simp [hlt], h2⟩

theorem location_origin {files : List FileSpec} (hok : filesOK files = true)
    {sts : List (FileState Nat)} (hsts : fileStates files = some sts) {t : Int} {asc : Bool}
    {b : Block Nat} (hb : b ∈ locations sts t asc) :
    ∃ f, files[b.file]? = some f ∧ BlockWF b ∧ ∀ p ∈ live b, f.live p.1 = true ∧ p.2 = b.file := by
  obtain ⟨fi, st, hst, bi, e, vals, hent, _, rfl⟩ := mem_locations.1 hb
  obtain ⟨f, hf, hfs⟩ := location_file hsts hst
  have w := filesOK_get hok hf
  exact ⟨f, hf, (location_wf w fi hfs hent).1, fun p hp => location_to_live w fi hfs hent hp⟩

theorem live_location {files : List FileSpec} (hok : filesOK files = true)
    {sts : List (FileState Nat)} (hsts : fileStates files = some sts) {t : Int} {asc : Bool}
    {j : Nat} {g : FileSpec} (hg : files[j]? = some g) {ts : Int} (hgl : g.live ts = true)
    (hdir : if asc then t ≤ ts else ts ≤ t) :
    ∃ c ∈ locations sts t asc, c.file = j ∧ (ts, j) ∈ live c := by
  obtain ⟨st, hst, hfs⟩ := (fileStates_get hsts).2 j g hg
  obtain ⟨bi, e, vals, hent, hkeep, hl⟩ := live_to_location (filesOK_get hok hg) j hfs t asc hgl hdir
  exact ⟨_, mem_locations.2 ⟨j, st, hst, bi, e, vals, hent, hkeep, rfl⟩, rfl, hl⟩

theorem winner_iff_newest {files : List FileSpec} (hok : filesOK files = true)
    {sts : List (FileState Nat)} (hsts : fileStates files = some sts)
    {t : Int} {asc : Bool} {seeks : List (Block Nat)}
    (hmem : ∀ b, b ∈ seeks ↔ b ∈ locations sts t asc) {p : Int × Nat}
    (hdir : if asc then t ≤ p.1 else p.1 ≤ t) :
    WinnerL seeks p ↔ newest files p.1 = some p.2 := by
  rw [newest_spec]
  constructor
  · rintro ⟨b, hb, hl, hmax⟩
    obtain ⟨f, hf, _, hlive⟩ := location_origin hok hsts ((hmem b).1 hb)
    obtain ⟨hpl, hp2⟩ := hlive p hl
    refine ⟨⟨f, hp2 ▸ hf, hpl⟩, fun j g hj hg => ?_⟩
    cases hgl : g.live p.1 with
    | false => rfl
    | true =>
      -- a later file holding the timestamp live would have a location in `seeks` newer than `b`
      obtain ⟨c, hc, hcf, hlc⟩ := live_location hok hsts hg hgl hdir
      have := hmax c ((hmem c).2 hc) (mem_keys_of_mem (p := (p.1, j)) hlc)
      omega
  · rintro ⟨⟨f, hf, hlive⟩, hmax⟩
    obtain ⟨b, hb, hbf, hl⟩ := live_location hok hsts hf hlive hdir
    refine ⟨b, (hmem b).2 hb, hl, fun c hc hk => ?_⟩
    obtain ⟨g, hg, _, hlive_c⟩ := location_origin hok hsts ((hmem c).1 hc)
    obtain ⟨v, hv⟩ := mem_keys.1 hk
    have hlc := (hlive_c _ hv).1
    rw [hbf]
    apply Classical.byContradiction
    intro hgt
    rw [hmax c.file g (by omega) hg] at hlc
    cases hlc

theorem reverse_flatten_reverse {α : Type} (bs : List (List α)) :
    (bs.map List.reverse).flatten = bs.reverse.flatten.reverse := by
  rw [List.reverse_flatten, List.map_reverse, List.reverse_reverse]

/-- For a well-formed layout and a non-extreme int64 seek time, the read over the layout's
    locations in ANY order that satisfies OrderOK terminates without panic, and what it delivers
    satisfies the statement of C06. -/
theorem run_holds {files : List FileSpec} (hok : filesOK files = true)
    {sts : List (FileState Nat)} (hsts : fileStates files = some sts) {t : Int} {asc : Bool}
    (ht : seekOK t asc = true) {seeks : List (Block Nat)}
    (hmem : ∀ b, b ∈ seeks ↔ b ∈ locations sts t asc) (hord : orderOK seeks = true) :
    ∃ bs, runSeeks seeks t asc = some bs ∧ (∀ b ∈ bs, b ≠ []) ∧ holdsOn id files t asc bs = true := by
  have ht' : if asc then minI64 < t else t < maxI64 := by
    cases asc <;> simp only [seekOK, Bool.false_eq_true, if_false, if_true, Bool.and_eq_true, decide_eq_true_eq] at ht ⊢
    · exact ht.2
    · exact ht.1
  have hwf : ∀ b ∈ seeks, BlockWF b := fun b hb => by
    obtain ⟨_, _, h, _⟩ := location_origin hok hsts ((hmem b).1 hb)
    exact h
  obtain ⟨bs, hrun, hs, hne, hm⟩ := runSeeks_spec seeks hwf hord ht'
  refine ⟨bs, hrun, hne, ?_⟩
  -- in the order of their timestamps the blocks are the expected list: both are strictly
  -- ascending with the same points
  have hcat : cat asc bs = expectedAsc files t asc :=
    sorted_ext hs (sorted_expectedAsc files t asc) fun p => by
      rw [hm p, mem_expectedAsc]
      exact and_congr_left fun h2 => winner_iff_newest hok hsts hmem h2
  have hid : ∀ l : List (Int × Nat), l.map (fun p => (p.1, id p.2)) = l := fun l => List.map_id' l
  unfold holdsOn delivered expected
  rw [hid, beq_iff_eq]
  cases asc
  · rw [if_neg Bool.false_ne_true, if_neg Bool.false_ne_true, reverse_flatten_reverse]
    exact congrArg List.reverse hcat
  · rw [if_pos rfl, if_pos rfl]
    exact hcat

end Influx.KC
