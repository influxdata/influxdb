/-
  Lemmas.TagExprEval — on an expression inside C15's grammar, the evaluator of
  Model.TagExpr selects exactly the series satisfying `Spec.C15.sem`, over ANY
  index-set views that are sound for a list of series (`Ctx.Sound`), by
  structural induction on the expression.
-/
import Influx.Lemmas.TagExprSets
import Influx.Spec.C15

namespace Influx.Model.TagExpr
open Influx.Spec.C15

/-- `S`: the series of one measurement held by the index set (any order, repeats
    allowed). Stored tag values are never empty; an id names one tag set. -/
structure SeriesWF (S : List Series) : Prop where
  vals : ∀ s ∈ S, ∀ k, lookupTag s.tags k ≠ some ""
  uniq : ∀ s ∈ S, ∀ t ∈ S, s.id = t.id → s.tags = t.tags

/-- The views the evaluator reads are those of `S`.  Nothing is assumed about
    which views are nil rather than empty, nor about the order/multiplicity of
    the tag values listed; `tagValues` only has to list every value in use. -/
structure Ctx.Sound (c : Ctx) (S : List Series) : Prop where
  asc_m : Asc c.mseries.ids
  mem_m : ∀ i, i ∈ c.mseries.ids ↔ ∃ s ∈ S, s.id = i
  asc_k : ∀ k, Asc (c.keySeries k).ids
  mem_k : ∀ k i, i ∈ (c.keySeries k).ids ↔ ∃ s ∈ S, s.id = i ∧ (lookupTag s.tags k).isSome
  asc_v : ∀ k v, Asc (c.valSeries k v).ids
  mem_v : ∀ k v i, i ∈ (c.valSeries k v).ids ↔ ∃ s ∈ S, s.id = i ∧ lookupTag s.tags k = some v
  vals_some : ∀ k vs, c.tagValues k = some vs → ∀ s ∈ S, ∀ v, lookupTag s.tags k = some v → v ∈ vs
  vals_none : ∀ k, c.tagValues k = none → ∀ s ∈ S, lookupTag s.tags k = none

section
variable {c : Ctx} {S : List Series}

/-! Every iterator of the evaluator delivers `{i | ∃ s ∈ S, s.id = i ∧ P s}` for some `P`.
Because an id names one tag set, these sets form a Boolean algebra in `P`. -/

theorem sel_congr {P Q : Series → Prop} (h : ∀ s ∈ S, P s ↔ Q s) (i : Nat) :
    (∃ s ∈ S, s.id = i ∧ P s) ↔ ∃ s ∈ S, s.id = i ∧ Q s :=
  exists_congr fun s => and_congr_right fun hs => and_congr_right fun _ => h s hs

theorem sel_or (P Q : Series → Prop) (i : Nat) :
    ((∃ s ∈ S, s.id = i ∧ P s) ∨ ∃ s ∈ S, s.id = i ∧ Q s) ↔ ∃ s ∈ S, s.id = i ∧ (P s ∨ Q s) := by
  simp only [and_or_left, exists_or]

theorem sel_and (hwf : SeriesWF S) (P Q : List (String × String) → Prop) (i : Nat) :
    ((∃ s ∈ S, s.id = i ∧ P s.tags) ∧ ∃ s ∈ S, s.id = i ∧ Q s.tags) ↔
      ∃ s ∈ S, s.id = i ∧ P s.tags ∧ Q s.tags := by
  constructor
  · rintro ⟨⟨s, hs, rfl, hp⟩, t, ht, hid, hq⟩
    exact ⟨s, hs, rfl, hp, hwf.uniq t ht s hs hid ▸ hq⟩
  · rintro ⟨s, hs, hid, hp, hq⟩
    exact ⟨⟨s, hs, hid, hp⟩, s, hs, hid, hq⟩

theorem sel_not (hwf : SeriesWF S) (P : List (String × String) → Prop) (i : Nat) :
    ((∃ s ∈ S, s.id = i) ∧ ¬ ∃ s ∈ S, s.id = i ∧ P s.tags) ↔ ∃ s ∈ S, s.id = i ∧ ¬ P s.tags := by
  constructor
  · rintro ⟨⟨s, hs, rfl⟩, hn⟩
    exact ⟨s, hs, rfl, fun hp => hn ⟨s, hs, rfl, hp⟩⟩
  · rintro ⟨s, hs, rfl, hnp⟩
    refine ⟨⟨s, hs, rfl⟩, ?_⟩
    rintro ⟨t, ht, hid, hp⟩
    exact hnp (hwf.uniq t ht s hs hid ▸ hp)

/-- `DifferenceSeriesIDIterators(mitr, b)`: the measurement's series not selected by `b`. -/
theorem mem_diff_m (hwf : SeriesWF S) (hc : c.Sound S) {b : Itr} (hb : Asc b.ids)
    (P : List (String × String) → Prop) (hP : ∀ i, i ∈ b.ids ↔ ∃ s ∈ S, s.id = i ∧ P s.tags)
    (i : Nat) :
    i ∈ (differenceItr c.mseries b).ids ↔ ∃ s ∈ S, s.id = i ∧ ¬ P s.tags := by
  rw [mem_differenceItr hc.asc_m hb, hc.mem_m, hP, sel_not hwf]

theorem mem_ite_m (hc : c.Sound S) (p : Prop) [Decidable p] (i : Nat) :
    i ∈ (if p then c.mseries else none).ids ↔ ∃ s ∈ S, s.id = i ∧ p := by
  by_cases hp : p
  · rw [if_pos hp, hc.mem_m]
    exact exists_congr fun _ => and_congr_right fun _ => (and_iff_left hp).symm
  · rw [if_neg hp]
    exact iff_of_false List.not_mem_nil (fun ⟨_, _, _, h⟩ => hp h)

theorem asc_ite {p : Prop} [Decidable p] {a b : Itr} (ha : Asc a.ids) (hb : Asc b.ids) :
    Asc (if p then a else b).ids := by
  by_cases hp : p
  · rw [if_pos hp]; exact ha
  · rw [if_neg hp]; exact hb

theorem tagVal_of_some {tags : List (String × String)} {k v : String}
    (h : lookupTag tags k = some v) : tagVal tags k = v := by
  rw [tagVal, h]

theorem tagVal_of_none {tags : List (String × String)} {k : String}
    (h : lookupTag tags k = none) : tagVal tags k = "" := by
  rw [tagVal, h]

theorem refVal_name {n : String} {tags : List (String × String)} : refVal n tags "_name" = n :=
  if_pos rfl

theorem refVal_tag {n : String} {tags : List (String × String)} {k : String} (hk : k ≠ "_name") :
    refVal n tags k = tagVal tags k :=
  if_neg hk

theorem tagVal_eq_iff {tags : List (String × String)} {k v : String} (hv : v ≠ "") :
    tagVal tags k = v ↔ lookupTag tags k = some v := by
  cases h : lookupTag tags k with
  | none => rw [tagVal_of_none h]; exact iff_of_false (fun e => hv e.symm) (fun e => nomatch e)
  | some w => rw [tagVal_of_some h]; exact ⟨congrArg some, Option.some.inj⟩

theorem tagVal_eq_empty {tags : List (String × String)} {k : String}
    (hne : lookupTag tags k ≠ some "") : tagVal tags k = "" ↔ lookupTag tags k = none := by
  cases h : lookupTag tags k with
  | none => rw [tagVal_of_none h]; exact iff_of_true rfl rfl
  | some w =>
    rw [tagVal_of_some h]
    exact iff_of_false (fun e => hne (h.trans (congrArg some e))) (fun e => nomatch e)

theorem sel_stored {sel : String → Bool} (h0 : sel "" = false) (tags : List (String × String))
    (k : String) : (∃ v, lookupTag tags k = some v ∧ sel v = true) ↔ sel (tagVal tags k) = true := by
  cases h : lookupTag tags k with
  | none =>
    rw [tagVal_of_none h, h0]
    exact iff_of_false (fun ⟨_, e, _⟩ => nomatch e) Bool.false_ne_true
  | some w =>
    rw [tagVal_of_some h]
    exact ⟨fun ⟨_, e, hs⟩ => Option.some.inj e ▸ hs, fun hs => ⟨w, rfl, hs⟩⟩

theorem byString_eq_mem (hwf : SeriesWF S) (hc : c.Sound S) (k v : String) (i : Nat) :
    i ∈ (byString c k v .eq).ids ↔ ∃ s ∈ S, s.id = i ∧ (refVal c.name s.tags k == v) = true := by
  unfold byString
  by_cases hk : k = "_name"
  · subst hk
    rw [if_pos rfl]
    exact (mem_ite_m hc _ i).trans (sel_congr (fun _ _ => by
      rw [refVal_name, beq_iff_eq]
      simp only [true_and, reduceCtorEq, false_and, or_false]; exact eq_comm) i)
  · rw [if_neg hk, if_pos rfl]
    by_cases hv : v = ""
    · subst hv
      rw [if_neg (not_not_intro rfl)]
      exact (mem_diff_m hwf hc (hc.asc_k k) (fun t => (lookupTag t k).isSome = true)
        (hc.mem_k k) i).trans (sel_congr (fun s hs => by
          rw [refVal_tag hk, beq_iff_eq, tagVal_eq_empty (hwf.vals s hs k),
            Option.not_isSome_iff_eq_none]) i)
    · rw [if_pos hv]
      exact (hc.mem_v k v i).trans (sel_congr (fun _ _ => by
        rw [refVal_tag hk, beq_iff_eq, tagVal_eq_iff hv]) i)

theorem byString_neq_mem (hwf : SeriesWF S) (hc : c.Sound S) (k v : String) (i : Nat) :
    i ∈ (byString c k v .neq).ids ↔ ∃ s ∈ S, s.id = i ∧ (refVal c.name s.tags k != v) = true := by
  unfold byString
  by_cases hk : k = "_name"
  · subst hk
    rw [if_pos rfl]
    exact (mem_ite_m hc _ i).trans (sel_congr (fun _ _ => by
      rw [refVal_name, bne_iff_ne]
      simp only [true_and, reduceCtorEq, false_and, false_or]; exact ne_comm) i)
  · rw [if_neg hk, if_neg nofun]
    by_cases hv : v = ""
    · subst hv
      rw [if_neg (not_not_intro rfl)]
      exact (hc.mem_k k i).trans (sel_congr (fun s hs => by
        rw [refVal_tag hk, bne_iff_ne, ne_eq, tagVal_eq_empty (hwf.vals s hs k),
          Option.isSome_iff_ne_none]) i)
    · rw [if_pos hv]
      exact (mem_diff_m hwf hc (hc.asc_v k v) (fun t => lookupTag t k = some v)
        (hc.mem_v k v) i).trans (sel_congr (fun _ _ => by
          rw [refVal_tag hk, bne_iff_ne, ne_eq, tagVal_eq_iff hv]) i)

theorem asc_valuesMerge (hc : c.Sound S) (k : String) (vs : List String) (sel : String → Bool) :
    Asc (valuesMerge c k vs sel).ids :=
  asc_merge_map _ _ (fun v _ => hc.asc_v k v)

theorem mem_valuesMerge (hc : c.Sound S) (k : String) (vs : List String)
    (hvs : ∀ s ∈ S, ∀ v, lookupTag s.tags k = some v → v ∈ vs) (sel : String → Bool) (i : Nat) :
    i ∈ (valuesMerge c k vs sel).ids ↔
      ∃ s ∈ S, s.id = i ∧ ∃ v, lookupTag s.tags k = some v ∧ sel v = true := by
  unfold valuesMerge
  rw [mem_merge_map]
  constructor
  · rintro ⟨v, hv, hi⟩
    obtain ⟨s, hs, hid, hl⟩ := (hc.mem_v k v i).mp hi
    exact ⟨s, hs, hid, v, hl, (List.mem_filter.mp hv).2⟩
  · rintro ⟨s, hs, hid, v, hl, hsel⟩
    exact ⟨v, List.mem_filter.mpr ⟨hvs s hs v hl, hsel⟩, (hc.mem_v k v i).mpr ⟨s, hs, hid, hl⟩⟩

theorem matchTagValue_not (c : Ctx) (k : String) (re : String → Bool) :
    matchTagValue c k re false = matchTagValue c k (fun v => !re v) true := by
  unfold matchTagValue
  cases he : re "" <;> simp [he]

theorem asc_matchTagValue (hc : c.Sound S) (k : String) (re : String → Bool) (m : Bool) :
    Asc (matchTagValue c k re m).ids := by
  unfold matchTagValue
  cases c.tagValues k with
  | none => exact asc_ite (asc_ite hc.asc_m List.Pairwise.nil) (asc_ite List.Pairwise.nil hc.asc_m)
  | some vs =>
    exact asc_ite (asc_ite (asc_differenceItr hc.asc_m) (asc_valuesMerge hc _ _ _))
      (asc_ite (asc_valuesMerge hc _ _ _) (asc_differenceItr hc.asc_m))

theorem matchTagValue_mem (hwf : SeriesWF S) (hc : c.Sound S) (k : String) (re : String → Bool)
    (i : Nat) :
    i ∈ (matchTagValue c k re true).ids ↔ ∃ s ∈ S, s.id = i ∧ re (tagVal s.tags k) = true := by
  unfold matchTagValue
  cases htv : c.tagValues k with
  | none =>
    -- no series has the key: all of them or none, as `re ""` says
    dsimp only
    rw [if_pos rfl]
    exact (mem_ite_m hc _ i).trans (sel_congr (fun s hs => by
      rw [tagVal_of_none (hc.vals_none k htv s hs)]) i)
  | some vs =>
    dsimp only
    rw [if_pos rfl]
    have hvs := hc.vals_some k vs htv
    cases he : re ""
    · rw [if_neg Bool.false_ne_true]
      exact (mem_valuesMerge hc k vs hvs re i).trans (sel_congr (fun s _ => sel_stored he _ _) i)
    · rw [if_pos rfl]
      have h0 : (fun v => !re v) "" = false := by show (!re "") = false; rw [he]; rfl
      exact (mem_diff_m hwf hc (asc_valuesMerge hc _ _ _)
        (fun t => ∃ v, lookupTag t k = some v ∧ (!re v) = true)
        (mem_valuesMerge hc k vs hvs _) i).trans
        (sel_congr (fun s _ => by rw [sel_stored h0, Bool.not_eq_true', Bool.not_eq_false]) i)

theorem asc_byRegex (hc : c.Sound S) (k : String) (re : String → Bool) (op : Tok) :
    Asc (byRegex c k re op).ids :=
  asc_ite (asc_ite hc.asc_m List.Pairwise.nil) (asc_matchTagValue hc _ _ _)

theorem byRegex_not (c : Ctx) (k : String) (re : String → Bool) :
    byRegex c k re .neqregex = byRegex c k (fun v => !re v) .eqregex := by
  unfold byRegex
  by_cases hk : k = "_name"
  · simp [hk]
  · simp [hk, matchTagValue_not]

theorem byRegex_eq_mem (hwf : SeriesWF S) (hc : c.Sound S) (k : String) (re : String → Bool)
    (i : Nat) :
    i ∈ (byRegex c k re .eqregex).ids ↔ ∃ s ∈ S, s.id = i ∧ re (refVal c.name s.tags k) = true := by
  unfold byRegex
  by_cases hk : k = "_name"
  · subst hk
    rw [if_pos rfl]
    exact (mem_ite_m hc _ i).trans (sel_congr (fun _ _ => by rw [refVal_name]; simp) i)
  · rw [if_neg hk, decide_eq_true rfl]
    exact (matchTagValue_mem hwf hc k re i).trans
      (sel_congr (fun _ _ => by rw [refVal_tag hk]) i)

theorem byRegex_neq_mem (hwf : SeriesWF S) (hc : c.Sound S) (k : String) (re : String → Bool)
    (i : Nat) :
    i ∈ (byRegex c k re .neqregex).ids ↔
      ∃ s ∈ S, s.id = i ∧ (!re (refVal c.name s.tags k)) = true := by
  rw [byRegex_not]; exact byRegex_eq_mem hwf hc k _ i

theorem asc_byString (hc : c.Sound S) (k v : String) (op : Tok) : Asc (byString c k v op).ids :=
  asc_ite (asc_ite hc.asc_m List.Pairwise.nil)
    (asc_ite (asc_ite (hc.asc_v _ _) (asc_differenceItr hc.asc_m))
      (asc_ite (asc_differenceItr hc.asc_m) (hc.asc_k _)))

theorem asc_byVarRef (hc : c.Sound S) (k v : String) (op : Tok) : Asc (byVarRef c k v op).ids :=
  asc_ite (asc_intersectItr (hc.asc_k _)) (asc_differenceItr (hc.asc_k _))

theorem asc_byKeyValue (hc : c.Sound S) (op : Tok) (k : String) (t : VType) (value : Expr) :
    Asc (byKeyValue c op k t value).ids := by
  unfold byKeyValue
  refine asc_ite hc.asc_m ?_
  split
  · exact asc_ite hc.asc_m (asc_byVarRef hc _ _ _)
  · exact asc_byString hc _ _ _
  · exact asc_byRegex hc _ _ _
  · exact hc.asc_m

theorem asc_byBinary (hc : c.Sound S) (op : Tok) (l r : Expr) : Asc (byBinary c op l r).ids := by
  unfold byBinary
  refine asc_ite hc.asc_m (asc_ite hc.asc_m ?_)
  split
  · exact asc_byKeyValue hc _ _ _ _
  · split
    · exact asc_byKeyValue hc _ _ _ _
    · exact hc.asc_m

theorem asc_eval (hc : c.Sound S) (e : Expr) : Asc (eval c e).ids := by
  fun_induction eval c e with
  | case1 l r ihl ihr => exact asc_intersectItr ihl
  | case2 l r ihl ihr => exact asc_unionItr ihl ihr
  | case3 op l r h1 h2 => exact asc_byBinary hc op l r
  | case4 e ih => exact ih
  | case5 => exact hc.asc_m
  | case6 => exact List.Pairwise.nil
  | case7 => exact List.Pairwise.nil

theorem isFieldRef_of_isTagRef {k : String} {t : VType} (h : isTagRef c.hasField k t = true) :
    isFieldRef c k t t = false := by
  simp only [isTagRef, decide_eq_true_eq] at h
  simp only [isFieldRef, decide_eq_false_iff_not]
  rintro ⟨hk, hf⟩
  rcases h with h | rfl | ⟨rfl, h⟩
  · exact hk h
  · rcases hf with ⟨hf, _⟩ | hf | ⟨hf, _⟩
    · exact nomatch hf
    · exact nomatch hf
    · exact hf rfl
  · rcases hf with ⟨_, hf⟩ | hf | ⟨_, hf⟩
    · rw [h] at hf; exact nomatch hf
    · exact nomatch hf
    · exact hf rfl

theorem isTagRef_unknown {k : String} (hf : c.hasField k = false) :
    isTagRef c.hasField k .unknown = true :=
  decide_eq_true (Or.inr (Or.inr ⟨rfl, hf⟩))

theorem eval_tag {k : String} {t : VType} (h : isTagRef c.hasField k t = true) (op : Tok)
    (h1 : op ≠ .and) (h2 : op ≠ .or) :
    (∀ v, eval c (.bin op (.ref k t) (.str v)) = byString c k v op) ∧
    (∀ v, eval c (.bin op (.str v) (.ref k t)) = byString c k v op) ∧
      ∀ re, eval c (.bin op (.ref k t) (.regex re)) = byRegex c k re op := by
  simp only [eval.eq_3 _ _ _ _ h1 h2, byBinary, Expr.isBin, byKeyValue, isFieldRef_of_isTagRef h,
    Bool.false_eq_true, if_false, implies_true, and_self]

/-- Inside the property's grammar the evaluator delivers exactly the ids of the
    series of `S` that satisfy the expression. -/
theorem eval_mem (hwf : SeriesWF S) (hc : c.Sound S) (e : Expr)
    (hg : inGrammar c.hasField e = true) (i : Nat) :
    i ∈ (eval c e).ids ↔ ∃ s ∈ S, s.id = i ∧ sem c.name s.tags e = true := by
  fun_induction inGrammar c.hasField e with
  | case1 l r ihl ihr =>
    have hg := Bool.and_eq_true_iff.mp hg
    rw [eval, mem_intersectItr (asc_eval hc l) (asc_eval hc r), ihl hg.1, ihr hg.2,
      sel_and hwf (sem c.name · l = true) (sem c.name · r = true)]
    exact sel_congr (fun _ _ => Bool.and_eq_true_iff.symm) i
  | case2 l r ihl ihr =>
    have hg := Bool.and_eq_true_iff.mp hg
    rw [eval, mem_unionItr, ihl hg.1, ihr hg.2, sel_or]
    exact sel_congr (fun _ _ => Bool.or_eq_true_iff.symm) i
  | case3 e ih => exact ih hg
  | case4 k t v =>
    rw [(eval_tag hg .eq nofun nofun).1]; exact byString_eq_mem hwf hc k v i
  | case5 k t v =>
    rw [(eval_tag hg .neq nofun nofun).1]; exact byString_neq_mem hwf hc k v i
  | case6 v k t =>
    rw [(eval_tag hg .eq nofun nofun).2.1, byString_eq_mem hwf hc]
    exact sel_congr (fun _ _ => iff_of_eq (congrArg (· = true) BEq.comm)) i
  | case7 v k t =>
    rw [(eval_tag hg .neq nofun nofun).2.1, byString_neq_mem hwf hc]
    exact sel_congr (fun _ _ => iff_of_eq (congrArg (· = true) bne_comm)) i
  | case8 k t re =>
    rw [(eval_tag hg .eqregex nofun nofun).2.2]; exact byRegex_eq_mem hwf hc k re i
  | case9 k t re =>
    rw [(eval_tag hg .neqregex nofun nofun).2.2]; exact byRegex_neq_mem hwf hc k re i
  | case10 e _ _ _ _ _ _ _ _ _ => exact absurd hg Bool.false_ne_true

end
end Influx.Model.TagExpr
