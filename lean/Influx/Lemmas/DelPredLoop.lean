/-
  Lemmas.DelPredLoop — the `Matches` loop: it is a fold (`feed`) over the pairs
  popped off the key; with slot indices in range it answers on every key, and
  feeding the pairs of a series into the slots decides the tree's value on the
  full series.
-/
import Influx.Lemmas.DelPredEval
import Influx.Lemmas.DelPredBytes

namespace Influx.Model.DelPred

/-- the loop of `Matches` on already popped (tag, value) pairs -/
def feed (m : Matcher) : List (Option Bytes × Option Bytes) → Option (Bool × Matcher)
  | [] => some (false, m)
  | p :: ps =>
    match p.1 with
    | none => feed m ps
    | some tag =>
      match m.locs.idxOf? tag with
      | none => feed m ps
      | some i =>
        let m1 := { m with values := m.values.set i p.2 }
        match update m1.gen m1.values m1.root with
        | none => none
        | some (.true_, root') => some (true, { m1 with root := root' })
        | some (.false_, root') => some (false, { m1 with root := root' })
        | some (.needMore, root') => feed { m1 with root := root' } ps

/-- `len(key)` iterations suffice: each one pops at least one byte. -/
theorem matchLoop_fuel (em : Bool) (fuel : Nat) (m : Matcher) (key : Bytes) (h : key.length ≤ fuel) :
    matchLoop em fuel m key = feed m (pops em key) := by
  induction fuel generalizing m key with
  | zero =>
    obtain rfl : key = [] := List.eq_nil_of_length_eq_zero (Nat.le_zero.1 h)
    rw [pops_nil]; rfl
  | succ f ih =>
    rw [matchLoop]
    by_cases hk : key = []
    · rw [if_pos hk, hk, pops_nil]; rfl
    · have hr : ∀ m', matchLoop em f m' (pop em key).2.2 = feed m' (pops em (pop em key).2.2) :=
        fun m' => ih m' _ (by have := pop_rest_lt em key hk; omega)
      rw [if_neg hk, pops_cons hk, feed]
      simp only [pop] at hr ⊢
      simp only [hr]
      rfl

/-- what `Matches` keeps of a matcher -/
structure Kept (m m' : Matcher) : Prop where
  locs : m'.locs = m.locs
  len : m'.values.length = m.values.length
  shape : strip m'.root = strip m.root
  gens : GenLE m.gen m.root → GenLE m'.gen m'.root

theorem Kept.refl (m : Matcher) : Kept m m := ⟨rfl, rfl, rfl, id⟩

theorem Kept.trans {a b c : Matcher} (h1 : Kept a b) (h2 : Kept b c) : Kept a c :=
  ⟨h2.locs.trans h1.locs, h2.len.trans h1.len, h2.shape.trans h1.shape, fun h => h2.gens (h1.gens h)⟩

theorem Kept.wf {m m' : Matcher} (h : Kept m m') (hwf : WFn m.values.length m.root) :
    WFn m'.values.length m'.root := by
  rw [h.len]; exact (WFn_congr h.shape _).2 hwf

theorem Kept.step {m : Matcher} {i : Nat} {v : Option Bytes} {r : Resp} {root' : PNode}
    (h : Upd m.gen (m.values.set i v) m.root r root') :
    Kept m { m with values := m.values.set i v, root := root' } :=
  ⟨rfl, List.length_set, h.shape, h.gens⟩

/-- **On a matcher with slot indices in range the loop never panics**, whatever pairs it is fed. -/
theorem feed_total (m : Matcher) (ps : List (Option Bytes × Option Bytes))
    (hwf : WFn m.values.length m.root) : ∃ b m', feed m ps = some (b, m') ∧ Kept m m' := by
  induction ps generalizing m with
  | nil => exact ⟨false, m, rfl, .refl m⟩
  | cons p ps ih =>
    obtain ⟨t, v⟩ := p
    rw [feed]
    cases t with
    | none => exact ih m hwf
    | some tag =>
      dsimp only
      cases m.locs.idxOf? tag with
      | none => exact ih m hwf
      | some i =>
        obtain ⟨r, root', hu, hupd⟩ :=
          update_spec m.gen (m.values.set i v) m.root (by rw [List.length_set]; exact hwf)
        simp only [hu]
        cases r with
        | true_ => exact ⟨_, _, rfl, .step hupd⟩
        | false_ => exact ⟨_, _, rfl, .step hupd⟩
        | needMore =>
          obtain ⟨b, m', hf, hk⟩ := ih _ ((Kept.step hupd).wf hwf)
          exact ⟨b, m', hf, (Kept.step hupd).trans hk⟩

theorem Kept.reset (m : Matcher) : Kept m m.reset :=
  ⟨rfl, List.length_map _, rfl, genLE_mono (Nat.le_succ _) _⟩

theorem matches_eq_feed (m : Matcher) (key : Bytes) :
    m.matches key = feed m.reset (pops ((cutFieldSep key).contains 92) (cutFieldSep key)) :=
  matchLoop_fuel _ _ _ _ (Nat.le_refl _)

/-- **`Matches` of a matcher with slot indices in range terminates without panic on every key.** -/
theorem matches_total (m : Matcher) (key : Bytes) (hwf : WFn m.values.length m.root) :
    ∃ b m', m.matches key = some (b, m') ∧ Kept m m' := by
  obtain ⟨b, m', h, hk⟩ := feed_total m.reset
    (pops ((cutFieldSep key).contains 92) (cutFieldSep key)) ((Kept.reset m).wf hwf)
  exact ⟨b, m', (matches_eq_feed m key).trans h, (Kept.reset m).trans hk⟩

theorem slot_set_eq (vals : List (Option Bytes)) (i : Nat) (v : Option Bytes) (hi : i < vals.length) :
    slot (vals.set i v) i = v := by
  simp only [slot, List.getElem?_set_self hi]
  cases v <;> rfl

theorem slot_set_ne (vals : List (Option Bytes)) (i j : Nat) (v : Option Bytes) (hij : i ≠ j) :
    slot (vals.set i v) j = slot vals j := by
  simp only [slot, List.getElem?_set_ne hij]

theorem LEv_set {vals : List (Option Bytes)} {i : Nat} (v : Option Bytes) (hnone : slot vals i = none) :
    LEv vals (vals.set i v) := by
  intro j x hx
  by_cases hij : i = j
  · subst hij; rw [hnone] at hx; cases hx
  · rw [slot_set_ne _ _ _ _ hij]; exact hx

theorem idxOf?_inj {L : List Bytes} {k k' : Bytes} {i : Nat} (h : L.idxOf? k = some i)
    (h' : L.idxOf? k' = some i) : k = k' :=
  Option.some.inj ((idxOf?_getElem h).symm.trans (idxOf?_getElem h'))

def finalVals (L : List Bytes) (vals : List (Option Bytes)) : List (Bytes × Bytes) → List (Option Bytes)
  | [] => vals
  | (k, v) :: ps =>
    match L.idxOf? k with
    | none => finalVals L vals ps
    | some i => finalVals L (vals.set i (some v)) ps

theorem finalVals_length (L vals ps) : (finalVals L vals ps).length = vals.length := by
  induction ps generalizing vals with
  | nil => rfl
  | cons p ps ih =>
    obtain ⟨k, v⟩ := p
    simp only [finalVals]
    split
    · exact ih _
    · rw [ih]; simp

/-- pending pairs: distinct keys whose slots are still empty -/
def Pending (L : List Bytes) (vals : List (Option Bytes)) (ps : List (Bytes × Bytes)) : Prop :=
  (ps.map (·.1)).Nodup ∧ ∀ k v i, (k, v) ∈ ps → L.idxOf? k = some i → slot vals i = none

theorem Pending.tail {L vals k v ps} (h : Pending L vals ((k, v) :: ps)) : Pending L vals ps :=
  ⟨(List.nodup_cons.1 h.1).2, fun k' v' i hm hi => h.2 k' v' i (List.mem_cons_of_mem _ hm) hi⟩

theorem Pending.set {L vals k v ps i} (h : Pending L vals ((k, v) :: ps)) (hi : L.idxOf? k = some i) (x) :
    Pending L (vals.set i x) ps := by
  refine ⟨h.tail.1, fun k' v' j hm hj => ?_⟩
  have hne : k ≠ k' := fun e =>
    (List.nodup_cons.1 h.1).1 (e ▸ List.mem_map.2 ⟨(k', v'), hm, rfl⟩)
  have hij : i ≠ j := fun e => hne (idxOf?_inj hi (e ▸ hj))
  rw [slot_set_ne _ _ _ _ hij]
  exact h.tail.2 k' v' j hm hj

theorem LEv_finalVals {L vals ps} (h : Pending L vals ps) : LEv vals (finalVals L vals ps) := by
  induction ps generalizing vals with
  | nil => exact fun _ _ h => h
  | cons p ps ih =>
    obtain ⟨k, v⟩ := p
    rw [finalVals]
    split
    · exact ih h.tail
    · next i hi =>
      exact fun j x hx => ih (h.set hi _) j x (LEv_set (some v) (h.2 k v i List.mem_cons_self hi) j x hx)

/-- **The loop decides the tree on the full series.** -/
theorem feed_spec (m : Matcher) (ps : List (Bytes × Bytes))
    (hlen : m.values.length = m.locs.length)
    (hwf : WFn m.values.length m.root) (hc : CacheOK m.gen m.values m.root)
    (hnm : eval3 m.values m.root = .needMore) (hp : Pending m.locs m.values ps) :
    ∃ m', feed m (ps.map fun t => (some t.1, some t.2)) =
      some (decide (eval3 (finalVals m.locs m.values ps) m.root = .true_), m') := by
  induction ps generalizing m with
  | nil => exact ⟨m, by simp [feed, finalVals, hnm]⟩
  | cons p ps ih =>
    obtain ⟨k, v⟩ := p
    rw [List.map_cons, feed, finalVals]
    dsimp only
    cases hi : m.locs.idxOf? k with
    | none => exact ih m hlen hwf hc hnm hp.tail
    | some i =>
      have hle : LEv m.values (m.values.set i (some v)) :=
        LEv_set (some v) (hp.2 k v i List.mem_cons_self hi)
      obtain ⟨r, root', hu, hupd⟩ :=
        update_spec m.gen (m.values.set i (some v)) m.root (by rw [List.length_set]; exact hwf)
      obtain ⟨rfl, hc'⟩ := hupd.sound (cacheOK_mono hle _ hc)
      have hfin := eval3_mono (LEv_finalVals (hp.set hi (some v))) m.root
      simp only [hu]
      cases he : eval3 (m.values.set i (some v)) m.root with
      | true_ => exact ⟨_, by rw [hfin (he ▸ nofun), he]; rfl⟩
      | false_ => exact ⟨_, by rw [hfin (he ▸ nofun), he]; rfl⟩
      | needMore =>
        have hk := Kept.step hupd
        obtain ⟨m', hf⟩ := ih _ (by rw [hk.len, hlen]) (hk.wf hwf) hc'
          ((eval3_congr hupd.shape _).trans he) (hp.set hi _)
        exact ⟨m', hf.trans (by simp only [eval3_congr hupd.shape])⟩

/-- The measurement name is popped first, as nothing or as a tag without value: while all slots
    are empty it fills none, and the tree stays undetermined. -/
theorem feed_name (m : Matcher) (t : Option Bytes) (ps : List (Option Bytes × Option Bytes)) (n : Nat)
    (hv : m.values = List.replicate n none) (hwf : WFn m.values.length m.root)
    (hc : CacheOK m.gen m.values m.root) (hnm : eval3 m.values m.root = .needMore) :
    ∃ m2, feed m ((t, none) :: ps) = feed m2 ps ∧ Kept m m2 ∧ m2.gen = m.gen ∧ m2.values = m.values ∧
      CacheOK m2.gen m2.values m2.root := by
  have same : ∃ m2, feed m ps = feed m2 ps ∧ Kept m m2 ∧ m2.gen = m.gen ∧ m2.values = m.values ∧
      CacheOK m2.gen m2.values m2.root := ⟨m, rfl, .refl m, rfl, rfl, hc⟩
  rw [feed]
  cases t with
  | none => exact same
  | some tag =>
    dsimp only
    cases m.locs.idxOf? tag with
    | none => exact same
    | some i =>
      have hset : m.values.set i none = m.values := by rw [hv, List.set_replicate_self]
      obtain ⟨r, root', hu, hupd⟩ := update_spec m.gen m.values m.root hwf
      obtain ⟨rfl, hc'⟩ := hupd.sound hc
      simp only [hset, hu, hnm]
      exact ⟨_, rfl, ⟨rfl, rfl, hupd.shape, hupd.gens⟩, rfl, rfl, hc'⟩

end Influx.Model.DelPred
