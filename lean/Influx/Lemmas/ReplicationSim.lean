/-
  Lemmas.ReplicationSim — the C27 model refines the statement checker
  `Spec.C27`: an invariant relating the model state to one checker state is
  preserved by every operation (`init` with a segment size of at least 8, `ValidOp`), and the
  model's answer is then accepted.
-/
import Influx.Lemmas.Replication
namespace Influx.Repl
open Influx.Spec.C27 Influx.Generated.Replication

def entries (segs : List ASeg) : List Bytes := segs.flatMap ASeg.rest

@[simp] theorem entries_nil : entries [] = [] := rfl
@[simp] theorem entries_cons (h : ASeg) (t : List ASeg) : entries (h :: t) = h.rest ++ entries t := by
  simp [entries]
theorem entries_append (a b : List ASeg) : entries (a ++ b) = entries a ++ entries b := by
  simp [entries]

theorem remaining_eq (st : St) : st.remaining = entries st.segs := rfl

/-- entries of an old segment (and of everything before it) were enqueued before the last `age` -/
def OldOk : Nat → List ASeg → Nat → Prop
  | _, [], _ => True
  | g, h :: t, p => (h.old = true → g + h.rest.length ≤ p) ∧ OldOk (g + h.rest.length) t p

/-- shape of the segment list: never empty; only the head may be empty, and then it
    is the only segment and still takes the next entry -/
def SegsOk : List ASeg → Nat → Prop
  | [], _ => False
  | h :: t, ms => (∀ x ∈ t, x.rest ≠ []) ∧ (h.rest = [] → t = [] ∧ h.size ≤ h.maxSize) ∧ 8 ≤ ms

theorem SegsOk.exists_concat {segs : List ASeg} {ms : Nat} (h : SegsOk segs ms) : ∃ ini t, segs = ini ++ [t] := by
  rcases List.eq_nil_or_concat segs with rfl | h'
  · exact h.elim
  · simpa using h'

theorem segsOk_fresh (ms : Nat) (h8 : 8 ≤ ms) : SegsOk [freshSeg ms] ms := by
  simp [SegsOk, freshSeg, h8]

theorem segsOk_tail {a b : ASeg} {t : List ASeg} {ms : Nat} (h : SegsOk (a :: b :: t) ms) :
    SegsOk (b :: t) ms :=
  ⟨fun x hx => h.1 x (List.mem_cons_of_mem _ hx), fun hb => absurd hb (h.1 b (by simp)), h.2.2⟩

theorem segsOk_setLast {ini : List ASeg} {t t' : ASeg} {ms : Nat} (h : SegsOk (ini ++ [t]) ms)
    (ht' : t'.rest ≠ []) : SegsOk (ini ++ [t']) ms := by
  cases ini with
  | nil => exact ⟨by simp, fun he => absurd he ht', h.2.2⟩
  | cons i0 ini =>
    refine ⟨fun x hx => ?_, fun he => by simpa using (h.2.1 he).1, h.2.2⟩
    rcases List.mem_append.mp hx with hx | hx
    · exact h.1 x (by simp [hx])
    · rw [List.mem_singleton.mp hx]; exact ht'

theorem segsOk_snoc {ini : List ASeg} {t t' : ASeg} {ms : Nat} (h : SegsOk (ini ++ [t]) ms)
    (hfull : t.size > t.maxSize) (ht' : t'.rest ≠ []) : SegsOk (ini ++ [t, t']) ms := by
  cases ini with
  | nil =>
    refine ⟨fun x hx => by rw [List.mem_singleton.mp hx]; exact ht', fun he => ?_, h.2.2⟩
    have := (h.2.1 he).2; omega
  | cons i0 ini =>
    refine ⟨fun x hx => ?_, fun he => by simpa using (h.2.1 he).1, h.2.2⟩
    rcases List.mem_append.mp hx with hx | hx
    · exact h.1 x (by simp [hx])
    · obtain rfl | rfl : x = t ∨ x = t' := by simpa using hx
      · exact h.1 x (by simp)
      · exact ht'

structure Inv (st : St) (s : SS) : Prop where
  split : ∃ pre, s.enq = pre ++ entries st.segs ∧ s.goneOk pre.length = true ∧
            pre.length ≤ max s.posted s.mayPurged ∧ OldOk pre.length st.segs s.purgeable
  fails : s.fails = st.failed
  drop : s.drop = st.drop
  accLen : s.acc.length = s.enq.length
  segs : SegsOk st.segs st.maxSeg

theorem goneOk_iff (s : SS) (g : Nat) :
    s.goneOk g = true ↔ ∀ i, i < g → (s.acc.getD i false = true ∨ i < s.mayPurged) := by
  simp [SS.goneOk, List.all_eq_true]

theorem OldOk_append (a b : List ASeg) (g p : Nat) :
    OldOk g (a ++ b) p ↔ OldOk g a p ∧ OldOk (g + (entries a).length) b p := by
  induction a generalizing g with
  | nil => simp [OldOk]
  | cons h t ih =>
    simp only [List.cons_append, OldOk, ih, entries_cons, List.length_append]
    constructor
    · rintro ⟨h1, h2, h3⟩; exact ⟨⟨h1, h2⟩, by rw [← Nat.add_assoc]; exact h3⟩
    · rintro ⟨⟨h1, h2⟩, h3⟩; exact ⟨h1, h2, by rw [Nat.add_assoc]; exact h3⟩

theorem goneOk_mono {s s' : SS} {g : Nat} (h : s.goneOk g = true)
    (hacc : ∀ i, s.acc.getD i false = true → s'.acc.getD i false = true)
    (hp : s.mayPurged ≤ s'.mayPurged) : s'.goneOk g = true := by
  rw [goneOk_iff] at h ⊢
  intro i hi
  rcases h i hi with h1 | h1
  · exact Or.inl (hacc i h1)
  · exact Or.inr (by omega)

theorem getD_append_false (acc : List Bool) (i : Nat) (h : acc.getD i false = true) :
    (acc ++ [false]).getD i false = true := by
  by_cases hi : i < acc.length
  · simp [List.getD, List.getElem?_append_left hi] at h ⊢; exact h
  · simp [List.getD, List.getElem?_eq_none (by omega : acc.length ≤ i)] at h

/-- `Queue.Append` on a segment list `ini ++ [t]`: the last segment takes the entry, or a new one does -/
theorem enq_eq (st : St) (ini : List ASeg) (t : ASeg) (hs : st.segs = ini ++ [t]) (b : Bytes) :
    st.enq b = { st with segs := ini ++ (if t.size > t.maxSize then [t, (freshSeg st.maxSeg).put b] else [t.put b]) } := by
  simp only [St.enq, hs, List.getLast?_concat, List.dropLast_concat]
  split <;> simp

theorem inv_enq {st : St} {s : SS} (h : Inv st s) (b : Bytes) :
    Inv (st.enq b) { s with enq := s.enq ++ [b], acc := s.acc ++ [false] } := by
  obtain ⟨pre, henq, hgone, hle, hold⟩ := h.split
  obtain ⟨ini, t, hs⟩ := h.segs.exists_concat
  have hso := h.segs
  rw [hs] at henq hold hso
  rw [enq_eq st ini t hs b]
  rw [OldOk_append] at hold
  have hgone' : ({ s with enq := s.enq ++ [b], acc := s.acc ++ [false] } : SS).goneOk pre.length = true :=
    goneOk_mono hgone (fun i hi => getD_append_false _ i hi) (Nat.le_refl _)
  refine ⟨⟨pre, ?_, hgone', hle, ?_⟩, h.fails, h.drop, by simp [h.accLen], ?_⟩
  · split <;> simp [henq, entries_append, ASeg.put, freshSeg]
  · simp only [OldOk_append]
    refine ⟨hold.1, ?_⟩
    split
    · exact ⟨hold.2.1, by simp [OldOk, ASeg.put]⟩
    · simp [OldOk, ASeg.put]
  · show SegsOk _ st.maxSeg
    split
    · next hfull => exact segsOk_snoc hso hfull (by simp [ASeg.put])
    · exact segsOk_setLast hso (by simp [ASeg.put])

theorem entries_map_old (segs : List ASeg) :
    entries (segs.map fun s => { s with old := true }) = entries segs := by
  induction segs with
  | nil => rfl
  | cons h t ih => simp [ih]

theorem OldOk_all (segs : List ASeg) (g : Nat) (p : Nat) (h : g + (entries segs).length ≤ p) :
    OldOk g segs p := by
  induction segs generalizing g with
  | nil => trivial
  | cons a t ih =>
    simp only [entries_cons, List.length_append] at h
    exact ⟨fun _ => by omega, ih _ (by omega)⟩

theorem segsOk_age {segs : List ASeg} {ms : Nat} (h : SegsOk segs ms) :
    SegsOk (segs.map fun s => { s with old := true }) ms := by
  cases segs with
  | nil => exact h
  | cons a t =>
    refine ⟨fun x hx => ?_, fun he => by simpa using h.2.1 he, h.2.2⟩
    obtain ⟨y, hy, rfl⟩ := List.mem_map.mp hx
    exact h.1 y hy

theorem inv_age {st : St} {s : SS} (h : Inv st s) :
    Inv st.age { s with purgeable := s.enq.length } := by
  obtain ⟨pre, henq, hgone, hle, hold⟩ := h.split
  refine ⟨⟨pre, ?_, hgone, hle, ?_⟩, h.fails, h.drop, h.accLen, segsOk_age h.segs⟩
  · simp [St.age, entries_map_old, henq]
  · apply OldOk_all
    simp [St.age, entries_map_old, henq]

theorem inv_dump {st : St} {s : SS} (h : Inv st s) :
    s ∈ wstep s .dump (.dumped st.remaining) := by
  obtain ⟨pre, henq, hgone, hle, hold⟩ := h.split
  have hlen : s.enq.length - st.remaining.length = pre.length := by
    simp [henq, remaining_eq]
  simp only [wstep]
  rw [if_pos]
  · simp
  · refine ⟨by simp [henq, remaining_eq], ?_, by rw [hlen]; exact hgone⟩
    rw [hlen, henq, remaining_eq]; simp

theorem purgeSegs_spec (ms : Nat) :
    ∀ (fuel : Nat) (segs : List ASeg) (g p : Nat), fuel > segs.length → SegsOk segs ms → OldOk g segs p →
      ∃ d, d ≤ (entries segs).length ∧
        entries (purgeSegs ms fuel segs) = (entries segs).drop d ∧
        (g + d ≤ max g p) ∧ OldOk (g + d) (purgeSegs ms fuel segs) p ∧
        SegsOk (purgeSegs ms fuel segs) ms := by
  intro fuel
  induction fuel with
  | zero => intro segs g p hf; omega
  | succ fuel ih =>
    intro segs g p hf hso hold
    cases segs with
    | nil => exact hso.elim
    | cons a t =>
      simp only [purgeSegs]
      by_cases hao : a.old = true
      · rw [if_pos hao]
        have ha := hold.1 hao
        cases t with
        | nil =>
          refine ⟨a.rest.length, by simp, by simp [freshSeg], by omega, ?_, segsOk_fresh ms hso.2.2⟩
          simp [OldOk, freshSeg]
        | cons b t' =>
          simp only []
          obtain ⟨d, hd, hent, hle, hold', hso'⟩ :=
            ih (b :: t') (g + a.rest.length) p (by simp at hf ⊢; omega) (segsOk_tail hso) hold.2
          refine ⟨a.rest.length + d, by simp at hd ⊢; omega, ?_, by omega, ?_, hso'⟩
          · rw [hent]; simp [List.drop_append]
          · rw [← Nat.add_assoc]; exact hold'
      · rw [if_neg hao]
        exact ⟨0, by simp, by simp, by omega, by simpa using hold, hso⟩

theorem inv_purge {st : St} {s : SS} (h : Inv st s) :
    Inv st.purge { s with mayPurged := max s.mayPurged s.purgeable } := by
  obtain ⟨pre, henq, hgone, hle, hold⟩ := h.split
  have hmono : ({ s with mayPurged := max s.mayPurged s.purgeable } : SS).goneOk pre.length = true :=
    goneOk_mono hgone (fun i hi => hi) (by simp; omega)
  unfold St.purge
  by_cases hma : st.maxAge = 0
  · rw [if_pos hma]
    exact ⟨⟨pre, henq, hmono, by simp; omega, hold⟩, h.fails, h.drop, h.accLen, h.segs⟩
  · rw [if_neg hma]
    obtain ⟨d, hd, hent, hle', hold', hso'⟩ :=
      purgeSegs_spec st.maxSeg (st.segs.length + 1) st.segs pre.length s.purgeable (by omega) h.segs hold
    refine ⟨⟨pre ++ (entries st.segs).take d, ?_, ?_, ?_, ?_⟩, h.fails, h.drop, h.accLen, hso'⟩
    · simp only [hent, henq, List.append_assoc, List.take_append_drop]
    · rw [goneOk_iff]
      intro i hi
      by_cases hip : i < pre.length
      · exact (goneOk_iff _ _).mp hmono i hip
      · right
        simp only [List.length_append, List.length_take] at hi
        show i < max s.mayPurged s.purgeable
        omega
    · simp only [List.length_append, List.length_take]
      show pre.length + min d (entries st.segs).length ≤ max s.posted (max s.mayPurged s.purgeable)
      omega
    · simp only [List.length_append, List.length_take]
      rw [Nat.min_eq_left hd]
      exact hold'

def markRun (acc : List Bool) (j n : Nat) : List Bool :=
  (List.range n).foldl (fun a k => setTrue a (j + k)) acc

theorem setTrue_length (a : List Bool) (i : Nat) : (setTrue a i).length = a.length := by
  simp [setTrue]

theorem setTrue_getD (a : List Bool) (i k : Nat) :
    (setTrue a i).getD k false = if k = i ∧ i < a.length then true else a.getD k false := by
  simp only [setTrue, List.getD_eq_getElem?_getD, List.getElem?_set]
  by_cases hik : i = k
  · subst hik
    by_cases hl : i < a.length
    · simp [hl]
    · simp [hl]
  · have : ¬ (k = i ∧ i < a.length) := by intro h; exact hik h.1.symm
    simp [hik, this]

theorem markRun_length (acc : List Bool) (j n : Nat) : (markRun acc j n).length = acc.length := by
  induction n with
  | zero => rfl
  | succ n ih => simp [markRun, List.range_succ, List.foldl_append] at ih ⊢; rw [setTrue_length]; exact ih

theorem markRun_succ (acc : List Bool) (j n : Nat) :
    markRun acc j (n + 1) = setTrue (markRun acc j n) (j + n) := by
  simp [markRun, List.range_succ, List.foldl_append]

theorem markRun_mono (acc : List Bool) (j n i : Nat) (h : acc.getD i false = true) :
    (markRun acc j n).getD i false = true := by
  induction n with
  | zero => exact h
  | succ n ih =>
    rw [markRun_succ, setTrue_getD]
    split
    · rfl
    · exact ih

theorem markRun_set (acc : List Bool) (j n k : Nat) (hk : k < n) (hl : j + n ≤ acc.length) :
    (markRun acc j n).getD (j + k) false = true := by
  induction n with
  | zero => omega
  | succ n ih =>
    rw [markRun_succ, setTrue_getD]
    by_cases hkn : k = n
    · subst hkn; rw [if_pos ⟨rfl, by rw [markRun_length]; omega⟩]
    · rw [if_neg (by intro h; omega)]
      exact ih (by omega) (by omega)

/-- the checker accepts a scan that stopped at response `m` (from 0), the first that did not release -/
theorem sendFrom_fail (s : SS) (script : List Resp) (j m : Nat) (w : Int) (failed : Nat)
    (hall : ∀ k, k < m → releases s.drop (respAt script k) = true)
    (hlast : releases s.drop (respAt script m) = false)
    (hdelay : delayOk (if m = 0 then s.fails else 0) (respAt script m) w = true)
    (hfailed : failed = (if m = 0 then s.fails else 0) + 1) :
    sendFrom s script j (m + 1) w true failed
      = some { s with acc := markRun s.acc j m, posted := max s.posted (j + (m + 1)), fails := failed } := by
  have hab : ((List.range m).all fun k => releases s.drop (respAt script k)) = true :=
    List.all_eq_true.mpr fun k hk => hall k (List.mem_range.mp hk)
  have hf : (if 1 ≤ m then 0 else s.fails) = (if m = 0 then s.fails else 0) := by
    cases m <;> simp
  simp [sendFrom, hab, hlast, hf, hdelay, hfailed, markRun]

/-- the checker accepts a scan of `n ≥ 1` entries that were all released -/
theorem sendFrom_ok (s : SS) (script : List Resp) (j n : Nat) (hn : n ≥ 1)
    (hall : ∀ k, k < n → releases s.drop (respAt script k) = true) :
    sendFrom s script j n 0 true 0
      = some { s with acc := markRun s.acc j n, posted := max s.posted (j + n), fails := 0 } := by
  obtain ⟨m, rfl⟩ : ∃ m, n = m + 1 := ⟨n - 1, by omega⟩
  have hab : ((List.range m).all fun k => releases s.drop (respAt script k)) = true :=
    List.all_eq_true.mpr fun k hk => hall k (by have := List.mem_range.mp hk; omega)
  simp [sendFrom, hab, hall m (by omega), markRun, List.range_succ]

theorem take_append_le {α} (a b : List α) (m : Nat) (h : m ≤ a.length) : (a ++ b).take m = a.take m := by
  rw [List.take_append]; simp [Nat.sub_eq_zero_of_le h]

/-- after a whole segment was sent, `trimHead` drops the head or, when it is the only segment, replaces it
    by a fresh one or keeps it emptied: the entries left are those of the segments behind it -/
theorem trimHead_sent (ms : Nat) (a : ASeg) (t : List ASeg) (g p : Nat) (hso : SegsOk (a :: t) ms)
    (hold : OldOk g t p) :
    let segs' := trimHead ms ({ a with rest := [], old := false } :: t)
    entries segs' = entries t ∧ OldOk g segs' p ∧ SegsOk segs' ms := by
  cases t with
  | nil =>
    simp only [trimHead]
    split
    · exact ⟨by simp [freshSeg], by simp [OldOk, freshSeg], segsOk_fresh _ hso.2.2⟩
    · next hsz => exact ⟨by simp, by simp [OldOk], by simp, fun _ => ⟨rfl, by simp at hsz ⊢; omega⟩, hso.2.2⟩
  | cons b t' => exact ⟨rfl, hold, segsOk_tail hso⟩

theorem inv_send {st : St} {s : SS} (h : Inv st s) (script : List Resp) :
    ∃ s', s' ∈ wstep s (.send script)
        (.sent (st.send script).2.posted (st.send script).2.wait (st.send script).2.retry (st.send script).1.failed)
      ∧ Inv (st.send script).1 s' := by
  obtain ⟨pre, henq, hgone, hle, hold⟩ := h.split
  have hso := h.segs
  cases hsegs : st.segs with
  | nil => rw [hsegs] at hso; exact hso.elim
  | cons a t =>
    rw [hsegs] at henq hold hso
    by_cases hae : a.rest = []
    · -- nothing to send
      have hsend : st.send script = (st, ⟨[], 0, false⟩) := by simp [St.send, hsegs, hae]
      obtain rfl := (hso.2.1 hae).1
      have hg : s.goneOk s.enq.length = true := by
        rw [show s.enq.length = pre.length by simp [henq, hae]]; exact hgone
      rw [hsend]
      exact ⟨s, by simp [wstep, h.fails, hg], h⟩
    · -- the scan posts a prefix of the head segment, which the checker finds at `pre.length`
      have hjs : ∀ n, n ≤ a.rest.length →
          pre.length ∈ (List.range (s.enq.length + 1)).filter (fun j =>
            (s.enq.drop j).take n == a.rest.take n && s.goneOk j && decide (j ≤ max s.posted s.mayPurged)) := by
        intro n hn
        have : (s.enq.drop pre.length).take n = a.rest.take n := by
          rw [henq, List.drop_left, entries_cons, take_append_le _ _ _ hn]
        exact List.mem_filter.mpr ⟨List.mem_range.mpr (by simp [henq]; omega), by simp [this, hgone, hle]⟩
      have hn1 : a.rest.length ≥ 1 := List.length_pos_iff.mpr hae
      obtain ⟨hnone, hsome⟩ := sendLoop_full st.drop a.rest script st.failed []
      cases hres : sendLoop st.drop a.rest script st.failed [] with
      | mk posted rest2 =>
        obtain ⟨failed', ow⟩ := rest2
        simp only [hres, List.nil_append] at hnone hsome
        cases ow with
        | some w =>
          obtain ⟨m, hm, rfl, hall, hlast, hdec, rfl⟩ := hsome w rfl
          have hsend : st.send script =
              ({ st with failed := (if m = 0 then st.failed else 0) + 1 }, ⟨a.rest.take (m + 1), w, true⟩) := by
            simp [St.send, hsegs, hae, hres]
          have hlen : (a.rest.take (m + 1)).length = m + 1 := by simp; omega
          rw [hsend]
          refine ⟨{ s with acc := markRun s.acc pre.length m, posted := max s.posted (pre.length + (m + 1)),
                           fails := (if m = 0 then st.failed else 0) + 1 },
            ?_, ⟨pre, by simp [hsegs, henq], goneOk_mono hgone (fun i hi => markRun_mono _ _ _ _ hi) (Nat.le_refl _),
            ?_, by simpa [hsegs] using hold⟩, rfl, h.drop, by simp [markRun_length, h.accLen], by simpa [hsegs] using hso⟩
          · have hpe : (a.rest.take (m + 1)).isEmpty = false := by
              cases har : a.rest with
              | nil => exact absurd har hae
              | cons x xs => rfl
            simp only [wstep, hpe, Bool.false_eq_true, if_false, hlen]
            exact List.mem_filterMap.mpr ⟨pre.length, hjs (m + 1) hm,
              sendFrom_fail s script pre.length m w _ (h.drop ▸ hall) (h.drop ▸ hlast)
                (h.fails ▸ delayOk_of_fail _ _ _ _ hdec) (by rw [h.fails])⟩
          · show pre.length ≤ max (max s.posted (pre.length + (m + 1))) s.mayPurged
            omega
        | none =>
          obtain ⟨rfl, rfl, hall⟩ := hnone rfl
          rw [if_neg hae] at hres
          have hsend : st.send script =
              ({ st with failed := 0, segs := trimHead st.maxSeg ({ a with rest := [], old := false } :: t) },
               ⟨a.rest, 0, true⟩) := by
            simp [St.send, hsegs, hae, hres]
          obtain ⟨hent', hold', hso'⟩ := trimHead_sent st.maxSeg a t _ _ hso hold.2
          rw [hsend]
          refine ⟨{ s with acc := markRun s.acc pre.length a.rest.length,
                           posted := max s.posted (pre.length + a.rest.length), fails := 0 },
            ?_, ⟨pre ++ a.rest, by simp [hent', henq], ?_, ?_, by simpa using hold'⟩, rfl, h.drop,
            by simp [markRun_length, h.accLen], hso'⟩
          · have hpe : a.rest.isEmpty = false := by simpa using hae
            simp only [wstep, hpe, Bool.false_eq_true, if_false]
            exact List.mem_filterMap.mpr ⟨pre.length, by simpa using hjs a.rest.length (Nat.le_refl _),
              sendFrom_ok s script pre.length a.rest.length hn1 (h.drop ▸ hall)⟩
          · rw [goneOk_iff]
            intro i hi
            by_cases hip : i < pre.length
            · exact ((goneOk_iff _ _).mp hgone i hip).imp (markRun_mono _ _ _ _) id
            · obtain ⟨k, rfl⟩ : ∃ k, i = pre.length + k := ⟨i - pre.length, by omega⟩
              simp only [List.length_append] at hi
              exact Or.inl (markRun_set _ _ _ k (by omega) (by rw [h.accLen, henq]; simp))
          · simp only [List.length_append]
            show _ ≤ max (max s.posted (pre.length + a.rest.length)) s.mayPurged
            omega

/-- the segment size handed to the durable queue leaves room for a footer
    (production always passes `durablequeue.DefaultSegmentSize`) -/
def ValidOp : Op → Prop
  | .init _ _ g => 8 ≤ g
  | _ => True

def Rel : State → SpecState → Prop
  | none, none => True
  | some st, some ws => ∃ s, s ∈ ws ∧ Inv st s
  | _, _ => False

theorem inv_init (d : Bool) (a : Int) (g : Nat) (h8 : 8 ≤ g) : Inv (initSt d a g) { drop := d } := by
  refine ⟨⟨[], by simp [initSt, freshSeg], by simp [SS.goneOk], by simp, by simp [initSt, OldOk, freshSeg]⟩,
    rfl, rfl, rfl, segsOk_fresh g h8⟩

/-- one checker state that accepts the answer and is related to the new model state is enough -/
theorem rel_some_step {st' : St} {ws : List SS} {s s' : SS} {op : Op} {a : Ans} (hop : ∀ n, op ≠ .backoff n)
    (hs : s ∈ ws) (hw : s' ∈ wstep s op a) (hinv : Inv st' s') : Rel (some st') (sstep (some ws) (op, a)) := by
  have : sstep (some ws) (op, a) = some (ws.flatMap fun w => wstep w op a) := by
    cases op with
    | backoff n => exact absurd rfl (hop n)
    | _ => simp [sstep]
  rw [this]
  exact ⟨s', List.mem_flatMap.mpr ⟨s, hs, hw⟩, hinv⟩

theorem sim_step (ms : State) (ss : SpecState) (op : Op) (hr : Rel ms ss) (hv : ValidOp op) :
    Rel (step ms op).1 (sstep ss (op, (step ms op).2)) := by
  cases ms with
  | none =>
    cases ss with
    | some ws => exact hr.elim
    | none =>
      cases op with
      | backoff n => simpa [step, sstep, backoff_eq_doc] using hr
      | init d a g => exact ⟨_, by simp, inv_init d a g hv⟩
      | _ => trivial
  | some st =>
    cases ss with
    | none => exact hr.elim
    | some ws =>
      obtain ⟨s, hs, hinv⟩ := hr
      cases op with
      | backoff n => simpa [step, sstep, backoff_eq_doc] using ⟨s, hs, hinv⟩
      | init d a g => exact rel_some_step (by simp) hs (by simp [step, wstep]) hinv
      | enq b => exact rel_some_step (by simp) hs (by simp [step, wstep]) (inv_enq hinv b)
      | send script =>
        obtain ⟨s', hs', hinv'⟩ := inv_send hinv script
        exact rel_some_step (by simp) hs hs' hinv'
      | age => exact rel_some_step (by simp) hs (by simp [step, wstep]) (inv_age hinv)
      | purge => exact rel_some_step (by simp) hs (by simp [step, wstep]) (inv_purge hinv)
      | dump => exact rel_some_step (by simp) hs (inv_dump hinv) hinv

theorem sim_trace (ops : List Op) : ∀ (ms : State) (ss : SpecState), Rel ms ss → (∀ op ∈ ops, ValidOp op) →
    ∃ ms', Rel ms' ((trace ms ops).foldl sstep ss) := by
  induction ops with
  | nil => intro ms ss hr _; exact ⟨ms, by simpa [trace] using hr⟩
  | cons op ops ih =>
    intro ms ss hr hv
    simp only [trace, List.foldl_cons]
    exact ih _ _ (sim_step ms ss op hr (hv op (by simp))) (fun o ho => hv o (by simp [ho]))

end Influx.Repl
