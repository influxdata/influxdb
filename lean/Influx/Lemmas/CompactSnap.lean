/-
  Lemmas.CompactSnap — `Compactor.WriteSnapshot` over a deduplicated cache:
  `cacheKeyIterator` writes, key after key, the last-write-wins content of the
  cache in blocks of at most `size` values.
-/
import Influx.Lemmas.CompactCaseL

namespace Influx.Model.Compact
open Influx.Spec.C04

theorem upsert_eq_vMerge (p : Int × Int) (acc : Pts Int) : upsert p acc = vMerge acc [p] := by
  induction acc with
  | nil => rfl
  | cons q qs ih =>
    rw [upsert, vMerge_cons]
    by_cases h1 : p.1 < q.1
    · rw [if_pos h1, if_neg (by omega), if_neg (by omega), vMerge_nil_right]
    · by_cases h2 : p.1 = q.1
      · rw [if_neg h1, if_pos h2, if_neg (by omega), if_pos h2.symm, vMerge_nil_right]
      · rw [if_neg h1, if_neg h2, if_pos (by omega), ih]

def lastOf (vs : Pts Int) (t : Int) : Option Int := ((vs.filter (fun p => p.1 == t)).map (·.2)).getLast?

theorem lastOf_cons (p : Int × Int) (vs : Pts Int) (t : Int) :
    lastOf (p :: vs) t = (lastOf vs t).or (if p.1 = t then some p.2 else none) := by
  unfold lastOf
  by_cases h : p.1 = t
  · simp only [List.filter_cons, h, beq_self_eq_true, if_true, List.map_cons, List.getLast?_cons]
    cases hl : (List.map (fun x => x.2) (List.filter (fun q => q.1 == t) vs)).getLast? <;> simp
  · have : (p.1 == t) = false := by simp [h]
    simp [this, h]

theorem foldl_upsert_spec : ∀ (vs acc : Pts Int), Asc acc →
    Asc (vs.foldl (fun acc p => upsert p acc) acc) ∧
    ∀ t, lookup (vs.foldl (fun acc p => upsert p acc) acc) t = (lastOf vs t).or (lookup acc t)
  | [], acc, h => ⟨h, fun t => by simp [lastOf]⟩
  | p :: vs, acc, h => by
    have hp : Asc [p] := List.pairwise_singleton _ _
    obtain ⟨r1, r2⟩ := foldl_upsert_spec vs (upsert p acc) (upsert_eq_vMerge p acc ▸ asc_vMerge h hp)
    refine ⟨r1, fun t => ?_⟩
    rw [List.foldl_cons, r2 t, upsert_eq_vMerge, lookup_vMerge hp, lookup_cons, lookup_nil, lastOf_cons, Option.or_assoc]

theorem dedupValues_spec (vs : Pts Int) :
    Asc (dedupValues vs) ∧ ∀ t, lookup (dedupValues vs) t = lastOf vs t := by
  obtain ⟨r1, r2⟩ := foldl_upsert_spec vs [] asc_nil
  exact ⟨r1, fun t => by rw [dedupValues, r2 t]; simp⟩

theorem chunksOf_spec (size : Nat) (hs : 0 < size) : ∀ (fuel : Nat) (vs : Pts Int), vs.length < fuel →
    outPts (chunksOf size fuel vs) = vs ∧
    ∀ o ∈ chunksOf size fuel vs, OBlkOK o ∧ 1 ≤ o.pts.length ∧ o.pts.length ≤ size
  | 0, _, h => by omega
  | fuel + 1, [], _ => by simp [chunksOf]
  | fuel + 1, p :: vs, h => by
    unfold chunksOf
    have hlen : ((p :: vs).drop size).length < fuel := by
      simp only [List.length_drop, List.length_cons] at h ⊢; omega
    obtain ⟨r1, r2⟩ := chunksOf_spec size hs fuel ((p :: vs).drop size) hlen
    refine ⟨?_, ?_⟩
    · simp only [outPts_cons, r1, List.take_append_drop]
    · intro o ho
      rcases List.mem_cons.mp ho with rfl | ho2
      · have hhd : ((p :: vs).take size).head? = some p := by
          cases size with
          | zero => omega
          | succ n => rfl
        have hne : (p :: vs).take size ≠ [] := by intro h0; rw [h0] at hhd; cases hhd
        obtain ⟨z, hz⟩ : ∃ z, ((p :: vs).take size).getLast? = some z := ⟨_, List.getLast?_eq_some_getLast hne⟩
        refine ⟨⟨p, z, hhd, hz, rfl, by simp [hz]⟩, List.length_pos_iff.mpr hne, ?_⟩
        exact List.length_take_le _ _
      · exact r2 o ho2

def entryBlocks (size : Nat) (vs : Pts Int) : List (OBlk Int) :=
  chunksOf size ((dedupValues vs).length + 1) (dedupValues vs)

theorem entryBlocks_keyTail {size : Nat} (hs : 0 < size) (vs : Pts Int) :
    KeyTail size [] (lastOf vs) [] (entryBlocks size vs) := by
  obtain ⟨d1, d2⟩ := dedupValues_spec vs
  obtain ⟨k1, k2⟩ := chunksOf_spec size hs _ (dedupValues vs) (Nat.lt_succ_self _)
  refine ⟨?_, fun t => ?_, fun o ho => ⟨(k2 o ho).1, Or.inl (k2 o ho).2⟩⟩
  · rw [List.nil_append, entryBlocks, k1]; exact d1
  · rw [List.nil_append, entryBlocks, k1, d2 t]

def cwEntries (ops : List Op) : List (Key × Pts Int) :=
  ops.filterMap fun op => match op with
    | Op.cw k pts => some (k, pts)
    | _ => none

theorem cacheOf_eq (ops : List Op) : cacheOf ops = (cwEntries ops).foldl (fun m e => insA e.1 e.2 m) [] := by
  rw [cacheOf, cwEntries, List.foldl_filterMap]
  congr 1
  funext acc op
  cases op with
  | cw k pts => exact insertKey_eq k pts acc
  | _ => rfl

theorem cacheAt_eq (ops : List Op) (k : Key) (t : Int) : cacheAt ops k t = lastOf (getA (cwEntries ops) k) t := by
  unfold cacheAt lastOf cwEntries
  congr 1
  induction ops with
  | nil => rfl
  | cons op ops ih =>
    cases op with
    | cw k' pts =>
      by_cases hk : k' = k
      · subst hk
        simp only [List.flatMap_cons, List.filterMap_cons, ih, beq_self_eq_true, if_true, getA_cons,
          List.filter_append, List.map_append]
      · simp only [List.flatMap_cons, List.filterMap_cons, ih, beq_eq_false_iff_ne.mpr hk, Bool.false_eq_true,
          hk, if_false, getA_cons, List.nil_append]
    | _ => exact ih

theorem snapshotSeq_eq (size : Nat) (hs : 0 < size) (cache : List (Key × Pts Int)) :
    snapshotSeq size cache = .ok (cache.flatMap fun kv => (entryBlocks size kv.2).map fun b => (kv.1, b)) := by
  unfold snapshotSeq
  rw [if_neg (by omega)]
  rfl

theorem seqOf_entries (size : Nat) (k : Key) : ∀ (cache : List (Key × Pts Int)),
    seqOf k (cache.flatMap fun kv => (entryBlocks size kv.2).map fun b => (kv.1, b)) =
      (cache.filter (fun e => decide (e.1 = k))).flatMap fun kv => entryBlocks size kv.2
  | [] => rfl
  | kv :: rest => by
    simp only [List.flatMap_cons, seqOf_append, seqOf_entries size k rest, List.filter_cons]
    by_cases hk : kv.1 = k
    · subst hk
      simp [seqOf_map_same]
    · simp [hk, seqOf_map_other hk]

/-- a key-sorted cache has at most one entry per key: the blocks written for `k` are those of
    all values the cache holds for `k` -/
theorem seqOf_snapshot (size : Nat) {cache : List (Key × Pts Int)} (hs : SortedKeys cache) (k : Key) :
    seqOf k (cache.flatMap fun kv => (entryBlocks size kv.2).map fun b => (kv.1, b)) =
      entryBlocks size (getA cache k) := by
  rw [seqOf_entries, getA]
  by_cases h : ∃ e ∈ cache, e.1 = k
  · obtain ⟨e, he, rfl⟩ := h
    rw [filter_key_of_mem hs he]
    simp
  · have : cache.filter (fun e => decide (e.1 = k)) = [] :=
      List.filter_eq_nil_iff.mpr fun e he => by simpa using fun hk => h ⟨e, he, hk⟩
    rw [this]
    rfl

theorem keysSorted_entries (size : Nat) : ∀ (cache : List (Key × Pts Int)), SortedKeys cache →
    KeysSorted (cache.flatMap fun kv => (entryBlocks size kv.2).map fun b => (kv.1, b))
  | [], _ => List.Pairwise.nil
  | kv :: rest, hs => by
    have hp := List.pairwise_cons.mp hs
    simp only [List.flatMap_cons]
    refine List.pairwise_append.mpr ⟨?_, keysSorted_entries size rest hp.2, ?_⟩
    · rw [List.pairwise_map]
      exact List.pairwise_of_forall (fun _ _ => keyLt_irrefl _)
    · intro a ha b hb
      simp only [List.mem_map] at ha
      obtain ⟨x, _, rfl⟩ := ha
      simp only [List.mem_flatMap, List.mem_map] at hb
      obtain ⟨e, he, y, _, rfl⟩ := hb
      exact keyLt_asymm (hp.1 e he)

theorem modelSnap_out (ops : List Op) (size : Nat) : ∃ files, modelSnap ops size = Obs.out files := by
  unfold modelSnap
  rw [snapshotSeq_eq _ (by split <;> omega)]
  exact ⟨_, rfl⟩

theorem modelSnap_ok (ops : List Op) (size : Nat) (files : List OutFile)
    (h : modelSnap ops size = Obs.out files) :
    judge ops true (if size = 0 then 1000 else size) files = none := by
  generalize hsz : (if size = 0 then 1000 else size) = sz at h ⊢
  have hs : 0 < sz := by subst hsz; split <;> omega
  unfold modelSnap at h
  rw [hsz, snapshotSeq_eq sz hs] at h
  simp only [Obs.out.injEq] at h
  subst h
  obtain ⟨c1, c2, _⟩ := foldl_insA (cwEntries ops) [] List.Pairwise.nil
  rw [← cacheOf_eq] at c1 c2
  apply judge_split ops true sz _ (keysSorted_entries sz _ c1) (fun _ => []) (fun k => lastOf (getA (cwEntries ops) k))
  · intro k
    rw [seqOf_snapshot sz c1, c2 k]
    exact entryBlocks_keyTail hs _
  · exact fun k t => (cacheAt_eq ops k t).symm
  · intro k b0 hb0; cases hb0

end Influx.Model.Compact
