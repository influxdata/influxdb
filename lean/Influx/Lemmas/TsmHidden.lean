/-
  Lemmas.TsmHidden — what `Delete` / `DeleteRange` hide.  `H` is the list of
  (key, lo, hi) requests applied to the index so far.  The invariant `TInv ix H`
  is established by `mkIndex` and kept by every `delete` / `deleteRange`, hence by the
  batched replay of `TSMReader.applyTombstones`; from it (Lemmas.TsmVisible):
    * `ContainsValue k t`  ⇔  some block of k contains t  ∧  no request for k covers t;
    * a key missing from the index has its whole span covered by requests for it.
-/
import Influx.Model.TsmTomb
import Influx.Lemmas.TsmDelete
import Influx.Lemmas.TsmWindow

namespace Influx.Tsm
open Influx.Generated.TsmLayout

abbrev Hist := List (Key × Int × Int)

def coveredH (H : Hist) (k : Key) (t : Int) : Prop := ∃ r ∈ H, r.1 = k ∧ r.2.1 ≤ t ∧ t ≤ r.2.2

def spanIn (ke : KeyEntry) (t : Int) : Prop := ∃ mn mx, spanKE ke = some (mn, mx) ∧ mn ≤ t ∧ t ≤ mx

structure WFKE (ke : KeyEntry) : Prop where
  within : ∀ e ∈ ke.entries, ∀ t, e.MinTime ≤ t → t ≤ e.MaxTime → spanIn ke t
  int64 : ∀ t, spanIn ke t → minInt64 ≤ t ∧ t ≤ maxInt64

structure TInv (ix : Index) (H : Hist) : Prop where
  inv : IndexInv ix
  wf : ∀ ke ∈ ix.all, WFKE ke
  range : ∀ ke ∈ ix.all, ∀ t, spanIn ke t → ix.minTime ≤ t ∧ t ≤ ix.maxTime
  sound : ∀ k r, r ∈ tombRange ix k → (k, r.Min, r.Max) ∈ H
  absent : ∀ ke ∈ ix.all, ke ∉ ix.live → ∀ t, spanIn ke t → coveredH H ke.key t
  recorded : ∀ ke ∈ ix.live, ∀ r ∈ H, r.1 = ke.key → ∀ t, r.2.1 ≤ t → t ≤ r.2.2 → spanIn ke t →
    coveredTR (tombRange ix ke.key) t
  sortedTR : ∀ k, MinSorted (tombRange ix k)

def reqs (keys : List Key) (lo hi : Int) : Hist := keys.map fun k => (k, lo, hi)

theorem mem_reqs {keys : List Key} {lo hi : Int} {r : Key × Int × Int} :
    r ∈ reqs keys lo hi ↔ r.1 ∈ keys ∧ r.2.1 = lo ∧ r.2.2 = hi := by
  obtain ⟨k, a, b⟩ := r
  simp only [reqs, List.mem_map, Prod.mk.injEq]
  constructor
  · rintro ⟨x, hx, rfl, rfl, rfl⟩; exact ⟨hx, rfl, rfl⟩
  · rintro ⟨h1, rfl, rfl⟩; exact ⟨k, h1, rfl, rfl, rfl⟩

theorem coveredH_mono {H H' : Hist} (h : ∀ r ∈ H, r ∈ H') {k : Key} {t : Int} (hc : coveredH H k t) :
    coveredH H' k t := by
  obtain ⟨r, hr, h1⟩ := hc; exact ⟨r, h r hr, h1⟩

/-- the invariant speaks of `H` as a set -/
theorem TInv_congr {ix : Index} {H H' : Hist} (hm : ∀ r, r ∈ H ↔ r ∈ H') (h : TInv ix H) : TInv ix H' :=
  ⟨h.inv, h.wf, h.range, fun k r hr => (hm _).mp (h.sound k r hr),
   fun ke hke hnl t ht => coveredH_mono (fun r hr => (hm r).mp hr) (h.absent ke hke hnl t ht),
   fun ke hke r hr => h.recorded ke hke r ((hm r).mpr hr), h.sortedTR⟩

theorem TInv_step {ix ix' : Index} {H : Hist} (h : TInv ix H) {keys : List Key} {lo hi : Int}
    (hf : ix'.all = ix.all ∧ ix'.minKey = ix.minKey ∧ ix'.maxKey = ix.maxKey ∧
      ix'.minTime = ix.minTime ∧ ix'.maxTime = ix.maxTime)
    (hsub : ix'.live.Sublist ix.live)
    (htr : ∀ k, tombRange ix' k = tombRange ix k ∨
      (k ∈ keys ∧ MinSorted (tombRange ix' k) ∧ ∀ r, r ∈ tombRange ix' k ↔ r ∈ tombRange ix k ∨ r = ⟨lo, hi⟩))
    (hgone : ∀ ke ∈ ix.live, ke ∉ ix'.live →
      ke.key ∈ keys ∧ ∀ t, spanIn ke t → coveredTR (⟨lo, hi⟩ :: tombRange ix ke.key) t)
    (hrec : ∀ ke ∈ ix'.live, ke.key ∈ keys → ∀ t, spanIn ke t → lo ≤ t → t ≤ hi →
      coveredTR (tombRange ix' ke.key) t) :
    TInv ix' (H ++ reqs keys lo hi) := by
  obtain ⟨ha, hmk, hMk, hmt, hMt⟩ := hf
  refine ⟨⟨by rw [ha]; exact h.inv.sortedAll, by rw [ha]; exact hsub.trans h.inv.sub,
      by rw [hmk, ha]; exact h.inv.minK, by rw [hMk, ha]; exact h.inv.maxK⟩,
    by rw [ha]; exact h.wf, by rw [ha, hmt, hMt]; exact h.range, ?_, ?_, ?_, ?_⟩
  · intro k r hr
    rcases htr k with e | ⟨hk, _, e⟩
    · exact List.mem_append_left _ (h.sound k r (e ▸ hr))
    · rcases (e r).mp hr with hr | rfl
      · exact List.mem_append_left _ (h.sound k r hr)
      · exact List.mem_append_right _ (mem_reqs.mpr ⟨hk, rfl, rfl⟩)
  · rw [ha]
    intro ke hke hnl t ht
    by_cases hl : ke ∈ ix.live
    · obtain ⟨hk, hc⟩ := hgone ke hl hnl
      obtain ⟨r, hr, h12⟩ := hc t ht
      rcases List.mem_cons.mp hr with rfl | hr
      · exact ⟨(ke.key, lo, hi), List.mem_append_right _ (mem_reqs.mpr ⟨hk, rfl, rfl⟩), rfl, h12⟩
      · exact ⟨(ke.key, r.Min, r.Max), List.mem_append_left _ (h.sound ke.key r hr), rfl, h12⟩
    · exact coveredH_mono (fun r hr => List.mem_append_left _ hr) (h.absent ke hke hl t ht)
  · intro ke hke r hr hrk t h1 h2 hs
    rcases List.mem_append.mp hr with hr | hr
    · obtain ⟨x, hx, hx12⟩ := h.recorded ke (hsub.subset hke) r hr hrk t h1 h2 hs
      refine ⟨x, ?_, hx12⟩
      rcases htr ke.key with e | ⟨_, _, e⟩
      · rw [e]; exact hx
      · exact (e x).mpr (Or.inl hx)
    · obtain ⟨hk, hlo, hhi⟩ := mem_reqs.mp hr
      exact hrec ke hke (hrk ▸ hk) t hs (hlo ▸ h1) (hhi ▸ h2)
  · intro k
    rcases htr k with e | ⟨_, hs, _⟩
    · rw [e]; exact h.sortedTR k
    · exact hs

theorem TInv_delete_of {ix : Index} {H : Hist} (h : TInv ix H) {ks keys : List Key} (hk : ∀ k, k ∈ ks ↔ k ∈ keys) :
    TInv (delete ix ks) (H ++ reqs keys minInt64 maxInt64) := by
  have hl := delete_live ix h.inv ks
  obtain ⟨ht, hf⟩ := delete_fields ix ks
  refine TInv_step h hf (hl ▸ List.filter_sublist) (fun k => Or.inl (by unfold tombRange; rw [ht])) ?_ ?_
  · -- removed now: its key is in `keys`, and the full range covers every int64 time
    intro ke hke hnl
    have hin : ke.key ∈ ks := Decidable.by_contra fun hc =>
      hnl (hl ▸ List.mem_filter.mpr ⟨hke, by simp [hc]⟩)
    exact ⟨(hk _).mp hin, fun t ht =>
      ⟨⟨minInt64, maxInt64⟩, List.mem_cons_self, (h.wf ke (h.inv.sub.subset hke)).int64 t ht⟩⟩
  · intro ke hke hkk
    rw [hl] at hke
    exact absurd ((hk _).mpr hkk) (by simpa using (List.mem_filter.mp hke).2)

theorem TInv_delete (ix : Index) (H : Hist) (h : TInv ix H) (keys : List Key) :
    TInv (delete ix keys) (H ++ reqs keys minInt64 maxInt64) := TInv_delete_of h fun _ => Iff.rfl

theorem outcome_spec (ix : Index) (lo hi : Int) (ke : KeyEntry) :
    match outcome ix lo hi ke with
    | .skip => ∀ t, spanIn ke t → ¬ (lo ≤ t ∧ t ≤ hi)
    | .full => ∀ t, spanIn ke t → lo ≤ t ∧ t ≤ hi
    | .recd ts g => ts = sortTR (tombRange ix ke.key ++ [⟨lo, hi⟩]) ∧
        (g = true → ∀ t, spanIn ke t → coveredTR ts t) := by
  cases hs : spanKE ke with
  | none =>
    rw [outcome_none hs]
    intro t ⟨_, _, h, _⟩
    rw [hs] at h; cases h
  | some p =>
    obtain ⟨mn, mx⟩ := p
    have hsp : ∀ t, spanIn ke t → mn ≤ t ∧ t ≤ mx := fun t ⟨_, _, h, h12⟩ => by
      rw [hs] at h; cases h; exact h12
    rw [outcome_some hs]
    by_cases c1 : (decide (lo > mx) || decide (hi < mn)) = true
    · rw [if_pos c1]
      simp only [Bool.or_eq_true, decide_eq_true_eq] at c1
      intro t ht ⟨a, b⟩
      rcases c1 with c | c
      · exact absurd (Int.le_trans a (hsp t ht).2) (Int.not_le.mpr c)
      · exact absurd (Int.le_trans (hsp t ht).1 b) (Int.not_le.mpr c)
    · rw [if_neg c1]
      by_cases c2 : (decide (lo ≤ mn) && decide (hi ≥ mx)) = true
      · rw [if_pos c2]
        simp only [Bool.and_eq_true, decide_eq_true_eq] at c2
        exact fun t ht => ⟨Int.le_trans c2.1 (hsp t ht).1, Int.le_trans (hsp t ht).2 c2.2⟩
      · rw [if_neg c2]
        refine ⟨rfl, fun hg t ht => ?_⟩
        simp only [Bool.and_eq_true, decide_eq_true_eq] at hg
        exact window_covered _ (minSorted_sortTR _) _ _ rfl mn mx hg.1 hg.2 t (hsp t ht).1 (hsp t ht).2

theorem outcome_recorded {ix : Index} {lo hi : Int} {ke : KeyEntry} {ts : List TimeRange}
    (h : (outcome ix lo hi ke).recorded = some ts) : ts = sortTR (tombRange ix ke.key ++ [⟨lo, hi⟩]) := by
  have := outcome_spec ix lo hi ke
  cases ho : outcome ix lo hi ke <;> rw [ho] at h this <;> cases h
  exact this.1

theorem outcome_gone {ix : Index} {lo hi : Int} {ke : KeyEntry} (h : (outcome ix lo hi ke).gone = true) :
    ∀ t, spanIn ke t → coveredTR (⟨lo, hi⟩ :: tombRange ix ke.key) t := by
  intro t ht
  have := outcome_spec ix lo hi ke
  cases ho : outcome ix lo hi ke <;> rw [ho] at h this
  · cases h
  · exact ⟨⟨lo, hi⟩, List.mem_cons_self, this t ht⟩
  · obtain ⟨r, hr, h12⟩ := this.2 h t ht
    rw [this.1, mem_sortTR] at hr
    exact ⟨r, by simpa [or_comm] using hr, h12⟩

theorem outcome_kept {ix : Index} {lo hi : Int} {ke : KeyEntry} (h : (outcome ix lo hi ke).gone = false)
    {t : Int} (ht : spanIn ke t) (h1 : lo ≤ t) (h2 : t ≤ hi) : ∃ ts, (outcome ix lo hi ke).recorded = some ts := by
  have := outcome_spec ix lo hi ke
  cases ho : outcome ix lo hi ke <;> rw [ho] at h this
  · exact absurd ⟨h1, h2⟩ (this t ht)
  · cases h
  · exact ⟨_, rfl⟩

theorem mem_recList {ix : Index} {lo hi : Int} {T : List KeyEntry} {k : Key} {ts : List TimeRange} :
    (k, ts) ∈ recList ix lo hi T ↔ ∃ x ∈ T, x.key = k ∧ (outcome ix lo hi x).recorded = some ts := by
  simp only [recList, List.mem_filterMap, Option.map_eq_some_iff, Prod.mk.injEq]
  constructor
  · rintro ⟨x, hx, _, hr, hk, rfl⟩; exact ⟨x, hx, hk, hr⟩
  · rintro ⟨x, hx, hk, hr⟩; exact ⟨x, hx, ts, hr, hk, rfl⟩

theorem find?_mapSet (m : List (Key × List TimeRange)) (k k' : Key) (v : List TimeRange) :
    (mapSet m k v).find? (fun p => p.1 = k') = if k = k' then some (k, v) else m.find? (fun p => p.1 = k') := by
  induction m with
  | nil => by_cases h : k = k' <;> simp [mapSet, h]
  | cons p m ih =>
    obtain ⟨k0, v0⟩ := p
    rw [mapSet]
    by_cases h0 : k0 = k
    · subst h0; rw [if_pos rfl, List.find?_cons, List.find?_cons]; by_cases h : k0 = k' <;> simp [h]
    · rw [if_neg h0, List.find?_cons, List.find?_cons, ih]
      by_cases h : k0 = k'
      · have : ¬ k = k' := fun e => h0 (h.trans e.symm)
        simp [h, this]
      · simp [h]

theorem find?_foldl_mapSet (L : List (Key × List TimeRange)) (hd : L.Pairwise fun p q => p.1 ≠ q.1) (k : Key) :
    ∀ m0 : List (Key × List TimeRange),
      (L.foldl (fun m p => mapSet m p.1 p.2) m0).find? (fun p => p.1 = k) =
        (L.find? (fun p => p.1 = k)).or (m0.find? (fun p => p.1 = k)) := by
  induction L with
  | nil => intro m0; rfl
  | cons p L ih =>
    intro m0
    obtain ⟨k0, v0⟩ := p
    obtain ⟨hp, hd⟩ := List.pairwise_cons.mp hd
    rw [List.foldl_cons, ih hd, find?_mapSet, List.find?_cons]
    by_cases hk : k0 = k
    · rw [if_pos hk, List.find?_eq_none.mpr fun q hq => by simpa [← hk] using (hp q hq).symm]
      simp [hk]
    · simp [hk]

theorem TInv_deleteRange (ix : Index) (H : Hist) (h : TInv ix H) (keys : List Key) (lo hi : Int) :
    TInv (deleteRange ix keys lo hi) (H ++ reqs keys lo hi) := by
  by_cases hk : keys = []
  · rw [deleteRange_eq, if_pos hk, hk]
    rw [show reqs [] lo hi = [] from rfl, List.append_nil]; exact h
  by_cases hfull : lo = minInt64 ∧ hi = maxInt64
  · rw [deleteRange_eq, if_neg hk, if_pos hfull, hfull.1, hfull.2]
    exact TInv_delete_of h (mem_sortKeys keys)
  by_cases hout : lo > ix.maxTime ∨ hi < ix.minTime
  · rw [deleteRange_eq, if_neg hk, if_neg hfull, if_pos hout]
    refine TInv_step h ⟨rfl, rfl, rfl, rfl, rfl⟩ (List.Sublist.refl _) (fun k => Or.inl rfl)
      (fun ke hke hn => absurd hke hn) ?_
    intro ke hke _ t hs h1 h2
    have := h.range ke (h.inv.sub.subset hke) t hs
    rcases hout with c | c
    · exact absurd (Int.le_trans h1 this.2) (Int.not_le.mpr c)
    · exact absurd (Int.le_trans this.1 h2) (Int.not_le.mpr c)
  obtain ⟨hlive, htombs, hf⟩ := deleteRange_main ix h.inv keys lo hi hk hfull hout
  generalize deleteRange ix keys lo hi = ix' at *
  generalize hT : (ix.live.filter fun ke => decide (ke.key ∈ keys)) = T at hlive htombs
  have hTm : ∀ x ∈ T, x ∈ ix.live ∧ x.key ∈ keys := fun x hx => by rw [← hT] at hx; simpa using hx
  have hd : (recList ix lo hi T).Pairwise fun p q => p.1 ≠ q.1 :=
    List.Pairwise.filterMap _ (fun a b hab p hp q hq => by
      obtain ⟨_, _, rfl⟩ := Option.map_eq_some_iff.mp hp
      obtain ⟨_, _, rfl⟩ := Option.map_eq_some_iff.mp hq
      exact klt_ne hab) (hT ▸ h.inv.sortedLive.sublist List.filter_sublist)
  have htr : ∀ k, tombRange ix' k = match (recList ix lo hi T).find? (fun p => p.1 = k) with
      | some p => p.2
      | none => tombRange ix k := by
    intro k
    unfold tombRange
    rw [htombs, find?_foldl_mapSet _ hd]
    cases (recList ix lo hi T).find? (fun p => p.1 = k) <;> rfl
  have hrl : ∀ k p, (recList ix lo hi T).find? (fun p => p.1 = k) = some p →
      k ∈ keys ∧ p.2 = sortTR (tombRange ix k ++ [⟨lo, hi⟩]) := by
    intro k p hp
    obtain ⟨x, hx, hxk, hxr⟩ := mem_recList.mp (List.mem_of_find?_eq_some hp)
    have hpk : p.1 = k := by simpa using List.find?_some hp
    rw [← hpk, ← hxk]
    exact ⟨(hTm x hx).2, outcome_recorded hxr⟩
  refine TInv_step h hf (hlive ▸ List.filter_sublist) ?_ ?_ ?_
  · intro k
    rw [htr k]
    cases hp : (recList ix lo hi T).find? (fun p => p.1 = k) with
    | none => exact Or.inl rfl
    | some p =>
      obtain ⟨hkk, hts⟩ := hrl k p hp
      right
      dsimp only
      rw [hts]
      exact ⟨hkk, minSorted_sortTR _, fun r => by rw [mem_sortTR, List.mem_append, List.mem_singleton]⟩
  · intro ke hke hnl
    have hg : ke.key ∈ goneKeys ix lo hi T := Decidable.by_contra fun hc =>
      hnl (hlive ▸ List.mem_filter.mpr ⟨hke, by simp [hc]⟩)
    obtain ⟨x, hx, hxk⟩ := List.mem_map.mp hg
    obtain ⟨hxT, hxg⟩ := List.mem_filter.mp hx
    have : x = ke := sorted_key_inj h.inv.sortedLive (hTm x hxT).1 hke hxk
    subst this
    exact ⟨(hTm x hxT).2, outcome_gone hxg⟩
  · intro ke hke hkk t hs h1 h2
    rw [hlive] at hke
    obtain ⟨hl, hng⟩ := List.mem_filter.mp hke
    have hT' : ke ∈ T := by rw [← hT]; exact List.mem_filter.mpr ⟨hl, by simpa using hkk⟩
    have hng : ke.key ∉ goneKeys ix lo hi T := by simpa using hng
    have hng' : (outcome ix lo hi ke).gone = false := by
      cases hg : (outcome ix lo hi ke).gone
      · rfl
      · exact absurd (List.mem_map.mpr ⟨ke, List.mem_filter.mpr ⟨hT', hg⟩, rfl⟩) hng
    obtain ⟨ts, hts⟩ := outcome_kept hng' hs h1 h2
    rw [htr]
    cases hp : (recList ix lo hi T).find? (fun p => p.1 = ke.key) with
    | none => exact absurd (List.find?_eq_none.mp hp (ke.key, ts) (mem_recList.mpr ⟨ke, hT', rfl, hts⟩)) (by simp)
    | some p =>
      dsimp only
      rw [(hrl _ p hp).2]
      exact ⟨⟨lo, hi⟩, by rw [mem_sortTR]; simp, h1, h2⟩

/-! `TSMReader.applyTombstones`: walking tombstones and applying them in batches of equal
  (min, max) applies exactly the walked tombstones as requests. -/

def toReq (t : Tombstone) : Key × Int × Int := (t.key, t.min, t.max)

theorem map_toReq (ks : List Key) (lo hi : Int) :
    (ks.map fun k => (⟨k, lo, hi⟩ : Tombstone)).map toReq = reqs ks lo hi := by
  rw [List.map_map]; rfl

/-- the index after `applyTombstones` has processed the walked tombstones `ws` -/
def applyWalked (ix : Index) (ws : List Tombstone) : Index :=
  let s := ws.foldl abStep { ix := ix }
  if s.batch.isEmpty then s.ix else deleteRange s.ix s.batch s.cur.min s.cur.max

/-- where the loop of `applyTombstones` stands after the tombstones `done`: applying the pending
    batch with the range (lo, hi) to `ix` would make the applied requests those of `H0` and `done` -/
def Applied (ix0 : Index) (H0 : Hist) (done : List Tombstone) (ix : Index) (batch : List Key) (lo hi : Int) : Prop :=
  ix.all = ix0.all ∧ ∃ H, TInv ix H ∧ ∀ r, r ∈ H ++ reqs batch lo hi ↔ r ∈ H0 ++ done.map toReq

variable {ix0 ix : Index} {H0 : Hist} {done : List Tombstone} {batch : List Key} {lo hi : Int}

theorem Applied.flush (h : Applied ix0 H0 done ix batch lo hi) (lo' hi' : Int) :
    Applied ix0 H0 done (deleteRange ix batch lo hi) [] lo' hi' := by
  obtain ⟨ha, H, hT, hset⟩ := h
  refine ⟨(deleteRange_all ix batch lo hi).trans ha, _, TInv_deleteRange ix H hT batch lo hi, fun r => ?_⟩
  rw [show reqs [] lo' hi' = [] from rfl, List.append_nil]
  exact hset r

theorem Applied.push (h : Applied ix0 H0 done ix batch lo hi) (t : Tombstone)
    (hb : batch = [] ∨ (lo = t.min ∧ hi = t.max)) :
    Applied ix0 H0 (done ++ [t]) ix (batch ++ [t.key]) t.min t.max := by
  obtain ⟨ha, H, hT, hset⟩ := h
  have e : reqs (batch ++ [t.key]) t.min t.max = reqs batch lo hi ++ [toReq t] := by
    rcases hb with rfl | ⟨rfl, rfl⟩ <;> simp [reqs, toReq]
  refine ⟨ha, H, hT, fun r => ?_⟩
  rw [e, ← List.append_assoc, List.map_append, ← List.append_assoc, List.mem_append, hset, List.mem_append (s := H0 ++ _)]
  rfl

theorem Applied.result (h : Applied ix0 H0 done ix [] lo hi) :
    TInv ix (H0 ++ done.map toReq) ∧ ix.all = ix0.all := by
  obtain ⟨ha, H, hT, hset⟩ := h
  refine ⟨TInv_congr (fun r => ?_) hT, ha⟩
  rw [← hset r, show reqs [] lo hi = [] from rfl, List.append_nil]

/-- the loop invariant: `prev` carries the range of the pending batch, and `cur` equals `prev`
    between two tombstones -/
def ABInv (ix0 : Index) (H0 : Hist) (done : List Tombstone) (s : ABState) : Prop :=
  Applied ix0 H0 done s.ix s.batch s.prev.min s.prev.max ∧ s.cur = s.prev

theorem abStep_inv (s : ABState) (t : Tombstone) (h : ABInv ix0 H0 done s) :
    ABInv ix0 H0 (done ++ [t]) (abStep s t) := by
  obtain ⟨h, _⟩ := h
  unfold abStep
  dsimp only
  by_cases hflush : (!s.batch.isEmpty && (decide (s.prev.min ≠ t.min) || decide (s.prev.max ≠ t.max))) = true
  · rw [if_pos hflush, if_neg (by simp)]
    exact ⟨(h.flush s.prev.min s.prev.max).push t (Or.inl rfl), rfl⟩
  · rw [if_neg hflush]
    have hb : s.batch = [] ∨ (s.prev.min = t.min ∧ s.prev.max = t.max) := by
      cases hs : s.batch with
      | nil => exact Or.inl rfl
      | cons a l => right; simpa [hs] using hflush
    have h2 := h.push t hb
    by_cases hbig : (s.batch ++ [t.key]).length ≥ 4096
    · -- a full batch is applied with `prev`'s range, which is `t`'s: the batch had earlier keys
      rw [if_pos (by simpa using hbig)]
      have hr : s.prev.min = t.min ∧ s.prev.max = t.max :=
        hb.resolve_left fun he => by rw [he] at hbig; simp at hbig
      rw [hr.1, hr.2]
      exact ⟨h2.flush t.min t.max, rfl⟩
    · rw [if_neg (by simpa using hbig)]
      exact ⟨h2, rfl⟩

theorem foldl_abStep_inv (ws : List Tombstone) :
    ∀ (done : List Tombstone) (s : ABState), ABInv ix0 H0 done s → ABInv ix0 H0 (done ++ ws) (ws.foldl abStep s) := by
  induction ws with
  | nil => intro done s h; simpa using h
  | cons t ws ih =>
    intro done s h
    simpa using ih (done ++ [t]) (abStep s t) (abStep_inv s t h)

theorem applyWalked_inv (ix : Index) (H0 : Hist) (h : TInv ix H0) (ws : List Tombstone) :
    TInv (applyWalked ix ws) (H0 ++ ws.map toReq) ∧ (applyWalked ix ws).all = ix.all := by
  obtain ⟨hA, hcur⟩ := foldl_abStep_inv (ix0 := ix) (H0 := H0) ws [] { ix := ix } ⟨⟨rfl, H0, h, fun _ => Iff.rfl⟩, rfl⟩
  unfold applyWalked
  dsimp only
  split
  · next hb =>
    rw [List.isEmpty_iff.mp hb] at hA
    exact Applied.result hA
  · rw [hcur]
    exact (Applied.flush hA 0 0).result

end Influx.Tsm
