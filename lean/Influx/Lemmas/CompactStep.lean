/-
  Lemmas.CompactStep — `chunk<T>`, the fast path `combine<T>(dedup = false)` and
  `merge<T>()` as a whole preserve the per-key invariant.
-/
import Influx.Lemmas.CompactSortL

namespace Influx.Model.Compact
open Influx.Generated

variable {V : Type}

/-- an output block's index entry is the first / last timestamp of its (non-empty) values -/
def OBlkOK (o : OBlk V) : Prop :=
  ∃ a z, o.pts.head? = some a ∧ o.pts.getLast? = some z ∧ o.minTime = a.1 ∧ o.maxTime = z.1

def outPts (os : List (OBlk V)) : Pts V := os.flatMap (·.pts)

@[simp] theorem outPts_nil : outPts ([] : List (OBlk V)) = [] := rfl
@[simp] theorem outPts_append (a b : List (OBlk V)) : outPts (a ++ b) = outPts a ++ outPts b := by
  simp [outPts]
@[simp] theorem outPts_cons (a : OBlk V) (b : List (OBlk V)) : outPts (a :: b) = a.pts ++ outPts b := by
  simp [outPts]

theorem head_getLast_of_ne {l : Pts V} (h : l ≠ []) : ∃ a z, l.head? = some a ∧ l.getLast? = some z := by
  cases l with
  | nil => exact absurd rfl h
  | cons x xs => exact ⟨x, _, rfl, List.getLast?_eq_some_getLast (by simp)⟩

theorem OBlkOK.length_pos {o : OBlk V} (h : OBlkOK o) : 1 ≤ o.pts.length := by
  obtain ⟨a, _, ha, _⟩ := h
  exact List.length_pos_iff.mpr fun h0 => by rw [h0] at ha; cases ha

theorem chunk_block {vals rest : Pts V} {dst out : List (OBlk V)} {mv' : Pts V}
    (h : (do let lo ← ptsMin vals; let hi ← ptsMax vals; pure (dst ++ [⟨lo, hi, vals⟩], rest) : M _) =
      .ok (out, mv')) :
    ∃ o, OBlkOK o ∧ o.pts = vals ∧ out = dst ++ [o] ∧ mv' = rest := by
  cases vals with
  | nil => cases h
  | cons x xs =>
    obtain ⟨a, z, ha, hz⟩ := head_getLast_of_ne (List.cons_ne_nil x xs)
    simp only [ptsMin_of_head ha, ptsMax_of_last hz, bind, Except.bind, pure, Except.pure,
      Except.ok.injEq, Prod.mk.injEq] at h
    exact ⟨_, ⟨a, z, ha, hz, rfl, rfl⟩, rfl, h.1.symm, h.2.symm⟩

/-- `chunk<T>(dst)` -/
theorem chunk_spec (size : Nat) (dst : List (OBlk V)) (mv : Pts V) (out : List (OBlk V)) (mv' : Pts V)
    (h : chunk size dst mv = .ok (out, mv')) :
    ∃ new, out = dst ++ new ∧ outPts new ++ mv' = mv ∧
      (∀ o ∈ new, OBlkOK o ∧ 1 ≤ o.pts.length ∧ o.pts.length ≤ size) ∧
      (mv ≠ [] → new ≠ []) ∧ (mv.length ≤ size → mv' = []) := by
  rw [chunk] at h
  split at h
  · next hgt =>
    obtain ⟨o, ho, hp, rfl, rfl⟩ := chunk_block h
    refine ⟨[o], rfl, by rw [outPts_cons, outPts_nil, List.append_nil, hp, List.take_append_drop], fun x hx => ?_,
      fun _ => List.cons_ne_nil _ _, fun hle => absurd hgt (Nat.not_lt.mpr hle)⟩
    obtain rfl := List.mem_singleton.mp hx
    exact ⟨ho, ho.length_pos, hp ▸ List.length_take_le _ _⟩
  · next hle =>
    split at h
    · obtain ⟨o, ho, hp, rfl, rfl⟩ := chunk_block h
      refine ⟨[o], rfl, by rw [outPts_cons, outPts_nil, List.append_nil, hp, List.append_nil], fun x hx => ?_,
        fun _ => List.cons_ne_nil _ _, fun _ => rfl⟩
      obtain rfl := List.mem_singleton.mp hx
      exact ⟨ho, ho.length_pos, hp ▸ Nat.not_lt.mp hle⟩
    · next hpos =>
      obtain ⟨rfl, rfl⟩ := Prod.mk.inj (Except.ok.inj h)
      have : mv = [] := List.length_eq_zero_iff.mp (Nat.eq_zero_of_not_pos hpos)
      exact ⟨[], (List.append_nil _).symm, List.nil_append _, by simp, fun h => absurd this h, fun _ => this⟩

/-- `O` = every value handed out so far (including the blocks still waiting in `k.merged`),
    `target` = the newest-wins content of the key's input blocks -/
structure KInv (T : Int) (st : KSt V) (O : Pts V) (target : Int → Option V) : Prop where
  hb : ∀ b ∈ st.blocks, BlockSt T b
  hasc : Asc (O ++ st.mv)
  hle : ∀ p ∈ O ++ st.mv, p.1 ≤ T
  hc : ∀ t, target t = (restAt st.blocks t).or (lookup (O ++ st.mv) t)

theorem KInv.congr {T : Int} {st st' : KSt V} {O O' : Pts V} {target : Int → Option V}
    (inv : KInv T st O target) (hb : st'.blocks = st.blocks) (hv : O' ++ st'.mv = O ++ st.mv) :
    KInv T st' O' target := by
  obtain ⟨h1, h2, h3, h4⟩ := inv
  exact ⟨hb ▸ h1, hv ▸ h2, hv ▸ h3, hb ▸ hv ▸ h4⟩

/-- one round of `combine` -/
theorem KInv.step {T T' : Int} {st : KSt V} {O : Pts V} {target : Int → Option V} (inv : KInv T st O target)
    {blocks' : List (Block V)} {N : Pts V} (mg : List (OBlk V)) (a : Advance T T' st.blocks st.mv blocks' N) :
    KInv T' ⟨blocks', N, mg⟩ O target := by
  obtain ⟨hascO, _, hOmv⟩ := asc_append.mp inv.hasc
  have hO : ∀ p ∈ O, p.1 ≤ T := fun p hp => inv.hle p (List.mem_append_left _ hp)
  refine ⟨a.hb, asc_append.mpr ⟨hascO, a.asc, fun p hp q hq => ?_⟩, fun p hp => ?_, fun t => ?_⟩
  · exact (a.orig q hq).elim (hOmv p hp q) (Int.lt_of_le_of_lt (hO p hp))
  · exact (List.mem_append.mp hp).elim (fun h => Int.le_trans (hO p h) a.le) (a.hle p)
  · show target t = (restAt blocks' t).or (lookup (O ++ N) t)
    rw [inv.hc t, lookup_append, lookup_append]
    cases hOt : lookup O t with
    | none => rw [Option.none_or, Option.none_or, a.same t]
    | some v =>
      -- at or below the old frontier no block has anything left
      have ht := hO _ (lookup_some_mem hOt)
      rw [restAt_none_le inv.hb ht, restAt_none_le a.hb (Int.le_trans ht a.le)]; rfl

theorem passThrough_ok {b : Block V} (w : BlockWF b) : OBlkOK (passThrough b) := by
  obtain ⟨a, ha, ha'⟩ := w.hmin
  obtain ⟨z, hz, hz'⟩ := w.hmax
  exact ⟨a, z, ha, hz, ha'.symm, hz'.symm⟩

def IsPass (P : List (Block V)) (o : OBlk V) : Prop :=
  ∃ b ∈ P, CompactBlock.read b = false ∧ o = passThrough b

theorem IsPass.mono {P Q : List (Block V)} {o : OBlk V} (h : IsPass P o) (hPQ : ∀ b ∈ P, b ∈ Q) : IsPass Q o := by
  obtain ⟨b, hb, hr⟩ := h
  exact ⟨b, hPQ b hb, hr⟩

/-- what a `merge<T>()` call promises -/
structure StepOut (size : Nat) (T : Int) (st st' : KSt V) (O : Pts V) (target : Int → Option V) : Prop where
  hex : ∃ T', T ≤ T' ∧ KInv T' st' (O ++ outPts st'.merged) target
  hout : ∀ o ∈ st'.merged, OBlkOK o ∧ ((1 ≤ o.pts.length ∧ o.pts.length ≤ size) ∨ IsPass st.blocks o)
  hlen : st'.blocks.length ≤ st.blocks.length
  hsame : ∀ b' ∈ st'.blocks, ∃ b ∈ st.blocks, SameStatic b' b
  hempty : 0 < size → st'.merged = [] → st'.mv = [] ∧ st'.blocks = []

/-- The end of `combine`: `chunk` cuts the next block off the pending values `W`, behind the
    blocks `dst` forwarded as they are. -/
theorem stepOut_chunk {size : Nat} {T T' : Int} {st : KSt V} {O : Pts V} {target : Int → Option V}
    {blocks' : List (Block V)} {dst : List (OBlk V)} {W : Pts V} (hT : T ≤ T')
    (inv : KInv T' ⟨blocks', outPts dst ++ W, []⟩ O target)
    (hdst : ∀ o ∈ dst, IsPass st.blocks o)
    (hw : ∀ b ∈ st.blocks, BlockWF b)
    (hlen : blocks'.length ≤ st.blocks.length) (hsame : ∀ b' ∈ blocks', ∃ b ∈ st.blocks, SameStatic b' b)
    (hfull : size ≤ W.length ∨ blocks' = [])
    {c : List (OBlk V) × Pts V} (h : chunk size dst W = .ok c) :
    StepOut size T st ⟨blocks', c.2, c.1⟩ O target := by
  obtain ⟨new, c1, c2, c3, c4, c5⟩ := chunk_spec size dst W c.1 c.2 h
  refine ⟨⟨T', hT, inv.congr rfl ?_⟩, fun o ho => ?_, hlen, hsame, fun hs hm => ?_⟩
  · show (O ++ outPts c.1) ++ c.2 = O ++ (outPts dst ++ W)
    rw [c1, outPts_append, ← c2]; simp only [List.append_assoc]
  · rw [c1] at ho
    rcases List.mem_append.mp ho with hx | hx
    · obtain ⟨b, hb, hr, rfl⟩ := hdst o hx
      exact ⟨passThrough_ok (hw b hb), Or.inr ⟨b, hb, hr, rfl⟩⟩
    · exact ⟨(c3 o hx).1, Or.inl (c3 o hx).2⟩
  · have hnew : new = [] := (List.append_eq_nil_iff.mp (c1 ▸ hm : dst ++ new = [])).2
    have hW : W = [] := Classical.byContradiction fun h0 => c4 h0 hnew
    refine ⟨c5 (by rw [hW]; exact Nat.zero_le _), hfull.resolve_left fun h0 => ?_⟩
    rw [hW] at h0; exact absurd h0 (Nat.not_le.mpr hs)

/-- `combine<T>(dedup = true)` -/
theorem combine_dedup_spec (cfg : Cfg) {T : Int} {st st' : KSt V} {O : Pts V} {target : Int → Option V}
    (inv : KInv T st O target) (hadj : AdjOK st.blocks)
    (h : combine cfg true st = .ok st') : StepOut cfg.size T st st' O target := by
  rw [combine, if_pos rfl] at h
  dsimp only at h
  cases hd : dedupLoop cfg.size (st.blocks.length + (st.blocks.map (·.pts.length)).sum + 2) st.blocks st.mv with
  | error e => rw [hd] at h; cases h
  | ok r =>
    obtain ⟨T', ad, d7, d8, d9⟩ := dedupLoop_spec cfg.size _ st.blocks st.mv T inv.hb hadj
      (asc_append.mp inv.hasc).2.1 (fun p hp => inv.hle p (List.mem_append_right _ hp)) r.1 r.2 hd
    rw [hd] at h
    simp only [bind, Except.bind] at h
    cases hch : chunk cfg.size [] r.2 with
    | error e => rw [hch] at h; cases h
    | ok c =>
      rw [hch] at h
      obtain rfl := Except.ok.inj h
      exact stepOut_chunk (dst := []) (W := r.2) ad.le (inv.step [] ad) (by simp) (fun b hb => (inv.hb b hb).wf) d7 d9 d8 hch

def Clean (b : Block V) : Prop := b.tombstones = [] ∧ CompactBlock.partiallyRead b = false

/-- the read marks of an untouched block, `[MaxInt64, MinInt64]`, exclude nothing -/
theorem vExclude_sentinel {l : Pts V} (h : ∀ p ∈ l, InR p.1) : vExclude maxInt64 minInt64 l = l := by
  refine List.filter_eq_self.mpr fun p hp => ?_
  have := (h p hp).2
  simp only [Bool.not_eq_true', Bool.and_eq_false_iff, decide_eq_false_iff_not]
  exact Or.inl (Int.not_le.mpr this)

theorem clean_cases {T : Int} {b : Block V} (s : BlockSt T b) (c : Clean b) :
    (CompactBlock.read b = true ∧ live b = []) ∨
    (CompactBlock.read b = false ∧ live b = b.pts ∧ ∀ p ∈ b.pts, T < p.1) := by
  obtain ⟨ct, cp⟩ := c
  rcases (partiallyRead_false_iff b).mp cp with ⟨h1, h2⟩ | ⟨h1, h2⟩
  · right
    -- inside the sentinels `[MaxInt64, MinInt64]` there is no timestamp
    have hall : ∀ p ∈ b.pts, T < p.1 := fun p hp => Int.not_le.mp fun hle =>
      absurd (h1 ▸ ((s.cons p hp).mp hle).1) (Int.not_le.mpr (s.wf.inr p hp).2)
    obtain ⟨z, hz, hz'⟩ := s.wf.max_mem
    refine ⟨?_, ?_, hall⟩
    · rw [← Bool.not_eq_true, s.read_iff', ← hz']; exact Int.not_le.mpr (hall z hz)
    · rw [live, unread, h1, h2, ct, vExclude_sentinel s.wf.inr]; rfl
  · left
    have hr : CompactBlock.read b = true := (read_iff b).mpr ⟨Int.le_of_eq h1, Int.le_of_eq h2.symm⟩
    refine ⟨hr, List.eq_nil_iff_forall_not_mem.mpr fun p hp => ?_⟩
    have := s.mem_live.mp hp
    exact absurd (Int.le_trans (s.wf.mem_range this.1).2 (s.read_iff'.mp hr)) (Int.not_le.mpr this.2.1)

def unreadPts (P : List (Block V)) : Pts V :=
  (P.filter (fun b => !CompactBlock.read b)).flatMap (·.pts)

@[simp] theorem unreadPts_nil : unreadPts ([] : List (Block V)) = [] := rfl
theorem unreadPts_append (A B : List (Block V)) : unreadPts (A ++ B) = unreadPts A ++ unreadPts B := by
  simp [unreadPts]
theorem unreadPts_cons_read {b : Block V} (h : CompactBlock.read b = true) (P : List (Block V)) :
    unreadPts (b :: P) = unreadPts P := by simp [unreadPts, h]
theorem unreadPts_cons_unread {b : Block V} (h : CompactBlock.read b = false) (P : List (Block V)) :
    unreadPts (b :: P) = b.pts ++ unreadPts P := by simp [unreadPts, h]

theorem mem_unreadPts {P : List (Block V)} {p : Int × V} (h : p ∈ unreadPts P) : ∃ b ∈ P, p ∈ b.pts := by
  simp only [unreadPts, List.mem_flatMap, List.mem_filter] at h
  obtain ⟨b, ⟨hb, _⟩, hp⟩ := h
  exact ⟨b, hb, hp⟩

def Ordered (L : List (Block V)) : Prop := L.Pairwise (fun a b => a.maxTime < b.minTime)

theorem clean_run {T : Int} {P : List (Block V)} (hst : ∀ b ∈ P, BlockSt T b) (hcl : ∀ b ∈ P, Clean b)
    (hord : Ordered P) :
    Asc (unreadPts P) ∧ (∀ p ∈ unreadPts P, T < p.1) ∧ ∀ t, restAt P t = lookup (unreadPts P) t := by
  induction P with
  | nil => exact ⟨asc_nil, by simp, fun _ => rfl⟩
  | cons b P ih =>
    have sb := hst b (by simp)
    obtain ⟨hafter, hord'⟩ := List.pairwise_cons.mp hord
    obtain ⟨r1, r2, r3⟩ := ih (fun c hc => hst c (List.mem_cons_of_mem _ hc))
      (fun c hc => hcl c (List.mem_cons_of_mem _ hc)) hord'
    rcases clean_cases sb (hcl b (by simp)) with ⟨hr, hl⟩ | ⟨hr, hl, hall⟩
    · rw [unreadPts_cons_read hr]
      exact ⟨r1, r2, fun t => by rw [restAt, hl, lookup_nil, Option.or_none, r3 t]⟩
    · rw [unreadPts_cons_unread hr]
      have hlater : ∀ p ∈ b.pts, ∀ q ∈ unreadPts P, p.1 < q.1 := fun p hp q hq => by
        obtain ⟨c, hc, hqc⟩ := mem_unreadPts hq
        exact Int.lt_of_le_of_lt (sb.wf.mem_range hp).2
          (Int.lt_of_lt_of_le (hafter c hc) ((hst c (List.mem_cons_of_mem _ hc)).wf.mem_range hqc).1)
      refine ⟨asc_append.mpr ⟨sb.wf.asc, r1, hlater⟩, fun p hp => ?_, fun t => ?_⟩
      · exact (List.mem_append.mp hp).elim (hall p) (r2 p)
      · rw [restAt, hl, r3 t, lookup_append]
        cases hb : lookup b.pts t with
        | none => rw [Option.or_none, Option.none_or]
        | some v =>
          rw [lookup_eq_none_of_lt (hlater _ (lookup_some_mem hb))]; rfl

theorem consume_prefix :
    ∀ (P R : List (Block V)) (T : Int),
      (∀ b ∈ P ++ R, BlockSt T b) → (∀ b ∈ P, Clean b) → Ordered (P ++ R) →
      ∃ T', T ≤ T' ∧ (∀ b ∈ R, BlockSt T' b) ∧ (∀ p ∈ unreadPts P, p.1 ≤ T') := by
  intro P
  induction P with
  | nil => exact fun R T hst _ _ => ⟨T, Int.le_refl _, hst, by simp⟩
  | cons b P ih =>
    intro R T hst hcl hord
    have sb := hst b (by simp)
    obtain ⟨hafter, hord'⟩ := List.pairwise_cons.mp hord
    have hcl' : ∀ c ∈ P, Clean c := fun c hc => hcl c (List.mem_cons_of_mem _ hc)
    by_cases hr : CompactBlock.read b = true
    · rw [unreadPts_cons_read hr]
      exact ih R T (fun c hc => hst c (List.mem_cons_of_mem _ hc)) hcl' hord'
    · -- untouched: the frontier moves to its last timestamp, below every later block
      have hTb : T ≤ b.maxTime := Int.le_of_lt (Int.not_le.mp (mt sb.read_iff'.mpr hr))
      obtain ⟨T', r1, r2, r3⟩ := ih R b.maxTime
        (fun c hc => (hst c (List.mem_cons_of_mem _ hc)).mono hTb fun _ => hafter c hc) hcl' hord'
      rw [unreadPts_cons_unread (by simpa using hr)]
      refine ⟨T', Int.le_trans hTb r1, r2, fun p hp => ?_⟩
      exact (List.mem_append.mp hp).elim (fun h => Int.le_trans (sb.wf.mem_range h).2 r1) (r3 p)

/-- a loop dropped a prefix of `L` whose untouched values are `pts`; `R` is left -/
def Consumed (L : List (Block V)) (pts : Pts V) (R : List (Block V)) : Prop :=
  ∃ P, L = P ++ R ∧ pts = unreadPts P

theorem Consumed.refl (L : List (Block V)) : Consumed L [] L := ⟨[], rfl, rfl⟩

theorem Consumed.trans {L R1 R2 : List (Block V)} {p1 p2 : Pts V} (h1 : Consumed L p1 R1)
    (h2 : Consumed R1 p2 R2) : Consumed L (p1 ++ p2) R2 := by
  obtain ⟨P1, rfl, rfl⟩ := h1
  obtain ⟨P2, rfl, rfl⟩ := h2
  exact ⟨P1 ++ P2, (List.append_assoc _ _ _).symm, (unreadPts_append _ _).symm⟩

theorem Consumed.cons_read {b : Block V} {L R : List (Block V)} {pts : Pts V} (hr : CompactBlock.read b = true)
    (h : Consumed L pts R) : Consumed (b :: L) pts R := by
  obtain ⟨P, rfl, rfl⟩ := h
  exact ⟨b :: P, rfl, (unreadPts_cons_read hr P).symm⟩

theorem Consumed.cons_unread {b : Block V} {L R : List (Block V)} {pts : Pts V}
    (hr : CompactBlock.read b = false) (h : Consumed L pts R) : Consumed (b :: L) (b.pts ++ pts) R := by
  obtain ⟨P, rfl, rfl⟩ := h
  exact ⟨b :: P, rfl, (unreadPts_cons_unread hr P).symm⟩

theorem Consumed.mem {L R : List (Block V)} {pts : Pts V} (h : Consumed L pts R) : ∀ b ∈ R, b ∈ L := by
  obtain ⟨P, rfl, _⟩ := h
  exact fun b hb => List.mem_append_right _ hb

/-- a forwarding loop over `L` emitted the untouched blocks of a prefix as they are (`o`) and left `R` -/
def Forwarded (L : List (Block V)) (o : List (OBlk V)) (R : List (Block V)) : Prop :=
  Consumed L (outPts o) R ∧ ∀ x ∈ o, IsPass L x

theorem Forwarded.trans {L R1 R2 : List (Block V)} {o1 o2 : List (OBlk V)} (h1 : Forwarded L o1 R1)
    (h2 : Forwarded R1 o2 R2) : Forwarded L (o1 ++ o2) R2 :=
  ⟨by rw [outPts_append]; exact h1.1.trans h2.1,
    fun x hx => (List.mem_append.mp hx).elim (h1.2 x) fun h => (h2.2 x h).mono h1.1.mem⟩

theorem passFull_spec (size : Nat) (L : List (Block V)) : Forwarded L (passFull size L).1 (passFull size L).2 := by
  induction L with
  | nil => exact ⟨Consumed.refl _, by simp [passFull]⟩
  | cons b L ih =>
    rw [passFull]
    split
    · next hr => exact ⟨ih.1.cons_read hr, fun x hx => (ih.2 x hx).mono fun _ => List.mem_cons_of_mem _⟩
    · next hr =>
      have hr : CompactBlock.read b = false := by simpa using hr
      split
      · exact ⟨Consumed.refl _, by simp⟩
      · refine ⟨ih.1.cons_unread hr, fun x hx => ?_⟩
        rcases List.mem_cons.mp hx with rfl | hx
        · exact ⟨b, by simp, hr, rfl⟩
        · exact (ih.2 x hx).mono fun _ => List.mem_cons_of_mem _

theorem passFastIf_spec (fast : Bool) (L : List (Block V)) :
    Forwarded L (passFastIf fast L).1 (passFastIf fast L).2 := by
  rw [passFastIf]
  split
  · refine ⟨⟨L, (List.append_nil L).symm, ?_⟩, fun x hx => ?_⟩
    · simp [passFast, outPts, unreadPts, List.flatMap_map, passThrough]
    · simp only [passFast, List.mem_map, List.mem_filter, Bool.not_eq_true'] at hx
      obtain ⟨b, ⟨hb, hr⟩, rfl⟩ := hx
      exact ⟨b, hb, hr, rfl⟩
  · exact ⟨Consumed.refl _, by simp⟩

theorem passLast_spec (L : List (Block V)) : Forwarded L (passLast L).1 (passLast L).2 := by
  unfold passLast
  split
  · next b =>
    by_cases hr : CompactBlock.read b = true
    · simp only [hr, Bool.not_true, Bool.false_eq_true, if_false]
      exact ⟨(Consumed.refl []).cons_read hr, by simp⟩
    · have hr : CompactBlock.read b = false := by simpa using hr
      simp only [hr, Bool.not_false, if_true]
      exact ⟨by simpa [passThrough] using (Consumed.refl []).cons_unread hr,
        fun x hx => ⟨b, by simp, hr, by simpa using hx⟩⟩
  · exact ⟨Consumed.refl _, by simp⟩

theorem decodeRest_spec {T : Int} (size : Nat) :
    ∀ (L : List (Block V)) (mv : Pts V),
      (∀ b ∈ L, BlockSt T b) → (∀ b ∈ L, Clean b) → Ordered L →
      (∀ p ∈ mv, ∀ b ∈ L, CompactBlock.read b = false → p.1 < b.minTime) →
      ∀ R mv', decodeRest size L mv = .ok (R, mv') →
        ∃ pts, Consumed L pts R ∧ mv' = mv ++ pts ∧ (size ≤ mv'.length ∨ R = []) := by
  intro L
  induction L with
  | nil =>
    intro mv _ _ _ _ R mv' h
    obtain ⟨rfl, rfl⟩ := Prod.mk.inj (Except.ok.inj h)
    exact ⟨[], Consumed.refl _, (List.append_nil _).symm, Or.inr rfl⟩
  | cons b L ih =>
    intro mv hst hcl hord hmv R mv' h
    have sb := hst b (by simp)
    have hstL : ∀ c ∈ L, BlockSt T c := fun c hc => hst c (List.mem_cons_of_mem _ hc)
    have hclL : ∀ c ∈ L, Clean c := fun c hc => hcl c (List.mem_cons_of_mem _ hc)
    obtain ⟨hafter, hordL⟩ := List.pairwise_cons.mp hord
    rw [decodeRest] at h
    split at h
    · split at h
      · next hr =>
        obtain ⟨pts, e1, e2, e3⟩ := ih mv hstL hclL hordL
          (fun p hp c hc => hmv p hp c (List.mem_cons_of_mem _ hc)) R mv' h
        exact ⟨pts, e1.cons_read hr, e2, e3⟩
      · next hr =>
        have hr : CompactBlock.read b = false := by simpa using hr
        -- the block starts above everything pending, so merging appends
        have happ : vMerge mv b.pts = mv ++ b.pts := vMerge_eq_append fun p hp q hq =>
          Int.lt_of_lt_of_le (hmv p hp b (by simp) hr) (sb.wf.mem_range hq).1
        simp only [sb.wf.ptsMax, bind, Except.bind, (hcl b (by simp)).1, applyTombs, List.foldl_nil, happ] at h
        obtain ⟨pts, e1, e2, e3⟩ := ih (mv ++ b.pts) hstL hclL hordL (fun p hp c hc hcr =>
          (List.mem_append.mp hp).elim (fun h1 => hmv p h1 c (List.mem_cons_of_mem _ hc) hcr)
            fun h1 => Int.lt_of_le_of_lt (sb.wf.mem_range h1).2 (hafter c hc)) R mv' h
        exact ⟨b.pts ++ pts, e1.cons_unread hr, by rw [e2, List.append_assoc], e3⟩
    · next hlt =>
      obtain ⟨rfl, rfl⟩ := Prod.mk.inj (Except.ok.inj h)
      exact ⟨[], Consumed.refl _, (List.append_nil _).symm, Or.inl (Nat.not_lt.mp hlt)⟩

theorem nodedup_tail_facts (bs : List (Block V)) (b0 : Block V) (hw : ∀ b ∈ bs, BlockWF b)
    (hadj : AdjFrom b0.minTime bs) (h : needDedupTail b0 bs = false) :
    (∀ c ∈ bs, b0.maxTime < c.minTime) ∧ Ordered bs ∧ ∀ c ∈ bs, Clean c := by
  induction bs generalizing b0 with
  | nil => exact ⟨by simp, List.Pairwise.nil, by simp⟩
  | cons b bs ih =>
    simp only [needDedupTail, Bool.or_eq_false_iff, decide_eq_false_iff_not] at h
    obtain ⟨⟨⟨hp, ho⟩, ht⟩, hrest⟩ := h
    obtain ⟨r1, r2, r3⟩ := ih b (fun c hc => hw c (List.mem_cons_of_mem _ hc)) hadj.2 hrest
    -- `b` does not overlap `b0` and, by the sort's adjacency, does not lie before it
    have hlt : b0.maxTime < b.minTime := Int.not_le.mp fun hle =>
      mt (overlaps_iff b b0.minTime b0.maxTime).mpr (by rw [ho]; exact Bool.false_ne_true) ⟨hle, hadj.1⟩
    have hmm := (hw b (List.mem_cons_self ..)).min_le_max
    exact ⟨List.forall_mem_cons.mpr ⟨hlt, fun c hc => Int.lt_of_lt_of_le hlt (Int.le_trans hmm (Int.le_of_lt (r1 c hc)))⟩,
      List.pairwise_cons.mpr ⟨r1, r2⟩,
      List.forall_mem_cons.mpr ⟨⟨List.length_eq_zero_iff.mp (Nat.eq_zero_of_not_pos ht), hp⟩, r3⟩⟩

/-- `merge<T>()` takes the fast path only with nothing pending and clean, time-ordered blocks -/
theorem needDedup_false {d : Bool} {L : List (Block V)} (hw : ∀ b ∈ L, BlockWF b) (hadj : AdjOK L)
    (h : needDedup d L = false) : d = false ∧ (∀ b ∈ L, Clean b) ∧ Ordered L := by
  cases L with
  | nil => exact ⟨h, by simp, List.Pairwise.nil⟩
  | cons b0 bs =>
    cases d with
    | true => cases h
    | false =>
      simp only [needDedup, Bool.not_false, if_true, Bool.or_eq_false_iff, decide_eq_false_iff_not] at h
      obtain ⟨r1, r2, r3⟩ := nodedup_tail_facts bs b0 (fun c hc => hw c (List.mem_cons_of_mem _ hc)) hadj h.2
      exact ⟨rfl, List.forall_mem_cons.mpr ⟨⟨List.length_eq_zero_iff.mp (Nat.eq_zero_of_not_pos h.1.1), h.1.2⟩, r3⟩,
        List.pairwise_cons.mpr ⟨r1, r2⟩⟩

/-- `combine<T>(dedup = false)` -/
theorem combine_nodedup_spec (cfg : Cfg) {T : Int} {st st' : KSt V} {O : Pts V} {target : Int → Option V}
    (inv : KInv T st O target) (hmv : st.mv = []) (hmerged : st.merged = [])
    (hcl : ∀ b ∈ st.blocks, Clean b) (hord : Ordered st.blocks)
    (h : combine cfg false st = .ok st') : StepOut cfg.size T st st' O target := by
  rw [combine, if_neg Bool.false_ne_true, hmv, hmerged] at h
  dsimp only at h
  have w1 := passFull_spec cfg.size st.blocks
  have w2 := passFastIf_spec cfg.fast (passFull cfg.size st.blocks).2
  have w3 := passLast_spec (passFastIf cfg.fast (passFull cfg.size st.blocks).2).2
  generalize (passFull cfg.size st.blocks).1 = o1 at h w1
  generalize (passFull cfg.size st.blocks).2 = R1 at h w1 w2 w3
  generalize (passFastIf cfg.fast R1).1 = o2 at h w2
  generalize (passFastIf cfg.fast R1).2 = R2 at h w2 w3
  generalize (passLast R2).1 = o3 at h w3
  generalize (passLast R2).2 = R3 at h w3
  obtain ⟨f13, g13⟩ := (w1.trans w2).trans w3
  have hR3 := f13.mem
  cases h4 : decodeRest cfg.size R3 [] with
  | error e => rw [h4] at h; cases h
  | ok r4 =>
  obtain ⟨p4, f4, e4, k4⟩ := decodeRest_spec cfg.size R3 [] (fun b hb => inv.hb b (hR3 b hb))
    (fun b hb => hcl b (hR3 b hb)) (by obtain ⟨P, e, _⟩ := f13; exact (List.pairwise_append.mp (e ▸ hord)).2.1)
    (by simp) r4.1 r4.2 h4
  rw [List.nil_append] at e4
  rw [h4] at h
  simp only [bind, Except.bind, List.nil_append] at h
  cases h5 : chunk cfg.size (o1 ++ o2 ++ o3) r4.2 with
  | error e => rw [h5] at h; cases h
  | ok c =>
  rw [h5] at h
  obtain rfl := Except.ok.inj h
  -- all in all a prefix `P` of the blocks is gone, its untouched values written or pending
  obtain ⟨P, hP, hpts⟩ := f13.trans f4
  rw [← e4] at hpts
  have hclP : ∀ b ∈ P, Clean b := fun b hb => hcl b (hP ▸ List.mem_append_left _ hb)
  obtain ⟨T', q1, q2, q3⟩ := consume_prefix P r4.1 T (hP ▸ inv.hb) hclP (hP ▸ hord)
  obtain ⟨n1, n2, n3⟩ := clean_run (fun b hb => inv.hb b (hP ▸ List.mem_append_left _ hb)) hclP
    (List.pairwise_append.mp (hP ▸ hord)).1
  have invN := inv.step [] ⟨q1, q2, n1, q3, fun p hp => Or.inr (n2 p hp), fun t => by
    rw [hmv, lookup_nil, Option.or_none, hP, restAt_append, n3 t]⟩
  exact stepOut_chunk q1 (hpts ▸ invN) g13 (fun b hb => (inv.hb b hb).wf) (by rw [hP, List.length_append]; exact Nat.le_add_left _ _)
    (fun b hb => ⟨b, hP ▸ List.mem_append_right _ hb, SameStatic.refl b⟩) (e4 ▸ k4) h5

/-- what `merge<T>()` needs from the sort on the list `l`: a permutation in which no block lies
    entirely before its predecessor, obtained by exchanging only blocks with disjoint time ranges -/
def SortSpecAt (cfg : Cfg) (l : List (Block V)) : Prop :=
  (∀ b ∈ l, BlockWF b) →
    AdjOK (cfg.sort V l) ∧ (∀ t, restAt (cfg.sort V l) t = restAt l t) ∧
    (∀ b, b ∈ cfg.sort V l ↔ b ∈ l) ∧ (cfg.sort V l).length = l.length

/-- `merge<T>()`, for a sort that behaves on `st.blocks` -/
theorem mergeStep_spec (cfg : Cfg) {T : Int} {st st' : KSt V} {O : Pts V} {target : Int → Option V}
    (inv : KInv T st O target) (hm : st.merged = []) (hsort : SortSpecAt cfg st.blocks)
    (h : mergeStep cfg st = .ok st') : StepOut cfg.size T st st' O target := by
  unfold mergeStep at h
  by_cases hg : st.blocks.length = 0 ∧ st.merged.length = 0 ∧ st.mv.length = 0
  · rw [if_pos hg] at h
    simp only [pure, Except.pure, Except.ok.injEq] at h
    subst h
    refine ⟨⟨T, Int.le_refl _, ?_⟩, ?_, Nat.le_refl _, fun b hb => ⟨b, hb, SameStatic.refl b⟩, ?_⟩
    · rw [hm]; simpa using inv
    · rw [hm]; simp
    · intro _ _
      exact ⟨List.length_eq_zero_iff.mp hg.2.2, List.length_eq_zero_iff.mp hg.1⟩
  · rw [if_neg hg] at h
    dsimp only at h
    have hw : ∀ b ∈ st.blocks, BlockWF b := fun b hb => (inv.hb b hb).wf
    obtain ⟨s1, s2, s3, s4⟩ := hsort hw
    generalize hsorted : cfg.sort V st.blocks = sorted at h s1 s2 s3 s4
    have inv1 : KInv T { st with blocks := sorted } O target :=
      ⟨fun b hb => inv.hb b ((s3 b).mp hb), inv.hasc, inv.hle, fun t => (inv.hc t).trans (by rw [← s2 t])⟩
    -- what holds of the sorted blocks holds of `st.blocks`: same members, same number
    have transfer : StepOut cfg.size T { st with blocks := sorted } st' O target → StepOut cfg.size T st st' O target :=
      fun so => ⟨so.hex,
        fun o ho => ⟨(so.hout o ho).1, (so.hout o ho).2.imp_right fun hp => hp.mono fun b => (s3 b).mp⟩,
        s4 ▸ so.hlen,
        fun b' hb' => (so.hsame b' hb').imp fun b hb => ⟨(s3 b).mp hb.1, hb.2⟩, so.hempty⟩
    apply transfer
    cases hdd : needDedup (decide (st.mv.length ≠ 0)) sorted with
    | true => rw [hdd] at h; exact combine_dedup_spec cfg inv1 s1 h
    | false =>
      rw [hdd] at h
      obtain ⟨hd, hcl, hord⟩ := needDedup_false (fun b hb => hw b ((s3 b).mp hb)) s1 hdd
      exact combine_nodedup_spec cfg inv1 (List.length_eq_zero_iff.mp (by simpa using hd)) hm hcl hord h

end Influx.Model.Compact
