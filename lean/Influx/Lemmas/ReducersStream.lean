/-
  Lemmas.ReducersStream — the stream reducers of Model.Reducers (derivative,
  difference, elapsed, cumulative_sum, integral without GROUP BY time) emit exactly the
  list comprehensions of Spec.C23, for ANY arithmetic (no laws used): pure structure.
-/
import Influx.Model.Reducers
import Influx.Spec.C23
open Influx.Reducers Influx.Spec.C23

namespace Influx.Reducers.Lemmas
variable {V F : Type}

theorem dedupT_cons2 (p q : Pt V) (r : List (Pt V)) :
    dedupT (p :: q :: r) = if p.t = q.t then dedupT (p :: r) else p :: dedupT (q :: r) := by
  rw [dedupT]

theorem dedupT_head (p : Pt V) (r : List (Pt V)) : ∃ l, dedupT (p :: r) = p :: l := by
  induction r with
  | nil => exact ⟨[], by simp [dedupT]⟩
  | cons q r ih =>
    rw [dedupT_cons2]
    split
    · exact ih
    · exact ⟨_, rfl⟩

theorem adj_cons2 {α : Type} (a b : α) (l : List α) : adj (a :: b :: l) = (a, b) :: adj (b :: l) := by
  simp [adj]

/-! ### derivative, difference: the prev/curr reducers -/

/-- The stream of a prev/curr reducer, whatever its `Emit` computes: if `Emit` outputs
    `g prev curr` and leaves a `prev` on which it is silent as long as `curr` stays (it marks
    `prev` read, or keeps a pair it has just dropped), then the reducer emits `g` of every pair of
    successive points of the time-deduplicated series. -/
theorem pcRun {O : Type} (emit : PCSt V → PCSt V × List O) (g : Option (Pt V) → Pt V → Option O)
    (hemit : ∀ prev c, ∃ prev', emit ⟨prev, some c⟩ = (⟨prev', some c⟩, (g prev c).toList) ∧ g prev' c = none)
    (xs : List (Pt V)) : ∀ (c : Pt V) (prev : Option (Pt V)), g prev c = none →
      runStream pcAgg emit ⟨prev, some c⟩ xs =
        (adj (dedupT (c :: xs))).filterMap (fun ab => g (some ab.1) ab.2) := by
  induction xs with
  | nil => intro c prev _; simp [runStream, dedupT, adj]
  | cons p ps ih =>
    intro c prev hq
    by_cases hct : c.t = p.t
    · -- the point does not advance the stream
      obtain ⟨prev', he, hq'⟩ := hemit prev c
      have hagg : pcAgg ⟨prev, some c⟩ p = ⟨prev, some c⟩ := by simp [pcAgg, hct]
      simp only [runStream, hagg, he, hq, ih c prev' hq', dedupT_cons2, if_pos hct, Option.toList_none,
        List.nil_append]
    · obtain ⟨prev', he, hq'⟩ := hemit (some c) p
      have hagg : pcAgg ⟨prev, some c⟩ p = ⟨some c, some p⟩ := by simp [pcAgg, hct]
      obtain ⟨l, hl⟩ := dedupT_head p ps
      simp only [runStream, hagg, he, ih p prev' hq', dedupT_cons2, if_neg hct, hl, adj_cons2,
        List.filterMap_cons]
      cases g (some c) p <;> rfl

theorem pcStream {O : Type} (emit : PCSt V → PCSt V × List O) (g : Option (Pt V) → Pt V → Option O)
    (hemit : ∀ prev c, ∃ prev', emit ⟨prev, some c⟩ = (⟨prev', some c⟩, (g prev c).toList) ∧ g prev' c = none)
    (hg : ∀ c, g none c = none) (xs : List (Pt V)) :
    runStream pcAgg emit {} xs = (adj (dedupT xs)).filterMap (fun ab => g (some ab.1) ab.2) := by
  cases xs with
  | nil => simp [runStream, dedupT, adj]
  | cons p ps =>
    obtain ⟨prev', he, hq'⟩ := hemit none p
    have hagg : pcAgg ({} : PCSt V) p = ⟨none, some p⟩ := by simp [pcAgg]
    simp only [runStream, hagg, he, hg, Option.toList_none, List.nil_append]
    exact pcRun emit g hemit ps p prev' hq'

theorem difference_eq_def (A : Arith V F) (nonNeg : Bool) (xs : List (Pt V)) :
    difference A.vo nonNeg xs = differenceDef A nonNeg xs := by
  unfold difference differenceDef
  rw [pcStream (diffEmit A.vo nonNeg) (fun prev b => prev.bind fun a =>
    if nonNeg && A.vo.lt (A.vo.sub b.v a.v) A.vo.zero then none else some ⟨b.t, A.vo.sub b.v a.v⟩)
    ?_ (fun _ => rfl)]
  · rfl
  · intro prev c
    cases prev with
    | none => exact ⟨none, by simp [diffEmit], rfl⟩
    | some a =>
      -- a dropped difference keeps the pair, on which `Emit` stays silent
      cases hd : (nonNeg && A.vo.lt (A.vo.sub c.v a.v) A.vo.zero) with
      | true =>
        exact ⟨some a, by simp only [diffEmit, Option.bind_some, hd, if_true]; rfl,
          by simp only [Option.bind_some, hd, if_true]⟩
      | false =>
        exact ⟨none, by simp only [diffEmit, Option.bind_some, hd, Bool.false_eq_true, if_false]; rfl, rfl⟩

theorem derivative_eq_def (A : Arith V F) (unit : Int) (nonNeg asc : Bool) (xs : List (Pt V)) :
    derivative A.vo A.fo unit nonNeg asc xs = derivativeDef A unit nonNeg asc xs := by
  unfold derivative derivativeDef
  rw [pcStream (derivEmit A.vo A.fo unit nonNeg asc) (fun prev b => prev.bind fun a =>
    if derivDropped A.vo A.fo nonNeg a b then none else some ⟨b.t, derivValue A.vo A.fo unit asc a b⟩)
    ?_ (fun _ => rfl)]
  · congr 1
    funext ab
    simp only [Option.bind_some, derivDropped, derivValue, Int.neg_sub]
  · intro prev c
    refine ⟨none, ?_, rfl⟩
    cases prev with
    | none => simp [derivEmit]
    | some a => by_cases hd : derivDropped A.vo A.fo nonNeg a c = true <;> simp [derivEmit, hd]

/-! ### elapsed -/

theorem elapsed_run (unit : Int) (xs : List (Pt V)) :
    ∀ (c : Pt V) (prev : Option Int),
      runStream elAgg (elEmit unit) ⟨prev, some c.t⟩ xs = elapsedDef unit (c :: xs) := by
  induction xs with
  | nil => intro c prev; simp [runStream, elapsedDef, adj]
  | cons p ps ih =>
    intro c prev
    simp only [runStream, elAgg, elEmit]
    rw [ih p (some c.t)]
    simp [elapsedDef, adj]

theorem elapsed_eq_def (unit : Int) (xs : List (Pt V)) : elapsed unit xs = elapsedDef unit xs := by
  cases xs with
  | nil => simp [elapsed, runStream, elapsedDef, adj]
  | cons p ps =>
    simp only [elapsed, runStream, elAgg, elEmit]
    rw [elapsed_run unit ps p none]
    simp

/-! ### cumulative_sum -/

/-- from a state with running sum `acc`, point `i` carries `acc` plus the first `i + 1` values -/
theorem cumsum_run (A : Arith V F) (xs : List (Pt V)) :
    ∀ (acc : V) (tm : Int) (nl : Bool),
      runStream (csAgg A.vo) csEmit ⟨acc, tm, nl⟩ xs =
        (List.range xs.length).filterMap fun i =>
          (xs[i]?).map fun p => ⟨p.t, ((xs.take (i + 1)).map (·.v)).foldl A.vo.add acc⟩ := by
  induction xs with
  | nil => intro acc tm nl; rfl
  | cons p ps ih =>
    intro acc tm nl
    simp only [runStream, csAgg, csEmit, Bool.false_eq_true, if_false, ih, List.length_cons,
      List.range_succ_eq_map, List.filterMap_cons, List.filterMap_map]
    rfl

/-! ### integral without GROUP BY time: the reducer's sum is the sum of the trapezia -/

/-- the sum after the segments of `c :: xs`, starting from `acc` -/
def trapFrom (A : Arith V F) (unit : Int) (acc : F) (c : Pt V) (xs : List (Pt V)) : F :=
  (segments (c :: xs)).foldl (fun s (ab : Pt V × Pt V) =>
    A.fo.add s (trapezium A unit ab.1.t (A.vo.toF ab.1.v) ab.2.t (A.vo.toF ab.2.v))) acc

theorem segments_cons2 (a b : Pt V) (l : List (Pt V)) :
    segments (a :: b :: l) = (if a.t ≠ b.t then [(a, b)] else []) ++ segments (b :: l) := by
  simp only [segments, adj, List.tail_cons, List.zip_cons_cons, List.filter_cons]
  by_cases h : a.t = b.t <;> simp [h]

/-- no point of the series reaches the end of the (single) window -/
def noCross (isInt : Bool) (o : WinOpt) (wend : Int) (xs : List (Pt V)) : Prop :=
  ∀ p ∈ xs, ((isInt || decide (o.dur ≠ 0)) && ((o.asc && decide (p.t ≥ wend)) || (!o.asc && decide (p.t ≤ wend)))) = false

theorem trapFrom_cons (A : Arith V F) (unit : Int) (sum : F) (c p : Pt V) (ps : List (Pt V)) :
    trapFrom A unit sum c (p :: ps) =
      trapFrom A unit (if c.t = p.t then sum
        else A.fo.add sum (trapezium A unit c.t (A.vo.toF c.v) p.t (A.vo.toF p.v))) p ps := by
  unfold trapFrom
  rw [segments_cons2]
  by_cases hct : c.t = p.t <;> simp [hct]

/-- as long as no point reaches the window end the reducer only adds trapezia; `Close` emits
    their sum at the window start unless the series ends on it -/
theorem igRun_noCross (A : Arith V F) (isInt : Bool) (unit : Int) (o : WinOpt) (xs : List (Pt V)) :
    ∀ (c : Pt V) (sum : F) (ws we : Int), noCross isInt o we xs →
      igRun A.vo A.fo isInt unit o
        { sum := sum, prev := some (c.t, A.vo.toF c.v), wstart := ws, wend := we, pending := none } xs =
      if ((c :: xs).getLast (List.cons_ne_nil _ _)).t ≠ ws then [⟨ws, trapFrom A unit sum c xs⟩] else [] := by
  induction xs with
  | nil =>
    intro c sum ws we _
    simp [igRun, igClose, igEmit, trapFrom, segments, adj]
  | cons p ps ih =>
    intro c sum ws we hnc
    have hp := hnc p (List.mem_cons_self ..)
    have hagg : igAgg A.vo A.fo isInt unit o
        { sum := sum, prev := some (c.t, A.vo.toF c.v), wstart := ws, wend := we, pending := none } p =
        { sum := if c.t = p.t then sum else A.fo.add sum (trapezium A unit c.t (A.vo.toF c.v) p.t (A.vo.toF p.v)),
          prev := some (p.t, A.vo.toF p.v), wstart := ws, wend := we, pending := none } := by
      by_cases hct : c.t = p.t
      · simp [igAgg, hct]
      · simp only [igAgg, hct, if_false, hp, Bool.false_eq_true, trapezium]
    simp only [igRun, hagg, igEmit, List.nil_append]
    rw [ih p _ ws we (fun q hq => hnc q (List.mem_cons_of_mem _ hq)), trapFrom_cons]
    rfl

theorem trapFrom_zero (A : Arith V F) (unit : Int) (c : Pt V) (xs : List (Pt V)) :
    trapFrom A unit (A.fo.ofInt 0) c xs = trapezia A unit (c :: xs) := by
  unfold trapFrom trapezia
  rfl

/-- what the statement expects of integral without GROUP BY time over an ascending series
    inside the statement's time range -/
def integralPlain (A : Arith V F) (isInt : Bool) (unit st : Int) (xs : List (Pt V)) : List (Pt F) :=
  let t0 := if isInt then (if st = -9223372036854775806 then 0 else st) else 0
  match xs.getLast? with
  | none => []
  | some lastp => if lastp.t = t0 then [] else [⟨t0, trapezia A unit xs⟩]

/-- **integral** without GROUP BY time, any arithmetic: one row at the statement's start
    time carrying the sum of the trapezia between consecutive points -/
theorem integral_plain (A : Arith V F) (isInt : Bool) (unit off st en : Int) (xs : List (Pt V))
    (hin : ∀ p ∈ xs, p.t ≤ en) :
    integral A.vo A.fo isInt unit ⟨0, off, st, en, true⟩ xs = integralPlain A isInt unit st xs := by
  cases xs with
  | nil => simp [integral, igRun, igClose, igEmit, integralPlain]
  | cons c rest =>
    have hrest : ∀ p ∈ rest, p.t ≤ en := fun p hp => hin p (by simp [hp])
    have hl := List.getLast?_eq_some_getLast (List.cons_ne_nil c rest)
    -- the first point opens the single window: it starts at the statement's start time, and
    -- no later point reaches its end
    obtain ⟨we, h1, hnc⟩ : ∃ we,
        igAgg A.vo A.fo isInt unit ⟨0, off, st, en, true⟩ ({ sum := A.fo.ofInt 0 } : IgSt F) c =
          { sum := A.fo.ofInt 0, prev := some (c.t, A.vo.toF c.v), wend := we, pending := none,
            wstart := if isInt then (if st = -9223372036854775806 then 0 else st) else 0 } ∧
        noCross isInt (⟨0, off, st, en, true⟩ : WinOpt) we rest := by
      cases isInt with
      | false => exact ⟨0, by simp [igAgg], fun p _ => by simp⟩
      | true =>
        refine ⟨en + 1, ?_, fun p hp => by simpa using Int.lt_add_one_iff.mpr (hrest p hp)⟩
        by_cases hmin : st = -9223372036854775806 <;> simp [igAgg, igSetWindow, window, minTime, hmin]
    simp only [integral, igRun, h1, igEmit, List.nil_append]
    rw [igRun_noCross A isInt unit _ rest c _ _ we hnc, trapFrom_zero]
    simp only [integralPlain, hl]
    by_cases h0 : ((c :: rest).getLast (List.cons_ne_nil c rest)).t =
        (if isInt then (if st = -9223372036854775806 then 0 else st) else 0) <;> simp [h0]

end Influx.Reducers.Lemmas
