/-
  Lemmas.KCInit — newKeyCursor's state after `seek(t)` satisfies the invariant, and the whole
  read `runSeeks` for a list of well-formed locations in an OrderOK order.
-/
import Influx.Lemmas.KCDrain
import Influx.Model.KCRun

namespace Influx.KC
open Influx.Generated.KeyCursor

variable {V : Type} {n : Nat}

theorem Inv.replicate {B : Vector (Block V) n} (hwf : ∀ i : Fin n, BlockWF (B.get i)) {asc : Bool} {W : Int}
    {cur : List (Fin n)} (hc : ∀ i : Fin n, ∀ p ∈ live (B.get i), beyond asc W p.1 → i ∈ cur)
    (hs : Shape asc cur) : Inv asc B (Vector.replicate n (readTo asc W)) W cur := by
  have hrd : ∀ i : Fin n, (Vector.replicate n (readTo asc W)).get i = readTo asc W := fun i =>
    Vector.getElem_replicate i.isLt
  refine ⟨fun i => ⟨W, hrd i, beyond_irrefl asc W⟩, fun i p => mem_curVals_readTo hwf (hrd i), fun i hi => ?_, hs⟩
  obtain ⟨p, hp⟩ := List.exists_mem_of_ne_nil _ hi
  obtain ⟨hl, hb⟩ := (mem_curVals_readTo hwf (hrd i)).1 hp
  exact hc i p hl hb

theorem init_spec (B : Vector (Block V) n) (hwf : ∀ i : Fin n, BlockWF (B.get i)) {t : Int} {asc : Bool}
    (ht : if asc then minI64 < t else t < maxI64) :
    (Cursor.init B t asc).blocks = B ∧ (Cursor.init B t asc).ascending = asc ∧
    Inv asc B (Cursor.init B t asc).rd (if asc then t - 1 else t + 1) (Cursor.init B t asc).current ∧
    PosOK asc (Cursor.init B t asc).pos (Cursor.init B t asc).current := by
  cases asc <;> simp only [Bool.false_eq_true, if_false, if_true] at ht ⊢
  · -- seekDescending
    have hmark : initMark t false = readTo false (t + 1) := by
      simp only [initMark, readTo, wrapInc, Bool.false_eq_true, if_false]
      rw [if_neg (by omega)]
    have hdecr : ∀ q : Fin n → Bool, ((List.finRange n).reverse.filter q).Pairwise (precedes false) := fun q =>
      (List.pairwise_reverse.2 ((List.pairwise_lt_finRange n).imp fun h => h)).filter q
    refine ⟨rfl, rfl, ?_, ?_⟩
    · show Inv false B (Vector.replicate n (initMark t false)) (t + 1) _
      rw [hmark]
      refine Inv.replicate hwf (fun i p hp hb => ?_) (Shape.of_pairwise (hdecr _))
      refine List.mem_filter.2 ⟨List.mem_reverse.2 (List.mem_finRange i), ?_⟩
      have h1 := (hwf i).live_inEntry hp
      simp only [beyond, Bool.false_eq_true, if_false] at hb
      show (decide (t > (B.get i).entry.MaxTime) || Contains (B.get i).entry t) = true
      simp only [Contains, Bool.or_eq_true, Bool.and_eq_true, decide_eq_true_eq]
      omega
    · exact PosOK.of_head (hdecr _)
  · -- seekAscending
    have hmark : initMark t true = readTo true (t - 1) := by
      simp only [initMark, readTo, wrapDec, if_true]
      rw [if_neg (by omega)]
    have hincr : ∀ q : Fin n → Bool, ((List.finRange n).filter q).Pairwise (precedes true) := fun q =>
      ((List.pairwise_lt_finRange n).imp fun h => h).filter q
    refine ⟨rfl, rfl, ?_, ?_⟩
    · show Inv true B (Vector.replicate n (initMark t true)) (t - 1) _
      rw [hmark]
      refine Inv.replicate hwf (fun i p hp hb => ?_) (Shape.of_pairwise (hincr _))
      refine List.mem_filter.2 ⟨List.mem_finRange i, ?_⟩
      have h1 := (hwf i).live_inEntry hp
      simp only [beyond, if_true] at hb
      show (decide (t < (B.get i).entry.MinTime) || Contains (B.get i).entry t) = true
      simp only [Contains, Bool.or_eq_true, Bool.and_eq_true, decide_eq_true_eq]
      omega
    · exact PosOK.of_head (hincr _)

/-- "newest file wins" over a list of locations -/
def WinnerL (seeks : List (Block V)) (p : Int × V) : Prop :=
  ∃ b ∈ seeks, p ∈ live b ∧ ∀ c ∈ seeks, p.1 ∈ keys (live c) → c.file ≤ b.file

def overlapP (a b : Block V) : Prop :=
  a.entry.MinTime ≤ b.entry.MaxTime ∧ b.entry.MinTime ≤ a.entry.MaxTime

/-- OrderOK as a relation between an earlier and a later element -/
def okPair (a b : Block V) : Prop := overlapP a b → a.file < b.file

theorem orderOK_iff (seeks : List (Block V)) : orderOK seeks = true ↔ seeks.Pairwise okPair := by
  induction seeks with
  | nil => simp [orderOK]
  | cons b rest ih =>
    simp only [orderOK, Bool.and_eq_true, List.all_eq_true, List.pairwise_cons, ih]
    refine and_congr_left fun _ => forall_congr' fun c => forall_congr' fun _ => ?_
    simp only [OverlapsTimeRange, Bool.or_eq_true, Bool.not_eq_true', Bool.and_eq_false_iff,
      decide_eq_false_iff_not, decide_eq_true_eq, okPair, overlapP]
    constructor
    · rintro (h | h) o
      · omega
      · exact h
    · intro h
      by_cases o1 : b.entry.MinTime ≤ c.entry.MaxTime
      · by_cases o2 : c.entry.MinTime ≤ b.entry.MaxTime
        · exact Or.inr (h ⟨o1, o2⟩)
        · exact Or.inl (Or.inr o2)
      · exact Or.inl (Or.inl o1)

section
variable (seeks : List (Block V))

/-- the vector `runSeeks` builds -/
def vecOf : Vector (Block V) seeks.length := ⟨seeks.toArray, by simp⟩

theorem vecOf_wf (hwf : ∀ b ∈ seeks, BlockWF b) (i : Fin seeks.length) : BlockWF ((vecOf seeks).get i) :=
  hwf _ (List.get_mem seeks i)

theorem vecOf_order (hord : orderOK seeks = true) : OrderOKv (vecOf seeks) := fun i j hij o1 o2 =>
  List.pairwise_iff_getElem.1 ((orderOK_iff seeks).1 hord) i.val j.val i.isLt j.isLt hij ⟨o1, o2⟩

theorem isWinner_vecOf (p : Int × V) : IsWinner (vecOf seeks) p ↔ WinnerL seeks p := by
  constructor
  · rintro ⟨i, hl, hmax⟩
    refine ⟨seeks.get i, List.get_mem seeks i, hl, fun c hc hk => ?_⟩
    obtain ⟨k, rfl⟩ := List.mem_iff_get.1 hc
    exact hmax k hk
  · rintro ⟨b, hb, hl, hmax⟩
    obtain ⟨k, rfl⟩ := List.mem_iff_get.1 hb
    exact ⟨k, hl, fun j hj => hmax _ (List.get_mem seeks j) hj⟩

theorem finRange_map_get : (List.finRange seeks.length).map seeks.get = seeks := by
  apply List.ext_getElem <;> simp

/-- the fuel of `runSeeks` is enough -/
theorem cnt_le (asc : Bool) (W : Int) : cnt asc (vecOf seeks) W ≤ totalPoints seeks := by
  refine Nat.le_trans List.countP_le_length ?_
  rw [List.length_flatMap, totalPoints]
  conv => rhs; rw [← finRange_map_get seeks, List.map_map]
  exact Nat.le_refl _

/-- The whole read for well-formed locations in an OrderOK order, in either direction, for a
    seek time other than the int64 extreme at which `t ∓ 1` wraps: it terminates, the blocks
    are non-empty, and in the order of their timestamps they concatenate to the strictly
    ascending list of the newest-file-wins points at or beyond `t`. -/
theorem runSeeks_spec (hwf : ∀ b ∈ seeks, BlockWF b) (hord : orderOK seeks = true) {t : Int} {asc : Bool}
    (ht : if asc then minI64 < t else t < maxI64) :
    ∃ bs, runSeeks seeks t asc = some bs ∧ SortedV (cat asc bs) ∧ (∀ b ∈ bs, b ≠ []) ∧
      ∀ p, p ∈ cat asc bs ↔ WinnerL seeks p ∧ if asc then t ≤ p.1 else p.1 ≤ t := by
  obtain ⟨h1, h2, h3, h4⟩ := init_spec (vecOf seeks) (vecOf_wf seeks hwf) ht
  obtain ⟨bs, hd, hs, hne, hm⟩ := drain_spec (vecOf_wf seeks hwf) (vecOf_order seeks hord)
    (totalPoints seeks + 1) _ _ h1 h2 h3 h4 (Nat.lt_succ_of_le (cnt_le seeks asc _))
  refine ⟨bs, hd, hs, hne, fun p => ?_⟩
  rw [hm p, isWinner_vecOf]
  refine and_congr_right fun _ => ?_
  cases asc <;> simp only [beyond, Bool.false_eq_true, if_false, if_true] <;> omega

end

end Influx.KC
