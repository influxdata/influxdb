/-
  Lemmas.MetaC19 — the clauses of Spec.C19 on the model's steps (well-formed data, in-domain ops).
-/
import Influx.Lemmas.MetaStep
import Influx.Spec.C19

namespace Influx.Meta
open Influx.Generated.Meta
open Influx.Spec.C19

theorem write_lists {α β : Type} (f : β → Bool) (g : α → Bool) :
    ∀ (ts : List α) (ps : List β), ps.map f = ts.map g →
      ps.length = ts.length ∧ ((ts.zip ps).all fun (t, p) => f p == g t) = true ∧
      (ps.filter f).length = (ts.filter g).length := by
  intro ts
  induction ts with
  | nil => intro ps h; cases ps <;> simp_all
  | cons t ts ih =>
    intro ps h
    cases ps with
    | nil => simp at h
    | cons p ps =>
      simp only [List.map_cons, List.cons.injEq] at h
      obtain ⟨h1, h2, h3⟩ := ih ps h.2
      refine ⟨by simp [h1], by simp [h.1, h2], ?_⟩
      simp only [List.filter_cons, h.1]
      split <;> simp [h3]

theorem getRP_setDuration {d : Data} {db rp : String} {D : Int} {r : RetentionPolicyInfo}
    (h : getRP (setDuration d db rp D) db rp = .ok r) : r.Duration = D := by
  unfold setDuration at h
  cases hr : getRP d db rp with
  | error e => simp only [hr] at h; cases h
  | ok r0 =>
    simp only [hr] at h
    have := getRP_setRP_same (r' := { r0 with Duration := D }) hr rfl
    rw [this] at h
    cases h; rfl

/-- **clause 1 on a `MapShards` step** -/
theorem ms_holds (s : State) (db rp : String) (c : Option Int) (ts : List Int) (hwf : WF s.data)
    (hts : ∀ t ∈ ts, inRange t) (hc : ∀ a, c = some a → a < modelNow) :
    holdsOp (.ms db rp c ts, (step s (.ms db rp c ts)).2) = true := by
  simp only [step]
  generalize hD : cutoffDur c = D
  generalize hd0 : setDuration s.data db rp D = d0
  have hw0 : WF d0 := by subst hd0; exact setDuration_wf hwf _ _ _
  cases hm : mapShards d0 db rp modelNow ts with
  | mk d res =>
    cases res with
    | error e => rfl
    | ok m =>
      obtain ⟨r, l, hr, hmc, hmp, hcnt⟩ := mapShards_ok hm
      have hdur : r.Duration = D := by subst hd0; exact getRP_setDuration hr
      have hspec := mapCreate_spec db rp (minTime r modelNow) ts d0 SgList.empty hw0 (SgOK.empty_ok d0 db rp) hts
      rw [hmc] at hspec
      obtain ⟨hok, _, hcov⟩ := hspec.2.2 l rfl
      have hdrop := mapPlace_dropped d db rp (minTime r modelNow) ts l _ hok hcov hmp
      -- the lower bound is the cutoff
      have hmin : ts.map (fun t => decide (t < minTime r modelNow)) = ts.map (tooOld c) := by
        apply List.map_congr_left
        intro t ht
        have htr := hts t ht
        cases c with
        | none =>
          simp only [cutoffDur] at hD
          simp only [minTime, hdur, ← hD, tooOld, unix_eq]
          simp; exact htr.1
        | some a =>
          simp only [cutoffDur] at hD
          have := hc a rfl
          simp only [minTime, hdur, ← hD, tooOld, add_eq]
          have hpos : modelNow - a > 0 := by omega
          simp only [hpos, ↓reduceIte]
          rw [show modelNow + -(modelNow - a) = a by omega]
      rw [hmin] at hdrop
      obtain ⟨h1, h2, h3⟩ := write_lists (· == Placement.dropped) (tooOld c) ts m.placements hdrop
      show writeOK c ts m = true
      unfold writeOK
      simp only [Bool.and_eq_true, beq_iff_eq]
      refine ⟨⟨h1, h2⟩, ?_⟩
      rw [hcnt]; exact h3

/-- the duration the `dc` step gives a policy: from the last cutoff naming it -/
def durOf (cs : List (String × String × Int)) (db rp : String) : Int :=
  match cutoffOf cs db rp with
  | some a => modelNow - a
  | none => 0

theorem durations_foldr (d : Data) (hwf : WF d) (hz : ∀ di ∈ d.Databases, ∀ r ∈ di.RetentionPolicies, r.Duration = 0) :
    ∀ (rs : List (String × String × Int)),
      let d0 := rs.foldr (fun (x : String × String × Int) d => setDuration d x.1 x.2.1 (modelNow - x.2.2)) d
      WF d0 ∧ ∀ di ∈ d0.Databases, ∀ r ∈ di.RetentionPolicies,
        r.Duration = match (rs.find? fun (x : String × String × Int) => x.1 == di.Name && x.2.1 == r.Name) with
          | some x => modelNow - x.2.2
          | none => 0 := by
  intro rs
  induction rs with
  | nil => exact ⟨hwf, fun di hdi r hr => by simpa using hz di hdi r hr⟩
  | cons c rs ih =>
    obtain ⟨hw1, h1⟩ := ih
    simp only [List.foldr_cons]
    generalize hd1 : rs.foldr (fun (x : String × String × Int) d => setDuration d x.1 x.2.1 (modelNow - x.2.2)) d = d1 at hw1 h1
    refine ⟨setDuration_wf hw1 _ _ _, ?_⟩
    intro di hdi r hr
    have hw0 := setDuration_wf hw1 c.1 c.2.1 (modelNow - c.2.2)
    have hget := getRP_of_mem hw0 hdi hr
    by_cases hmatch : c.1 = di.Name ∧ c.2.1 = r.Name
    · have : (c.1 == di.Name && c.2.1 == r.Name) = true := by simp [hmatch]
      rw [List.find?_cons_of_pos (by simpa using this)]
      rw [← hmatch.1, ← hmatch.2] at hget
      exact getRP_setDuration hget
    · have : ¬(c.1 == di.Name && c.2.1 == r.Name) = true := by simpa using hmatch
      rw [List.find?_cons_of_neg (by simpa using this)]
      -- the policy is untouched by this `setDuration`
      have hsame : getRP d1 di.Name r.Name = .ok r := by
        unfold setDuration at hget
        cases hr0 : getRP d1 c.1 c.2.1 with
        | error e => simpa [hr0] using hget
        | ok r0 =>
          simp only [hr0] at hget
          rwa [getRP_setRP_other (r' := { r0 with Duration := modelNow - c.2.2 }) (getRP_name (r := r0) hr0)
            fun h => hmatch ⟨h.1.symm, h.2.symm⟩] at hget
      obtain ⟨dj, hdj, hdjn, hrj, _⟩ := getRP_ok hsame
      have := h1 dj hdj r hrj
      rw [hdjn] at this
      exact this

theorem clearDurations_zero (d : Data) : ∀ di ∈ (clearDurations d).Databases, ∀ r ∈ di.RetentionPolicies, r.Duration = 0 := by
  intro di hdi r hr
  simp only [clearDurations, List.mem_map] at hdi
  obtain ⟨di0, _, rfl⟩ := hdi
  simp only [List.mem_map] at hr
  obtain ⟨r0, _, rfl⟩ := hr
  rfl

theorem dc_durations (d : Data) (hwf : WF d) (cs : List (String × String × Int)) :
    let d0 := cs.foldl (fun d (x : String × String × Int) => setDuration d x.1 x.2.1 (modelNow - x.2.2)) (clearDurations d)
    WF d0 ∧ ∀ di ∈ d0.Databases, ∀ r ∈ di.RetentionPolicies, r.Duration = durOf cs di.Name r.Name := by
  have := durations_foldr (clearDurations d) (clearDurations_wf hwf) (clearDurations_zero d) cs.reverse
  simp only [List.foldr_reverse] at this
  refine ⟨this.1, ?_⟩
  intro di hdi r hr
  rw [this.2 di hdi r hr]
  unfold durOf cutoffOf
  cases cs.reverse.find? (fun (x : String × String × Int) => x.1 == di.Name && x.2.1 == r.Name) <;> rfl

/-- **clause 2 on a `DeletionCheck` step** -/
theorem dc_holds (s : State) (cs : List (String × String × Int)) (hwf : WF s.data) :
    holdsOp (.dc cs, (step s (.dc cs)).2) = true := by
  simp only [step, holdsOp, deletionOK, List.all_eq_true]
  generalize hd0 : cs.foldl (fun d (x : String × String × Int) => setDuration d x.1 x.2.1 (modelNow - x.2.2)) (clearDurations s.data) = d0
  have hdur := (dc_durations s.data hwf cs).2
  rw [hd0] at hdur
  -- an expired group lies entirely before its policy's cutoff
  have hexp : ∀ di ∈ d0.Databases, ∀ r ∈ di.RetentionPolicies, ∀ g ∈ expiredShardGroups r modelNow,
      (match cutoffOf cs di.Name r.Name with
       | some a => rangeOlder g a
       | none => false) = true := by
    intro di hdi r hr g hg
    have he := (mem_expired_iff r modelNow g).mp hg
    have hd := hdur di hdi r hr
    unfold durOf at hd
    cases hc : cutoffOf cs di.Name r.Name with
    | none => rw [hc] at hd; exact absurd hd he.2.2.1
    | some a =>
      rw [hc] at hd
      simp only at hd
      simp only [rangeOlder, Bool.or_eq_true, decide_eq_true_eq]
      left; have := he.2.2.2; omega
  have hrem : ∀ id, Removable d0 modelNow id → shardRemovable cs (fullDump d0) id = true := by
    rintro id ⟨di, hdi, r, hr, g, hg, hx, sh, hsh, rfl⟩
    simp only [shardRemovable, fullDump, List.any_eq_true, List.mem_flatMap, List.mem_map]
    refine ⟨(di.Name, r.Name, r.ShardGroups), ⟨di, hdi, r, hr, rfl⟩, g, hg, ?_⟩
    simp only [Bool.and_eq_true, List.any_eq_true, beq_iff_eq]
    refine ⟨⟨sh, hsh, rfl⟩, ?_⟩
    simp only [removable, Bool.or_eq_true]
    rcases hx with hx | hx
    · exact Or.inl ((deleted_iff g).mpr hx)
    · exact Or.inr (hexp di hdi r hr g hx)
  have hloc : ∀ id, id ∈ s.store.shards ∧ Removable d0 modelNow id →
      (s.store.shards.contains id && shardRemovable cs (fullDump d0) id) = true := fun id h => by
    rw [Bool.and_eq_true, List.contains_eq_mem, decide_eq_true_eq]
    exact ⟨h.1, hrem id h.2⟩
  intro e he
  have hgood := deletionCheck_safe modelNow d0 s.store e he
  cases e with
  | dsg db rp id ok =>
    simp only [evOK, Bool.or_eq_true, Bool.not_eq_true']
    cases ok with
    | false => exact Or.inl rfl
    | true =>
      right
      obtain ⟨di, hdi, hdn, r, hr, hrn, g, hg, hid⟩ := hgood rfl
      simp only [fullDump, List.any_eq_true, List.mem_flatMap, List.mem_map]
      refine ⟨(di.Name, r.Name, r.ShardGroups), ⟨di, hdi, r, hr, rfl⟩, ?_⟩
      simp only [Bool.and_eq_true, beq_iff_eq, List.any_eq_true]
      refine ⟨⟨hdn, hrn⟩, g, ((mem_expired_iff r modelNow g).mp hg).1, hid, ?_⟩
      have := hexp di hdi r hr g hg
      rw [hdn, hrn] at this
      exact this
  | block id ok => exact hloc id hgood
  | unblock id => exact hloc id hgood
  | inUse id ok u => exact hloc id hgood
  | delete id res => exact hloc id hgood
  | dropRef id ok ph => exact hrem id hgood
  | prune => rfl

theorem exp_holds (s : State) (db rp : String) (D : Int) (t : Int) :
    holdsOp (.exp db rp D t, (step s (.exp db rp D t)).2) = true := by
  simp only [step]
  split
  · next r hr =>
    simp only [holdsOp, expiredOK, List.all_eq_true, List.mem_map, forall_exists_index, and_imp,
      forall_apply_eq_imp_iff₂]
    intro g hg
    have h := (mem_expired_iff { r with Duration := D } t g).mp hg
    simp only [Bool.and_eq_true, bne_iff_ne, ne_eq, List.any_eq_true, beq_iff_eq]
    refine ⟨h.2.2.1, g, h.1, rfl, ?_⟩
    simp only [rangeOlder, Bool.or_eq_true, decide_eq_true_eq]
    left; have := h.2.2.2; simp at this; omega
  · rfl

/-- the domain of this property is that of C18, with the condition on the cutoff of `ms` in addition -/
theorem dom19_of_spec {op : Op} (h : opInDomain op = true) : opDom op := by
  refine dom18_of_spec ?_
  cases op with
  | ms db rp c ts => exact (Bool.and_eq_true_iff.mp h).1
  | _ => exact h

theorem holdsExp_of_holdsOp {p : Op × Obs} (h : holdsOp p = true) : holdsExp p = true := by
  unfold holdsExp
  split
  · exact h
  · rfl

theorem run_holdsExp (ops : List Op) (s : State) : (run s ops).all holdsExp = true := by
  refine all_run (Inv := fun _ => True) (fun s o _ _ => ⟨?_, trivial⟩) trivial
  cases o with
  | exp db rp D t => exact holdsExp_of_holdsOp (exp_holds s db rp D t)
  | _ => rfl

theorem run_holdsOp (ops : List Op) (hdom : ∀ op ∈ ops, opInDomain op = true) (s : State) (hwf : WF s.data) :
    (run s ops).all holdsOp = true := by
  refine all_run (Inv := fun s => WF s.data) (fun s op hop hwf => ⟨?_, step_wf s op hwf (dom19_of_spec (hdom op hop))⟩) hwf
  have hd := hdom op hop
  cases op with
  | ms db rp c ts =>
    simp only [opInDomain, Bool.and_eq_true, List.all_eq_true, Spec.C19.inRange, decide_eq_true_eq] at hd
    refine ms_holds s db rp c ts hwf (fun t ht => hd.1 t ht) ?_
    intro a ha; subst ha; simpa using hd.2
  | dc cs => exact dc_holds s cs hwf
  | exp db rp D t => exact exp_holds s db rp D t
  | _ => rfl

end Influx.Meta
