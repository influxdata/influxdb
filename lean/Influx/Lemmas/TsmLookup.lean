/-
  Lemmas.TsmLookup — the binary search of `indirectIndex` (ported
  `bytesutil.SearchBytesFixed` + the comparison of `searchOffset`) meets its
  specification on a strictly sorted key list, and the lookups built on it equal
  plain list functions.
-/
import Influx.Model.TsmIndex
import Influx.Lemmas.TsmBytes

namespace Influx.Tsm
open Influx.Generated.TsmLayout

def SortedKE (l : List KeyEntry) : Prop := l.Pairwise fun a b => klt a.key b.key = true

/-- number of keys below `key`: where `key` is or would be -/
def rank (l : List KeyEntry) (key : Key) : Nat := (l.filter fun ke => klt ke.key key).length

theorem rank_le (l : List KeyEntry) (key : Key) : rank l key ≤ l.length := List.length_filter_le _ _

theorem rank_cons_of_klt {a : KeyEntry} {key : Key} (l : List KeyEntry) (h : klt a.key key = true) :
    rank (a :: l) key = rank l key + 1 := by
  simp only [rank, List.filter_cons, h, if_true, List.length_cons]

theorem not_klt_of_head {a : KeyEntry} {l : List KeyEntry} {key : Key} (hs : SortedKE (a :: l))
    (h : klt a.key key = false) {b : KeyEntry} (hb : b ∈ a :: l) : klt b.key key = false := by
  rcases List.mem_cons.mp hb with rfl | hb
  · exact h
  · exact not_klt_iff_kle.mpr
      (kle_trans (not_klt_iff_kle.mp h) (kle_of_klt (List.rel_of_pairwise_cons hs hb)))

theorem rank_cons_of_not_klt {a : KeyEntry} {l : List KeyEntry} {key : Key} (hs : SortedKE (a :: l))
    (h : klt a.key key = false) : rank (a :: l) key = 0 := by
  rw [rank, List.filter_eq_nil_iff.mpr fun b hb => by rw [not_klt_of_head hs h hb]; exact Bool.false_ne_true]
  rfl

theorem klt_iff_lt_rank {l : List KeyEntry} (hs : SortedKE l) (key : Key) {p : Nat} {ke : KeyEntry}
    (hp : l[p]? = some ke) : klt ke.key key = true ↔ p < rank l key := by
  induction l generalizing p with
  | nil => cases hp
  | cons a l ih =>
    cases ha : klt a.key key with
    | true =>
      rw [rank_cons_of_klt l ha]
      cases p with
      | zero => cases hp; simp only [ha, Nat.zero_lt_succ]
      | succ p => rw [ih (List.Pairwise.tail hs) hp, Nat.succ_lt_succ_iff]
    | false =>
      rw [rank_cons_of_not_klt hs ha, not_klt_of_head hs ha (List.mem_of_getElem? hp)]
      simp only [Bool.false_eq_true, Nat.not_lt_zero]

theorem kle_iff_rank_le {l : List KeyEntry} (hs : SortedKE l) (key : Key) {p : Nat} {ke : KeyEntry}
    (hp : l[p]? = some ke) : kle key ke.key = true ↔ rank l key ≤ p := by
  rw [← not_klt_iff_kle, ← Nat.not_lt, ← klt_iff_lt_rank hs key hp, Bool.not_eq_true]

/-- `SearchBytesFixed` on a sorted list: the probe `kle target live[h].key` is the test
    `rank ≤ h`, so the loop keeps `i ≤ rank` and ends at the rank, or at `j` if that is smaller -/
theorem searchLoop_eq {live : List KeyEntry} (hs : SortedKE live) (key : Key) :
    ∀ (fuel i j : Nat), i ≤ rank live key → i ≤ j → j < live.length → j ≤ i + fuel →
      searchLoop live key fuel i j = min (rank live key) j := by
  intro fuel
  induction fuel with
  | zero =>
    intro i j hi hij _ hf
    obtain rfl : i = j := Nat.le_antisymm hij hf
    rw [searchLoop, Nat.min_eq_right hi]
  | succ fuel ih =>
    intro i j hi hij hj hf
    rw [searchLoop]
    by_cases hlt : i < j
    · have h1 : i ≤ (i + j) / 2 := (Nat.le_div_iff_mul_le Nat.two_pos).mpr (by omega)
      have h2 : (i + j) / 2 < j := (Nat.div_lt_iff_lt_mul Nat.two_pos).mpr (by omega)
      generalize (i + j) / 2 = h at h1 h2 ⊢
      have hh : h < live.length := Nat.lt_trans h2 hj
      have hprobe := kle_iff_rank_le hs key (List.getElem?_eq_getElem hh)
      rw [if_pos hlt]
      dsimp only
      rw [List.getElem?_eq_getElem hh]
      dsimp only
      by_cases hc : kle key (live[h]).key = true
      · have hr := hprobe.mp hc
        rw [if_pos hc, ih i h hi h1 hh (Nat.le_of_lt_succ (Nat.lt_of_lt_of_le h2 hf)), Nat.min_eq_left hr,
          Nat.min_eq_left (Nat.le_trans hr (Nat.le_of_lt h2))]
      · rw [if_neg hc]
        exact ih _ j (Nat.lt_of_not_le (mt hprobe.mpr hc)) h2 hj (by omega)
    · obtain rfl : i = j := Nat.le_antisymm hij (Nat.le_of_not_lt hlt)
      rw [if_neg hlt, Nat.min_eq_right hi]

theorem searchOffset_eq_rank (ix : Index) (hs : SortedKE ix.live) (key : Key) :
    searchOffset ix key = rank ix.live key := by
  unfold searchOffset
  by_cases hn : ix.live.length = 0
  · rw [List.length_eq_zero_iff.mp hn]; rfl
  · have hlast : ix.live.length - 1 < ix.live.length := Nat.sub_one_lt hn
    rw [searchLoop_eq hs key _ 0 _ (Nat.zero_le _) (Nat.zero_le _) hlast (by omega)]
    dsimp only
    by_cases hr : rank ix.live key < ix.live.length
    · rw [Nat.min_eq_left (Nat.le_sub_one_of_lt hr), List.getElem?_eq_getElem hr]
      dsimp only
      rw [if_pos ((kle_iff_rank_le hs key (List.getElem?_eq_getElem hr)).mpr (Nat.le_refl _))]
    · -- every key is smaller: the search stops at the last one, which fails the comparison
      have hr : rank ix.live key = ix.live.length := Nat.le_antisymm (rank_le _ _) (Nat.le_of_not_lt hr)
      rw [hr, Nat.min_eq_right (Nat.sub_le _ _), List.getElem?_eq_getElem hlast]
      dsimp only
      rw [if_neg (mt (kle_iff_rank_le hs key (List.getElem?_eq_getElem hlast)).mp (by omega))]

theorem sorted_find_eq (l : List KeyEntry) (hs : SortedKE l) (key : Key) :
    l.find? (fun ke => ke.key = key) = (l[rank l key]?).filter fun ke => ke.key = key := by
  induction l with
  | nil => rfl
  | cons a l ih =>
    cases ha : klt a.key key with
    | true =>
      rw [rank_cons_of_klt l ha, List.getElem?_cons_succ, ← ih (List.Pairwise.tail hs),
        List.find?_cons_of_neg (by simpa using klt_ne ha)]
    | false =>
      rw [rank_cons_of_not_klt hs ha, List.getElem?_cons_zero, Option.filter_some, List.find?_cons]
      by_cases hk : a.key = key
      · simp only [hk, decide_true, if_true]
      · -- `key` is below the head, hence below every later key
        have hka : klt key a.key = true :=
          (kle_iff_lt_or_eq.mp (not_klt_iff_kle.mp ha)).resolve_right (Ne.symm hk)
        simp only [hk, decide_false, Bool.false_eq_true, if_false]
        exact List.find?_eq_none.mpr fun b hb => by
          simpa using (klt_ne (klt_trans hka (List.rel_of_pairwise_cons hs hb))).symm

/-- what every reachable index satisfies -/
structure IndexInv (ix : Index) : Prop where
  sortedAll : SortedKE ix.all
  sub : ix.live.Sublist ix.all
  minK : ix.minKey = (ix.all.head?.map (·.key)).getD []
  maxK : ix.maxKey = (ix.all.getLast?.map (·.key)).getD []

theorem IndexInv.sortedLive {ix : Index} (h : IndexInv ix) : SortedKE ix.live :=
  List.Pairwise.sublist h.sub h.sortedAll

theorem sorted_head_le (l : List KeyEntry) (hs : SortedKE l) (ke : KeyEntry) (hke : ke ∈ l) :
    kle ((l.head?.map (·.key)).getD []) ke.key = true := by
  have hle : l.Pairwise fun a b => kle a.key b.key = true := List.Pairwise.imp kle_of_klt hs
  cases h0 : l.head? with
  | none => rw [List.head?_eq_none_iff.mp h0] at hke; cases hke
  | some a => exact pairwise_head_rel (fun _ => kle_refl _) hle h0 ke hke

theorem sorted_le_last (l : List KeyEntry) (hs : SortedKE l) (ke : KeyEntry) (hke : ke ∈ l) :
    kle ke.key ((l.getLast?.map (·.key)).getD []) = true := by
  have hle : l.Pairwise fun a b => kle a.key b.key = true := List.Pairwise.imp kle_of_klt hs
  cases hz : l.getLast? with
  | none => rw [List.getLast?_eq_none_iff.mp hz] at hke; cases hke
  | some z => exact pairwise_rel_getLast (fun _ => kle_refl _) hle hz ke hke

theorem containsKey_all {ix : Index} (h : IndexInv ix) {ke : KeyEntry} (hke : ke ∈ ix.all) :
    containsKey ix ke.key = true := by
  simp only [containsKey, h.minK, h.maxK, Bool.and_eq_true]
  exact ⟨sorted_head_le _ h.sortedAll ke hke, sorted_le_last _ h.sortedAll ke hke⟩

theorem search_eq_find {ix : Index} (h : IndexInv ix) (key : Key) :
    search ix key = ix.live.find? (fun ke => ke.key = key) := by
  unfold search
  by_cases hc : containsKey ix key = true
  · simp only [hc, Bool.not_true, Bool.false_eq_true, if_false]
    rw [searchOffset_eq_rank ix h.sortedLive, sorted_find_eq _ h.sortedLive]
    cases ix.live[rank ix.live key]? <;> simp [Option.filter]
  · simp only [hc, Bool.not_false, if_true]
    symm
    apply List.find?_eq_none.mpr
    intro ke hke
    simp only [decide_eq_true_eq]
    intro heq
    subst heq
    exact hc (containsKey_all h (h.sub.subset hke))

theorem mkIndex_inv (kes : List KeyEntry) (hs : SortedKE kes) : IndexInv (mkIndex kes) :=
  ⟨hs, List.Sublist.refl _, rfl, rfl⟩

end Influx.Tsm
