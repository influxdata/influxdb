/-
  Lemmas.FluxTable — the window tables of the Flux storage reader.
  * window arithmetic: Go's GetLatestBounds / Window.at against the floor-division windows
    of Spec.C41;
  * the value/window alignment of *WindowTable (`nextAt` / `isInWindow` / `appendValues`):
    every value of the storage cursor lands in the row of its own window, without
    createEmpty (one row per cursor point) and with it (one row per enumerated window).
-/
import Influx.Model.FluxTable
import Influx.Spec.C41

namespace Influx.FluxTable
open Influx.WindowAgg Influx.Spec.C41
open Influx.Window (Window Bounds)

theorem at_start (q : Req) (i : Int) : (q.win.at i).start = q.offset + i * q.every := by
  simp [Req.win, Window.at, Int.mul_comm]

theorem at_stop (q : Req) (i : Int) : (q.win.at i).stop = q.offset + i * q.every + q.every := by
  simp [Req.win, Window.at, Int.mul_comm]

/-- the window Go computes (truncated division + adjustment) is the floor-division window -/
theorem glb_eq_at (q : Req) (h : 0 < q.every) (t : Int) :
    q.win.getLatestBounds t = q.win.at (widx q t) := by
  simp [Window.getLatestBounds, Req.win, widx, Window.lastIndex_eq_fdiv _ _ _ h]

theorem glb_index (q : Req) (h : 0 < q.every) (t : Int) :
    (q.win.getLatestBounds t).index = widx q t := by
  rw [glb_eq_at q h]; rfl

/-- `getWindowBoundsFor` is "window ∩ bounds" -/
theorem clip_eq (q : Req) (i : Int) : clip q (q.win.at i) = clipped q i := by
  simp only [clip, clipped, at_start, at_stop]
  refine Prod.ext ?_ ?_ <;> (simp only; split)
  · next hlt => exact (Int.max_eq_right (Int.le_of_lt hlt)).symm
  · next hge => exact (Int.max_eq_left (Int.not_lt.mp hge)).symm
  · next hgt => exact (Int.min_eq_right (Int.le_of_lt hgt)).symm
  · next hle => exact (Int.min_eq_left (Int.not_lt.mp hle)).symm

theorem le_widx_iff (q : Req) (h : 0 < q.every) (i t : Int) :
    i ≤ widx q t ↔ q.offset + i * q.every ≤ t := by
  rw [widx, Int.le_ediv_iff_mul_le h]; omega

theorem widx_eq_iff (q : Req) (h : 0 < q.every) (t i : Int) :
    widx q t = i ↔ q.offset + i * q.every ≤ t ∧ t < q.offset + i * q.every + q.every := by
  have h1 := le_widx_iff q h i t
  have h2 := le_widx_iff q h (i + 1) t
  rw [Int.add_mul] at h2
  omega

theorem widx_spec (q : Req) (h : 0 < q.every) (t : Int) :
    q.offset + widx q t * q.every ≤ t ∧ t < q.offset + widx q t * q.every + q.every :=
  (widx_eq_iff q h t _).mp rfl

theorem widx_unique (q : Req) (h : 0 < q.every) (t i : Int)
    (h1 : q.offset + i * q.every ≤ t) (h2 : t < q.offset + i * q.every + q.every) : widx q t = i :=
  (widx_eq_iff q h t i).mpr ⟨h1, h2⟩

theorem widx_mono (q : Req) (h : 0 < q.every) {t u : Int} (htu : t ≤ u) : widx q t ≤ widx q u :=
  Int.ediv_le_ediv h (by omega)

/-- the clipped stop of a window that starts before the query stop still identifies it
    (`isInWindow` looks the window up from `stop - 1`) -/
theorem widx_clipped_stop (q : Req) (h : 0 < q.every) (i : Int) (hi : q.offset + i * q.every < q.bstop) :
    widx q ((clipped q i).2 - 1) = i := by
  apply widx_unique q h <;> simp only [clipped] <;> omega

/-- the window a cursor point belongs to: an aggregate is stamped with its window's stop, a
    selector with the time of the selected point -/
def pointWin (q : Req) (isAgg : Bool) (t : Int) : Int := if isAgg then widx q t - 1 else widx q t

/-- what `createNextBufferTimes` (no createEmpty) computes for a cursor timestamp -/
theorem pointWin_spec (q : Req) (h : 0 < q.every) (isAgg : Bool) (t : Int) :
    clip q (let b := q.win.getLatestBounds t; if isAgg then q.win.prevBounds b else b)
      = clipped q (pointWin q isAgg t) := by
  cases isAgg with
  | true =>
    simp only [↓reduceIte, pointWin, Window.prevBounds]
    rw [glb_index q h, clip_eq]
  | false =>
    simp only [Bool.false_eq_true, ↓reduceIte, pointWin]
    rw [glb_eq_at q h, clip_eq]

theorem pointWin_stop (q : Req) (h : 0 < q.every) (i : Int) :
    pointWin q true (q.offset + (i + 1) * q.every) = i := by
  have := widx_unique q h (q.offset + (i + 1) * q.every) (i + 1) (Int.le_refl _) (by omega)
  simp only [pointWin, this, ↓reduceIte]; omega

/-- a cursor point is "well placed": an aggregate timestamp is the stop of a window that starts
    before the query stop; a selector's point lies before the query stop -/
def WellPlaced (q : Req) (isAgg : Bool) (t : Int) : Prop :=
  if isAgg then (∃ i : Int, t = q.offset + (i + 1) * q.every ∧ q.offset + i * q.every < q.bstop)
  else t < q.bstop

theorem WellPlaced.start_lt {q : Req} {isAgg : Bool} {t : Int} (h : 0 < q.every) (hw : WellPlaced q isAgg t) :
    q.offset + pointWin q isAgg t * q.every < q.bstop := by
  cases isAgg with
  | true =>
    simp only [WellPlaced, ↓reduceIte] at hw
    obtain ⟨i, rfl, hi⟩ := hw
    rw [pointWin_stop q h]; exact hi
  | false =>
    simp only [WellPlaced, Bool.false_eq_true, ↓reduceIte] at hw
    have := (widx_spec q h t).1
    simp only [pointWin, Bool.false_eq_true, ↓reduceIte]; omega

/-- **`isInWindow`**, asked with the (clipped) stop of window `i`, accepts exactly the well
    placed points of window `i`: for an aggregate stamped `t` the test is "`t - 1` lies in
    window `i`", for a selector "`t` lies in window `i`". -/
theorem isInWindow_clipped (q : Req) (h : 0 < q.every) (isAgg : Bool) (t i : Int)
    (hw : WellPlaced q isAgg t) (hi : q.offset + i * q.every < q.bstop) :
    isInWindow q isAgg (clipped q i).2 t = decide (pointWin q isAgg t = i) := by
  unfold isInWindow
  rw [glb_eq_at q h, widx_clipped_stop q h i hi, Bool.eq_iff_iff]
  cases isAgg with
  | true =>
    simp only [WellPlaced, ↓reduceIte] at hw
    obtain ⟨j, rfl, _⟩ := hw
    have e : (j + 1) * q.every = j * q.every + q.every := by rw [Int.add_mul, Int.one_mul]
    have hj := widx_eq_iff q h (q.offset + (j + 1) * q.every - 1) i
    rw [widx_unique q h (q.offset + (j + 1) * q.every - 1) j (by omega) (by omega)] at hj
    simp only [pointWin_stop q h, ↓reduceIte, at_start, at_stop, Bool.and_eq_true, decide_eq_true_eq]
    rw [hj]
    exact ⟨fun h1 => ⟨Int.le_sub_one_of_lt h1.1, Int.sub_one_lt_of_le h1.2⟩,
      fun h1 => ⟨Int.lt_of_le_sub_one h1.1, Int.le_of_sub_one_lt h1.2⟩⟩
  | false =>
    simp only [pointWin, Bool.false_eq_true, ↓reduceIte, at_start, at_stop, Bool.and_eq_true,
      decide_eq_true_eq]
    exact (widx_eq_iff q h t i).symm

theorem isInWindow_own (q : Req) (h : 0 < q.every) (isAgg : Bool) (t : Int) (hw : WellPlaced q isAgg t) :
    isInWindow q isAgg (clipped q (pointWin q isAgg t)).2 t = true := by
  rw [isInWindow_clipped q h isAgg t _ hw (hw.start_lt h)]; exact decide_eq_true rfl

theorem mergeValues_own (q : Req) (h : 0 < q.every) (isAgg : Bool) (whole : List (Pt Val))
    (rest : List (List (Pt Val))) (wb : Int) :
    ∀ cur : List (Pt Val), (∀ p ∈ cur, WellPlaced q isAgg p.1) →
    mergeValues q isAgg ⟨whole, cur, rest, wb⟩ (cur.map fun p => (clipped q (pointWin q isAgg p.1)).2)
      = (⟨whole, [], rest, wb⟩, cur.map fun p => some p.2) := by
  intro cur
  induction cur with
  | nil => intro _; rfl
  | cons p ps ih =>
    intro hw
    have hin := isInWindow_own q h isAgg p.1 (hw p (by simp))
    simp only [List.map_cons, mergeValues, nextAt, nextBuffer, List.isEmpty_cons, Bool.not_false, ↓reduceIte, hin]
    rw [ih (fun x hx => hw x (by simp [hx]))]

theorem advanceW_own (q : Req) (h : 0 < q.every) (hce : q.createEmpty = false) (isAgg : Bool) (fill : Option Val)
    (whole : List (Pt Val)) (a : List (Pt Val)) (rest : List (List (Pt Val))) (wb : Int)
    (ha : a ≠ []) (hw : ∀ p ∈ a, WellPlaced q isAgg p.1) :
    advanceW q isAgg fill ⟨whole, [], a :: rest, wb⟩ =
      some (⟨a, [], rest, wb⟩, a.map fun p => mkRow q fill (clipped q (pointWin q isAgg p.1)) (some p.2)) := by
  have hae : a.isEmpty = false := by cases a with | nil => exact absurd rfl ha | cons => rfl
  unfold advanceW
  simp only [nextBuffer, List.isEmpty_nil, Bool.not_true, Bool.false_eq_true, ↓reduceIte, hae, hce]
  have htimes : (a.map fun p => clip q (let b := q.win.getLatestBounds p.1; if isAgg then q.win.prevBounds b else b))
      = a.map fun p => clipped q (pointWin q isAgg p.1) := by
    apply List.map_congr_left; intro p _; exact pointWin_spec q h isAgg p.1
  simp only at htimes
  rw [htimes, List.map_map]
  have hm := mergeValues_own q h isAgg a rest wb a hw
  simp only [Function.comp_def]
  rw [hm]
  simp only [Option.some.injEq, Prod.mk.injEq, true_and]
  rw [List.zip_map', List.map_map]
  rfl

theorem drainW_own (q : Req) (h : 0 < q.every) (hce : q.createEmpty = false) (isAgg : Bool) (fill : Option Val) (wb : Int) :
    ∀ (arrs : List (List (Pt Val))) (whole : List (Pt Val)) (fuel : Nat),
    (∀ a ∈ arrs, a ≠ []) → (∀ a ∈ arrs, ∀ p ∈ a, WellPlaced q isAgg p.1) → arrs.length < fuel →
    drainBuffers (advanceW q isAgg fill) fuel ⟨whole, [], arrs, wb⟩ =
      arrs.map fun a => a.map fun p => mkRow q fill (clipped q (pointWin q isAgg p.1)) (some p.2) := by
  intro arrs
  induction arrs with
  | nil =>
    intro whole fuel _ _ hf
    cases fuel with
    | zero => rfl
    | succ n => simp [drainBuffers, advanceW, nextBuffer]
  | cons a rest ih =>
    intro whole fuel hne hw hf
    cases fuel with
    | zero => simp at hf
    | succ n =>
      simp only [drainBuffers]
      rw [advanceW_own q h hce isAgg fill whole a rest wb (hne a (by simp)) (hw a (by simp))]
      simp only [List.map_cons, List.cons.injEq, true_and]
      exact ih a n (fun x hx => hne x (by simp [hx])) (fun x hx => hw x (by simp [hx])) (by simp at hf; omega)

/-! ### with createEmpty: the cursor's values merged into the enumerated windows

  `nextAt` only ever looks at the first point the table can still read, so the merge is
  described on the flat list of remaining points. -/

def WState.remaining (s : WState) : List (Pt Val) := s.cur ++ s.rest.flatten

/-- `nextAt` on the flat list of remaining points -/
def nextAtL (q : Req) (isAgg : Bool) : List (Pt Val) → Int → List (Pt Val) × Option Val
  | [], _ => ([], none)
  | p :: ps, stop => if isInWindow q isAgg stop p.1 then (ps, some p.2) else (p :: ps, none)

def mergeL (q : Req) (isAgg : Bool) : List (Pt Val) → List Int → List (Pt Val) × List (Option Val)
  | pts, [] => (pts, [])
  | pts, stop :: stops =>
    let r := nextAtL q isAgg pts stop
    let r2 := mergeL q isAgg r.1 stops
    (r2.1, r.2 :: r2.2)

def NoEmpty (l : List (List (Pt Val))) : Prop := ∀ a ∈ l, a ≠ []

theorem nextAt_abs (q : Req) (isAgg : Bool) (s : WState) (hne : NoEmpty s.rest) (stop : Int) :
    ((nextAt q isAgg s stop).1.remaining, (nextAt q isAgg s stop).2) = nextAtL q isAgg s.remaining stop ∧
    NoEmpty (nextAt q isAgg s stop).1.rest := by
  obtain ⟨whole, cur, rest, wb⟩ := s
  unfold nextAt nextBuffer WState.remaining
  cases cur with
  | cons p ps =>
    simp only [List.isEmpty_cons, Bool.not_false, ↓reduceIte, List.cons_append, nextAtL]
    split <;> exact ⟨rfl, hne⟩
  | nil =>
    cases rest with
    | nil => simp [nextAtL, NoEmpty]
    | cons a r =>
      have ha : a ≠ [] := hne a (by simp)
      have hr : NoEmpty r := fun x hx => hne x (by simp [hx])
      cases a with
      | nil => exact absurd rfl ha
      | cons p ps =>
        simp only [List.isEmpty_nil, Bool.not_true, Bool.false_eq_true, ↓reduceIte, List.isEmpty_cons,
          List.nil_append, List.flatten_cons, List.cons_append, nextAtL]
        split <;> exact ⟨rfl, hr⟩

theorem mergeValues_abs (q : Req) (isAgg : Bool) :
    ∀ (stops : List Int) (s : WState), NoEmpty s.rest →
    ((mergeValues q isAgg s stops).1.remaining, (mergeValues q isAgg s stops).2) = mergeL q isAgg s.remaining stops ∧
    NoEmpty (mergeValues q isAgg s stops).1.rest := by
  intro stops
  induction stops with
  | nil => intro s hne; exact ⟨rfl, hne⟩
  | cons stop stops ih =>
    intro s hne
    have h1 := nextAt_abs q isAgg s hne stop
    have h2 := ih (nextAt q isAgg s stop).1 h1.2
    simp only [mergeValues, mergeL]
    rw [← h1.1, ← h2.1]
    exact ⟨rfl, h2.2⟩

theorem advanceW_done (q : Req) (isAgg : Bool) (fill : Option Val) (s : WState)
    (hne : NoEmpty s.rest) (hrem : s.remaining = []) : advanceW q isAgg fill s = none := by
  obtain ⟨hcur, hfl⟩ := List.append_eq_nil_iff.mp hrem
  have hrest : s.rest = [] := by
    cases hr : s.rest with
    | nil => rfl
    | cons x xs =>
      rw [hr] at hfl hne
      exact absurd (List.append_eq_nil_iff.mp hfl).1 (hne x (by simp))
  simp [advanceW, nextBuffer, hcur, hrest]

theorem mem_intRange : ∀ (n : Nat) (j k : Int), k ∈ intRange j n → j ≤ k ∧ k < j + n
  | 0, j, k, hk => by simp [intRange] at hk
  | m + 1, j, k, hk => by
    simp only [intRange, List.mem_cons] at hk
    rcases hk with rfl | hk
    · omega
    · have := mem_intRange m (j + 1) k hk; omega

/-- the value the cursor has for window `k` -/
def valueAt (q : Req) (isAgg : Bool) (pts : List (Pt Val)) (k : Int) : Option Val :=
  (pts.find? fun p => pointWin q isAgg p.1 == k).map (·.2)

theorem valueAt_cons (q : Req) (isAgg : Bool) (p : Pt Val) (ps : List (Pt Val)) (k : Int) :
    valueAt q isAgg (p :: ps) k = if pointWin q isAgg p.1 = k then some p.2 else valueAt q isAgg ps k := by
  simp only [valueAt, List.find?_cons]
  by_cases hk : pointWin q isAgg p.1 = k
  · simp [hk]
  · simp [hk, beq_eq_false_iff_ne.mpr hk]

/-- **alignment**: merging the cursor points (one per window, ascending, all inside the range)
    into the windows `i, i+1, …, i+n-1` puts every point at its own window and null elsewhere,
    and reads all of them. -/
theorem mergeL_align (q : Req) (h : 0 < q.every) (isAgg : Bool) :
    ∀ (n : Nat) (i : Int) (pts : List (Pt Val)),
    (∀ p ∈ pts, WellPlaced q isAgg p.1) →
    pts.Pairwise (fun a b => pointWin q isAgg a.1 < pointWin q isAgg b.1) →
    (∀ p ∈ pts, i ≤ pointWin q isAgg p.1 ∧ pointWin q isAgg p.1 < i + n) →
    (∀ k, i ≤ k → k < i + n → q.offset + k * q.every < q.bstop) →
    mergeL q isAgg pts ((intRange i n).map fun k => (clipped q k).2) =
      ([], (intRange i n).map (valueAt q isAgg pts)) := by
  intro n
  induction n with
  | zero =>
    intro i pts _ _ hr _
    cases pts with
    | nil => rfl
    | cons p ps => have := hr p (by simp); omega
  | succ n ih =>
    intro i pts hw hinc hr hwin
    have hwin' : ∀ k, i + 1 ≤ k → k < i + 1 + n → q.offset + k * q.every < q.bstop :=
      fun k h1 h2 => hwin k (by omega) (by omega)
    simp only [intRange, List.map_cons, mergeL]
    cases pts with
    | nil =>
      rw [nextAtL, ih (i + 1) [] hw hinc (fun p hp => nomatch hp) hwin']
      rfl
    | cons p ps =>
      rw [List.pairwise_cons] at hinc
      have hin := isInWindow_clipped q h isAgg p.1 i (hw p (by simp)) (hwin i (by omega) (by omega))
      have hp := hr p (by simp)
      simp only [nextAtL, hin, valueAt_cons]
      by_cases heq : pointWin q isAgg p.1 = i
      · -- `p` is the point of window `i`; the later windows see only `ps`
        simp only [heq, decide_true, ↓reduceIte]
        rw [ih (i + 1) ps (fun x hx => hw x (by simp [hx])) hinc.2
          (fun x hx => by have := hinc.1 x hx; have := hr x (by simp [hx]); omega) hwin']
        congr 2
        apply List.map_congr_left
        intro k hk
        have := (mem_intRange n (i + 1) k hk).1
        rw [valueAt_cons, if_neg (by omega)]
      · -- `p` belongs to a later window: window `i` is empty
        simp only [heq, decide_false, Bool.false_eq_true, ↓reduceIte]
        rw [ih (i + 1) (p :: ps) hw (List.pairwise_cons.mpr hinc)
          (fun x hx => by
            rcases List.mem_cons.mp hx with rfl | hx'
            · omega
            · have := hinc.1 x hx'; have := hr x hx; omega) hwin']
        congr 2
        have hnone : valueAt q isAgg ps i = none := by
          simp only [valueAt, Option.map_eq_none_iff, List.find?_eq_none, beq_iff_eq]
          intro x hx; have := hinc.1 x hx; omega
        simp only [hnone]

end Influx.FluxTable
