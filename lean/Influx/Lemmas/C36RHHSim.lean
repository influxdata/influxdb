/-
  Lemmas.C36RHHSim — simulation between the robin-hood part of the model (`stepR`) and of
  the statement (`checkR`, an association list): the list and the map answer every lookup alike.
-/
import Influx.Lemmas.C36RHHMap
import Influx.Lemmas.C36KeyOrder
import Influx.Model.C36

namespace Influx.Spec.C36
open Influx.C36

def NodupKeys (a : Assoc) : Prop := (a.map (·.1)).Nodup

theorem find_cons (p : Key × Int) (a : Assoc) (k : Key) :
    Assoc.find (p :: a) k = if p.1 = k then some p.2 else Assoc.find a k := by
  unfold Assoc.find
  by_cases h : p.1 = k <;> simp [h]

theorem erase_cons (p : Key × Int) (ps : Assoc) (k : Key) :
    Assoc.erase (p :: ps) k = if p.1 = k then Assoc.erase ps k else p :: Assoc.erase ps k := by
  unfold Assoc.erase
  by_cases h : p.1 = k <;> simp [h]

theorem nodupKeys_cons (p : Key × Int) (ps : Assoc) :
    NodupKeys (p :: ps) ↔ p.1 ∉ ps.map (·.1) ∧ NodupKeys ps := by
  unfold NodupKeys
  rw [List.map_cons, List.nodup_cons]

theorem nodup_filter (m : Assoc) (f : Key × Int → Bool) (h : NodupKeys m) : NodupKeys (m.filter f) :=
  List.Nodup.sublist (List.filter_sublist.map _) h

theorem find_none_iff (a : Assoc) (k : Key) : a.find k = none ↔ k ∉ a.map (·.1) := by
  induction a with
  | nil => simp [Assoc.find]
  | cons p ps ih =>
    rw [find_cons, List.map_cons, List.mem_cons, not_or, ← ih]
    split
    · next h => exact iff_of_false (fun h' => nomatch h') fun h' => h'.1 h.symm
    · next h => exact ⟨fun h' => ⟨fun h'' => h h''.symm, h'⟩, And.right⟩

theorem find_some_mem (a : Assoc) (k : Key) (v : Int) (h : NodupKeys a) :
    a.find k = some v ↔ (k, v) ∈ a := by
  induction a with
  | nil => simp [Assoc.find]
  | cons p ps ih =>
    have hp := (nodupKeys_cons p ps).mp h
    rw [find_cons, List.mem_cons, ← ih hp.2]
    split
    · next hk =>
      subst hk
      have hnone := (find_none_iff ps p.1).mpr hp.1
      rw [hnone]
      exact ⟨fun hv => Or.inl (Option.some.inj hv ▸ rfl),
        fun h1 => h1.elim (fun h1 => congrArg (fun q => some q.2) h1.symm) (fun h1 => nomatch h1)⟩
    · next hk => exact ⟨Or.inr, fun h1 => h1.resolve_left fun h1 => hk (h1 ▸ rfl)⟩

theorem find_erase (a : Assoc) (k k' : Key) :
    (a.erase k).find k' = if k' = k then none else a.find k' := by
  induction a with
  | nil => exact (ite_self _).symm
  | cons p ps ih =>
    rw [erase_cons, find_cons]
    by_cases hp : p.1 = k
    · rw [if_pos hp, ih]
      by_cases hk : k' = k
      · rw [if_pos hk, if_pos hk]
      · rw [if_neg hk, if_neg hk, if_neg (fun h => hk (h.symm.trans hp))]
    · rw [if_neg hp, find_cons, ih]
      by_cases hk : k' = k
      · rw [if_pos hk, if_pos hk, if_neg (fun h => hp (h.trans hk))]
      · rw [if_neg hk, if_neg hk]

theorem find_put (a : Assoc) (k : Key) (v : Int) (k' : Key) :
    (a.put k v).find k' = if k' = k then some v else a.find k' := by
  rw [Assoc.put, find_cons, find_erase]
  by_cases h : k' = k
  · rw [if_pos h.symm, if_pos h]
  · rw [if_neg (Ne.symm h), if_neg h, if_neg h]

theorem nodup_put (a : Assoc) (k : Key) (v : Int) (h : NodupKeys a) : NodupKeys (a.put k v) := by
  rw [Assoc.put, nodupKeys_cons, ← find_none_iff, find_erase, if_pos rfl]
  exact ⟨rfl, nodup_filter a _ h⟩

theorem length_put (a : Assoc) (k : Key) (v : Int) (h : NodupKeys a) :
    (a.put k v).length = a.length + (if a.find k = none then 1 else 0) := by
  rw [Assoc.put, List.length_cons]
  induction a with
  | nil => rfl
  | cons p ps ih =>
    have hp := (nodupKeys_cons p ps).mp h
    have ih' := ih hp.2
    rw [erase_cons, find_cons, List.length_cons]
    by_cases hk : p.1 = k
    · -- the one pair with key `k`: the rest holds none
      rw [if_pos hk, if_pos hk, if_neg (fun h' => nomatch h')]
      rw [if_pos ((find_none_iff ps k).mpr (hk ▸ hp.1))] at ih'
      exact ih'
    · rw [if_neg hk, if_neg hk, List.length_cons, ih', Nat.add_right_comm]

end Influx.Spec.C36

namespace Influx.C36
open Influx.Spec.C36 Influx.RHH

def ROp.WF (hf : Key → Nat) : ROp → Prop
  | .new _ lf => lf ≤ 100
  | .put k h _ => h = hf k
  | .get k h => h = hf k
  | _ => True

/-- the model could not finish the op (`insert` without a free slot, `pow2` out of range) -/
def Obs.stuck (a : Obs) : Prop := a = .err "hang" ∨ a = .err "panic"

def RR (hf : Key → Nat) : Option RHH.Map → Option Assoc → Prop
  | none, none => True
  | some m, some a => m.Inv hf ∧ NodupKeys a ∧ a.length = m.n ∧ ∀ k, a.find k = m.get (hf k) k
  | _, _ => False

theorem RR.cases {hf : Key → Nat} {m : Option RHH.Map} {a : Option Assoc} (h : RR hf m a) :
    (m = none ∧ a = none) ∨ ∃ mp al, m = some mp ∧ a = some al ∧
      mp.Inv hf ∧ NodupKeys al ∧ al.length = mp.n ∧ ∀ k, al.find k = mp.get (hf k) k := by
  cases m <;> cases a
  · exact Or.inl ⟨rfl, rfl⟩
  · exact h.elim
  · exact h.elim
  · exact Or.inr ⟨_, _, rfl, rfl, h⟩

theorem RR_empty {hf : Key → Nat} {m : RHH.Map} (h : m.Inv hf ∧ m.n = 0 ∧ ∀ e, ¬ Mem m.slots e) :
    RR hf (some m) (some []) :=
  ⟨h.1, List.nodup_nil, h.2.1.symm, fun k => (Map.get_empty h.1 h.2.2 k).symm⟩

theorem mem_iff {hf : Key → Nat} {m : RHH.Map} {a : Assoc} (hI : m.Inv hf) (hn : NodupKeys a)
    (hget : ∀ k, a.find k = m.get (hf k) k) (k : Key) (v : Int) :
    (k, v) ∈ a ↔ ∃ e, Mem m.slots e ∧ e.key = k ∧ e.val = v := by
  rw [← find_some_mem a k v hn, hget, Map.get_spec hI]

theorem dist_check (h i c : Nat) :
    (c == 0 || decide (i ≥ c) || (decide (RHH.dist h i c < c) && (h % c + RHH.dist h i c) % c == i)) = true := by
  by_cases hc : c = 0
  · subst hc; rfl
  · by_cases hi : i ≥ c
    · rw [decide_eq_true hi, Bool.or_true, Bool.true_or]
    · rw [decide_eq_true (RHH.dist_lt h i c (Nat.pos_of_ne_zero hc)), RHH.dist_add h i c (Nat.lt_of_not_le hi),
        beq_self_eq_true, Bool.and_self, Bool.or_true]

theorem keys_eq {hf : Key → Nat} {m : RHH.Map} {a : Assoc} (hI : m.Inv hf) (hn : NodupKeys a)
    (hget : ∀ k, a.find k = m.get (hf k) k) : m.keys = (a.sorted).map (·.1) := by
  have hocc : (m.slots.filterMap fun s => s.map (·.key)) = (occupied m.slots).map (·.key) :=
    List.map_filterMap.symm
  rw [sorted_keys, RHH.Map.keys, hocc]
  apply sortedK_ext _ _ (sortKeys_sorted _ (List.pairwise_map.mpr (occupied_pairwise hI.wf))) (sortKeys_sorted _ hn)
  intro x
  rw [mem_sortKeys, mem_sortKeys, List.mem_map, List.mem_map]
  constructor
  · rintro ⟨e, he, rfl⟩
    exact ⟨(e.key, e.val), (mem_iff hI hn hget _ _).mpr ⟨e, (mem_occupied _ e).mp he, rfl, rfl⟩, rfl⟩
  · rintro ⟨p, hp, rfl⟩
    obtain ⟨e, hm, hk, _⟩ := (mem_iff hI hn hget p.1 p.2).mp hp
    exact ⟨e, (mem_occupied _ e).mpr hm, hk⟩

theorem dump_ok {hf : Key → Nat} {m : RHH.Map} {a : Assoc} (hI : m.Inv hf) (hn : NodupKeys a)
    (hlen : a.length = m.n) (hget : ∀ k, a.find k = m.get (hf k) k) :
    (checkR (some a) .dump (.slots (m.slots.map fun s => s.map fun e => (e.key, e.val)))).2 = none := by
  have hocc : (m.slots.map fun s => s.map fun e => (e.key, e.val)).filterMap id =
      (occupied m.slots).map fun e => (e.key, e.val) := by
    rw [List.filterMap_map, occupied, List.map_filterMap]; rfl
  have h1 : ((occupied m.slots).map fun e => (e.key, e.val)).length = a.length := by
    rw [List.length_map, ← count_eq_occupied, ← hI.n_eq, hlen]
  have h2 : (a.all fun p => ((occupied m.slots).map fun e => (e.key, e.val)).contains p) = true := by
    rw [List.all_eq_true]
    intro p hp
    obtain ⟨e, he, hk, hv⟩ := (mem_iff hI hn hget p.1 p.2).mp hp
    rw [List.contains_iff_mem, List.mem_map]
    exact ⟨e, (mem_occupied m.slots e).mpr he, by rw [hk, hv]⟩
  simp only [checkR, hocc, h1, h2, expect, beq_self_eq_true, Bool.and_self, if_true]

theorem stepR_sim (hf : Key → Nat) (m : Option RHH.Map) (a : Option Assoc) (op : ROp)
    (hR : RR hf m a) (hwf : ROp.WF hf op) (hns : ¬ Obs.stuck (stepR m op).2) :
    (checkR a op (stepR m op).2).2 = none ∧ RR hf (stepR m op).1 (checkR a op (stepR m op).2).1 := by
  -- `NewHashMap` and `Dist` do not look at the current map
  have hnew : ∀ c lf, lf ≤ 100 → ¬ Obs.stuck (stepR m (.new c lf)).2 →
      (checkR a (.new c lf) (stepR m (.new c lf)).2).2 = none ∧
        RR hf (stepR m (.new c lf)).1 (checkR a (.new c lf) (stepR m (.new c lf)).2).1 := by
    intro c lf hlf hns
    simp only [stepR] at hns ⊢
    cases hn : RHH.Map.new c lf with
    | none => rw [hn] at hns; exact absurd (Or.inr rfl) hns
    | some m' => exact ⟨rfl, RR_empty (RHH.Map.new_inv hf hn hlf)⟩
  have hdist : ∀ h i c, (checkR a (.dist h i c) (stepR m (.dist h i c)).2).2 = none := by
    intro h i c
    simp only [stepR, checkR, dist_check h i c, expect, if_true]
  rcases hR.cases with ⟨rfl, rfl⟩ | ⟨mp, al, rfl, rfl, hI, hnd, hlen, hget⟩
  · cases op with
    | new c lf => exact hnew c lf hwf hns
    | dist h i c => exact ⟨hdist h i c, hR⟩
    | _ => exact ⟨rfl, hR⟩
  · cases op with
    | new c lf => exact hnew c lf hwf hns
    | dist h i c => exact ⟨hdist h i c, hR⟩
    | put k h v =>
      cases (hwf : h = hf k)
      simp only [stepR] at hns ⊢
      cases hp : mp.put (hf k) k v with
      | none => rw [hp] at hns; exact absurd (Or.inl rfl) hns
      | some m' =>
        obtain ⟨hI', hgk, hgo, hn1, hn2⟩ := RHH.Map.put_get hI k v hp
        refine ⟨rfl, hI', nodup_put al k v hnd, ?_, fun k' => ?_⟩
        · rw [length_put al k v hnd, hget k, hlen]
          cases hg : mp.get (hf k) k with
          | none => exact (hn2 ((RHH.Map.get_none hI k).mp hg)).symm
          | some v0 =>
            obtain ⟨e, he, hk, _⟩ := (RHH.Map.get_spec hI k v0).mp hg
            exact (hn1 ⟨e, he, hk⟩).symm
        · rw [find_put]
          split
          · next hk => rw [hk, hgk]
          · next hk => rw [hget k', hgo k' hk]
    | get k h =>
      cases (hwf : h = hf k)
      simp only [stepR, checkR, hget k]
      cases mp.get (hf k) k <;> exact ⟨expect_self _ _, hR⟩
    | len => exact ⟨by simp only [stepR, checkR, hlen]; exact expect_self _ _, hR⟩
    | cap => exact ⟨rfl, hR⟩
    | dump => exact ⟨dump_ok hI hnd hlen hget, hR⟩
    | keys => exact ⟨by simp only [stepR, checkR, keys_eq hI hnd hget]; exact expect_self _ _, hR⟩
    | grow sz =>
      simp only [stepR] at hns ⊢
      cases hg : mp.grow sz with
      | none => rw [hg] at hns; exact absurd (Or.inl rfl) hns
      | some m' =>
        obtain ⟨hI', hget', hn'⟩ := RHH.Map.grow_get hI hg
        exact ⟨rfl, hI', hnd, hlen.trans hn'.symm, fun k => (hget k).trans (hget' k).symm⟩
    | reset => exact ⟨rfl, RR_empty (RHH.Map.reset_inv hI)⟩

end Influx.C36
