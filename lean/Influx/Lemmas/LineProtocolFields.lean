/-
  `scanFields` on the field text written by `Fields.MarshalBinary`.
-/
import Influx.Lemmas.LineProtocolNum
import Influx.Lemmas.LineProtocolKey
import Influx.Spec.C11

namespace Influx.LP
open Influx.Generated.LineProto Influx.Spec.C11

def prepOk (l : Bytes) : Except Err (Bytes × Bytes) → Except Err (Bytes × Bytes)
  | .ok (f, r) => .ok (l ++ f, r)
  | .error e => .error e

theorem consOk_eq (b : Nat) (r : Except Err (Bytes × Bytes)) : consOk b r = prepOk [b] r := by
  cases r with
  | error e => rfl
  | ok p => obtain ⟨f, r⟩ := p; rfl

theorem prepOk_prepOk (a b : Bytes) (r : Except Err (Bytes × Bytes)) :
    prepOk a (prepOk b r) = prepOk (a ++ b) r := by
  cases r with
  | error e => rfl
  | ok p => obtain ⟨f, r⟩ := p; simp [prepOk]

theorem prepOk_nil (r : Except Err (Bytes × Bytes)) : prepOk [] r = r := by
  cases r with
  | error e => rfl
  | ok p => obtain ⟨f, r⟩ := p; rfl

def pushAll (s : FSt) (l : Bytes) : FSt := l.foldl FSt.push s

@[simp] theorem pushAll_nil (s : FSt) : pushAll s [] = s := rfl
@[simp] theorem pushAll_cons (s : FSt) (b : Nat) (l : Bytes) : pushAll s (b :: l) = pushAll (s.push b) l := rfl
theorem pushAll_append (s : FSt) (a b : Bytes) : pushAll s (a ++ b) = pushAll (pushAll s a) b := by
  simp [pushAll, List.foldl_append]

@[simp] theorem pushAll_quoted (s : FSt) (l : Bytes) : (pushAll s l).quoted = s.quoted := by
  induction l generalizing s with
  | nil => rfl
  | cons b l ih => simp [ih, FSt.push]
@[simp] theorem pushAll_equals (s : FSt) (l : Bytes) : (pushAll s l).equals = s.equals := by
  induction l generalizing s with
  | nil => rfl
  | cons b l ih => simp [ih, FSt.push]
@[simp] theorem pushAll_commas (s : FSt) (l : Bytes) : (pushAll s l).commas = s.commas := by
  induction l generalizing s with
  | nil => rfl
  | cons b l ih => simp [ih, FSt.push]

attribute [local simp] cBS_val cComma_val cSpace_val cEq_val cQuote_val cNL_val

theorem scanFieldsM_plain (s : FSt) (b : Nat) (rest : Bytes)
    (h92 : b ≠ cBS) (hq : ¬ (b = cQuote ∧ s.equals > s.commas))
    (heq : ¬ (b = cEq ∧ s.quoted = false)) (hsp : ¬ (b = cSpace ∧ s.quoted = false))
    (hc : ¬ (b = cComma ∧ s.quoted = false)) :
    scanFieldsM .normal s (b :: rest) = prepOk [b] (scanFieldsM .normal (s.push b) rest) := by
  rw [scanFieldsM]
  have h1 : ¬ (b = cBS ∧ (!rest.isEmpty) = true) := fun h => h92 h.1
  have h3 : ¬ (b = cEq ∧ (!s.quoted) = true) := by
    intro h; exact heq ⟨h.1, by simpa using h.2⟩
  have h4 : ¬ (b = cSpace ∧ (!s.quoted) = true) := by
    intro h; exact hsp ⟨h.1, by simpa using h.2⟩
  have h5 : ¬ (b = cComma ∧ (!s.quoted) = true) := by
    intro h; exact hc ⟨h.1, by simpa using h.2⟩
  rw [if_neg h1, if_neg hq, if_neg h3, if_neg h4]
  simp only [if_neg h5, consOk_eq]

theorem scanFieldsM_esc (s : FSt) (c : Nat) (rest : Bytes) :
    scanFieldsM .normal s (cBS :: c :: rest) =
      prepOk [cBS, c] (scanFieldsM .normal ((s.push cBS).push c) rest) := by
  rw [scanFieldsM]
  have h1 : (cBS = cBS ∧ (!(c :: rest).isEmpty) = true) := ⟨rfl, rfl⟩
  rw [if_pos h1, scanFieldsM, consOk_eq, consOk_eq, prepOk_prepOk]
  rfl

theorem escapeString_cons (a : Nat) (l : Bytes) : escapeString (a :: l) = escapeString [a] ++ escapeString l := by
  simp only [escapeString]; split <;> rfl

theorem isEscapeChar_cases (b : Nat) (h : isEscapeChar b = true) :
    b = cComma ∨ b = cQuote ∨ b = cSpace ∨ b = cEq := by
  simp only [isEscapeChar, Bool.or_eq_true, beq_iff_eq] at h
  rcases h with ((h | h) | h) | h <;> simp [h]

theorem not_isEscapeChar (b : Nat) (h : isEscapeChar b = false) :
    b ≠ cComma ∧ b ≠ cQuote ∧ b ≠ cSpace ∧ b ≠ cEq := by
  simp only [isEscapeChar, Bool.or_eq_false_iff, beq_eq_false_iff_ne] at h
  exact ⟨h.1.1.1, h.1.1.2, h.1.2, h.2⟩

theorem scanFieldsM_unit (s : FSt) (a : Nat) (tail : Bytes) (ha : a ≠ cBS) :
    scanFieldsM .normal s (escapeString [a] ++ tail) =
      prepOk (escapeString [a]) (scanFieldsM .normal (pushAll s (escapeString [a])) tail) := by
  cases hesc : isEscapeChar a with
  | true =>
    have : escapeString [a] = [cBS, a] := by simp [escapeString, hesc]
    rw [this]
    exact scanFieldsM_esc s a tail
  | false =>
    have : escapeString [a] = [a] := by simp [escapeString, hesc]
    rw [this]
    obtain ⟨h1, h2, h3, h4⟩ := not_isEscapeChar a hesc
    exact scanFieldsM_plain s a tail ha (fun h => h2 h.1) (fun h => h4 h.1) (fun h => h3 h.1) (fun h => h1 h.1)

theorem scanFieldsM_key (k : Bytes) (hk : fieldKeyPairsOK k = true) (s : FSt) (rest : Bytes)
    (hq : s.quoted = false) (he : s.equals = s.commas) :
    scanFieldsM .normal s (escapeString k ++ rest) =
      prepOk (escapeString k) (scanFieldsM .normal (pushAll s (escapeString k)) rest) := by
  fun_induction fieldKeyPairsOK k generalizing s with
  | case1 => simp [escapeString, prepOk_nil]
  | case2 b =>
    have hb : b ≠ cBS := by simpa using hk
    exact scanFieldsM_unit s b rest hb
  | case3 b r h => cases hk
  | case4 b r hsp ih =>
    have h92 : escapeString (cBS :: b :: r) = cBS :: escapeString (b :: r) := by
      have : isEscapeChar cBS = false := by decide
      rw [escapeString, this]; rfl
    rw [h92]
    cases hesc : isEscapeChar b with
    | true =>
      -- only the quote is escaped but not tag-special
      have hb : b = cQuote := by
        rcases isEscapeChar_cases b hesc with h | h | h | h
        · exact absurd (by simp [h, Spec.C11.isTagSpecial]) hsp
        · exact h
        · exact absurd (by simp [h, Spec.C11.isTagSpecial]) hsp
        · exact absurd (by simp [h, Spec.C11.isTagSpecial]) hsp
      subst hb
      have h2 : escapeString (cQuote :: r) = cBS :: cQuote :: escapeString r := by
        have : isEscapeChar cQuote = true := by decide
        rw [escapeString, this]; rfl
      rw [h2]
      simp only [List.cons_append]
      rw [scanFieldsM_esc]
      have hplain := scanFieldsM_plain ((s.push cBS).push cBS) cQuote (escapeString r ++ rest) (by decide)
        (by intro h; have := h.2; simp [FSt.push] at this; omega) (fun h => absurd h.1 (by decide))
        (fun h => absurd h.1 (by decide)) (fun h => absurd h.1 (by decide))
      rw [hplain, ih hk _ (by simp [FSt.push, hq]) (by simp [FSt.push, he])]
      simp [prepOk_prepOk, pushAll]
    | false =>
      have h2 : escapeString (b :: r) = b :: escapeString r := by simp [escapeString, hesc]
      rw [h2]
      simp only [List.cons_append]
      rw [scanFieldsM_esc, ih hk _ (by simp [FSt.push, hq]) (by simp [FSt.push, he])]
      simp [prepOk_prepOk, pushAll]
  | case5 a b r ha ih =>
    rw [escapeString_cons, List.append_assoc, scanFieldsM_unit s a _ ha,
      ih hk _ (by simp [hq]) (by simp [he]), prepOk_prepOk, pushAll_append]

theorem escapeString_append (a b : Bytes) : escapeString (a ++ b) = escapeString a ++ escapeString b := by
  induction a with
  | nil => rfl
  | cons x xs ih => rw [List.cons_append, escapeString_cons, escapeString_cons x xs, ih, List.append_assoc]

/-- at the `=` after a non-empty key the two look-behind bytes never look like a missing key -/
theorem key_lookbehind (s : FSt) (k : Bytes) (hk : k ≠ []) :
    ¬ ((pushAll s (escapeString k)).p1 = cSpace ∧ (pushAll s (escapeString k)).p2 ≠ cBS) ∧
    ¬ ((pushAll s (escapeString k)).p1 = cComma ∧ (pushAll s (escapeString k)).p2 ≠ cBS) := by
  have hsplit : k = k.dropLast ++ [k.getLast hk] := (List.dropLast_concat_getLast hk).symm
  generalize k.getLast hk = x at hsplit
  generalize k.dropLast = k' at hsplit
  subst hsplit
  rw [escapeString_append, pushAll_append]
  cases hesc : isEscapeChar x with
  | true =>
    have : escapeString [x] = [cBS, x] := by simp [escapeString, hesc]
    rw [this]
    simp [FSt.push]
  | false =>
    have : escapeString [x] = [x] := by simp [escapeString, hesc]
    rw [this]
    obtain ⟨h1, _, h3, _⟩ := not_isEscapeChar x hesc
    simp [FSt.push, h1, h3]

/-- what the main loop does at the byte after a value (not inside quotes) -/
def afterTok (s : FSt) : Bytes → Except Err (Bytes × Bytes)
  | [] => s.finish []
  | b :: rest =>
    if b = cComma then prepOk [cComma] (scanFieldsM .normal ({ s with commas := s.commas + 1 }.push cComma) rest)
    else s.finish (b :: rest)

def isTail (tail : Bytes) : Prop := tail = [] ∨ tail.head? = some cComma ∨ tail.head? = some cSpace

theorem scanFieldsM_normal_tail (s : FSt) (tail : Bytes) (hq : s.quoted = false) (ht : isTail tail) :
    scanFieldsM .normal s tail = afterTok s tail := by
  rcases ht with rfl | ht | ht
  · rfl
  · cases tail with
    | nil => simp at ht
    | cons b rest =>
      simp at ht; subst ht
      rw [scanFieldsM]
      simp [hq, afterTok, consOk_eq]
  · cases tail with
    | nil => simp at ht
    | cons b rest =>
      simp at ht; subst ht
      rw [scanFieldsM]
      simp [hq, afterTok]

def eqState (s : FSt) : FSt := { s with equals := s.equals + 1 }.push cEq

theorem scanFieldsM_eq_num (s : FSt) (c : Nat) (rest : Bytes) (hq : s.quoted = false)
    (h1 : ¬ (s.p1 = cSpace ∧ s.p2 ≠ cBS)) (h2 : ¬ (s.p1 = cComma ∧ s.p2 ≠ cBS))
    (hc : c ≠ cComma ∧ c ≠ cSpace) (hg : isNumeric c = true ∨ c = 45 ∨ c = 78 ∨ c = 110) :
    scanFieldsM .normal s (cEq :: c :: rest) = prepOk [cEq] (scanFieldsM (.num []) (eqState s) (c :: rest)) := by
  conv => lhs; rw [scanFieldsM]
  simp [hq, h1, h2, hc.1, hc.2, hg, consOk_eq, eqState]

theorem scanFieldsM_eq_bool (s : FSt) (c : Nat) (rest : Bytes) (hq : s.quoted = false)
    (h1 : ¬ (s.p1 = cSpace ∧ s.p2 ≠ cBS)) (h2 : ¬ (s.p1 = cComma ∧ s.p2 ≠ cBS))
    (hc : c ≠ cComma ∧ c ≠ cSpace) (hg : ¬ (isNumeric c = true ∨ c = 45 ∨ c = 78 ∨ c = 110)) (hnq : c ≠ cQuote) :
    scanFieldsM .normal s (cEq :: c :: rest) = prepOk [cEq] (scanFieldsM (.bool []) (eqState s) (c :: rest)) := by
  conv => lhs; rw [scanFieldsM]
  simp [hq, h1, h2, hc.1, hc.2, hg, hnq, consOk_eq, eqState]

theorem scanFieldsM_eq_quote (s : FSt) (rest : Bytes) (hq : s.quoted = false)
    (h1 : ¬ (s.p1 = cSpace ∧ s.p2 ≠ cBS)) (h2 : ¬ (s.p1 = cComma ∧ s.p2 ≠ cBS)) :
    scanFieldsM .normal s (cEq :: cQuote :: rest) =
      prepOk [cEq] (scanFieldsM .normal (eqState s) (cQuote :: rest)) := by
  conv => lhs; rw [scanFieldsM]
  have e1 : ¬ (s.p1 = 32 ∧ ¬ s.p2 = 92) := h1
  have e2 : ¬ (s.p1 = 44 ∧ ¬ s.p2 = 92) := h2
  simp [hq, e1, e2, consOk_eq, eqState, isNumeric, isDigit, cEq, cBS, cQuote, cComma, cSpace]

theorem scanFieldsM_tok (m : Bytes → FMode) (hm : m = .num ∨ m = .bool) (tok : Bytes)
    (hnd : ∀ b ∈ tok, b ≠ cComma ∧ b ≠ cSpace) (acc : Bytes) (s : FSt) (tail : Bytes) :
    scanFieldsM (m acc) s (tok ++ tail) =
      prepOk tok (scanFieldsM (m (tok.reverse ++ acc)) (pushAll s tok) tail) := by
  induction tok generalizing acc s with
  | nil => simp [prepOk_nil]
  | cons b t ih =>
    obtain ⟨hb1, hb2⟩ := hnd b (by simp)
    have step : scanFieldsM (m acc) s (b :: (t ++ tail)) =
        consOk b (scanFieldsM (m (b :: acc)) (s.push b) (t ++ tail)) := by
      rcases hm with rfl | rfl <;> (conv => lhs; rw [scanFieldsM]) <;> simp only [hb1, hb2, or_self, if_false]
    rw [List.cons_append, step, consOk_eq, ih (fun c hc => hnd c (by simp [hc])), prepOk_prepOk]
    simp

theorem scanFieldsM_tok_end (m : Bytes → FMode) (tok : Bytes) (s : FSt) (tail : Bytes)
    (hok : m = .num ∧ checkNumber tok = .ok () ∨ m = .bool ∧ checkBoolean tok = .ok ())
    (ht : isTail tail) : scanFieldsM (m tok.reverse) s tail = afterTok s tail := by
  rcases ht with rfl | ht | ht
  · rcases hok with ⟨rfl, hok⟩ | ⟨rfl, hok⟩ <;> (conv => lhs; rw [scanFieldsM]) <;> simp [hok, afterTok]
  · cases tail with
    | nil => simp at ht
    | cons b rest =>
      simp at ht; subst ht
      rcases hok with ⟨rfl, hok⟩ | ⟨rfl, hok⟩ <;> (conv => lhs; rw [scanFieldsM]) <;>
        simp [hok, afterTok, consOk_eq]
  · cases tail with
    | nil => simp at ht
    | cons b rest =>
      simp at ht; subst ht
      rcases hok with ⟨rfl, hok⟩ | ⟨rfl, hok⟩ <;> (conv => lhs; rw [scanFieldsM]) <;>
        simp [hok, afterTok, cSpace, cComma]

theorem scanFieldsM_quote (s : FSt) (rest : Bytes) (h : s.equals > s.commas) :
    scanFieldsM .normal s (cQuote :: rest) =
      prepOk [cQuote] (scanFieldsM .normal ({ s with quoted := !s.quoted }.push cQuote) rest) := by
  conv => lhs; rw [scanFieldsM]
  simp [h, consOk_eq]

theorem scanFieldsM_strbody (str : Bytes) (s : FSt) (hq : s.quoted = true) (tail : Bytes) :
    scanFieldsM .normal s (escapeStringField str ++ tail) =
      prepOk (escapeStringField str) (scanFieldsM .normal (pushAll s (escapeStringField str)) tail) := by
  induction str generalizing s with
  | nil => simp [escapeStringField, prepOk_nil]
  | cons b r ih =>
    by_cases hb : b = cQuote ∨ b = cBS
    · have : escapeStringField (b :: r) = cBS :: b :: escapeStringField r := by
        rw [escapeStringField, if_pos hb]
      rw [this]
      simp only [List.cons_append]
      rw [scanFieldsM_esc, ih _ (by simp [FSt.push, hq]), prepOk_prepOk]
      simp [pushAll]
    · have : escapeStringField (b :: r) = b :: escapeStringField r := by
        rw [escapeStringField, if_neg hb]
      rw [this]
      simp only [List.cons_append]
      have hb' : b ≠ cQuote ∧ b ≠ cBS := by
        constructor <;> intro h <;> exact hb (by simp [h])
      rw [scanFieldsM_plain s b _ hb'.2 (fun h => hb'.1 h.1) (fun h => by simp [hq] at h)
        (fun h => by simp [hq] at h) (fun h => by simp [hq] at h),
        ih _ (by simp [FSt.push, hq]), prepOk_prepOk]
      simp [pushAll]

theorem finish_ok (s : FSt) (rest : Bytes) (hq : s.quoted = false) (he : s.equals = s.commas + 1) :
    s.finish rest = .ok ([], rest) := by
  unfold FSt.finish
  simp [hq, he]

structure NumTok (tok : Bytes) : Prop where
  nodelim : ∀ b ∈ tok, b ≠ cComma ∧ b ≠ cSpace
  gate : ∃ c t, tok = c :: t ∧ (isNumeric c = true ∨ c = 45 ∨ c = 78 ∨ c = 110)
  ok : checkNumber tok = .ok ()

structure BoolTok (tok : Bytes) : Prop where
  nodelim : ∀ b ∈ tok, b ≠ cComma ∧ b ≠ cSpace
  gate : ∃ c t, tok = c :: t ∧ ¬ (isNumeric c = true ∨ c = 45 ∨ c = 78 ∨ c = 110) ∧ c ≠ cQuote
  ok : checkBoolean tok = .ok ()

theorem scanFieldsM_numval (tok : Bytes) (h : NumTok tok) (s : FSt) (hq : s.quoted = false)
    (h1 : ¬ (s.p1 = cSpace ∧ s.p2 ≠ cBS)) (h2 : ¬ (s.p1 = cComma ∧ s.p2 ≠ cBS)) (tail : Bytes) (ht : isTail tail) :
    scanFieldsM .normal s (cEq :: tok ++ tail) =
      prepOk (cEq :: tok) (afterTok (pushAll (eqState s) tok) tail) := by
  obtain ⟨c, t, rfl, hg⟩ := h.gate
  have hc := h.nodelim c (by simp)
  rw [List.cons_append, List.cons_append, scanFieldsM_eq_num s c _ hq h1 h2 hc hg]
  rw [← List.cons_append, scanFieldsM_tok .num (Or.inl rfl) (c :: t) h.nodelim, List.append_nil,
    scanFieldsM_tok_end .num _ _ _ (Or.inl ⟨rfl, h.ok⟩) ht, prepOk_prepOk]
  rfl

theorem scanFieldsM_boolval (tok : Bytes) (h : BoolTok tok) (s : FSt) (hq : s.quoted = false)
    (h1 : ¬ (s.p1 = cSpace ∧ s.p2 ≠ cBS)) (h2 : ¬ (s.p1 = cComma ∧ s.p2 ≠ cBS)) (tail : Bytes) (ht : isTail tail) :
    scanFieldsM .normal s (cEq :: tok ++ tail) =
      prepOk (cEq :: tok) (afterTok (pushAll (eqState s) tok) tail) := by
  obtain ⟨c, t, rfl, hg, hnq⟩ := h.gate
  have hc := h.nodelim c (by simp)
  rw [List.cons_append, List.cons_append, scanFieldsM_eq_bool s c _ hq h1 h2 hc hg hnq]
  rw [← List.cons_append, scanFieldsM_tok .bool (Or.inr rfl) (c :: t) h.nodelim, List.append_nil,
    scanFieldsM_tok_end .bool _ _ _ (Or.inr ⟨rfl, h.ok⟩) ht, prepOk_prepOk]
  rfl

theorem scanFieldsM_strval (str : Bytes) (s : FSt) (hq : s.quoted = false) (he : s.equals = s.commas)
    (h1 : ¬ (s.p1 = cSpace ∧ s.p2 ≠ cBS)) (h2 : ¬ (s.p1 = cComma ∧ s.p2 ≠ cBS)) (tail : Bytes) (ht : isTail tail) :
    ∃ s', s'.quoted = false ∧ s'.equals = s.equals + 1 ∧ s'.commas = s.commas ∧
      scanFieldsM .normal s (cEq :: (cQuote :: escapeStringField str ++ [cQuote]) ++ tail) =
        prepOk (cEq :: (cQuote :: escapeStringField str ++ [cQuote])) (afterTok s' tail) := by
  have e1 : (eqState s).equals > (eqState s).commas := by simp [eqState, FSt.push, he]
  let sA : FSt := { eqState s with quoted := !(eqState s).quoted }.push cQuote
  have hqA : sA.quoted = true := by simp [sA, eqState, FSt.push, hq]
  let sB : FSt := pushAll sA (escapeStringField str)
  have e2 : sB.equals > sB.commas := by simp [sB, sA, eqState, FSt.push, he]
  let sC : FSt := { sB with quoted := !sB.quoted }.push cQuote
  refine ⟨sC, by simp [sC, sB, hqA, FSt.push], by simp [sC, sB, sA, eqState, FSt.push],
    by simp [sC, sB, sA, eqState, FSt.push], ?_⟩
  have hqC : sC.quoted = false := by simp [sC, sB, hqA, FSt.push]
  simp only [List.cons_append, List.append_assoc]
  have hfin : scanFieldsM .normal sC ([] ++ tail) = afterTok sC tail := by
    simpa using scanFieldsM_normal_tail sC tail hqC ht
  rw [scanFieldsM_eq_quote s _ hq h1 h2, scanFieldsM_quote _ _ e1, scanFieldsM_strbody str sA hqA,
    scanFieldsM_quote _ _ e2]
  show prepOk [cEq] (prepOk [cQuote] (prepOk (escapeStringField str) (prepOk [cQuote]
    (scanFieldsM .normal sC ([] ++ tail))))) = _
  rw [hfin]
  simp [prepOk_prepOk]

theorem intDigits_bytes (v : Int) : ∀ b ∈ intDigits v, isDigit b = true ∨ b = 45 := by
  intro b hb
  unfold intDigits at hb
  split at hb
  · rcases List.mem_cons.mp hb with h | h
    · right; exact h
    · left; exact (natDigits_spec _).2.1 b h
  · left; exact (natDigits_spec _).2.1 b hb

theorem intDigits_head (v : Int) : ∃ c t, intDigits v = c :: t ∧ (isDigit c = true ∨ c = 45) := by
  unfold intDigits
  split
  · exact ⟨45, _, rfl, Or.inr rfl⟩
  · obtain ⟨d, r, hd, hdig⟩ := natDigits_head v.natAbs
    exact ⟨d, r, hd, Or.inl hdig⟩

theorem numTok_int (v : Int) (h1 : -(2 ^ 63 : Int) ≤ v) (h2 : v < 2 ^ 63) : NumTok (intDigits v ++ [105]) where
  nodelim := by
    intro b hb
    rcases List.mem_append.mp hb with h | h
    · rcases intDigits_bytes v b h with h | h
      · exact ⟨ne_of_isDigit h rfl, ne_of_isDigit h rfl⟩
      · subst h; decide
    · simp at h; subst h; decide
  gate := by
    obtain ⟨c, t, hc, hg⟩ := intDigits_head v
    refine ⟨c, t ++ [105], by simp [hc], ?_⟩
    rcases hg with hg | hg
    · left; simp [isNumeric, hg]
    · right; left; exact hg
  ok := checkNumber_int v h1 h2

theorem numTok_uint (v : Nat) (h : v < 2 ^ 64) : NumTok (natDigits v ++ [117]) where
  nodelim := by
    intro b hb
    rcases List.mem_append.mp hb with h | h
    · have hb := (natDigits_spec v).2.1 b h; exact ⟨ne_of_isDigit hb rfl, ne_of_isDigit hb rfl⟩
    · simp at h; subst h; decide
  gate := by
    obtain ⟨d, r, hd, hdig⟩ := natDigits_head v
    exact ⟨d, r ++ [117], by simp [hd], Or.inl (by simp [isNumeric, hdig])⟩
  ok := checkNumber_uint v h

structure FloatTextOK (text : Bytes) : Prop where
  ne : text ≠ []
  bytes : ∀ b ∈ text, isDigit b = true ∨ b = 45 ∨ b = 46
  num : checkNumber text = .ok ()
  parse : parseFloatOk text = true

theorem FloatTextOK.of {bits : Nat} {text : Bytes} (hv : fieldValOK (.float bits text) = true) :
    FloatTextOK text := by
  simp only [fieldValOK, floatTextOK, Bool.and_eq_true, Bool.not_eq_true', List.isEmpty_eq_false_iff,
    List.all_eq_true, Bool.or_eq_true, beq_iff_eq] at hv
  obtain ⟨_, ⟨⟨hne, hall⟩, hok⟩, hpf⟩ := hv
  refine ⟨hne, fun b hb => ?_, ?_, hpf⟩
  · rcases hall b hb with (h | h) | h
    · exact .inl h
    · exact .inr (.inr h)
    · exact .inr (.inl h)
  · cases hc : checkNumber text with
    | ok u => rfl
    | error e => rw [hc] at hok; cases hok

theorem numTok_float (text : Bytes) (h : FloatTextOK text) : NumTok text := by
  refine ⟨fun b hb => ?_, ?_, h.num⟩
  · rcases h.bytes b hb with h | rfl | rfl
    · exact ⟨ne_of_isDigit h rfl, ne_of_isDigit h rfl⟩
    · decide
    · decide
  · obtain ⟨c, t, rfl⟩ := List.exists_cons_of_ne_nil h.ne
    refine ⟨c, t, rfl, ?_⟩
    rcases h.bytes c (List.mem_cons_self ..) with h | h | h
    · left; simp [isNumeric, h]
    · right; left; exact h
    · left; simp [isNumeric, h]

theorem boolTok_true : BoolTok (str "true") :=
  ⟨by decide +kernel, ⟨116, str "rue", rfl, by decide, by decide⟩, by rfl⟩
theorem boolTok_false : BoolTok (str "false") :=
  ⟨by decide +kernel, ⟨102, str "alse", rfl, by decide, by decide⟩, by rfl⟩

structure FieldKeyOK (k : Bytes) : Prop where
  ne : k ≠ []
  tb : noTB k
  pairs : fieldKeyPairsOK k = true
  nl : cNL ∉ k
  ws : k.head? ≠ some 9 ∧ k.head? ≠ some 0

theorem FieldKeyOK.of {k : Bytes} (h : fieldKeyOK k = true) : FieldKeyOK k := by
  simp only [fieldKeyOK, Bool.and_eq_true, Bool.not_eq_true', List.isEmpty_eq_false_iff, noTrailingBS,
    decide_eq_true_eq, List.contains_eq_mem, decide_eq_false_iff_not, bne_iff_ne, ne_eq] at h
  obtain ⟨⟨⟨⟨⟨h1, h2⟩, h3⟩, h4⟩, h5⟩, h6⟩ := h
  exact ⟨h1, h2, h3, h4, h5, h6⟩

theorem scanFieldsM_field (k : Bytes) (v : FV) (hk : fieldKeyOK k = true) (hv : fieldValOK v = true)
    (s : FSt) (hq : s.quoted = false) (he : s.equals = s.commas) (tail : Bytes) (ht : isTail tail) :
    ∃ s', s'.quoted = false ∧ s'.equals = s.equals + 1 ∧ s'.commas = s.commas ∧
      scanFieldsM .normal s (appendField k v ++ tail) = prepOk (appendField k v) (afterTok s' tail) := by
  have hpairs := (FieldKeyOK.of hk).pairs
  obtain ⟨hl1, hl2⟩ := key_lookbehind s k (FieldKeyOK.of hk).ne
  have hq1 : (pushAll s (escapeString k)).quoted = false := by simp [hq]
  have he1 : (pushAll s (escapeString k)).equals = (pushAll s (escapeString k)).commas := by simp [he]
  unfold appendField
  rw [List.append_assoc, scanFieldsM_key k hpairs s _ hq he]
  have hnum : ∀ tok, NumTok tok → fvText v = tok →
      ∃ s', s'.quoted = false ∧ s'.equals = s.equals + 1 ∧ s'.commas = s.commas ∧
        prepOk (escapeString k) (scanFieldsM .normal (pushAll s (escapeString k)) (cEq :: fvText v ++ tail)) =
          prepOk (escapeString k ++ cEq :: fvText v) (afterTok s' tail) := by
    intro tok htok hv'
    refine ⟨pushAll (eqState (pushAll s (escapeString k))) tok, by simp [eqState, FSt.push, hq],
      by simp [eqState, FSt.push], by simp [eqState, FSt.push], ?_⟩
    rw [hv', scanFieldsM_numval tok htok _ hq1 hl1 hl2 tail ht, prepOk_prepOk]
  cases v with
  | float bits text =>
    exact hnum text (numTok_float text (FloatTextOK.of hv)) rfl
  | int i =>
    simp only [fieldValOK, Bool.and_eq_true, decide_eq_true_eq] at hv
    exact hnum _ (numTok_int i hv.1 hv.2) rfl
  | uint u =>
    simp only [fieldValOK, decide_eq_true_eq] at hv
    exact hnum _ (numTok_uint u hv) rfl
  | bool b =>
    have hb : BoolTok (fvText (.bool b)) := by
      cases b
      · exact boolTok_false
      · exact boolTok_true
    refine ⟨pushAll (eqState (pushAll s (escapeString k))) (fvText (.bool b)), by simp [eqState, FSt.push, hq],
      by simp [eqState, FSt.push], by simp [eqState, FSt.push], ?_⟩
    rw [scanFieldsM_boolval _ hb _ hq1 hl1 hl2 tail ht, prepOk_prepOk]
  | str st =>
    obtain ⟨s', h1, h2, h3, h4⟩ := scanFieldsM_strval st _ hq1 he1 hl1 hl2 tail ht
    refine ⟨s', h1, by simpa using h2, by simpa using h3, ?_⟩
    show prepOk (escapeString k) (scanFieldsM .normal (pushAll s (escapeString k))
      (cEq :: (cQuote :: escapeStringField st ++ [cQuote]) ++ tail)) = _
    rw [h4, prepOk_prepOk]
    rfl

theorem joinCommaB_cons2 (a b : Bytes) (l : List Bytes) :
    joinCommaB (a :: b :: l) = a ++ cComma :: joinCommaB (b :: l) := rfl

/-- `scanFields`' loop on the text `Fields.MarshalBinary` writes for valid fields, followed by
    nothing or by the space before the timestamp: all of it is the field section -/
theorem scanFieldsM_fields (fs : List (Bytes × FV)) (hne : fs ≠ [])
    (hall : ∀ f ∈ fs, fieldKeyOK f.1 = true ∧ fieldValOK f.2 = true)
    (s : FSt) (hq : s.quoted = false) (he : s.equals = s.commas) (T : Bytes)
    (hT : T = [] ∨ T.head? = some cSpace) :
    scanFieldsM .normal s (joinCommaB (fs.map fun f => appendField f.1 f.2) ++ T) =
      .ok (joinCommaB (fs.map fun f => appendField f.1 f.2), T) := by
  induction fs generalizing s with
  | nil => exact absurd rfl hne
  | cons f rest ih =>
    obtain ⟨hkf, hvf⟩ := hall f (by simp)
    cases rest with
    | nil =>
      simp only [List.map_cons, List.map_nil, joinCommaB]
      have htail : isTail T := by
        rcases hT with h | h
        · exact Or.inl h
        · exact Or.inr (Or.inr h)
      obtain ⟨s', h1, h2, h3, h4⟩ := scanFieldsM_field f.1 f.2 hkf hvf s hq he T htail
      rw [h4]
      have hfin : afterTok s' T = .ok ([], T) := by
        rcases hT with rfl | h
        · exact finish_ok s' [] h1 (by omega)
        · cases T with
          | nil => simp at h
          | cons b r =>
            simp at h; subst h
            simp only [afterTok]
            rw [if_neg (by decide)]
            exact finish_ok s' _ h1 (by omega)
      rw [hfin]; simp [prepOk]
    | cons g rest' =>
      simp only [List.map_cons] at ih ⊢
      rw [joinCommaB_cons2, List.append_assoc]
      obtain ⟨s', h1, h2, h3, h4⟩ := scanFieldsM_field f.1 f.2 hkf hvf s hq he
        (cComma :: (joinCommaB (appendField g.1 g.2 :: rest'.map fun f => appendField f.1 f.2)) ++ T)
        (Or.inr (Or.inl rfl))
      simp only [List.cons_append] at h4 ⊢
      rw [h4]
      simp only [afterTok, if_true]
      rw [ih (by simp) (fun x hx => hall x (by simp [hx])) _ (by simp [FSt.push, h1]) (by simp [FSt.push]; omega)]
      simp [prepOk]

end Influx.LP
