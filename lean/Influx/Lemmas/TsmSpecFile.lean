/-
  Lemmas.TsmSpecFile — writing a well-formed list of keys and blocks, on both sides: the model
  stepping through the `WriteBlock`s is the writer on the flat list of writes; the checker records
  them, and its reconstruction of the written content (`mkContent`: place, group by key, sort by
  min time) is `kbs` laid out from position 5 (`scontent`), inside the domain of the statement.
-/
import Influx.Model.TsmOps
import Influx.Spec.C08
import Influx.Lemmas.TsmWriter
import Influx.Lemmas.TsmLookup
import Influx.Lemmas.TsmRoundtrip
import Influx.Lemmas.TsmSpecTs

namespace Influx.Tsm
open Influx.Spec.C08 Influx.Generated.TsmLayout

def flatWrites (kbs : List (Key × List Blk)) : List (Key × Blk) :=
  kbs.flatMap fun kb => kb.2.map fun b => (kb.1, b)

def wOp (p : Key × Blk) : Op := .wb p.1 p.2.minT p.2.maxT p.2.data none

def runOps (s : State) (ops : List Op) : State := ops.foldl (fun s op => (step s op).1) s

theorem traceFrom_append (s : State) (a b : List Op) :
    traceFrom s (a ++ b) = traceFrom s a ++ traceFrom (runOps s a) b := by
  induction a generalizing s with
  | nil => rfl
  | cons op a ih => simp [traceFrom, runOps, ih]

def flatW (crc : Bytes → Nat) (w : WState) (ps : List (Key × Blk)) : WState :=
  ps.foldl (fun w p => (writeBlock crc w p.1 p.2.minT p.2.maxT p.2.data).1) w

def flatAns (crc : Bytes → Nat) (w : WState) : List (Key × Blk) → List WAns
  | [] => []
  | p :: ps => (writeBlock crc w p.1 p.2.minT p.2.maxT p.2.data).2 ::
      flatAns crc (writeBlock crc w p.1 p.2.minT p.2.maxT p.2.data).1 ps

theorem writeKey_flat (crc : Bytes → Nat) (k : Key) (bs : List Blk) : ∀ w : WState,
    (writeKey crc w k bs).1 = flatW crc w (bs.map fun b => (k, b)) ∧
    (writeKey crc w k bs).2 = flatAns crc w (bs.map fun b => (k, b)) := by
  induction bs with
  | nil => intro w; simp [writeKey, flatW, flatAns]
  | cons b bs ih =>
    intro w
    rw [writeKey_cons]
    obtain ⟨h1, h2⟩ := ih (writeBlock crc w k b.minT b.maxT b.data).1
    simp only [List.map_cons, flatW, List.foldl_cons, flatAns]
    exact ⟨by rw [h1]; rfl, by rw [h2]⟩

theorem flatW_append (crc : Bytes → Nat) (w : WState) (a b : List (Key × Blk)) :
    flatW crc w (a ++ b) = flatW crc (flatW crc w a) b := by simp [flatW]

theorem flatAns_append (crc : Bytes → Nat) (a b : List (Key × Blk)) : ∀ w : WState,
    flatAns crc w (a ++ b) = flatAns crc w a ++ flatAns crc (flatW crc w a) b := by
  induction a with
  | nil => intro w; rfl
  | cons p a ih => intro w; simp [flatAns, flatW, ih]

theorem writeFrom_flat (crc : Bytes → Nat) (kbs : List (Key × List Blk)) : ∀ (w : WState),
    (writeFrom crc w kbs).1 = flatW crc w (flatWrites kbs) ∧
    (writeFrom crc w kbs).2 = flatAns crc w (flatWrites kbs) := by
  induction kbs with
  | nil => intro w; exact ⟨rfl, rfl⟩
  | cons kb kbs ih =>
    intro w
    rw [writeFrom_cons]
    obtain ⟨h1, h2⟩ := ih (writeKey crc w kb.1 kb.2).1
    obtain ⟨k1, k2⟩ := writeKey_flat crc kb.1 kb.2 w
    simp only [flatWrites, List.flatMap_cons] at h1 h2 ⊢
    rw [flatW_append, flatAns_append, ← k1, ← k2]
    exact ⟨h1, by rw [h2]⟩

theorem writeAll_flat (crc : Bytes → Nat) (kbs : List (Key × List Blk)) :
    (writeAll crc kbs).1 = flatW crc {} (flatWrites kbs) ∧ (writeAll crc kbs).2 = flatAns crc {} (flatWrites kbs) :=
  writeFrom_flat crc kbs {}

theorem model_writes (ps : List (Key × Blk)) : ∀ (s : State), s.wdead = false →
    (∀ a ∈ flatAns s.crc s.w ps, a = WAns.ok) →
    runOps s (ps.map wOp) = { s with w := flatW s.crc s.w ps } ∧
    traceFrom s (ps.map wOp) = ps.map fun p => (wOp p, Ans.ok) := by
  induction ps with
  | nil => intro s _ _; simp [runOps, flatW, traceFrom]
  | cons p ps ih =>
    intro s hd hans
    have h0 : (writeBlock s.crc s.w p.1 p.2.minT p.2.maxT p.2.data).2 = .ok := hans _ List.mem_cons_self
    have hstep : step s (wOp p) = ({ s with w := (writeBlock s.crc s.w p.1 p.2.minT p.2.maxT p.2.data).1 }, .ok) := by
      unfold wOp step
      simp only [hd, Bool.false_eq_true, if_false, writerStep]
      cases hw : writeBlock s.crc s.w p.1 p.2.minT p.2.maxT p.2.data with
      | mk w' a =>
        rw [hw] at h0
        simp only at h0
        subst h0
        simp [WAns.toAns]
    obtain ⟨i1, i2⟩ := ih { s with w := (writeBlock s.crc s.w p.1 p.2.minT p.2.maxT p.2.data).1 } hd
      fun a ha => hans a (List.mem_cons_of_mem _ ha)
    simp only [List.map_cons, runOps, List.foldl_cons, traceFrom, hstep]
    refine ⟨?_, ?_⟩
    · have := i1; simp only [runOps] at this; rw [this]; simp [flatW]
    · rw [i2]

def toWrite (p : Key × Blk) : Write := ⟨p.1, p.2.minT, p.2.maxT, p.2.data, none⟩

def sblocks (pos : Nat) : List Blk → List SBlock
  | [] => []
  | b :: bs => ⟨b.minT, b.maxT, pos, b.data, none⟩ :: sblocks (pos + 4 + b.data.length) bs

def scontent (pos : Nat) : List (Key × List Blk) → List SKey
  | [] => []
  | (k, bs) :: rest =>
    ⟨k, (bs.head?.bind (·.data.head?)).getD 0, sblocks pos bs⟩ :: scontent (pos + blocksLen bs) rest

@[reducible] def blkOf (b : SBlock) : Blk := ⟨b.minT, b.maxT, b.data⟩

@[reducible] def kbOf (sk : SKey) : Key × List Blk := (sk.key, sk.blocks.map blkOf)

theorem sblocks_blk (pos : Nat) (bs : List Blk) : (sblocks pos bs).map blkOf = bs := by
  induction bs generalizing pos with
  | nil => rfl
  | cons b bs ih => rw [sblocks, List.map_cons, ih]

/-- the laid-out content is `kbs` with positions: every property of the keys and blocks of `kbs` is one of
    the content, through `List.pairwise_map` / `List.forall_mem_map` -/
theorem scontent_kbs (pos : Nat) (kbs : List (Key × List Blk)) : (scontent pos kbs).map kbOf = kbs := by
  induction kbs generalizing pos with
  | nil => rfl
  | cons kb kbs ih => rw [scontent, List.map_cons, ih, kbOf, sblocks_blk]

theorem scontent_mem {pos : Nat} {kbs : List (Key × List Blk)} {sk : SKey} (h : sk ∈ scontent pos kbs) :
    kbOf sk ∈ kbs := by
  rw [← scontent_kbs pos kbs]; exact List.mem_map_of_mem h

theorem scontent_pairwise {pos : Nat} {kbs : List (Key × List Blk)} {R : Blk → Blk → Prop}
    (h : ∀ kb ∈ kbs, kb.2.Pairwise R) {sk : SKey} (hsk : sk ∈ scontent pos kbs) :
    sk.blocks.Pairwise fun a b => R (blkOf a) (blkOf b) :=
  List.pairwise_map.mp (h _ (scontent_mem hsk))

theorem scontent_typ (pos : Nat) (kbs : List (Key × List Blk)) :
    ∀ sk ∈ scontent pos kbs, sk.typ = (sk.blocks.head?.bind (·.data.head?)).getD 0 := by
  induction kbs generalizing pos with
  | nil => intro sk h; cases h
  | cons kb kbs ih =>
    intro sk h
    rcases List.mem_cons.mp h with rfl | h
    · cases kb.2 <;> rfl
    · exact ih _ sk h

theorem place_run (k : Key) (bs : List Blk) (ws : List Write) (pos : Nat) :
    place pos ((bs.map fun b => toWrite (k, b)) ++ ws) =
      (sblocks pos bs).map (fun sb => (k, sb)) ++ place (pos + blocksLen bs) ws := by
  induction bs generalizing pos with
  | nil => rfl
  | cons b bs ih =>
    have : pos + blocksLen (b :: bs) = pos + 4 + b.data.length + blocksLen bs :=
      show pos + (4 + b.data.length + blocksLen bs) = _ by omega
    rw [this]; exact congrArg (List.cons _) (ih _)

theorem groupKeys_run (k : Key) (sbs : List SBlock) (hne : sbs ≠ []) (rest : List (Key × SBlock))
    (hk : ∀ g, (groupKeys rest).head? = some g → g.1 ≠ k) :
    groupKeys (sbs.map (fun sb => (k, sb)) ++ rest) = (k, sbs) :: groupKeys rest := by
  induction sbs with
  | nil => exact absurd rfl hne
  | cons sb sbs ih =>
    cases sbs with
    | nil =>
      show (match groupKeys rest with
        | (k', bs) :: gs => if k = k' then (k, sb :: bs) :: gs else (k, [sb]) :: (k', bs) :: gs
        | [] => [(k, [sb])]) = _
      cases hg : groupKeys rest with
      | nil => rfl
      | cons g gs => exact if_neg fun e => hk g (by rw [hg]; rfl) e.symm
    | cons sb2 sbs2 =>
      have := ih (List.cons_ne_nil _ _)
      show (match groupKeys ((sb2 :: sbs2).map (fun sb => (k, sb)) ++ rest) with
        | (k', bs) :: gs => if k = k' then (k, sb :: bs) :: gs else (k, [sb]) :: (k', bs) :: gs
        | [] => [(k, [sb])]) = _
      rw [this]
      exact if_pos rfl

theorem flatWrites_cons (k : Key) (bs : List Blk) (rest : List (Key × List Blk)) :
    (flatWrites ((k, bs) :: rest)).map toWrite = (bs.map fun b => toWrite (k, b)) ++ (flatWrites rest).map toWrite := by
  simp [flatWrites, List.map_append, Function.comp_def]

theorem group_place (kbs : List (Key × List Blk)) (hne : ∀ kb ∈ kbs, kb.2 ≠ [])
    (hkeys : kbs.Pairwise fun a b => a.1 ≠ b.1) (pos : Nat) :
    groupKeys (place pos ((flatWrites kbs).map toWrite)) = (scontent pos kbs).map fun sk => (sk.key, sk.blocks) := by
  induction kbs generalizing pos with
  | nil => rfl
  | cons kb rest ih =>
    obtain ⟨k, bs⟩ := kb
    have hk := List.pairwise_cons.mp hkeys
    have ih := ih (fun kb h => hne kb (List.mem_cons_of_mem _ h)) hk.2 (pos + blocksLen bs)
    have hsb : sblocks pos bs ≠ [] := by
      cases bs with
      | nil => exact absurd rfl (hne _ List.mem_cons_self)
      | cons b bs => exact List.cons_ne_nil _ _
    rw [flatWrites_cons, place_run, groupKeys_run k _ hsb, ih]
    · rfl
    · -- the first group of the rest is the next key of `kbs`
      rw [ih]
      cases rest with
      | nil => intro g h; cases h
      | cons kb' rest => intro g h; cases h; exact (hk.1 kb' List.mem_cons_self).symm

theorem sortByMin_sorted (l : List SBlock) (h : l.Pairwise fun a b => a.minT ≤ b.minT) : sortByMin l = l :=
  foldl_ins_sorted (ins := insertByMin) (lt := fun a b => a.minT < b.minT) (fun _ => rfl) (fun _ _ _ => rfl)
    l (h.imp Int.not_lt.mpr)

theorem mkContent_flat (kbs : List (Key × List Blk)) (hne : ∀ kb ∈ kbs, kb.2 ≠ [])
    (hkeys : kbs.Pairwise fun a b => a.1 ≠ b.1)
    (hsorted : ∀ kb ∈ kbs, kb.2.Pairwise fun a b => a.minT ≤ b.minT) :
    mkContent ((flatWrites kbs).map toWrite) = scontent 5 kbs := by
  unfold mkContent
  rw [group_place kbs hne hkeys 5, List.map_map]
  refine (List.map_congr_left fun sk hsk => ?_).trans (List.map_id _)
  show SKey.mk sk.key _ (sortByMin sk.blocks) = sk
  rw [sortByMin_sorted _ (scontent_pairwise hsorted hsk), ← scontent_typ 5 kbs sk hsk]

def toKE (sk : SKey) : KeyEntry := ⟨sk.key, sk.typ, Spec.C08.entriesOf sk⟩

theorem entriesOf_sblocks (pos : Nat) (bs : List Blk) :
    (sblocks pos bs).map (·.entry) = layoutBlocks pos bs := by
  induction bs generalizing pos with
  | nil => rfl
  | cons b bs ih => rw [sblocks, List.map_cons, ih]; rfl

theorem scontent_layout (pos : Nat) (kbs : List (Key × List Blk)) :
    (scontent pos kbs).map toKE = layout pos kbs := by
  induction kbs generalizing pos with
  | nil => rfl
  | cons kb kbs ih =>
    rw [scontent, List.map_cons, ih, toKE, Spec.C08.entriesOf, entriesOf_sblocks]; rfl

/-- the domain of the statement: what the writer accepts (`WFW`), within the format limits
    (`WFFile`), every block with min ≤ max, max times non-decreasing per key -/
structure DOM (kbs : List (Key × List Blk)) : Prop where
  wfw : WFW kbs
  wff : WFFile kbs
  minmax : ∀ kb ∈ kbs, ∀ b ∈ kb.2, b.minT ≤ b.maxT
  mono : ∀ kb ∈ kbs, kb.2.Pairwise fun a b => a.maxT ≤ b.maxT

theorem pairwise_of_Pairwise {α : Type} (r : α → α → Bool) (l : List α) (h : l.Pairwise fun a b => r a b = true) :
    pairwise r l = true := by
  induction l with
  | nil => rfl
  | cons a l ih =>
    cases l with
    | nil => rfl
    | cons b l' =>
      have ha := List.pairwise_cons.mp h
      simp only [pairwise, Bool.and_eq_true]
      exact ⟨ha.1 b List.mem_cons_self, ih ha.2⟩

theorem WFW.keys_ne {kbs : List (Key × List Blk)} (h : WFW kbs) : kbs.Pairwise fun a b => a.1 ≠ b.1 := by
  apply List.Pairwise.imp _ h.keys
  intro a b hab e
  rw [e, kcmp_refl] at hab; cases hab

theorem scontent_keys_sorted (pos : Nat) (kbs : List (Key × List Blk)) (h : WFW kbs) :
    (scontent pos kbs).Pairwise fun a b => klt a.key b.key = true := by
  have := h.keys
  rw [← scontent_kbs pos kbs, List.pairwise_map] at this
  exact this.imp fun hab => by simp only [klt, beq_iff_eq]; exact hab

/-- inside the domain the checker does not abstain -/
theorem domain_ok (kbs : List (Key × List Blk)) (h : DOM kbs) :
    domainIssue ((flatWrites kbs).map toWrite) (scontent 5 kbs) = none := by
  unfold domainIssue
  have c1 : pairwise (fun a b => klt a.key b.key) (scontent 5 kbs) = true :=
    pairwise_of_Pairwise _ _ (scontent_keys_sorted 5 kbs h.wfw)
  have c2 : (scontent 5 kbs).any (fun k => decide (k.blocks.length ≥ 65535)) = false :=
    List.any_eq_false.mpr fun sk hsk => by
      have := (h.wfw.blks _ (scontent_mem hsk)).2.1
      rw [List.length_map] at this
      exact fun e => Nat.not_le.mpr this (of_decide_eq_true e)
  have c3 : (scontent 5 kbs).any (fun k => k.blocks.any fun b => decide (b.minT > b.maxT)) = false :=
    List.any_eq_false.mpr fun sk hsk => by
      rw [Bool.not_eq_true]
      exact List.any_eq_false.mpr fun sb hsb => by
        have : sb.minT ≤ sb.maxT := h.minmax _ (scontent_mem hsk) _ (List.mem_map_of_mem hsb)
        exact fun e => Int.not_lt.mpr this (of_decide_eq_true e)
  have c4 : (scontent 5 kbs).any (fun k => !pairwise (fun a b => decide (a.maxT ≤ b.maxT)) k.blocks) = false :=
    List.any_eq_false.mpr fun sk hsk => by
      rw [pairwise_of_Pairwise _ _ ((scontent_pairwise h.mono hsk).imp decide_eq_true)]; exact Bool.false_ne_true
  have c5 : (groupKeys (place 5 ((flatWrites kbs).map toWrite))).any (fun g =>
      !pairwise (fun a b => decide (a.minT ≤ b.minT)) g.2 && !allDistinct (g.2.map (·.minT))) = false := by
    rw [group_place kbs (fun kb hkb => (h.wfw.blks kb hkb).1) h.wfw.keys_ne 5, List.any_map]
    exact List.any_eq_false.mpr fun sk hsk => by
      show ¬ (!pairwise (fun a b => decide (a.minT ≤ b.minT)) sk.blocks && _) = true
      rw [pairwise_of_Pairwise _ _ ((scontent_pairwise h.wfw.sorted hsk).imp decide_eq_true)]; exact Bool.false_ne_true
  rw [c1, c2, c3, c4, c5]
  rfl

theorem spec_writes (ps : List (Key × Blk))
    (hok : ∀ p ∈ ps, p.1.length ≤ 65535 ∧ ∃ b0 rest, p.2.data = b0 :: rest ∧ b0 ≤ 4) :
    ∀ (sp : SS) (i : Nat), sp.wdone = false →
      runFrom sp i (ps.map fun p => (wOp p, Ans.ok)) =
        { sp with writes := (ps.map toWrite).reverse ++ sp.writes } := by
  induction ps with
  | nil => intro sp i _; rfl
  | cons p ps ih =>
    intro sp i hd
    obtain ⟨hk, b0, rest, hdat, hb0⟩ := hok p List.mem_cons_self
    have hstep : stepS sp i (wOp p) Ans.ok = { sp with writes := toWrite p :: sp.writes } := by
      show judgeWrite sp i p.1 p.2.minT p.2.maxT p.2.data none Ans.ok = _
      unfold judgeWrite
      rw [hd, if_neg Bool.false_ne_true, if_neg fun h => nomatch h.2]
      rw [if_neg (Nat.not_lt.mpr hk : ¬ p.1.length > 65535)]
      unfold toWrite
      rw [hdat]
      exact if_neg (Nat.not_lt.mpr hb0 : ¬ b0 > 4)
    rw [List.map_cons, runFrom_cons, hstep,
      ih (fun q hq => hok q (List.mem_cons_of_mem _ hq)) { sp with writes := toWrite p :: sp.writes } (i + 1) hd]
    simp

end Influx.Tsm
