/-
  Lemmas.BackupSeries — the series index of the source shard: every key of a file
  is listed in the index, or all its points in that file are tombstoned.  Needs the
  window test of indirectIndex.DeleteRange (`goneAux`): a key is only dropped from a
  file's index when its tombstones cover its whole time range.
  Histories without range deletes and exports keep the stronger `Shard.Clean`: no
  tombstone file at all, every key listed.
-/
import Influx.Lemmas.BackupInv

namespace Influx.Backup

def Cov (l : List (TS × TS)) (t : TS) : Prop := ∃ r ∈ l, r.1 ≤ t ∧ t ≤ r.2

theorem Cov_mono {l l' : List (TS × TS)} {t : TS} (h : Cov l t) (hs : ∀ r ∈ l, r ∈ l') : Cov l' t :=
  h.elim fun r hr => ⟨r, hs r hr.1, hr.2⟩

/-- two intervals of integers that touch or overlap make up their hull -/
theorem mem_hull {mn mx p1 p2 a b t : Int} (hmn : mn ≤ p1) (hp : p1 ≤ p2) (hmx : p2 ≤ mx)
    (adj : p2 = a - 1 ∨ (p1 ≤ b ∧ a ≤ p2)) (h1 : min mn a ≤ t) (h2 : t ≤ max mx b) :
    (mn ≤ t ∧ t ≤ mx) ∨ (a ≤ t ∧ t ≤ b) := by omega

/-- The window test accepts only a chain of ranges each adjacent to or overlapping its
    predecessor, so the window it returns has no hole: a time in it lies in the hull
    `[mn, mx]` of the ranges seen so far or in one of the remaining ranges. -/
theorem windowAux_cov {rest : List (TS × TS)} (hwf : ∀ r ∈ rest, r.1 ≤ r.2) {prev : TS × TS} {mn mx a b : TS}
    (h : windowAux prev mn mx rest = some (a, b)) (hp : prev.1 ≤ prev.2) (hmn : mn ≤ prev.1)
    (hmx : prev.2 ≤ mx) {t : TS} (ha : a ≤ t) (hb : t ≤ b) : (mn ≤ t ∧ t ≤ mx) ∨ Cov rest t := by
  induction rest generalizing prev mn mx with
  | nil =>
    simp only [windowAux, Option.some.injEq, Prod.mk.injEq] at h
    exact Or.inl ⟨h.1 ▸ ha, h.2 ▸ hb⟩
  | cons ts rest ih =>
    have hts := hwf ts (List.mem_cons_self ..)
    simp only [windowAux] at h
    split at h
    · cases h
    · next hc =>
      have adj : prev.2 = ts.1 - 1 ∨ (prev.1 ≤ ts.2 ∧ ts.1 ≤ prev.2) := by
        simpa [Classical.or_iff_not_imp_left] using hc
      rcases ih (fun r hr => hwf r (List.mem_cons_of_mem _ hr)) h hts (Int.min_le_right ..)
        (Int.le_max_right ..) with hin | ⟨r, hr, hrt⟩
      · rcases mem_hull hmn hp hmx adj hin.1 hin.2 with h' | h'
        · exact Or.inl h'
        · exact Or.inr ⟨ts, List.mem_cons_self .., h'⟩
      · exact Or.inr ⟨r, List.mem_cons_of_mem _ hr, hrt⟩

theorem window_cov {l : List (TS × TS)} {a b : TS} (h : window l = some (a, b))
    (hwf : ∀ r ∈ l, r.1 ≤ r.2) {t : TS} (ha : a ≤ t) (hb : t ≤ b) : Cov l t := by
  cases l with
  | nil => cases h
  | cons r rest =>
    rcases windowAux_cov (fun x hx => hwf x (List.mem_cons_of_mem _ hx)) h (hwf r (List.mem_cons_self ..))
      (Int.le_refl _) (Int.le_refl _) ha hb with h' | h'
    · exact ⟨r, List.mem_cons_self .., h'⟩
    · exact Cov_mono h' fun x hx => List.mem_cons_of_mem _ hx

theorem mem_insertRange {r x : TS × TS} {l : List (TS × TS)} : x ∈ insertRange r l ↔ x = r ∨ x ∈ l := by
  induction l with
  | nil => simp [insertRange]
  | cons b l ih =>
    unfold insertRange
    split
    · simp
    · simp [ih, or_left_comm]

/-- when the index drops a key, every time of the key's range is covered by a tombstone range -/
theorem goneAux_cov {all : List (TS × TS)} (hwf : ∀ r ∈ all, r.1 ≤ r.2) {kmin kmax t : TS} (h1 : kmin ≤ t)
    (h2 : t ≤ kmax) {ranges rec : List (TS × TS)} (hrec : ∀ r ∈ rec, r ∈ all) (hran : ∀ r ∈ ranges, r ∈ all)
    (h : goneAux kmin kmax rec ranges = true) : Cov all t := by
  induction ranges generalizing rec with
  | nil => cases h
  | cons r rest ih =>
    have hr := hran r (List.mem_cons_self ..)
    have hrest := fun x hx => hran x (List.mem_cons_of_mem _ hx)
    have hrec' : ∀ x ∈ insertRange r rec, x ∈ all :=
      fun x hx => (mem_insertRange.mp hx).elim (· ▸ hr) (hrec x)
    unfold goneAux at h
    by_cases c1 : (r.1 > kmax || r.2 < kmin) = true
    · rw [if_pos c1] at h
      exact ih hrec hrest h
    · rw [if_neg c1] at h
      by_cases c2 : (r.1 ≤ kmin && r.2 ≥ kmax) = true
      · rw [Bool.and_eq_true, decide_eq_true_eq, decide_eq_true_eq] at c2
        exact ⟨r, hr, Int.le_trans c2.1 h1, Int.le_trans h2 c2.2⟩
      · rw [if_neg c2] at h
        dsimp only at h
        cases hw : window (insertRange r rec) with
        | none =>
          rw [hw] at h
          exact ih hrec' hrest h
        | some w =>
          rw [hw] at h
          dsimp only at h
          by_cases c3 : (w.1 ≤ kmin && w.2 ≥ kmax) = true
          · rw [Bool.and_eq_true, decide_eq_true_eq, decide_eq_true_eq] at c3
            exact Cov_mono (window_cov hw (fun x hx => hwf x (hrec' x hx)) (Int.le_trans c3.1 h1)
              (Int.le_trans h2 c3.2)) hrec'
          · rw [if_neg c3] at h
            exact ih hrec' hrest h

def AllTombstoned (f : TFile) (k : Key) : Prop :=
  ∀ b ∈ f.blocks, b.key = k → ∀ p ∈ b.pts, f.tombstoned k p.1 = true

theorem keyMin_le {f : TFile} {b : Block} (hb : b ∈ f.blocks) : f.keyMin b.key ≤ b.lo :=
  listMin_le (List.mem_map.mpr ⟨b, by simp [hb], rfl⟩)

theorem le_keyMax {f : TFile} {b : Block} (hb : b ∈ f.blocks) : b.hi ≤ f.keyMax b.key :=
  le_listMax (List.mem_map.mpr ⟨b, by simp [hb], rfl⟩)

theorem gone_allTombstoned (f : TFile) (hw : ∀ b ∈ f.blocks, b.WF) (htw : ∀ tb ∈ f.tombs, tb.lo ≤ tb.hi)
    (k : Key) (hg : f.gone k = true) : AllTombstoned f k := by
  intro b hb hk p hp
  have hbounds := hw b hb p hp
  unfold TFile.gone at hg
  obtain ⟨r, hr, hr1, hr2⟩ := goneAux_cov (t := p.1)
    (fun r hr => by
      obtain ⟨tb, htb, rfl⟩ := List.mem_map.mp hr
      exact htw tb (List.mem_filter.mp htb).1)
    (hk ▸ Int.le_trans (keyMin_le hb) hbounds.1) (hk ▸ Int.le_trans hbounds.2 (le_keyMax hb))
    (fun _ h => (List.not_mem_nil h).elim) (fun _ h => h) hg
  obtain ⟨tb, htb, rfl⟩ := List.mem_map.mp hr
  obtain ⟨htb, htk⟩ := List.mem_filter.mp htb
  exact List.any_eq_true.mpr ⟨tb, htb, by simp [Tomb.covers, beq_iff_eq.mp htk, hr1, hr2]⟩

theorem write_series_sub (s : Shard) (k : Key) (t0 step : Int) (n : Nat) (v0 : Int) {x : Key}
    (h : x = k ∨ x ∈ s.series) : x ∈ (s.write k t0 step n v0).series := by
  show x ∈ (if s.series.contains k then s.series else insertKey k s.series)
  split
  · next hc => exact h.elim (fun hx => hx ▸ List.contains_iff_mem.mp hc) id
  · exact mem_insertKey.mpr h

theorem writePts_mem (k : Key) (step : Int) : ∀ (n : Nat) (t0 v0 : Int) (c : Cache) (e : Key × TS × Val),
    e ∈ writePts k t0 step v0 n c → e.1 = k ∨ e ∈ c := by
  intro n
  induction n with
  | zero => intro t0 v0 c e h; exact Or.inr h
  | succ n ih =>
    intro t0 v0 c e h
    rcases ih _ _ _ e h with h1 | h1
    · exact Or.inl h1
    · exact (List.mem_cons.mp h1).imp (congrArg Prod.fst) id

theorem write_cache_listed {s : Shard} (h : ∀ e ∈ s.cache, e.1 ∈ s.series) (k : Key) (t0 step : Int) (n : Nat)
    (v0 : Int) : ∀ e ∈ (s.write k t0 step n v0).cache, e.1 ∈ (s.write k t0 step n v0).series :=
  fun e he => write_series_sub s k t0 step n v0 ((writePts_mem k step n t0 v0 s.cache e he).imp id (h e))

/-- the model-level side condition of the series clause: when no file has a
    tombstone file, every key that has a block is listed in the index.
    (An invariant of every run: `seriesAlong_all`.) -/
def Shard.seriesOK (s : Shard) : Bool :=
  !(s.files.all (fun f => f.tombM.isNone)) ||
  s.files.all (fun f => f.blocks.all (fun b => s.series.contains b.key))

structure Shard.Inv2 (s : Shard) : Prop where
  ptsNe : ∀ f ∈ s.files, ∀ b ∈ f.blocks, b.pts ≠ []
  tombsWF : ∀ f ∈ s.files, ∀ tb ∈ f.tombs, tb.lo ≤ tb.hi
  cacheIn : ∀ e ∈ s.cache, e.1 ∈ s.series
  fileKeys : ∀ f ∈ s.files, ∀ b ∈ f.blocks, b.key ∈ s.series ∨ AllTombstoned f b.key

theorem Shard.Inv2_empty : Shard.empty.Inv2 :=
  ⟨by simp [Shard.empty], by simp [Shard.empty], by simp [Shard.empty], by simp [Shard.empty]⟩

theorem Shard.Inv2.seriesOK {s : Shard} (hi : s.Inv) (h : s.Inv2) : s.seriesOK = true := by
  unfold Shard.seriesOK
  cases hall : s.files.all (fun f => f.tombM.isNone) with
  | false => rfl
  | true =>
    simp only [Bool.not_true, Bool.false_or, List.all_eq_true]
    intro f hf b hb
    rw [List.all_eq_true] at hall
    have hnt : f.tombs = [] := (hi.wf f hf).2.1 (by simpa using hall f hf)
    rcases h.fileKeys f hf b hb with hk | hk
    · simpa using hk
    · -- a block has a point, and without tombstone records none is tombstoned
      obtain ⟨p, hp⟩ := List.exists_mem_of_ne_nil _ (h.ptsNe f hf b hb)
      have := hk b hb rfl p hp
      simp [TFile.tombstoned, hnt] at this

theorem Shard.Inv2_write (s : Shard) (h : s.Inv2) (k : Key) (t0 step : Int) (n : Nat) (v0 : Int) :
    (s.write k t0 step n v0).Inv2 :=
  ⟨h.ptsNe, h.tombsWF, write_cache_listed h.cacheIn k t0 step n v0,
    fun f hf b hb => (h.fileKeys f hf b hb).imp (fun h1 => write_series_sub s k t0 step n v0 (Or.inr h1)) id⟩

theorem Shard.Inv2_noteRead (s : Shard) (h : s.Inv2) : s.noteRead.Inv2 := by
  unfold Shard.noteRead
  split
  · exact ⟨h.ptsNe, h.tombsWF, h.cacheIn, h.fileKeys⟩
  · exact h

theorem Shard.Inv2_flush (s : Shard) (h : s.Inv2) : s.flush.Inv2 := by
  refine ⟨forall_flush_files h.ptsNe fun _ b hb => (mem_flushBlocks hb).2.1,
    forall_flush_files h.tombsWF fun _ _ htb => (List.not_mem_nil htb).elim, ?_, ?_⟩
  · rw [flush_cache]; exact fun _ he => (List.not_mem_nil he).elim
  · rw [flush_series]
    refine forall_flush_files h.fileKeys fun _ b hb => ?_
    obtain ⟨e, he, hk⟩ := (mem_flushBlocks hb).2.2
    exact Or.inl (hk ▸ h.cacheIn e he)

theorem Shard.Inv2_age (s : Shard) (h : s.Inv2) (sec : Int) : (s.age sec).Inv2 := by
  unfold Shard.age
  refine ⟨?_, ?_, h.cacheIn, ?_⟩ <;> intro f hf <;> obtain ⟨g, hg, rfl⟩ := List.mem_map.mp hf
  · exact h.ptsNe g hg
  · exact h.tombsWF g hg
  · exact h.fileKeys g hg

/-- a key that keeps a live point through a compaction is listed in the index -/
theorem Shard.Inv2_compact (s : Shard) (h : s.Inv2) : s.compact.Inv2 := by
  obtain ⟨hc, hs, _, _⟩ := compact_spec s
  refine ⟨forall_compact_files h.ptsNe fun _ _ b hb => (mem_compactBlocks hb).2.1,
    forall_compact_files h.tombsWF fun _ _ _ htb => (List.not_mem_nil htb).elim, ?_, ?_⟩
  · rw [hc, hs]; exact h.cacheIn
  · rw [hs]
    refine forall_compact_files h.fileKeys fun _ _ b hb => Or.inl ?_
    -- b has a point; it is a live point of its key in some file g, in a block b' of g
    obtain ⟨_, hne, hpts, _⟩ := mem_compactBlocks hb
    obtain ⟨p, hp⟩ := List.exists_mem_of_ne_nil _ hne
    obtain ⟨t, _, hv⟩ := List.mem_filterMap.mp (hpts p hp)
    cases hl : filesLookup s.files b.key t with
    | none => simp [hl] at hv
    | some v =>
      obtain ⟨g, hg, hgl⟩ := filesLookup_some hl
      obtain ⟨b', hb', hbl⟩ := blocksLookup_some (lookup_some_raw hgl)
      obtain ⟨hk', hm⟩ := Block.lookup_some_mem hbl
      rcases h.fileKeys g hg b' hb' with h1 | h1
      · exact hk' ▸ h1
      · -- were the key tombstoned in g, the point would not be live
        have := h1 b' hb' rfl (t, v) hm
        rw [hk'] at this
        simp [TFile.lookup, this] at hgl

theorem deleteRange_tombstoned (f : TFile) (ks : List Key) (lo hi : TS) (k : Key) (t : TS)
    (h : f.tombstoned k t = true) : (f.deleteRange ks lo hi).tombstoned k t = true := by
  rcases deleteRange_eq f ks lo hi with he | ⟨_, he⟩ <;> rw [he]
  · exact h
  · unfold TFile.tombstoned at *
    rw [List.any_append, h]; rfl

theorem deleteRange_tombs_wf (f : TFile) (ks : List Key) (lo hi : TS) (hlh : lo ≤ hi)
    (h : ∀ tb ∈ f.tombs, tb.lo ≤ tb.hi) : ∀ tb ∈ (f.deleteRange ks lo hi).tombs, tb.lo ≤ tb.hi := by
  rcases deleteRange_eq f ks lo hi with he | ⟨_, he⟩ <;> rw [he]
  · exact h
  · intro tb htb
    rcases List.mem_append.mp htb with h1 | h1
    · exact h tb h1
    · obtain ⟨k, _, rfl⟩ := List.mem_map.mp h1
      exact hlh

theorem Shard.Inv2_delete (s : Shard) (hi : s.Inv) (h : s.Inv2) (ks : List Key) (lo hi' : TS) (hlh : lo ≤ hi') :
    (s.delete ks lo hi').Inv2 := by
  unfold Shard.delete
  split
  · exact h
  · refine ⟨?_, ?_, ?_, ?_⟩
    · intro f hf b hb
      obtain ⟨g, hg, rfl⟩ := List.mem_map.mp hf
      rw [deleteRange_blocks] at hb
      exact h.ptsNe g hg b hb
    · intro f hf
      obtain ⟨g, hg, rfl⟩ := List.mem_map.mp hf
      exact deleteRange_tombs_wf g ks lo hi' hlh (h.tombsWF g hg)
    · -- a cache entry that remains keeps its key in the index
      intro e he
      refine List.mem_filter.mpr ⟨h.cacheIn e (List.mem_filter.mp he).1, ?_⟩
      simp only [Bool.or_eq_true, List.any_eq_true]
      exact Or.inr (Or.inr ⟨e, he, beq_self_eq_true _⟩)
    · intro f hf b hb
      obtain ⟨g, hg, rfl⟩ := List.mem_map.mp hf
      rw [deleteRange_blocks] at hb
      rcases h.fileKeys g hg b hb with h1 | h1
      · -- listed before: still listed unless no file keeps the key live, so not this one
        refine Classical.or_iff_not_imp_left.mpr fun hnot => ?_
        refine gone_allTombstoned _ (by rw [deleteRange_blocks]; exact (hi.wf g hg).1)
          (deleteRange_tombs_wf g ks lo hi' hlh (h.tombsWF g hg)) b.key ?_
        refine Classical.byContradiction fun hgo => hnot (List.mem_filter.mpr ⟨h1, ?_⟩)
        have hlive : b.key ∈ (g.deleteRange ks lo hi').liveKeys :=
          List.mem_filter.mpr ⟨mem_sortKeys.mpr (List.mem_map.mpr ⟨b, by rwa [deleteRange_blocks], rfl⟩),
            by simpa using hgo⟩
        simp only [Bool.or_eq_true, List.any_eq_true]
        exact Or.inr (Or.inl ⟨_, List.mem_map.mpr ⟨g, hg, rfl⟩, List.contains_iff_mem.mpr hlive⟩)
      · exact Or.inr fun b' hb' hk p hp => deleteRange_tombstoned g ks lo hi' _ _
          (h1 b' (by rwa [deleteRange_blocks] at hb') hk p hp)

theorem step_Inv2 (st : State) (op : Op) (hi : st.src.Inv) (h : st.src.Inv2) : (step st op).1.src.Inv2 :=
  step_src st op h (Shard.Inv2_write _ h) (fun _ _ _ _ => Shard.Inv2_delete _ hi h _ _ _) (Shard.Inv2_flush _ h)
    (Shard.Inv2_compact _ h) (Shard.Inv2_age _ h) (Shard.Inv2_noteRead _ h)

/-- the side condition of the series clause holds after every step of the run -/
def SeriesAlong : State → List Op → Prop
  | _, [] => True
  | st, op :: rest => (step st op).1.src.seriesOK = true ∧ SeriesAlong (step st op).1 rest

theorem seriesAlong_all (ops : List Op) (st : State) (hi : st.src.Inv) (h : st.src.Inv2) :
    SeriesAlong st ops := by
  induction ops generalizing st with
  | nil => trivial
  | cons op rest ih =>
    have hi' := step_Inv st op hi
    have h' := step_Inv2 st op hi h
    exact ⟨h'.seriesOK hi', ih _ hi' h'⟩

def Op.clean : Op → Bool
  | .delete .. => false
  | .export .. => false
  | _ => true

structure Shard.Clean (s : Shard) : Prop where
  noTomb : ∀ f ∈ s.files, f.tombM = none
  fileKeys : ∀ f ∈ s.files, ∀ b ∈ f.blocks, b.key ∈ s.series
  cacheKeys : ∀ e ∈ s.cache, e.1 ∈ s.series

theorem Shard.Clean_empty : Shard.empty.Clean :=
  ⟨by simp [Shard.empty], by simp [Shard.empty], by simp [Shard.empty]⟩

theorem Shard.Clean.seriesOK {s : Shard} (h : s.Clean) : s.seriesOK = true := by
  unfold Shard.seriesOK
  simp only [Bool.or_eq_true, List.all_eq_true, List.contains_iff_mem]
  exact Or.inr h.fileKeys

theorem Shard.Clean_write (s : Shard) (h : s.Clean) (k : Key) (t0 step : Int) (n : Nat) (v0 : Int) :
    (s.write k t0 step n v0).Clean :=
  ⟨h.noTomb, fun f hf b hb => write_series_sub s k t0 step n v0 (Or.inr (h.fileKeys f hf b hb)),
    write_cache_listed h.cacheKeys k t0 step n v0⟩

theorem Shard.Clean_noteRead (s : Shard) (h : s.Clean) : s.noteRead.Clean := by
  unfold Shard.noteRead
  split
  · exact ⟨h.noTomb, h.fileKeys, h.cacheKeys⟩
  · exact h

theorem Shard.Clean_flush (s : Shard) (h : s.Clean) : s.flush.Clean := by
  refine ⟨forall_flush_files h.noTomb fun _ => rfl, ?_, ?_⟩
  · rw [flush_series]
    refine forall_flush_files h.fileKeys fun _ b hb => ?_
    obtain ⟨e, he, hk⟩ := (mem_flushBlocks hb).2.2
    exact hk ▸ h.cacheKeys e he
  · rw [flush_cache]; exact fun _ he => (List.not_mem_nil he).elim

theorem Shard.Clean_compact (s : Shard) (h : s.Clean) : s.compact.Clean := by
  obtain ⟨hc, hs, _, _⟩ := compact_spec s
  refine ⟨forall_compact_files h.noTomb fun _ _ => rfl, ?_, by rw [hc, hs]; exact h.cacheKeys⟩
  rw [hs]
  refine forall_compact_files h.fileKeys fun _ _ b hb => ?_
  obtain ⟨g, hg, b', hb', hk⟩ := (mem_compactBlocks hb).2.2.2
  exact hk ▸ h.fileKeys g hg b' hb'

theorem Shard.Clean_age (s : Shard) (h : s.Clean) (sec : Int) : (s.age sec).Clean := by
  unfold Shard.age
  refine ⟨?_, ?_, h.cacheKeys⟩ <;> intro f hf <;> obtain ⟨g, hg, rfl⟩ := List.mem_map.mp hf
  · simp [h.noTomb g hg]
  · exact h.fileKeys g hg

theorem step_Clean (st : State) (op : Op) (hop : op.clean = true) (h : st.src.Clean) :
    (step st op).1.src.Clean :=
  step_src st op h (Shard.Clean_write _ h) (fun _ _ _ he => by rw [he] at hop; cases hop) (Shard.Clean_flush _ h)
    (Shard.Clean_compact _ h) (Shard.Clean_age _ h) (Shard.Clean_noteRead _ h)

theorem seriesAlong_clean (ops : List Op) (st : State) (hops : ∀ op ∈ ops, op.clean = true)
    (h : st.src.Clean) : SeriesAlong st ops := by
  induction ops generalizing st with
  | nil => trivial
  | cons op rest ih =>
    have hc := step_Clean st op (hops op (by simp)) h
    exact ⟨hc.seriesOK, ih _ (fun o ho => hops o (by simp [ho])) hc⟩

end Influx.Backup
