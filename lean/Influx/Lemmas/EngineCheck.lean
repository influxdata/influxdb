/-
  Lemmas.EngineCheck — the statement checkers of C01, C03 and C02 accept what the model's `read`
  returns whenever `abs` is what the checker's history says: the last-write-wins map of the
  writes (`Spec.C01`), the cell map of the write/delete events (`Spec.C03`), cell by cell the
  cell map of some possible world (`Spec.C02`).
-/
import Influx.Lemmas.Engine
import Influx.Spec.C01
import Influx.Spec.C02

namespace Influx.Model.Engine
open Influx.Spec.C03 Influx.Spec.C02

theorem lastWritten_eq_get (w : List Entry) (k : Key) (t : Int) :
    Spec.C01.lastWritten w k t = Log.get w k t := by
  induction w with
  | nil => rfl
  | cons e w ih =>
    unfold Spec.C01.lastWritten at ih ⊢
    rw [List.reverse_cons, List.find?_append, Option.map_or, ih, Log.get]
    cases Log.get w k t with
    | some v => rfl
    | none => by_cases h : e.key = k ∧ e.ts = t <;> simp [h]

theorem cell_snoc (h : List Ev) (ev : Ev) (k : Key) (t : Int) :
    cell (h ++ [ev]) k t =
      if ev.touches k t then (match ev with | .put e => some e.val | .del .. => none) else cell h k t := by
  unfold cell
  rw [List.reverse_append, List.reverse_singleton, List.singleton_append, List.find?_cons]
  by_cases ht : ev.touches k t
  · simp only [ht, if_true]
    cases ev <;> rfl
  · simp only [ht, Bool.false_eq_true, if_false]

theorem cell_puts (h : List Ev) (es : Log) (k : Key) (t : Int) :
    cell (h ++ es.map .put) k t = (Log.get es k t).or (cell h k t) := by
  induction es generalizing h with
  | nil => rw [List.map_nil, List.append_nil]; rfl
  | cons e es ih =>
    rw [List.map_cons, List.append_cons, ih, cell_snoc, Log.get]
    cases Log.get es k t with
    | some v => rfl
    | none => by_cases hm : e.key = k ∧ e.ts = t <;> simp [hm, Ev.touches]

theorem cell_del (h : List Ev) (ss : List Nat) (lo hi : Int) (k : Key) (t : Int) :
    cell (h ++ [.del ss lo hi]) k t = if covered ss lo hi k t then none else cell h k t :=
  cell_snoc ..

theorem ordered_of_pairwise {asc : Bool} {l : List Pt}
    (h : l.Pairwise (fun a b => if asc then a.1 < b.1 else b.1 < a.1)) : Spec.C01.ordered asc l = true := by
  induction l with
  | nil => rfl
  | cons p l ih =>
    cases l with
    | nil => rfl
    | cons q l =>
      have h1 := List.pairwise_cons.mp h
      rw [Spec.C01.ordered, Bool.and_eq_true]
      refine ⟨?_, ih h1.2⟩
      have := h1.1 q List.mem_cons_self
      cases asc <;> simpa using this

theorem ordered3_eq (asc : Bool) (l : List Pt) : Spec.C03.ordered asc l = Spec.C01.ordered asc l := by
  induction l with
  | nil => rfl
  | cons p l ih =>
    cases l with
    | nil => rfl
    | cons q l => rw [Spec.C03.ordered, Spec.C01.ordered, ih]

theorem ordered_read (s : State) (k : Key) (lo hi : Int) (asc : Bool) :
    Spec.C01.ordered asc (s.read k lo hi asc) = true := ordered_of_pairwise (s.read_sorted k lo hi asc)

def AbsIs (s : State) (w : List Entry) : Prop := ∀ k t, s.abs k t = Log.get w k t

theorem rowsOK_read {s : State} {w : List Entry} (h : AbsIs s w) (k : Key) (lo hi : Int) (asc : Bool) :
    Spec.C01.rowsOK w k lo hi asc (s.read k lo hi asc) = true := by
  simp only [Spec.C01.rowsOK, Bool.and_eq_true]
  refine ⟨⟨ordered_read s k lo hi asc, ?_⟩, List.all_eq_true.mpr fun e he => ?_⟩
  · simp only [Spec.C01.rowsSound, lastWritten_eq_get, ← show ∀ k t, _ from h]
    exact s.read_sound k lo hi asc
  · cases hc : decide (e.key = k) && decide (lo ≤ e.ts) && decide (e.ts ≤ hi)
    · rfl
    · -- the cell (k, e.ts) has been written, so abs has a value there
      simp only [Bool.and_eq_true, decide_eq_true_eq] at hc
      exact s.read_complete k asc hc.1.2 hc.2 (by rw [h, ← hc.1.1]; exact Log.get_isSome_of_mem he)

def AbsIs3 (s : State) (h : List Ev) : Prop := ∀ k t, s.abs k t = cell h k t

theorem rowsOK3_read {s : State} {h : List Ev} (ha : AbsIs3 s h) (k : Key) (lo hi : Int) (asc : Bool) :
    Spec.C03.rowsOK h k lo hi asc (s.read k lo hi asc) = true := by
  simp only [Spec.C03.rowsOK, Bool.and_eq_true]
  refine ⟨⟨(ordered3_eq ..).trans (ordered_read s k lo hi asc), ?_⟩, List.all_eq_true.mpr fun ev _ => ?_⟩
  · simp only [Spec.C03.rowsSound, ← show ∀ k t, _ from ha]
    exact s.read_sound k lo hi asc
  · cases ev with
    | del => rfl
    | put e =>
      cases hc : decide (e.key = k) && decide (lo ≤ e.ts) && decide (e.ts ≤ hi) && (cell h k e.ts).isSome
      · simp only [hc]; rfl
      · simp only [Bool.and_eq_true, decide_eq_true_eq] at hc
        simp only [hc, decide_true, Bool.and_self, Bool.not_true, Bool.false_or]
        exact s.read_complete k asc hc.1.1.2 hc.1.2 (by rw [ha]; exact hc.2)

def Approx (s : State) (ws : Worlds) : Prop := ∀ k t, ∃ w ∈ ws, s.abs k t = cell w k t

theorem Approx.mono {s : State} {ws ws' : Worlds} (h : Approx s ws) (hsub : ∀ w ∈ ws, w ∈ ws') : Approx s ws' :=
  fun k t => let ⟨w, hw, he⟩ := h k t; ⟨w, hsub w hw, he⟩

theorem Approx.congr {s s' : State} {ws : Worlds} (h : Approx s ws) (he : ∀ k t, s'.abs k t = s.abs k t) :
    Approx s' ws := fun k t => by rw [he]; exact h k t

theorem rowsOK2_read {s : State} {ws : Worlds} (ha : Approx s ws) (k : Key) (lo hi : Int) (asc : Bool) :
    Spec.C02.rowsOK ws k lo hi asc (s.read k lo hi asc) = true := by
  simp only [Spec.C02.rowsOK, Bool.and_eq_true]
  refine ⟨⟨(ordered3_eq ..).trans (ordered_read s k lo hi asc), List.all_eq_true.mpr fun p hp => ?_⟩,
    List.all_eq_true.mpr fun h0 _ => List.all_eq_true.mpr fun ev _ => ?_⟩
  · obtain ⟨w, hw, he⟩ := ha k p.1
    have := List.all_eq_true.mp (s.read_sound k lo hi asc) p hp
    rw [he] at this
    simp only [Bool.and_eq_true] at this ⊢
    exact ⟨this.1, List.any_eq_true.mpr ⟨w, hw, this.2⟩⟩
  · cases ev with
    | del => rfl
    | put e =>
      cases hc : decide (e.key = k) && decide (lo ≤ e.ts) && decide (e.ts ≤ hi) &&
          ws.all fun h => (cell h k e.ts).isSome
      · simp only [hc]; rfl
      · simp only [Bool.and_eq_true, decide_eq_true_eq] at hc
        obtain ⟨w, hw, he⟩ := ha k e.ts
        simp only [hc, decide_true, Bool.and_self, Bool.not_true, Bool.false_or]
        exact s.read_complete k asc hc.1.1.2 hc.1.2 (by rw [he]; exact List.all_eq_true.mp hc.2 w hw)

end Influx.Model.Engine
