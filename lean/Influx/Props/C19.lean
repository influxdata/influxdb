/-
  Props.C19 — Retention drops only expired data.
  Model: `Influx.Model.Meta*` (leaf predicates regenerated from /repo by the translator).
-/
import Influx.Spec.C19
import Influx.Lemmas.MetaRetention
import Influx.Lemmas.MetaC19

namespace Influx.Props.C19
open Influx.Meta Influx.Spec.C19
open Influx.Generated.Meta

/-- `ExpiredShardGroups(now)` selects exactly the groups that are not deleted and whose end lies
    more than the (non-zero) retention period before `now`. -/
theorem expired_iff (r : RetentionPolicyInfo) (now : Int) (g : ShardGroupInfo) :
    g ∈ expiredShardGroups r now ↔
      g ∈ r.ShardGroups ∧ g.DeletedAt = zeroTime ∧ r.Duration ≠ 0 ∧ g.EndTime + r.Duration < now :=
  mem_expired_iff r now g

/-- every timestamp of an expired group is older than `now − Duration` -/
theorem expired_older (r : RetentionPolicyInfo) (now : Int) (g : ShardGroupInfo)
    (h : g ∈ expiredShardGroups r now) (x : Int) (hx : g.StartTime ≤ x ∧ x < g.EndTime) :
    x < now - r.Duration := by
  have := (mem_expired_iff r now g).mp h
  omega

/-- with no retention period nothing expires -/
theorem expired_infinite (r : RetentionPolicyInfo) (now : Int) (h : r.Duration = 0) :
    expiredShardGroups r now = [] := by
  apply List.eq_nil_iff_forall_not_mem.mpr
  intro g hg
  exact ((mem_expired_iff r now g).mp hg).2.2.1 h

/-- **no other shard is touched**: every shard id `DeletionCheck` hands to the store
    (`SetShardNewReadersBlocked`, `ShardInUse`, `DeleteShard`) is a local shard of a group that
    was already deleted or is expired at `now` in the metadata the check started from; every
    shard group it deletes is expired; every metadata reference it drops is of such a group. -/
theorem deletion_safe (now : Int) (d : Data) (st : Store) :
    ∀ e ∈ (deletionCheck now d st).log, EvGood d now st.shards e :=
  deletionCheck_safe now d st

/-- the shard ids that reach `TSDBStore.DeleteShard` -/
theorem deleted_shards_expired (now : Int) (d : Data) (st : Store) (id : Nat)
    (h : id ∈ deleteCalls (deletionCheck now d st).log) :
    id ∈ st.shards ∧ ∃ di ∈ d.Databases, ∃ r ∈ di.RetentionPolicies, ∃ g ∈ r.ShardGroups,
      (g.DeletedAt ≠ zeroTime ∨
        (g.DeletedAt = zeroTime ∧ r.Duration ≠ 0 ∧ ∀ x, g.StartTime ≤ x ∧ x < g.EndTime → x < now - r.Duration)) ∧
      ∃ sh ∈ g.Shards, sh.ID = id := by
  simp only [deleteCalls, List.mem_filterMap] at h
  obtain ⟨e, he, hid⟩ := h
  cases e <;> simp at hid
  subst hid
  obtain ⟨hloc, di, hdi, r, hr, g, hg, hx, hsh⟩ := deletion_safe now d st _ he
  refine ⟨hloc, di, hdi, r, hr, g, hg, ?_, hsh⟩
  rcases hx with hx | hx
  · exact Or.inl hx
  · have h2 := (mem_expired_iff r now g).mp hx
    exact Or.inr ⟨h2.2.1, h2.2.2.1, fun x hx2 => expired_older r now g hx x hx2⟩

/-- the statement's expiry clause holds of every `exp` step of the model (any state) -/
theorem C19_exp (s : State) (db rp : String) (D : Int) (t : Int) :
    holdsOp (.exp db rp D t, (step s (.exp db rp D t)).2) = true := exp_holds s db rp D t

/-- clause 1 on a `MapShards` step from a well-formed state, for in-range timestamps and a cutoff
    before `modelNow`: a point is dropped exactly when it is older than the cutoff `now − Duration`,
    and the dropped count is the number of such points -/
theorem C19_ms (s : State) (db rp : String) (c : Option Int) (ts : List Int) (hwf : WF s.data)
    (hts : ∀ t ∈ ts, Influx.Meta.inRange t) (hc : ∀ a, c = some a → a < modelNow) :
    holdsOp (.ms db rp c ts, (step s (.ms db rp c ts)).2) = true :=
  ms_holds s db rp c ts hwf hts hc

/-- clause 2 on a `DeletionCheck` step from a well-formed state -/
theorem C19_dc (s : State) (cs : List (String × String × Int)) (hwf : WF s.data) :
    holdsOp (.dc cs, (step s (.dc cs)).2) = true :=
  dc_holds s cs hwf

/-- `ExpiredShardGroups` on a truncated group still tests `EndTime` (as the code has it), so a
    truncated group is never selected while points of `[StartTime, EndTime)` are inside the window -/
theorem expired_truncated (r : RetentionPolicyInfo) (now : Int) (g : ShardGroupInfo)
    (h : g ∈ expiredShardGroups r now) : g.EndTime + r.Duration < now :=
  ((mem_expired_iff r now g).mp h).2.2.2

/-- **C19**: on every history of operations the statement checker accepts the model's trace:
    `MapShards` rejects exactly the points older than `now − retention period` and reports their
    number; `ExpiredShardGroups` and `DeletionCheck` delete only groups lying entirely before
    `now − retention period`, and touch only local shards of deleted or expired groups.
    (Histories that leave the quantifier domain are judged on the `ExpiredShardGroups` clause only.) -/
theorem C19_holdsOn (ops : List Op) : holdsOn (run State.init ops) = true := by
  unfold holdsOn
  rw [run_holdsExp, all_run_fst, Bool.true_and, Bool.or_eq_true, Bool.not_eq_true']
  by_cases hdom : ops.all opInDomain = true
  · exact .inr (run_holdsOp ops (fun op h => List.all_eq_true.mp hdom op h) State.init init_wf)
  · exact .inl (Bool.eq_false_iff.mpr hdom)

-- non-vacuity: a history inside the domain with a cutoff, an expiry query and a retention check
example : ((run State.init [Op.rp "db" "rp" 3600000000000 false, Op.ms "db" "rp" (some 1000) [10, 2000],
    Op.exp "db" "rp" 10 7200000000001, Op.store .shards [1, 2], Op.dc [("db", "rp", 1800000000000)]]).all
    fun p => opInDomain p.1) = true := by decide

end Influx.Props.C19
