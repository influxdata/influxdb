/-
  Props.C08 — TSM files and tombstones read back what was written.

  The functions under proof are the model's (`Model/Tsm*.lean`, written from
  `tsdb/engine/tsm1/{writer,reader,tombstone}.go`; layout constants and the leaf
  predicates `IndexEntry.Contains/OverlapsTimeRange`, `TimeRange.Overlaps` are
  regenerated from the Go source on every run, `Generated/TsmLayout.lean`).
  Every theorem holds for an arbitrary checksum function `crc` and an arbitrary
  gzip satisfying `Gzip.spec`.  Helper lemmas live in `Lemmas/Tsm*.lean`.
-/
import Influx.Model.TsmOps
import Influx.Spec.C08
import Influx.Lemmas.TsmRoundtrip
import Influx.Lemmas.TsmLookup
import Influx.Lemmas.TsmTombBytes
import Influx.Lemmas.TsmCrash
import Influx.Lemmas.TsmVisible
import Influx.Lemmas.TsmWriter
import Influx.Lemmas.TsmSpecTs
import Influx.Lemmas.TsmReader
import Influx.Lemmas.TsmSpecFileTrace
import Influx.Lemmas.TsmSpecCover
import Influx.Lemmas.TsmBlocks

namespace Influx.Props.C08
open Influx.Tsm Influx.Spec.C08

/-- **Round trip.** For every list of keys with blocks within the limits of the format
    (`WFFile`: ≥ 1 key, key length and blocks per key < 2^16, times in int64, block size
    in 32 bits, file size in int64) the bytes `header ++ blocks ++ index ++ footer` parse
    back — through the footer, the magic/version check and the index decoder — to exactly
    the keys, block types and index entries (min, max, offset, size) that were laid out. -/
theorem C08_roundtrip (crc : Bytes → Nat) (kbs : List (Key × List Blk)) (h : WFFile kbs) :
    parseFile (serialise crc kbs) = .ok (layout 5 kbs) :=
  parseFile_serialise crc kbs h

/-- **the blocks read back**: the index entries of the file, in order, locate exactly the
    checksum and the bytes of every block written, in order (`readBytes`);
    for any checksum function with 32-bit values. -/
theorem C08_blocks_read_back (crc : Bytes → Nat) (hcrc : ∀ d, crc d < 4294967296) (kbs : List (Key × List Blk)) :
    ((layout 5 kbs).flatMap (·.entries)).map (readBytes (serialise crc kbs)) =
      (allBlocks kbs).map fun b => some (crc b.data, b.data) := readBytes_serialise crc hcrc kbs

/-- big-endian integers read back modulo `256 ^ n` (the base of every field of the format) -/
theorem be_roundtrip (n v : Nat) : unbe (be n v) = v % 256 ^ n := unbe_be n v

/-- one index section (any keys, each with at least one entry, within the field widths) decodes
    to itself -/
theorem C08_index_roundtrip (kes : List KeyEntry) (h : ∀ ke ∈ kes, WFKeyEntry ke) :
    decIndex ((kes.flatMap encKeyEntry).length + 1) (kes.flatMap encKeyEntry) = some kes :=
  decIndex_enc kes h _ (by have := flatMap_length_ge kes; omega)

/-- **The writer produces that file.**  The stateful writer (`tsmWriter.WriteBlock`,
    `directIndex.Add/flush`, `WriteIndex`, as the Go code has them) run on the blocks of
    non-empty keys of at most 65535 bytes in strictly increasing order, 1..65534 acceptable
    blocks per key in min-time order, answers ok to every call and writes exactly the serialised bytes. -/
theorem C08_writer (crc : Bytes → Nat) (kbs : List (Key × List Blk)) (hw : WFW kbs) (hne : kbs ≠ []) :
    (∀ a ∈ (writeAll crc kbs).2, a = WAns.ok) ∧
    writeIndex (writeAll crc kbs).1 = (.ok, serialise crc kbs) := writeAll_serialise crc kbs hw hne

/-- **readFile (writeFile kbs) = kbs**: for `kbs` that the writer accepts (`WFW`) within the limits
    of the format (`WFFile`), what the writer wrote parses back to the keys, types and index
    entries of `kbs`. -/
theorem C08_write_read (crc : Bytes → Nat) (kbs : List (Key × List Blk)) (hw : WFW kbs) (hf : WFFile kbs) :
    parseFile (writeIndex (writeAll crc kbs).1).2 = .ok (layout 5 kbs) := by
  rw [(writeAll_serialise crc kbs hw hf.ne).2]
  exact parseFile_serialise crc kbs hf

/-- **Seek** = the number of keys below the target (the key count when all are below). -/
theorem C08_seek (ix : Index) (h : IndexInv ix) (key : Key) :
    searchOffset ix key = (ix.live.filter fun ke => klt ke.key key).length :=
  searchOffset_eq_rank ix h.sortedLive key

/-- **Exact lookup** (`search`, behind Entries / Entry / Type / Contains / ContainsValue):
    the live index entry with that key. -/
theorem C08_search (ix : Index) (h : IndexInv ix) (key : Key) :
    search ix key = ix.live.find? (fun ke => ke.key = key) := search_eq_find h key

theorem C08_entries (ix : Index) (h : IndexInv ix) (key : Key) :
    Tsm.entriesOf ix key = ((ix.live.find? fun ke => ke.key = key).map (·.entries)).getD [] := by
  unfold Tsm.entriesOf; rw [search_eq_find h]; cases ix.live.find? _ <;> rfl

theorem C08_type (ix : Index) (h : IndexInv ix) (key : Key) :
    typeOf ix key = (ix.live.find? fun ke => ke.key = key).map (·.typ) := by
  unfold typeOf; rw [search_eq_find h]

/-- the index built by the reader from a strictly sorted key list satisfies the invariant -/
theorem C08_open_inv (kes : List KeyEntry) (hs : SortedKE kes) : IndexInv (mkIndex kes) := mkIndex_inv kes hs

/-! Tombstones hide exactly the requested ranges.

  `H` is the list of (key, lo, hi) requests applied to the index (`Delete(keys)` applies
  (k, MinInt64, MaxInt64) for every k). `TInv ix H` holds for a freshly opened index with
  `H = []` and is kept by every `Delete` / `DeleteRange`, whatever the keys and ranges. -/

theorem C08_open_tinv (kes : List KeyEntry) (hs : SortedKE kes) (hwf : ∀ ke ∈ kes, WFKE ke) :
    TInv (mkIndex kes) [] := TInv_mkIndex kes hs hwf

theorem C08_deleteRange_inv (ix : Index) (H : Hist) (h : TInv ix H) (keys : List Key) (lo hi : Int) :
    TInv (deleteRange ix keys lo hi) (H ++ reqs keys lo hi) := TInv_deleteRange ix H h keys lo hi

theorem C08_delete_inv (ix : Index) (H : Hist) (h : TInv ix H) (keys : List Key) :
    TInv (delete ix keys) (H ++ reqs keys minInt64 maxInt64) := TInv_delete ix H h keys

/-- **hidden iff covered**: `ContainsValue k t` holds exactly when the time range of
    some block of `k` in the file contains `t` and no applied request for `k` covers `t`. -/
theorem C08_hidden_iff_covered (ix : Index) (H : Hist) (h : TInv ix H) (k : Key) (t : Int) :
    containsValue ix k t = true ↔ hasPoint ix.all k t ∧ ¬ coveredH H k t := containsValue_iff ix H h k t

/-- **never over-deletes**: a key of the file that is no longer in the index (also when it
    was removed because adjacent / overlapping tombstones line up over its span) has every
    time of its span covered by applied requests for that key. -/
theorem C08_never_over_deletes (ix : Index) (H : Hist) (h : TInv ix H) (ke : KeyEntry) (hke : ke ∈ ix.all)
    (hgone : contains ix ke.key = false) (hne : ke.entries ≠ []) :
    ∀ t, spanIn ke t → coveredH H ke.key t := absent_covered ix H h ke hke hgone hne

/-- `Delete(keys)` removes exactly those keys from the index -/
theorem C08_delete_exact (ix : Index) (h : IndexInv ix) (keys : List Key) :
    (delete ix keys).live = ix.live.filter fun ke => !decide (ke.key ∈ keys) := delete_live ix h keys

/-! The same at the reader level, across re-opening.

  `Req` = every acknowledged request (k, lo, hi) of `TSMReader.DeleteRange` (sorted keys) and
  `TSMReader.Delete`; `file` = the tombstone file (its members).  `RInv file r Req` packs: the
  index invariant above for a set of applied requests that lies between "the requests that
  matter" (key in the file, range meeting the key's span) and `Req`; every tombstone of the
  file was requested; every request that matters is in the file.  The filters of the delete
  path (`OverlapsKeyRange`, `OverlapsTimeRange`, `ContainsKey`) and the batching of
  `applyTombstones` (equal (min,max), 4096 keys) are inside the proved functions. -/

theorem C08_reader_open (file : TFile) (kes : List KeyEntry) (hs : SortedKE kes) (hwf : ∀ ke ∈ kes, WFKE ke) :
    RInv file (openReader file kes) (fileReqs file) ∧ (openReader file kes).ix.all = kes :=
  open_inv file kes hs hwf

theorem C08_reader_deleteRange (file : TFile) (r : Reader) (Req : Hist) (h : RInv file r Req) (keys : List Key)
    (hsk : SortedK keys) (lo hi : Int) :
    RInv (rDeleteRange file r keys lo hi).1 (rDeleteRange file r keys lo hi).2 (Req ++ reqs keys lo hi) ∧
    (rDeleteRange file r keys lo hi).2.ix.all = r.ix.all := rDeleteRange_inv file r Req h keys hsk lo hi

theorem C08_reader_delete (file : TFile) (r : Reader) (Req : Hist) (h : RInv file r Req) (keys : List Key) :
    RInv (rDelete file r keys).1 (rDelete file r keys).2 (Req ++ reqs keys minInt64 maxInt64) ∧
    (rDelete file r keys).2.ix.all = r.ix.all := rDelete_inv file r Req h keys

/-- **Tombstones persist across reopen**: a reader freshly opened on the same file content and
    the tombstone file as it is on disk hides exactly the same requests. -/
theorem C08_persist_reopen (file : TFile) (r : Reader) (Req : Hist) (h : RInv file r Req)
    (hs : SortedKE r.ix.all) (hwf : ∀ ke ∈ r.ix.all, WFKE ke) :
    RInv file (openReader file r.ix.all) Req ∧ (openReader file r.ix.all).ix.all = r.ix.all :=
  reopen_inv file r Req h hs hwf

/-- **hide exactly what was requested** (reader level): after any sequence of the operations
    above, a time is visible iff the time range of a block of the file contains it and no
    acknowledged request covers it. -/
theorem C08_reader_hidden_iff (file : TFile) (r : Reader) (Req : Hist) (h : RInv file r Req) (k : Key) (t : Int) :
    containsValue r.ix k t = true ↔ hasPoint r.ix.all k t ∧ ¬ coveredH Req k t :=
  reader_visible_iff file r Req h k t

/-- **Walk reads back what was committed**, member after member, byte level. -/
theorem C08_walk_roundtrip (G : Gzip) (ms : List (List Tombstone)) (h : ∀ m ∈ ms, ∀ t ∈ m, WFTomb t) :
    walkBytes G (tfileBytes G ms) = some ms.flatten := walkBytes_tfile G ms h

/-- **walk (commit (add old new)) = old ++ new.** -/
theorem C08_walk_commit (G : Gzip) (ms : List (List Tombstone)) (new : List Tombstone)
    (h : ∀ m ∈ ms, ∀ t ∈ m, WFTomb t) (hn : ∀ t ∈ new, WFTomb t) :
    walkBytes G (tfileBytes G ms ++ G.zip (encTombs new)) = some (ms.flatten ++ new) :=
  walk_commit G ms new h hn

/-- **Crash atomicity** of `prepareV4 … commit` in the file-system model (durable bytes +
    unsynced appended chunks per inode, pending directory operations, atomic rename), started
    with no directory operation pending, no tmp file and the old tombstone file (if any) fully
    synced (`Quiescent`, `OldOK`): cut the protocol after ANY number of steps and let ANY byte-prefix of the unsynced data
    and ANY prefix of the pending directory operations survive — under the tombstone name
    the restart finds the old bytes (no file if there was none) or the complete new file. -/
theorem C08_crash_atomic (tomb tmp : String) (hne : tomb ≠ tmp) (dir0 : Dir) (inodes0 : Nat → Inode) (i : Nat)
    (hold : OldOK tomb dir0 inodes0 i) (fs : FS) (hq : Quiescent tmp dir0 inodes0 i fs)
    (base : Bytes) (chunks : List Bytes) (k : Nat) (fs' : FS)
    (hc : CrashOf (run fs ((commitSteps tomb tmp base chunks).take k)) fs') :
    readDurable fs' tomb = oldBytes tomb dir0 inodes0 ∨ readDurable fs' tomb = some (base ++ chunks.flatten) :=
  commit_crash_atomic tomb tmp hne dir0 inodes0 i hold fs hq base chunks k fs' hc

/-- … and, when there is an old tombstone file, what the restart reads there is the old tombstone
    list or old ++ new, never a mixture. -/
theorem C08_crash_walk (G : Gzip) (tomb tmp : String) (hne : tomb ≠ tmp) (dir0 : Dir) (inodes0 : Nat → Inode)
    (i j : Nat) (hj : dir0 tomb = some j) (ms : List (List Tombstone)) (new : List Tombstone)
    (hold : OldOK tomb dir0 inodes0 i) (holdb : (inodes0 j).durable = tfileBytes G ms)
    (fs : FS) (hq : Quiescent tmp dir0 inodes0 i fs) (chunks : List Bytes)
    (hch : chunks.flatten = G.zip (encTombs new))
    (h : ∀ m ∈ ms, ∀ t ∈ m, WFTomb t) (hn : ∀ t ∈ new, WFTomb t) (k : Nat) (fs' : FS)
    (hc : CrashOf (run fs ((commitSteps tomb tmp (tfileBytes G ms) chunks).take k)) fs') :
    (readDurable fs' tomb).bind (walkBytes G) = some ms.flatten ∨
    (readDurable fs' tomb).bind (walkBytes G) = some (ms.flatten ++ new) := by
  rcases commit_crash_atomic tomb tmp hne dir0 inodes0 i hold fs hq _ chunks k fs' hc with h1 | h1
  · left
    rw [h1]
    simp only [oldBytes, hj, Option.map_some, Option.bind_some, holdb]
    exact walkBytes_tfile G ms h
  · right
    rw [h1, hch]
    exact walk_commit G ms new h hn

/-- **The statement checker accepts the model** on every sequence of stand-alone
    Tombstoner operations (new object, Add, AddRange, Flush, Rollback, Delete, Walk,
    HasTombstones): a fresh Walk yields exactly the committed tombstones in order, a
    Walk of the live object yields a suffix of them (the checker abstains from both after a
    `Delete` with additions pending).  PARTIAL: the hypothesis restricts
    the operations to the tombstoner's; for writer/reader operations the checker is
    evaluated on the real implementation's answers at run time and the model is proved
    against the list-level specifications above instead. -/
theorem C08_holdsOn_partial (crc : Bytes → Nat) (ops : List Op) (h : ∀ op ∈ ops, isTsOp op = true) :
    holdsOn (traceOf crc ops) = true := by
  unfold holdsOn
  rw [run_eq_runFrom]
  have := ts_trace ops h (State.init crc) {} 0 ⟨rfl, fun _ => rfl, rfl⟩
  unfold traceOf
  rw [this]; rfl

/-- **The statement checker accepts the model** on every trace of the form
    "write the blocks of `kbs`; WriteIndex; open; any index lookups" for `kbs` in the domain
    of the statement (`DOM`: what the writer accepts, within the format limits, block
    min ≤ max, max times non-decreasing per key) and lookups among key count, key-at, key,
    seek, contains, entries, type, key range, time range, overlaps-time, contains-value.
    PARTIAL: no deletes and no block-read operations in the trace (those are covered by the theorems above at the
    level of the model's functions and by the run-time evaluation on the implementation). -/
theorem C08_holdsOn_file_partial (crc : Bytes → Nat) (kbs : List (Key × List Blk)) (h : DOM kbs)
    (qs : List Op) (hq : ∀ q ∈ qs, isLookup q = true) :
    holdsOn (traceOf crc (fileOps kbs qs)) = true := file_trace crc kbs h qs hq

/-- a small file in the domain: two keys (one a prefix of the other), three blocks, negative times -/
def exKbs : List (Key × List Blk) :=
  [([97], [⟨1, 2, [1, 170]⟩, ⟨3, 9, [2]⟩]), ([97, 0], [⟨-5, 0, [0, 1, 2]⟩])]

theorem exDOM : DOM exKbs := by
  have hlen : ∀ kb ∈ exKbs, kb.2 ≠ [] ∧ kb.2.length < 65535 := by decide
  have wblk : ∀ kb ∈ exKbs, ∀ b ∈ kb.2,
      b.data ≠ [] ∧ (∀ b0 ∈ b.data.head?, b0 ≤ 4) ∧ 4 + b.data.length < 4294967296 := by decide
  have hkb : ∀ kb ∈ exKbs, kb.1.length < 65536 ∧ 0 < kb.2.length ∧ kb.2.length < 65536 := by decide
  have wfblk : ∀ kb ∈ exKbs, ∀ b ∈ kb.2,
      inInt64 b.minT ∧ inInt64 b.maxT ∧ 4 + b.data.length < 4294967296 := by decide
  exact
    ⟨⟨by decide, by decide,
        fun kb h => ⟨(hlen kb h).1, (hlen kb h).2, fun b hb => let ⟨h1, h2, h3⟩ := wblk kb h b hb; ⟨h1, h2, h3⟩⟩,
        by decide⟩,
      ⟨by decide, fun kb h => let ⟨h1, h2, h3⟩ := hkb kb h; ⟨h1, h2, h3, wfblk kb h⟩, by decide⟩,
      by decide, by decide⟩

example : holdsOn (traceOf (fun _ => 7) (fileOps exKbs [.keycount, .seek [97, 0], .seek [98], .entries [97], .containsvalue [97] 4, .keyat 1, .keyrange])) = true :=
  C08_holdsOn_file_partial _ exKbs exDOM _ (by decide)

-- the hypothesis is met by non-trivial sequences (and the checker really looks at them)
example : holdsOn (traceOf (fun _ => 0)
    [.tsNew, .tsAddRange [[97], [98]] 1 5, .tsFlush, .tsAdd [[99]], .tsFlush, .tsWalk, .tsWalk, .tsWalkFresh]) = true := by
  decide
example : holdsOn [(.tsNew, .ok), (.tsAddRange [[97]] 1 5, .ok), (.tsFlush, .ok), (.tsWalkFresh, .tombs [])] = false := by
  decide


/-- the checker's finite "may this key be missing" test means what it should: every time of
    the key's span is covered by a request -/
theorem C08_spec_fullyCovered (rs : List Req) (lo hi : Int) (hle : lo ≤ hi) :
    fullyCovered rs lo hi = true ↔ ∀ t, lo ≤ t → t ≤ hi → covers rs t = true := fullyCovered_iff rs lo hi hle

/-- The full statement (every trace of the model satisfies the statement checker) is FALSE
    of the code: blocks written under the empty key are not a key of the file
    (`directIndex.Add` takes `len(d.key) == 0` for "no current key"); here the file holds
    only the empty key, its index is empty and the reader rejects it. -/
theorem C08_full_fails :
    ¬ ∀ (crc : Bytes → Nat) (ops : List Op), holdsOn (traceOf crc ops) = true := by
  intro h
  have := h (fun _ => 0) [.wb [] 1 2 [1] none, .wi, .open_]
  revert this
  decide

end Influx.Props.C08
