/-
  Props.C42 — Metadata queries list exactly the live names, sorted and authorized.
  Model: Influx.Model.StoreDel (Store.MeasurementNames / TagKeys / TagValues over the index set
  of the selected shards, with the index's lingering tag entries).  Statement: Influx.Spec.C42.
-/
import Influx.Lemmas.StoreDelC42
import Influx.Lemmas.StoreDelHolds42

namespace Influx.Props.C42
open Influx.Model.StoreDel Influx.Model.DelPred
open Influx.Spec.C42 (holdsOf)

/-- **Sorted, each name once** (any condition, any authorizer, any shards): the measurement list is
    strictly ascending in byte order. -/
theorem C42_names_sorted (a : Auth) (shs : List Shard) (c : Option Cond) :
    StrictAsc (measurementNames a shs c) :=
  strictAsc_measurementNames a shs c

/-- the tag keys TagKeys / TagValues walk for a measurement are strictly ascending -/
theorem C42_keys_sorted (shs : List Shard) (m : Bytes) (kc : Option (Bool × Bytes)) :
    StrictAsc (selectedKeys shs m kc) :=
  strictAsc_selectedKeys shs m kc

/-- **MeasurementNames without a condition returns exactly the live, authorized names**: a name is
    returned iff some series of that measurement is in the index of a selected shard (as, by C17,
    every series with data there is) and the authorizer allows it.  No hypothesis on the index. -/
theorem C42_names_exact (a : Auth) (shs : List Shard) (m : Bytes) :
    m ∈ measurementNames a shs none ↔
      ∃ sh ∈ shs, ∃ s ∈ sh.series, s.name = m ∧ a.allows s.name s.tags = true := by
  rw [mem_measurementNames_none]
  simp [LiveAuth]

/-- **MeasurementNames with a condition (partial)**: for conditions built from `_name` comparisons,
    `tag = 'non-empty value'`, `tag =~` alternatives without the empty value, OR, and AND with a
    `_name`-only side (`condOK`), over an index that holds exactly the tag pairs of its live series
    (`IndexExact`: nothing lingering from deleted series) whose tags have one value per key
    (`TagsFn`), a name is returned iff a live authorized series of it satisfies the condition. -/
theorem C42_names_cond_partial (a : Auth) (shs : List Shard) (hidx : IndexExact shs) (htags : TagsFn shs)
    (c : Cond) (hc : condOK c = true) (m : Bytes) :
    m ∈ measurementNames a shs (some c) ↔
      ∃ sh ∈ shs, ∃ s ∈ sh.series, s.name = m ∧ a.allows s.name s.tags = true ∧ holdsOf s.name s.tags c = true :=
  mem_namesByExpr a shs hidx htags c hc m

/-- **Regular expressions under a fine-grained authorizer** (partial: `IndexExact`, `TagsFn`, a tag
    key, no empty alternative): `WHERE key =~ /^(?:v1|v2|…)$/` returns a measurement iff SOME live
    series of it that the authorizer allows has one of the values — no matter how many values match
    and which of them only hidden series use (the scan of `measurementNamesByTagFilter` must not
    stop at the first matching value). -/
theorem C42_regex_auth (a : Auth) (shs : List Shard) (hidx : IndexExact shs) (htags : TagsFn shs)
    (key : Bytes) (vals : List Bytes) (hk : key ≠ nameKey) (hv : [] ∉ vals) (m : Bytes) :
    m ∈ measurementNames a shs (some (.re key false vals)) ↔
      ∃ sh ∈ shs, ∃ s ∈ sh.series, s.name = m ∧ a.allows s.name s.tags = true ∧
        ∃ v ∈ vals, tagGet s.tags key = some v := by
  have hc : condOK (.re key false vals) = true := by
    simp only [condOK, hk, decide_false, Bool.false_or, Bool.not_false, Bool.true_and, Bool.not_eq_true',
      List.contains_eq_mem, decide_eq_false_iff_not]
    exact hv
  rw [C42_names_cond_partial a shs hidx htags _ hc m]
  constructor
  · rintro ⟨sh, hsh, s, hs, hn, hal, hh⟩
    refine ⟨sh, hsh, s, hs, hn, hal, ?_⟩
    simp only [holdsOf, hk, if_false, Bool.bne_false, List.contains_eq_mem, decide_eq_true_eq] at hh
    cases hg : tagGet s.tags key with
    | none => rw [hg] at hh; exact absurd hh hv
    | some v => rw [hg] at hh; exact ⟨v, hh, rfl⟩
  · rintro ⟨sh, hsh, s, hs, hn, hal, v, hvm, hg⟩
    refine ⟨sh, hsh, s, hs, hn, hal, ?_⟩
    simp only [holdsOf, hk, if_false, Bool.bne_false, List.contains_eq_mem, decide_eq_true_eq, hg]
    exact hvm

/-- the shape of seeded change C42-a: `cpu` has the matching host value `a1` only on a hidden
    series (tag `secret`) and the later matching value `a2` on a visible series of another shard;
    `disk` matches only through hidden series; `mem` is plainly visible -/
example :
    measurementNames (.deny [([115], [120])] [])
      [⟨1, [⟨[99], [([104], [97, 49]), ([115], [120])], [], [(0, 1)]⟩,
             ⟨[100], [([104], [97, 49]), ([115], [120])], [], [(0, 1)]⟩,
             ⟨[109], [([104], [97, 49])], [], [(0, 1)]⟩],
         [([99], [104], [97, 49]), ([99], [115], [120]), ([100], [104], [97, 49]), ([100], [115], [120]),
          ([109], [104], [97, 49])]⟩,
       ⟨2, [⟨[99], [([104], [97, 50])], [], [(100, 1)]⟩], [([99], [104], [97, 50])]⟩]
      (some (.re [104] false [[97, 49], [97, 50]])) = [[99], [109]] := by decide

/-- hidden series never surface a name (no condition): if the authorizer allows no series of `m`,
    `m` is not returned -/
theorem C42_hidden_not_returned (a : Auth) (shs : List Shard) (m : Bytes)
    (h : ∀ sh ∈ shs, ∀ s ∈ sh.series, s.name = m → a.allows s.name s.tags = false) :
    m ∉ measurementNames a shs none := by
  rw [C42_names_exact]
  rintro ⟨sh, hsh, s, hs, hn, hal⟩
  rw [h sh hsh s hs hn] at hal
  cases hal

/-- a shard where measurement `m` has the live series `m,t=a` and the index still holds the tag
    value `t=b` of a deleted series -/
def lingering : List Shard :=
  [⟨1, [⟨[109], [([116], [97])], [], [(1, 1)]⟩], [([109], [116], [97]), ([109], [116], [98])]⟩]

/-- **Names only of deleted series are returned**: `WHERE t = 'b'` returns `m` although no live
    series has `t=b`, and TagValues WITH KEY = t returns `b` (open authorizer, no series filter). -/
theorem C42_full_fails :
    measurementNames .nil_ lingering (some (.cmp [116] false [98])) = [[109]] ∧
    tagValues .nil_ lingering none (some (false, [116])) none = [([109], [([116], [97]), ([116], [98])])] := by
  decide

/-- measurement-level evaluation: `t != 'a'` does not return `m` although its series `m,t=b`
    satisfies it, because another series of `m` has `t=a` -/
theorem C42_full_fails_neq :
    measurementNames .nil_
      [⟨1, [⟨[109], [([116], [97])], [], [(1, 1)]⟩, ⟨[109], [([116], [98])], [], [(1, 1)]⟩],
         [([109], [116], [97]), ([109], [116], [98])]⟩]
      (some (.cmp [116] true [97])) = [] := by
  decide

/-- **C42_holdsOn (partial)** — the statement checker `Spec.C42.holdsOn` accepts the model's own
    trace on every case `open n; ops` made of writes (sorted tags) and MeasurementNames queries
    with no condition or a condition in `condOK`, under any authorizer: no deletes (so nothing
    lingers in the index — `C42_full_fails`), no TagKeys/TagValues (their content is covered by
    the correspondence run only). -/
theorem C42_holdsOn_partial (n : Nat) (ops : List Op) (hok : ops.all opOK42 = true) :
    Influx.Spec.C42.holdsOn (runT42 none (.open_ n :: ops)) = true := by
  obtain ⟨hr, hinv⟩ := rel42_init n
  simp only [runT42, ansOf42, Influx.Model.StoreDel.stepOp, Influx.Spec.C42.holdsOn, Influx.Spec.C42.judgeCase]
  exact judgeCase_runT42 ops hok _ _ hr hinv

example : [Op.write 1 [109] [([116], [97])] [(1, 1)], .mn (.deny [([116], [97])] []) none,
    .mn .nil_ (some (.or (.cmp [116] false [97]) (.cmp nameKey true [120])))].all opOK42 = true := by decide

-- non-vacuity of the hypotheses of C42_names_cond_partial
example : condOK (.and (.cmp nameKey false [109]) (.or (.cmp [116] false [97]) (.cmp nameKey true [120]))) = true := by decide
example : IndexExact [⟨1, [⟨[109], [([116], [97])], [], [(1, 1)]⟩], [([109], [116], [97])]⟩] := by
  intro sh hsh m k v
  simp only [List.mem_singleton] at hsh
  subst hsh
  simp only [List.mem_singleton, Prod.mk.injEq]
  constructor
  · rintro ⟨rfl, rfl, rfl⟩; exact ⟨_, rfl, rfl, by simp⟩
  · rintro ⟨s, hs, hn, hkv⟩
    subst hs
    simp only [List.mem_singleton, Prod.mk.injEq] at hkv
    exact ⟨hn.symm, hkv.1, hkv.2⟩

end Influx.Props.C42
