/-
  Props.C18 — Each point lands in one shard group that contains it, also after restart.
  Model: `Influx.Model.Meta*` (leaf predicates, `MarshalTime`, `MinNanoTime`/`MaxNanoTime`
  regenerated from /repo by the translator).
-/
import Influx.Spec.C18
import Influx.Lemmas.MetaC18

namespace Influx.Props.C18
open Influx.Meta Influx.Spec.C18
open Influx.Generated.Meta

/-- the bounds `CreateShardGroup` computes for an in-range timestamp contain it and lie within
    `[MinNanoTime, MaxNanoTime+1]`, for every positive shard group duration and any existing groups -/
theorem new_group_contains (r : RetentionPolicyInfo) (ts : Int) (hd : 0 < r.ShardGroupDuration)
    (h1 : MinNanoTime ≤ ts) (h2 : ts ≤ MaxNanoTime) :
    (newBounds r ts).1 ≤ ts ∧ ts < (newBounds r ts).2 ∧
    MinNanoTime ≤ (newBounds r ts).1 ∧ (newBounds r ts).2 ≤ MaxNanoTime + 1 :=
  newBounds_spec r ts hd h1 h2

/-- … and are disjoint from every live, untruncated group that does not contain the timestamp -/
theorem new_group_disjoint (r : RetentionPolicyInfo) (ts : Int) (hd : 0 < r.ShardGroupDuration)
    (h1 : MinNanoTime ≤ ts) (h2 : ts ≤ MaxNanoTime)
    (g : ShardGroupInfo) (hg : g ∈ r.ShardGroups) (hlive : g.DeletedAt = zeroTime) (htr : g.TruncatedAt = zeroTime)
    (hnot : ¬(g.StartTime ≤ ts ∧ ts < g.EndTime)) :
    (newBounds r ts).2 ≤ g.StartTime ∨ g.EndTime ≤ (newBounds r ts).1 :=
  newBounds_disjoint r ts hd h1 h2 g hg hlive htr hnot

/-- bounds within the int64 nanosecond range survive `marshal`/`unmarshal` (incl. the Unix epoch) -/
theorem reload_keeps_bounds (g : ShardGroupInfo)
    (h1 : MinNanoTime ≤ g.StartTime) (h2 : g.StartTime ≤ MaxNanoTime + 1)
    (h3 : MinNanoTime ≤ g.EndTime) (h4 : g.EndTime ≤ MaxNanoTime + 1) :
    (reloadSG g).StartTime = g.StartTime ∧ (reloadSG g).EndTime = g.EndTime :=
  ⟨reloadBound h1 h2, reloadBound h3 h4⟩

/-- DESIGN §6 F7 (reproduced by the check on the unpatched code, repaired by
    `fixes/C18-clamp-start-min-nanotime.patch`): the unclamped start of the 7-day group of
    `MinNanoTime`, 1677-09-20T00:00:00Z, does not survive a reload. -/
theorem F7_unclamped_start_wraps :
    Time.Truncate MinNanoTime (7 * 24 * 3600000000000) = -9223459200000000000 ∧
    (reloadSG { ID := 1, StartTime := -9223459200000000000, EndTime := -9222854400000000000,
                DeletedAt := zeroTime, Shards := [], TruncatedAt := zeroTime }).StartTime
      = 9223284873709551616 := by
  have hw : wrap64 (-9223459200000000000) = 9223284873709551616 := by decide
  constructor
  · decide
  · simp [reloadSG, unmarshalSG, marshalSG, MarshalTime, Time.UnixNano, UnmarshalTime, Time.IsZero, zeroTime, hw]

/-- persisting and reloading well-formed meta data returns it unchanged: every group keeps its
    bounds (and its deletion mark, shards, id) -/
theorem reload_identity {d : Data} (h : WF d) : reload d = d := reload_id h

/-- clause 1 for `CreateShardGroup`: the group returned for a timestamp contains it (any state) -/
theorem C18_csg (acc : List Accepted) (s : State) (db rp : String) (t : Int) :
    holdsOp acc (.csg db rp t, (step s (.csg db rp t)).2) = true := csg_holds acc s db rp t

/-- clause 1 for `MapShards`: every mapped point lies inside the group it is mapped to (any state) -/
theorem C18_ms (acc : List Accepted) (s : State) (db rp : String) (c : Option Int) (ts : List Int) :
    holdsOp acc (.ms db rp c ts, (step s (.ms db rp c ts)).2) = true := ms_routes acc s db rp c ts

/-- in every state reachable by in-domain operations all shard groups are non-empty, lie within
    `[MinNanoTime, MaxNanoTime+1]`, and the live groups of a policy are pairwise disjoint -/
theorem reachable_wf (ops : List Op) (h : ∀ op ∈ ops, opInDomain op = true) :
    WF (ops.foldl (fun s op => (step s op).1) State.init).data :=
  foldl_inv (fun s => WF s.data) _ ops _ init_wf fun s op hop hs => step_wf s op hs (dom18_of_spec (h op hop))

/-- **C18**: on every history of operations (policy creation with any positive shard group duration,
    changes of the duration, `CreateShardGroup`, `MapShards`, deletions, retention checks,
    restarts, lookups) the statement checker accepts the model's trace: every mapped point lies in
    its group, live groups never overlap, a restart returns the same bounds, and every point
    accepted since the last operation that removes groups or shards is still found by timestamp and
    by time range.  (Histories that leave the quantifier domain — out-of-range timestamps,
    non-positive durations, deletion marks outside `(0, MaxNanoTime]`, truncations — are not judged.) -/
theorem C18_holdsOn (ops : List Op) : holdsOn (run State.init ops) = true := by
  unfold holdsOn
  rw [all_run_fst, Bool.or_eq_true, Bool.not_eq_true']
  by_cases hdom : ops.all opInDomain = true
  · exact .inr (judge_run ops (fun op h => List.all_eq_true.mp hdom op h) State.init [] init_wf forall_mem_nil)
  · exact .inl (Bool.eq_false_iff.mpr hdom)

-- non-vacuity: a history inside the domain (extreme timestamps, a restart, lookups) is judged
example : ((run State.init [Op.rp "db" "rp" 0 false, Op.ms "db" "rp" none [MinNanoTime, 0, MaxNanoTime], Op.restart,
    Op.find "db" "rp" MinNanoTime, Op.range "db" "rp" MinNanoTime MaxNanoTime]).all fun p => opInDomain p.1) = true := by decide

end Influx.Props.C18

