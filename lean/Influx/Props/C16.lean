/-
  Props.C16 — Delete predicates match exactly the series they describe.

  Model: Influx.Model.DelPred (predicate AST → protobuf tree → tsm1 predicateMatcher
  with slots, generation-stamped caches, three-valued Update, the two tag-popping
  routines, key construction by models.MakeKey).  Statement: Influx.Spec.C16.
-/
import Influx.Lemmas.DelPredRunInv

namespace Influx.Props.C16
open Influx.Model.DelPred Influx.Spec.C16

/-- **C16 (partial: inside `KeyOK`)** — for every predicate over `=`/`!=` on tags and
    `_measurement` with AND/OR and every well-formed series in `KeyOK`, compiling the predicate and
    matching the series' key gives exactly the truth value of the predicate on the series. -/
theorem C16_partial (p : Pred) (name : Bytes) (tags : Tags)
    (hp : PredWF p = true) (hs : SeriesWF name tags = true) (hk : KeyOK name tags = true) :
    matchSeries p name tags = some (evalPred name tags p) :=
  matchSeries_spec p name tags hp hs hk

/-- The matcher is reused across keys (generation-stamped caches, `Reset`): whatever series it
    has been asked about before, the next answer inside the domain is exact — also on a composite
    key `series#!~#field` whose first separator is the appended one. -/
theorem C16_reuse (p : Pred) (m : Matcher) (hinv : MInv p m) (full name : Bytes) (tags : Tags)
    (hcut : cutFieldSep full = seriesKey name tags)
    (hp : PredWF p = true) (hs : SeriesWF name tags = true)
    (hnt : noTrailBs name = true) (h61 : 61 ∉ name) (htags : tagsOK tags = true) :
    ∃ m', m.matches full = some (evalPred name tags p, m') ∧ MInv p m' :=
  matches_spec p m hinv full name tags hcut hp hs hnt h61 htags

/-- `Matches` terminates without panic on every key, for every tree that compiles. -/
theorem C16_total (d : DNode) (m : Matcher) (h : newMatcher d = some m) (key : Bytes) :
    ∃ b m', m.matches key = some (b, m') :=
  let ⟨b, m', h1, _⟩ := matches_total m key (newMatcher_WF d m h)
  ⟨b, m', h1⟩

/-- The domain (`Influx.Model.DelPred.KeyOK`): on a well-formed series the
    compiled predicate is exact if the measurement name does not end in a backslash and contains
    no `=`, no tag key / non-empty tag value ends in a backslash, and the key handed to `Matches`
    does not contain the field separator `#!~#`. -/
theorem KeyOK_def (name : Bytes) (tags : Tags) :
    KeyOK name tags = (noTrailBs name && !name.contains 61 && tagsOK tags && !hasSep (seriesKey name tags)) := rfl

/-- Compiling a predicate of the AST never fails. -/
theorem C16_compiles (p : Pred) : (newMatcher (toDataType p)).isSome = true := by
  obtain ⟨m, hm, _⟩ := newMatcher_spec p; simp [hm]

/-! ### the full statement is false of the code (DESIGN §6 F6 and one more) -/

def FullStatement : Prop :=
  ∀ (p : Pred) (name : Bytes) (tags : Tags), PredWF p = true → SeriesWF name tags = true →
    matchSeries p name tags = some (evalPred name tags p)

/-- measurement `a=b` (tag `x=y`) is matched by the predicate `a = "b"`: the name is popped as a tag pair -/
theorem C16_full_fails : ¬ FullStatement := by
  intro h
  have := h (.rule [97] false [98]) [97, 61, 98] [([120], [121])] (by decide) (by decide)
  revert this
  decide

/-- a tag value ending in a backslash hides the following tag: `t = "v"` does not match `m,s=w\,t=v` -/
theorem C16_full_fails_backslash :
    matchSeries (.rule [116] false [118]) [109] [([115], [119, 92]), ([116], [118])] = some false ∧
    evalPred [109] [([115], [119, 92]), ([116], [118])] (.rule [116] false [118]) = true := by
  decide

/-- a tag value containing `#!~#` is cut off: `t = "a#!~#b"` does not match `m,t=a#!~#b`, `t = "a"` does -/
theorem C16_full_fails_fieldsep :
    matchSeries (.rule [116] false [97, 35, 33, 126, 35, 98]) [109] [([116], [97, 35, 33, 126, 35, 98])] = some false ∧
    evalPred [109] [([116], [97, 35, 33, 126, 35, 98])] (.rule [116] false [97, 35, 33, 126, 35, 98]) = true ∧
    matchSeries (.rule [116] false [97]) [109] [([116], [97, 35, 33, 126, 35, 98])] = some true := by
  decide

/-- **C16_holdsOn (partial: series inside `KeyOK`)** — the statement checker accepts the model's
    trace on every case whose well-formed series lie in the domain. -/
theorem C16_holdsOn_partial (ops : List Op) (hok : OpsOK ops = true) :
    holdsOn (run none ops) = true :=
  judge_run ops hok none none trivial

/-- Kleene (SQL/Flux null) evaluation: a comparison on an absent tag is unknown -/
def kleene (name : Bytes) (tags : Tags) : Pred → Option Bool
  | .rule k neq v => (keyValue name tags k).map fun x => if neq then decide (x ≠ v) else decide (x = v)
  | .and l r =>
    match kleene name tags l, kleene name tags r with
    | some false, _ => some false
    | _, some false => some false
    | some true, some true => some true
    | _, _ => none
  | .or l r =>
    match kleene name tags l, kleene name tags r with
    | some true, _ => some true
    | _, some true => some true
    | some false, some false => some false
    | _, _ => none

/-- with AND/OR only, "true under three-valued evaluation" is `evalPred` -/
theorem evalPred_eq_kleene (name : Bytes) (tags : Tags) (p : Pred) :
    evalPred name tags p = (kleene name tags p == some true) := by
  induction p with
  | rule k neq v =>
    simp only [evalPred, kleene]
    cases keyValue name tags k with
    | none => rfl
    | some x => cases neq <;> by_cases h : x = v <;> simp [h]
  | and l r ihl ihr =>
    simp only [evalPred, kleene, ihl, ihr]
    rcases kleene name tags l with _ | _ | _ <;> rcases kleene name tags r with _ | _ | _ <;> rfl
  | or l r ihl ihr =>
    simp only [evalPred, kleene, ihl, ihr]
    rcases kleene name tags l with _ | _ | _ <;> rcases kleene name tags r with _ | _ | _ <;> rfl

-- escape-heavy values inside the domain: commas, spaces, `=`, inner backslashes
example : KeyOK [99, 112, 117, 32, 49] [([104, 44, 49], [97, 61, 98, 92, 99]), ([116], [32, 44])] = true := by decide
example : SeriesWF [99, 112, 117, 32, 49] [([104, 44, 49], [97, 61, 98, 92, 99]), ([116], [32, 44])] = true := by decide
example : matchSeries (.and (.rule measurementKey false [99, 112, 117, 32, 49]) (.rule [104, 44, 49] true [120]))
    [99, 112, 117, 32, 49] [([104, 44, 49], [97, 61, 98, 92, 99]), ([116], [32, 44])] = some true := by decide
example : OpsOK [.setPred (.rule [116] false [118]), .matchSeries [109] [([116], [118])] none,
    .matchSeries [109] [([116], [119])] (some [102])] = true := by decide

end Influx.Props.C16
