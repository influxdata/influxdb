/-
  Props.C34 — Configuration sizes and durations round-trip exactly.
  Model: `Influx.Model.Toml` (toml/toml.go, toml/size_alias.go), after
  fixes/C34-sizev2-exact-integers.patch.
-/
import Influx.Lemmas.Toml
import Influx.Lemmas.Duration
import Influx.Spec.C34

namespace Influx.Props.C34
open Influx.Model.Toml Influx.Lemmas.Toml Influx.Spec.C34

/-! ### clause 1: what is written reads back -/

/-- **SizeV1**: `UnmarshalText(MarshalText(x)) = x` for every uint64 -/
theorem C34_sizeV1_roundtrip (x : Nat) (hx : x < 2 ^ 64) : unmarshalV1U (marshalV1U x) = .ok x :=
  v1u_roundtrip x hx

/-- **SSizeV1**: the same for every int64 (including MinInt64) -/
theorem C34_ssizeV1_roundtrip (x : Int) (hx : -(2 ^ 63 : Int) ≤ x ∧ x < 2 ^ 63) :
    unmarshalV1S (marshalV1S x) = .ok x :=
  v1s_roundtrip x hx

/-- **Size (= SizeV2)**, repaired: the decimal text of every uint64 reads back exactly
    (before the fix: only below 2^53, `C34_v2_orig_loses_precision`) -/
theorem C34_sizeV2_decimal (x : Nat) (hx : x < 2 ^ 64) : unmarshalV2U (fmtNat x) = .ok x :=
  v2u_digits x hx

/-- **SSize (= SSizeV2)**, repaired: the decimal text of every int64 reads back exactly -/
theorem C34_ssizeV2_decimal (x : Int) (hx : -(2 ^ 63 : Int) ≤ x ∧ x < 2 ^ 63) :
    unmarshalV2S (fmtInt x) = .ok x :=
  v2s_digits x hx

/-- through the TOML encoder/decoder: every `Size ≤ MaxInt64` and every `SSize` comes back -/
theorem C34_toml_size (x : Nat) (hx : x ≤ 2 ^ 63 - 1) : tomlRoundTripV2U x = .ok x := toml_v2u x hx
theorem C34_toml_ssize (x : Int) (hx : -(2 ^ 63 : Int) ≤ x ∧ x < 2 ^ 63) : tomlRoundTripV2S x = .ok x :=
  toml_v2s x hx

/-- **Duration**: `time.ParseDuration(d.String()) = d` for every int64 nanosecond count (incl. MinInt64,
    sub-second units with the two-byte `µ`, and the float64 arithmetic of fractional components, which is
    shown to be exact here), hence `UnmarshalText(MarshalText(d)) = d`. -/
theorem C34_duration_roundtrip (d : Int) (hd : -(2 ^ 63 : Int) ≤ d ∧ d < 2 ^ 63) :
    durUnmarshal (durString d) = some d :=
  Influx.Lemmas.Duration.duration_roundtrip d hd

/-- what the fix repaired (F14), on the model of the original code: 2^53+1 was read back as 2^53,
    and MaxInt64 was rejected by the signed type -/
theorem C34_v2_orig_loses_precision :
    unmarshalV2U_orig (fmtNat (2 ^ 53 + 1)) = .ok (2 ^ 53) ∧
    unmarshalV2S_orig (fmtInt (2 ^ 63 - 1)) = .err := by
  constructor <;> decide +kernel

/-! ### clause 3: the overflow tests of the strconv branch are exact -/

theorem C34_overflow_test_unsigned (n mult : Nat) (hm : 0 < mult) :
    (wrapU (n * mult) / mult = n) ↔ n * mult < 2 ^ 64 := overflowU_exact n mult hm

theorem C34_overflow_test_signed (n mult : Int) (hn : -(2 ^ 63 : Int) ≤ n ∧ n < 2 ^ 63)
    (hm : mult = 1 ∨ mult = 2 ^ 10 ∨ mult = 2 ^ 20 ∨ mult = 2 ^ 30) :
    ((wrapS (n * mult)).tdiv mult = n) ↔ (-(2 ^ 63 : Int) ≤ n * mult ∧ n * mult < 2 ^ 63) := by
  rcases hm with rfl | rfl | rfl | rfl <;> exact overflowS_exact n _ (by decide) (by decide)

/-- digits + bare suffix on the strconv branch: accepted iff the product fits, and then it *is*
    the product (never a wrapped value) -/
theorem C34_fastU_exact (q : Nat) (suf : Option UInt8) (hq : q < 2 ^ 64) :
    fastU (fmtNat q) suf = if q * bareMult suf < 2 ^ 64 then some (q * bareMult suf) else none :=
  fastU_fmtNat q suf hq

inductive Op where
  | rt1u (x : Nat) | rt1s (x : Int)         -- MarshalText → UnmarshalText of the 1.x types
  | toml1u (x : Nat) | toml1s (x : Int)     -- the 1.x types through the TOML encoder/decoder
  | tomlu (x : Nat) | tomls (x : Int)       -- Size / SSize through the TOML encoder/decoder
  | drt (x : Int)                           -- Duration: MarshalText → UnmarshalText (also as a TOML string)

def resU : Res Nat → Option Int
  | .ok v => some (v : Int)
  | _ => none
def resS : Res Int → Option Int
  | .ok v => some v
  | _ => none

def modelObs : Op → Obs
  | .rt1u x => .rtSize .v1u x (resU (unmarshalV1U (marshalV1U x)))
  | .rt1s x => .rtSize .v1s x (resS (unmarshalV1S (marshalV1S x)))
  | .toml1u x => .rtSize .v1u x (resU (tomlRoundTripV1U x))
  | .toml1s x => .rtSize .v1s x (resS (tomlRoundTripV1S x))
  | .tomlu x => .rtSize .v2u x (resU (tomlRoundTripV2U x))
  | .tomls x => .rtSize .v2s x (resS (tomlRoundTripV2S x))
  | .drt x => .rtDur x (durUnmarshal (durString x))

/-- the one exclusion: a `Size` above MaxInt64 sent through a TOML document -/
def opOK : Op → Bool
  | .tomlu x => decide (x ≤ 2 ^ 63 - 1)
  | _ => true

/-- **C34 fails as literally stated**: a `Size` above MaxInt64 written by the TOML encoder cannot be
    read back (the decoder rejects integers outside int64). -/
theorem C34_full_fails : ¬ ∀ op, holdsOn (modelObs op) = true := by
  intro h
  have := h (.tomlu (2 ^ 64 - 1))
  revert this
  simp only [modelObs, toml_v2u_above (2 ^ 64 - 1) (by decide), resU]
  decide

/-- clause 1 on a size observation: a value of the target type must have come back -/
theorem holds_rtSize (k : Kind) (x : Int) (res : Option Int) (h : inRange k.signed x = true → res = some x) :
    holdsOn (.rtSize k x res) = true := by
  simp only [holdsOn, check]
  split
  · rfl
  · next hr => simp [h (by simpa using hr)]

theorem holds_rtDur (x : Int) (res : Option Int) (h : inRange true x = true → res = some x) :
    holdsOn (.rtDur x res) = true := by
  simp only [holdsOn, check]
  split
  · rfl
  · next hr => simp [h (by simpa using hr)]

theorem inRange_unsigned {x : Nat} (h : inRange false x = true) : x < 2 ^ 64 := by
  simp [inRange] at h; omega

theorem inRange_signed {x : Int} (h : inRange true x = true) : -(2 ^ 63 : Int) ≤ x ∧ x < 2 ^ 63 := by
  simpa [inRange] using h

/-- **C34 (partial)**: for every value of the target type, whatever the marshalers or the TOML
    encoder write is read back as the same value — except `Size > MaxInt64` through TOML
    (`C34_full_fails`).  Missing from this theorem (covered by correspondence only): the clause-2/3
    judgement of arbitrary input texts on the humanize (float64) path and of arbitrary duration texts. -/
theorem C34_partial (op : Op) (h : opOK op = true) : holdsOn (modelObs op) = true := by
  cases op with
  | rt1u x => exact holds_rtSize .v1u x _ fun hr => by rw [v1u_roundtrip x (inRange_unsigned hr)]; rfl
  | rt1s x => exact holds_rtSize .v1s x _ fun hr => by rw [v1s_roundtrip x (inRange_signed hr)]; rfl
  | toml1u x =>
    exact holds_rtSize .v1u x _ fun hr => by rw [tomlRoundTripV1U, v1u_roundtrip x (inRange_unsigned hr)]; rfl
  | toml1s x =>
    exact holds_rtSize .v1s x _ fun hr => by rw [tomlRoundTripV1S, v1s_roundtrip x (inRange_signed hr)]; rfl
  | tomlu x =>
    exact holds_rtSize .v2u x _ fun _ => by rw [toml_v2u x (by simpa [opOK] using h)]; rfl
  | tomls x => exact holds_rtSize .v2s x _ fun hr => by rw [toml_v2s x (inRange_signed hr)]; rfl
  | drt x => exact holds_rtDur x _ fun hr => C34_duration_roundtrip x (inRange_signed hr)

example : opOK (.drt (-(2 ^ 63))) = true := by decide
example : opOK (.tomlu (2 ^ 53 + 1)) = true ∧ opOK (.rt1s (-(2 ^ 63))) = true := by decide

end Influx.Props.C34
