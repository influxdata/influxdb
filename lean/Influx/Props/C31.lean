/-
  Props.C31 — Resource IDs round-trip and generated IDs are unique.

  Models: `Influx.Model.ID` (kit/platform/id.go) and `Influx.Model.Snowflake`
  (pkg/snowflake/gen.go), constants regenerated by the translator.
-/
import Influx.Lemmas.ID
import Influx.Lemmas.Snowflake
import Influx.Lemmas.SnowflakeF12
import Influx.Spec.C31
import Influx.Lemmas.IDSpec

namespace Influx.Props.C31
open Influx.Model.ID Influx.Model.Snowflake Influx.Lemmas.ID Influx.Lemmas.Snowflake
open Influx.Generated.IDGen Influx.Spec.C31

/-- `Encode` of a valid ID is the 16-digit big-endian lower-case base-16 numeral. -/
theorem encode_valid (i : Nat) (h0 : i ≠ 0) :
    encode i = .ok ((hexDigits 16 i).map hextable) := by
  simp [encode, h0, hexEncode_putUint64BE]

/-- **C31, clause 1a**: what `Encode` returns has 16 characters, all from `0-9a-f`. -/
theorem C31_encode_shape (i : Nat) (s : List UInt8) (h : encode i = .ok s) :
    s.length = 16 ∧ ∀ c ∈ s, isLowerHex c = true := by
  unfold encode at h
  split at h
  · cases h
  · injection h with h; subst h
    rw [hexEncode_putUint64BE]
    refine ⟨by simp, ?_⟩
    intro c hc
    simp only [List.mem_map] at hc
    obtain ⟨d, hd, rfl⟩ := hc
    exact hextable_isLowerHex d (hexDigits_lt _ _ _ hd)

/-- **C31, clause 1b**: every valid ID (all non-zero 64-bit values) decodes back from its encoding. -/
theorem C31_roundtrip (i : Nat) (h0 : i ≠ 0) (h64 : i < 2 ^ 64) :
    ∃ s, encode i = .ok s ∧ decode s = .ok i := by
  refine ⟨_, encode_valid i h0, (decode_ok_iff _ i).mpr ⟨?_, h0, ?_⟩⟩
  · rw [List.length_map, hexDigits_length]
  · have hp := parseLoop_hexDigits 16 i h64
    rwa [Nat.div_eq_of_lt (show i < 16 ^ 16 from h64)] at hp

/-- `Decode` does not see the case of the letters. -/
theorem decode_lower (s : List UInt8) : decode (s.map asciiLower) = decode s := by
  simp only [decode, parseUint16, List.length_map, List.isEmpty_map, parseLoop_lower]

/-- **C31, clause 2 as the code has it (F11)**: a string is accepted as ID `i` exactly when `i` is
    valid and the string, *lower-cased*, is `i`'s encoding.  So the accepted strings are the
    encodings and their upper/mixed-case spellings — nothing else. -/
theorem C31_decode_iff (s : List UInt8) (i : Nat) :
    decode s = .ok i ↔ (i ≠ 0 ∧ i < 2 ^ 64 ∧ encode i = .ok (s.map asciiLower)) := by
  constructor
  · intro h
    obtain ⟨hlen, h0, hp⟩ := (decode_ok_iff s i).mp h
    obtain ⟨h2, h3⟩ := parseLoop_some s 0 i hp
    rw [hlen] at h2 h3
    exact ⟨h0, Nat.lt_of_div_eq_zero (by decide) h2, by rw [encode_valid i h0, h3]⟩
  · rintro ⟨h0, h64, he⟩
    obtain ⟨s', hs', hd⟩ := C31_roundtrip i h0 h64
    rw [hs'] at he
    injection he with he
    rw [← decode_lower, ← he]; exact hd

/-- what an accepted string looks like (the form quoted in DESIGN §5/C31) -/
theorem C31_decode_sound (s : List UInt8) (i : Nat) (h : decode s = .ok i) :
    s.length = 16 ∧ i ≠ 0 ∧ i < 2 ^ 64 ∧ encode i = .ok (s.map asciiLower) := by
  exact ⟨((decode_ok_iff s i).mp h).1, (C31_decode_iff s i).mp h⟩

/-- Among strings without upper-case letters the property's clause 2 holds literally:
    accepted ⇔ it is the encoding of a valid ID (and it decodes to that ID). -/
theorem C31_decode_exact_without_uppercase (s : List UInt8) (i : Nat) (hs : s.map asciiLower = s) :
    decode s = .ok i ↔ (i ≠ 0 ∧ i < 2 ^ 64 ∧ encode i = .ok s) := by
  rw [C31_decode_iff, hs]

/-- different valid IDs have different encodings -/
theorem encode_injective (i j : Nat) (hi : i ≠ 0) (hi64 : i < 2 ^ 64) (hj : j ≠ 0) (hj64 : j < 2 ^ 64)
    (s : List UInt8) (h1 : encode i = .ok s) (h2 : encode j = .ok s) : i = j := by
  have dec (k : Nat) (h0 : k ≠ 0) (h64 : k < 2 ^ 64) (h : encode k = .ok s) : decode s = .ok k := by
    obtain ⟨s', e, d⟩ := C31_roundtrip k h0 h64
    rw [h] at e; cases e; exact d
  exact Except.ok.inj ((dec i hi hi64 h1).symm.trans (dec j hj hj64 h2))

/-- **C31, clause 3**: for every number of concurrent callers, every interleaving of their atomic
    steps and every sequence of clock readings (not even monotone), as long as the two excluded
    events did not happen (`bad = false`: no CAS installed a wrapped time field, no fallback
    `AddUint64` carried out of a full sequence field), the values returned by `Next` are
    pairwise distinct and non-zero. -/
theorem C31_gen_distinct (g0 mid : Nat) (sched : Sched)
    (hg : g0 < 2 ^ 64) (hclr : g0 / 4096 % 1024 = 0) (hmid : mid ≤ serverMax)
    (hb : (run (Sys.init g0 (mid <<< serverShift)) sched).bad = false) :
    (run (Sys.init g0 (mid <<< serverShift)) sched).out.Nodup ∧
      ∀ v ∈ (run (Sys.init g0 (mid <<< serverShift)) sched).out, v ≠ 0 :=
  have ⟨h1, h2⟩ := (run_inv sched _ (inv_init g0 _ (word_of_clear g0 hg hclr)) hb).out_increasing hmid
  ⟨h1.imp Nat.ne_of_lt, fun v hv => Nat.ne_of_gt (h2 v hv)⟩

/-- the hypothesis of `C31_gen_distinct` is met by a real contended run: two callers, the second
    loses a CAS and retries -/
example :
    let s := run (Sys.init 0 (5 <<< serverShift))
      [(0, epoch + 7), (1, epoch + 7), (0, 0), (1, 0), (0, 0), (1, 0), (1, epoch + 7), (1, 0), (1, 0)]
    s.bad = false ∧ s.out = [7 <<< 22 ||| 5 <<< 12, (7 <<< 22 + 1) ||| 5 <<< 12] := by decide +kernel

/-- **F12 on the model: the hypothesis `bad = false` of `C31_gen_distinct` cannot be dropped.**  With machine id 1,
    from the well-formed word `T0` (time field 2^41, sequence 0), under the explicit two-caller schedule
    `collisionSched` (caller 1 loses 100 CAS races while caller 0 fills the sequence field; caller 1's fallback
    `AddUint64` then carries into the machine-id bits), `Next` hands out ids of which the first and the
    last are equal. -/
theorem C31_fallback_collision :
    ∃ g0 mid sched, g0 < 2 ^ 64 ∧ g0 / 4096 % 1024 = 0 ∧ mid ≤ serverMax ∧
      ¬ (run (Sys.init g0 (mid <<< serverShift)) sched).out.Nodup := by
  refine ⟨Influx.Lemmas.SnowflakeF12.T0, 1, Influx.Lemmas.SnowflakeF12.collisionSched, by decide, by decide, by decide, ?_⟩
  obtain ⟨_, v, l, h⟩ := Influx.Lemmas.SnowflakeF12.fallback_collision
  rw [h]
  intro hn
  rw [List.nodup_cons] at hn
  exact hn.1 (List.mem_append_right l (List.mem_singleton_self v))

/-- an operation of the model: encode-then-decode, decode, or one generator driven by a schedule -/
inductive Op where
  | rt (i : Nat)
  | dec (s : List UInt8)
  | gen (g0 mid : Nat) (sched : Sched)

def modelObs : Op → Obs
  | .rt i =>
    let e := (encode i).toOption
    .rt i e (e.bind fun s => (decode s).toOption)
  | .dec s =>
    let d := (decode s).toOption
    .dec s d (d.bind fun i => (encode i).toOption)
  | .gen g0 mid sched => .ids (run (Sys.init g0 (mid <<< serverShift)) sched).out

/-- an upper/mixed-case spelling of an encoding: the only strings on which clause 2 fails -/
def upperVariant (s : List UInt8) : Bool :=
  s.map asciiLower != s && (decode s).toOption.isSome

/-- the explicit hypothesis of `C31_partial` -/
def opOK : Op → Bool
  | .rt _ => true
  | .dec s => !upperVariant s
  | .gen g0 mid sched =>
    decide (g0 < 2 ^ 64) && decide (g0 / 4096 % 1024 = 0) && decide (mid ≤ serverMax) &&
      !(run (Sys.init g0 (mid <<< serverShift)) sched).bad

theorem validID_iff (i : Nat) : validID i = true ↔ i ≠ 0 ∧ i < 2 ^ 64 := by
  simp [validID]

/-- **C31 (partial)**: the statement checker accepts everything the model does, for every ID,
    every string that is not an upper/mixed-case spelling of an encoding, and every generator
    schedule without the two excluded events.  What is missing for the full statement is exactly
    `C31_full_fails` (F11) and `bad = true` schedules (F12, time-field exhaustion). -/
theorem C31_partial (op : Op) (h : opOK op = true) : holdsOn (modelObs op) = true := by
  unfold holdsOn modelObs check
  cases op with
  | rt i =>
    dsimp only
    cases hv : validID i with
    | false => rfl
    | true =>
      obtain ⟨h0, h64⟩ := (validID_iff i).mp hv
      obtain ⟨s, hs, hd⟩ := C31_roundtrip i h0 h64
      obtain ⟨hl, hc⟩ := C31_encode_shape i s hs
      have hall : s.all lowerHexChar = true := List.all_eq_true.mpr hc
      simp only [hs, Except.toOption, Option.bind_some, hd, hl, hall, bne_self_eq_false]
      rfl
  | dec s =>
    dsimp only
    cases hdec : decode s with
    | error e => rfl
    | ok i =>
      obtain ⟨h0, h64, he⟩ := (C31_decode_iff s i).mp hdec
      have hlow : s.map asciiLower = s := by
        simpa [opOK, upperVariant, hdec, Except.toOption] using h
      rw [hlow] at he
      simp only [Except.toOption, Option.bind_some, he, (validID_iff i).mpr ⟨h0, h64⟩, beq_self_eq_true]
      rfl
  | gen g0 mid sched =>
    simp only [opOK, Bool.and_eq_true, decide_eq_true_eq, Bool.not_eq_true'] at h
    obtain ⟨⟨⟨h1, h2⟩, h3⟩, h4⟩ := h
    obtain ⟨hn, hz⟩ := C31_gen_distinct g0 mid sched h1 h2 h3 h4
    dsimp only
    rw [if_neg, if_pos ((Influx.Lemmas.IDSpec.distinctB_iff _).mpr hn)]
    · rfl
    · simp only [List.any_eq_true, beq_iff_eq, not_exists, not_and]
      intro v hv; exact hz v hv

/-- the hypothesis of `C31_partial` is satisfiable by non-trivial operations -/
example : opOK (.dec [48,48,48,48,48,48,48,48,48,48,48,48,48,48,97,98]) = true ∧
    opOK (.rt 171) = true ∧
    opOK (.gen 0 1023 [(0, epoch + 1), (0, 0), (0, 0)]) = true := by decide +kernel

/-- the bytes of `"00000000000000AB"` -/
def upperAB : List UInt8 := [48,48,48,48,48,48,48,48,48,48,48,48,48,48,65,66]
/-- the bytes of `"00000000000000ab"` -/
def lowerAB : List UInt8 := [48,48,48,48,48,48,48,48,48,48,48,48,48,48,97,98]

/-- **C31 fails as literally stated (F11)**: `Decode("00000000000000AB")` succeeds (ID 171) although
    that string is not the encoding of any ID (`Encode(171) = "00000000000000ab"`), so "every other
    string is rejected" is false of the code. -/
theorem C31_full_fails : ¬ ∀ op, holdsOn (modelObs op) = true := by
  intro h
  have := h (.dec upperAB)
  revert this
  decide +kernel

/-- the witness, spelled out -/
theorem C31_uppercase_witness :
    (decode upperAB).toOption = some 171 ∧ (encode 171).toOption = some lowerAB := by decide +kernel

end Influx.Props.C31
