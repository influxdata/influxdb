/-
  Props.C25 — Only active tasks are scheduled.

  Model: Influx.Model.Coord (coordinator.go, middleware.go, backend/coordinator.go,
  written from the code, with `Coordinator.TaskCreated` as repaired by
  fixes/C25-taskcreated-inactive.patch).  All theorems are over arbitrary
  histories (lists of operations of any length, any ids, any schedules).
-/
import Influx.Lemmas.Coord

namespace Influx.Props.C25
open Influx.Model.Coord Influx.Spec.C25 Influx.Lemmas.Coord

def final (ops : List Op) : State := finalFrom step init ops

/-- **C25** (invariant form): after every sequence of create / update / delete /
    restart / run operations through the coordinating service, the scheduler holds
    exactly `{ (t.id, effective cron, offset) | t ∈ tasks, t.status = active }`. -/
theorem C25_invariant (ops : List Op) : (final ops).held = expected (final ops).tasks :=
  (inv_final init inv_init ops).held

/-- **C25** (set form): an entry is held by the scheduler iff it is the current
    schedule of an existing active task. -/
theorem C25 (ops : List Op) (e : Entry) :
    e ∈ (final ops).held ↔ ∃ t ∈ (final ops).tasks, t.status = .active ∧ e = entryOf t := by
  rw [C25_invariant]
  exact mem_expected

/-- The run-time oracle (the statement checker of Spec.C25, which keeps its own
    abstract map of acknowledged requests) accepts the model's trace of every history. -/
theorem C25_holdsOn (ops : List Op) : holdsOn (trace ops) = true :=
  congrArg Option.isNone (check_run init inv_init ops)

/-- An existing inactive task is never held by the scheduler under any id-matching entry. -/
theorem C25_inactive_not_scheduled (ops : List Op) (t : Task) (ht : t ∈ (final ops).tasks)
    (hi : t.status = .inactive) : ∀ e ∈ (final ops).held, e.id ≠ t.id := by
  rw [C25_invariant]
  exact expected_id_ne (inv_final init inv_init ops).sorted ht hi

/-- A deleted (non-existing) id is never held. -/
theorem C25_unknown_not_scheduled (ops : List Op) (id : Nat)
    (hno : ∀ t ∈ (final ops).tasks, t.id ≠ id) : ∀ e ∈ (final ops).held, e.id ≠ id := by
  intro e he hid
  obtain ⟨t, ht, _, rfl⟩ := (C25 ops e).mp he
  exact hno t ht hid

/-- Every existing active task is held, with its latest schedule. -/
theorem C25_active_scheduled (ops : List Op) (t : Task) (ht : t ∈ (final ops).tasks)
    (ha : t.status = .active) : entryOf t ∈ (final ops).held :=
  (C25 ops (entryOf t)).mpr ⟨t, ht, ha, rfl⟩

/-- Start-up repairs the scheduler whatever it held: after
    `(Task)NotifyCoordinatorOfExisting` on any id-ascending, validated store the
    scheduler holds exactly the active tasks. -/
theorem C25_restart_repairs (s : State) (k : RestartKind) (ps : Nat) (hs : Sorted s.tasks)
    (hv : ∀ t ∈ s.tasks, ¬ (t.sched.cron = "" ∧ t.sched.every = "")) :
    (step s (.restart k ps)).1.held = expected s.tasks := by
  rw [restart_held s k ps hs hv]

/-- The code BEFORE the repair violates the statement: creating one inactive task
    leaves it scheduled (DESIGN §6 F9; reproduced on the real code by the check
    before fixes/C25-taskcreated-inactive.patch was applied). -/
theorem C25_unrepaired_fails :
    ¬ ∀ ops, holdsOn (runFrom stepOrig init ops) = true := by
  intro h
  have := h [.create (some .inactive) { isCron := false, spec := "1m", offset := 0, valid := true }]
  revert this
  decide

-- non-vacuity: a history that creates an inactive task, activates it, reschedules it,
-- deactivates another and restarts; the final scheduler content is what the statement says.
example :
    (final [.create (some .inactive) ⟨false, "1m", 0, true⟩, .create none ⟨true, "* * * * *", 5, true⟩,
            .update 1 (some .active) none, .update 2 (some .inactive) (some ⟨false, "1h", 0, true⟩),
            .restart .launcher 1]).held = [⟨1, "@every 1m", 0⟩] := by decide

end Influx.Props.C25
