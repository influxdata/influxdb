/-
  Props.C35 — Cardinality sketches merge correctly.
  Model: `Influx.Model.HLL` (pkg/estimator/hll/hll.go, compressed.go).

  NOT proved, and not provable: "within the error bound" — a probabilistic statement about
  the hash function; see Spec.C35.  `Count` itself (floating point) is not modelled.
-/
import Influx.Lemmas.HLL
import Influx.Lemmas.HLLAdd
import Influx.Lemmas.HLLMarshal
import Influx.Spec.C35

namespace Influx.Props.C35
open Influx.Model.HLL Influx.Lemmas.HLL Influx.Lemmas.HLLAdd Influx.Lemmas.HLLMarshal Influx.Spec.C35

/-- `Merge` succeeds when the precisions agree (for sketches built through the API) -/
theorem merge_ok (a b : Plus) (wa : WF a) (wb : WF b) (hp : a.p = b.p) : ∃ c, merge a b = .ok c :=
  have ⟨c, hc, _⟩ := merge_hasRegs wa.hasRegs (hp ▸ wb.hasRegs)
  ⟨c, hc⟩

/-- **merge = pointwise maximum** of the normalised register vectors, for sparse and dense
    sketches alike (`regs` = the registers after `toNormal`). -/
theorem C35_merge_is_max (a b c : Plus) (wa : WF a) (wb : WF b) (hm : merge a b = .ok c) :
    (regs c).size = 2 ^ a.p ∧ ∀ i, i < 2 ^ a.p → reg (regs c) i = max (reg (regs a) i) (reg (regs b) i) :=
  have r := wa.hasRegs.merge (merge_p a b c hm ▸ wb.hasRegs) hm
  ⟨r.size, r.reg_eq⟩

/-- **commutative** -/
theorem C35_comm (a b x y : Plus) (wa : WF a) (wb : WF b)
    (h1 : merge a b = .ok x) (h2 : merge b a = .ok y) : regs x = regs y :=
  have ra := wa.hasRegs
  have rb : HasRegs b a.p (reg (regs b)) := merge_p a b x h1 ▸ wb.hasRegs
  (ra.merge rb h1).ext (rb.merge ra h2) fun _ _ => Nat.max_comm ..

/-- **associative** -/
theorem C35_assoc (a b c ab bc l r : Plus) (wa : WF a) (wb : WF b) (wc : WF c)
    (h1 : merge a b = .ok ab) (h2 : merge ab c = .ok l)
    (h3 : merge b c = .ok bc) (h4 : merge a bc = .ok r) : regs l = regs r :=
  have ra := wa.hasRegs
  have rb : HasRegs b a.p (reg (regs b)) := merge_p a b ab h1 ▸ wb.hasRegs
  have rc : HasRegs c a.p (reg (regs c)) := merge_p a b ab h1 ▸ merge_p b c bc h3 ▸ wc.hasRegs
  ((ra.merge rb h1).merge rc h2).ext (ra.merge (rb.merge rc h3) h4) fun _ _ => Nat.max_assoc ..

/-- **idempotent** -/
theorem C35_idem (a x : Plus) (wa : WF a) (h : merge a a = .ok x) : regs x = regs a :=
  (wa.hasRegs.merge wa.hasRegs h).ext wa.hasRegs fun _ _ => Nat.max_self _

/-- **the sparse coding loses nothing**: `decodeHash (encodeHash x)` is the dense `(index, rho)` of `x`,
    for every precision 4..18 and every 64-bit hash. -/
theorem C35_decode_encode (p x : Nat) (hp4 : 4 ≤ p) (hp18 : p ≤ 18) (hx : x < 2 ^ 64) :
    decodeHash p (encodeHash p x) = denseIdxRho p x :=
  Influx.Lemmas.HLLBits.decode_encode p x hp4 hp18 hx

/-- **`Add`** raises register `index(x)` to at least `rho(x)` and changes nothing else — whatever the
    representation, including across the sparse → dense switch. -/
theorem C35_add (h : Plus) (w : WF h) (x : Nat) (hx : x < 2 ^ 64) (i : Nat) (hi : i < 2 ^ h.p) :
    reg (regs (add h x)) i = max (reg (regs h) i) (if (denseIdxRho h.p x).1 = i then (denseIdxRho h.p x).2 else 0) :=
  (add_regs w.hasRegs x hx).reg_eq i hi

/-- the registers of `NewPlus(p)` + `Add`s: register `i` is the largest `rho` among the hashes with index `i` -/
theorem C35_sketch (p : Nat) (e : Plus) (he : newPlus p = some e) (xs : List Nat) (hx : ∀ x, x ∈ xs → x < 2 ^ 64)
    (i : Nat) (hi : i < 2 ^ p) : reg (regs (addAll e xs)) i = supAt (denseIdxRho p) xs i :=
  (sketch_regs p e he xs hx).reg_eq i hi

/-- **a sketch depends only on the set of hashes added** (order and repetitions are irrelevant, and so is
    the moment the representation switched from sparse to dense) -/
theorem C35_sketch_of_set (p : Nat) (e : Plus) (he : newPlus p = some e) (A B : List Nat)
    (hA : ∀ x, x ∈ A → x < 2 ^ 64) (hB : ∀ x, x ∈ B → x < 2 ^ 64) (hAB : ∀ x, x ∈ A ↔ x ∈ B) :
    regs (addAll e A) = regs (addAll e B) :=
  (sketch_regs p e he A hA).ext (sketch_regs p e he B hB) fun i _ => supAt_set _ A B i hAB

/-- **union**: merging the sketches of `A` and `B` gives the registers of the sketch of `A ∪ B`
    (any list `U` with exactly the elements of `A` and `B`) — the merged sketch *is* the sketch of the union. -/
theorem C35_union (p : Nat) (e : Plus) (he : newPlus p = some e) (A B U : List Nat) (c : Plus)
    (hA : ∀ x, x ∈ A → x < 2 ^ 64) (hB : ∀ x, x ∈ B → x < 2 ^ 64) (hU : ∀ x, x ∈ U ↔ (x ∈ A ∨ x ∈ B))
    (hm : merge (addAll e A) (addAll e B) = .ok c) : regs c = regs (addAll e U) :=
  have hUb : ∀ x, x ∈ U → x < 2 ^ 64 := fun x hx => (hU x).mp hx |>.elim (hA x) (hB x)
  ((sketch_regs p e he A hA).merge (sketch_regs p e he B hB) hm).ext (sketch_regs p e he U hUb) fun i _ =>
    (supAt_append ..).symm.trans (supAt_set _ (A ++ B) U i fun x => by rw [hU x, List.mem_append])

/-- the compressed list (delta + varint) decodes to exactly what was appended -/
theorem C35_compressed_list_roundtrip (vals : List Nat) (h : Asc 0 vals) :
    decodeVals ((encodeVals 0 vals).length + 1) (encodeVals 0 vals) 0 = some vals :=
  decodeVals_encodeVals vals 0 _ h (by have := encodeVals_length_ge vals 0; omega)

/-- **`UnmarshalBinary(MarshalBinary(h))`** succeeds and restores the representation — precision, mode,
    compressed list (after the `mergeSparse` that `MarshalBinary` performs) or registers — for every
    sketch whose sparse lists are ascending 32-bit lists (`SInv`: true of everything `NewPlus`/`Add`
    build: `newPlus_sinv`, `add_sinv`) and whose sizes fit the 32-bit length fields.
    The Go `Count()` reads exactly these fields, so the estimate is preserved. -/
theorem C35_marshal_roundtrip (h : Plus) (w : WF h) (s : SInv h)
    (hsz : (encodeVals 0 (mergeSparse h).sparseVals).length < 2 ^ 32) :
    ∃ h2, unmarshal (marshal h).2 = .ok h2 ∧ h2.p = h.p ∧ h2.sparse = h.sparse ∧
      (h.sparse = true → h2.tmpSet = [] ∧ h2.sparseVals = (mergeSparse h).sparseVals) ∧
      (h.sparse = false → h2.dense = h.dense) ∧ regs h2 = regs h := by
  obtain ⟨h2, e, a, b, c, d⟩ := marshal_roundtrip h w s hsz
  exact ⟨h2, e, a, b, c, d, marshal_regs h h2 a b c d⟩

/-- every sketch built by `NewPlus` and `Add`s satisfies the hypotheses of `C35_marshal_roundtrip` -/
theorem C35_built_sketch_ok (p : Nat) (e : Plus) (he : newPlus p = some e) (xs : List Nat)
    (hx : ∀ x, x ∈ xs → x < 2 ^ 64) : WF (addAll e xs) ∧ SInv (addAll e xs) :=
  ⟨(sketch_regs p e he xs hx).wf, addAll_sinv xs e (newPlus_sinv p e he)⟩

/-- a sparse sketch and a dense one (the normalised copy of another sparse sketch), both with
    content: the hypotheses above are not vacuous -/
def ex0 : Plus := { p := 4, sparse := true, tmpSet := [], sparseVals := [], sparseBytes := 0, dense := #[] }
def exA : Plus := add ex0 (2 ^ 60 + 5)
def exB : Plus := toNormal (add (add ex0 (2 ^ 61 + 2 ^ 40)) 77)

theorem exA_wf : WF exA := ⟨by decide +kernel, by decide +kernel, by decide +kernel⟩
theorem exB_wf : WF exB := ⟨by decide +kernel, by decide +kernel, by decide +kernel⟩

example : exA.sparse = true ∧ exB.sparse = false ∧ exA.p = exB.p ∧
    (match merge exA exB with | .ok x => (regs x).toList | .error _ => []) =
      [54, 58, 20, 0, 0, 0, 0, 0, 0, 0, 0, 0, 0, 0, 0, 0] := by decide +kernel

/-- the merge laws as operations on model sketches -/
inductive Op where
  | comm (a b : Plus) | assoc (a b c : Plus) | idem (a : Plus)
  /-- sketches of the hash lists `A`, `B` merged, vs the (normalised) sketch of `U` -/
  | union (p : Nat) (A B U : List Nat)
  /-- `UnmarshalBinary(MarshalBinary(a))` vs `a` -/
  | mrt (a : Plus)

/-- `NewPlus(p)` and `Add`s; an unusable precision gives the empty record (excluded by `opOK`) -/
def sketch (p : Nat) (xs : List Nat) : Plus :=
  match newPlus p with
  | some e => addAll e xs
  | none => { p := p, sparse := true, tmpSet := [], sparseVals := [], sparseBytes := 0, dense := #[] }

def okOr (e : Except MErr Plus) (d : Plus) : Plus := match e with | .ok h => h | .error _ => d

/-- the two sides of a law, as the driver computes them (`render` is the driver's way of printing
    a register vector; any function will do) -/
def modelObs (render : Array Nat → String) : Op → Obs
  | .comm a b => .regs .comm (render (regs (okOr (merge a b) a))) (render (regs (okOr (merge b a) a)))
  | .assoc a b c =>
    .regs .assoc (render (regs (okOr (merge (okOr (merge a b) a) c) a)))
                 (render (regs (okOr (merge a (okOr (merge b c) a)) a)))
  | .idem a => .regs .idem (render (regs (okOr (merge a a) a))) (render (regs a))
  | .union p A B U =>
    .regs .union (render (regs (okOr (merge (sketch p A) (sketch p B)) (sketch p A))))
                 (render (regs (okOr (merge (sketch p []) (sketch p U)) (sketch p U))))
  | .mrt a =>
    .regs .mrt (render (regs (match unmarshal (marshal a).2 with | .ok b => b | .error _ => a))) (render (regs a))

example : WF exA ∧ WF exB ∧ exA.p = exB.p := ⟨exA_wf, exB_wf, by decide +kernel⟩

/-- sketches as the API builds them, of one precision -/
def opOK : Op → Prop
  | .comm a b => WF a ∧ WF b ∧ a.p = b.p
  | .assoc a b c => WF a ∧ WF b ∧ WF c ∧ a.p = b.p ∧ b.p = c.p
  | .idem a => WF a
  | .union p A B U => 4 ≤ p ∧ p ≤ 18 ∧ (∀ x, x ∈ A → x < 2 ^ 64) ∧ (∀ x, x ∈ B → x < 2 ^ 64) ∧
      (∀ x, x ∈ U ↔ (x ∈ A ∨ x ∈ B))
  | .mrt a => WF a ∧ SInv a ∧ (encodeVals 0 (mergeSparse a).sparseVals).length < 2 ^ 32

/-- **C35 (partial)**: the statement checker accepts the model's answer to every commutativity,
    associativity, idempotence and union observation, for all well-formed sketches (sparse or dense,
    any content) of equal precision and all hash lists, and to every marshal observation.  Missing:
    equality of estimates (`Count` is not modelled; it reads only fields shown equal) and, by nature,
    the error bound. -/
theorem C35_partial (render : Array Nat → String) (op : Op) (h : opOK op) :
    holdsOn (modelObs render op) = true := by
  cases op with
  | comm a b =>
    obtain ⟨wa, wb, hp⟩ := h
    obtain ⟨x, hx⟩ := merge_ok a b wa wb hp
    obtain ⟨y, hy⟩ := merge_ok b a wb wa hp.symm
    simp [modelObs, holdsOn, hx, hy, okOr, C35_comm a b x y wa wb hx hy]
  | assoc a b c =>
    obtain ⟨wa, wb, wc, hp, hq⟩ := h
    have ra := wa.hasRegs
    have rb : HasRegs b a.p (reg (regs b)) := hp ▸ wb.hasRegs
    have rc : HasRegs c a.p (reg (regs c)) := hp ▸ hq ▸ wc.hasRegs
    obtain ⟨ab, hab, rab⟩ := merge_hasRegs ra rb
    obtain ⟨bc, hbc, rbc⟩ := merge_hasRegs rb rc
    obtain ⟨l, hl, _⟩ := merge_hasRegs rab rc
    obtain ⟨r, hr, _⟩ := merge_hasRegs ra rbc
    simp [modelObs, holdsOn, hab, hbc, hl, hr, okOr, C35_assoc a b c ab bc l r wa wb wc hab hl hbc hr]
  | idem a =>
    obtain ⟨x, hx⟩ := merge_ok a a h h rfl
    simp [modelObs, holdsOn, hx, okOr, C35_idem a x h hx]
  | union p A B U =>
    obtain ⟨hp4, hp18, hA, hB, hU⟩ := h
    obtain ⟨e, he⟩ : ∃ e, newPlus p = some e := by
      unfold newPlus; rw [if_neg (by omega)]; exact ⟨_, rfl⟩
    have hUb : ∀ x, x ∈ U → x < 2 ^ 64 := fun x hx => (hU x).mp hx |>.elim (hA x) (hB x)
    have rU := sketch_regs p e he U hUb
    obtain ⟨c, hc, _⟩ := merge_hasRegs (sketch_regs p e he A hA) (sketch_regs p e he B hB)
    obtain ⟨n, hn, _⟩ := merge_hasRegs (sketch_regs p e he [] (by simp)) rU
    have e1 := C35_union p e he A B U c hA hB hU hc
    have e2 := C35_union p e he [] U U n (by simp) hUb (by simp) hn
    simp [modelObs, holdsOn, sketch, he, hc, hn, okOr, e1, e2]
  | mrt a =>
    obtain ⟨w, s, hsz⟩ := h
    obtain ⟨h2, e, _, _, _, _, r⟩ := C35_marshal_roundtrip a w s hsz
    simp [modelObs, holdsOn, e, r]

end Influx.Props.C35
