/-
  Props.C12 — The line protocol parser is total and accepts exactly well-formed lines.

  Model: Influx.Model.LineProtocolParse (`parseLines` = `ParsePointsWithPrecision`,
  written from models/points.go).  Statement: Influx.Spec.C12.holdsOn.
  Totality: every function of the model is a total Lean function (structural recursion;
  the places where Go could index out of range return `Err.panic`, see `C12_no_model_panic`).
-/
import Influx.Lemmas.LineProtocolErrors
import Influx.Lemmas.LineProtocolSound

namespace Influx.Props.C12
open Influx.LP Influx.LP.Trace12 Influx.Spec.C12 Influx.Generated.LineProto

/-- every accepted point has a non-empty measurement (`Name()`) -/
theorem C12_measurement_nonempty (line : Bytes) (dt : Int) (prec : String) (p : Point)
    (h : parsePoint line dt prec = .ok p) : pointName p.key ≠ [] := by
  obtain ⟨rest, _, hk, _⟩ := parsePoint_ok_inv line dt prec p h
  obtain ⟨⟨_, _, hs⟩, _⟩ := scanKey_ok _ _ _ hk
  exact hs.pointName_ne_nil

/-- every accepted point has at least one field (the iterator yields one) -/
theorem C12_has_field (line : Bytes) (dt : Int) (prec : String) (p : Point)
    (h : parsePoint line dt prec = .ok p) : iterFields (p.fields.length + 1) p.fields ≠ [] := by
  obtain ⟨_, _, _, _, _, _, hf, _⟩ := parsePoint_ok_inv line dt prec p h
  exact iterFields_ne_nil _ hf

/-- series key + separator + field key fit the maximum key length, for every field -/
theorem C12_key_length (line : Bytes) (dt : Int) (prec : String) (p : Point)
    (h : parsePoint line dt prec = .ok p) :
    p.key.length ≤ MaxKeyLength ∧
    ∀ f ∈ iterFields (p.fields.length + 1) p.fields, p.key.length + 4 + f.key.length ≤ MaxKeyLength := by
  obtain ⟨_, _, _, _, hl, _, _, hw, _⟩ := parsePoint_ok_inv line dt prec p h
  exact ⟨hl, fun f hf => (walkFieldsCheck_bound _ _ _ hw f hf).1⟩

/-- the timestamp is representable: inside [MinNanoTime, MaxNanoTime], for a default time that is
    `dtSane` (in that range, an hour above its lower end); the default time matters only to a line
    without a timestamp, but the hypothesis is asked for every line -/
theorem C12_timestamp (line : Bytes) (dt : Int) (prec : String) (p : Point)
    (h : parsePoint line dt prec = .ok p) (hdt : dtSane dt = true) :
    MinNanoTime ≤ p.time ∧ p.time ≤ MaxNanoTime := by
  obtain ⟨_, rest2, _, _, _, _, _, _, ht⟩ := parsePoint_ok_inv line dt prec p h
  exact time_range rest2 dt prec p.time ht hdt

theorem candidateLines_eq (buf : Bytes) (dt : Int) (prec : String) :
    (parseLines buf dt prec).map (·.1) = candidateLines buf := by
  unfold parseLines candidateLines
  induction splitLines false {} buf with
  | nil => rfl
  | cons b bs ih =>
    simp only [List.filterMap_cons]
    cases lineOfBlock b with
    | none => simpa using ih
    | some l => simpa using ih

/-- **the error names exactly the rejected lines**, as `errorsExact` puts it: the error text reads
    as newline-separated entries `unable to parse '<line>': <why>` whose lines are, in order, all
    candidate lines except as many as there are returned points (and an error that is
    returned is not empty) -/
theorem C12_errors_exact (buf : Bytes) (dt : Int) (prec : String) :
    errorsExact buf (okPoints (parseLines buf dt prec)).length
      (errorText (failedLines (parseLines buf dt prec))) = true := by
  have h := namesRejected_model (parseLines buf dt prec) true
  rw [candidateLines_eq, ← okPoints_length] at h
  unfold errorsExact
  rw [errorText_eq]
  cases hf : failedLines (parseLines buf dt prec) with
  | nil => rw [hf] at h; simpa [errTail] using h
  | cons f fs =>
    rw [hf] at h
    simp only [List.isEmpty_cons, Bool.false_eq_true, if_false, Bool.and_eq_true, Bool.not_eq_true',
      List.isEmpty_eq_false_iff]
    exact ⟨errTail_ne_nil f fs, h⟩

theorem mem_okPoints (rs : List (Bytes × Except Err Point)) (p : Point) (h : p ∈ okPoints rs) :
    ∃ l, (l, Except.ok p) ∈ rs := by
  unfold okPoints at h
  obtain ⟨r, hr, hp⟩ := List.mem_filterMap.mp h
  obtain ⟨l, res⟩ := r
  cases res with
  | ok q => simp at hp; subst hp; exact ⟨l, hr⟩
  | error e => simp at hp

theorem mem_parseLines (buf : Bytes) (dt : Int) (prec : String) (l : Bytes) (res : Except Err Point)
    (h : (l, res) ∈ parseLines buf dt prec) : res = parsePoint l dt prec := by
  unfold parseLines at h
  obtain ⟨b, _, hb⟩ := List.mem_filterMap.mp h
  cases hl : lineOfBlock b with
  | none => simp [hl] at hb
  | some l' => simp [hl] at hb; obtain ⟨rfl, rfl⟩ := hb; rfl

/-- every point returned by `ParsePointsWithPrecision` was accepted by `parsePoint` on some line -/
theorem C12_points_from_lines (buf : Bytes) (dt : Int) (prec : String) (p : Point)
    (h : p ∈ okPoints (parseLines buf dt prec)) : ∃ l, parsePoint l dt prec = .ok p := by
  obtain ⟨l, hl⟩ := mem_okPoints _ p h
  exact ⟨l, (mem_parseLines buf dt prec l _ hl).symm⟩

/-- **unique tag keys**: the keys `Tags()` reports for an accepted point are pairwise distinct
    (the parser compares the *escaped* keys; un-escaping is injective on scanned keys) -/
theorem C12_unique_tag_keys (line : Bytes) (dt : Int) (prec : String) (p : Point)
    (h : parsePoint line dt prec = .ok p) :
    distinct ((pointObs p).tags.map (·.key)) = true := by
  obtain ⟨rest, _, hk, _⟩ := parsePoint_ok_inv line dt prec p h
  obtain ⟨⟨_, _, hs⟩, _⟩ := scanKey_ok _ _ _ hk
  simpa [pointObs, pointTags, parseTags_isSome] using hs.distinct_tags

/-- **the accessors of an accepted point do not panic**: `Tags()` never indexes out of range (on
    any key), and — since fixes/C12-lone-quote-value-panic.patch — no string field has the lone
    quote as value, so `StringValue()`'s `valueBuf[1:len-1]` is in range -/
theorem C12_accessors_total (line : Bytes) (dt : Int) (prec : String) (p : Point)
    (h : parsePoint line dt prec = .ok p) : (pointObs p).clean = true := by
  obtain ⟨_, _, _, _, _, _, _, hw, _⟩ := parsePoint_ok_inv line dt prec p h
  simp only [pointObs, pointTags, parseTags_isSome, Option.isSome_some, Bool.true_and, List.all_eq_true]
  intro f hf
  have := (walkFieldsCheck_bound _ _ _ hw f hf).2
  unfold fieldClean
  cases ht : f.typ <;> simp
  exact this ht

/-- `ParseKeyBytes` returns on every byte string -/
theorem C12_parseKey_total (buf : Bytes) : holdsOnPK (parseKeyBytes buf) = true :=
  parseKeyBytes_isSome buf

/-- **C12 on the model**: for every byte string, precision and default time the statement
    checker accepts the model's answer: the call returns; every returned point has a non-empty
    measurement, at least one field, unique tag keys, key + field key within the maximum, a
    representable timestamp (when the default time is `dtSane`), accessors that return; the error
    names exactly the rejected lines (in the sense of `errorsExact`). -/
theorem C12_holdsOn (buf : Bytes) (dt : Int) (prec : String) :
    holdsOn (modelObs prec dt buf) = true := by
  unfold holdsOn modelObs
  simp only [Bool.and_eq_true, List.all_eq_true, List.length_map]
  refine ⟨?_, C12_errors_exact buf dt prec⟩
  intro o ho
  obtain ⟨p, hp, rfl⟩ := List.mem_map.mp ho
  obtain ⟨l, hl⟩ := C12_points_from_lines buf dt prec p hp
  unfold wellFormed
  simp only [Bool.and_eq_true, Bool.or_eq_true, Bool.not_eq_true', List.all_eq_true, decide_eq_true_eq]
  refine ⟨⟨⟨⟨⟨C12_accessors_total l dt prec p hl, ?_⟩, ?_⟩, C12_unique_tag_keys l dt prec p hl⟩, ?_⟩, ?_⟩
  · have := C12_measurement_nonempty l dt prec p hl
    simpa [pointObs] using this
  · have := C12_has_field l dt prec p hl
    simpa [pointObs] using this
  · intro fk hfk
    simp only [pointObs, List.mem_map] at hfk
    obtain ⟨f, hf, rfl⟩ := hfk
    exact (C12_key_length l dt prec p hl).2 f hf
  · cases hdt : dtSane dt with
    | false => left; rfl
    | true => right; exact C12_timestamp l dt prec p hl hdt

/-- **totality, model level**: no line is answered with one of the modelled out-of-range
    outcomes (`scanTags` index growth, `scanToSpaceOr` past the end, `scanFields` look-behind
    before the buffer): where Go could index out of range, the model proves it does not -/
theorem C12_no_model_panic (buf : Bytes) (dt : Int) (prec : String) :
    ∀ f ∈ failedLines (parseLines buf dt prec), f.2.isPanic = false := by
  intro f hf
  unfold failedLines at hf
  obtain ⟨r, hr, hfr⟩ := List.mem_filterMap.mp hf
  obtain ⟨l, res⟩ := r
  cases res with
  | ok q => simp at hfr
  | error e =>
    simp at hfr; subst hfr
    have := mem_parseLines buf dt prec l _ hr
    exact parsePoint_noPanic l dt prec e this.symm

/-- the line on which `Fields()`/`StringValue()` panic without
    fixes/C12-lone-quote-value-panic.patch is rejected -/
theorem C12_lone_quote_rejected :
    okPoints (parseLines (str "m \\\\=\"a=\"") 0 "ns") = [] := by decide

end Influx.Props.C12
