/-
  Props.C36 — index and ID-set data structures behave like their abstract models.
-/
import Influx.Lemmas.C36Bloom
import Influx.Lemmas.C36IDSet
import Influx.Lemmas.C36RHHSim
import Influx.Lemmas.C36RadixSim2

namespace Influx.Props.C36
open Influx.C36 Influx.Spec.C36

/-! ## Robin-hood hash map (pkg/rhh), for an ARBITRARY hash function `hf`

`RHH.WF hf s` is the robin-hood invariant of a slot array: every element away from its home
slot has an occupied predecessor at most one step richer, keys are unique, stored hashes are
`hf key`.  `RHH.Map.Inv` adds `n = number of occupied slots` and `loadFactor ≤ 100`. -/

/-- **The probe-sequence invariant**: between the home slot of a stored element and its slot,
    every slot is occupied by an element at least as far from its own home — no empty slot and
    no richer element is crossed. -/
theorem rhh_probe_sequence (hf : Key → Nat) (s : RHH.Slots) (hw : RHH.WF hf s) (p : Nat) (e : RHH.Entry)
    (hp : RHH.At s p e) (n q : Nat) (hq : q < s.length)
    (hd : RHH.dist e.hash q s.length + n = RHH.dist e.hash p s.length) :
    ∃ e', RHH.At s q e' ∧ RHH.dist e.hash q s.length ≤ RHH.dist e'.hash q s.length :=
  hw.path hp n q hq hd

/-- **Get refines the abstract map** `Key → Option Val`: `Get(k)` returns `v` iff the entry
    `(k, v)` is stored. -/
theorem rhh_get (hf : Key → Nat) (m : RHH.Map) (h : m.Inv hf) (k : Key) (v : Int) :
    m.get (hf k) k = some v ↔ ∃ e, RHH.Mem m.slots e ∧ e.key = k ∧ e.val = v :=
  RHH.Map.get_spec h k v

/-- **Put is a map update** (insert with displacement, growing at the load factor): it
    re-establishes the invariant, afterwards `Get k = v`, every other key reads as before, and
    `Len` grows exactly when the key was new. -/
theorem rhh_put (hf : Key → Nat) (m m' : RHH.Map) (h : m.Inv hf) (k : Key) (v : Int)
    (hp : m.put (hf k) k v = some m') :
    m'.Inv hf ∧ m'.get (hf k) k = some v ∧
      (∀ k', k' ≠ k → m'.get (hf k') k' = m.get (hf k') k') ∧
      ((∃ e, RHH.Mem m.slots e ∧ e.key = k) → m'.n = m.n) ∧
      ((∀ e, RHH.Mem m.slots e → e.key ≠ k) → m'.n = m.n + 1) :=
  RHH.Map.put_get h k v hp

/-- `Put` always returns while doubling the capacity stays in range (2^61 slots). -/
theorem rhh_put_total (hf : Key → Nat) (m : RHH.Map) (h : m.Inv hf) (k : Key) (v : Int)
    (hcap : m.cap * 2 ≤ 2 ^ 61) : ∃ m', m.put (hf k) k v = some m' :=
  RHH.Map.put_total h k v hcap

/-- `Grow` keeps every entry (and `Len`). -/
theorem rhh_grow (hf : Key → Nat) (m m' : RHH.Map) (h : m.Inv hf) (sz : Nat) (hg : m.grow sz = some m') :
    m'.Inv hf ∧ (∀ k, m'.get (hf k) k = m.get (hf k) k) ∧ m'.n = m.n :=
  RHH.Map.grow_get h hg

/-- a fresh map satisfies the invariant and is empty -/
theorem rhh_new (hf : Key → Nat) (capacity lf : Nat) (m : RHH.Map) (h : RHH.Map.new capacity lf = some m)
    (hlf : lf ≤ 100) : m.Inv hf ∧ ∀ k, m.get (hf k) k = none := by
  obtain ⟨hI, _, hemp⟩ := RHH.Map.new_inv hf h hlf
  exact ⟨hI, RHH.Map.get_empty hI hemp⟩

/-! ## Bloom filter (pkg/bloom) -/

/-- `Insert(v)` then `Contains(v)`: true, for any pair of hashes and any `k`. -/
theorem bloom_contains_after_insert (f : Bloom.Filter) (h0 h1 : Nat) (hm : 0 < f.bits.length) :
    (f.insert h0 h1).contains h0 h1 = true := Bloom.contains_insert_self f h0 h1 hm

/-- An insert never clears a contained value (bits are only ever set). -/
theorem bloom_contains_monotone (f : Bloom.Filter) (h0 h1 g0 g1 : Nat) (h : f.contains h0 h1 = true) :
    (f.insert g0 g1).contains h0 h1 = true := Bloom.contains_insert_mono f h0 h1 g0 g1 h

/-- `Merge` keeps what either side contained. -/
theorem bloom_merge_contains (f o f' : Bloom.Filter) (h : f.merge o = .ok f') (h0 h1 : Nat)
    (hc : f.contains h0 h1 = true ∨ o.contains h0 h1 = true) : f'.contains h0 h1 = true :=
  Bloom.contains_merge h h0 h1 hc

/-! ## SeriesIDSet (tsdb/series_set.go) over an abstract roaring bitmap -/

/-- the wrapper keeps the canonical (ascending, duplicate-free) representation -/
theorem idset_add_sorted (s : IDSet.Set) (id : Nat) (h : IDSet.Sorted s) : IDSet.Sorted (IDSet.add s id) :=
  IDSet.ins_sorted _ _ h

theorem idset_mem_add (s : IDSet.Set) (id y : Nat) :
    y ∈ IDSet.add s id ↔ y = id % 2 ^ 32 ∨ y ∈ s := IDSet.mem_ins _ _ _

theorem idset_mem_union (a b : IDSet.Set) (y : Nat) : y ∈ IDSet.union a b ↔ y ∈ a ∨ y ∈ b :=
  IDSet.mem_union a b y

theorem idset_mem_and (a b : IDSet.Set) (y : Nat) : y ∈ IDSet.and a b ↔ y ∈ a ∧ y ∈ b := by
  simp [IDSet.and, List.mem_filter]

theorem idset_mem_andNot (a b : IDSet.Set) (y : Nat) : y ∈ IDSet.andNot a b ↔ y ∈ a ∧ y ∉ b := by
  simp [IDSet.andNot, List.mem_filter]

theorem idset_mem_remove (s : IDSet.Set) (id y : Nat) :
    y ∈ IDSet.remove s id ↔ y ∈ s ∧ y ≠ id % 2 ^ 32 := by
  simp only [IDSet.remove, IDSet.norm, List.mem_filter, ne_eq]
  constructor
  · rintro ⟨h1, h2⟩; exact ⟨h1, of_decide_eq_true h2⟩
  · rintro ⟨h1, h2⟩; exact ⟨h1, decide_eq_true h2⟩

/-- two canonical sets with the same members are the same list, so `Equals` is set equality -/
theorem idset_equals_iff (a b : IDSet.Set) (ha : IDSet.Sorted a) (hb : IDSet.Sorted b) :
    IDSet.equals a b = true ↔ ∀ y, y ∈ a ↔ y ∈ b := by
  simp only [IDSet.equals, beq_iff_eq]
  constructor
  · rintro rfl y; rfl
  · exact IDSet.sorted_ext a b ha hb

/-- `marshal ∘ unmarshal = id`, given roaring's: for ANY codec of the bitmap that round-trips,
    writing a set and reading it into a fresh set yields an equal set (the wrapper adds nothing
    to the bytes: `WriteTo`/`UnmarshalBinary` delegate to the bitmap). -/
theorem idset_roundtrip {Bytes : Type} (enc : IDSet.Set → Bytes) (dec : Bytes → Option IDSet.Set)
    (hcodec : ∀ s, dec (enc s) = some s) (s : IDSet.Set) :
    (dec (enc s)).map (IDSet.equals s) = some true := by
  simp [hcodec, IDSet.equals]

/-- The uint32 truncation is real: in the model (as in the code) adding 2^32+5 makes 5 a member. -/
theorem idset_truncation_witness : IDSet.contains (IDSet.add [] (2 ^ 32 + 5)) 5 = true := by decide

/-! ## Radix tree (pkg/radix): a sorted association list

`Radix.Node.rel n` is the list of (key suffix, value) pairs below a node in walk order;
`Radix.Node.SW` the structural invariant (edge labels strictly ascending, every child's prefix
starts with its label) — it tolerates the empty nodes `deletePrefix` leaves behind. -/

/-- **Get refines the lookup in the association list.** -/
theorem radix_get (n : Radix.Node) (k : Key) (h : Radix.Node.SW n) :
    Radix.Node.get n k = Radix.lookup k (Radix.Node.rel n) := Radix.Node.get_rel n k h

/-- **Iteration in key order**: the association list (hence the walk) is strictly ascending in
    `bytes.Compare` order. -/
theorem radix_sorted (n : Radix.Node) (h : Radix.Node.SW n) : Radix.SortedKV (Radix.Node.rel n) :=
  Radix.Node.rel_sorted n h

/-- **Insert refines insert-if-absent**: the invariant is kept; an existing key is left alone
    and its value returned with `false`; a new key is added (and nothing else changes). -/
theorem radix_insert (n : Radix.Node) (k s : Key) (v : Int) (h : Radix.Node.SW n) :
    Radix.Node.SW (Radix.Node.insert n k s v).1 ∧
    (∀ old, Radix.lookup k (Radix.Node.rel n) = some old → Radix.Node.insert n k s v = (n, ⟨old, false⟩)) ∧
    (Radix.lookup k (Radix.Node.rel n) = none →
      (Radix.Node.insert n k s v).2 = ⟨v, true⟩ ∧
      ∀ p, p ∈ Radix.Node.rel (Radix.Node.insert n k s v).1 ↔ p ∈ Radix.Node.rel n ∨ p = (k, v)) := by
  obtain ⟨h1, h3, h4⟩ := Radix.insert_ok.1 n k s v h
  exact ⟨h1, fun old ho => Prod.ext (h3 old ho).1 (h3 old ho).2,
    fun hn => ⟨(h4 hn).1, Radix.mem_of_perm_cons (h4 hn).2⟩⟩

/-- **DeletePrefix refines the filter**, for a non-empty prefix (`Node.del` leaves the empty one
    to its caller): exactly the pairs whose key has the prefix disappear, their number is
    returned. -/
theorem radix_delete_prefix (n : Radix.Node) (isRoot : Bool) (c : Nat) (rest : Key) (h : Radix.Node.SW n) :
    Radix.Node.SW (Radix.Node.del n isRoot (c :: rest)).1 ∧
    Radix.Node.rel (Radix.Node.del n isRoot (c :: rest)).1 =
      (Radix.Node.rel n).filter (fun q => !Radix.pfx (c :: rest) q.1) ∧
    (Radix.Node.del n isRoot (c :: rest)).2 + (Radix.Node.rel (Radix.Node.del n isRoot (c :: rest)).1).length =
      (Radix.Node.rel n).length := by
  obtain ⟨h1, h2, h3, _⟩ := Radix.Node.del_spec n isRoot c rest h
  exact ⟨h1, h2, h3⟩

/-- **Minimum / Maximum** are the first / last element of the walk as long as no node is empty
    (`NE`: holds until the first `DeletePrefix`; afterwards see `C36_radix_full_fails`). -/
theorem radix_min_max (n : Radix.Node) (h : Radix.Node.NE n) :
    Radix.Node.min n = (Radix.Node.walk n).head? ∧ Radix.Node.max n = (Radix.Node.walk n).getLast? :=
  ⟨Radix.Node.min_eq n h, Radix.Node.max_eq n h⟩

/-- well-formed op: its hashes are those of its key (`hf` for the hash map, `bh` for the bloom
    filter); load factors are at most 100; ids fit 32 bits -/
def WF (hf : Key → Nat) (bh : Key → Nat × Nat) : Op → Prop
  | .r o => ROp.WF hf o
  | .b o => BOp.WF bh o
  | .s o => SOp.WF o
  | .t _ => True

/-- no `Minimum`/`Maximum` after a `DeletePrefix` on the same tree (known finding);
    `d` = a `DeletePrefix` may have run since the last `tnew` -/
def MinMaxOK : Bool → List Op → Prop
  | _, [] => True
  | d, .t .min :: ops => d = false ∧ MinMaxOK d ops
  | d, .t .max :: ops => d = false ∧ MinMaxOK d ops
  | _, .t .new :: ops => MinMaxOK false ops
  | _, .t (.del _) :: ops => MinMaxOK true ops
  | d, _ :: ops => MinMaxOK d ops

structure R (hf : Key → Nat) (bh : Key → Nat × Nat) (d : Bool) (st : State) (sp : SpecState) : Prop where
  r : RR hf st.map sp.rmap
  b : RB bh st.bf sp.bloom
  t : RT st.tree sp.t
  s : RS st.sets sp.s
  del : sp.t.deleted = true → d = true

theorem R_init (hf bh d) : R hf bh d init {} := ⟨trivial, RB_init bh, rfl, RS_init, fun h => nomatch h⟩

/-- where the flag of `MinMaxOK` stands after an op -/
def nextD (d : Bool) : Op → Bool
  | .t .new => false
  | .t (.del _) => true
  | _ => d

theorem MinMaxOK.tail {d : Bool} {op : Op} {ops : List Op} (h : MinMaxOK d (op :: ops)) :
    MinMaxOK (nextD d op) ops := by
  cases op with
  | t o =>
    cases o with
    | min => exact h.2
    | max => exact h.2
    | _ => exact h
  | _ => exact h

theorem checkT_deleted {st : TSpec} {d : Bool} (h : st.deleted = true → d = true) (o : TOp) (a : Obs)
    (hx : (checkT st o a).1.deleted = true) : nextD d (.t o) = true := by
  cases o with
  | new => exact nomatch hx
  | del p => rfl
  | ins k v =>
    refine h ?_
    revert hx
    simp only [checkT]
    split
    · exact id
    · split <;> exact id
  | _ =>
    -- every other op returns the state it was given, with or without a tree
    obtain ⟨tree, deleted⟩ := st
    cases tree <;> exact h hx

theorem okAt_of {d deleted : Bool} {o : TOp} {ops : List Op} (hdel : deleted = true → d = true)
    (hmm : MinMaxOK d (.t o :: ops)) : TOp.okAt deleted o := by
  have hd : d = false → deleted = false := fun hd => by
    cases deleted
    · rfl
    · exact nomatch (hdel rfl).symm.trans hd
  cases o with
  | min => exact hd hmm.1
  | max => exact hd hmm.1
  | _ => trivial

theorem step_sim {hf bh} {d : Bool} {st : State} {sp : SpecState} (hR : R hf bh d st sp) (op : Op)
    (ops : List Op) (hwf : WF hf bh op) (hmm : MinMaxOK d (op :: ops)) (hns : ¬ Obs.stuck (step st op).2) :
    (check sp op (step st op).2).2 = none ∧
      R hf bh (nextD d op) (step st op).1 (check sp op (step st op).2).1 := by
  cases op with
  | r o =>
    obtain ⟨h1, h2⟩ := stepR_sim hf st.map sp.rmap o hR.r hwf hns
    simp only [step, check]
    exact ⟨h1, h2, hR.b, hR.t, hR.s, hR.del⟩
  | b o =>
    obtain ⟨h1, h2⟩ := stepB_sim bh st.bf sp.bloom o hR.b hwf
    simp only [step, check]
    exact ⟨h1, hR.r, h2, hR.t, hR.s, hR.del⟩
  | s o =>
    obtain ⟨h1, h2⟩ := stepS_sim st.sets sp.s o hR.s hwf
    simp only [step, check]
    exact ⟨h1, hR.r, hR.b, hR.t, h2, hR.del⟩
  | t o =>
    obtain ⟨h1, h2⟩ := stepT_sim st.tree sp.t o hR.t (okAt_of hR.del hmm)
    simp only [step, check]
    exact ⟨h1, hR.r, hR.b, h2, hR.s, checkT_deleted hR.del o _⟩

theorem firstFailure_cons {sp : SpecState} {o : Op} {a : Obs} (rest : List (Op × Obs))
    (h : (check sp o a).2 = none) :
    firstFailure sp ((o, a) :: rest) = firstFailure (check sp o a).1 rest := by
  rw [firstFailure]
  cases hc : check sp o a with
  | mk x c =>
    rw [hc] at h
    cases (h : c = none)
    rfl

theorem firstFailure_run (hf bh) (ops : List Op) : ∀ (d : Bool) (st sp), R hf bh d st sp →
    (∀ op ∈ ops, WF hf bh op) → MinMaxOK d ops → (∀ x ∈ run st ops, ¬ Obs.stuck x.2) →
    firstFailure sp (run st ops) = none := by
  induction ops with
  | nil => intros; rfl
  | cons op ops ih =>
    intro d st sp hR hall hmm hns
    have hrun : run st (op :: ops) = (op, (step st op).2) :: run (step st op).1 ops := rfl
    rw [hrun] at hns ⊢
    obtain ⟨hc, hR'⟩ := step_sim hR op ops (hall op List.mem_cons_self) hmm (hns _ List.mem_cons_self)
    rw [firstFailure_cons _ hc]
    exact ih _ _ _ hR' (fun o ho => hall o (List.mem_cons_of_mem _ ho)) hmm.tail
      (fun x hx => hns x (List.mem_cons_of_mem _ hx))

/-- **C36 on the model**: for EVERY hash function `hf` of the hash map and every pair of hash
    functions `bh` of the bloom filter, the statement checker accepts every trace the model
    produces — all four structures, every op, unbounded.
    Named `_partial` because of three explicit hypotheses, each the exact complement of a
    known finding or a resource bound: (1) `WF`: hashes are those of the keys, load factor
    ≤ 100, ids below 2^32 (`C36_idset_full_fails`); (2) `MinMaxOK`: no `Minimum`/`Maximum` after
    a `DeletePrefix` (`C36_radix_full_fails`); (3) no model answer is `hang`/`panic` — for `Put`,
    by `rhh_put_total`, that needs a capacity beyond 2^60 slots; `new` and `Grow` answer so when
    `pow2` is asked for a size above 2^61. -/
theorem C36_holdsOn_partial (hf : Key → Nat) (bh : Key → Nat × Nat) (ops : List Op)
    (h : ∀ op ∈ ops, WF hf bh op) (hmm : MinMaxOK false ops) (hns : ∀ x ∈ run init ops, ¬ Obs.stuck x.2) :
    holdsOn (run init ops) = true := by
  simp [holdsOn, firstFailure_run hf bh ops false init {} (R_init hf bh false) h hmm hns]

-- the hypotheses are met by non-trivial op sequences
example : ∀ op ∈ [Op.r (.new 4 90), .r (.put [1] 5 7), .r (.get [1] 5), .b (.new 0 64 3), .b (.ins 0 [1, 2] 7 9),
    .b (.has 0 [1, 2] 7 9), .s (.add 1 5), .s (.slice 1), .t .new, .t (.ins [97] 1), .t .min, .t (.del [97])],
    WF (fun _ => 5) (fun _ => (7, 9)) op := by
  simp only [List.forall_mem_cons]
  exact ⟨(by decide : 90 ≤ 100), rfl, rfl, trivial, rfl, rfl, (by decide : 5 < 2 ^ 32), trivial, trivial, trivial, trivial,
    trivial, fun _ h => nomatch h⟩
example : MinMaxOK false [Op.t .new, .t (.ins [97] 1), .t .min, .t (.del [97]), .t .walk] :=
  ⟨rfl, trivial⟩

/-! ## Where the full statement fails (both reproduced on the real code by the check) -/

/-- ids are kept modulo 2^32: after `Add(2^32+5)`, `Contains(5)` is true (known finding
    `idset-id-truncated-to-32-bits`) -/
theorem C36_idset_full_fails :
    holdsOn (run init [.s (.add 0 (2 ^ 32 + 5)), .s (.has 0 5)]) = false := by decide

/-- `DeletePrefix` leaves an empty node behind and `Minimum` walks into it: the tree still
    holds "b" but reports no minimum (known finding `radix-minmax-after-deleteprefix`) -/
theorem C36_radix_full_fails :
    holdsOn (run init [.t .new, .t (.ins [97] 1), .t (.ins [98] 2), .t (.del [97]), .t .min]) = false := by
  decide

end Influx.Props.C36
