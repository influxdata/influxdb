/-
  Props.C22 — InfluxQL SELECT results match the language semantics.

  Two levels: `Spec.C22.eval` (denotational reference evaluator, the STATEMENT) and
  `InfluxQLPipe.run` (model of the iterator pipeline `query.Select` builds).
  Theorems land in stages:
    * spec-level laws of `eval` (LIMIT/OFFSET = drop/take per output series, the windows
      fill reports are exactly those of the range),
    * pipeline stage = specification stage (limit iterator; sorted merge and the whole
      raw pipeline over one output series; call iterator and reducers of one series),
    * `C22_holdsOn_partial`: the statement checker accepts the pipeline model for the
      statement class whose stages are all proved.
  Everything else of the subset is tied by correspondence only (see checks/C22.json).
-/
import Influx.Lemmas.InfluxQL

namespace Influx.Props.C22
open Influx.Reducers Influx.Spec.C22 Influx.InfluxQLPipe Influx.InfluxQLPipe.Lemmas

variable {V F : Type}

/-- the statement without its LIMIT / OFFSET clause -/
def unlimited (q : Query) : Query := { q with limit := 0, offset := 0 }

/-- **LIMIT / OFFSET**: every output series of a raw statement is the unlimited series
    with `OFFSET` rows dropped and then at most `LIMIT` rows kept. -/
theorem C22_limit_offset_raw (q : Query) (g : Option String × List (Series V)) :
    (rawGroup q g : List (Row V F)) =
      let all : List (Row V F) := rawGroup (unlimited q) g
      if q.limit = 0 then all.drop q.offset else (all.drop q.offset).take q.limit := by
  simp only [rawGroup, limitOffset, unlimited, List.drop_zero, if_true]
  rfl

/-- … and the same for aggregate statements (per output series, after fill). -/
theorem C22_limit_offset_agg (A : Arith22 V F) (q : Query) (g : Option String × List (Series V)) :
    aggGroup A q g =
      let all := aggGroup A (unlimited q) g
      if q.limit = 0 then all.drop q.offset else (all.drop q.offset).take q.limit := by
  simp only [aggGroup, limitOffset, unlimited, List.drop_zero, if_true]
  rfl

theorem lt_windowCount_iff (lo hi d : Int) (hd : 0 < d) (hlo : lo ≤ hi) (i : Nat) :
    i < ((hi - lo) / d).toNat + 1 ↔ lo + (i : Int) * d ≤ hi := by
  have hq : 0 ≤ (hi - lo) / d := Int.ediv_nonneg (Int.sub_nonneg.mpr hlo) (Int.le_of_lt hd)
  rw [Nat.lt_succ_iff, Int.le_toNat hq, Int.le_ediv_iff_mul_le hd, ← Int.add_le_iff_le_sub, Int.add_comm]

/-- **fill**: with a fill option other than `none`, a group that holds at least one
    point reports exactly the windows `lo, lo+d, …` up to the window of the upper time
    bound — every window of the range and no other. -/
theorem C22_fill_every_window (q : Query) (holding : List Int) (hf : q.fill ≠ Fill.none)
    (hh : holding ≠ []) (hd : 0 < q.dur)
    (hlo : winStart q (startOf q) ≤ winStart q (endOf q)) (w : Int) :
    w ∈ windowStarts q holding ↔
      ∃ i : Nat, w = winStart q (startOf q) + (i : Int) * q.dur ∧ w ≤ winStart q (endOf q) := by
  have hh' : holding.isEmpty = false := by
    cases holding with
    | nil => exact absurd rfl hh
    | cons _ _ => rfl
  have hlt : ¬ winStart q (endOf q) < winStart q (startOf q) := Int.not_lt.mpr hlo
  simp only [windowStarts, hf, if_false, hh', Bool.false_eq_true, hlt]
  have key := lt_windowCount_iff _ _ _ hd hlo
  have mem : w ∈ (List.range (((winStart q (endOf q) - winStart q (startOf q)) / q.dur).toNat + 1)).map
        (fun (i : Nat) => winStart q (startOf q) + (i : Int) * q.dur) ↔
      ∃ i : Nat, w = winStart q (startOf q) + (i : Int) * q.dur ∧ w ≤ winStart q (endOf q) := by
    simp only [List.mem_map, List.mem_range]
    constructor
    · rintro ⟨i, hi, rfl⟩; exact ⟨i, rfl, (key i).mp hi⟩
    · rintro ⟨i, rfl, hle⟩; exact ⟨i, (key i).mpr hle, rfl⟩
  -- descending: the same windows, reversed
  by_cases hdesc : q.desc = true
  · rw [if_pos hdesc, List.mem_reverse]; exact mem
  · rw [if_neg hdesc]; exact mem

/-- **limit iterator** (`floatLimitIterator`) on the stream of one output series =
    `drop OFFSET` then `take LIMIT`. -/
theorem C22_limit_stage {α : Type} (q : Query) (tg : Option String) (l : List (SP α))
    (h : ∀ p ∈ l, p.tag = tg) :
    limitIter (optOf q) l = limitOffset q l := by
  rw [limitIter_single (optOf q) tg l h]
  rfl

/-- a stored series: strictly increasing timestamps -/
def Stored (s : Series V) : Prop := List.Pairwise (fun a b => a.t < b.t) s.pts

theorem seriesPoints_pairwise (q : Query) (s : Series V) (hs : Stored s) :
    List.Pairwise (fun a b => tLe (!q.desc) a.t b.t = true ∧ a.t ≠ b.t) (seriesPoints q s) := by
  have hf : List.Pairwise (fun a b => a.t < b.t) (s.pts.filter (inRange q)) :=
    List.Pairwise.sublist List.filter_sublist hs
  unfold seriesPoints
  cases q.desc
  · exact hf.imp fun h => ⟨decide_eq_true (Int.le_of_lt h), Int.ne_of_lt h⟩
  · exact List.pairwise_reverse.mpr (hf.imp fun h => ⟨decide_eq_true (Int.le_of_lt h), Int.ne_of_gt h⟩)

theorem seriesIter_eq (q : Query) (s : Series V) :
    seriesIter (optOf q) q.byHost s = (seriesPoints q s).map fun p =>
      ({ tag := if q.byHost then some s.host else none, t := p.t, v := p.v } : SP V) := by
  unfold seriesIter seriesPoints optOf
  cases q.desc <;> rfl

theorem limitOffset_map {α β : Type} (q : Query) (f : α → β) (l : List α) :
    (limitOffset q l).map f = limitOffset q (l.map f) := by
  unfold limitOffset
  by_cases h : q.limit = 0
  · rw [if_pos h, if_pos h, List.map_drop]
  · rw [if_neg h, if_neg h, List.map_take, List.map_drop]

/-- the points a raw statement without GROUP BY host looks at, series after series -/
def lookedAt (q : Query) (db : List (Series V)) : List (Pt V) :=
  (orderedSeries q db).flatMap (seriesPoints q)

/-- **raw pipeline = reference evaluator** (storage iterators → sorted merge → limit
    iterator → scanner rows) whenever all series form ONE output series `tg` — no GROUP BY
    host, or a single series — and the timestamps looked at are pairwise distinct. -/
theorem raw_run_eq_eval (A : Arith22 V F) (q : Query) (db : List (Series V)) (tg : Option String)
    (hs : ∀ s ∈ db, Stored s) (hraw : q.isRaw = true)
    (htag : ∀ s ∈ db, (if q.byHost then some s.host else none) = tg)
    (hgroups : groups q db = if (orderedSeries q db).isEmpty then [] else [(tg, orderedSeries q db)])
    (hdist : List.Pairwise (fun a b => a.t ≠ b.t) (lookedAt q db)) :
    run A q db = eval A q db := by
  suffices hrows : (rawPipeline q db).map (fun p => (⟨p.tag, p.t, [Val.v p.v]⟩ : Row V F)) =
      (groups q db).flatMap (rawGroup q) by
    unfold run eval
    rw [hraw, if_pos rfl, if_pos rfl, hrows]
    rfl
  have hmem : ∀ s ∈ orderedSeries q db, s ∈ db := by
    intro s hsm
    unfold orderedSeries at hsm
    by_cases hd : q.desc = true
    · rw [if_pos hd, List.mem_reverse] at hsm; exact (sortBy_perm _ db).mem_iff.mp hsm
    · rw [if_neg hd] at hsm; exact (sortBy_perm _ db).mem_iff.mp hsm
  have hord : seriesOrder (optOf q).asc db = orderedSeries q db := by
    unfold seriesOrder orderedSeries optOf
    cases q.desc <;> rfl
  -- the per-series iterators hold the looked-at points, all tagged `tg`, in statement order
  let toSP : Pt V → SP V := fun p => { tag := tg, t := p.t, v := p.v }
  have hins : (orderedSeries q db).map (seriesIter (optOf q) q.byHost) =
      (orderedSeries q db).map (fun s => (seriesPoints q s).map toSP) :=
    List.map_congr_left fun s hsm => by rw [seriesIter_eq, htag s (hmem s hsm)]
  have hflat : ((orderedSeries q db).map (fun s => (seriesPoints q s).map toSP)).flatten =
      (lookedAt q db).map toSP := by
    rw [lookedAt, List.flatMap_def, List.map_flatten, List.map_map]; rfl
  have hok : InputsOK (!q.desc) tg ((orderedSeries q db).map (fun s => (seriesPoints q s).map toSP)) := by
    intro l hl
    obtain ⟨s, hsm, rfl⟩ := List.mem_map.mp hl
    refine ⟨List.pairwise_map.mpr ((seriesPoints_pairwise q s (hs s (hmem s hsm))).imp And.left), ?_⟩
    intro p hp
    obtain ⟨x, _, rfl⟩ := List.mem_map.mp hp
    rfl
  -- so the merge emits the specification's sort of them
  have hmerge := sortedMergeGo_unique (!q.desc) tg
    ((((orderedSeries q db).map (fun s => (seriesPoints q s).map toSP)).map List.length).sum + 1) _ hok
    (by rw [List.length_flatten]; exact Nat.le_succ _)
    (by rw [hflat]; exact List.pairwise_map.mpr hdist)
    ((sortBy (fun (a b : Pt V) => tLe (!q.desc) a.t b.t) (lookedAt q db)).map toSP)
    (by rw [hflat]; exact (sortBy_perm _ _).map toSP)
    (List.pairwise_map.mpr (sortBy_pairwise (fun (a b : Pt V) => tLe (!q.desc) a.t b.t)
      (fun _ _ => tLe_total _ _ _) (fun _ _ _ => tLe_trans _ _ _ _) _))
  simp only [rawPipeline]
  rw [hord, hins, show (optOf q).asc = !q.desc from rfl, hmerge,
    C22_limit_stage q tg _ (fun p hp => by obtain ⟨x, _, rfl⟩ := List.mem_map.mp hp; rfl),
    limitOffset_map, List.map_map, hgroups]
  by_cases hemp : (orderedSeries q db).isEmpty = true
  · rw [if_pos hemp, lookedAt, List.isEmpty_iff.mp hemp]
    show limitOffset q ([] : List (Row V F)) = []
    simp only [limitOffset, List.drop_nil, List.take_nil, ite_self]
  · rw [if_neg hemp, List.flatMap_cons, List.flatMap_nil, List.append_nil, rawGroup, timeLe_eq]
    rfl

/-- **raw pipeline over one stored series** (storage iterator → sorted merge → limit
    iterator → scanner rows) = the reference evaluator: WHERE time range, ORDER BY time
    DESC, LIMIT, OFFSET, GROUP BY host. -/
theorem C22_raw_single (A : Arith22 V F) (q : Query) (s : Series V) (hs : Stored s)
    (hraw : q.isRaw = true) : run A q [s] = eval A q [s] := by
  have hone : orderedSeries q [s] = [s] := by
    unfold orderedSeries
    cases q.desc <;> rfl
  refine raw_run_eq_eval A q [s] (if q.byHost then some s.host else none)
    (fun s' h => List.mem_singleton.mp h ▸ hs) hraw (fun s' h => by rw [List.mem_singleton.mp h]) ?_ ?_
  · unfold groups
    rw [hone]
    cases q.byHost <;> rfl
  · rw [lookedAt, hone, List.flatMap_cons, List.flatMap_nil, List.append_nil]
    exact (seriesPoints_pairwise q s hs).imp And.right

/-- **sorted merge stage + raw pipeline over several series** (no GROUP BY host): the
    sorted merge iterator over the per-series iterators, followed by the limit iterator and
    the scanner, returns the reference evaluator's rows — provided the timestamps the
    statement looks at are pairwise distinct (for equal timestamps of different series the
    order is a `container/heap` detail that no semantics fixes). -/
theorem C22_raw_merge (A : Arith22 V F) (q : Query) (db : List (Series V))
    (hs : ∀ s ∈ db, Stored s) (hraw : q.isRaw = true) (hnb : q.byHost = false)
    (hdist : List.Pairwise (fun a b => a.t ≠ b.t) (lookedAt q db)) :
    run A q db = eval A q db :=
  raw_run_eq_eval A q db none hs hraw (fun _ _ => by rw [hnb]; rfl) (by unfold groups; rw [hnb]; rfl) hdist

/-- **call-iterator stage** (`xReduceYIterator.reduce` + `IteratorOptions.Window`) over one
    stored series, GROUP BY time(d, off), either direction: for ANY reducer `emit`, the
    iterator emits, for each distinct window start of the looked-at points in statement
    order, `emit start (the points of that window)` — exactly the window partition the
    reference evaluator uses (`winStart`, `dedupAdj`, `filter`). -/
theorem C22_call_iterator_stage {β : Type} (q : Query) (s : Series V) (hs : Stored s) (hd : 0 < q.dur)
    (hc : ∀ p ∈ seriesPoints q s, NoClamp (optOf q) p.t) (tg : Option String)
    (emit : Int → List (SP (Val V F)) → SP β) :
    let wrap : Pt V → SP (Val V F) := fun p => { tag := tg, t := p.t, v := Val.v p.v }
    reduceStream (optOf q) emit ((seriesPoints q s).map wrap) =
      (dedupAdj ((seriesPoints q s).map fun p => winStart q p.t)).map fun w =>
        emit w (((seriesPoints q s).filter fun p => decide (winStart q p.t = w)).map wrap) := by
  intro wrap
  rw [reduceStream_groups (optOf q) hd emit (!q.desc) tg _
    (by intro p hp; obtain ⟨x, _, rfl⟩ := List.mem_map.mp hp; rfl)
    (by intro p hp; obtain ⟨x, hx, rfl⟩ := List.mem_map.mp hp; exact hc x hx)
    (by intro p hp; obtain ⟨x, _, rfl⟩ := List.mem_map.mp hp; rfl)
    (List.pairwise_map.mpr ((seriesPoints_pairwise q s hs).imp And.left)),
    List.map_map]
  apply List.map_congr_left
  intro w _
  rw [List.filter_map]
  rfl

theorem selFn_eq_better (A : Arith22 V F) (a : Agg) (hsel : isSelector a = true) (tg tg' : Option String)
    (n n' : Nat) (pt c : Pt V) :
    selFn A a ({ tag := tg', t := pt.t, v := Val.v pt.v, agg := n } : SP (Val V F))
        ({ tag := tg, t := c.t, v := Val.v c.v, agg := n' } : SP (Val V F)) =
      if better A a c pt then (c.t, Val.v c.v) else (pt.t, Val.v pt.v) := by
  cases a with
  | count | sum | mean => cases hsel
  | _ => rfl

theorem funcFold_selector (A : Arith22 V F) (a : Agg) (hsel : isSelector a = true) (tg : Option String)
    (ps : List (Pt V)) : ∀ (tg' : Option String) (n : Nat) (pt : Pt V),
      let r := (ps.map fun p => ({ tag := tg, t := p.t, v := Val.v p.v } : SP (Val V F))).foldl (fun st c =>
        let r := selFn A a st c; { st with t := r.1, v := r.2, agg := st.agg + aggInc c })
        { tag := tg', t := pt.t, v := Val.v pt.v, agg := n }
      let r' := ps.foldl (fun p c => if better A a c p then c else p) pt
      r.t = r'.t ∧ r.v = Val.v r'.v := by
  induction ps with
  | nil => intro _ _ _; exact ⟨rfl, rfl⟩
  | cons c cs ih =>
    intro tg' n pt
    simp only [List.map_cons, List.foldl_cons, selFn_eq_better A a hsel]
    by_cases hb : better A a c pt = true
    · rw [if_pos hb, if_pos hb]; exact ih tg' _ c
    · rw [if_neg hb, if_neg hb]; exact ih tg' _ pt

theorem funcReduce_selector (A : Arith22 V F) (a : Agg) (hsel : isSelector a = true) (tg : Option String)
    (w : Int) (p : Pt V) (ps : List (Pt V)) :
    (funcReduce (selFn A a) (selFirst a) w
      ((p :: ps).map fun p => ({ tag := tg, t := p.t, v := Val.v p.v } : SP (Val V F))) Val.null).v =
      Val.v (ps.foldl (fun p c => if better A a c p then c else p) p).v := by
  simp only [funcReduce, List.map_cons, selFirst, hsel, if_true]
  exact (funcFold_selector A a hsel tg ps tg _ p).2

theorem funcFold_sum (A : Arith22 V F) (tg : Option String) (ps : List (Pt V)) :
    ∀ (st : SP (Val V F)) (x : V), st.v = Val.v x →
      ((ps.map fun p => ({ tag := tg, t := p.t, v := Val.v p.v } : SP (Val V F))).foldl (fun st c =>
        let r := selFn A .sum st c; { st with t := r.1, v := r.2, agg := st.agg + aggInc c }) st).v =
        Val.v ((ps.map (·.v)).foldl A.vo.add x) := by
  induction ps with
  | nil => intro st x h; exact h
  | cons c cs ih =>
    intro st x h
    simp only [List.map_cons, List.foldl_cons]
    apply ih
    simp [selFn, vAdd, h]

/-- **reducer stage**: over the points of one window of one series, the first-level call
    iterator's reducer (`XFuncReducer` with `XCountReduce`/`XSumReduce`/`XMinReduce`/…)
    yields the reference evaluator's aggregate value (`aggVal`), for count, sum, min, max,
    first, last. -/
theorem C22_reducer_value (A : Arith22 V F) (a : Agg) (ha : a ≠ Agg.mean) (tg : Option String) (w : Int)
    (pts : List (Pt V)) (hne : pts ≠ []) :
    (emitOf A a true w (pts.map fun p => ({ tag := tg, t := p.t, v := Val.v p.v } : SP (Val V F)))).v =
      aggVal A a [pts] := by
  obtain ⟨p, ps, rfl⟩ : ∃ p ps, pts = p :: ps := by
    cases pts with
    | nil => exact absurd rfl hne
    | cons p ps => exact ⟨p, ps, rfl⟩
  unfold aggVal
  rw [show [p :: ps].flatMap id = p :: ps from List.append_nil _]
  -- in each case `emitOf` and `aggVal` unfold to the reducer's fold and the evaluator's over the one member
  cases a with
  | mean => exact absurd rfl ha
  | count => exact congrArg (fun n : Nat => (Val.i n : Val V F)) (List.length_map _)
  | sum => exact funcFold_sum A tg ps _ p.v rfl
  | min => exact funcReduce_selector A .min rfl tg w p ps
  | max => exact funcReduce_selector A .max rfl tg w p ps
  | first => exact funcReduce_selector A .first rfl tg w p ps
  | last => exact funcReduce_selector A .last rfl tg w p ps

theorem valEq_refl (A : Arith22 V F) (a : Val V F) : valEq A a a = true := by
  cases a with
  | v x => exact A.eqvV_refl x
  | f x => exact A.eqvF_refl x
  | i n => exact decide_eq_true rfl
  | null => rfl

theorem valsEq_refl (A : Arith22 V F) (l : List (Val V F)) : valsEq A l l = true := by
  induction l with
  | nil => rfl
  | cons a l ih => rw [valsEq, valEq_refl, ih]; rfl

theorem rowsEq_refl (A : Arith22 V F) (l : List (Row V F)) : rowsEq A l l = true := by
  induction l with
  | nil => rfl
  | cons a l ih => simp [rowsEq, valsEq_refl, ih]

theorem resultEq_refl (A : Arith22 V F) (r : Result V F) : resultEq A r r = true := by
  cases r <;> simp [resultEq, rowsEq_refl]

/-- the statements and databases `C22_holdsOn_partial` covers: raw statements over
    stored series — one series (any clauses), or several series without GROUP BY host whose
    looked-at timestamps are pairwise distinct -/
def Covered (q : Query) (db : List (Series V)) : Prop :=
  q.isRaw = true ∧ (∀ s ∈ db, Stored s) ∧
    ((∃ s, db = [s]) ∨ (q.byHost = false ∧ List.Pairwise (fun a b => a.t ≠ b.t) (lookedAt q db)))

/-- **C22 (partial)**: for every arithmetic, every covered raw statement (any WHERE time
    range, ORDER BY direction, LIMIT, OFFSET; GROUP BY host over one series) the rows of the
    pipeline model (storage iterators → sorted merge → limit iterator → scanner) are the rows
    of the reference evaluator, so the statement checker accepts them (`C22_holdsOn_partial`).
    Missing: GROUP BY host over several series, and all aggregate statements (call
    iterators, merge + re-aggregation, interval, fill, row join) — tied by correspondence only. -/
theorem run_eq_eval_of_covered (A : Arith22 V F) (q : Query) (db : List (Series V)) (h : Covered q db) :
    run A q db = eval A q db := by
  obtain ⟨hraw, hs, hcase⟩ := h
  rcases hcase with ⟨s, rfl⟩ | ⟨hnb, hdist⟩
  · exact C22_raw_single A q s (hs s (by simp)) hraw
  · exact C22_raw_merge A q db hs hraw hnb hdist

theorem C22_holdsOn_partial (A : Arith22 V F) (q : Query) (db : List (Series V)) (h : Covered q db) :
    holdsOn A q db (run A q db) = true := by
  rw [holdsOn, run_eq_eval_of_covered A q db h]
  exact resultEq_refl A _

/-- the same for statements over sparse two-field series (WHERE on the second field, aux
    column): the storage side is modelled as the projection `project`, so the covered class
    carries over -/
theorem C22_holdsOn2_partial (A : Arith22 V F) (q : Query2) (db : List (Series2 V))
    (h : Covered q.q (db.map (project A q))) :
    holdsOn2 A q db (run2 A q db) = true := by
  unfold holdsOn2 run2 eval2
  rw [run_eq_eval_of_covered A q.q _ h]
  exact resultEq_refl A _

/-- the reference evaluator trivially satisfies its own statement (sanity) -/
theorem C22_holdsOn_eval (A : Arith22 V F) (q : Query) (db : List (Series V)) :
    holdsOn A q db (eval A q db) = true := resultEq_refl A _

-- the hypotheses of `C22_holdsOn_partial` are met by a non-trivial statement and database
def exampleQuery : Query :=
  { calls := [], tmin := some 2, tmax := none, dur := 0, off := 0, byHost := false,
    fill := Fill.null, desc := true, limit := 2, offset := 1 }

def exampleDB : List (Series Int) :=
  [⟨"a", [⟨1, 5⟩, ⟨4, 7⟩, ⟨9, 2⟩]⟩, ⟨"b", [⟨3, 1⟩, ⟨8, 0⟩]⟩]

example : Covered exampleQuery exampleDB :=
  ⟨rfl, (by decide : ∀ s ∈ exampleDB, List.Pairwise (fun a b => a.t < b.t) s.pts), Or.inr ⟨rfl, by decide⟩⟩

end Influx.Props.C22
