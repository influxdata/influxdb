/-
  Props.C13 — series IDs are unique, stable and never reused (tsdb series file).
-/
import Influx.Lemmas.C13Torn
import Influx.Lemmas.C13Sim
import Influx.Model.C13
import Influx.Spec.C13

namespace Influx.Props.C13
open Influx.SF Influx.C13 Influx.Spec.C13

/-- **Round trip**: what `AppendSeriesEntry` appended (insert entries with a key of at most 127
    bytes after its length prefix, tombstones) is exactly what `ForEachEntry` reads back, for
    any number of entries: ids, keys and offsets. -/
theorem segment_roundtrip (es : List Entry) (h : Chain hdrSize es) : entries (fileOf es) = es :=
  entries_fileOf es h

/-- **Crash during a create (DESIGN §6 F5), decided**: the segment holds `es`; the append of
    the insert entry `e` is cut after `c` bytes, the rest reads as zero (pre-allocated file).
    For EVERY cut:
    * up to 9 bytes (flag and a possibly incomplete id, no key): the segment reads back as `es`
      — the torn entry is invisible, in particular no entry with a garbage id appears (this
      is what fixes/C13-torn-entry-empty-key.patch establishes; before it a valid-looking
      entry with id `id & ~(2^(8·(9-c)) - 1)` and key "\x00" was indexed);
    * more than 9 bytes: `es` unchanged, plus ONE entry with the new id `e.id`, the right
      offset and a key of the right length (the zero-padded prefix; the key itself when
      nothing was lost).
    So no acknowledged (key, id) entry of the segment is ever altered by a torn create. -/
theorem C13_crash_segment (es : List Entry) (e : Entry) (hch : Chain hdrSize (es ++ [e]))
    (hf : e.flag = insertFlag) (c : Nat) :
    let g := tear (fileOf es ++ e.bytes) ((fileOf es).length + c) ((fileOf es).length + e.bytes.length)
    (c ≤ 9 → entries g = es) ∧
    (9 < c → ∃ key', key'.length = e.key.length ∧ (e.bytes.length ≤ c → key' = e.key) ∧
      entries g = es ++ [{ e with key := key' }]) :=
  entries_torn es e hch hf c

-- the hypotheses are met by a non-trivial segment
example : Chain hdrSize ([⟨1, 1, [3, 0, 1, 97], 5⟩, ⟨2, 1, [], 18⟩] ++ [⟨1, 9, [3, 0, 1, 98], 27⟩]) := by
  refine ⟨rfl, ⟨by decide, Or.inl ⟨rfl, [0, 1, 97], rfl, by decide, by decide⟩⟩, rfl,
    ⟨by decide, Or.inr ⟨rfl, rfl⟩⟩, rfl, ⟨by decide, Or.inl ⟨rfl, [0, 1, 98], rfl, by decide, by decide⟩⟩, trivial⟩

/-! ## One partition: what the index lookups mean (in memory and in the compacted index file)

`PInv2 p es`: the partition `p` holds exactly the entries `es` in its segment; ids of insert
entries grow, are ≡ pid+1 (mod 8) and below `seq`; `seq` is what `openSegments` would
recompute; a key is re-created only after its previous series was tombstoned; the in-memory
maps are the replay of what lies behind the index file's `maxOffset`; the index file holds the
insert entries that were live when it was written. -/

/-- `FindIDBySeriesKey` returns the id of THE live series with that key (across the in-memory
    map and the on-disk map of a compacted index), and `SeriesKey` of that id is the key. -/
theorem partition_lookup (p : Part) (es : List Entry) (h : PInv2 p es) (e : Entry) (hl : Live es e) :
    p.findID e.key = e.id ∧ p.seriesKey e.id = some e.key ∧ p.isDeleted e.id = false :=
  ⟨findID_live h.toPInv hl, seriesKey_live h.toPInv hl, live_not_deleted h.toPInv hl⟩

/-- a key without a live series is not found -/
theorem partition_lookup_absent (p : Part) (es : List Entry) (h : PInv2 p es) (key : Bytes)
    (hno : ∀ e, Live es e → e.key ≠ key) : p.findID key = 0 :=
  findID_none h.toPInv key hno

/-- **create is idempotent** and hands out a fresh id otherwise: an existing live series keeps
    its id and nothing is written; a new one (key with a one-byte length prefix, `seq` below
    2^64) gets `seq`, which exceeds every id in the partition's segment (deleted ones
    included), and `seq` advances by 8. -/
theorem partition_create (p : Part) (es : List Entry) (h : PInv2 p es) (key : Bytes) (hk : shortKey key)
    (hseq : p.seq < 2 ^ 64) :
    (∀ e, Live es e → e.key = key → p.createOne key = (p, e.id)) ∧
    ((∀ e, Live es e → e.key ≠ key) →
      (p.createOne key).2 = p.seq ∧ (∀ e ∈ es, e.flag = insertFlag → e.id < p.seq) ∧
      PInv2 (p.createOne key).1 (es ++ [newEntry p key]) ∧ (p.createOne key).1.seq = p.seq + 8) := by
  refine ⟨fun e hl hke => by rw [← hke]; exact createOne_live h hl, fun hno => ?_⟩
  obtain ⟨h1, h2, h3, _, _⟩ := createOne_new h key hk hno hseq
  exact ⟨h1, fun e he hf => (h.idPos e he hf).2.1, h2, h3⟩

/-- **reopen and index compaction keep the partition**: same entries, same `seq`, invariant
    kept (hence, by `partition_lookup` and `partition_lookup_absent`, `FindIDBySeriesKey`
    answers alike for every key). -/
theorem partition_reopen_compact (p : Part) (es : List Entry) (h : PInv2 p es) (thr : Nat) :
    (PInv2 (p.load thr) es ∧ (p.load thr).seq = p.seq) ∧ (PInv2 p.compact es ∧ p.compact.seq = p.seq) :=
  ⟨⟨(load_inv h thr).1, (load_inv h thr).2.1⟩, ⟨(compact_inv h).1, (compact_inv h).2.1⟩⟩

theorem fresh_inv (i : Nat) : PInv2 (Part.fresh i) [] := by
  have hp : PInv (Part.fresh i) [] :=
    { file := rfl
      chain := trivial
      idPos := fun e he => by cases he
      idInc := List.Pairwise.nil
      seqMod := rfl
      keys := List.Pairwise.nil
      tombAfter := fun t ht => by cases ht
      memKeyID := rfl
      memIDOff := rfl
      tomb := rfl
      maxOffset := rfl
      disk := fun d hd => by cases hd }
  refine ⟨hp, ?_, ?_⟩
  · simp [Part.fresh, nextSeq, SF.maxSeriesID]
  · simp [Part.fresh, Part.bound, hdr]

theorem init_rel (pf : Bytes → Nat) : Rel pf (fun _ => []) init {} := by
  refine ⟨⟨by simp [init, partN], ?_, fun _ _ => rfl⟩, ⟨?_, ?_, rfl, rfl, rfl, rfl⟩, ?_⟩
  · intro i p hp
    simp only [init] at hp
    rw [List.getElem?_map] at hp
    cases hr : (List.range partN)[i]? with
    | none => simp [hr] at hp
    | some j =>
      simp only [hr, Option.map_some, Option.some.injEq] at hp
      have := List.getElem?_eq_some_iff.mp hr
      obtain ⟨hl, hj⟩ := this
      simp at hj
      subst hj; subst hp
      refine ⟨rfl, fresh_inv i, ?_⟩
      simp at hl
      simp only [Part.fresh, partN] at hl ⊢
      omega
  · intro k id
    constructor
    · intro h; cases h
    · rintro ⟨e, hl, _⟩; exact absurd hl.1 (by simp)
  · intro id h; cases h
  · intro k h; cases h

theorem firstFailure_run (pf : Bytes → Nat) (ops : List Op) : ∀ (ess : Nat → List Entry) (s : State) (sp : SpecState),
    Rel pf ess s sp → (∀ op ∈ ops, Op.WF pf op) → (∀ x ∈ run s ops, Obs.small x.2) →
    firstFailure sp (run s ops) = none := by
  induction ops with
  | nil => intros; rfl
  | cons op ops ih =>
    intro ess s sp hR hwf hsm
    obtain ⟨ess', sp', hc, hR'⟩ := step_sim pf ess s sp op hR (hwf op List.mem_cons_self)
      (hsm (op, (step s op).2) List.mem_cons_self)
    simp only [run, firstFailure, hc]
    exact ih ess' _ _ hR' (fun o ho => hwf o (List.mem_cons_of_mem _ ho))
      (fun x hx => hsm x (List.mem_cons_of_mem _ hx))

/-- **C13 on the model (partial)**: for EVERY partition function `pf` (the hash of the key) and
    every history of create / delete / lookup / reopen / index-compaction / threshold ops over
    well-formed keys, the statement checker accepts the model's trace: the same id for the same
    key every time, distinct ids for distinct keys, a never-used id after a delete, unchanged
    across reopen and index compaction (also the background one triggered by the threshold).
    PARTIAL: (1) crash ops are not part of this theorem — the crash clause is
    `C13_crash_segment` at the segment level and, for keys that are zero-padded prefixes of
    other keys, is FALSE (`C13_crash_full_fails`); (2) the offline segment compaction is
    excluded (known finding: it makes ids reusable); (3) keys have a one-byte length prefix;
    (4) ids stay below 2^63. -/
theorem C13_holdsOn_partial (pf : Bytes → Nat) (ops : List Op) (hwf : ∀ op ∈ ops, Op.WF pf op)
    (hsm : ∀ x ∈ run init ops, Obs.small x.2) : holdsOn (run init ops) = true := by
  simp [holdsOn, firstFailure_run pf ops _ init {} (init_rel pf) hwf hsm]

-- the hypotheses are met by a non-trivial history
example : ∀ op ∈ [Op.create [([3, 0, 1, 97], 2)], .delKey ([3, 0, 1, 97], 2), .reopen, .compact 2,
    .create [([3, 0, 1, 97], 2)], .allIDs], Op.WF (fun _ => 2) op := by
  have hk : KeyOK (fun _ => 2) ([3, 0, 1, 97], 2) := ⟨rfl, by decide, [0, 1, 97], rfl, by decide, by decide⟩
  have hc : Op.WF (fun _ => 2) (.create [([3, 0, 1, 97], 2)]) := fun k' hk' => List.mem_singleton.mp hk' ▸ hk
  intro op h
  simp only [List.mem_cons, List.not_mem_nil, or_false] at h
  rcases h with rfl | rfl | rfl | rfl | rfl | rfl
  · exact hc
  · exact hk
  · trivial
  · trivial
  · exact hc
  · trivial

theorem openSeqGo_gt (seq : Nat) (hseq : 0 < seq) (l : List (List Entry)) :
    (∀ es ∈ l, ∀ e ∈ es, e.flag = insertFlag → seq ≤ e.id) →
    l.Pairwise (fun newer older => ∀ a ∈ newer, ∀ b ∈ older, a.flag = insertFlag → b.flag = insertFlag → b.id < a.id) →
    seq ≤ openSeqGo seq l ∧ ∀ es ∈ l, ∀ e ∈ es, e.flag = insertFlag → e.id < openSeqGo seq l := by
  induction l with
  | nil => exact fun _ _ => ⟨Nat.le_refl _, fun es hes => by cases hes⟩
  | cons es rest ih =>
    intro hpos hord
    have hp := List.pairwise_cons.mp hord
    rw [openSeqGo]
    by_cases hm : SF.maxSeriesID es ≥ seq
    · rw [if_pos hm]
      have hlt : SF.maxSeriesID es < SF.maxSeriesID es + partN := Nat.lt_add_of_pos_right (by decide)
      refine ⟨Nat.le_trans hm (Nat.le_of_lt hlt), fun es' hes' e he hf => ?_⟩
      rcases List.mem_cons.mp hes' with rfl | hr
      · exact Nat.lt_of_le_of_lt (maxSeriesID_ge es' e he hf) hlt
      · -- an older segment: below the insert entry of `es` that carries the maximum
        rcases maxSeriesID_mem es with h0 | ⟨x, hx, hfx, hidx⟩
        · exact absurd (h0 ▸ hm) (Nat.not_le.mpr hseq)
        · exact Nat.lt_trans (hidx ▸ hp.1 es' hr x hx e he hfx hf) hlt
    · rw [if_neg hm]
      obtain ⟨i1, i2⟩ := ih (fun es' hes' => hpos es' (List.mem_cons_of_mem _ hes')) hp.2
      refine ⟨i1, fun es' hes' e he hf => ?_⟩
      rcases List.mem_cons.mp hes' with rfl | hr
      · -- the newest segment holds no insert entry
        exact absurd (Nat.le_trans (hpos es' List.mem_cons_self e he hf) (maxSeriesID_ge es' e he hf)) hm
      · exact i2 es' hr e he hf

/-- **`openSegments` after any number of roll-overs**: the id sequence recomputed at open (reverse
    search for the last segment that holds an insert entry) exceeds EVERY id in EVERY segment —
    also when the newest segments hold no insert entry at all (a tombstone rolled the log over,
    or a create died right after `createSegment`).  `segs`: the entries of the segments, oldest
    first; ids grow from older to newer segments and are at least `pid + 1`. -/
theorem openSeq_gt (pid : Nat) (segs : List (List Entry))
    (hpos : ∀ es ∈ segs, ∀ e ∈ es, e.flag = insertFlag → pid + 1 ≤ e.id)
    (hord : segs.Pairwise (fun older newer => ∀ a ∈ older, ∀ b ∈ newer, a.flag = insertFlag →
      b.flag = insertFlag → a.id < b.id)) :
    pid + 1 ≤ openSeq pid segs ∧ ∀ es ∈ segs, ∀ e ∈ es, e.flag = insertFlag → e.id < openSeq pid segs := by
  have := openSeqGo_gt (pid + 1) (Nat.succ_pos _) segs.reverse
    (fun es hes => hpos es (by simpa using hes))
    (List.pairwise_reverse.mpr (hord.imp (fun h a ha b hb hfa hfb => h b hb a ha hfb hfa)))
  exact ⟨this.1, fun es hes => this.2 es (by simpa using hes)⟩

-- e.g. ids 1, 9 in segment fff0, a tombstone alone in segment fff1: the sequence continues at 17
example : openSeq 0 [[⟨1, 1, [3, 0, 1, 97], 5⟩, ⟨1, 9, [3, 0, 1, 98], 18⟩], [⟨2, 9, [], 5⟩]] = 17 := by decide

/-- while no roll-over is possible the driver's model IS the single-segment model -/
theorem runM_eq_run (ops : List Op) (s : State)
    (h : ∀ x ∈ statesM s ops, plainFor x.1 x.2 = true) : runM s ops = run s ops := by
  induction ops generalizing s with
  | nil => rfl
  | cons o os ih =>
    have hs : stepM s o = step s o := by rw [stepM, if_pos (h (s, o) List.mem_cons_self)]
    rw [runM, run, hs]
    exact congrArg _ (ih _ fun x hx => h x (by rw [statesM, hs]; exact List.mem_cons_of_mem _ hx))

/-- **C13 on the model the driver runs** (`stepM`: single-segment model while no partition can
    roll over, general multi-segment model otherwise).  Same statement as `C13_holdsOn_partial`,
    with the extra explicit hypothesis `plainFor`: every partition still has the single segment
    0000 and the op cannot fill it (4 MB).  Histories WITH roll-over are covered by
    `openSeq_gt` (the sequence recomputed at open), by the correspondence run (tiny segments
    `fff0`…, tombstone- and crash-induced roll-overs) and by the statement checker on the real
    code; the whole-history theorem for them is not proved. -/
theorem C13_holdsOnM_partial (pf : Bytes → Nat) (ops : List Op) (hwf : ∀ op ∈ ops, Op.WF pf op)
    (hplain : ∀ x ∈ statesM init ops, plainFor x.1 x.2 = true)
    (hsm : ∀ x ∈ runM init ops, Obs.small x.2) : holdsOn (runM init ops) = true := by
  rw [runM_eq_run ops init hplain] at hsm ⊢
  exact C13_holdsOn_partial pf ops hwf hsm

example : ∀ x ∈ statesM init [Op.create [([3, 0, 1, 97], 2)], .delKey ([3, 0, 1, 97], 2), .reopen, .compact 2],
    plainFor x.1 x.2 = true := by decide

/-! ## Where the full statement fails (both reproduced on the real code by the check) -/

/-- **The crash clause at full strength is false**: a series whose name ends in NUL exists
    (key `06 0003 6e3000 00`, id 2, partition 1); a create of `n0p` in the same partition is torn
    after 14 bytes (flag, id, length prefix and `00 03 6e 30` on disk, the rest zero): the
    recovered entry carries the bytes of the FIRST key with the new id 10, and `SeriesID` of the
    acknowledged series changes from 2 to 10.  The statement checker rejects the model's trace
    (and the real code's: known finding `id-not-stable-after-tear-in-key`). -/
theorem C13_crash_full_fails :
    holdsOn (run init [.create [([6, 0, 3, 110, 48, 0, 0], 1)], .torn ([6, 0, 3, 110, 48, 112, 0], 1) 14,
      .id ([6, 0, 3, 110, 48, 0, 0], 1)]) = false := by decide

/-- **Segment compaction makes ids reusable**: create (id 1), delete, compact the segments as
    `build-tsi --compact-series-file` does, create another key of the partition: id 1 again
    (known finding `id-reused-after-segment-compaction`). -/
theorem C13_segcompact_reuses_id :
    holdsOn (run init [.create [([3, 0, 1, 97], 0)], .delKey ([3, 0, 1, 97], 0), .segCompact,
      .create [([3, 0, 1, 98], 0)]]) = false := by decide

end Influx.Props.C13
