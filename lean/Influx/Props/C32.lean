/-
  Props.C32 — The write API stores all of a batch or reports why not.

  All theorems are about `Influx.WriteAPI.handle false` — the model of
  WriteHandler.handleWrite with the repaired LimitedReadCloser (see
  Model/WriteAPI.lean) — for every parser, every request description, every
  chunking script of the body reader and every buffer-size script of io.ReadAll.
-/
import Influx.Lemmas.WriteAPI
import Influx.Spec.C32

namespace Influx.Props.C32
open Influx.WriteAPI Influx.Spec.C32

/-- the request gets as far as reading its body -/
def reaches (r : Req) : Prop := gate r = none

/-- the decoded body is larger than the configured limit -/
def tooLarge (r : Req) : Prop := 0 < r.limit ∧ r.limit < (r.src.data.length : Int)

/-- the body can be read to its end and closed without an I/O error -/
def cleanBody (r : Req) : Prop := r.src.term = .eof ∧ r.src.closeErr = false

theorem handle_reaches (P : Parser Nat Nat) (r : Req) (bufs : List Nat) (h : reaches r) :
    handle false P r bufs = finish P r.writer (readAllResult r.src r.limit) := by
  unfold handle
  rw [h, readAll_spec]

theorem tooLarge_iff (r : Req) : tooLarge r ↔ (0 < r.limit ∧ r.limit.toNat < r.src.data.length) :=
  and_congr_right fun h => (Int.toNat_lt (Int.le_of_lt h)).symm

theorem readAllResult_cases (r : Req) :
    (tooLarge r ∧ readAllResult r.src r.limit = .error .tooLarge) ∨
    (¬ tooLarge r ∧ ¬ cleanBody r ∧ ∃ e, e ≠ .tooLarge ∧ readAllResult r.src r.limit = .error e) ∨
    (¬ tooLarge r ∧ cleanBody r ∧ readAllResult r.src r.limit = .ok r.src.data) := by
  unfold readAllResult
  by_cases hl : tooLarge r
  · rw [if_pos ((tooLarge_iff r).1 hl)]; exact Or.inl ⟨hl, rfl⟩
  · rw [if_neg (fun h => hl ((tooLarge_iff r).2 h))]
    by_cases h1 : r.src.term = .eof
    · rw [if_neg (fun h => h h1)]
      cases h2 : r.src.closeErr
      · exact Or.inr (Or.inr ⟨hl, ⟨h1, h2⟩, rfl⟩)
      · exact Or.inr (Or.inl ⟨hl, fun h => Bool.noConfusion (h.2.symm.trans h2), .cl .other, nofun, rfl⟩)
    · rw [if_pos h1]; exact Or.inr (Or.inl ⟨hl, fun h => h1 h.1, .rd r.src.term, nofun, rfl⟩)

theorem handle_cases (P : Parser Nat Nat) (r : Req) (bufs : List Nat) :
    (∃ c, handle false P r bufs = errResp c ∧
      (¬ reaches r ∨ (reaches r ∧ tooLarge r ∧ c = .tooLarge) ∨
       (reaches r ∧ ¬ tooLarge r ∧ ¬ cleanBody r ∧ ∃ e, e ≠ .tooLarge ∧ c = readErrCode e))) ∨
    (reaches r ∧ ¬ tooLarge r ∧ cleanBody r ∧ handle false P r bufs = afterRead P r.writer r.src.data) := by
  by_cases hr : reaches r
  · rw [handle_reaches P r bufs hr]
    rcases readAllResult_cases r with ⟨hl, h⟩ | ⟨hl, hc, e, hne, h⟩ | ⟨hl, hc, h⟩
    · exact Or.inl ⟨_, by rw [h]; rfl, Or.inr (Or.inl ⟨hr, hl, rfl⟩)⟩
    · exact Or.inl ⟨_, by rw [h]; rfl, Or.inr (Or.inr ⟨hr, hl, hc, e, hne, rfl⟩)⟩
    · exact Or.inr ⟨hr, hl, hc, by rw [h]; rfl⟩
  · cases hg : gate r with
    | none => exact absurd hg hr
    | some c => exact Or.inl ⟨c, by unfold handle; rw [hg], Or.inl hr⟩

theorem handle_clean (P : Parser Nat Nat) (r : Req) (bufs : List Nat)
    (hr : reaches r) (hc : cleanBody r) (hl : ¬ tooLarge r) :
    handle false P r bufs = afterRead P r.writer r.src.data := by
  rcases handle_cases P r bufs with ⟨_, -, h | ⟨-, h, -⟩ | ⟨-, -, h, -⟩⟩ | ⟨-, -, -, h⟩
  · exact absurd hr h
  · exact absurd h hl
  · exact absurd hc h
  · exact h

theorem errResp_status_ne_204 (c : Code) : (errResp c : Resp Nat Nat).status ≠ 204 := by
  cases c <;> decide

theorem readErrCode_status (e : ReadErr) (h : e ≠ .tooLarge) :
    (readErrCode e).status = 400 ∨ (readErrCode e).status = 500 := by
  cases e with
  | tooLarge => exact absurd rfl h
  | rd e => cases e <;> decide
  | cl e => cases e <;> decide

theorem afterRead_bad (P : Parser Nat Nat) (w : WriterRes) (data : List Nat) (h : P.bad data ≠ []) :
    afterRead P w data = { (errResp .invalid : Resp Nat Nat) with named := P.bad data } := by
  unfold afterRead
  rw [if_pos (by rw [Bool.not_eq_true', Bool.eq_false_iff]; exact mt List.isEmpty_iff.1 h)]

theorem afterRead_good (P : Parser Nat Nat) (w : WriterRes) (data : List Nat) (h : P.bad data = []) :
    afterRead P w data =
      match w with
      | .ok => { status := 204, writes := [P.points data] }
      | .partialWrite k => { (errResp .unprocessable : Resp Nat Nat) with dropped := some k, writes := [P.points data] }
      | .fail => { (errResp .internal : Resp Nat Nat) with writes := [P.points data] } := by
  unfold afterRead
  rw [h, if_neg (by simp)]
  rfl

/-- **413 clause.** A request that reaches its body and whose decoded body is larger
    than the limit is answered 413 and nothing is handed to the points writer —
    whatever the chunking of the reader, and even if the stream is corrupt further on. -/
theorem C32_too_large (P : Parser Nat Nat) (r : Req) (bufs : List Nat)
    (hr : reaches r) (hl : tooLarge r) :
    (handle false P r bufs).status = 413 ∧ (handle false P r bufs).writes = [] ∧
    (handle false P r bufs).code = some .tooLarge := by
  rcases handle_cases P r bufs with ⟨_, h, hn | ⟨-, -, rfl⟩ | ⟨-, hn, -⟩⟩ | ⟨-, hn, -⟩
  · exact absurd hr hn
  · rw [h]; exact ⟨rfl, rfl, rfl⟩
  · exact absurd hl hn
  · exact absurd hl hn

/-- **≤ limit clause** (F13, after the repair): a request that reaches its body
    and whose decoded body is at or under the limit is never answered 413. -/
theorem C32_within_limit (P : Parser Nat Nat) (r : Req) (bufs : List Nat)
    (hr : reaches r) (hl : ¬ tooLarge r) :
    (handle false P r bufs).status ≠ 413 := by
  rcases handle_cases P r bufs with ⟨_, h, hn | ⟨-, hn, -⟩ | ⟨-, -, -, e, hne, rfl⟩⟩ | ⟨-, -, -, h⟩
  · exact absurd hr hn
  · exact absurd hn hl
  · rw [h]
    show (readErrCode e).status ≠ 413
    rcases readErrCode_status e hne with h | h <;> rw [h] <;> decide
  · rw [h]
    by_cases hb : P.bad r.src.data = []
    · rw [afterRead_good P _ _ hb]; cases r.writer <;> simp [errResp, Code.status]
    · rw [afterRead_bad P _ _ hb]; simp [errResp, Code.status]

/-- **400 clause.** A readable body within the limit that contains a malformed
    line: 400, the message names exactly the malformed lines (in order), and
    nothing is handed to the points writer. -/
theorem C32_malformed (P : Parser Nat Nat) (r : Req) (bufs : List Nat)
    (hr : reaches r) (hc : cleanBody r) (hl : ¬ tooLarge r) (hb : P.bad r.src.data ≠ []) :
    (handle false P r bufs).status = 400 ∧ (handle false P r bufs).named = P.bad r.src.data ∧
    (handle false P r bufs).writes = [] := by
  rw [handle_clean P r bufs hr hc hl, afterRead_bad P _ _ hb]
  exact ⟨rfl, rfl, rfl⟩

/-- **well-formed clause.** A readable, well-formed body within the limit: the
    whole batch, in order, goes to the points writer in one call, and the answer
    is 204 / 422 stating the writer's dropped count / 500 according to the writer. -/
theorem C32_wellformed (P : Parser Nat Nat) (r : Req) (bufs : List Nat)
    (hr : reaches r) (hc : cleanBody r) (hl : ¬ tooLarge r) (hb : P.bad r.src.data = []) :
    (handle false P r bufs).writes = [P.points r.src.data] ∧
    (handle false P r bufs).named = [] ∧
    match r.writer with
    | .ok => (handle false P r bufs).status = 204
    | .partialWrite k => (handle false P r bufs).status = 422 ∧ (handle false P r bufs).dropped = some k
    | .fail => (handle false P r bufs).status = 500 := by
  rw [handle_clean P r bufs hr hc hl, afterRead_good P _ _ hb]
  cases r.writer with
  | ok => exact ⟨rfl, rfl, rfl⟩
  | partialWrite k => exact ⟨rfl, rfl, rfl, rfl⟩
  | fail => exact ⟨rfl, rfl, rfl⟩

/-- **204 clause.** Whatever the request: 204 is answered only if the body was
    within the limit, had no malformed line, and every point of the batch — in
    order — was passed to the points writer, which accepted it. -/
theorem C32_204 (P : Parser Nat Nat) (r : Req) (bufs : List Nat)
    (h : (handle false P r bufs).status = 204) :
    (handle false P r bufs).writes = [P.points r.src.data] ∧ r.writer = .ok ∧
    P.bad r.src.data = [] ∧ ¬ tooLarge r ∧ reaches r := by
  rcases handle_cases P r bufs with ⟨c, hc, -⟩ | ⟨hr, hl, -, hc⟩
  · rw [hc] at h; exact absurd h (errResp_status_ne_204 _)
  · rw [hc] at h ⊢
    by_cases hb : P.bad r.src.data = []
    · rw [afterRead_good P _ _ hb] at h ⊢
      cases hw : r.writer with
      | ok => exact ⟨rfl, rfl, hb, hl, hr⟩
      | partialWrite k => rw [hw] at h; exact absurd h (errResp_status_ne_204 .unprocessable)
      | fail => rw [hw] at h; exact absurd h (errResp_status_ne_204 .internal)
    · rw [afterRead_bad P _ _ hb] at h; exact absurd h (errResp_status_ne_204 .invalid)

/-- **all or nothing.** The points writer is called at most once, with the whole
    batch in order, and only for a well-formed body within the limit. -/
theorem C32_all_or_nothing (P : Parser Nat Nat) (r : Req) (bufs : List Nat) :
    (handle false P r bufs).writes = [] ∨
    ((handle false P r bufs).writes = [P.points r.src.data] ∧ P.bad r.src.data = [] ∧ ¬ tooLarge r ∧ reaches r) := by
  rcases handle_cases P r bufs with ⟨c, hc, -⟩ | ⟨hr, hl, -, hc⟩
  · rw [hc]; exact Or.inl rfl
  · rw [hc]
    by_cases hb : P.bad r.src.data = []
    · rw [afterRead_good P _ _ hb]
      cases r.writer <;> exact Or.inr ⟨rfl, hb, hl, hr⟩
    · rw [afterRead_bad P _ _ hb]; exact Or.inl rfl

/-- The answer does not depend on how the body reader cuts the stream into
    `Read` results, on whether EOF arrives with the last bytes, or on the buffer
    sizes io.ReadAll uses — the justification for modelling gzip as an abstract decoder. -/
theorem C32_chunk_independent (P : Parser Nat Nat) (r : Req) (bufs bufs' : List Nat)
    (chunks' : List Nat) (eager' : Bool) :
    handle false P { r with src := { r.src with chunks := chunks', eager := eager' } } bufs' =
    handle false P r bufs := by
  unfold handle
  have hg : gate { r with src := { r.src with chunks := chunks', eager := eager' } } = gate r := rfl
  rw [hg]
  cases gate r with
  | some c => rfl
  | none => simp only [readAll_spec]; rfl

theorem findBucket_none_iff (r : Req) : findBucket r = none ↔ bucketFound r = true := by
  unfold findBucket bucketFound
  cases r.bucketIsID
  · simp
  · cases r.bucketByID with
    | none => simp
    | some c => by_cases hw : c.wire = .notFound <;> simp [hw]

theorem ite_some_eq_none_iff {p : Prop} [Decidable p] {c : Code} {x : Option Code} :
    (if p then some c else x) = none ↔ ¬p ∧ x = none := by
  by_cases h : p
  · rw [if_pos h]; simp [h]
  · rw [if_neg h]; simp [h]

/-- every early return of `gate` has to be passed -/
theorem gate_eq_none_iff (r : Req) : gate r = none ↔
    r.hasAuth = true ∧ r.precisionOK = true ∧ r.bucketGiven = true ∧ (r.gzip && r.gzipOpen.isSome) = false ∧
    r.org = none ∧ findBucket r = none ∧ r.permitted = true := by
  unfold gate
  simp only [ite_some_eq_none_iff, Bool.not_eq_true', Bool.not_eq_false, Bool.not_eq_true]
  cases r.org with
  | some c => simp only [reduceCtorEq, false_and, and_false]
  | none =>
    cases findBucket r with
    | some c => simp only [reduceCtorEq, false_and, and_false]
    | none => simp only [ite_some_eq_none_iff, Bool.not_eq_false, and_true, true_and]

theorem valid_iff_reaches (P : Parser Nat Nat) (r : Req) : (caseOf P r).valid = true ↔ reaches r := by
  unfold reaches caseOf
  simp only [gate_eq_none_iff, findBucket_none_iff, Bool.and_eq_true, Bool.not_eq_true', beq_iff_eq, and_assoc]

theorem overLimit_iff (P : Parser Nat Nat) (r : Req) : overLimit (caseOf P r) = true ↔ tooLarge r := by
  simp [overLimit, caseOf, tooLarge]

theorem clean_iff (P : Parser Nat Nat) (r : Req) : (caseOf P r).clean = true ↔ cleanBody r := by
  simp [caseOf, cleanBody]

theorem holdsOn_errResp (c : Case) (code : Code)
    (h1 : c.valid = true → overLimit c = false → code.status ≠ 413)
    (h2 : c.valid = true → c.clean = true → overLimit c = true ∧ code.status = 413) :
    holdsOn c (obsOf (errResp code)) = true := by
  have h204 := errResp_status_ne_204 code
  simp only [errResp] at h204
  simp only [holdsOn, obsOf, errResp, beq_self_eq_true, Bool.true_or, Bool.true_and, Bool.and_eq_true,
    Bool.or_eq_true, bne_iff_ne, ne_eq, Bool.not_eq_true', Bool.and_eq_false_imp]
  refine ⟨⟨Or.inl h204, ?_⟩, ?_⟩
  · cases hv : c.valid
    · exact Or.inl (Or.inl rfl)
    · cases ho : overLimit c
      · exact Or.inr (h1 hv ho)
      · exact Or.inl (Or.inr rfl)
  · cases hc : c.clean
    · exact Or.inl fun _ => rfl
    · cases hv : c.valid
      · exact Or.inl nofun
      · obtain ⟨ho, hs⟩ := h2 hv hc
        exact Or.inr (by rw [if_pos ho, hs]; rfl)

theorem holdsOn_afterRead (c : Case) (P : Parser Nat Nat) (data : List Nat)
    (hv : c.valid = true) (hcl : c.clean = true) (ho : overLimit c = false)
    (hb : c.bad = P.bad data) (hp : c.points = P.points data) :
    holdsOn c (obsOf (afterRead P c.writer data)) = true := by
  by_cases hbad : P.bad data = []
  · rw [afterRead_good P _ _ hbad]
    rw [hbad] at hb
    cases hw : c.writer <;> simp [holdsOn, obsOf, ho, hv, hcl, hb, hp, hw, errResp, Code.status]
  · rw [afterRead_bad P _ _ hbad]
    have hbe : c.bad.isEmpty = false := Bool.eq_false_iff.2 (mt List.isEmpty_iff.1 (hb ▸ hbad))
    simp [holdsOn, obsOf, ho, hv, hcl, ← hb, hbe, errResp, Code.status]

/-- **C32** — the run-time statement checker accepts what the model answers, for
    every parser, request, chunking script and buffer script. -/
theorem C32_holdsOn (P : Parser Nat Nat) (r : Req) (bufs : List Nat) :
    holdsOn (caseOf P r) (obsOf (handle false P r bufs)) = true := by
  have hv := valid_iff_reaches P r
  have ho := overLimit_iff P r
  have hcl := clean_iff P r
  rcases handle_cases P r bufs with ⟨c, h, hr | ⟨hr, hl, rfl⟩ | ⟨hr, hl, hc, e, hne, rfl⟩⟩ | ⟨hr, hl, hc, h⟩
  · rw [h]
    exact holdsOn_errResp _ c (fun hv' => absurd (hv.1 hv') hr) (fun hv' => absurd (hv.1 hv') hr)
  · rw [h]
    exact holdsOn_errResp _ _ (fun _ ho' => absurd (ho.2 hl) (by rw [ho']; nofun)) (fun _ _ => ⟨ho.2 hl, rfl⟩)
  · rw [h]
    refine holdsOn_errResp _ _ (fun _ _ => ?_) (fun _ hc' => absurd (hcl.1 hc') hc)
    rcases readErrCode_status e hne with h | h <;> rw [h] <;> decide
  · rw [h]
    exact holdsOn_afterRead _ P _ (hv.2 hr) (hcl.2 hc) (Bool.eq_false_iff.2 (mt ho.1 hl)) rfl rfl

/-- a parser for the witness: no points, no malformed lines -/
def nullParser : Parser Nat Nat := { points := fun _ => [], bad := fun _ => [] }

/-- the witness request of F13: a 2-byte body, limit 2, every service answering OK -/
def f13Req : Req := { limit := 2, src := { data := [109, 10] } }

/-- **F13 (DESIGN §6), the code before the repair**: with
    `if l.N <= 0 { l.limitExceeded = true; return 0, io.EOF }` a body of exactly the
    limit is answered 413 — io.ReadAll's final `Read` flags the limit as exceeded. -/
theorem F13_old_code_rejects_exact_limit :
    reaches f13Req ∧ cleanBody f13Req ∧ ¬ tooLarge f13Req ∧
    (handle true nullParser f13Req []).status = 413 := by
  refine ⟨rfl, ⟨rfl, rfl⟩, by simp [tooLarge, f13Req], ?_⟩
  have h1 : Body.read true (openBody f13Req.src f13Req.limit) (bufSize []) =
      (.limited { r := { data := [] }, n := 0 }, [109, 10], none) := by rfl
  have h2 : Body.read true (.limited { r := { data := [] }, n := 0 }) (bufSize ([] : List Nat).tail) =
      (.limited { r := { data := [] }, n := 0, limitExceeded := true }, [], some .eof) := by rfl
  have h3 : ioReadAll true (openBody f13Req.src f13Req.limit) [] [] =
      (.limited { r := { data := [] }, n := 0, limitExceeded := true }, [109, 10], none) := by
    rw [ioReadAll_none h1, ioReadAll_some h2]; rfl
  unfold handle
  have hg : gate f13Req = none := rfl
  rw [hg]
  simp only [readAll, h3]
  rfl

/-- … and the repaired code accepts the same request (204). -/
theorem F13_repaired_code_accepts_exact_limit :
    (handle false nullParser f13Req []).status = 204 := by
  rw [handle_clean nullParser f13Req [] rfl ⟨rfl, rfl⟩ (by simp [tooLarge, f13Req])]
  rfl

/-- **LimitedReadCloser, any usage.**  Whatever the chunking of the wrapped reader and
    whatever buffer sizes are passed: once the (clean) stream has been read to an error
    and the reader is closed, exactly min(size, limit) bytes were delivered and Close
    reports ErrReadLimitExceeded exactly when the stream is longer than the limit —
    in particular not for a stream of exactly the limit. -/
theorem C32_lrc_holdsOn (src : Src) (limit : Int) (steps : List Step) :
    holdsOnL limit src.data.length (src.term == .eof) steps
      (((LRC.new src limit).runSteps steps).2.map obsOfRes) = true := by
  unfold holdsOnL
  by_cases hc : (decide (limit < 0) || !(src.term == .eof)) = true
  · rw [if_pos hc]
  · rw [if_neg hc]
    rw [Bool.or_eq_true, not_or, decide_eq_true_eq, Bool.not_eq_true', Bool.not_eq_false, beq_iff_eq] at hc
    exact lrc_run limit src.data.length steps _ 0 false
      ⟨rfl, rfl, hc.2, Int.not_lt.1 hc.1, (Int.sub_zero _).symm, fun _ => Nat.zero_add _, nofun, nofun⟩

end Influx.Props.C32
