/-
  Props.C23 — InfluxQL transformation functions follow their definitions.

  Model: `Influx.Reducers` (Model/Reducers.lean), the reducers of
  influxql/query/functions.go, functions.gen.go, call_iterator.go as coded.
  Statement: `Influx.Spec.C23.verdict`/`holdsOn` (Spec/C23.lean).

  Families of theorems (proofs in Lemmas/Reducers*.lean):
   * structural, for EVERY arithmetic (`Arith V F`, no laws): derivative, difference,
     elapsed, cumulative_sum, moving_average, stddev — the reducer emits exactly the list
     comprehension (which points, which order, which timestamps, which operands);
   * under a strict weak value order (integers; floats without NaN): percentile, median —
     the sort-based reducers satisfy the counting (sort-free) statement, including which of
     several equal-valued points percentile reports (stability);
   * under the value order laws (`OrdLaws`: `<` strict weak, `==` is "neither less"):
     distinct, top/bottom (a bounded heap abstracted as a bag with a readable / replaceable
     root), mode (the reported value has maximal frequency);
   * integers exactly: spread; integral without GROUP BY time for every arithmetic.
  Not proved (correspondence only): integral with GROUP BY time windows; float spread
  (`math.Min`/`math.Max`); which of two ±0 values a float selection reports.
  The unrestricted statement is false of the code (`C23_full_fails`): mode() breaks its
  documented tie rule (known finding `mode-tie`); integral over descending input is the
  second known finding (`integral-descending`, replayed by the harness only).
-/
import Influx.Lemmas.ReducersStream
import Influx.Lemmas.ReducersWindow
import Influx.Lemmas.ReducersSelect
import Influx.Lemmas.ReducersDistinct
import Influx.Lemmas.ReducersTop
import Influx.Lemmas.ReducersMode

namespace Influx.Props.C23
open Influx.Reducers Influx.Reducers.Lemmas Influx.Spec.C23

variable {V F : Type}

/-- a float arithmetic over `Int`, only to have concrete `Arith` values in examples / witnesses -/
def dummyF0 : FOps Int :=
  { add := (· + ·), sub := (· - ·), mul := (· * ·), div := (· / ·), lt := fun a b => decide (a < b),
    ofInt := id, sqrt := id, nan := 0, half := 0 }

/-! ## Stream functions: the emitted list IS the list comprehension, for every arithmetic -/

/-- derivative / non_negative_derivative (integer and float reducers, ascending or
    descending): one point per pair of successive distinct-time points, stamped with the
    later time, `diff / (elapsed / unit)`; negative differences dropped when non-negative. -/
theorem C23_derivative (A : Arith V F) (unit : Int) (nonNeg asc : Bool) (xs : List (Pt V)) :
    derivative A.vo A.fo unit nonNeg asc xs = derivativeDef A unit nonNeg asc xs :=
  derivative_eq_def A unit nonNeg asc xs

/-- difference / non_negative_difference = `zipWith (−) tail xs` stamped with the later time. -/
theorem C23_difference (A : Arith V F) (nonNeg : Bool) (xs : List (Pt V)) :
    difference A.vo nonNeg xs = differenceDef A nonNeg xs :=
  difference_eq_def A nonNeg xs

/-- elapsed(unit) = time between successive points in whole units. -/
theorem C23_elapsed (unit : Int) (xs : List (Pt V)) : elapsed unit xs = elapsedDef unit xs :=
  elapsed_eq_def unit xs

/-- cumulative_sum = `scanl (+)`: point `i` carries the left-to-right sum of the first `i+1` values. -/
theorem C23_cumulativeSum (A : Arith V F) (xs : List (Pt V)) :
    cumulativeSum A.vo xs = cumulativeSumDef A xs :=
  cumsum_run A xs A.vo.zero 0 true

/-- moving_average(n), `n ≥ 1`: the ring buffer never indexes out of range and the
    reducer emits one point per full window, stamped with the window's last time, carrying
    (sliding sum) / n; in particular `len − n + 1` points. -/
theorem C23_movingAverage (A : Arith V F) (n : Nat) (hn : 0 < n) (xs : List (Pt V)) :
    movingAverage A.vo A.fo n xs = some (movingAverageDef A n xs) :=
  movingAverage_eq_def A n hn xs

theorem C23_movingAverage_count (A : Arith V F) (n : Nat) (hn : 0 < n) (xs : List (Pt V)) :
    ∃ out, movingAverage A.vo A.fo n xs = some out ∧ out.length ≤ xs.length + 1 - n := by
  refine ⟨_, movingAverage_eq_def A n hn xs, ?_⟩
  unfold movingAverageDef
  exact Nat.le_trans (List.length_filterMap_le _ _) (by simp)

/-- integers: the value moving_average divides by `n` is exactly the sum of the `n` values
    of the window `vs[i .. i+n)`. -/
theorem C23_movingAverage_int_window (fo : FOps F) (eqvF : F → F → Bool) (hF : ∀ x, eqvF x x = true)
    (n : Nat) (vs : List Int) (i : Nat) (h : i + n ≤ vs.length) :
    slideSum (intArith fo eqvF hF) n vs i = some (isum ((vs.drop i).take n)) :=
  slideSum_int fo eqvF hF n vs i h

/-- stddev = sqrt(Σ(x − mean)² / (n − 1)) with the incremental mean, NaN skipped, NaN for
    fewer than two points. -/
theorem C23_stddev (A : Arith V F) (xs : List (Pt V)) : stddev A.vo A.fo xs = stddevDef A xs :=
  stddev_eq_def A xs

/-! ## Selections under a strict weak value order -/

/-- percentile(p): nothing when the nearest rank `⌊len·p/100+0.5⌋−1` falls outside the
    series; otherwise exactly one INPUT point whose value has that rank (by counting), and
    among equal values the one a stable sort puts there. -/
theorem C23_percentile (A : Arith V F) (h : StrictWeak A.vo.lt) (pn : Int) (pd : Nat) (xs : List (Pt V)) :
    percentileOK A pn pd xs (percentile A.vo pn pd xs) = true :=
  percentile_ok A h pn pd xs

/-- median: the middle value by rank, or `lo + (hi − lo)/2` of the two middle ranks. -/
theorem C23_median (A : Arith V F) (h : StrictWeak A.vo.lt) (xs : List (Pt V)) (hne : xs ≠ []) :
    medianOK A xs (median A.vo A.fo xs) = true := by
  obtain ⟨p, hp, hv, ht⟩ := median_ok A h xs hne
  rw [hp, medianOK, hv, Bool.true_and, Bool.or_eq_true, decide_eq_true_eq, decide_eq_true_eq]
  exact ht

/-- spread over integers (inside the int64 range) = maximum − minimum. -/
theorem C23_spread_int (fo : FOps F) (eqvF : F → F → Bool) (hF : ∀ x, eqvF x x = true)
    (xs : List (Pt Int)) (hne : xs ≠ [])
    (hrange : ∀ p ∈ xs, -9223372036854775808 ≤ p.v ∧ p.v ≤ 9223372036854775807) :
    ∃ v, spread (intOps fo) xs = [⟨zeroTime, v⟩] ∧ spreadValueOK (intArith fo eqvF hF) xs v = true :=
  spread_int_ok F fo eqvF hF xs hne hrange

/-- distinct: each value once, represented by the first point carrying it, ordered by
    (time, value). -/
theorem C23_distinct (A : Arith V F) (h : OrdLaws A) (hexact : ∀ a b, A.eqvV a b = true → a = b)
    (xs : List (Pt V)) : distinctOK A xs (distinct A.vo xs) = true :=
  distinct_ok A h.sw
    ⟨fun a b hab => by rw [eq_symm' A h]; exact hab,
     fun a b c hab hbc => eq_trans' A h hab hbc⟩ hexact xs

/-- top(n) / bottom(n): `min n len` input points, best first (ties: earlier time first),
    no left-out point better than a selected one. -/
theorem C23_top (A : Arith V F) (h : OrdLaws A) (hexact : ∀ a b, A.eqvV a b = true → a = b)
    (isTop : Bool) (n : Nat) (xs : List (Pt V)) : topOK A isTop n xs (topN A.vo isTop n xs) = true :=
  top_ok A h hexact isTop n xs

/-- mode: ONE point whose value occurs at least as often as every other value (the
    documented tie rule is NOT part of this theorem: the code breaks it, see below). -/
theorem C23_mode_value (A : Arith V F) (h : OrdLaws A) (xs : List (Pt V)) (hne : xs ≠ []) :
    modeOK A xs (mode A.vo xs) = true := by
  obtain ⟨p, hp, hv, ht⟩ := mode_ok A h xs hne
  rw [hp, modeOK, hv, Bool.true_and, Bool.or_eq_true, decide_eq_true_eq, decide_eq_true_eq]
  exact ht

/-- integral without GROUP BY time over a series inside the statement's time range
    (ascending reads), integer and float reducers, any arithmetic: one row at the start time
    with the left-to-right sum of the trapezia; nothing when the series ends on that time. -/
theorem C23_integral_plain (A : Arith V F) (isInt : Bool) (unit off st en : Int) (xs : List (Pt V))
    (hin : ∀ p ∈ xs, p.t ≤ en) :
    integral A.vo A.fo isInt unit ⟨0, off, st, en, true⟩ xs = integralPlain A isInt unit st xs :=
  integral_plain A isInt unit off st en xs hin

/-! ## The integer instance satisfies the value order laws -/

theorem int_ordLaws (fo : FOps F) (eqvF : F → F → Bool) (hF : ∀ x, eqvF x x = true) :
    OrdLaws (intArith fo eqvF hF) where
  sw := strictWeak_ofKey (fun (x : Int) => x)
  eq_iff := by
    intro a b
    show decide (a = b) = (!decide (a < b) && !decide (b < a))
    rw [Bool.eq_iff_iff]
    simp only [decide_eq_true_eq, Bool.and_eq_true, Bool.not_eq_true', decide_eq_false_iff_not]
    omega

theorem int_exact (fo : FOps F) (eqvF : F → F → Bool) (hF : ∀ x, eqvF x x = true) :
    ∀ a b, (intArith fo eqvF hF).eqvV a b = true → a = b :=
  fun _ _ h => of_decide_eq_true h

/-! ## The statement checker accepts the model -/

theorem ptsEq_refl {W : Type} (eqv : W → W → Bool) (h : ∀ x, eqv x x = true) (l : List (Pt W)) :
    ptsEq eqv l l = true := by
  induction l with
  | nil => rfl
  | cons a l ih => simp [ptsEq, h, ih]

theorem expectF_self (A : Arith V F) (l : List (Pt F)) (sig : Option String) :
    expectF A l (some (.f l)) sig = none := by
  simp only [expectF, ptsEq_refl A.eqvF A.eqvF_refl, if_true]

theorem expectV_self (A : Arith V F) (l : List (Pt V)) (sig : Option String) :
    expectV A l (some (.v l)) sig = none := by
  simp only [expectV, ptsEq_refl A.eqvV A.eqvV_refl, if_true]

/-- the observations `C23_holdsOn_partial` covers: every function except spread (integers:
    `C23_holdsOn_int_spread`), integral restricted to ascending reads without GROUP BY time,
    and mode restricted to inputs on which the code's choice obeys the documented tie rule
    (the negation of the known finding `mode-tie`). -/
def covered (A : Arith V F) (fn : Fn) (xs : List (Pt V)) : Bool :=
  match fn with
  | .movingAverage n => decide (0 < n)
  | .spread => false
  | .mode =>
    match mode A.vo xs with
    | [p] => modeTieOK A xs p.v
    | _ => false
  | .integral _ dur _ _ _ asc => asc && decide (dur = 0)
  | _ => true

/-- **C23 (partial)**: for every arithmetic satisfying the value order laws, every covered
    function with any parameters and every non-empty input series, the statement checker
    accepts what the model of the reducer emits. -/
theorem C23_holdsOn_partial (A : Arith V F) (hord : OrdLaws A)
    (hexact : ∀ a b, A.eqvV a b = true → a = b) (isInt : Bool) (fn : Fn)
    (xs : List (Pt V)) (hne : xs ≠ []) (h : covered A fn xs = true) :
    holdsOn A isInt ⟨fn, xs, eval A isInt fn xs⟩ = true := by
  unfold holdsOn
  cases fn with
  | derivative unit nonNeg asc => simp only [verdict, eval, C23_derivative, expectF_self]; rfl
  | difference nonNeg => simp only [verdict, eval, C23_difference, expectV_self]; rfl
  | elapsed unit =>
    simp only [verdict, eval, C23_elapsed, if_true,
      ptsEq_refl (fun a b : Int => decide (a = b)) (fun x => decide_eq_true rfl)]
    rfl
  | cumulativeSum => simp only [verdict, eval, C23_cumulativeSum, expectV_self]; rfl
  | movingAverage n =>
    simp only [verdict, eval, C23_movingAverage A n (of_decide_eq_true h), Option.map_some, expectF_self]; rfl
  | percentile pn pd => simp only [verdict, eval, C23_percentile A hord.sw, if_true]; rfl
  | median =>
    obtain ⟨p, hp, hv, ht⟩ := median_ok A hord.sw xs hne
    simp only [verdict, eval, hp, hv, Bool.not_true, Bool.false_eq_true, if_false, if_pos ht]; rfl
  | mode =>
    obtain ⟨p, hp, hv, ht⟩ := mode_ok A hord xs hne
    simp only [covered, hp] at h
    simp only [verdict, eval, hp, hv, h, decide_eq_true ht, Bool.not_true, Bool.false_eq_true, if_false]; rfl
  | spread => cases h
  | stddev => simp only [verdict, eval, C23_stddev, expectF_self]; rfl
  | distinct => simp only [verdict, eval, C23_distinct A hord hexact, if_true]; rfl
  | top n => simp only [verdict, eval, C23_top A hord hexact, if_true]; rfl
  | bottom n => simp only [verdict, eval, C23_top A hord hexact, if_true]; rfl
  | integral unit dur off st en asc =>
    -- ascending, no GROUP BY time
    simp only [covered, Bool.and_eq_true, decide_eq_true_eq] at h
    obtain ⟨rfl, rfl⟩ := h
    simp only [verdict, eval, if_true]
    cases hA : ascending xs with
    | false => rfl
    | true =>
      cases hin : (xs.all fun p => decide (st ≤ p.t) && decide (p.t ≤ en)) with
      | false => rfl
      | true =>
        simp only [Bool.not_true, Bool.false_eq_true, if_false]
        rw [C23_integral_plain A isInt unit off st en xs fun p hp =>
          of_decide_eq_true (Bool.and_eq_true_iff.mp (List.all_eq_true.mp hin p hp)).2]
        unfold integralPlain
        cases xs.getLast? with
        | none => rfl
        | some lastp =>
          simp only
          by_cases h0 : lastp.t = (if isInt = true then if st = -9223372036854775806 then 0 else st else 0)
          · simp only [if_pos h0]; rfl
          · simp only [if_neg h0, ptsEq_refl A.eqvF A.eqvF_refl, if_true]; rfl

/-- … for the integer reducers unconditionally (any float arithmetic) -/
theorem C23_holdsOn_int (fo : FOps F) (eqvF : F → F → Bool) (hF : ∀ x, eqvF x x = true) (fn : Fn)
    (xs : List (Pt Int)) (hne : xs ≠ []) (h : covered (intArith fo eqvF hF) fn xs = true) :
    holdsOn (intArith fo eqvF hF) true ⟨fn, xs, eval (intArith fo eqvF hF) true fn xs⟩ = true :=
  C23_holdsOn_partial _ (int_ordLaws fo eqvF hF) (int_exact fo eqvF hF) true fn xs hne h

/-- … and integer spread -/
theorem C23_holdsOn_int_spread (fo : FOps F) (eqvF : F → F → Bool) (hF : ∀ x, eqvF x x = true)
    (xs : List (Pt Int)) (hne : xs ≠ [])
    (hrange : ∀ p ∈ xs, -9223372036854775808 ≤ p.v ∧ p.v ≤ 9223372036854775807) :
    holdsOn (intArith fo eqvF hF) true ⟨.spread, xs, eval (intArith fo eqvF hF) true .spread xs⟩ = true := by
  obtain ⟨v, hv, hok⟩ := C23_spread_int fo eqvF hF xs hne hrange
  have hv' : spread (intArith fo eqvF hF).vo xs = [⟨zeroTime, v⟩] := hv
  simp [holdsOn, verdict, eval, hv', hok]

-- the hypotheses are met by non-trivial operations
example : covered (intArith dummyF0 (fun a b => decide (a = b)) (by simp)) (.derivative 10 true false) [⟨1, 2⟩] = true := rfl
example : covered (intArith dummyF0 (fun a b => decide (a = b)) (by simp)) (.top 3) [⟨1, 2⟩, ⟨2, 5⟩] = true := rfl
example : covered (intArith dummyF0 (fun a b => decide (a = b)) (by simp)) .mode [⟨1, 2⟩, ⟨2, 5⟩, ⟨3, 5⟩] = true := by decide

/-! ## The unrestricted statement is false of the code -/

def witnessArith : Arith Int Int := intArith dummyF0 (fun a b => decide (a = b)) (by simp)

/-- **C23 at full strength fails**: mode() over three distinct integer values reports the
    smallest value (7), the documented tie rule asks for the earliest (100).  Replayed on
    the real `IntegerModeReduceSlice` by the harness (findings.d/C23.json, `mode-tie`). -/
theorem C23_full_fails :
    ¬ ∀ (fn : Fn) (xs : List (Pt Int)), xs ≠ [] →
        holdsOn witnessArith true ⟨fn, xs, eval witnessArith true fn xs⟩ = true := by
  intro h
  have := h .mode [⟨321, 100⟩, ⟨381, 7⟩, ⟨441, 4503599627370495⟩] (by simp)
  revert this
  decide

end Influx.Props.C23
