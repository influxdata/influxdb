/-
  Props.C21 — Storage read requests return exactly the stored series and points.

  Subject: `Influx.Model.Reads` (written from storage/reads, compared with the real
  package on every run).  All theorems are for every block size `B ≥ 1`, every number of
  rows, shards, arrays and points.
-/
import Influx.Lemmas.Reads

namespace Influx.Props.C21
open Influx.Reads Influx.Spec.C21
open Influx.WindowAgg (Val Typ Pt)

/-- the points a read of `[start, stop)` must deliver for row `r`: the stored points, shard
    after shard, in range and passing the row's value condition (as the code evaluates it) -/
def wanted (start stop : Int) (r : Row) : List (Pt Val) :=
  ((stored r).filter fun p => decide (start ≤ p.1) && decide (p.1 < stop)).filter (condOK r.cond)

theorem inRange_eq (start stop : Int) :
    inRange start (stop - 1) = fun p => decide (start ≤ p.1) && decide (p.1 < stop) := by
  funext p
  simp only [inRange]
  congr 1
  simp only [decide_eq_decide]
  omega

theorem takeWhile_all {β : Type} (p : β → Bool) (l : List β) (h : l.all p = true) : l.takeWhile p = l := by
  induction l with
  | nil => rfl
  | cons x xs ih =>
    simp only [List.all_cons, Bool.and_eq_true] at h
    simp [h.1, ih h.2]

/-- **One series, any number of shards.**  If the shards of the row hold one field type, the
    arrays of its cursor concatenate to exactly the stored points in `[start, stop)` that pass
    the value condition — whatever the shard and array boundaries, without error; a row no
    shard knows has no cursor and stores nothing. -/
theorem C21_row (B : Nat) (hB : 1 ≤ B) (start stop : Int) (r : Row) (hty : sameType r = true) :
    match readRow B start stop r with
    | none => stored r = []
    | some rr => rr.typeErr = false ∧ rr.arrays.flatten = wanted start stop r := by
  unfold readRow sameType stored wanted at *
  cases hsh : r.shards.filter (·.hasCursor) with
  | nil => simp
  | cons s0 rest =>
    rw [hsh] at hty
    simp only at hty ⊢
    rw [takeWhile_all _ _ hty]
    refine ⟨by simp, ?_⟩
    simp only [stored, hsh]
    rw [flatMap_flatten, List.filter_flatMap, List.filter_flatMap]
    congr 1
    funext sh
    rw [shardArrays_flatten B hB, inRange_eq]

/-- **Filter read**: every row of the series cursor exactly once, in order. -/
theorem C21_filter (B : Nat) (start stop : Int) (rows : List Row) :
    (readFilter B start stop rows).map (·.1) = rows.map (·.tags) ∧
    (readFilter B start stop rows).map (·.2) = rows.map (readRow B start stop) := by
  simp [readFilter, List.map_map, Function.comp_def]

theorem ascending_pairwise (l : List (Pt Val)) (h : strictlyAscending l = true) :
    l.Pairwise (fun a b => a.1 < b.1) := by
  induction l with
  | nil => exact List.Pairwise.nil
  | cons a l ih =>
    cases l with
    | nil => exact List.pairwise_singleton _ _
    | cons b rest =>
      rw [strictlyAscending, Bool.and_eq_true, decide_eq_true_eq] at h
      have ih' := ih h.2
      refine List.pairwise_cons.mpr ⟨fun c hc => ?_, ih'⟩
      rcases List.mem_cons.mp hc with rfl | hc
      · exact h.1
      · exact Int.lt_trans h.1 ((List.pairwise_cons.mp ih').1 c hc)

/-- **Reads spanning several shards neither drop nor duplicate points.**  When the shards hold
    ascending, disjoint time ranges (the stored points, shard after shard, are strictly
    ascending), what the cursor returns is strictly ascending in time — so no point occurs
    twice — and (by `C21_row`) it is the full set of stored points in range. -/
theorem C21_no_drop_no_dup (B : Nat) (hB : 1 ≤ B) (start stop : Int) (r : Row) (hty : sameType r = true)
    (hasc : strictlyAscending (stored r) = true) (rr : RowRead) (h : readRow B start stop r = some rr) :
    rr.arrays.flatten.Pairwise (fun a b => a.1 < b.1) ∧
    (∀ p, p ∈ rr.arrays.flatten ↔ (p ∈ stored r ∧ start ≤ p.1 ∧ p.1 < stop ∧ condOK r.cond p = true)) := by
  have hr := C21_row B hB start stop r hty
  rw [h] at hr
  simp only at hr
  rw [hr.2]
  constructor
  · exact ((ascending_pairwise _ hasc).sublist List.filter_sublist).sublist List.filter_sublist
  · intro p
    simp only [wanted, List.mem_filter, Bool.and_eq_true, decide_eq_true_eq]
    constructor
    · rintro ⟨⟨h1, h2, h3⟩, h4⟩; exact ⟨h1, h2, h3, h4⟩
    · rintro ⟨h1, h2, h3, h4⟩; exact ⟨⟨h1, h2, h3⟩, h4⟩

/-- **Group read = partition ordered by group key.**  With `k` the sort key of the request and
    `live` the series that have a point in range (all series with the all-time hint), the
    groups are the runs of the sorted `live`: together a permutation of `live` (every series
    in exactly one group, none invented), every group non-empty with one key, and the groups
    strictly ascending by key (so different groups have different keys). -/
theorem C21_group_partition (B : Nat) (q : GroupReq) (hby : q.by_ = true) (rows : List Row) :
    let k := fun r : Row => sortKey q.keys q.nilLo r.tags
    let live := rows.filter fun r => q.allTime || hasPoints B q.start q.stop r
    let G := runs k (sortBy k live)
    (readGroup B q rows).map (fun g => g.series.map (·.1)) = G.map (·.map (·.tags)) ∧
    G.flatten.Perm live ∧
    (∀ g ∈ G, g ≠ [] ∧ ∀ a ∈ g, ∀ b ∈ g, k a = k b) ∧
    G.Pairwise (fun g1 g2 => ∀ a ∈ g1, ∀ b ∈ g2, k a < k b) := by
  intro k live G
  have hruns := runs_spec stringSTO k (sortBy k live) (sortBy_sorted stringSTO k live)
  refine ⟨?_, ?_, hruns.1, hruns.2⟩
  · unfold readGroup
    show (if live.isEmpty = true then [] else if q.by_ = true then G.map _ else _).map _ = _
    by_cases hl : live.isEmpty = true
    · -- `NewGroupResultSet` returns nil; there is nothing to sort either
      rw [if_pos hl]
      show [] = (runs k (sortBy k live)).map _
      rw [List.isEmpty_iff.mp hl]
      rfl
    · rw [if_neg hl, if_pos hby, List.map_map]
      exact List.map_congr_left fun g _ => (C21_filter B q.start q.stop g).1
  · rw [runs_flatten]; exact sortBy_perm k live

/-- no value condition on unsigned data (the known finding `unsigned-value-predicate`) -/
def NoUnsignedCond (r : Row) : Prop := r.cond = none ∨ ∀ p ∈ stored r, ∀ x, p.2 ≠ Val.u x

theorem zip_map_all {β γ : Type} (l : List β) (f : β → γ) (P : β × γ → Bool) :
    (l.zip (l.map f)).all P = l.all (fun x => P (x, f x)) := by
  induction l with
  | nil => rfl
  | cons x xs ih => simp [ih]

theorem meaning_eq_eval (c : Cond) (v : Val) (hu : ∀ x, v ≠ Val.u x) (hs : (condMeaning c v).isSome = true) :
    (condMeaning c v == some true) = c.eval v := by
  unfold condMeaning at hs ⊢
  -- the arms of `condMeaning`: four it shares with `Cond.eval`, two on unsigned data, no meaning
  split at hs
  · next hl => simp only [Cond.eval, hl, Option.some_beq_some, beq_true]
  · next hl => simp only [Cond.eval, hl, Option.some_beq_some, beq_true]
  · next hl => simp only [Cond.eval, hl, Option.some_beq_some, beq_true]
  · next hl => simp only [Cond.eval, hl, Option.some_beq_some, beq_true]
  · exact absurd rfl (hu _)
  · exact absurd rfl (hu _)
  · cases hs

theorem expected_eq_wanted (start stop : Int) (r : Row) (hu : NoUnsignedCond r) (pts : List (Pt Val))
    (h : expected start stop r = some pts) : sameType r = true ∧ pts = wanted start stop r := by
  unfold expected at h
  by_cases hpre : (sameType r && strictlyAscending (stored r)) = true
  · simp only [hpre, Bool.not_true, Bool.false_eq_true, ↓reduceIte] at h
    refine ⟨(Bool.and_eq_true_iff.mp hpre).1, ?_⟩
    unfold wanted
    cases hc : r.cond with
    | none =>
      rw [hc] at h
      rw [← Option.some.inj h]
      exact (List.filter_eq_self.mpr (fun _ _ => rfl)).symm
    | some c =>
      rw [hc] at h
      by_cases hall : (((stored r).filter fun p => decide (start ≤ p.1) && decide (p.1 < stop)).all
          fun p => (condMeaning c p.2).isSome) = true
      · simp only [hall, ↓reduceIte] at h
        rw [← Option.some.inj h]
        apply List.filter_congr
        intro p hp
        have hnu : ∀ x, p.2 ≠ Val.u x := by
          rcases hu with h | h
          · rw [hc] at h; cases h
          · exact h p (List.mem_filter.mp hp).1
        exact meaning_eq_eval c p.2 hnu (List.all_eq_true.mp hall p hp)
      · simp only [hall, Bool.false_eq_true, ↓reduceIte] at h
        cases h
  · simp only [hpre, Bool.not_false, ↓reduceIte] at h
    cases h

/-- **C21 on the model, filter reads** (partial: rows with a value condition on unsigned
    data are excluded — there the code is wrong, see `C21_unsigned_fails`).  The statement
    checker accepts what the model returns for every filter read. -/
theorem C21_holdsOn_filter_partial (B : Nat) (hB : 1 ≤ B) (start stop : Int) (rows : List Row)
    (hu : ∀ r ∈ rows, NoUnsignedCond r) :
    holdsFilter start stop rows ((readFilter B start stop rows).map fun x => ⟨x.1, x.2⟩) = true := by
  unfold holdsFilter holdsFilterX readFilter
  simp only [List.map_map, List.length_map, beq_self_eq_true, Bool.true_and, Function.comp_def]
  rw [zip_map_all, List.all_eq_true]
  intro r hr
  simp only [decide_true, Bool.true_and, pointsOK, Bool.false_eq_true, ↓reduceIte]
  cases hexp : expected start stop r with
  | none => rfl
  | some pts =>
    obtain ⟨hty, rfl⟩ := expected_eq_wanted start stop r (hu r hr) pts hexp
    have hrow := C21_row B hB start stop r hty
    cases hrd : readRow B start stop r with
    | none =>
      rw [hrd] at hrow
      simp only at hrow ⊢
      simp only [wanted, hrow, List.filter_nil, List.isEmpty_nil]
    | some rr =>
      rw [hrd] at hrow
      simp only at hrow ⊢
      simp [hrow.1, hrow.2]

/-! ### where the full statement fails (both reproduced on the real code: checks/corpus/C21) -/

def rowA : Row := ⟨[("6b", "ff")], none, [⟨.f, true, [[(1, .f 0)]]⟩]⟩      -- tag k = 0xff
def rowB : Row := ⟨[("6c", "61")], none, [⟨.f, true, [[(2, .f 0)]]⟩]⟩      -- no tag k
def qAB : GroupReq := ⟨true, ["6b"], false, false, 0, 10⟩                   -- group by k

def groupObs (B : Nat) (q : GroupReq) (rows : List Row) : List GroupObs :=
  (readGroup B q rows).map fun g => ⟨g.vals, g.series.map fun x => ⟨x.1, x.2⟩⟩

/-- **The full group statement is false** (known finding `group-sortkey-collision`): a tag value
    0xff and a missing tag have the same sort key; the two series come back as one group. -/
theorem C21_full_fails : holdsGroup qAB [rowA, rowB] (groupObs 1000 qAB [rowA, rowB]) = false := by decide

theorem C21_collision_witness :
    sortKey ["6b"] false rowA.tags = sortKey ["6b"] false rowB.tags ∧
    tuple ["6b"] rowA.tags ≠ tuple ["6b"] rowB.tags := by decide

def rowU : Row := ⟨[("61", "61")], some ⟨.gt, .i 0⟩, [⟨.u, true, [[(1, .u 5), (2, .u 0), (3, .u 7)]]⟩]⟩

/-- **A value condition on unsigned data returns nothing** (known finding
    `unsigned-value-predicate`): `$ > 0` over the values 5, 0, 7. -/
theorem C21_unsigned_fails :
    expected 0 100 rowU = some [(1, .u 5), (3, .u 7)] ∧ wanted 0 100 rowU = [] := by decide

-- non-vacuity of the hypotheses of `C21_holdsOn_filter_partial` / `C21_no_drop_no_dup`
def rowOK : Row := ⟨[("61", "61")], some ⟨.ge, .i 0⟩,
  [⟨.i, true, [[(1, .i 5), (2, .i (-1))], [(7, .i 0)]]⟩, ⟨.i, false, []⟩, ⟨.i, true, [[(9, .i 3)]]⟩]⟩
example : sameType rowOK = true ∧ strictlyAscending (stored rowOK) = true := by decide
example : NoUnsignedCond rowOK := Or.inr (by
  have : stored rowOK = [(1, .i 5), (2, .i (-1)), (7, .i 0), (9, .i 3)] := by decide
  rw [this]; intro p hp x
  simp only [List.mem_cons, List.not_mem_nil, or_false] at hp
  rcases hp with rfl | rfl | rfl | rfl <;> simp)
example : wanted 2 10 rowOK = [(7, .i 0), (9, .i 3)] := by decide

end Influx.Props.C21
