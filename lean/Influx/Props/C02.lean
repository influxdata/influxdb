/-
  Props.C02 — Acknowledged writes and deletes survive a crash at any point.

  Model: `Influx.Model.Engine` with its WAL (closed segments + current segment; a record is
  durable when the op that appended it has returned), TSM files with durable tombstones, and
  `Engine.Open` = reload files, replay every WAL segment in order into an empty cache.
  Crash images: any step boundary (also between the sub-steps of a snapshot commit and inside
  FileStore.replace of a compaction), the WAL record of the op in flight torn off, a delete
  interrupted after its tombstones.

  `C02_partial` carries the hypothesis `safeFrom` (no delete covers a point of the in-flight
  snapshot store, no failed snapshot attempt is retried after further writes): without it the
  statement is false — DESIGN §6 F1 (`C02_full_fails`) and F18 (`C02_full_fails_retry`).
  WAL framing (a torn tail is dropped, everything before it is kept): `Props.C02.wal_*` below,
  over the byte-level reader of `Model.EngineWal`.
-/
import Influx.Lemmas.EngineCheck
import Influx.Lemmas.EngineWal
import Influx.Lemmas.EngineSrc

namespace Influx.Props.C02
open Influx.Model.Engine Influx.Spec.C03 Influx.Spec.C02

/-- the hypothesis of `C02_partial` (`opSafe`, decidable on the history): no delete covers a point
    of the in-flight / pending snapshot store (F1), and no failed snapshot attempt is retried after
    further writes (F18) -/
def safeFrom (s : State) : List Op → Bool
  | [] => true
  | op :: ops => opSafe s op && safeFrom (step s op).1 ops

/-- every operation of the model except the deliberately wrong non-contiguous compaction -/
def inScope' : Op → Bool
  | .compactSet _ => false
  | _ => true

/-- **Recovery at any step boundary** (also between the sub-steps of a snapshot commit): the
    reopened shard holds exactly what the running one held. -/
theorem C02_clean_crash {s : State} (h : Good s) (k : Key) (t : Int) :
    (step s (.crash false)).1.abs k t = s.abs k t := abs_step_restart h rfl k t

/-- **A torn WAL tail loses exactly the write that was in flight.** -/
theorem C02_torn_write {s : State} (h : Good s) (es : Log) (k : Key) (t : Int) :
    (step (step s (.write es)).1 (.crash true)).1.abs k t = s.abs k t := abs_tornWrite h es k t

/-- **A crash inside FileStore.replace of a compaction** (after the new file is renamed, after
    any number of old files are removed) loses nothing and resurrects nothing. -/
theorem C02_compaction_crash {s : State} (h : Good s) (i j : Nat) (pt : CPoint) (n : Nat) (k : Key) (t : Int) :
    (step s (.compactCrash i j pt n)).1.abs k t = s.abs k t := abs_step_restart h rfl k t

/-- the reopened shard satisfies the engine invariants again: further operations are covered -/
theorem C02_reopen_good {s : State} (h : Good s) (tear : Bool) : Good (step s (.crash tear)).1 :=
  good_step h nofun rfl

/-- every point of every write operation of a history (acknowledged or torn by a crash) -/
def allWrites : List Op → Log
  | [] => []
  | .write es :: ops => es ++ allWrites ops
  | _ :: ops => allWrites ops

theorem allWrites_cons (op : Op) (ops : List Op) :
    allWrites (op :: ops) = (match op with | .write es => es | _ => []) ++ allWrites ops := by
  cases op <;> rfl

theorem rows_from_writes (ops : List Op) : ∀ (s : State) (W : Log), Src s W →
    ∀ k lo hi asc r, (Op.read k lo hi asc, Obs.rows r) ∈ (runFrom s ops).2 →
    ∀ p ∈ r, (⟨k, p.1, p.2⟩ : Entry) ∈ W ++ allWrites ops := by
  induction ops with
  | nil => intro s W _ k lo hi asc r h; simp [runFrom] at h
  | cons op ops ih =>
    intro s W hs k lo hi asc r h p hp
    simp only [runFrom, List.mem_cons] at h
    rw [allWrites_cons, ← List.append_assoc]
    rcases h with h | h
    ·
      obtain ⟨rfl, hr⟩ := Prod.mk.inj h
      obtain rfl : r = s.read k lo hi asc := Obs.rows.inj hr
      exact List.mem_append_left _ (List.mem_append_left _ (hs _ (read_row_stored s k lo hi asc p hp)))
    · exact ih _ _ (src_step hs op) k lo hi asc r h p hp

/-- **Nothing that was never written appears** — for EVERY history of the model (no hypothesis:
    also F1/F18 histories, torn WAL tails, crashes inside commits, non-contiguous compactions):
    every row any read ever returns carries a value that some write operation of the history
    wrote to that series/field/timestamp. -/
theorem C02_no_phantom (ops : List Op) (k : Key) (lo hi : Int) (asc : Bool) (r : List Pt)
    (h : (Op.read k lo hi asc, Obs.rows r) ∈ trace ops) (p : Pt) (hp : p ∈ r) :
    (⟨k, p.1, p.2⟩ : Entry) ∈ allWrites ops := by
  have := rows_from_writes ops init [] (fun e he => by simp [State.entries, init, filesData, walEntries, segRecs, State.wal] at he)
    k lo hi asc r h p hp
  simpa using this

structure J (s : State) (st : St) : Prop where
  good : Good s
  approx : Approx s st.worlds
  torn : s.lastRec = true → ∃ p, st.prev = some p ∧ Approx (stepCrash s true) (st.worlds ++ p)

theorem mkJ {s : State} {ws : Worlds} (hg : Good s) (ha : Approx s ws) (hl : s.lastRec = false)
    (prev : Option Worlds) (win : Window) : J s ⟨ws, prev, win⟩ :=
  ⟨hg, ha, fun h => by rw [hl] at h; cases h⟩

theorem J_write {s : State} {st : St} (h : J s st) (hg : Good (stepWrite s es)) (win : Window) :
    J (stepWrite s es) ⟨st.worlds.map (· ++ es.map .put), some st.worlds, win⟩ := by
  refine ⟨hg, fun k t => ?_, fun _ => ⟨st.worlds, rfl, ?_⟩⟩
  · obtain ⟨w, hw, he⟩ := h.approx k t
    exact ⟨w ++ es.map .put, List.mem_map.mpr ⟨w, hw, rfl⟩, by rw [abs_stepWrite, cell_puts, he]⟩
  · exact (h.approx.congr (abs_tornWrite h.good es)).mono fun w hw => List.mem_append.mpr (Or.inr hw)

/-- a delete interrupted after its tombstones: with and without it, cell by cell -/
theorem approx_deleteCrash {s : State} {ws : Worlds} (hg : Good s) (ha : Approx s ws) (ss : List Nat)
    (lo hi : Int) (hl : commitLocked s.phase = false) :
    Approx (openWith s (s.files.map (addTomb ss lo hi)) s.wal) (ws ++ ws.map (· ++ [.del ss lo hi])) := by
  intro k t
  obtain ⟨w, hw, hw'⟩ := ha k t
  rcases abs_deleteCrash hg (ss := ss) (lo := lo) (hi := hi) hl k t with he | ⟨hcv, hn⟩
  · exact ⟨w, List.mem_append.mpr (Or.inl hw), he.trans hw'⟩
  · refine ⟨w ++ [.del ss lo hi], List.mem_append.mpr (Or.inr (List.mem_map.mpr ⟨w, hw, rfl⟩)), ?_⟩
    rw [hn, cell_del, hcv]; rfl

theorem J_delete {s : State} {st : St} (h : J s st) {ss : List Nat} {lo hi : Int}
    (hg : Good (stepDelete s ss lo hi)) (hc : SnapClear s ss lo hi) (hl : commitLocked s.phase = false)
    (win : Window) :
    J (stepDelete s ss lo hi) ⟨st.worlds.map (· ++ [.del ss lo hi]), some st.worlds, win⟩ := by
  refine ⟨hg, fun k t => ?_, fun hlr => ⟨st.worlds, rfl, ?_⟩⟩
  · obtain ⟨w, hw, he⟩ := h.approx k t
    exact ⟨w ++ [.del ss lo hi], List.mem_map.mpr ⟨w, hw, rfl⟩, by rw [abs_stepDelete hc, cell_del, he]⟩
  · have hk : (hotKeys s.hot ss).isEmpty = false := by
      cases hke : (hotKeys s.hot ss).isEmpty
      · rfl
      · rw [stepDelete_eq_noKeys hke] at hlr; cases hlr
    exact ((approx_deleteCrash h.good h.approx ss lo hi hl).congr (abs_tornDelete hk)).mono fun w hw =>
      List.mem_append.mpr (List.mem_append.mp hw).symm

theorem J_crash {s : State} {st : St} (h : J s st) (hg : Good (stepCrash s tear)) (win : Window) :
    J (stepCrash s tear)
      ⟨if tear then (match st.prev with | some p => st.worlds ++ p | none => st.worlds) else st.worlds, none, win⟩ := by
  refine mkJ hg ?_ rfl _ _
  have hclean : Approx (stepCrash s false) st.worlds := h.approx.congr (abs_step_restart h.good (op := .crash false) rfl)
  cases tear
  · exact hclean
  · rw [if_pos rfl]
    cases hl : s.lastRec
    · have : stepCrash s true = stepCrash s false := by simp [stepCrash, hl]
      rw [this]
      refine hclean.mono fun w hw => ?_
      cases st.prev with
      | none => exact hw
      | some p => exact List.mem_append.mpr (Or.inl hw)
    · obtain ⟨p, hp, hap⟩ := h.torn hl
      rw [hp]; exact hap

theorem step_J {s : State} {st : St} (hj : J s st) (op : Op) (hop : inScope' op = true)
    (hsafe : opSafe s op = true) (tr : List (Op × Obs)) :
    ∃ st', J (step s op).1 st' ∧
      Spec.C02.checkFrom st ((op, (step s op).2) :: tr) = Spec.C02.checkFrom st' tr := by
  have hg := good_step hj.good (by rintro _ rfl; cases hop) hsafe
  -- operations after which every cell is as before and no WAL record is in flight
  have hq : (∀ k t, (step s op).1.abs k t = s.abs k t) → (step s op).1.lastRec = false →
      ∀ win, J (step s op).1 ⟨st.worlds, none, win⟩ :=
    fun he hl win => mkJ hg (hj.approx.congr he) hl none win
  have hi := hj.good.inv
  cases op with
  | write es => exact ⟨_, J_write hj hg _, rfl⟩
  | delete ss lo hi =>
    cases hb : commitLocked s.phase
    · rw [step_delete_ok hb] at hg ⊢
      exact ⟨_, J_delete hj hg (of_decide_eq_true hsafe) hb _, rfl⟩
    · rw [step_delete_blocked hb] at hq ⊢
      exact ⟨_, hq (fun _ _ => rfl) rfl st.win, rfl⟩
  | snapBegin =>
    exact ⟨_, hq (abs_step_silent hi rfl) (lastRec_step_silent rfl)
      (if (step s .snapBegin).2 = .ok then st.win.begin else st.win),
      by show (if _ then _ else _) = _; split <;> rfl⟩
  | snapFail =>
    exact ⟨_, hq (abs_step_silent hi rfl) (lastRec_step_silent rfl)
      (if (step s .snapFail).2 = .failed then st.win.fail else st.win),
      by show (if _ then _ else _) = _; split <;> rfl⟩
  | snapTo p =>
    exact ⟨_, hq (abs_step_silent hi rfl) (lastRec_step_silent rfl) (st.win.snapTo p), rfl⟩
  | compactSet idxs => cases hop
  | read k lo hi asc =>
    exact ⟨_, hq (fun _ _ => rfl) rfl st.win, if_pos (rowsOK2_read hj.approx k lo hi asc)⟩
  | crash tear => exact ⟨_, J_crash hj hg _, rfl⟩
  | compactCrash i j pt n =>
    exact ⟨_, hq (abs_step_restart hj.good rfl) rfl (closeWin st.win), rfl⟩
  | deleteCrash ss lo hi =>
    cases hb : commitLocked s.phase
    · rw [step_deleteCrash_ok hb] at hg ⊢
      exact ⟨_, mkJ hg (approx_deleteCrash hj.good hj.approx ss lo hi hb) rfl none (closeWin st.win), rfl⟩
    · rw [step_deleteCrash_blocked hb] at hq ⊢
      exact ⟨_, hq (fun _ _ => rfl) rfl st.win, rfl⟩
  | _ => exact ⟨_, hq (abs_step_silent hi rfl) (lastRec_step_silent rfl) st.win, rfl⟩

theorem checkFrom_runFrom (ops : List Op) : ∀ (s : State) (st : St), J s st →
    (∀ op ∈ ops, inScope' op = true) → safeFrom s ops = true →
    Spec.C02.checkFrom st (runFrom s ops).2 = none := by
  induction ops with
  | nil => intro s st _ _ _; rfl
  | cons op ops ih =>
    intro s st hj hs hsafe
    have hsf := Bool.and_eq_true_iff.mp hsafe
    obtain ⟨st', hj', hc⟩ := step_J hj op (hs op List.mem_cons_self) hsf.1 (runFrom (step s op).1 ops).2
    exact hc.trans (ih _ _ hj' (fun o ho => hs o (List.mem_cons_of_mem _ ho)) hsf.2)

theorem J_init : J init {} :=
  ⟨good_init, fun _ _ => ⟨[], List.mem_singleton.mpr rfl, rfl⟩, nofun⟩

/-- **C02, partial** — for every history of writes, deletes, snapshot sub-steps, compactions of
    adjacent files, reads and CRASHES (clean at any step boundary incl. inside a snapshot commit,
    with the WAL record of the in-flight write/delete torn off, inside FileStore.replace of a
    compaction, inside a delete after its tombstones), each followed by `Engine.Open` and arbitrary
    further operations, in which no delete covers a point held by the in-flight (or failed, pending)
    snapshot store and no failed snapshot attempt is retried after further writes (`safeFrom`):
    the statement holds on the model's trace — every read returns only values that an
    acknowledged (or in-flight) write put there and no acknowledged delete removed, and returns
    every cell that all acknowledged operations leave alive.  Missing for the full statement:
    the excluded histories (F1, F18). -/
theorem C02_partial (ops : List Op) (hs : ∀ op ∈ ops, inScope' op = true)
    (hsafe : safeFrom init ops = true) : Spec.C02.holdsOn (trace ops) = true := by
  rw [Spec.C02.holdsOn, Spec.C02.check, trace, checkFrom_runFrom ops init {} J_init hs hsafe]
  rfl

/-- every state reached by such a history satisfies the engine + WAL invariants -/
theorem C02_reachable_good (ops : List Op) : ∀ (s : State) (st : St), J s st →
    (∀ op ∈ ops, inScope' op = true) → safeFrom s ops = true → Good (runFrom s ops).1 := by
  suffices h : ∀ s, Good s → (∀ op ∈ ops, inScope' op = true) → safeFrom s ops = true → Good (runFrom s ops).1
    from fun s _ hj => h s hj.good
  induction ops with
  | nil => exact fun s h _ _ => h
  | cons op ops ih =>
    intro s hg hs hsafe
    have hsf := Bool.and_eq_true_iff.mp hsafe
    exact ih _ (good_step hg (by rintro _ rfl; cases hs _ List.mem_cons_self) hsf.1)
      (fun o ho => hs o (List.mem_cons_of_mem _ ho)) hsf.2

/-- **A torn WAL tail is discarded without losing earlier entries**: a segment file holding the
    durable records followed by ANY strict prefix of the bytes of the record in flight is loaded
    (`WALSegmentReader` + `CacheLoader`) as exactly the durable records, and truncated exactly at
    their end — for every entry codec (snappy ∘ marshal) that round-trips. -/
theorem wal_torn_tail (c : Wal.Codec) (recs : List WalEntry) (e : WalEntry) (n : Nat)
    (hn : n < (c.enc e).encode.length) :
    c.load (c.segBytes recs ++ (c.enc e).encode.take n) = recs.map some ∧
    (Wal.loadSegment c.valid (c.segBytes recs ++ (c.enc e).encode.take n)).2 = (c.segBytes recs).length :=
  c.load_torn recs e n hn

/-- an untorn segment loads completely and is not truncated -/
theorem wal_clean (c : Wal.Codec) (recs : List WalEntry) :
    c.load (c.segBytes recs) = recs.map some ∧
    (Wal.loadSegment c.valid (c.segBytes recs)).2 = (c.segBytes recs).length := c.load_clean recs

/-- F1 seen through a crash: write, begin a snapshot, delete the point (acknowledged; the hot
    store is empty, so not even a WAL delete entry is written), crash, reopen, read -/
def f1CrashOps : List Op :=
  [.write [⟨⟨0,0⟩,100,1⟩], .snapBegin, .delete [0] 100 100, .crash false, .read ⟨0,0⟩ 0 1000 true]

/-- **C02 at full strength fails** (the acknowledged delete of the F1 history is lost by the
    crash: the point is replayed from the WAL) -/
theorem C02_full_fails :
    (∀ op ∈ f1CrashOps, inScope' op = true) ∧ Spec.C02.holdsOn (trace f1CrashOps) = false ∧
    Spec.C02.check (trace f1CrashOps) = some "delete-overlaps-inflight-snapshot:s0f0t100" ∧
    safeFrom init f1CrashOps = false := by decide

/-- F18: a snapshot attempt fails after `Cache.Snapshot`, a write is acknowledged, the retry
    commits the OLD snapshot store and removes every closed WAL segment, crash, reopen, read -/
def f18Ops : List Op :=
  [.write [⟨⟨0,0⟩,1,1⟩], .snapFail, .write [⟨⟨0,0⟩,2,2⟩], .snapBegin, .snapTo .idle, .crash false,
   .read ⟨0,0⟩ 0 1000 true]

/-- **C02 at full strength fails, second witness** (reproduced on the real engine by the check):
    the write acknowledged between a failed snapshot attempt and its retry
    is lost by a crash after the retry — `Cache.Snapshot` returns the stale snapshot store for the
    retry while `WAL.ClosedSegments` already lists the segment holding the newer write, and
    `writeSnapshotAndCommit` removes it. -/
theorem C02_full_fails_retry :
    (∀ op ∈ f18Ops, inScope' op = true) ∧ Spec.C02.holdsOn (trace f18Ops) = false ∧
    Spec.C02.check (trace f18Ops) = some "write-after-failed-snapshot-lost:s0f0t2" ∧
    (trace f18Ops).getLast? = some (.read ⟨0,0⟩ 0 1000 true, .rows [(1, 1)]) ∧
    safeFrom init f18Ops = false := by decide

/-- the hypotheses of C02_partial are met by a history with a torn write, a crash inside a
    snapshot commit, a crash inside a compaction's replace, a delete interrupted after its
    tombstones, and writes after every reopen -/
def okOps : List Op :=
  [.write [⟨⟨0,0⟩,1,1⟩], .write [⟨⟨0,0⟩,2,2⟩], .crash true, .read ⟨0,0⟩ 0 10 true,
   .write [⟨⟨0,0⟩,3,3⟩], .snapBegin, .snapTo .replaced, .crash false, .read ⟨0,0⟩ 0 10 true,
   .write [⟨⟨0,0⟩,1,5⟩], .snapBegin, .snapTo .idle, .compactCrash 0 1 .afterRemoveOld 1, .read ⟨0,0⟩ 0 10 true,
   .delete [0] 3 3, .crash false, .deleteCrash [0] 1 1, .read ⟨0,0⟩ 0 10 true, .write [⟨⟨0,0⟩,7,7⟩],
   .snapFail, .snapBegin, .snapTo .idle, .crash false, .read ⟨0,0⟩ 0 10 false]

example : (∀ op ∈ okOps, inScope' op = true) ∧ safeFrom init okOps = true ∧
    (trace okOps)[3]? = some (.read ⟨0,0⟩ 0 10 true, .rows [(1, 1)]) ∧
    (trace okOps)[8]? = some (.read ⟨0,0⟩ 0 10 true, .rows [(1, 1), (3, 3)]) ∧
    (trace okOps)[13]? = some (.read ⟨0,0⟩ 0 10 true, .rows [(1, 5), (3, 3)]) ∧
    (trace okOps).getLast? = some (.read ⟨0,0⟩ 0 10 false, .rows [(7, 7)]) := by decide

end Influx.Props.C02
