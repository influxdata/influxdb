/-
  Props.C39 — Concurrent shard operations stay consistent (PARTIAL by nature).

  Decided, for every interleaving of the atomic steps of Model.EngineSteps (unbounded
  executions, arbitrary states): snapshot and compaction steps are invisible under the
  invariant `Inv`, which every execution keeps as long as no delete step runs between a
  snapshot's Replace and its Clear (C03's known window, recorded there); a two-phase read
  (Cache.Values, later KeyCursor) is linearizable per point; the order of the two read
  phases and Replace-before-ClearSnapshot are both necessary; a write batch under
  Engine.mu shared is atomic against a snapshot under Engine.mu exclusive; an acyclic
  lock-acquisition relation admits no deadlock state of the lock model, and the relation
  extracted from the Go source (committed copy) is acyclic.

  What is NOT decided (DESIGN §7): Go-memory-model data races, panics, deadlocks
  through channels / WaitGroups / condition variables, instance-level lock order
  (two locks of the same field of different objects).
-/
import Influx.Lemmas.EngineTrace
import Influx.Model.EngineBatch
import Influx.Model.LockOrder
import Influx.Model.LockOrderExtracted

namespace Influx.Props.C39
open Influx.Conc

/-- **C39 (writes)**: a write step sets its point and nothing else. -/
theorem C39_write (s : St) (k : Key) (t : TS) (v : Val) (k' : Key) (t' : TS) :
    (step s (.wr k t v)).abs k' t' = if k' = k ∧ t' = t then some v else s.abs k' t' :=
  abs_write s k t v k' t'

/-- **C39 (maintenance is invisible)**: under the invariant `Inv`, no snapshot or
    compaction step changes what the shard abstractly contains. -/
theorem C39_maintenance_invisible (s : St) (hi : Inv s) (σ : Step) (hm : maintenance σ = true)
    (k : Key) (t : TS) : (step s σ).abs k t = s.abs k t :=
  maintenance_invisible s hi σ hm k t

def Admissible : St → List Step → Prop
  | _, [] => True
  | s, σ :: rest => admissible s σ = true ∧ Admissible (step s σ) rest

/-- **the invariant holds along every admissible execution** -/
theorem C39_inv_run (s : St) (hi : Inv s) (σs : List Step) (ha : Admissible s σs) : Inv (run s σs) := by
  induction σs generalizing s with
  | nil => exact hi
  | cons σ rest ih => exact ih _ (Inv_step s hi σ ha.1) ha.2

/-- … hence maintenance-only executions leave the content untouched, at any length. -/
theorem C39_maintenance_run (s : St) (hi : Inv s) (σs : List Step) (hm : ∀ σ ∈ σs, maintenance σ = true)
    (k : Key) (t : TS) : (run s σs).abs k t = s.abs k t := by
  induction σs generalizing s with
  | nil => rfl
  | cons σ rest ih =>
    have hσ := hm σ List.mem_cons_self
    -- a maintenance step is not a delete, hence admissible in every state
    have hadm : admissible s σ = true := by
      cases σ <;> first | rfl | cases hσ
    exact (ih _ (Inv_step s hi σ hadm) fun τ hτ => hm τ (List.mem_cons_of_mem _ hτ)).trans
      (C39_maintenance_invisible s hi σ hσ k t)

theorem filesView_step (s : St) (σ : Step) (k : Key) (t : TS) (hd : σ.deletes k t = false) :
    (step s σ).filesView k t = s.filesView k t ∨
    ∃ v, s.snap.get k t = some v ∧ (step s σ).filesView k t = some v := by
  cases σ with
  | wr => exact .inl rfl
  | delCache => exact .inl rfl
  | snapBegin => left; simp only [step]; split <;> rfl
  | snapClear => left; simp only [step]; split <;> rfl
  | compact n =>
    left; simp only [step]
    split
    · rfl
    · exact filesGet_compact ..
  | delFile i k' lo hi => exact .inl (filesGet_addTomb_other _ i s.files k t hd)
  | snapReplace =>
    simp only [step]
    split
    · split
      · exact .inl rfl
      · have hf := filesGet_append_store s.files s.snap k t
        cases hs : s.snap.get k t with
        | none => exact .inl (hf.trans (by rw [hs]; rfl))
        | some v => exact .inr ⟨v, rfl, hf.trans (by rw [hs]; rfl)⟩
    · exact .inl rfl

theorem snap_step (s : St) (σ : Step) (k : Key) (t : TS) (v : Val)
    (h : (step s σ).snap.get k t = some v) :
    s.snap.get k t = some v ∨ (step s σ).abs k t = some v := by
  cases σ with
  | wr => exact .inl h
  | delFile => exact .inl h
  | delCache => exact .inl h
  | snapReplace => left; simp only [step] at h; split at h <;> (try split at h) <;> exact h
  | compact n => left; simp only [step] at h; split at h <;> exact h
  | snapClear =>
    simp only [step] at h
    split at h
    · cases h
    · exact .inl h
  | snapBegin =>
    simp only [step] at h ⊢
    split at h
    · exact .inr (congrArg (Option.or · _) h)
    · exact .inl h

/-- where a value `v` found for (k,t) after the steps `σs` from `s` comes from: the snapshot store
    held it in `s`, or it was the abstract value at some instant after the first step -/
def Origin (s : St) (σs : List Step) (k : Key) (t : TS) (v : Val) : Prop :=
  s.snap.get k t = some v ∨ ∃ pre post, σs = pre ++ post ∧ pre ≠ [] ∧ (run s pre).abs k t = some v

theorem Origin.cons {s : St} {σ : Step} {rest : List Step} {k : Key} {t : TS} {v : Val}
    (h : Origin (step s σ) rest k t v) : Origin s (σ :: rest) k t v := by
  rcases h with h | ⟨pre, post, hpp, _, habs⟩
  · exact (snap_step s σ k t v h).imp_right fun habs => ⟨[σ], rest, rfl, List.cons_ne_nil _ _, habs⟩
  · exact .inr ⟨σ :: pre, post, congrArg _ hpp, List.cons_ne_nil _ _, habs⟩

theorem snap_run (σs : List Step) (s : St) (k : Key) (t : TS) (v : Val)
    (h : (run s σs).snap.get k t = some v) :
    s.snap.get k t = some v ∨
    ∃ pre post, σs = pre ++ post ∧ pre ≠ [] ∧ (run s pre).abs k t = some v := by
  induction σs generalizing s with
  | nil => exact .inl h
  | cons σ rest ih => exact Origin.cons (ih (step s σ) h)

theorem files_run (σs : List Step) (s : St) (k : Key) (t : TS)
    (hd : ∀ σ ∈ σs, σ.deletes k t = false) :
    (run s σs).filesView k t = s.filesView k t ∨
    ∃ v, (run s σs).filesView k t = some v ∧ Origin s σs k t v := by
  induction σs generalizing s with
  | nil => exact .inl rfl
  | cons σ rest ih =>
    rcases ih (step s σ) fun τ hτ => hd τ (List.mem_cons_of_mem _ hτ) with h1 | ⟨v, hv, h2⟩
    · rcases filesView_step s σ k t (hd σ List.mem_cons_self) with h3 | ⟨v, hs, hv⟩
      · exact .inl (h1.trans h3)
      · exact .inr ⟨v, h1.trans hv, .inl hs⟩
    · exact .inr ⟨v, hv, h2.cons⟩

/-- **C39 (reads are linearizable per point)**: a read that takes the cache values
    in state `s` and, after ANY interleaved steps `σs` that do not delete (k,t),
    the file values, returns for (k,t) exactly the abstract value of the shard at
    some instant between its two phases. -/
theorem C39_read_point (s : St) (σs : List Step) (k : Key) (t : TS)
    (hd : ∀ σ ∈ σs, σ.deletes k t = false) :
    ∃ pre post, σs = pre ++ post ∧ readPoint s (run s σs) k t = (run s pre).abs k t := by
  unfold readPoint
  cases hc : s.cacheView k t with
  | some v => exact ⟨[], σs, rfl, by show _ = (s.cacheView k t).or _; rw [hc]; rfl⟩
  | none =>
    have hsnap : s.snap.get k t = none := by
      unfold St.cacheView at hc
      cases h1 : s.cache.get k t with
      | none => rw [h1] at hc; exact hc
      | some w => rw [h1] at hc; cases hc
    rcases files_run σs s k t hd with h | ⟨v, hv, h | ⟨pre, post, hpp, _, habs⟩⟩
    · exact ⟨[], σs, rfl, by show _ = (s.cacheView k t).or _; rw [hc]; exact h⟩
    · rw [hsnap] at h; cases h
    · exact ⟨pre, post, hpp, hv.trans habs.symm⟩

def w0 : St := { cache := [(0, 1, 7)], snap := [], phase := .idle, files := [] }

/-- **Reading files first and the cache second would lose data**: during a whole
    snapshot the point (0,1) is abstractly present at every instant, yet the
    swapped read returns nothing. -/
theorem C39_read_order_matters :
    (∀ pre post, [Step.snapBegin, .snapReplace, .snapClear] = pre ++ post → (run w0 pre).abs 0 1 = some 7) ∧
    readPointSwapped w0 (run w0 [.snapBegin, .snapReplace, .snapClear]) 0 1 = none ∧
    readPoint w0 (run w0 [.snapBegin, .snapReplace, .snapClear]) 0 1 = some 7 := by
  refine ⟨fun pre post h => ?_, by decide, by decide⟩
  -- every prefix consists of maintenance steps, which are invisible
  have hm : ∀ σ ∈ pre, maintenance σ = true := fun σ hσ => by
    have : σ ∈ [Step.snapBegin, .snapReplace, .snapClear] := h ▸ List.mem_append_left _ hσ
    simp only [List.mem_cons, List.not_mem_nil, or_false] at this
    rcases this with rfl | rfl | rfl <;> rfl
  exact C39_maintenance_run w0 ⟨fun _ => rfl, fun h => (by cases h)⟩ pre hm 0 1

/-- the snapshot commit with its two steps swapped (ClearSnapshot before Replace) -/
def clearThenReplace (s : St) : List St :=
  let s1 : St := { s with snap := [], phase := .idle }
  let s2 : St := { s1 with files := s.files ++ [{ pts := s.snap, tombs := [] }] }
  [s1, s2]

/-- **Clearing the snapshot store before the file is in the FileStore would make
    data vanish** for a reader in between (the code does Replace first: the `snapReplace` and
    `snapClear` cases of `maintenance_invisible`). -/
theorem C39_commit_order_matters :
    let s := step w0 .snapBegin
    s.abs 0 1 = some 7 ∧ (clearThenReplace s).map (fun x => x.abs 0 1) = [none, some 7] := by
  decide

/-- **The hypothesis of `C39_inv_run` is necessary** (C03's window, recorded under
    C03): a delete that runs between Replace and Clear — file tombstoned, hot cache
    filtered, snapshot store untouched — leaves the point visible until Clear, and
    so `Inv` fails there (`snapClear` is a maintenance step). -/
theorem C39_delete_window :
    let s := run w0 [.snapBegin, .snapReplace, .delFile 0 0 1 1, .delCache 0 1 1]
    s.abs 0 1 = some 7 ∧ (step s .snapClear).abs 0 1 = none := by
  decide

/-- **C39_holdsOn (partial)**: on every schedule of the model's operation machine that
    does not split a read into its two phases — any sequence of writes, snapshot
    begin / replace / clear, compaction begin / commit, whole deletes, deletes held
    between their tombstones and their cache step (with writes racing them), and
    atomic reads at every intermediate state — the statement checker `Spec.C39` (the
    one evaluated on the REAL engine's answers) finds every read explained by a serial
    order of the completed operations.  Missing: schedules with two-phase reads; for
    those the per-point theorem `C39_read_point` holds at state level and the
    correspondence run compares every answer with the real engine. -/
theorem C39_holdsOn_partial (ops : List Op) (hops : ∀ op ∈ ops, op.twoPhase = false) :
    Spec.C39.holdsOn (sysRun Sys.init ops) = true := by
  unfold Spec.C39.holdsOn
  rw [failures_sys ops Sys.init Spec.C39.SpecSt.init Rel_init hops]
  rfl

example : ∀ op ∈ [Op.write 0 1 7, .snapBegin, .read 0, .write 0 1 8, .snapReplace, .compactBegin, .read 0,
    .snapClear, .compactCommit, .delBegin 0 1 1, .write 0 1 5, .read 0, .delEnd, .read 0], op.twoPhase = false := by
  decide

theorem run_append (s : St) (a b : List Step) : run s (a ++ b) = run (run s a) b := by
  induction a generalizing s with
  | nil => rfl
  | cons σ a ih => simp [run, ih]

/-- every batch in flight captured the CURRENT hot store -/
def WInv (s : FSt) : Prop := ∀ w ∈ s.writers, w.2 = s.gen

theorem fstep_exclusive (s s' : FSt) (hinv : WInv s) (σ : FStep) (hx : σ ≠ .snapBegin false)
    (hs : fstep s σ = some s') : WInv s' ∧ s'.st = run s.st (coarsen σ) := by
  cases σ with
  | wBegin i =>
    simp only [fstep] at hs
    split at hs
    · cases hs
    · cases hs
      exact ⟨fun w hw => (List.mem_cons.mp hw).elim (congrArg Prod.snd) (hinv w), rfl⟩
  | wKey i k t v =>
    simp only [fstep] at hs
    cases hf : s.writers.find? (fun w => w.1 == i) with
    | none => rw [hf] at hs; cases hs
    | some w =>
      obtain ⟨wi, g⟩ := w
      -- the batch captured the current hot store: its write is the coarse `wr`
      have hg : g = s.gen := hinv (wi, g) (List.mem_of_find?_eq_some hf)
      simp only [hf, hg, if_true] at hs
      cases hs
      exact ⟨hinv, rfl⟩
  | wEnd i =>
    simp only [fstep] at hs
    split at hs
    · cases hs
      exact ⟨fun w hw => hinv w (List.mem_filter.mp hw).1, rfl⟩
    · cases hs
  | snapBegin e =>
    cases e with
    | false => exact absurd rfl hx
    | true =>
      simp only [fstep, Bool.true_and] at hs
      split at hs
      · cases hs
      · next hne =>
        -- the exclusive lock was granted: no batch is in flight
        have hw : s.writers = [] := by simpa using hne
        split at hs
        · cases hs
          exact ⟨fun w hw' => (by rw [hw] at hw'; cases hw'), rfl⟩
        · next hph =>
          cases hs
          refine ⟨hinv, ?_⟩
          show s.st = step s.st .snapBegin
          simp only [step]
          split
          · next hp => rw [hp] at hph; exact absurd rfl hph
          · rfl
  | other τ => cases τ <;> cases hs <;> exact ⟨hinv, rfl⟩

/-- **C39 (batch atomicity from the lock modes)**: in the finer model where a write
    batch captures the hot store once and then writes its keys one by one while
    holding Engine.mu SHARED, if every Cache.Snapshot runs under Engine.mu EXCLUSIVE
    (`snapshot=W write=R`, re-extracted from the source on every run), then every
    execution the lock admits is an execution of the coarse step model with each
    key write as an atomic `wr` step: no batch ever writes into a store that has
    become the snapshot.  All theorems about `run` (reads, maintenance) therefore
    apply to batches. -/
theorem C39_batch_atomicity (σs : List FStep) (s s' : FSt) (hinv : WInv s)
    (hex : allExclusive σs = true) (hr : frun s σs = some s') :
    s'.st = run s.st (σs.flatMap coarsen) ∧ WInv s' := by
  induction σs generalizing s with
  | nil => cases hr; exact ⟨rfl, hinv⟩
  | cons σ rest ih =>
    simp only [frun] at hr
    cases hs : fstep s σ with
    | none => rw [hs] at hr; cases hr
    | some s1 =>
      rw [hs] at hr
      have hx : σ ≠ .snapBegin false := fun hc => by rw [hc] at hex; cases hex
      have hrest : allExclusive rest = true := by
        cases σ with
        | snapBegin e => exact (Bool.and_eq_true_iff.mp hex).2
        | _ => exact hex
      obtain ⟨hinv1, hst1⟩ := fstep_exclusive s s1 hinv σ hx hs
      obtain ⟨h1, h2⟩ := ih s1 hinv1 hrest hr
      refine ⟨?_, h2⟩
      rw [List.flatMap_cons, run_append, ← hst1]; exact h1

/-- **With a SHARED lock around Cache.Snapshot an acknowledged write is lost**: batch 1
    writes (0,1), a snapshot begins and its file is written while the batch is still
    in flight, the batch then writes (0,2) into the store that has become the
    snapshot, ends (acknowledged), ClearSnapshot drops that store: (0,2) is not
    readable, and no coarse execution of the two writes explains that. -/
theorem C39_shared_snapshot_loses_write :
    (frun FSt.init [.wBegin 1, .wKey 1 0 1 7, .snapBegin false, .other .snapReplace,
        .wKey 1 0 2 8, .wEnd 1, .other .snapClear]).map (fun s => (s.st.abs 0 1, s.st.abs 0 2, s.writers))
      = some (some 7, none, []) ∧
    frun FSt.init [.wBegin 1, .wKey 1 0 1 7, .snapBegin true] = none := by
  decide

open Influx.LockOrder

theorem exists_max_of_ne_nil {α : Type} (f : α → Nat) (l : List α) (h : l ≠ []) :
    ∃ x ∈ l, ∀ y ∈ l, f y ≤ f x := by
  induction l with
  | nil => exact absurd rfl h
  | cons a l ih =>
    by_cases hl : l = []
    · subst hl; exact ⟨a, by simp, by simp⟩
    · obtain ⟨x, hx, hmax⟩ := ih hl
      by_cases hax : f x ≤ f a
      · refine ⟨a, by simp, ?_⟩
        intro y hy
        rcases List.mem_cons.mp hy with rfl | hy
        · exact Nat.le_refl _
        · exact Nat.le_trans (hmax y hy) hax
      · refine ⟨x, by simp [hx], ?_⟩
        intro y hy
        rcases List.mem_cons.mp hy with rfl | hy
        · omega
        · exact hmax y hy

/-- **C39 (no deadlock state under an acyclic acquisition order)**: if the
    acquisition relation E has a rank (every pair goes strictly up — i.e. E is
    acyclic), then no set of threads that respect E is deadlocked. -/
theorem C39_no_deadlock (E : Lock → Lock → Prop) (rank : Lock → Nat)
    (hE : ∀ a b, E a b → rank a < rank b)
    (ts : List Thread) (hr : ∀ t ∈ ts, Respects E t) : ¬ Deadlocked ts := by
  intro ⟨hne, hdl⟩
  let f : Thread → Nat := fun t => match t.waiting with | some b => rank b | none => 0
  obtain ⟨x, hx, hmax⟩ := exists_max_of_ne_nil f ts hne
  obtain ⟨b, hwb, t', ht', hheld⟩ := hdl x hx
  obtain ⟨b', hwb', _⟩ := hdl t' ht'
  have hlt : rank b < rank b' := hE b b' (hr t' ht' b hheld b' hwb')
  have h1 : f x = rank b := by simp [f, hwb]
  have h2 : f t' = rank b' := by simp [f, hwb']
  have := hmax t' ht'
  omega

theorem checkOrder_sound (order : List Lock) (E : List (Lock × Lock)) (h : checkOrder order E = true) :
    ∀ a b, (a, b) ∈ E → rankIn order a < rankIn order b := by
  intro a b hab
  unfold checkOrder at h
  rw [List.all_eq_true] at h
  simpa using h (a, b) hab

/-- **the executable check is sound**: when `isAcyclic` accepts a relation, the
    relation has a rank. -/
theorem C39_isAcyclic_sound (E : List (Lock × Lock)) (h : isAcyclic E = true) :
    ∃ rank : Lock → Nat, ∀ a b, (a, b) ∈ E → rank a < rank b :=
  ⟨rankIn (topoOrder E), checkOrder_sound _ E h⟩

/-- … hence no deadlock state among threads that nest locks only as extracted. -/
theorem C39_lock_order (E : List (Lock × Lock)) (h : isAcyclic E = true)
    (ts : List Thread) (hr : ∀ t ∈ ts, Respects (fun a b => (a, b) ∈ E) t) : ¬ Deadlocked ts := by
  obtain ⟨rank, hrank⟩ := C39_isAcyclic_sound E h
  exact C39_no_deadlock _ rank hrank ts hr

/-- **the relation extracted from the current source (committed copy) is acyclic** -/
theorem C39_extracted_acyclic : checkOrder extractedOrder extractedEdges = true := by decide +kernel

theorem C39_extracted_no_deadlock (ts : List Thread)
    (hr : ∀ t ∈ ts, Respects (fun a b => (a, b) ∈ extractedEdges) t) : ¬ Deadlocked ts :=
  C39_no_deadlock _ (rankIn extractedOrder) (checkOrder_sound _ _ C39_extracted_acyclic) ts hr

example : Inv w0 := ⟨fun _ => rfl, fun h => by simp [w0] at h⟩
example : Admissible w0 [.snapBegin, .wr 1 2 3, .snapReplace, .compact 1, .snapClear, .delFile 0 0 1 1, .delCache 0 1 1] :=
  ⟨rfl, rfl, rfl, rfl, rfl, rfl, rfl, trivial⟩
example : Respects (fun a b => (a, b) ∈ extractedEdges)
    { held := ["tsm1.Engine.mu"], waiting := some "tsm1.Cache.mu" } := by
  intro a ha b hb
  cases List.mem_singleton.mp ha
  cases hb
  decide +kernel

end Influx.Props.C39
