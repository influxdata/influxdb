/-
  Props.C38 — Shard backup and restore preserve data.

  The model (Influx.Model.Backup) follows tsm1.Engine.Backup / Export / Restore /
  Import as the code is, including four behaviours that make the property's text
  false of the unchanged code (each replayed on the real engine by the C38
  harness and recorded in findings.d/C38.json):

    * Restore/Import skip the tombstone files of the archive: deleted points reappear;
    * Export copies whole blocks: points outside the range (even stale ones) are exported;
    * Export fails on any shard that has a tombstone file;
    * Export fails when a file overlaps the range but none of its blocks does.
-/
import Influx.Lemmas.BackupTrace
import Influx.Spec.C38

namespace Influx.Props.C38
open Influx.Backup

/-- The cache snapshot that `Backup`/`Export` take first does not change what the
    source shard reads (so "the source" is well defined). -/
theorem C38_flush (s : Shard) (k : Key) (t : TS) : s.flush.abs k t = s.abs k t :=
  abs_flush s k t

/-- The invariants (files sorted by name, generations below the counter, block bounds, a file
    without tombstone file has no tombstone records) hold in every state the model reaches
    from one that satisfies them (the empty shard does: `Shard.Inv_empty`). -/
theorem C38_reachable_inv (ops : List Op) (st : State) (h : st.src.Inv) :
    ∀ st', (ops.foldl (fun s op => (step s op).1) st) = st' → st'.src.Inv := by
  induction ops generalizing st with
  | nil => intro st' h'; subst h'; exact h
  | cons op ops ih => intro st' h'; exact ih _ (step_Inv st op h) st' h'

/-- the shard a full backup of `s` restores to, from empty -/
def restored (s : Shard) : Shard := Shard.empty.restore (s.backup none).2

/-- the shard a full backup of `s` imports to, from empty -/
def imported (s : Shard) : Shard := Shard.empty.importA (s.backup none).2

/-- **Restore reads the source without its tombstones.** -/
theorem C38_restore_raw (s : Shard) (hs : s.Inv) (k : Key) (t : TS) :
    (restored s).abs k t = filesLookupRaw s.flush.files k t := by
  obtain ⟨hf, hc, _⟩ := restore_spec Shard.empty (s.backup none).2
  unfold restored Shard.abs
  rw [hc, hf]
  show (none : Option Val).or (filesLookup (restoreFiles [] (backupEntries none s.flush.files)) k t) = _
  rw [restoreFiles_backup_none [] s.flush.files (Shard.Inv_flush s hs).sorted, List.nil_append,
    filesLookup_map_strip, Option.none_or]

/-- **C38, restore clause, partial**: a shard without tombstone records is
    restored to the same readable content.  (Missing for the full statement:
    shards that have tombstones — there the statement is false, `C38_full_fails`.) -/
theorem C38_restore_partial (s : Shard) (hs : s.Inv) (hnt : ∀ f ∈ s.files, f.tombs = [])
    (k : Key) (t : TS) : (restored s).abs k t = s.abs k t := by
  rw [C38_restore_raw s hs, ← C38_flush s, flush_abs_files,
    filesLookup_eq_raw_of_no_tombs _ (flush_no_tombs s hnt)]

/-- Exact characterisation: the restored shard equals the source iff dropping the
    source's tombstones changes nothing. -/
theorem C38_restore_iff (s : Shard) (hs : s.Inv) :
    (∀ k t, (restored s).abs k t = s.abs k t) ↔
    (∀ k t, filesLookupRaw s.flush.files k t = filesLookup s.flush.files k t) := by
  constructor
  · intro h k t; rw [← C38_restore_raw s hs, h, ← C38_flush s, flush_abs_files]
  · intro h k t; rw [C38_restore_raw s hs, h, ← flush_abs_files, C38_flush]

/-- the witness history: write t=1..3, snapshot, delete t=2 -/
def witness : Shard :=
  ((Shard.empty.write 0 1 1 3 100).flush).delete [0] 2 2

/-- **The full restore clause is false of the code**: after `w 0 1 1 3 100; snap;
    d 0 2 2` the source no longer reads t=2, the restored backup does. -/
theorem C38_full_fails :
    ¬ (∀ s : Shard, s.Inv → ∀ k t, (restored s).abs k t = s.abs k t) := by
  intro h
  have hinv : witness.Inv :=
    Shard.Inv_delete _ (Shard.Inv_flush _ (Shard.Inv_write _ Shard.Inv_empty _ _ _ _ _)) _ _ _
  have := h witness hinv 0 2
  revert this
  decide

/-- **Import of a full backup**, partial like restore: files are renamed to fresh
    ascending generations in archive order, so the same content is read. -/
theorem C38_import_partial (s : Shard) (hnt : ∀ f ∈ s.files, f.tombs = [])
    (k : Key) (t : TS) : (imported s).abs k t = s.abs k t := by
  show (Shard.empty.importA (backupEntries none s.flush.files)).abs k t = _
  rw [imported_abs, archiveBlocks_backup_none, ← filesLookupRaw_eq_bsLookup,
    ← filesLookup_eq_raw_of_no_tombs _ (flush_no_tombs s hnt), ← flush_abs_files, C38_flush]

/-- **C38, incremental clause (full)**: every TSM file of the shard whose
    modification time is after `since` is in the archive with its blocks, and so
    is every tombstone file modified after `since`. -/
theorem C38_incremental (s : Shard) (since : Option Int) (f : TFile) (hf : f ∈ (s.backup since).1.files) :
    (f.mtime.after since = true → Entry.tsm f.gen f.seq f.blocks ∈ (s.backup since).2) ∧
    (∀ m, f.tombM = some m → m.after since = true → Entry.tomb f.gen f.seq ∈ (s.backup since).2) := by
  exact ⟨fun h => mem_backupEntries.mpr ⟨f, hf, Or.inl ⟨rfl, h⟩⟩,
    fun m hm h => mem_backupEntries.mpr ⟨f, hf, Or.inr ⟨rfl, m, hm, h⟩⟩⟩

/-- … and the archive contains nothing else: every entry is a file of the shard
    modified after `since`. -/
theorem C38_incremental_exact (s : Shard) (since : Option Int) (e : Entry) (he : e ∈ (s.backup since).2) :
    ∃ f ∈ (s.backup since).1.files,
      (e = Entry.tsm f.gen f.seq f.blocks ∧ f.mtime.after since = true) ∨
      (e = Entry.tomb f.gen f.seq ∧ ∃ m, f.tombM = some m ∧ m.after since = true) :=
  mem_backupEntries.mp he

/-- the shard an archive imports to, from empty -/
def importedFrom (ar : Archive) : Shard := Shard.empty.importA ar

theorem importedFrom_abs (ar : Archive) (k : Key) (t : TS) :
    (importedFrom ar).abs k t = bsLookup (archiveBlocks ar) k t :=
  imported_abs ar k t

/-- **C38, export clause, lower half**: when Export succeeds, every source point
    inside [a,e] is in the export with the same value (and no other value is read
    there). -/
theorem C38_export_lower (s : Shard) (hs : s.Inv) (a e : TS) (ar : Archive)
    (h : (s.export a e).2 = .ok ar) (k : Key) (t : TS) (ha : a ≤ t) (he : t ≤ e) :
    (importedFrom ar).abs k t = s.abs k t := by
  have hinv := Shard.Inv_flush s hs
  have hok := exportEntries_ok h
  rw [importedFrom_abs, hok.1,
    bsLookup_export _ (fun f hf => (hinv.wf f hf).1) a e k t ha he,
    ← filesLookupRaw_eq_bsLookup,
    ← filesLookup_eq_raw_of_no_tombs _ (export_no_tombs_files hinv h), ← flush_abs_files, C38_flush]

/-- **C38, export clause, upper half**: every point read from the export is a
    point of some block of the source (same key) that overlaps [a,e] — the export
    is block-granular.  It need not be a *current* point of the source, nor lie in
    the range (`C38_export_full_fails`). -/
theorem C38_export_upper (s : Shard) (hs : s.Inv) (a e : TS) (hae : a ≤ e) (ar : Archive)
    (h : (s.export a e).2 = .ok ar) (k : Key) (t : TS) (v : Val)
    (hv : (importedFrom ar).abs k t = some v) :
    ∃ f ∈ s.flush.files, ∃ b ∈ f.blocks,
      b.lookup k t = some v ∧ b.key = k ∧ b.lo ≤ t ∧ t ≤ b.hi ∧ b.lo ≤ e ∧ b.hi ≥ a := by
  have hinv := Shard.Inv_flush s hs
  have hok := exportEntries_ok h
  rw [importedFrom_abs, hok.1] at hv
  exact bsLookup_export_some _ (fun f hf => (hinv.wf f hf).1) a e hae k t v hv

/-- witness: ten points in one block, export of [3,5] -/
def exportWitness : Shard := (Shard.empty.write 0 1 1 10 100).flush

/-- **"Exactly the points in that range" is false of the code**: exporting [3,5]
    of a block holding t=1..10 exports t=1 as well. -/
theorem C38_export_full_fails :
    ¬ (∀ (s : Shard) (a e : TS) (ar : Archive), s.Inv → (s.export a e).2 = .ok ar →
        ∀ k t v, (importedFrom ar).abs k t = some v → a ≤ t ∧ t ≤ e) := by
  intro h
  have hinv : exportWitness.Inv := Shard.Inv_flush _ (Shard.Inv_write _ Shard.Inv_empty _ _ _ _ _)
  have := h exportWitness 3 5 _ hinv rfl 0 1 100 (by decide)
  revert this
  decide

/-- When Export fails, a file has a tombstone file (`.tombstone`), or a file must be filtered
    and none of its blocks overlaps the range (`.noValues`); the converse is `C38_export_ok`. -/
theorem C38_export_err_tombstone (s : Shard) (a e : TS)
    (h : (s.export a e).2 = .error .tombstone) : ∃ f ∈ s.flush.files, f.tombM.isSome = true :=
  exportEntries_tombstone h

theorem C38_export_err_gap (s : Shard) (a e : TS)
    (h : (s.export a e).2 = .error .noValues) :
    ∃ f ∈ s.flush.files, f.needsFilter a e = true ∧ ∀ b ∈ f.blocks, b.overlaps a e = false :=
  exportEntries_noValues h

/-- Conversely: with no tombstone file and every filtered file keeping a block, Export succeeds. -/
theorem C38_export_ok (s : Shard) (a e : TS)
    (h1 : ∀ f ∈ s.flush.files, f.tombM = none)
    (h2 : ∀ f ∈ s.flush.files, f.needsFilter a e = true → ∃ b ∈ f.blocks, b.overlaps a e = true) :
    ∃ ar, (s.export a e).2 = .ok ar := by
  have := exportEntries_spec a e s.flush.files
  split at this
  · next ar h => exact ⟨ar, h⟩
  · obtain ⟨f, hf, ht⟩ := this
    rw [h1 f hf] at ht; cases ht
  · obtain ⟨f, hf, hn, hb⟩ := this
    obtain ⟨b, hbm, hbo⟩ := h2 f hf hn
    rw [hb b hbm] at hbo; cases hbo

/-- why the tombstones are lost: with the constants of the current source, a name
    ending in `.tombstone` fails the suffix test of `readFileFromBackup`, a `.tsm` name passes -/
theorem C38_tombstone_name_skipped :
    restoresName ("000000001-000000001." ++ Influx.Generated.BackupConsts.TombstoneFileExtension) = false ∧
    restoresName ("000000001-000000001." ++ Influx.Generated.BackupConsts.TSMFileExtension) = true := by
  decide +kernel

/-- **C38_holdsOn_partial** (unconditional, "partial" = modulo the known findings): on
    EVERY trace of the model — any sequence of writes, range deletes, snapshots,
    compactions, mtime changes, backups, exports, restores and imports — the statement
    checker `Spec.C38` (the one the check evaluates on the REAL engine's answers)
    reports nothing but the four known kinds of failure (`Sig.known`: tombstones lost
    by restore, whole-block exports, the two Export errors): never a wrong restore
    without a tombstone file, a missing incremental file, a point missing from an
    export, an exported point outside the overlapping blocks, an unexplained Export
    error, a restored series the source did not list.  What is missing for the full
    statement is exactly what is false of the code (`C38_full_fails`,
    `C38_export_full_fails`). -/
theorem C38_holdsOn_partial (ops : List Op) :
    Spec.C38.holdsModuloKnown (run State.init ops) = true := by
  unfold Spec.C38.holdsModuloKnown Spec.C38.failures
  rw [List.all_eq_true]
  exact failures_known ops State.init [] Shard.Inv_empty Linked.nil
    (seriesAlong_all ops State.init Shard.Inv_empty Shard.Inv2_empty)

/-- the series index of the model: in every reachable state each key of a file is
    listed, or all its points in that file are tombstoned (`indirectIndex.DeleteRange`
    only drops a key whose tombstones cover its whole range — `gone_allTombstoned`) -/
theorem C38_series_inv (ops : List Op) (st : State) (hi : st.src.Inv) (h : st.src.Inv2) :
    ∀ st', (ops.foldl (fun s op => (step s op).1) st) = st' → st'.src.Inv2 := by
  induction ops generalizing st with
  | nil => intro st' h'; subst h'; exact h
  | cons op ops ih => intro st' h'; exact ih _ (step_Inv st op hi) (step_Inv2 st op hi h) st' h'

/-- **C38_holdsOn**: on every history WITHOUT range deletes and exports — any mix of
    writes (overlapping rewrites included), cache snapshots, full compactions, mtime
    changes, full and incremental backups, restores and imports — the statement
    holds of the model outright: the checker reports no failure at all.  (With
    deletes or exports the statement is false of the code: `C38_full_fails`,
    `C38_export_full_fails`; what then still holds is `C38_holdsOn_partial`.) -/
theorem C38_holdsOn (ops : List Op) (hops : ∀ op ∈ ops, op.clean = true) :
    Spec.C38.holdsOn (run State.init ops) = true := by
  unfold Spec.C38.holdsOn Spec.C38.failures
  rw [failures_clean ops State.init [] Shard.Inv_empty Linked.nil Shard.Clean_empty
    (fun _ h => by simp at h) hops]
  rfl

-- non-vacuity of the hypotheses used above
example : ∀ op ∈ [Op.write 0 1 1 3 100, .snap, .write 0 2 1 2 7, .backup "a" none, .restore ["a"], .age 5,
    .write 1 0 1 1 1, .compact, .backup "i" (some 5), .importA ["a"]], op.clean = true := by decide

end Influx.Props.C38
