/-
  Props.C20 — Windowed aggregate pushdown equals aggregating the raw data.

  The cursors under proof are the state machines of `Influx.Model.WindowAgg`
  (written from storage/reads/array_cursor.gen.go, compared with the real cursors on
  every run).  Theorems hold for every value arithmetic `Ops`, every block size
  `B ≥ 1`, every cutting of the input into non-empty arrays and shards, every number
  of points (no bound anywhere).
-/
import Influx.Lemmas.WindowAggFirst
import Influx.Lemmas.WindowAggLast
import Influx.Model.WindowAggReq

namespace Influx.Props.C20
open Influx.WindowAgg Influx.Spec.C20
variable {α : Type}

def IsFold (agg : Agg) : Prop := agg = .count ∨ agg = .sum ∨ agg = .min ∨ agg = .max ∨ agg = .mean

/-- the window function the cursors use (Go's truncated division with adjustment) is the
    floor-division window of the statement -/
theorem ofWindow_stop (every offset : Int) (h : 0 < every) :
    (Win.ofWindow ⟨every, every, offset⟩).stop = (W.every every offset).stopOf := by
  funext t
  simp only [Win.ofWindow, Window.Window.getLatestBounds, Window.Window.at, W.stopOf,
    Window.lastIndex_eq_fdiv _ _ _ h]
  rw [Int.add_mul, Int.one_mul, Int.mul_comm]; omega

/-- the request's window: `reqWin` (the code) against `reqW` (the statement) -/
theorem reqWin_spec (every offset : Int) (h : 0 < every) :
    ∃ w, reqWin every offset = some w ∧ w.OK ∧ w.stop = (reqW every offset).stopOf := by
  unfold reqWin reqW
  by_cases hm : every = maxInt64
  · refine ⟨Win.zero, ?_, Win.zero_OK, ?_⟩
    · simp [hm, maxInt64]
    · have : every = 9223372036854775807 := hm
      simp only [this, Win.zero, maxInt64, ↓reduceIte]
      funext t; rfl
  · have hm' : ¬ every = 9223372036854775807 := hm
    refine ⟨Win.ofWindow ⟨every, every, offset⟩, ?_, Win.ofWindow_OK every offset h, ?_⟩
    · simp [hm, Int.not_le.mpr h]
    · simp [hm', ofWindow_stop every offset h]

theorem reqWin_isZero {every offset : Int} {w : Win} (hw : reqWin every offset = some w) :
    0 < every ∧ (w.isZero = true ↔ every = maxInt64) := by
  unfold reqWin at hw
  split at hw
  · cases hw
  · refine ⟨by omega, ?_⟩
    split at hw <;> cases hw <;> simp [Win.zero, Win.ofWindow, *]

/-- **Chunking and block-boundary independence** (accumulating cursors): for every cutting
    `chunks` of the input into non-empty arrays and every `B ≥ 1`, the arrays returned by
    `Next()` until exhaustion concatenate to the grouped aggregate of the concatenated input. -/
theorem C20_fold (B : Nat) (hB : 1 ≤ B) (o : Ops α) (agg : Agg) (hagg : IsFold agg) (w : Win) (hw : w.OK)
    (chunks : List (List (Pt α))) (hne : ∀ c ∈ chunks, c ≠ []) (hs : Sorted chunks.flatten)
    (fuel : Nat) (hfuel : chunks.flatten.length < fuel) :
    ∃ arrs, drain (Cursor.next B o w) fuel (Cursor.new agg w chunks) = some arrs ∧
      arrs.flatten = aggSpec o agg w.stop chunks.flatten ∧ (∀ a ∈ arrs, a ≠ []) := by
  have key : ∀ {γ : Type} (F : Folder α γ),
      F.Computes o agg →
      (∀ t : St α, Cursor.next B o w (.fold agg t) =
        (some (Fold.next B F w t)).map (fun r => (Cursor.fold agg r.1, r.2))) →
      Cursor.new agg w chunks = .fold agg ⟨[], chunks⟩ →
      ∃ arrs, drain (Cursor.next B o w) fuel (Cursor.new agg w chunks) = some arrs ∧
        arrs.flatten = aggSpec o agg w.stop chunks.flatten ∧ (∀ a ∈ arrs, a ≠ []) := by
    intro γ F hF hstep hnew
    rw [hnew, drain_sim (Cursor.next B o w) (fun s => some (Fold.next B F w s)) (Cursor.fold agg) hstep]
    obtain ⟨arrs, h1, h2, h3⟩ := Fold.drain_spec B hB F w fuel ⟨[], chunks⟩ hne (by simpa [St.rest] using hfuel)
    refine ⟨arrs, h1, ?_, h3⟩
    rw [h2]
    simpa [St.rest] using seqAll_eq_aggSpec o agg F w hw hF chunks.flatten hs
  rcases hagg with rfl | rfl | rfl | rfl | rfl
  · exact key (countF o) (countF_computes o) (fun _ => rfl) rfl
  · exact key (sumF o) (sumF_computes o) (fun _ => rfl) rfl
  · exact key (minF o) (minF_computes o) (fun _ => rfl) rfl
  · exact key (maxF o) (maxF_computes o) (fun _ => rfl) rfl
  · exact key (meanF o) (meanF_computes o) (fun _ => rfl) rfl

/-- **first, windowed**: chunking / block independence and equality with the statement. -/
theorem C20_first (B : Nat) (hB : 1 ≤ B) (o : Ops α) (w : Win) (hw : w.OK) (hz : w.isZero = false)
    (chunks : List (List (Pt α))) (hne : ∀ c ∈ chunks, c ≠ []) (hs : Sorted chunks.flatten)
    (fuel : Nat) (hfuel : chunks.flatten.length < fuel) :
    ∃ arrs, drain (Cursor.next B o w) fuel (Cursor.new .first w chunks) = some arrs ∧
      arrs.flatten = aggSpec o .first w.stop chunks.flatten ∧ (∀ a ∈ arrs, a ≠ []) := by
  have hnew : Cursor.new .first w chunks = Cursor.first ⟨⟨[], chunks⟩, none⟩ := by simp [Cursor.new, hz]
  rw [hnew, drain_sim (Cursor.next B o w) (fun s => some (First.next B w s)) Cursor.first (fun _ => rfl)]
  obtain ⟨arrs, h1, h2, h3⟩ := First.drain_spec B hB w fuel ⟨⟨[], chunks⟩, none⟩ hne (by simpa [St.rest] using hfuel)
  refine ⟨arrs, h1, ?_, h3⟩
  rw [h2]
  simpa [St.rest] using First.seqF_eq_aggSpec o w hw hz chunks.flatten hs

/-- **last, windowed**: the Go code does not hit its index panic, and the arrays concatenate to
    the last point of every window. -/
theorem C20_last (B : Nat) (hB : 1 ≤ B) (o : Ops α) (w : Win) (hw : w.OK) (hz : w.isZero = false)
    (chunks : List (List (Pt α))) (hne : ∀ c ∈ chunks, c ≠ []) (hs : Sorted chunks.flatten)
    (fuel : Nat) (hfuel : chunks.flatten.length < fuel) :
    ∃ arrs, drain (Cursor.next B o w) fuel (Cursor.new .last w chunks) = some arrs ∧
      arrs.flatten = aggSpec o .last w.stop chunks.flatten ∧ (∀ a ∈ arrs, a ≠ []) := by
  have hnew : Cursor.new .last w chunks = Cursor.last ⟨⟨[], chunks⟩, none⟩ := by simp [Cursor.new, hz]
  have hstep : ∀ t : Last.State α, Cursor.next B o w (Cursor.last t) =
      (Last.next B w t).map (fun r => (Cursor.last r.1, r.2)) := fun _ => rfl
  rw [hnew, drain_sim (Cursor.next B o w) (Last.next B w) Cursor.last hstep]
  have hspec := Last.seqL_eq_aggSpec o w hw hz chunks.flatten hs
  exact Last.drain_spec B hB w fuel ⟨⟨[], chunks⟩, none⟩ _ hne (by simpa [St.rest] using hfuel)
    (by simpa [St.rest] using hspec)

/-- **All seven window cursors**: whenever `newWindowAggregateArrayCursor` builds a window cursor
    (first/last over the zero window get the limit cursor instead), for every cutting of the
    time-ordered input into non-empty arrays and every `B ≥ 1`, draining it returns the grouped
    aggregate, in non-empty arrays. -/
theorem C20_cursor (B : Nat) (hB : 1 ≤ B) (o : Ops α) (agg : Agg) (w : Win) (hw : w.OK)
    (hz : IsFold agg ∨ w.isZero = false)
    (chunks : List (List (Pt α))) (hne : ∀ c ∈ chunks, c ≠ []) (hs : Sorted chunks.flatten)
    (fuel : Nat) (hfuel : chunks.flatten.length < fuel) :
    ∃ arrs, drain (Cursor.next B o w) fuel (Cursor.new agg w chunks) = some arrs ∧
      arrs.flatten = aggSpec o agg w.stop chunks.flatten ∧ (∀ a ∈ arrs, a ≠ []) := by
  by_cases hfold : IsFold agg
  · exact C20_fold B hB o agg hfold w hw chunks hne hs fuel hfuel
  · have hwz := hz.resolve_left hfold
    cases agg with
    | first => exact C20_first B hB o w hw hwz chunks hne hs fuel hfuel
    | last => exact C20_last B hB o w hw hwz chunks hne hs fuel hfuel
    | _ => simp [IsFold] at hfold

theorem reqChunks (shards : List (List (List (Pt α)))) :
    (∀ c ∈ shards.flatten.filter (fun c => !c.isEmpty), c ≠ []) ∧
    (shards.flatten.filter (fun c => !c.isEmpty)).flatten = shards.flatten.flatten := by
  refine ⟨fun c hc h => by have := (List.mem_filter.mp hc).2; simp [h] at this, ?_⟩
  induction shards.flatten with
  | nil => rfl
  | cons c cs ih =>
    cases c with
    | nil => simpa [List.filter_cons] using ih
    | cons p ps => simp [ih]

/-- **C20 on the model, request level, window cursors.**  For every valid request window, every
    distribution of the time-ordered points over shards and arrays, every block size: the
    statement checker accepts what the model returns. -/
theorem C20_holdsOn_windowed [DecidableEq α] (B : Nat) (hB : 1 ≤ B) (o : Ops α) (agg : Agg)
    (every offset : Int) (he : 0 < every) (hz : IsFold agg ∨ every ≠ maxInt64)
    (shards : List (List (List (Pt α)))) (hs : Sorted shards.flatten.flatten)
    (fuel : Nat) (hfuel : shards.flatten.flatten.length < fuel) :
    ∃ w, reqWin every offset = some w ∧
      holdsOn o ⟨agg, reqW every offset, shards.flatten.flatten,
        drain (Cursor.next B o w) fuel (Cursor.newReq agg w shards)⟩ = true := by
  obtain ⟨w, hw1, hw2, hw3⟩ := reqWin_spec every offset he
  refine ⟨w, hw1, ?_⟩
  have hz' : IsFold agg ∨ w.isZero = false :=
    hz.imp_right fun h => Bool.eq_false_iff.mpr fun hw => h ((reqWin_isZero hw1).2.mp hw)
  have hnew : Cursor.newReq agg w shards = Cursor.new agg w (shards.flatten.filter (fun c => !c.isEmpty)) := by
    refine if_neg fun hl => ?_
    rcases hz' with hf | hf
    · rw [hl.1] at hf; simp [IsFold] at hf
    · rw [hl.2] at hf; cases hf
  obtain ⟨hne, hfl⟩ := reqChunks shards
  obtain ⟨arrs, h1, h2, _⟩ := C20_cursor B hB o agg w hw2 hz' _ hne (by rw [hfl]; exact hs) fuel (by rw [hfl]; exact hfuel)
  simp only [hnew, holdsOn, h1, h2, hfl, hw3, decide_true]

theorem C20_holdsOn_partial [DecidableEq α] (B : Nat) (hB : 1 ≤ B) (o : Ops α) (agg : Agg) (hagg : IsFold agg)
    (every offset : Int) (he : 0 < every)
    (shards : List (List (List (Pt α)))) (hs : Sorted shards.flatten.flatten)
    (fuel : Nat) (hfuel : shards.flatten.flatten.length < fuel) :
    ∃ w, reqWin every offset = some w ∧
      holdsOn o ⟨agg, reqW every offset, shards.flatten.flatten,
        drain (Cursor.next B o w) fuel (Cursor.newReq agg w shards)⟩ = true :=
  C20_holdsOn_windowed B hB o agg every offset he (Or.inl hagg) shards hs fuel hfuel

/-- two block sizes and two cuttings of the same points give the same rows. -/
theorem C20_block_independent (B1 B2 : Nat) (h1 : 1 ≤ B1) (h2 : 1 ≤ B2) (o : Ops α) (agg : Agg) (hagg : IsFold agg)
    (w : Win) (hw : w.OK) (cs1 cs2 : List (List (Pt α)))
    (hne1 : ∀ c ∈ cs1, c ≠ []) (hne2 : ∀ c ∈ cs2, c ≠ []) (heq : cs1.flatten = cs2.flatten) (hs : Sorted cs1.flatten)
    (fuel : Nat) (hfuel : cs1.flatten.length < fuel) :
    ∃ a1 a2, drain (Cursor.next B1 o w) fuel (Cursor.new agg w cs1) = some a1 ∧
      drain (Cursor.next B2 o w) fuel (Cursor.new agg w cs2) = some a2 ∧ a1.flatten = a2.flatten := by
  obtain ⟨a1, p1, q1, _⟩ := C20_fold B1 h1 o agg hagg w hw cs1 hne1 hs fuel hfuel
  obtain ⟨a2, p2, q2, _⟩ := C20_fold B2 h2 o agg hagg w hw cs2 hne2 (heq ▸ hs) fuel (heq ▸ hfuel)
  exact ⟨a1, a2, p1, p2, by rw [q1, q2, heq]⟩

theorem aggSpec_const (o : Ops α) (agg : Agg) (c : Int) (p : Pt α) (ps : List (Pt α)) :
    aggSpec o agg (fun _ => c) (p :: ps) = (aggregate o agg c (p :: ps)).toList := by
  rw [aggSpec]
  simp only [beq_self_eq_true, Bool.not_true]
  rw [List.filter_eq_self.mpr (fun _ _ => rfl), List.filter_eq_nil_iff.mpr (fun _ _ => Bool.false_ne_true),
    aggSpec, List.append_nil]

/-- `newLimitArrayCursor`: the first point of what the cursor returns, then nothing -/
theorem limit_drain (o : Ops α) (w : Win) (B : Nat) (chunks : List (List (Pt α))) (hne : ∀ c ∈ chunks, c ≠ [])
    (fuel : Nat) (hfuel : 2 ≤ fuel) :
    drain (Cursor.next B o w) fuel (Cursor.limit ⟨chunks, false⟩) =
      some (match chunks.flatten with | [] => [] | p :: _ => [[p]]) := by
  obtain ⟨n, rfl⟩ : ∃ n, fuel = n + 2 := ⟨fuel - 2, by omega⟩
  cases chunks with
  | nil => simp [drain, Cursor.next, Limit.next, pop]
  | cons c cs =>
    have hc : c ≠ [] := hne c (by simp)
    cases c with
    | nil => exact absurd rfl hc
    | cons p ps => simp [drain, Cursor.next, Limit.next, pop]

/-- **first / last over the whole range** (`every = MaxInt64`): the limit cursor over the
    ascending (first) resp. descending (last) cursor. -/
theorem C20_first_last_zero (B : Nat) (o : Ops α) (agg : Agg) (hagg : agg = .first ∨ agg = .last)
    (shards : List (List (List (Pt α)))) (fuel : Nat) (hfuel : 2 ≤ fuel) :
    ∃ arrs, drain (Cursor.next B o Win.zero) fuel (Cursor.newReq agg Win.zero shards) = some arrs ∧
      arrs.flatten = aggSpec o agg Win.zero.stop shards.flatten.flatten := by
  obtain ⟨hne, hfl⟩ := reqChunks shards
  rcases hagg with rfl | rfl
  · have hnew : Cursor.newReq .first Win.zero shards = Cursor.limit ⟨shards.flatten.filter (fun c => !c.isEmpty), false⟩ := by
      simp [Cursor.newReq, Cursor.new, Win.zero]
    rw [hnew, limit_drain o Win.zero B _ hne fuel hfuel, hfl]
    refine ⟨_, rfl, ?_⟩
    cases h : shards.flatten.flatten with
    | nil => simp [aggSpec]
    | cons p ps => simp [Win.zero, aggSpec_const, aggregate]
  · generalize hinp : shards.flatten.filter (fun c => !c.isEmpty) = inp at hfl hne
    have hne' : ∀ c ∈ inp.reverse.map List.reverse, c ≠ [] := by
      intro c hc
      simp only [List.mem_map, List.mem_reverse] at hc
      obtain ⟨d, hd, rfl⟩ := hc
      intro h; exact hne d hd (by simpa using h)
    have hnew : Cursor.newReq .last Win.zero shards = Cursor.limit ⟨inp.reverse.map List.reverse, false⟩ := by
      simp [Cursor.newReq, Cursor.new, Win.zero, hinp]
    have hrev : (inp.reverse.map List.reverse).flatten = shards.flatten.flatten.reverse := by
      rw [← hfl, List.reverse_flatten, List.map_reverse]
    rw [hnew, limit_drain o Win.zero B _ hne' fuel hfuel, hrev]
    refine ⟨_, rfl, ?_⟩
    cases h : shards.flatten.flatten with
    | nil => simp [aggSpec]
    | cons p ps =>
      have hr : (p :: ps).reverse = (p :: ps).getLast (List.cons_ne_nil _ _) :: (p :: ps).dropLast.reverse := by
        conv => lhs; rw [← List.dropLast_concat_getLast (List.cons_ne_nil p ps)]
        simp
      rw [hr]
      simp [Win.zero, aggSpec_const, aggregate]

/-- **C20 on the model, request level, all seven aggregates.**  For every valid request window
    (`every > 0`, including `MaxInt64` = whole range), every distribution of the time-ordered
    points over shards and arrays, every block size `B ≥ 1`, every value arithmetic: the
    statement checker accepts what the model returns. -/
theorem C20_holdsOn [DecidableEq α] (B : Nat) (hB : 1 ≤ B) (o : Ops α) (agg : Agg)
    (every offset : Int) (he : 0 < every)
    (shards : List (List (List (Pt α)))) (hs : Sorted shards.flatten.flatten)
    (fuel : Nat) (hfuel : shards.flatten.flatten.length + 1 < fuel) :
    ∃ w, reqWin every offset = some w ∧
      holdsOn o ⟨agg, reqW every offset, shards.flatten.flatten,
        drain (Cursor.next B o w) fuel (Cursor.newReq agg w shards)⟩ = true := by
  by_cases hz : IsFold agg ∨ every ≠ maxInt64
  · exact C20_holdsOn_windowed B hB o agg every offset he hz shards hs fuel (by omega)
  · -- first / last over the whole range
    have hfl : agg = .first ∨ agg = .last := by
      cases agg <;> simp [IsFold] at hz ⊢
    obtain ⟨w, hw1, hw2, hw3⟩ := reqWin_spec every offset he
    refine ⟨w, hw1, ?_⟩
    have hwz : w = Win.zero := by
      have : reqWin every offset = some Win.zero := by
        simp [reqWin, Decidable.not_not.mp (not_or.mp hz).2, maxInt64]
      rw [this] at hw1; exact (Option.some.inj hw1).symm
    subst hwz
    obtain ⟨arrs, h1, h2⟩ := C20_first_last_zero B o agg hfl shards fuel (by omega)
    simp only [holdsOn, h1, h2, hw3, decide_true]

open Influx.Generated.WAReq in
/-- **Exact characterisation of `IsLastDescendingAggregateOptimization`** (the function is
    regenerated from aggregate_resultset.go on every run): descending cursors are requested
    exactly for a single `last` aggregate whose window is "no window". -/
theorem isLastDesc_iff (req : WAReq.Req) :
    IsLastDescendingAggregateOptimization req = true ↔
      (req.Aggregate = [Aggregate_AggregateTypeLast] ∧
        match req.Window with
        | none => req.WindowEvery = 0 ∨ req.WindowEvery = 9223372036854775807
        | some w => (w.Every.Nsecs = 0 ∧ w.Every.Months = 0) ∨ w.Every.Nsecs = 9223372036854775807) := by
  obtain ⟨aggs, we, off, win⟩ := req
  unfold IsLastDescendingAggregateOptimization
  rcases aggs with _ | ⟨a, _ | ⟨b, rest⟩⟩
  · simp
  · cases win with
    | none =>
      by_cases ha : a = Aggregate_AggregateTypeLast <;>
        simp [WAReq.Req.agg0, ha]
    | some w =>
      by_cases ha : a = Aggregate_AggregateTypeLast <;>
        simp [WAReq.Req.agg0, WAReq.Req.everyNsecs, WAReq.Req.everyMonths, ha]
  · simp

open Influx.Generated.WAReq in
/-- **The descending optimisation is never chosen for a calendar window** (months only:
    `Nsecs = 0`, `Months ≠ 0`): such a request keeps ascending cursors, which is what the
    windowed `last` cursor built by `createCursor` needs. -/
theorem C20_desc_never_calendar (aggs : List Int) (we off : Int) (w : WAReq.WinMsg)
    (h0 : w.Every.Nsecs = 0) (hm : w.Every.Months ≠ 0) :
    IsLastDescendingAggregateOptimization ⟨aggs, we, off, some w⟩ = false := by
  apply Bool.eq_false_iff.mpr
  intro h
  have := ((isLastDesc_iff _).mp h).2
  simp only at this
  rcases this with ⟨_, h2⟩ | h2
  · exact hm h2
  · rw [h0] at h2; cases h2

open Influx.Generated.WAReq in
/-- the direction decision and the cursor factory agree on "no window" for the legacy
    request form: descending exactly when the model's `Cursor.newReq` reverses the input -/
theorem C20_desc_agrees (agg : Agg) (every offset : Int) (w : Win) (hw : reqWin every offset = some w) :
    IsLastDescendingAggregateOptimization (reqLegacy agg every offset) = (decide (agg = .last) && w.isZero) := by
  obtain ⟨he, hz⟩ := reqWin_isZero hw
  have hcode : (agg.code = Aggregate_AggregateTypeLast) ↔ agg = .last := by
    cases agg <;> simp [Agg.code, Aggregate_AggregateTypeLast, Aggregate_AggregateTypeCount,
      Aggregate_AggregateTypeSum, Aggregate_AggregateTypeMin, Aggregate_AggregateTypeMax,
      Aggregate_AggregateTypeMean, Aggregate_AggregateTypeFirst]
  rw [Bool.eq_iff_iff, isLastDesc_iff]
  simp only [reqLegacy, List.cons.injEq, and_true, hcode, Bool.and_eq_true, decide_eq_true_eq, hz, maxInt64]
  exact and_congr_right fun _ => ⟨fun h => h.resolve_left (by omega), Or.inr⟩

theorem newReqD_eq_newReq (agg : Agg) (w : Win) (shards : List (List (List (Pt α)))) :
    Cursor.newReqD (decide (agg = .last) && w.isZero) agg w shards = Cursor.newReq agg w shards := by
  unfold Cursor.newReqD Cursor.newReq
  by_cases h : agg = .last ∧ w.isZero = true
  · simp [h.1, h.2]
  · have : (decide (agg = .last) && w.isZero) = false := by
      rw [Bool.and_eq_false_iff]
      by_cases ha : agg = .last
      · right; simpa using fun hz => h ⟨ha, hz⟩
      · left; simp [ha]
    rw [this]
    simp only [Bool.false_eq_true, ↓reduceIte]
    rw [if_neg h]

-- non-vacuity: a concrete request (3 windows of `every = 10`, two shards, three arrays, B = 2)
example : ∃ w, reqWin 10 3 = some w ∧
    drain (Cursor.next 2 (⟨0, (· + ·), (decide <| · < ·), Int.ofNat, fun s _ => s⟩ : Ops Int) w) 10
      (Cursor.newReq .sum w [[[(1, 5), (4, 6)], [(13, 7)]], [[(14, 1), (23, 2)]]])
    = some [[(3, 5), (13, 6)], [(23, 8), (33, 2)]] := ⟨_, rfl, by decide⟩

end Influx.Props.C20
