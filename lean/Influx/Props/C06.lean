/-
  Props.C06 — theorems about the KeyCursor model (Influx.Model.KeyCursor / KCRun) and the
  statement Influx.Spec.C06.holdsOn.  Helper lemmas live in Influx.Lemmas.KC*.

  What is proved (unbounded: any number of files, blocks, points, tombstones; any int64 times):

  * C06_partial / C06_holdsOn_partial — for every layout that satisfies what the TSM writer
    guarantees (`filesOK`), every seek time other than the int64 extreme at which `t∓1` wraps
    (`seekOK`), both directions, and EVERY post-sort order of `KeyCursor.seeks` in which an older
    file's entry precedes every overlapping newer file's entry (`orderOK`): the model's read
    loop terminates without index panic, returns only non-empty blocks, and the blocks satisfy
    the statement of C06 (every live point at/after resp. at/before `t`, exactly once, in order,
    newest file's value) — including the effect of the deletes on the files' index entries and
    tombstones (indirectIndex.DeleteRange).
  * C06_seeks_asc / C06_seeks_desc — the same for arbitrary well-formed locations with an
    abstract payload type.
  * C06_insertion — no hypothesis on the order: FileStore.locations lists the locations in an
    OrderOK order and insertion sort under ascLocations.Less / descLocations.Less (which is what
    Go's sort.Sort runs for n ≤ 12) preserves OrderOK, so with that sort the read satisfies the
    statement.  The oracle reports for every observed order whether it IS the insertion-sort
    order (it always is for n ≤ 12).
  * C06_full_fails — the OrderOK hypothesis cannot be dropped (witness); the real sort.Sort
    violates it for > 12 locations (known finding, reproduced by the check).
  * C06_extremes_fail — on a two-file witness, a seek at MinInt64 ascending / MaxInt64 descending
    delivers nothing (F3).
-/
import Influx.Lemmas.KCSort

namespace Influx.Props.C06
open Influx.KC Influx.Spec.C06

def modelHolds (files : List FileSpec) (t : Int) (asc : Bool) (order : List (Nat × Nat)) : Bool :=
  match modelRead files t asc order with
  | .ok bs => holdsOn id files t asc bs
  | .error _ => false

def delivers (files : List FileSpec) (t : Int) (asc : Bool) (order : List (Nat × Nat))
    (bs : List (List (Int × Nat))) : Bool :=
  match modelRead files t asc order with
  | .ok bs' => bs' == bs
  | .error _ => false

/-- the hypothesis on the observed post-sort order: it is a permutation of the locations and
    satisfies OrderOK -/
def orderHyp (files : List FileSpec) (t : Int) (asc : Bool) (order : List (Nat × Nat)) : Bool :=
  match seeksOf files t asc order with
  | some seeks => orderOK seeks
  | none => false

/-- **C06 under OrderOK.**  Missing for the full statement: OrderOK of the real post-sort order
    (false for sort.Sort above 12 locations, see `C06_full_fails` and findings.d/C06.json) and
    the two extreme seek times (`C06_extremes_fail`). -/
theorem C06_partial (files : List FileSpec) (t : Int) (asc : Bool) (order : List (Nat × Nat))
    (seeks : List (Block Nat))
    (hfiles : filesOK files = true) (ht : seekOK t asc = true)
    (hseeks : seeksOf files t asc order = some seeks) (hord : orderOK seeks = true) :
    ∃ bs, modelRead files t asc order = .ok bs ∧ (∀ b ∈ bs, b ≠ []) ∧ holdsOn id files t asc bs = true := by
  unfold seeksOf at hseeks
  cases hsts : fileStates files with
  | none => rw [hsts] at hseeks; cases hseeks
  | some sts =>
    rw [hsts, Option.bind_some] at hseeks
    obtain ⟨bs, hrun, hne, hh⟩ := run_holds hfiles hsts ht (applyOrder_mem hseeks) hord
    refine ⟨bs, ?_, hne, hh⟩
    unfold modelRead keyCursorRead
    simp only [hsts, hseeks, hrun]

/-- the same without the non-emptiness of the blocks, as "`holdsOn` of the model's trace" -/
theorem C06_holdsOn_partial (files : List FileSpec) (t : Int) (asc : Bool) (order : List (Nat × Nat))
    (hfiles : filesOK files = true) (ht : seekOK t asc = true) (hord : orderHyp files t asc order = true) :
    modelHolds files t asc order = true := by
  unfold orderHyp at hord
  cases hs : seeksOf files t asc order with
  | none => rw [hs] at hord; cases hord
  | some seeks =>
    rw [hs] at hord
    obtain ⟨bs, h1, _, h3⟩ := C06_partial files t asc order seeks hfiles ht hs hord
    unfold modelHolds
    rw [h1]; exact h3

/-- the statement is insensitive to how the value type shows the payload (the harness shows the
    parity of the file index for booleans): if the blocks satisfy it with the identity, the
    projected blocks satisfy it with the projection -/
theorem C06_holdsOn_proj (proj : Nat → Nat) (files : List FileSpec) (t : Int) (asc : Bool)
    (bs : List (List (Int × Nat))) (h : holdsOn id files t asc bs = true) :
    holdsOn proj files t asc (bs.map fun b => b.map fun p => (p.1, proj p.2)) = true := by
  unfold holdsOn at h ⊢
  simp only [id, beq_iff_eq] at h ⊢
  have hid : (expected files t asc).map (fun p => (p.1, p.2)) = expected files t asc := by simp
  rw [hid] at h
  rw [← h]
  unfold delivered
  cases asc
  · simp only [Bool.false_eq_true, if_false, List.map_map, List.map_flatten]
    congr 1
    simp [Function.comp_def, List.map_reverse]
  · simp only [if_true, List.map_flatten]

/-- the hypotheses are met by a non-trivial layout: three files with overlapping blocks and
    tombstones, read in both directions from the middle -/
def exampleFiles : List FileSpec :=
  [⟨[[1, 2, 3], [5, 6, 9]], [⟨2, 2⟩]⟩, ⟨[[0, 1], [3, 4, 5, 6]], [⟨4, 5⟩, ⟨6, 7⟩]⟩, ⟨[[2], [6, 7, 8]], []⟩]

example : filesOK exampleFiles = true ∧ seekOK 2 true = true ∧
    orderHyp exampleFiles 2 true [(0, 0), (2, 0), (0, 1), (1, 1), (2, 1)] = true ∧
    delivers exampleFiles 2 true [(0, 0), (2, 0), (0, 1), (1, 1), (2, 1)]
      [[(2, 2), (3, 1)], [(5, 0), (6, 2), (7, 2), (8, 2), (9, 0)]] = true ∧
    seekOK 6 false = true ∧
    orderHyp exampleFiles 6 false [(0, 0), (1, 0), (2, 0), (0, 1), (1, 1), (2, 1)] = true ∧
    modelHolds exampleFiles 6 false [(0, 0), (1, 0), (2, 0), (0, 1), (1, 1), (2, 1)] = true := by
  decide

/-- ascending read over arbitrary well-formed locations (any payload type) in an OrderOK order:
    terminates, blocks non-empty, concatenation strictly ascending and equal to the
    newest-file-wins points at or after `t` -/
theorem C06_seeks_asc {V : Type} (seeks : List (Block V)) (hwf : ∀ b ∈ seeks, BlockWF b)
    (hord : orderOK seeks = true) (t : Int) (ht : minI64 < t) :
    ∃ bs, runSeeks seeks t true = some bs ∧ SortedV bs.flatten ∧ (∀ b ∈ bs, b ≠ []) ∧
      ∀ p, p ∈ bs.flatten ↔ WinnerL seeks p ∧ t ≤ p.1 :=
  runSeeks_spec seeks hwf hord (asc := true) ht

/-- descending read: the blocks in reverse call order concatenate to the strictly ascending list
    of the newest-file-wins points at or before `t` -/
theorem C06_seeks_desc {V : Type} (seeks : List (Block V)) (hwf : ∀ b ∈ seeks, BlockWF b)
    (hord : orderOK seeks = true) (t : Int) (ht : t < maxI64) :
    ∃ bs, runSeeks seeks t false = some bs ∧ SortedV bs.reverse.flatten ∧ (∀ b ∈ bs, b ≠ []) ∧
      ∀ p, p ∈ bs.reverse.flatten ↔ WinnerL seeks p ∧ p.1 ≤ t :=
  runSeeks_spec seeks hwf hord (asc := false) ht

/-- **C06 for sort.Sort = insertion sort (Go: n ≤ 12), no hypothesis on the order.** -/
theorem C06_insertion (files : List FileSpec) (t : Int) (asc : Bool)
    (hfiles : filesOK files = true) (ht : seekOK t asc = true) :
    ∃ seeks bs, seeksSorted files t asc = some seeks ∧ orderOK seeks = true ∧
      runSeeks seeks t asc = some bs ∧ (∀ b ∈ bs, b ≠ []) ∧ holdsOn id files t asc bs = true := by
  obtain ⟨sts, hsts⟩ := fileStates_some hfiles
  have hmem : ∀ b, b ∈ insertionSort (lessLoc asc) (locations sts t asc) ↔ b ∈ locations sts t asc :=
    mem_insertionSort _ _
  have hord := (orderOK_iff _).2 (insertionSort_ok asc _ (locations_ok hfiles hsts t asc))
  obtain ⟨bs, hrun, hne, hh⟩ := run_holds hfiles hsts ht hmem hord
  exact ⟨_, bs, by unfold seeksSorted; rw [hsts]; rfl, hord, hrun, hne, hh⟩

/-- insertion sort under the cursor's comparators keeps OrderOK (any payload type) -/
theorem C06_insertionSort_keeps_orderOK {V : Type} (asc : Bool) (l : List (Block V)) (h : orderOK l = true) :
    orderOK (insertionSort (lessLoc asc) l) = true :=
  (orderOK_iff _).2 (insertionSort_ok asc l ((orderOK_iff l).1 h))

/-- two files, each holding one point at timestamp 0 -/
def twoFiles : List FileSpec := [⟨[[0]], []⟩, ⟨[[0]], []⟩]

/-- The statement is FALSE for an arbitrary post-sort order: if the newer file's block precedes
    the older file's overlapping block in `seeks`, the older value is delivered.  (The real
    sort.Sort produces such orders for more than 12 locations: see findings.d/C06.json.) -/
theorem C06_full_fails :
    ¬ ∀ files t asc order, filesOK files = true → seekOK t asc = true →
        (seeksOf files t asc order).isSome → modelHolds files t asc order = true := by
  intro h
  have := h twoFiles (-1) true [(1, 0), (0, 0)] (by decide) (by decide) (by decide)
  revert this
  decide

/-- F3: an ascending seek at MinInt64 computes `readMax = t - 1 = MaxInt64` (int64 wrap), a
    descending seek at MaxInt64 `readMin = t + 1 = MinInt64`: every location is born fully read
    and nothing is delivered (shown on `twoFiles`). -/
theorem C06_extremes_fail :
    delivers twoFiles minI64 true [(0, 0), (1, 0)] [] = true ∧
    modelHolds twoFiles minI64 true [(0, 0), (1, 0)] = false ∧
    delivers twoFiles maxI64 false [(0, 0), (1, 0)] [] = true ∧
    modelHolds twoFiles maxI64 false [(0, 0), (1, 0)] = false := by
  decide

end Influx.Props.C06
