/-
  Props.C41 — Flux window-aggregate tables have the right windows and values.

  Subject: `Influx.Model.FluxTable` (written from storage/flux as repaired by
  fixes/C41-a-selector-as-aggregate-window.patch + fixes/C41-b-empty-windows-after-last-point.patch, compared with the real reader on every run) on top of the
  C20 cursor model.
-/
import Influx.Lemmas.FluxTableCompose
import Influx.Props.C20

namespace Influx.Props.C41
open Influx.WindowAgg Influx.FluxTable Influx.Spec.C41
open Influx.Window (Window Bounds)

/-- number of windows from index `i` on that start before the query stop -/
def countFrom (q : Req) (i : Int) : Nat :=
  if q.offset + i * q.every ≥ q.bstop then 0
  else ((q.bstop - 1 - (q.offset + i * q.every)) / q.every + 1).toNat

theorem countFrom_eq (q : Req) (h : 0 < q.every) (i : Int) :
    countFrom q i = (widx q (q.bstop - 1) - i + 1).toNat := by
  have hle := le_widx_iff q h i (q.bstop - 1)
  unfold countFrom
  split
  · exact (Int.toNat_of_nonpos (by omega)).symm
  · rw [← Int.sub_sub, Int.sub_mul_ediv_right _ _ (Int.ne_of_gt h)]
    rfl

theorem countFrom_succ (q : Req) (h : 0 < q.every) (i : Int) (hlt : q.offset + i * q.every < q.bstop) :
    countFrom q i = countFrom q (i + 1) + 1 := by
  have hle := (le_widx_iff q h i (q.bstop - 1)).mpr (by omega)
  rw [countFrom_eq q h, countFrom_eq q h,
    show widx q (q.bstop - 1) - i + 1 = widx q (q.bstop - 1) - (i + 1) + 1 + 1 by omega,
    Int.toNat_add (by omega) (by omega)]
  rfl

theorem start_lt_of_counted (q : Req) (h : 0 < q.every) (i k : Int) (hik : i ≤ k) (hk : k < i + countFrom q i) :
    q.offset + k * q.every < q.bstop := by
  rw [countFrom_eq q h, Int.toNat_of_nonneg (by omega)] at hk
  have := (le_widx_iff q h k (q.bstop - 1)).mp (by omega)
  omega

theorem countFrom_le_windowFuel (q : Req) (h : 0 < q.every) (i : Int) : countFrom q i ≤ windowFuel q i := by
  have := Int.ediv_le_ediv h
    (show q.bstop - 1 - (q.offset + i * q.every) ≤ q.bstop - (q.offset + i * q.every) by omega)
  unfold countFrom windowFuel
  rw [at_start]
  split
  · exact Nat.zero_le _
  · exact Int.toNat_le_toNat (by omega)

/-- **createEmpty: one row per window inside the bounds.**  The loop of
    `createNextBufferTimes` produces, from window `i` on, exactly the windows that start
    before the query stop, each clipped to the bounds, in order, and leaves `windowBounds`
    just behind them — for any amount of fuel that suffices. -/
theorem enumWindows_spec (q : Req) (h : 0 < q.every) (hb : q.bstart < q.bstop) :
    ∀ (fuel : Nat) (i : Int), countFrom q i ≤ fuel →
      enumWindows q fuel i = ((intRange i (countFrom q i)).map (clipped q), i + countFrom q i) := by
  intro fuel
  induction fuel with
  | zero =>
    intro i hf
    rw [Nat.le_zero.mp hf]
    simp [enumWindows, intRange]
  | succ n ih =>
    intro i hf
    unfold enumWindows
    rw [clip_eq]
    by_cases hlt : q.offset + i * q.every < q.bstop
    · have hc : ¬ (clipped q i).1 ≥ q.bstop := by simp only [clipped]; omega
      have hs := countFrom_succ q h i hlt
      rw [if_neg hc, ih (i + 1) (by omega), hs]
      simp only [intRange, List.map_cons, Prod.mk.injEq, true_and]
      omega
    · have hc : (clipped q i).1 ≥ q.bstop := by simp only [clipped]; omega
      rw [if_pos hc, show countFrom q i = 0 from if_pos (by omega)]
      simp [intRange]

/-- …and these are the windows the statement asks for: `widx bstart … widx (bstop-1)`. -/
theorem countFrom_first (q : Req) (h : 0 < q.every) (hb : q.bstart < q.bstop) :
    (countFrom q (widx q q.bstart) : Int) = widx q (q.bstop - 1) - widx q q.bstart + 1 := by
  have := widx_mono q h (show q.bstart ≤ q.bstop - 1 by omega)
  rw [countFrom_eq q h, Int.toNat_of_nonneg (by omega)]

theorem windows_of_emptiesRequired (q : Req) (h : 0 < q.every) (hb : q.bstart < q.bstop)
    (he : emptiesRequired q = true) (pts : List (Pt Val)) :
    windows q pts = intRange (widx q q.bstart) (countFrom q (widx q q.bstart)) := by
  have := countFrom_first q h hb
  simp only [windows, he, ↓reduceIte]
  congr 1
  omega

/-- `createNextBufferTimes` with createEmpty, started (as `new…WindowTable` does) at the window
    of the query start: exactly the windows of the statement. -/
theorem C41_createEmpty_windows (q : Req) (h : 0 < q.every) (hb : q.bstart < q.bstop)
    (hce : emptiesRequired q = true) (pts : List (Pt Val)) (fuel : Nat)
    (hf : countFrom q (widx q q.bstart) ≤ fuel) :
    (enumWindows q fuel (q.win.getLatestBounds q.bstart).index).1 = (windows q pts).map (clipped q) := by
  rw [glb_index q h, enumWindows_spec q h hb fuel _ hf, windows_of_emptiesRequired q h hb hce]

/-- **Selector tables (no empty windows): rows ↔ selected points.**  Every point the storage
    cursor selected becomes one row carrying the point's window clipped to the bounds and the
    point's value; without a time column `_time` is the point's own time, with one it is the
    clipped window start (stop) and `_start/_stop` are the query bounds. -/
theorem C41_selector_rows (q : Req) (h : 0 < q.every) (arr : List (Pt Val)) :
    selectorRows q arr = arr.map fun p =>
      let c := clipped q (widx q p.1)
      match q.timeCol with
      | .start => ⟨q.bstart, q.bstop, .val c.1, some p.2⟩
      | .stop => ⟨q.bstart, q.bstop, .val c.2, some p.2⟩
      | .none => ⟨c.1, c.2, .val p.1, some p.2⟩ := by
  unfold selectorRows
  apply List.map_congr_left
  intro p _
  rw [glb_eq_at q h, clip_eq]
  rfl

/-- **Window tables without createEmpty: rows ↔ cursor points.**  Every value the storage cursor
    returns (an aggregate stamped with its window's stop, or — ForceAggregate — a selected point)
    becomes exactly one row, in order, carrying its own window clipped to the bounds and that
    value; no row is null, none is lost, whatever the array boundaries of the cursor. -/
theorem C41_window_rows (q : Req) (h : 0 < q.every) (hce : q.createEmpty = false) (isAgg : Bool)
    (fill : Option Val) (wb : Int) (arrs : List (List (Pt Val)))
    (hne : ∀ a ∈ arrs, a ≠ []) (hw : ∀ a ∈ arrs, ∀ p ∈ a, WellPlaced q isAgg p.1)
    (fuel : Nat) (hf : arrs.length < fuel) :
    (drainBuffers (advanceW q isAgg fill) fuel ⟨[], [], arrs, wb⟩).flatten =
      arrs.flatten.map fun p => mkRow q fill (clipped q (pointWin q isAgg p.1)) (some p.2) := by
  rw [drainW_own q h hce isAgg fill wb arrs [] fuel hne hw hf]
  simp [List.map_flatten]

/-- **Window tables with createEmpty: rows ↔ windows.**  If the cursor returns at least one array, one value per
    non-empty window, in window order, all inside the bounds, the table consists of one buffer
    with one row for every window `widx bstart … widx (bstop-1)`: the window clipped to the
    bounds and the cursor's value for that window, or null (the fill value 0 for count) if the
    cursor has none — whatever the array boundaries of the cursor. -/
theorem C41_createEmpty_rows (q : Req) (h : 0 < q.every) (hb : q.bstart < q.bstop) (hce : q.createEmpty = true)
    (isAgg : Bool) (fill : Option Val) (arrs : List (List (Pt Val)))
    (hne : ∀ a ∈ arrs, a ≠ []) (harr : arrs ≠ [])
    (hw : ∀ p ∈ arrs.flatten, WellPlaced q isAgg p.1)
    (hinc : arrs.flatten.Pairwise (fun a b => pointWin q isAgg a.1 < pointWin q isAgg b.1))
    (hrange : ∀ p ∈ arrs.flatten, widx q q.bstart ≤ pointWin q isAgg p.1 ∧
      pointWin q isAgg p.1 < widx q q.bstart + countFrom q (widx q q.bstart))
    (fuel : Nat) (hf : 1 ≤ fuel) :
    drainBuffers (advanceW q isAgg fill) fuel ⟨[], [], arrs, (q.win.getLatestBounds q.bstart).index⟩ =
      [(intRange (widx q q.bstart) (countFrom q (widx q q.bstart))).map fun k =>
        mkRow q fill (clipped q k) (valueAt q isAgg arrs.flatten k)] := by
  obtain ⟨fuel', rfl⟩ : ∃ m, fuel = m + 1 := ⟨fuel - 1, by omega⟩
  rw [glb_index q h]
  have hstart : ¬ (q.win.at (widx q q.bstart)).start ≥ q.bstop := by
    have := widx_spec q h q.bstart
    rw [at_start]; omega
  generalize widx q q.bstart = i0 at *
  have hwin : ∀ k, i0 ≤ k → k < i0 + countFrom q i0 → q.offset + k * q.every < q.bstop :=
    fun k h1 h2 => start_lt_of_counted q h i0 k h1 h2
  have henum := enumWindows_spec q h hb (windowFuel q i0) i0 (countFrom_le_windowFuel q h i0)
  generalize countFrom q i0 = n at *
  cases arrs with
  | nil => exact absurd rfl harr
  | cons a r =>
    have hr : NoEmpty r := fun x hx => hne x (by simp [hx])
    have hae : a.isEmpty = false := by
      cases a with | nil => exact absurd rfl (hne _ (by simp)) | cons => rfl
    -- the merge of the first buffer reads everything: each value at its window, null elsewhere
    have habs := mergeValues_abs q isAgg ((intRange i0 n).map fun k => (clipped q k).2) ⟨a, a, r, i0 + n⟩ hr
    simp only [WState.remaining] at habs
    rw [mergeL_align q h isAgg n i0 (a ++ r.flatten) hw hinc hrange hwin] at habs
    generalize hs3 : mergeValues q isAgg ⟨a, a, r, i0 + n⟩ ((intRange i0 n).map fun k => (clipped q k).2) = res at habs
    obtain ⟨s3, vs⟩ := res
    obtain ⟨hrem, hvals⟩ : s3.remaining = [] ∧ vs = _ := Prod.mk.inj habs.1
    have hadv : advanceW q isAgg fill ⟨[], [], a :: r, i0⟩ =
        some (s3, (intRange i0 n).map fun k => mkRow q fill (clipped q k) (valueAt q isAgg (a ++ r.flatten) k)) := by
      unfold advanceW
      simp only [nextBuffer, List.isEmpty_nil, Bool.not_true, Bool.false_eq_true, ↓reduceIte, hae, hce, hstart, henum]
      rw [List.map_map]
      simp only [Function.comp_def]
      rw [hs3]
      simp only [Option.some.injEq, Prod.mk.injEq, true_and]
      rw [hvals, List.zip_map', List.map_map]
      rfl
    -- so the second `advance` finds nothing left to read
    have hnone := advanceW_done q isAgg fill s3 habs.2 hrem
    cases fuel' <;> simp [drainBuffers, hadv, hnone]

def fillOf (q : Req) : Option Val := if q.agg = .count then some (Val.i 0) else none

theorem seriesTables_nonsel (B : Nat) (q : Req) (hns : isSelector q.agg = false) (htc : q.timeCol = .none)
    (arrs : List (List (Pt Val))) :
    seriesTables B q arrs =
      ((drainBuffers (advanceW q true (fillOf q)) (arrs.flatten.length + 2)
          ⟨[], [], arrs, (q.win.getLatestBounds q.bstart).index⟩).flatten).map fun r => ⟨r.start, r.stop, [r]⟩ := by
  unfold seriesTables fillOf
  simp only [hns, Bool.not_false, Bool.true_or, ↓reduceIte, htc, Bool.false_and]
  cases hbuf : drainBuffers (advanceW q true (if q.agg = Agg.count then some (Val.i 0) else none))
      (arrs.flatten.length + 2) ⟨[], [], arrs, (q.win.getLatestBounds q.bstart).index⟩ with
  | nil => simp
  | cons b bs => simp

theorem mapM_map_some {β γ : Type} (f : β → Option γ) (g : β → γ) (l : List β) (hfg : ∀ x ∈ l, f x = some (g x)) :
    l.mapM f = some (l.map g) := by
  induction l with
  | nil => rfl
  | cons x xs ih =>
    rw [List.mapM_cons, hfg x (by simp), ih (fun y hy => hfg y (by simp [hy]))]
    rfl

theorem logical_single (q : Req) (htc : q.timeCol = .none) (rows : List Row) :
    logical q (rows.map fun r => ⟨r.start, r.stop, [r]⟩) = some (rows.map fun r => ⟨r.start, r.stop, r.time, r.value⟩) := by
  unfold logical
  rw [htc]
  simp only
  rw [List.mapM_map]
  apply mapM_map_some
  intro r _
  simp

theorem zip_map_all' {β γ : Type} (l : List β) (f : β → γ) (P : β × γ → Bool) :
    (l.zip (l.map f)).all P = l.all (fun x => P (x, f x)) := by
  induction l with
  | nil => rfl
  | cons x xs ih => simp [ih]

theorem rowOK_present (o : Ops Val) (q : Req) (hns : isSelector q.agg = false) (pts : List (Pt Val)) (i : Int)
    (hi : i ∈ distinctIdx q pts) :
    rowOK o q pts i ⟨(clipped q i).1, (clipped q i).2, .absent, some (aggVal o q.agg (members q pts i))⟩ = true := by
  have hne := members_nonempty q pts i hi
  unfold rowOK expectedRow
  cases hm : members q pts i with
  | nil => exact absurd hm hne
  | cons x xs =>
    have : (pts.filter fun p => widx q p.1 == i) = x :: xs := hm
    simp [this, aggregate_nonsel o q.agg hns]

theorem rowOK_absent (o : Ops Val) (q : Req) (pts : List (Pt Val)) (i : Int) (hi : i ∉ distinctIdx q pts) :
    rowOK o q pts i ⟨(clipped q i).1, (clipped q i).2, .absent, fillOf q⟩ = true := by
  have hm := members_empty q pts i hi
  have : (pts.filter fun p => widx q p.1 == i) = [] := hm
  unfold rowOK expectedRow fillOf
  simp only [this, Spec.C20.aggregate, decide_true, Bool.true_and]
  by_cases hc : q.agg = .count <;> simp [hc]

theorem length_le_flatten (arrs : List (List (Pt Val))) (hne : ∀ a ∈ arrs, a ≠ []) :
    arrs.length ≤ arrs.flatten.length := by
  induction arrs with
  | nil => simp
  | cons a r ih =>
    have ha : 0 < a.length := List.length_pos_iff.mpr (hne a (by simp))
    have := ih (fun x hx => hne x (by simp [hx]))
    simp only [List.length_cons, List.flatten_cons, List.length_append]; omega

theorem holdsOn_of_rows (B : Nat) (o : Ops Val) (q : Req) (hns : isSelector q.agg = false) (htc : q.timeCol = .none)
    (pts : List (Pt Val)) (hpts : pts ≠ []) (arrs : List (List (Pt Val))) (f : Int → Row)
    (hrows : (drainBuffers (advanceW q true (fillOf q)) (arrs.flatten.length + 2)
      ⟨[], [], arrs, (q.win.getLatestBounds q.bstart).index⟩).flatten = (windows q pts).map f)
    (hok : ∀ i ∈ windows q pts, rowOK o q pts i ⟨(f i).start, (f i).stop, (f i).time, (f i).value⟩ = true) :
    holdsOn o ⟨q, pts, some (seriesTables B q arrs)⟩ = true := by
  have hpe : pts.isEmpty = false := by cases pts with | nil => exact absurd rfl hpts | cons => rfl
  rw [seriesTables_nonsel B q hns htc, hrows]
  unfold holdsOn
  simp only [hpe, Bool.false_eq_true, ↓reduceIte]
  rw [logical_single q htc]
  simp only [List.map_map, List.length_map, beq_self_eq_true, Bool.true_and]
  rw [zip_map_all', List.all_eq_true]
  exact hok

/-- **C41 on the model, end to end** (partial: the aggregates count, sum, mean; no time column;
    both with and without empty windows).  If the storage cursor returns — in arrays cut anywhere —
    what C20 proves it returns (the grouped aggregate of the raw points of the series inside
    the bounds, of which there is at least one), then the tables of the reader pass the statement checker: one table per
    non-empty window (per window inside the bounds with createEmpty), keyed by the window
    clipped to the bounds, holding the aggregate of that window's raw rows, null (0 for count)
    for an empty window. -/
theorem C41_holdsOn_partial (B : Nat) (o : Ops Val) (q : Req) (h : 0 < q.every) (hb : q.bstart < q.bstop)
    (hns : isSelector q.agg = false) (htc : q.timeCol = .none)
    (pts : List (Pt Val)) (hpts : pts ≠ []) (hs : Sorted pts)
    (hin : ∀ p ∈ pts, q.bstart ≤ p.1 ∧ p.1 < q.bstop)
    (arrs : List (List (Pt Val))) (hne : ∀ a ∈ arrs, a ≠ [])
    (hcur : arrs.flatten = Spec.C20.aggSpec o q.agg (stopFn q) pts) :
    holdsOn o ⟨q, pts, some (seriesTables B q arrs)⟩ = true := by
  rw [out_nonsel o q h hns] at hcur
  -- every distinct window has a raw row inside the bounds
  have hmemW : ∀ i ∈ distinctIdx q pts, ∃ x ∈ pts, widx q x.1 = i := fun i hi => (mem_distinctIdx q pts i).mp hi
  have hplaced : ∀ p ∈ arrs.flatten, WellPlaced q true p.1 := by
    intro p hp
    rw [hcur] at hp
    obtain ⟨i, hi, rfl⟩ := List.mem_map.mp hp
    obtain ⟨x, hx, rfl⟩ := hmemW i hi
    have hsx := widx_spec q h x.1
    simp only [WellPlaced, ↓reduceIte]
    exact ⟨_, rfl, by have := (hin x hx).2; omega⟩
  by_cases hce : q.createEmpty = true
  · -- one row per window inside the bounds
    have hwin := windows_of_emptiesRequired q h hb (by simp [emptiesRequired, hce, hns]) pts
    refine holdsOn_of_rows B o q hns htc pts hpts arrs
      (fun k => mkRow q (fillOf q) (clipped q k) (valueAt q true arrs.flatten k)) ?_ ?_
    · have harr : arrs ≠ [] := by
        intro he
        rw [he, List.flatten_nil] at hcur
        cases pts with
        | nil => exact hpts rfl
        | cons x xs => rw [distinctIdx] at hcur; cases hcur
      have hinc : arrs.flatten.Pairwise (fun a b => pointWin q true a.1 < pointWin q true b.1) := by
        rw [hcur, List.pairwise_map]
        refine (distinctIdx_ascending q h pts hs).imp ?_
        intro a b hab
        simp only [pointWin_stop q h]; exact hab
      have hrange : ∀ p ∈ arrs.flatten, widx q q.bstart ≤ pointWin q true p.1 ∧
          pointWin q true p.1 < widx q q.bstart + countFrom q (widx q q.bstart) := by
        intro p hp
        rw [hcur] at hp
        obtain ⟨i, hi, rfl⟩ := List.mem_map.mp hp
        obtain ⟨x, hx, rfl⟩ := hmemW i hi
        have h1 := widx_mono q h (hin x hx).1
        have h2 := widx_mono q h (show x.1 ≤ q.bstop - 1 by have := (hin x hx).2; omega)
        have hc := countFrom_first q h hb
        rw [pointWin_stop q h]
        omega
      rw [C41_createEmpty_rows q h hb hce true (fillOf q) arrs hne harr hplaced hinc hrange _ (by omega), hwin]
      simp only [List.flatten_cons, List.flatten_nil, List.append_nil]
    · intro k _
      simp only [mkRow, htc, hcur]
      rw [valueAt_out q h (fun i => aggVal o q.agg (members q pts i))]
      by_cases hk : k ∈ distinctIdx q pts
      · simp only [hk, ↓reduceIte]
        exact rowOK_present o q hns pts k hk
      · simp only [hk, ↓reduceIte]
        exact rowOK_absent o q pts k hk
  · -- one row per non-empty window
    have hce' : q.createEmpty = false := by simpa using hce
    have hwin : windows q pts = distinctIdx q pts := by
      have he : emptiesRequired q = false := by simp [emptiesRequired, hce']
      simp [windows, he]
    refine holdsOn_of_rows B o q hns htc pts hpts arrs
      (fun i => mkRow q (fillOf q) (clipped q i) (some (aggVal o q.agg (members q pts i)))) ?_ ?_
    · have hlen := length_le_flatten arrs hne
      rw [C41_window_rows q h hce' true (fillOf q) _ arrs hne
        (fun a ha p hp => hplaced p (List.mem_flatten.mpr ⟨a, ha, hp⟩)) _ (by omega), hcur, hwin, List.map_map]
      simp only [Function.comp_def, pointWin_stop q h]
    · intro i hi
      rw [hwin] at hi
      simp only [mkRow, htc]
      exact rowOK_present o q hns pts i hi

/-- **C41 on the model, cursor included**: the storage cursor of the C20 model under the
    reader's tables.  For every cutting of the series' points (at least one; time-ordered, inside the bounds)
    into non-empty arrays and every block size, the cursor terminates and the tables built from
    its arrays pass the statement checker (count / sum / mean, no time column). -/
theorem C41_holdsOn_model_partial (B : Nat) (hB : 1 ≤ B) (o : Ops Val) (q : Req) (h : 0 < q.every) (hb : q.bstart < q.bstop)
    (hns : isSelector q.agg = false) (htc : q.timeCol = .none)
    (chunks : List (List (Pt Val))) (hne : ∀ c ∈ chunks, c ≠ []) (hpts : chunks.flatten ≠ [])
    (hs : Sorted chunks.flatten) (hin : ∀ p ∈ chunks.flatten, q.bstart ≤ p.1 ∧ p.1 < q.bstop)
    (fuel : Nat) (hfuel : chunks.flatten.length < fuel) :
    ∃ arrs, drain (Cursor.next B o (Win.ofWindow q.win)) fuel (Cursor.new q.agg (Win.ofWindow q.win) chunks) = some arrs ∧
      holdsOn o ⟨q, chunks.flatten, some (seriesTables B q arrs)⟩ = true := by
  have hfold : Influx.Props.C20.IsFold q.agg := by
    revert hns
    cases q.agg <;> simp [isSelector, Influx.Props.C20.IsFold]
  obtain ⟨arrs, h1, h2, h3⟩ := Influx.Props.C20.C20_fold B hB o q.agg hfold (Win.ofWindow q.win)
    (Win.ofWindow_OK q.every q.offset h) chunks hne hs fuel hfuel
  refine ⟨arrs, h1, ?_⟩
  have hstop : (Win.ofWindow q.win).stop = stopFn q := Influx.Props.C20.ofWindow_stop q.every q.offset h
  rw [hstop] at h2
  exact C41_holdsOn_partial B o q h hb hns htc chunks.flatten hpts hs hin arrs h3 h2

-- non-vacuity / sanity of the model on a concrete request: every 10, bounds [5,38), mean, createEmpty, time = _stop
example : seriesTables 1000 ⟨.mean, 10, 3, 5, 38, true, .stop, false⟩ [[(23, .f 2), (33, .f 3)]]
    = [⟨5, 38, [⟨5, 38, .val 13, none⟩, ⟨5, 38, .val 23, some (.f 2)⟩, ⟨5, 38, .val 33, some (.f 3)⟩,
                ⟨5, 38, .val 38, none⟩]⟩] := by decide

end Influx.Props.C41
