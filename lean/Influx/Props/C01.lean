/-
  Props.C01 — Read-your-writes, last-write-wins across flushes and compactions.

  Model: `Influx.Model.Engine` (the tsm1 engine as a state machine).  Statement checker:
  `Influx.Spec.C01.holdsOn`.  Everything here is for ALL operation lists (unbounded length,
  arbitrary batches, keys, timestamps, values, read ranges and directions, and every
  placement of snapshot sub-steps and compactions of adjacent files).
-/
import Influx.Lemmas.EngineCheck

namespace Influx.Props.C01
open Influx.Model.Engine Influx.Spec.C01

/-- the acknowledged writes of an operation list, oldest first -/
def writesOf : List Op → List Entry
  | [] => []
  | .write es :: ops => es ++ writesOf ops
  | _ :: ops => writesOf ops

/-- **Beginning a snapshot (`Cache.Snapshot`) preserves the abstraction**; the later sub-steps (write
    file, replace, clear, WAL removal) are `snapStep_preserves_abs` and `snapTo_preserves_abs`. -/
theorem snapBegin_preserves_abs {s : State} (h : Inv s) (k : Key) (t : Int) :
    (step s .snapBegin).1.abs k t = s.abs k t := abs_step_silent h rfl k t

/-- a failing `WriteSnapshot` attempt (and the retry of one) does not change what is readable -/
theorem snapFail_preserves_abs {s : State} (h : Inv s) (k : Key) (t : Int) :
    (step s .snapFail).1.abs k t = s.abs k t := abs_step_silent h rfl k t

theorem snapStep_preserves_abs {s : State} (h : Inv s) (k : Key) (t : Int) :
    (step s .snapStep).1.abs k t = s.abs k t := abs_step_silent h rfl k t

theorem snapTo_preserves_abs {s : State} (h : Inv s) (p : Phase) (k : Key) (t : Int) :
    (step s (.snapTo p)).1.abs k t = s.abs k t := abs_step_silent h rfl k t

/-- **Compaction of a group of ADJACENT files preserves the abstraction** (the group
    `i..j` is contiguous in file order by construction; this is the contiguity hypothesis). -/
theorem compact_preserves_abs (s : State) (i j : Nat) (k : Key) (t : Int) :
    (step s (.compact i j)).1.abs k t = s.abs k t := abs_step_compact s i j k t

/-- a write overlays the batch (later point of the batch wins) -/
theorem write_abs (s : State) (es : Log) (k : Key) (t : Int) :
    (step s (.write es)).1.abs k t = (Log.get es k t).or (s.abs k t) := abs_stepWrite s es k t

def writesAfter (w : List Entry) : Op → List Entry
  | .write es => w ++ es
  | _ => w

theorem writesAfter_append (w : List Entry) (op : Op) (ops : List Op) :
    writesAfter w op ++ writesOf ops = w ++ writesOf (op :: ops) := by
  cases op with
  | write es => exact List.append_assoc w es _
  | _ => rfl

theorem abs_step {s : State} (hi : Inv s) {w : List Entry} (ha : AbsIs s w) {op : Op} (hop : inScope op = true) :
    AbsIs (step s op).1 (writesAfter w op) := by
  intro k t
  cases op with
  | write es => rw [writesAfter, Log.get_append, ← ha]; exact abs_stepWrite s es k t
  | delete | compactSet | crash | compactCrash | deleteCrash => cases hop
  | _ => exact (abs_step_silent hi rfl k t).trans (ha k t)

theorem check_step {s : State} {w : List Entry} (ha : AbsIs s w) {op : Op} (hop : inScope op = true)
    (tr : List (Op × Obs)) :
    checkFrom w ((op, (step s op).2) :: tr) = checkFrom (writesAfter w op) tr := by
  cases op with
  | read k lo hi asc => exact if_pos (rowsOK_read ha k lo hi asc)
  | delete | compactSet | crash | compactCrash | deleteCrash => cases hop
  | _ => rfl

/-- the refinement, along a whole history: `abs` stays the last-write-wins map of the acknowledged
    writes, and the checker accepts every answer -/
theorem run_refines (ops : List Op) : ∀ (s : State) (w : List Entry), Inv s → AbsIs s w →
    (∀ op ∈ ops, inScope op = true) →
    AbsIs (runFrom s ops).1 (w ++ writesOf ops) ∧ checkFrom w (runFrom s ops).2 = none := by
  induction ops with
  | nil => intro s w _ ha _; exact ⟨by rw [writesOf, List.append_nil]; exact ha, rfl⟩
  | cons op ops ih =>
    intro s w hi ha hs
    have hop := hs op List.mem_cons_self
    have := ih _ _ (inv_step hi (by rintro _ rfl; cases hop)) (abs_step hi ha hop)
      fun o ho => hs o (List.mem_cons_of_mem _ ho)
    rw [writesAfter_append] at this
    exact ⟨this.1, (check_step ha hop _).trans this.2⟩

/-- **C01, refinement form**: after any in-scope history the shard's content is exactly the
    last-write-wins map of the acknowledged writes. -/
theorem C01_abs (ops : List Op) (hs : ∀ op ∈ ops, inScope op = true) (k : Key) (t : Int) :
    (run ops).abs k t = lastWritten (writesOf ops) k t := by
  rw [lastWritten_eq_get]
  exact (run_refines ops init [] inv_init (fun _ _ => rfl) hs).1 k t

/-- **C01, read form**: a read over any range, in either direction, returns exactly the
    written cells whose timestamp is in range, each with its most recently written value … -/
theorem C01_read_mem (ops : List Op) (hs : ∀ op ∈ ops, inScope op = true)
    (k : Key) (lo hi : Int) (asc : Bool) (p : Pt) :
    p ∈ (run ops).read k lo hi asc ↔
      (lo ≤ p.1 ∧ p.1 ≤ hi) ∧ lastWritten (writesOf ops) k p.1 = some p.2 := by
  rw [State.mem_read, C01_abs ops hs]

/-- … one row per timestamp, in time order. -/
theorem C01_read_ordered (ops : List Op) (k : Key) (lo hi : Int) :
    ((run ops).read k lo hi true).Pairwise (fun a b => a.1 < b.1) ∧
    ((run ops).read k lo hi false).Pairwise (fun a b => b.1 < a.1) :=
  ⟨State.read_sorted_asc _ _ _ _, State.read_sorted_desc _ _ _ _⟩

/-- **C01** (statement-checker form): on the trace of the MODEL, for every list of writes,
    reads, snapshot sub-steps and compactions of adjacent files, the statement holds. -/
theorem C01_holdsOn (ops : List Op) (hs : ∀ op ∈ ops, inScope op = true) :
    holdsOn (trace ops) = true := by
  rw [holdsOn, check, trace, (run_refines ops init [] inv_init (fun _ _ => rfl) hs).2]
  rfl

/-- the hypothesis is met by a history with overwrites, a snapshot in sub-steps with a write
    in between, a compaction and reads -/
example : ∀ op ∈ ([.write [⟨⟨0,0⟩,5,1⟩, ⟨⟨0,0⟩,3,2⟩], .snapBegin, .write [⟨⟨0,0⟩,5,9⟩], .snapStep, .snapStep,
    .snapStep, .snapStep, .snapBegin, .snapStep, .snapStep, .snapStep, .snapStep, .compact 0 1,
    .read ⟨0,0⟩ 0 10 false] : List Op), inScope op = true := by decide

example : (trace [.write [⟨⟨0,0⟩,5,1⟩, ⟨⟨0,0⟩,3,2⟩], .snapBegin, .write [⟨⟨0,0⟩,5,9⟩], .snapStep, .snapStep,
    .snapStep, .snapStep, .snapBegin, .snapStep, .snapStep, .snapStep, .snapStep, .compact 0 1,
    .read ⟨0,0⟩ 0 10 false]).getLast? = some (.read ⟨0,0⟩ 0 10 false, .rows [(5, 9), (3, 2)]) := by decide

/-- three snapshots (t=1 ↦ 10; t=1 ↦ 20; t=2 ↦ 30), then the NON-adjacent files 0 and 2 compacted -/
def nonContiguousOps : List Op :=
  [.write [⟨⟨0,0⟩,1,10⟩], .snapBegin, .snapStep, .snapStep, .snapStep, .snapStep,
   .write [⟨⟨0,0⟩,1,20⟩], .snapBegin, .snapStep, .snapStep, .snapStep, .snapStep,
   .write [⟨⟨0,0⟩,2,30⟩], .snapBegin, .snapStep, .snapStep, .snapStep, .snapStep,
   .compactSet [0, 2], .read ⟨0,0⟩ 0 10 true]

/-- **Contiguity is necessary**: compacting the NON-adjacent files 0 and 2 puts their merge
    above file 1 and an overwritten value resurfaces (DESIGN §6 F2 is the planner producing
    such a group): the last read returns 10 at t=1, where the most recent write is 20. -/
theorem C01_noncontiguous_fails :
    (trace nonContiguousOps).getLast? = some (.read ⟨0,0⟩ 0 10 true, .rows [(1, 10), (2, 30)]) ∧
    lastWritten (writesOf nonContiguousOps) ⟨0,0⟩ 1 = some 20 := by decide

end Influx.Props.C01
