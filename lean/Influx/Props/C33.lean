/-
  Props.C33 — Health and readiness endpoints report the true aggregate state.

  Sequential theorems are about `ready false` / `health false` of Model/Check.lean
  (HealthReadyHandler.writeReady / writeHealth over Check.evaluate with the
  repaired aggregation); the concurrent theorems about the interleaving model
  `CSt.run` are in the second half.
-/
import Influx.Lemmas.CheckConc

namespace Influx.Props.C33
open Influx.CheckM Influx.Spec.C33

/-- writeReady aggregates the current answers the way a request of the interleaving model does -/
theorem ready_eq_respond (s : St) : ready false s = respond (answers s.ready) := rfl

theorem health_fail {s : St} (h : ∃ r ∈ answers s.health, r.status = fail) :
    health false s =
      ⟨503, fail, firstFailureMessage (sortRes (answers s.health)), sortRes (answers s.health)⟩ := by
  have ho := (overall_fail_iff _).2 h
  have e : health false s = ⟨503, overall (answers s.health), _, sortRes (answers s.health)⟩ := if_pos ho
  rw [e, ho]
  rfl

theorem health_ok {s : St} (h : ¬ ∃ r ∈ answers s.health, r.status = fail) :
    health false s = ⟨200, overall (answers s.health), "healthy", sortRes (answers s.health)⟩ :=
  if_neg (mt (overall_fail_iff _).1 h)

/-- **/ready, failing side**: if some registered ready check answers "fail", /ready is 503
    and its body lists exactly the failing checks (each once, with its current message). -/
theorem C33_ready_503 (s : St) (h : ∃ c ∈ s.ready, c.res.status = fail) :
    (ready false s).code = 503 ∧ (ready false s).status = "starting" ∧
    (ready false s).checks.Perm ((answers s.ready).filter (·.status == fail)) := by
  rw [ready_eq_respond, respond_fail (exists_fail_answers.2 h)]
  exact ⟨rfl, rfl, failingChecks_sortRes_perm _⟩

/-- **/ready, passing side**: if every registered ready check answers "pass", /ready is 200
    "ready" with no checks listed. -/
theorem C33_ready_200 (s : St) (h : ∀ c ∈ s.ready, c.res.status = pass) :
    (ready false s).code = 200 ∧ (ready false s).status = "ready" ∧ (ready false s).checks = [] := by
  have h' : ∀ r ∈ answers s.ready, r.status = pass := List.forall_mem_map.2 h
  rw [ready_eq_respond, respond_ok (no_fail_of_pass h')]
  exact ⟨rfl, rfl, rfl⟩

/-- **/ready = 200 ↔ all gates ready** — for checks that answer one of the two
    declared statuses (every ReadyGate does). -/
theorem C33_ready_200_iff (s : St)
    (hpf : ∀ c ∈ s.ready, c.res.status = pass ∨ c.res.status = fail) :
    (ready false s).code = 200 ↔ ∀ c ∈ s.ready, c.res.status = pass := by
  constructor
  · intro h c hc
    refine (hpf c hc).resolve_right fun hf => ?_
    rw [(C33_ready_503 s ⟨c, hc, hf⟩).1] at h
    cases h
  · intro h; exact (C33_ready_200 s h).1

/-- **/health, failing side**: if some health check answers "fail", /health is 503, reports
    every registered check, and its message is the message of the first failing check in
    the reported order ("fail" if that check has none). -/
theorem C33_health_503 (s : St) (h : ∃ c ∈ s.health, c.res.status = fail) :
    (health false s).code = 503 ∧ (health false s).status = fail ∧
    (health false s).checks.Perm (answers s.health) ∧
    firstFailing (health false s).checks = some (health false s).message := by
  have h' := exists_fail_answers.2 h
  rw [health_fail h']
  obtain ⟨r, hr, hs⟩ := h'
  exact ⟨rfl, rfl, sortRes_perm _, firstFailing_eq _ ⟨r, (sortRes_perm _).mem_iff.2 hr, hs⟩⟩

/-- **/health, passing side**. -/
theorem C33_health_200 (s : St) (h : ∀ c ∈ s.health, c.res.status = pass) :
    (health false s).code = 200 ∧ (health false s).status = pass ∧ (health false s).message = "healthy" ∧
    (health false s).checks.Perm (answers s.health) := by
  have h' : ∀ r ∈ answers s.health, r.status = pass := List.forall_mem_map.2 h
  rw [health_ok (no_fail_of_pass h'), overall_pass _ h']
  exact ⟨rfl, rfl, rfl, sortRes_perm _⟩

theorem C33_health_200_iff (s : St)
    (hpf : ∀ c ∈ s.health, c.res.status = pass ∨ c.res.status = fail) :
    (health false s).code = 200 ↔ ∀ c ∈ s.health, c.res.status = pass := by
  constructor
  · intro h c hc
    refine (hpf c hc).resolve_right fun hf => ?_
    rw [(C33_health_503 s ⟨c, hc, hf⟩).1] at h
    cases h
  · intro h; exact (C33_health_200 s h).1

/-- /health always reports exactly the registered checks with their current answers -/
theorem C33_health_reports_all (s : St) : (health false s).checks.Perm (answers s.health) := by
  by_cases h : ∃ r ∈ answers s.health, r.status = fail
  · rw [health_fail h]; exact sortRes_perm _
  · rw [health_ok h]; exact sortRes_perm _

/-- what the model answers to an op, as an observation -/
def obsOfModel (s : St) : Op → Obs
  | .ready => .ready ⟨(ready false s).code, (ready false s).checks⟩
  | .health => .health ⟨(health false s).code, (health false s).message, (health false s).checks⟩
  | .names => .names s.readyNames
  -- the requests issued while `err.Error()` is being rendered see the logger untouched
  -- (in the code's order nothing has been stored yet); the one after sees both stores
  | .finishRace k m n =>
    let s' := (s.apply (.finishRace k m n)).getD s
    .race (List.replicate n ⟨(ready false s).code, (ready false s).checks⟩)
      ⟨(ready false s').code, (ready false s').checks⟩
  | _ => .other

def trace (s : St) : List Op → List (Op × Obs)
  | [] => []
  | op :: ops => (op, obsOfModel s op) :: trace ((s.apply op).getD s) ops

theorem healthOK_model (s : St) :
    healthOK (answers s.health) ⟨(health false s).code, (health false s).message, (health false s).checks⟩ = true := by
  unfold healthOK
  rw [List.isPerm_iff.2 (C33_health_reports_all s)]
  by_cases h : ∃ r ∈ answers s.health, r.status = fail
  · obtain ⟨h1, -, -, h4⟩ := C33_health_503 s (exists_fail_answers.1 h)
    have hp : allPass (answers s.health) = false :=
      Bool.eq_false_iff.2 fun hp => no_fail_of_pass ((allPass_iff _).1 hp) h
    rw [hp, h1, h4]
    simp only [beq_self_eq_true, Bool.not_false, Bool.true_or, Bool.and_self, Bool.or_true]
  · rw [health_ok h, Bool.eq_false_iff.2 (mt (anyFail_iff _).1 h)]
    simp only [beq_self_eq_true, Bool.not_false, Bool.true_or, Bool.and_self, Bool.or_true]

theorem Cell.signal_name {c c' : Cell} {b : Bool} (h : c.signal b = some c') : c'.res.name = c.res.name := by
  unfold Cell.signal at h
  split at h
  · injection h with h; subst h; cases b <;> rfl
  · cases h

theorem Cell.set_name {c c' : Cell} {st m} (h : c.set st m = some c') : c'.res.name = c.res.name := by
  unfold Cell.set at h
  split at h
  · injection h with h; subst h; rfl
  · next stale _ => injection h with h; subst h; cases stale <;> rfl
  · cases h

theorem set_self {α} (l : List α) (i : Nat) (x : α) (h : l[i]? = some x) : l.set i x = l := by
  obtain ⟨hi, rfl⟩ := List.getElem?_eq_some_iff.1 h
  exact List.set_getElem_self hi

theorem updAt_names {l l' : List Cell} {i : Nat} {f : Cell → Option Cell}
    (hf : ∀ c c', f c = some c' → c'.res.name = c.res.name) (h : updAt l i f = some l') :
    l'.map (·.res.name) = l.map (·.res.name) := by
  unfold updAt at h
  cases hi : l[i]? with
  | none => rw [hi] at h; cases h
  | some c =>
    rw [hi] at h
    obtain ⟨c', hc', rfl⟩ := Option.map_eq_some_iff.1 h
    rw [List.map_set, hf c c' hc']
    exact set_self _ _ _ (by rw [List.getElem?_map, hi]; rfl)

def readyN (s : St) : List String := s.ready.map (·.res.name)

/-- ReadyCheckNames stays the list of registered ready names, and every startup
    logger's ReadyChecker sits where the logger remembers it, under its name -/
def namesOK (s : St) : Prop :=
  s.readyNames = readyN s ∧ ∀ u ∈ s.startups, (readyN s)[u.readyIdx]? = some u.name

theorem Startup.readyRes_name (u : Startup) : u.readyRes.name = u.name := by
  unfold Startup.readyRes
  split
  · split <;> rfl
  · split <;> rfl

theorem Startup.apply_name (u : Startup) (ev : StartupEv) :
    (u.apply ev).name = u.name ∧ (u.apply ev).readyIdx = u.readyIdx := by
  cases ev with
  | finish e => cases e <;> exact ⟨rfl, rfl⟩
  | _ => exact ⟨rfl, rfl⟩

theorem namesOK_congr {s s' : St} (hn : namesOK s) (h1 : s'.readyNames = s.readyNames)
    (h2 : readyN s' = readyN s)
    (h3 : ∀ u' ∈ s'.startups, ∃ u ∈ s.startups, u'.name = u.name ∧ u'.readyIdx = u.readyIdx) :
    namesOK s' := by
  refine ⟨by rw [h1, h2]; exact hn.1, fun u' hu' => ?_⟩
  obtain ⟨u, hu, e1, e2⟩ := h3 u' hu'
  rw [h2, e1, e2]
  exact hn.2 u hu

theorem namesOK_append {s s' : St} (hn : namesOK s) (c : Cell)
    (h1 : s'.readyNames = s.readyNames ++ [c.res.name]) (h2 : s'.ready = s.ready ++ [c])
    (h3 : ∀ u ∈ s'.startups, u ∈ s.startups ∨ (u.readyIdx = s.ready.length ∧ u.name = c.res.name)) :
    namesOK s' := by
  have hr : readyN s' = readyN s ++ [c.res.name] := by
    unfold readyN; rw [h2, List.map_append]; rfl
  refine ⟨by rw [h1, hr, hn.1], fun u hu => ?_⟩
  rw [hr]
  rcases h3 u hu with hu | ⟨hi, hname⟩
  · have hx := hn.2 u hu
    rw [List.getElem?_append_left (List.getElem?_eq_some_iff.1 hx).1]
    exact hx
  · rw [hi, hname, ← List.length_map (f := fun c : Cell => c.res.name)]
    exact List.getElem?_concat_length

theorem namesOK_startupApply (s : St) (k : Nat) (ev : StartupEv) (hn : namesOK s) :
    namesOK ((s.startupApply k ev).getD s) := by
  unfold St.startupApply
  cases hk : s.startups[k]? with
  | none => exact hn
  | some u =>
    have hu : u ∈ s.startups := List.mem_of_getElem? hk
    obtain ⟨ha1, ha2⟩ := Startup.apply_name u ev
    refine namesOK_congr hn rfl ?_ fun v hv => ?_
    · show (s.ready.set u.readyIdx _).map _ = _
      rw [List.map_set]
      exact set_self _ _ _ (by rw [Startup.readyRes_name, ha1]; exact hn.2 u hu)
    · rcases List.mem_or_eq_of_mem_set hv with hv | rfl
      · exact ⟨v, hv, rfl, rfl⟩
      · exact ⟨u, hu, ha1, ha2⟩

theorem namesOK_map_getD {α} {s : St} (hn : namesOK s) (o : Option α) (k : α → St)
    (h : ∀ x, o = some x → namesOK (k x)) : namesOK ((o.map k).getD s) := by
  cases o with
  | none => exact hn
  | some x => exact h x rfl

theorem namesOK_apply (s : St) (op : Op) (hn : namesOK s) : namesOK ((s.apply op).getD s) := by
  cases op with
  | regGate n => exact namesOK_append hn (newGate n) rfl rfl fun u hu => Or.inl hu
  | regReady n st m => exact namesOK_append hn (newPlain n st m) rfl rfl fun u hu => Or.inl hu
  | regStartup n =>
    refine namesOK_append hn ⟨.startup, _⟩ rfl rfl fun u hu => (List.mem_append.1 hu).imp_right fun h => ?_
    cases List.mem_singleton.1 h
    exact ⟨rfl, (Startup.readyRes_name _).symm⟩
  | signal i b =>
    exact namesOK_map_getD hn _ _ fun l hl =>
      namesOK_congr hn rfl (updAt_names (fun _ _ => Cell.signal_name) hl) fun u hu => ⟨u, hu, rfl, rfl⟩
  | setReady i st m =>
    refine namesOK_map_getD hn _ _ fun l hl =>
      namesOK_congr hn rfl (updAt_names (fun c c' hc => ?_) hl) fun u hu => ⟨u, hu, rfl, rfl⟩
    by_cases hp : c.kind = .plain
    · rw [if_pos hp] at hc; exact Cell.set_name hc
    · rw [if_neg hp] at hc; cases hc
  | setHealth i st m => exact namesOK_map_getD hn _ _ fun _ _ => hn
  | startupEv k ev => exact namesOK_startupApply s k ev hn
  | finishRace k m n => exact namesOK_startupApply s k _ hn
  | regHealth _ _ _ | regFresh _ _ | ready | health | names => exact hn

/-- **C33 (sequential)** — the run-time statement checker accepts what the model
    answers on every sequence of registrations, signals, answer changes and requests. -/
theorem C33_holdsOn (s : St) (ops : List Op) (hn : namesOK s) : holdsOn s (trace s ops) = true := by
  induction ops generalizing s with
  | nil => rfl
  | cons op ops ih =>
    refine Bool.and_eq_true_iff.2 ⟨?_, ih _ (namesOK_apply s op hn)⟩
    cases op with
    | ready => exact readyOK_respond _
    | health => exact healthOK_model s
    | names => exact beq_iff_eq.2 (hn.1.trans List.map_map.symm)
    | finishRace k m n =>
      refine Bool.and_eq_true_iff.2 ⟨List.all_eq_true.2 fun o ho => ?_, readyOK_respond _⟩
      rw [List.eq_of_mem_replicate ho]
      exact Bool.or_eq_true_iff.2 (Or.inl (readyOK_respond _))
    | _ => rfl

/-- the witness state: a failing check registered before one whose status is the zero value -/
def maskedSt : St := { health := [newPlain "db" fail "down", newPlain "remote" "" ""],
                       ready := [newGate "engine", newPlain "remote" "warn" ""] }

/-- **Finding (code before the repair)**: `overall = s` lets the *last* non-pass status
    win, so a failing check followed by a check whose status is neither "pass" nor "fail"
    is masked: /health answers 200 "healthy" and /ready answers 200 "ready" although a
    health check fails and a gate is not ready. -/
theorem old_code_masks_failure :
    (∃ c ∈ maskedSt.health, c.res.status = fail) ∧ (health true maskedSt).code = 200 ∧
    (∃ c ∈ maskedSt.ready, c.res.status = fail) ∧ (ready true maskedSt).code = 200 := by
  refine ⟨⟨_, List.mem_cons_self, rfl⟩, by decide, ⟨_, List.mem_cons_self, rfl⟩, by decide⟩

/-- … and the repaired code answers 503 on the same state. -/
theorem repaired_code_reports_failure :
    (health false maskedSt).code = 503 ∧ (health false maskedSt).message = "down" ∧
    (ready false maskedSt).code = 503 := by
  decide

/-- a startup logger whose ReadyChecker does not pass -/
def notReady (u : Startup) : Prop := u.readyRes.status = fail

/-- once the failure message is stored the ReadyChecker fails, whether or not `done` is set -/
theorem readyRes_fail_of_failMsg {u : Startup} {m : String} (h : u.failMsg = some m) :
    u.readyRes.status = fail := by
  unfold Startup.readyRes
  by_cases hd : u.done = true
  · rw [if_pos hd, h]
  · rw [if_neg hd]
    by_cases ht : u.total = 0
    · rw [if_pos ht]
    · rw [if_neg ht]

/-- **Finish(err) never lets the gate pass** — `Finish(err)` is two atomic stores, the
    failure message first and `done` second (the order the code has).  For a logger that
    is not ready, the ReadyChecker fails before the call, *between the two stores*, and
    after the call: no interleaving of a /ready evaluation with `Finish(err)` can report
    the startup gate as passing. -/
theorem C33_finish_err_never_passes (u : Startup) (m : String) (h : notReady u) :
    (u.finishMsg m).readyRes.status = fail ∧ ((u.finishMsg m).finishDone).readyRes.status = fail :=
  ⟨readyRes_fail_of_failMsg rfl, readyRes_fail_of_failMsg rfl⟩

/-- … whereas with the stores in the other order (`done` first, the seeded change
    /verif/seeded/C33-a) the state between them is `done` without a failure message and the
    ReadyChecker of a logger that was never ready passes: the witness. -/
theorem finish_done_first_passes :
    ∃ u : Startup, notReady u ∧ u.finishDone.readyRes.status = pass :=
  ⟨{ name := "shards", readyIdx := 0, healthIdx := 0 }, by unfold notReady; decide, by decide⟩

/-- at the level of the endpoint: while `Finish(err)` is in flight on a logger that is not
    ready — at either intermediate point — and afterwards, /ready answers 503 -/
theorem C33_ready_503_during_finish_err (s : St) (c : Cell) (hc : c ∈ s.ready)
    (hs : c.res.status = fail) : (ready false s).code = 503 :=
  (C33_ready_503 s ⟨c, hc, hs⟩).1

/-- **C33 (sequential), from a fresh handler** — no hypothesis left. -/
theorem C33_holdsOn_fresh (ops : List Op) : holdsOn {} (trace {} ops) = true :=
  C33_holdsOn {} ops ⟨rfl, by intro u hu; cases hu⟩

/-- **C33 (concurrent), instant semantics.**  In every interleaving of a request
    with registrations, signals and other requests: the request answers over the gates
    registered at its snapshot instant (those of them it has read when it responds: the model
    does not force a request to read every gate first), and the status it reports for each is
    the gate's value at the instant of the corresponding read (`replay` walks the
    interleaving and takes the values at those instants) — nothing else in the
    interleaving (other requests, later registrations) influences the answer. -/
theorem C33_conc_instant (s : CSt) (rid : Nat) (as : List Act)
    (hfresh : pend s rid = []) (hns : ∀ a ∈ as, a ≠ .reqSnapshot rid)
    (resp : ReadyResp)
    (h : replay rid s.gates (List.range s.gates.length) [] as = some resp) :
    (rid, resp) ∈ (s.run (.reqSnapshot rid :: as)).done := by
  refine replay_sound rid as (s.step (.reqSnapshot rid)) ⟨rid, List.range s.gates.length, []⟩ ?_ hns resp h
  rw [pend_step_snapshot, hfresh]

/-- **C33 (concurrent), interval semantics, explicit.**  Whatever the interleaving: if
    `replay` answers `resp`, then so does the request, its `reqRespond` sits at some position `c` after the
    snapshot and there are strictly increasing instants `ts`, all between the snapshot
    and `c`, one per snapshotted gate read before the response, in order (`ts.length ≤
    s.gates.length`, see `C33_conc_instant`), such that `resp` is the aggregate of the
    values the gates registered at the snapshot instant had *at those instants* — each
    gate's reported status is its value at an instant inside the request interval, and the
    set of gates is the one at the snapshot instant. -/
theorem C33_conc_interval (s : CSt) (rid : Nat) (as : List Act)
    (hfresh : pend s rid = []) (hns : ∀ a ∈ as, a ≠ .reqSnapshot rid) (resp : ReadyResp)
    (h : replay rid s.gates (List.range s.gates.length) [] as = some resp) :
    (rid, resp) ∈ (s.run (.reqSnapshot rid :: as)).done ∧
    ∃ (ts : List Nat) (c : Nat), as[c]? = some (.reqRespond rid) ∧
      ts.length ≤ s.gates.length ∧ ts.Pairwise (· < ·) ∧
      (∀ t ∈ ts, t < c ∧ as[t]? = some (.reqRead rid)) ∧
      resp = respond (readAt s.gates as ts (List.range s.gates.length)) := by
  refine ⟨C33_conc_instant s rid as hfresh hns resp h, ?_⟩
  obtain ⟨ts, c, h1, h2, h3, h4, h5⟩ := replay_instants rid as _ _ _ _ h
  exact ⟨ts, c, h1, Nat.le_trans h2 (Nat.le_of_eq List.length_range), h3, h4, h5⟩

/-- **C33 (concurrent), no overlapping signal ⇒ exact aggregate.**  If no registration
    or signal happens between a request's snapshot and its response (other requests may
    interleave freely) the answer is the aggregate of the gates as they were. -/
theorem C33_conc_quiescent (s : CSt) (rid : Nat) (seg rest : List Act)
    (hfresh : pend s rid = [])
    (hm : ∀ a ∈ seg, a.mutates = false)
    (hs : ∀ a ∈ seg ++ .reqRespond rid :: rest, a ≠ .reqSnapshot rid)
    (hr : ∀ a ∈ seg, a ≠ .reqRespond rid)
    (hreads : readsOf rid seg = s.gates.length) :
    (rid, respond (s.gates.map gateRes)) ∈
      (s.run (.reqSnapshot rid :: (seg ++ .reqRespond rid :: rest))).done := by
  apply C33_conc_instant s rid _ hfresh hs
  rw [replay_quiescent rid s.gates seg rest _ [] hm hr (hreads.trans List.length_range.symm), range_filterMap_get]
  rfl

theorem respond_eq_ready (g : List (String × Bool)) :
    respond (g.map gateRes) = ready false { ready := g.map fun x => ⟨.gate, gateRes x⟩ } := by
  simp only [respond, ready, evaluate, List.map_map, Bool.false_eq_true, ↓reduceIte]
  rfl

theorem respond_spec (got : List Res) :
    ((∀ r ∈ got, r.status = pass) → (respond got).code = 200 ∧ (respond got).checks = []) ∧
    ((∃ r ∈ got, r.status = fail) →
      (respond got).code = 503 ∧ (respond got).checks.Perm (got.filter (·.status == fail))) := by
  refine ⟨fun h => ?_, fun h => ?_⟩
  · rw [respond_ok (no_fail_of_pass h)]; exact ⟨rfl, rfl⟩
  · rw [respond_fail h]; exact ⟨rfl, failingChecks_sortRes_perm got⟩

/-- the request `r` read `v` from gate `g`: `v` is the value of the write to `g` with the
    latest linearization point before the request's read point for `g` -/
def ReadsVal (init : List (String × Bool)) (h : List HOp) (pt : String → W → Nat) (ρ : Nat)
    (g : String) (v : Bool) : Prop :=
  ∃ w ∈ writesOf init h g, w.val = v ∧ pt g w < ρ ∧
    ∀ w' ∈ writesOf init h g, pt g w' < ρ → pt g w' ≤ pt g w

/-- A history is *linearizable* for the gate / request specification: every write
    (initial value, registration, signal) takes effect at one point inside its interval;
    every request takes its snapshot at one point inside its interval and reads every gate
    of the snapshot at one point inside its interval; a gate is in the snapshot iff its
    registration point precedes the snapshot point; the value read is that of the latest
    write before the read point; the answer lists exactly the snapshotted gates read as
    not ready (sorted), with code 200 iff there is none. -/
structure Linearizable (init : List (String × Bool)) (h : List HOp) : Prop where
  lin : ∃ (pt : String → W → Nat) (regPt : String → Nat) (snap : HOp → Nat) (rpt : HOp → String → Nat),
    (∀ g, ∀ w ∈ writesOf init h g, w.inv ≤ pt g w ∧ pt g w ≤ w.res) ∧
    (∀ g ri rr, regOf init h g = some (ri, rr) → ri ≤ regPt g ∧ regPt g ≤ rr) ∧
    (∀ r ∈ h, r.kind = .ready →
      r.inv ≤ snap r ∧ snap r ≤ r.res ∧
      ((r.code = 200 ∧ r.failing = []) ∨ (r.code = 503 ∧ r.failing ≠ [])) ∧
      strictlySorted r.failing = true ∧ (∀ g ∈ r.failing, g ∈ gateNames init h) ∧
      ∀ g ∈ gateNames init h, r.inv ≤ rpt r g ∧ rpt r g ≤ r.res ∧
        (g ∈ r.failing → regPt g < snap r ∧ ReadsVal init h pt (rpt r g) g false) ∧
        (g ∉ r.failing → regPt g < snap r → ReadsVal init h pt (rpt r g) g true))

theorem mayBe_of_reads {init : List (String × Bool)} {h : List HOp} {pt : String → W → Nat}
    (hpt : ∀ g, ∀ w ∈ writesOf init h g, w.inv ≤ pt g w ∧ pt g w ≤ w.res)
    {g : String} {v : Bool} {rinv rres ρ : Nat} (h1 : rinv ≤ ρ) (h2 : ρ ≤ rres)
    (hr : ReadsVal init h pt ρ g v) : mayBe (writesOf init h g) rinv rres v = true := by
  obtain ⟨w, hw, hv, hp, hlast⟩ := hr
  refine (mayBe_iff _ _ _ _).2 ⟨w, hw, hv, Nat.lt_of_le_of_lt (hpt g w hw).1 (Nat.lt_of_lt_of_le hp h2),
    fun w' hw' hres => ?_⟩
  -- w' took effect before ρ, hence no later than w: w'.inv ≤ pt w' ≤ pt w ≤ w.res
  have hw'ρ : pt g w' < ρ := Nat.lt_of_le_of_lt (hpt g w' hw').2 (Nat.lt_of_lt_of_le hres h1)
  exact Nat.le_trans (hpt g w' hw').1 (Nat.le_trans (hlast w' hw' hw'ρ) (hpt g w hw).2)

theorem readyOpOK_of {init : List (String × Bool)} {h : List HOp} {r : HOp}
    (hcode : (r.code = 200 ∧ r.failing = []) ∨ (r.code = 503 ∧ r.failing ≠ []))
    (hsorted : strictlySorted r.failing = true) (hknown : ∀ g ∈ r.failing, g ∈ gateNames init h)
    (hgates : ∀ g ∈ gateNames init h, ∀ ri rr, regOf init h g = some (ri, rr) →
      (g ∈ r.failing → ri ≤ r.res ∧ mayBe (writesOf init h g) r.inv r.res false = true) ∧
      (g ∉ r.failing → rr < r.inv → mayBe (writesOf init h g) r.inv r.res true = true)) :
    readyOpOK init h r = true := by
  unfold readyOpOK
  refine Bool.and_eq_true_iff.2 ⟨Bool.and_eq_true_iff.2 ⟨Bool.and_eq_true_iff.2 ⟨?_, hsorted⟩,
    List.all_eq_true.2 fun g hg => List.contains_iff_mem.2 (hknown g hg)⟩, List.all_eq_true.2 fun g hg => ?_⟩
  · rcases hcode with ⟨c, f⟩ | ⟨c, f⟩
    · rw [c, f]; rfl
    · rw [c]
      cases hf : r.failing with
      | nil => exact absurd hf f
      | cons _ _ => rfl
  · cases hro : regOf init h g with
    | none => rfl
    | some p =>
      obtain ⟨qf, qt⟩ := hgates g hg p.1 p.2 hro
      show (if r.failing.contains g = true then _ else _) = true
      by_cases hc : g ∈ r.failing
      · rw [if_pos (List.contains_iff_mem.2 hc), Bool.and_eq_true, Bool.not_eq_true', decide_eq_false_iff_not]
        exact ⟨Nat.not_lt.2 (qf hc).1, (qf hc).2⟩
      · rw [if_neg (mt List.contains_iff_mem.1 hc), Bool.or_eq_true, Bool.not_eq_true', decide_eq_false_iff_not]
        exact (Decidable.em (p.2 < r.inv)).symm.imp_right (qt hc)

/-- **soundness of the concurrent statement checker**: it accepts every linearizable
    history — so a `interval-semantics-violated` verdict on a real history means the
    handler's answers cannot be explained by any choice of instants inside the
    operations' intervals. -/
theorem C33_oracle_sound (init : List (String × Bool)) (h : List HOp) (hl : Linearizable init h) :
    holdsOnConc init h = true := by
  obtain ⟨pt, regPt, snap, rpt, hpt, hreg, hreq⟩ := hl.lin
  unfold holdsOnConc
  rw [List.all_eq_true]
  intro r hr
  cases hk : r.kind with
  | reg n => rfl
  | sig n b => rfl
  | ready =>
    obtain ⟨s1, s2, hcode, hsorted, hknown, hgates⟩ := hreq r hr hk
    refine readyOpOK_of hcode hsorted hknown fun g hg ri rr hro => ?_
    obtain ⟨q1, q2, qf, qt⟩ := hgates g hg
    obtain ⟨g1, g2⟩ := hreg g ri rr hro
    -- the gate's registration point lies in [ri, rr], the snapshot point in [r.inv, r.res]
    exact ⟨fun hm => ⟨Nat.le_trans g1 (Nat.le_trans (Nat.le_of_lt (qf hm).1) s2), mayBe_of_reads hpt q1 q2 (qf hm).2⟩,
      fun hm hlt => mayBe_of_reads hpt q1 q2 (qt hm (Nat.lt_of_le_of_lt g2 (Nat.lt_of_lt_of_le hlt s1)))⟩
/-- non-vacuity: a history in which gate `a` is signaled ready and a later request
    answers 200 is linearizable (points = invocation stamps) -/
example : Linearizable [("a", false)]
    [⟨.sig "a" true, 1, 2, 0, []⟩, ⟨.ready, 3, 4, 200, []⟩] := by
  -- the writes to any gate are among the initial value and the signal
  have hws : ∀ g, ∀ w ∈ writesOf [("a", false)] [⟨.sig "a" true, 1, 2, 0, []⟩, ⟨.ready, 3, 4, 200, []⟩] g,
      w = ⟨0, 0, false⟩ ∨ w = ⟨1, 2, true⟩ := by
    intro g w hw
    simp only [writesOf, List.filter_cons, List.filter_nil, List.filterMap_cons, List.filterMap_nil] at hw
    cases hb : ("a" == g)
    · rw [hb] at hw; cases hw
    · rw [hb] at hw
      rcases List.mem_cons.1 hw with rfl | hw
      · exact Or.inl rfl
      · exact Or.inr (List.mem_singleton.1 hw)
  refine ⟨fun _ w => w.inv, fun _ => 0, fun r => r.inv, fun r _ => r.inv, ?_, ?_, ?_⟩
  · intro g w hw
    rcases hws g w hw with rfl | rfl
    · exact ⟨Nat.le_refl _, Nat.le_refl _⟩
    · exact ⟨Nat.le_refl _, Nat.le_succ _⟩
  · intro g ri rr hro
    simp only [regOf, List.any_cons, List.any_nil, Bool.or_false] at hro
    cases hb : ("a" == g)
    · rw [hb] at hro; cases hro
    · rw [hb] at hro; cases hro; exact ⟨Nat.le_refl _, Nat.le_refl _⟩
  · intro r hr hk
    rcases List.mem_cons.1 hr with rfl | hr
    · cases hk
    · cases List.mem_singleton.1 hr
      refine ⟨Nat.le_refl _, by decide, Or.inl ⟨rfl, rfl⟩, rfl, fun _ hg => absurd hg List.not_mem_nil, ?_⟩
      intro g hg
      cases (List.mem_singleton.1 hg : g = "a")
      refine ⟨Nat.le_refl _, by decide, fun hf => absurd hf List.not_mem_nil, fun _ _ => ?_⟩
      refine ⟨⟨1, 2, true⟩, List.mem_cons_of_mem _ List.mem_cons_self, rfl, by decide, fun w' hw' _ => ?_⟩
      rcases hws _ w' hw' with rfl | rfl <;> decide
end Influx.Props.C33
