/-
  Props.C44 — Only current credentials authenticate.

  The model (`Model.Creds`) follows tenant/service_user.go (passwords), authorization/service.go
  (tokens), session/service.go (sessions), http/tokens.go and http/authentication_middleware.go.
  bcrypt enters as its documented verification behaviour (a candidate verifies against a stored
  password of at most 72 bytes iff its first 72 bytes are that password); the SHA-2 token hashes as
  "equal hashes ⇔ equal tokens".  All theorems are for arbitrary states / operation sequences.
-/
import Influx.Lemmas.CredsLemmas

namespace Influx.Props.C44
open Influx.Creds Influx.Tenant.KV Influx.Spec.C44

/-- **C44 as the statement checker states it**: on the model's trace of ANY operation sequence every
    successful password check used the password last set, every successful compare-and-set presented
    it as the old password, and every authenticated request was backed by an existing active token or
    an existing unexpired session of an existing active user. -/
theorem C44_holdsOn (ops : List Op) : holdsOn (run init ops) = true :=
  track_run ops sim_init

/-- Password check, exact: ComparePassword succeeds iff the user exists, a password is stored, the
    candidate is (up to bcrypt's 72-byte horizon) that password, and the candidate is not weak — and
    then the candidate IS the stored password. -/
theorem C44_compare_ok (s : State) (uid : Nat) (p : String) (hs : s.strong = false) :
    comparePassword s uid p = .pw { ok := true } ↔
      (uid ≠ 0 ∧ has s.active uid = true ∧ get s.pw uid = some p ∧ minPasswordLen ≤ p.length ∧ p.length ≤ maxPasswordLen) := by
  constructor
  · intro h
    exact (comparePassword_ok h rfl).2
  · rintro ⟨h0, ha, hg, h1, h2⟩
    have hc := compareNoStrength_eq (compareNoStrength_ok.mpr ⟨h0, ha, (take_all p h2).symm ▸ hg⟩)
    have hb : (decide (p.length < minPasswordLen) || decide (p.length > maxPasswordLen)) = false := by
      simp only [Bool.or_eq_false_iff, decide_eq_false_iff_not]; omega
    simp only [comparePassword, hc, hs, strength_plain, hb, Bool.or_false, Bool.and_false, Bool.false_eq_true, ↓reduceIte]

/-- "Succeeds only for the password most recently set": after a successful SetPassword of `p`,
    ComparePassword succeeds for `q` iff `q = p`. -/
theorem C44_compare_after_set (s s' : State) (uid : Nat) (p q : String) (hs : s.strong = false)
    (h : setPassword s uid p = (s', .pw { ok := true })) :
    comparePassword s' uid q = .pw { ok := true } ↔ q = p := by
  obtain ⟨⟨h1, h2, h0, ha⟩, rfl⟩ := (setPassword_ok_iff hs).mp h
  rw [C44_compare_ok _ uid q (by exact hs), get_put_self, Option.some.injEq]
  constructor
  · rintro ⟨_, _, e, _⟩; exact e.symm
  · rintro rfl; exact ⟨h0, ha, rfl, h1, h2⟩

/-- Compare-and-set changes the password only when the old one verifies: if CompareAndSetPassword
    changes the stored password at all, the old password's first 72 bytes were the stored password
    (for an old password of at most 72 bytes: it WAS the stored password). -/
theorem C44_cas_only_if_old_matches (s : State) (uid : Nat) (old new : String)
    (h : (compareAndSet s uid old new).1.pw ≠ s.pw) : get s.pw uid = some (first72 old) := by
  by_cases hok : (compareNoStrength s uid old).ok = true
  · exact (compareNoStrength_ok.mp hok).2.2
  · unfold compareAndSet at h
    rw [if_neg hok] at h
    exact absurd rfl h

theorem C44_cas_exact_old (s : State) (uid : Nat) (old new : String) (hl : old.length ≤ maxPasswordLen)
    (h : (compareAndSet s uid old new).1.pw ≠ s.pw) : get s.pw uid = some old :=
  take_all old hl ▸ C44_cas_only_if_old_matches s uid old new h

/-- bcrypt's horizon is real: whenever the stored password `p` is exactly 72 bytes long,
    CompareAndSetPassword accepts every extension `p ++ x` of it as the old password. -/
theorem C44_cas_beyond_horizon (s : State) (uid : Nat) (p x new : String) (hs : s.strong = false)
    (h0 : uid ≠ 0) (ha : has s.active uid = true) (hp : get s.pw uid = some p) (hl : p.length = maxPasswordLen)
    (h1 : minPasswordLen ≤ new.length) (h2 : new.length ≤ maxPasswordLen) :
    (compareAndSet s uid (p ++ x) new).2 = .pw { ok := true } := by
  have hc := compareNoStrength_eq (compareNoStrength_ok.mpr ⟨h0, ha, (first72_append p x hl).symm ▸ hp⟩)
  unfold compareAndSet
  rw [hc, if_pos rfl, (setPassword_ok_iff hs).mpr ⟨⟨h1, h2, h0, ha⟩, rfl⟩]

/-- A concrete instance: the old password presented is NOT the stored one, and is accepted. -/
theorem C44_cas_beyond_72 :
    let p72 := String.ofList (List.replicate 9 "Abcdefg1".toList).flatten
    let s : State := { active := [(2001, true)], names := [(2001, "u")], pw := [(2001, p72)] }
    (compareAndSet s 2001 (p72 ++ "x") "Password2").2 = .pw { ok := true } := by
  intro p72 s
  have hn : "Password2".length = 9 := by decide
  exact C44_cas_beyond_horizon s 2001 p72 "x" "Password2" rfl (by decide) rfl rfl
    (by rw [String.length_ofList]; rfl) (by rw [hn]; decide) (by rw [hn]; decide)

/-- The authentication decision, exact: a request is authenticated (handler reached and permission set
    available) on behalf of `uid` iff it presents an existing ACTIVE token of `uid`, or — without a
    token header — the key of an existing UNEXPIRED session of `uid`; and `uid` is an active user. -/
theorem C44_authenticated_iff (s : State) (hdr ck : Option String) (uid : Nat) (hu : uid ≠ 0) :
    (∃ st, serve s hdr ck = .http st true (some true) uid) ↔
      ((∃ t e, getToken hdr = some t ∧ findTok s t = some e ∧ e.2.2.1 = true ∧ e.2.2.2 = uid) ∨
       (getToken hdr = none ∧ ∃ k, ck = some k ∧ get s.sess k = some (uid, false))) ∧
      get s.active uid = some true := by
  constructor
  · rintro ⟨st, h⟩
    obtain ⟨_, ok, hp, hau, hact⟩ := serve_reached.mp h
    cases hp
    exact ⟨authorizerOf_iff.mp hau, hact hu⟩
  · rintro ⟨hc, hact⟩
    exact ⟨200, serve_reached.mpr ⟨rfl, true, rfl, authorizerOf_iff.mpr hc, fun _ => hact⟩⟩

/-- A deleted or inactive user is never authenticated, whatever token or session is presented (an
    inactive or missing token, an expired or ended session: `C44_authenticated_iff`). -/
theorem C44_inactive_user_never (s : State) (hdr ck : Option String) (uid : Nat) (hu : uid ≠ 0)
    (h : get s.active uid ≠ some true) : ∀ st p, serve s hdr ck ≠ .http st true p uid := by
  intro st p hs
  obtain ⟨_, _, _, _, hact⟩ := serve_reached.mp hs
  exact h (hact hu)

/-- An ended session never comes back: RenewSession on a key whose session does not exist (signed out,
    timed out, or created already expired) — even with a session object obtained while it was alive —
    answers "not found" and leaves the whole state unchanged; that the key still does not authenticate
    afterwards is `C44_renew_ended_stays_dead`. -/
theorem C44_renew_ended_noop (s : State) (key : String) (far : Bool) (hA : s.cfgB = false)
    (hh : (get s.handles key).isSome) (hgone : get s.sess key = none) :
    renewSession s key far = (s, .err .nf) := by
  unfold renewSession
  simp only [hA, Bool.false_eq_true, ↓reduceIte, hgone]
  cases hk : get s.handles key with
  | none => simp [hk] at hh
  | some u => rfl

theorem C44_renew_ended_stays_dead (s : State) (key : String) (far : Bool) (hA : s.cfgB = false)
    (hgone : get s.sess key = none) (hdr : Option String) (hnotok : getToken hdr = none) :
    serve (renewSession s key far).1 hdr (some key) = .http 401 false none 0 := by
  have : (renewSession s key far).1 = s := by
    obtain e | ⟨u, x, _, hg, _⟩ := renewSession_state s key far
    · exact e
    · rw [hgone] at hg; cases hg
  rw [this]
  simp [serve, authorizerOf, hnotok, hgone]

/-- Renewal never adds a session: whatever RenewSession does, every session present afterwards was
    present before (same key, same user). -/
theorem C44_renew_adds_nothing (s : State) (key : String) (far : Bool) (k : String) (u : Nat) (e : Bool)
    (h : get (renewSession s key far).1.sess k = some (u, e)) : ∃ e', get s.sess k = some (u, e') := by
  obtain c | ⟨u0, x, _, hg, c⟩ := renewSession_state s key far
  · exact ⟨e, c ▸ h⟩
  · rw [c, get_put] at h
    by_cases ek : key = k
    · rw [if_pos ek] at h; cases h; exact ⟨x, ek ▸ hg⟩
    · rw [if_neg ek] at h; exact ⟨e, h⟩

/-- Stored hashes in every supported format verify exactly their own password: an encoded digest of
    either variant, decoded by a decoder that knows the variant, matches `q` iff `q` is the hashed
    password (given collision-free SHA-2). -/
theorem C44_digest_exact (ds : List Variant) (v : Variant) (p q : String) (hv : v ∈ ds) :
    phcMatch ds v .none p q = .matched (decide (q = p)) :=
  phcMatch_none p q (List.contains_iff_mem.mpr hv)

/-- …and no damaged or re-labelled digest ever verifies a foreign password. -/
theorem C44_digest_only_own (ds : List Variant) (v : Variant) (m : Mangle) (p q : String)
    (h : phcMatch ds v m p q = .matched true) : q = p :=
  phcMatch_true h

-- non-vacuity: a world in which the hypotheses above are met and the interesting answers occur
example :
    let tr := run init [.cu "u1", .sp 2001 "Password1", .cp 2001 "Password1", .cp 2001 "Password2",
      .ct 2001 "tokA" true, .req (some "token tokA") none, .ut 5001 false, .req (some "Token tokA") none,
      .cs "u1" true, .req none (some "s1"), .us 2001 false, .req none (some "s1"),
      .us 2001 true, .xs "s1", .renew "s1" true, .req none (some "s1")]
    tr.map (·.2) = [.okId 2001, .pw { ok := true }, .pw { ok := true }, .pw { badpw := true }, .okId 5001,
      .http 200 true (some true) 2001, .ok, .http 200 true (some false) 2001, .okKey "s1" 2001,
      .http 200 true (some true) 2001, .ok, .http 403 false none 0,
      .ok, .ok, .err .nf, .http 401 false none 0] := by
  decide

end Influx.Props.C44
