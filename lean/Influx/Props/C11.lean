/-
  Props.C11 — Line protocol and series keys round-trip.

  Model: Influx.Model.LineProtocol* (written from models/points.go, pkg/escape).
  Statement: Influx.Spec.C11 (`holdsOnKey`, `holdsOnPt`, `Valid`, `ValidKey`).
  Lemmas: Influx.Lemmas.LineProtocol*.
-/
import Influx.Lemmas.LineProtocolRoundTrip

namespace Influx.Props.C11
open Influx.LP Influx.LP.Trace Influx.Spec.C11

/-- `unescapeTag ∘ escapeTag = id` and `unescapeMeasurement ∘ EscapeMeasurement = id` on EVERY
    byte string (the `bytes.Replace` chains never confuse each other); likewise
    `escape.Unescape ∘ escape.String` and `unescapeStringField ∘ EscapeStringField`. -/
theorem C11_escape_inverse (s : Bytes) :
    unescapeTag (escapeTag s) = s ∧ unescapeMeasurement (escapeMeasurement s) = s ∧
    unescape (escapeString s) = s ∧ unescapeStringField (escapeStringField s) = s :=
  ⟨unescapeTag_escapeTag s, unescapeMeasurement_escapeMeasurement s, unescape_escapeString s,
   unescapeStringField_escape s⟩

/-- **Series keys round-trip** (second sentence of C11), with empty tag values allowed (those tags
    are dropped by `MakeKey`): for every non-empty name that does not end in a backslash and
    holds no `\,` / `\ `, and all tags whose key and value do not end in a backslash — any bytes
    otherwise, any order, duplicates allowed — `ParseKeyBytes(MakeKey(name, tags))` returns
    exactly that name and the tags that have a value. -/
theorem C11_key_roundtrip_filter (name : Bytes) (tags : List Tag)
    (h : ValidKey name (tags.filter fun t => !t.value.isEmpty) = true) :
    parseKeyBytes (makeKey name tags) = some (name, tags.filter fun t => !t.value.isEmpty) := by
  simp only [ValidKey, Bool.and_eq_true, Bool.not_eq_true', List.all_eq_true, noTrailingBS,
    decide_eq_true_eq] at h
  obtain ⟨⟨⟨hne, hl⟩, hbs⟩, ht⟩ := h
  have hne' : name ≠ [] := by intro e; simp [e] at hne
  exact parseKeyBytes_makeKey name tags hne' hl (unescapeMeasurement_id name hbs)
    (fun t hm hv => by
      have := ht t (List.mem_filter.mpr ⟨hm, by simpa using hv⟩)
      exact ⟨this.1.2, this.2⟩)

/-- the same when every tag has a value: the name and the tags come back as given -/
theorem C11_key_roundtrip (name : Bytes) (tags : List Tag) (h : ValidKey name tags = true) :
    parseKeyBytes (makeKey name tags) = some (name, tags) := by
  have hf : (tags.filter fun t => !t.value.isEmpty) = tags := List.filter_eq_self.mpr fun t hm => by
    simp only [ValidKey, Bool.and_eq_true, List.all_eq_true] at h
    exact (h.2 t hm).1.1
  have := C11_key_roundtrip_filter name tags (hf.symm ▸ h)
  rwa [hf] at this

/-- the statement checker accepts the model's answer to every valid `key` operation -/
theorem C11_key_holdsOn_partial (name : Bytes) (tags : List Tag) (h : ValidKey name tags = true) :
    holdsOnKey (modelKeyObs name tags) = true := by
  simp [holdsOnKey, modelKeyObs, C11_key_roundtrip name tags h]

/-- The key sentence is FALSE without `ValidKey`: a name ending in a backslash swallows the
    comma in front of the first tag (`MakeKey("a\\", k=v)` = `a\,k=v` parses as name `a,k=v`). -/
theorem C11_key_full_fails :
    ¬ ∀ name tags, holdsOnKey (modelKeyObs name tags) = true := by
  intro h
  have := h [97, 92] [⟨[107], [118]⟩]
  revert this
  decide +kernel

-- non-vacuity: ValidKey holds of a name and tags full of delimiters
example : ValidKey (str "cpu load,=x") [⟨str "ho st", str "a=b,c"⟩, ⟨str "ho st", str "\\x"⟩] = true := by decide +kernel

/-- **Points round-trip** (first sentence of C11) on the model, for every point in `Valid`,
    every supported precision and every default time (an int64 at least a second above the
    lowest when the point has no timestamp, `dtSane`): `NewPoint` accepts the point; its
    `String()` / `PrecisionString(prec)` is one line; `ParsePointsWithPrecision` returns exactly
    one point and no error; `Name()` is the measurement, `Tags()` the tag set in sorted order,
    `Fields()` the same field names, sorted, with identical types and values (floats through Go's own
    text, see `floatTextOK` / `floatsConsistent`), `UnixNano()` the same timestamp (the default
    time cut to the precision when the point has none). -/
theorem C11_pt_holdsOn_partial (p : PointIn) (prec : String) (dt : Int)
    (h : ValidObs (modelPtObs prec dt p) = true) : holdsOnPt (modelPtObs prec dt p) = true := by
  simp only [ValidObs, modelPtObs, Bool.and_eq_true, Bool.or_eq_true] at h
  exact holdsOnPt_valid p prec dt h.1.1 h.1.2 h.2

/-- what the parser hands back for a valid point, spelled out -/
theorem C11_pt_roundtrip (p : PointIn) (prec : String) (dt : Int)
    (h : ValidObs (modelPtObs prec dt p) = true) :
    ∃ q, modelPt prec dt p = .parsed q ∧ q.name = p.name ∧ q.tags = expectedTags p ∧
      q.fields = expectedFields p ∧ timeOK prec dt p.time q.time = true := by
  simp only [ValidObs, modelPtObs, Bool.and_eq_true, Bool.or_eq_true] at h
  have hs := sameBack_valid p prec dt h.1.1 h.1.2 h.2
  simp only [sameBack, decide_eq_true_eq] at hs
  exact ⟨_, modelPt_valid p prec dt h.1.1, hs⟩

/-- **C11 on the model** (partial): the statement checker accepts the model's answer to every
    valid `key` and `pt` operation of the protocol. -/
theorem C11_holdsOn_partial :
    (∀ name tags, ValidKey name tags = true → holdsOnKey (modelKeyObs name tags) = true) ∧
    (∀ p prec dt, ValidObs (modelPtObs prec dt p) = true → holdsOnPt (modelPtObs prec dt p) = true) :=
  ⟨C11_key_holdsOn_partial, C11_pt_holdsOn_partial⟩

def intField : List (Bytes × FV) := [(str "f", .int 1)]

-- non-vacuity: a valid point with delimiters, quotes, unicode bytes, every field type
example : ValidObs (modelPtObs "ms" 1600000000123456789
    ⟨str "cpu load,=x\"", [⟨str "a b", str "1,2"⟩, ⟨str "ho=st", [195, 169, 92, 120]⟩],
     [(str "f 1", .float 4609434218613702656 (str "1.5")), (str "g,\"", .int (-9223372036854775808)),
      (str "h", .uint 18446744073709551615), (str "i=", .bool true), (str "s", .str (str "a\"b\\c, d=e"))],
     some (-9223372036854000000)⟩) = true := by decide +kernel

/-- The first sentence is FALSE for all points `NewPoint` accepts.  Witness: tags `a,`=1 and
    `a-`=2 (sorted by key, as `NewTags` sorts them) come back in the order `a-`, `a,`: the
    parser sorts by the *escaped* key (`a\,` > `a-`), so the parsed point's key differs from
    the key `MakeKey` builds for the same tag set. -/
theorem C11_pt_full_fails :
    ¬ ∀ prec dt p, holdsOnPt (modelPtObs prec dt p) = true := by
  intro h
  have := h "ns" 0 ⟨str "m", [⟨str "a,", str "1"⟩, ⟨str "a-", str "2"⟩], intField, some 0⟩
  revert this
  decide +kernel

/-- further classes outside `Valid` that `NewPoint` accepts and the parser does not give back
    (each replayed on the real code by the check, findings.d/C11.json) -/
theorem C11_pt_excluded_witnesses :
    -- a tag value ending in a backslash
    holdsOnPt (modelPtObs "ns" 0 ⟨str "m", [⟨str "k", str "v\\"⟩], intField, some 0⟩) = false ∧
    -- `Name()` un-escapes `\=`, `MakeKey` does not escape it
    holdsOnPt (modelPtObs "ns" 0 ⟨str "a\\=b", [], intField, some 0⟩) = false ∧
    -- a field key with a backslash before a comma
    holdsOnPt (modelPtObs "ns" 0 ⟨str "m", [], [(str "a\\,b", .int 1)], some 0⟩) = false ∧
    -- a measurement that starts like a comment: no point, no error
    holdsOnPt (modelPtObs "ns" 0 ⟨str "#m", [], intField, some 0⟩) = false ∧
    -- reserved tag key, duplicate tag keys, empty measurement
    holdsOnPt (modelPtObs "ns" 0 ⟨str "m", [⟨str "time", str "1"⟩], intField, some 0⟩) = false ∧
    holdsOnPt (modelPtObs "ns" 0 ⟨str "m", [⟨str "a", str "1"⟩, ⟨str "a", str "2"⟩], intField, some 0⟩) = false ∧
    holdsOnPt (modelPtObs "ns" 0 ⟨[], [], intField, some 0⟩) = false := by
  decide +kernel

end Influx.Props.C11
