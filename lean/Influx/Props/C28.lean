/-
  Props.C28 — Permissions grant exactly what they name.
  The function under proof is `Influx.Generated.Authz.matchesV1`, regenerated
  from `/repo/authz.go` by the translator on every run.
-/
import Influx.Generated.Authz
import Influx.Spec.C28

namespace Influx.Props.C28
open Influx Influx.Generated.Authz Influx.Spec.C28

/-- Exact characterisation of the code's decision (stronger than the property:
    an *iff*, and "never panics"). -/
def exact (p r : Permission) : Bool :=
  p.Action == r.Action &&
    (p.Resource.Type_ == InstanceResourceType ||
      (p.Resource.Type_ == r.Resource.Type_ &&
        ((p.Resource.OrgID.isNone && p.Resource.ID.isNone) ||
         (p.Resource.OrgID.isSome && p.Resource.ID.isNone && p.Resource.OrgID == r.Resource.OrgID) ||
         (p.Resource.ID.isSome && p.Resource.ID == r.Resource.ID))))

theorem ite_some_some (c a b : Bool) : Go.ite (some c) (some a) (some b) = some (bif c then a else b) := by
  cases c <;> rfl

theorem ite_same (c : Bool) (k : Option Bool) : Go.ite (some c) k k = k := by
  cases c <;> rfl

/-- `if x != nil && c { if y != nil && *x == *y { return true } }`: both dereferences are guarded. -/
theorem guarded_eq_and (x y : Option PID) (c : Bool) (k : Option Bool) :
    Go.ite (some (x.isSome && c))
      (Go.bind (Go.deref x) fun u => Go.ite (some y.isSome)
        (Go.bind (Go.deref y) fun v => Go.ite (some (u == v)) (some true) k) k) k =
    Go.ite (some (x.isSome && c && x == y)) (some true) k := by
  cases x; · rfl
  cases y <;> cases c <;> rfl

theorem guarded_eq (x y : Option PID) (k : Option Bool) :
    Go.ite (some x.isSome)
      (Go.bind (Go.deref x) fun u => Go.ite (some y.isSome)
        (Go.bind (Go.deref y) fun v => Go.ite (some (u == v)) (some true) k) k) k =
    Go.ite (some (x.isSome && x == y)) (some true) k := by
  simpa only [Bool.and_true] using guarded_eq_and x y true k

/-- The `fmt.Printf` block (organizations differ, ids agree) is entered only with all four pointers
    non-nil, so its dereferences do not panic, and it continues with the same code as its absence. -/
theorem printf_noop (a b c d : Option PID) (k : Option Bool) :
    Go.ite (some (((a.isSome && b.isSome) && c.isSome) && d.isSome))
      (Go.ite (Go.and (Go.ne (Go.deref a) (Go.deref b)) (Go.eq (Go.deref c) (Go.deref d)))
        (Go.seq (Go.deref a) <| Go.seq (Go.deref b) <| Go.seq (Go.deref c) <| k) k) k = k := by
  cases a; · rfl
  cases b; · rfl
  cases c; · rfl
  cases d; · rfl
  simp only [Go.deref_eq, Go.ne, Go.eq, Go.bin_some, Go.and_some_some, Go.seq_some]
  exact ite_same _ _

/-- With the guarded dereferences and the `Printf` block out of the way the function is a chain of
    Boolean conditionals returning constants, i.e. the disjunction `exact`. -/
theorem matchesV1_exact (p r : Permission) : matchesV1 p r = some (exact p r) := by
  simp only [matchesV1, guarded_eq_and, guarded_eq, printf_noop]
  simp only [ite_some_some, exact, bne, Bool.cond_false_left, Bool.cond_true_left, Bool.not_not, Bool.or_false,
    Bool.or_assoc]

/-- `Permission.Matches` never panics. -/
theorem Matches_total (p r : Permission) : (Matches p r).isSome := by
  simp [Matches, matchesV1_exact]

/-- The decision table is the property text's `Justified`, clause for clause: a permission either
    names no id and no organization, or an organization and no id, or an id. -/
theorem exact_iff (p r : Permission) : exact p r = true ↔ Justified p r := by
  obtain ⟨pa, pt, pid, porg⟩ := p
  obtain ⟨ra, rt, rid, rorg⟩ := r
  simp only [exact, Justified, instanceWide, typeWide, orgScoped, namesID, InstanceResourceType]
  cases pid <;> cases porg <;> simp [@eq_comm _ rid, @eq_comm _ rorg]

theorem Matches_iff (p r : Permission) : Matches p r = some true ↔ Justified p r := by
  rw [← exact_iff, Matches, matchesV1_exact, Option.some.injEq]

/-- **C28** (the property statement): a grant is always justified. -/
theorem C28 (p r : Permission) (h : Matches p r = some true) : Justified p r :=
  (Matches_iff p r).mp h

/-- Converse (not required by the property, proved for the model): every
    justified request is granted — so `Justified` is exactly the code's decision. -/
theorem C28_complete (p r : Permission) (h : Justified p r) : Matches p r = some true :=
  (Matches_iff p r).mpr h

/-- The run-time oracle accepts everything the model answers, for all inputs. -/
theorem C28_holdsOn (p r : Permission) : holdsOn ⟨p, r, Matches p r⟩ = true := by
  cases h : exact p r <;> simp only [holdsOn, Matches, matchesV1_exact, h]
  exact decide_eq_true ((exact_iff p r).mp h)

/-- Read never implies write (nor any action another one). -/
theorem C28_action (p r : Permission) (h : p.Action ≠ r.Action) : Matches p r = some false := by
  simp only [Matches, matchesV1_exact, exact, beq_false_of_ne h, Bool.false_and]

/-- An organization-scoped permission (no resource id) never grants a request
    on another organization's resource — unless it is instance-wide. -/
theorem C28_other_org (p r : Permission) (o o' : PID)
    (hp : p.Resource.OrgID = some o) (hid : p.Resource.ID = none)
    (hr : r.Resource.OrgID = some o') (hne : o ≠ o')
    (hinst : p.Resource.Type_ ≠ InstanceResourceType) :
    Matches p r = some false := by
  simp [Matches, matchesV1_exact, exact, hp, hid, hr, hne, hinst]

/-- A request without an organization is never granted by an org-scoped permission (no
    resource id, not instance-wide). -/
theorem C28_no_org (p r : Permission) (o : PID)
    (hp : p.Resource.OrgID = some o) (hid : p.Resource.ID = none)
    (hr : r.Resource.OrgID = none)
    (hinst : p.Resource.Type_ ≠ InstanceResourceType) :
    Matches p r = some false := by
  simp [Matches, matchesV1_exact, exact, hp, hid, hr, hinst]

example : Matches ⟨"read", ⟨"buckets", none, some 1⟩⟩ ⟨"read", ⟨"buckets", some 7, some 1⟩⟩ = some true := by decide +kernel
example : Matches ⟨"read", ⟨"buckets", none, some 1⟩⟩ ⟨"read", ⟨"buckets", some 7, some 2⟩⟩ = some false := by decide +kernel

end Influx.Props.C28
