/-
  Props.C03 — Deleted points never reappear.

  The full statement is FALSE of the engine as it stands (DESIGN §6 F1, reproduced on the real
  tsm1.Engine by the check): `Engine.deleteSeriesRange` filters the HOT cache store and tombstones
  the current TSM files, but not the snapshot store of an in-flight `WriteSnapshot`; the points
  stay readable (`Cache.Values` merges the snapshot store), are written to the new TSM file
  without a tombstone and survive restarts.  `C03_full_fails` is the witness;
  `C03_partial` proves the statement for every history in which no delete covers a point held
  by the in-flight snapshot store and no failed snapshot attempt is retried after further writes
  (`safeFrom`, decidable on the history).
-/
import Influx.Lemmas.EngineCrash
import Influx.Lemmas.EngineCheck

namespace Influx.Props.C03
open Influx.Model.Engine Influx.Spec.C03

/-- the hypothesis of `C03_partial` (`opSafe`, decidable on the history):
    **NoDeleteInsideSnapshot** — at every delete, the in-flight (or failed, pending) snapshot store
    holds no point of the deleted series/range (trivially true when no snapshot is pending); and,
    because restarts are in scope, no retry of a failed snapshot attempt after further writes
    (that is C02's second known finding: those writes are lost by the next restart). -/
def safeFrom (s : State) : List Op → Bool
  | [] => true
  | op :: ops => opSafe s op && safeFrom (step s op).1 ops

/-- operations covered by the theorems of this module: everything C03 speaks about, including
    restarts (a crash at any step boundary, also inside a snapshot commit or inside
    FileStore.replace of a compaction, followed by Engine.Open).  Crashes that tear the
    operation in flight are C02's. -/
def inScope' : Op → Bool
  | .write _ | .read .. | .delete .. | .snapBegin | .snapFail | .snapStep | .snapTo _ | .compact .. | .files
  | .crash false | .compactCrash .. => true
  | _ => false

def histAfter (h : List Ev) (s : State) : Op → List Ev
  | .write es => h ++ es.map .put
  | .delete ss lo hi => if (step s (.delete ss lo hi)).2 = .ok then h ++ [.del ss lo hi] else h
  | _ => h

/-- **A returned delete removes exactly its range** (and nothing else), whenever the snapshot
    store holds none of it. -/
theorem C03_delete_exact {s : State} {ss : List Nat} {lo hi : Int} (hc : SnapClear s ss lo hi)
    (hok : (step s (.delete ss lo hi)).2 = .ok) (k : Key) (t : Int) :
    (step s (.delete ss lo hi)).1.abs k t = if covered ss lo hi k t then none else s.abs k t := by
  cases hb : commitLocked s.phase
  · rw [step_delete_ok hb]; exact abs_stepDelete hc k t
  · rw [step_delete_blocked hb] at hok; cases hok

theorem abs_step {s : State} (hg : Good s) {op : Op} (hop : inScope' op = true) (hs : opSafe s op = true)
    {h : List Ev} (ha : AbsIs3 s h) : AbsIs3 (step s op).1 (histAfter h s op) := by
  intro k t
  cases op with
  | write es => rw [histAfter, cell_puts, ← ha]; exact abs_stepWrite s es k t
  | delete ss lo hi =>
    cases hb : commitLocked s.phase
    · rw [histAfter, step_delete_ok hb, if_pos rfl, cell_del, ← ha]
      exact abs_stepDelete (of_decide_eq_true hs) k t
    · rw [histAfter, step_delete_blocked hb, if_neg nofun]
      exact ha k t
  | compactSet | deleteCrash => cases hop
  | crash tear =>
    cases tear
    · exact (abs_step_restart hg rfl k t).trans (ha k t)
    · cases hop
  | compactCrash => exact (abs_step_restart hg rfl k t).trans (ha k t)
  | _ => exact (abs_step_silent hg.inv rfl k t).trans (ha k t)

theorem check_step {s : State} {h : List Ev} (ha : AbsIs3 s h) {op : Op} (hop : inScope' op = true)
    (w : Window) (tr : List (Op × Obs)) :
    ∃ w', checkFrom h w ((op, (step s op).2) :: tr) = checkFrom (histAfter h s op) w' tr := by
  cases op with
  | delete ss lo hi =>
    cases hb : commitLocked s.phase
    · rw [histAfter, step_delete_ok hb]
      exact ⟨_, rfl⟩
    · rw [histAfter, step_delete_blocked hb, if_neg nofun]
      exact ⟨w, rfl⟩
  | read k lo hi asc => exact ⟨w, if_pos (rowsOK3_read ha k lo hi asc)⟩
  | compactSet | deleteCrash => cases hop
  | crash tear =>
    cases tear
    · exact ⟨_, rfl⟩
    · cases hop
  | snapBegin =>
    exact ⟨if (step s .snapBegin).2 = .ok then w.begin else w, by show (if _ then _ else _) = _; split <;> rfl⟩
  | snapFail =>
    exact ⟨if (step s .snapFail).2 = .failed then w.fail else w, by show (if _ then _ else _) = _; split <;> rfl⟩
  | _ => exact ⟨_, rfl⟩

def histFrom (h : List Ev) (s : State) : List Op → List Ev
  | [] => h
  | op :: ops => histFrom (histAfter h s op) (step s op).1 ops

/-- the refinement, along a whole history: the checker accepts every answer, and the state reached
    holds exactly the cell map of the acknowledged events -/
theorem run_check (ops : List Op) : ∀ (s : State) (h : List Ev) (w : Window), Good s → AbsIs3 s h →
    (∀ op ∈ ops, inScope' op = true) → safeFrom s ops = true →
    checkFrom h w (runFrom s ops).2 = none ∧
      Good (runFrom s ops).1 ∧ AbsIs3 (runFrom s ops).1 (histFrom h s ops) := by
  induction ops with
  | nil => intro s h w hg ha _ _; exact ⟨rfl, hg, ha⟩
  | cons op ops ih =>
    intro s h w hg ha hs hsafe
    have hop := hs op List.mem_cons_self
    have hsf := Bool.and_eq_true_iff.mp hsafe
    obtain ⟨w', hw⟩ := check_step ha hop w (runFrom (step s op).1 ops).2
    have := ih _ _ w' (good_step hg (by rintro _ rfl; cases hop) hsf.1) (abs_step hg hop hsf.1 ha)
      (fun o ho => hs o (List.mem_cons_of_mem _ ho)) hsf.2
    exact ⟨hw.trans this.1, this.2⟩

/-- **C03, partial** — for every history of writes, deletes, snapshot sub-steps, compactions of
    adjacent files, RESTARTS (crash at any step boundary — also between the sub-steps of a snapshot
    commit and inside FileStore.replace of a compaction — followed by Engine.Open) and reads in
    which no delete covers a point held by the in-flight (or failed, pending) snapshot store and
    no failed snapshot attempt is retried after further writes (`safeFrom`), the statement holds
    on the model's trace: no deleted point is ever returned again (through later snapshots,
    compactions and restarts) and every other point is unaffected.
    What is missing for the full statement: the excluded histories (C03_full_fails for the
    first condition). -/
theorem C03_partial (ops : List Op) (hs : ∀ op ∈ ops, inScope' op = true)
    (hsafe : safeFrom init ops = true) : holdsOn (trace ops) = true := by
  rw [holdsOn, check, trace, (run_check ops init [] {} good_init (fun _ _ => rfl) hs hsafe).1]
  rfl

/-- the state reached satisfies both invariants and holds the cell map of some event history
    (`run_check` names it: `histFrom h s ops`) -/
theorem run_refines (ops : List Op) : ∀ (s : State) (h : List Ev), Good s → AbsIs3 s h →
    (∀ op ∈ ops, inScope' op = true) → safeFrom s ops = true →
    ∃ h', Good (runFrom s ops).1 ∧ AbsIs3 (runFrom s ops).1 h' :=
  fun s h hg ha hs hsafe => ⟨_, (run_check ops s h {} hg ha hs hsafe).2⟩

/-- the F1 history: write, begin a snapshot, delete the point, let the snapshot finish, read -/
def f1Ops : List Op :=
  [.write [⟨⟨0,0⟩,100,1⟩], .snapBegin, .delete [0] 100 100, .snapTo .idle, .read ⟨0,0⟩ 0 1000 true]

/-- **C03 at full strength fails**: in the F1 history the delete returns `ok`, yet the read
    after the snapshot commit returns the deleted point (and the new TSM file carries it
    without a tombstone, so it also survives a restart). -/
theorem C03_full_fails :
    (∀ op ∈ f1Ops, inScope' op = true) ∧ holdsOn (trace f1Ops) = false ∧
    check (trace f1Ops) = some "delete-overlaps-inflight-snapshot:s0f0t100" ∧
    (trace (f1Ops ++ [.crash false, .read ⟨0,0⟩ 0 1000 true])).getLast? =
      some (.read ⟨0,0⟩ 0 1000 true, .rows [(100, 1)]) := by decide

/-- the F1 history is excluded by `safeFrom` -/
example : safeFrom init f1Ops = false := by decide

/-- the hypothesis of C03_partial is met by a non-trivial history: deletes of flushed and of
    hot points, a delete inside a snapshot window that does not touch the snapshot's points,
    compaction of tombstoned files, re-write after delete -/
def okOps : List Op :=
  [.write [⟨⟨0,0⟩,1,1⟩, ⟨⟨0,0⟩,2,2⟩, ⟨⟨1,0⟩,2,7⟩], .snapBegin, .snapTo .idle, .write [⟨⟨0,0⟩,3,3⟩],
   .delete [0] 2 3, .read ⟨0,0⟩ 0 10 true, .snapBegin, .write [⟨⟨0,1⟩,5,5⟩], .delete [0] 5 6, .snapTo .idle,
   .compact 0 0, .write [⟨⟨0,0⟩,2,9⟩], .read ⟨0,0⟩ 0 10 false, .crash false, .read ⟨1,0⟩ 0 10 true]

example : (∀ op ∈ okOps, inScope' op = true) ∧ safeFrom init okOps = true ∧
    (trace okOps).getLast? = some (.read ⟨1,0⟩ 0 10 true, .rows [(2, 7)]) ∧
    (trace okOps)[12]? = some (.read ⟨0,0⟩ 0 10 false, .rows [(2, 9), (1, 1)]) := by decide

end Influx.Props.C03
