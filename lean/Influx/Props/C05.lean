/-
  Props.C05 — Compaction plans never reorder data or double-book files.

  The planner is `Influx.Planner` (Model/Planner.lean, written from
  tsdb/engine/tsm1/compact.go; `tsmGeneration.level` and the tsdb constants are
  regenerated from /repo on every run).  The statement is `Spec.C05.holdsOn`.

  Result.
  * `C05_partial` (unconditional): for EVERY sequence of
    fs/add/find/Plan/PlanLevel/PlanOptimize/ForceFull/FullyCompacted/Release/
    "compaction finished" operations, every group handed out is disjoint from
    every group still held and from the other groups of the same answer
    (no double booking, all paths), and every group handed out by PlanLevel,
    PlanOptimize and the level-4 path of Plan consists of generations that are
    contiguous in generation order.
  * `C05_full_fails`: the FULL statement is false of the code: on the full
    path of `Plan` (ForceFull pending, or a cold shard) generations that are in
    use — or maxed out — are skipped and the rest is still handed out as ONE group.
  * `C05_holdsOn_partial`: the full statement for all op sequences without
    `ForceFull` and without a cold `Plan`.
-/
import Influx.Lemmas.PlannerStep

namespace Influx.Props.C05
open Influx.Planner Influx.Spec.C05

/-- no `ForceFull`, no `Plan` with a cold last-write time -/
def noFullPlan (ops : List Op) : Bool :=
  ops.all fun op => match op with
    | .force => false
    | .plan true => false
    | _ => true

theorem check_runFrom (ops : List Op) : ∀ (s : State) (st : St) (i : Nat), Inv s st →
    OnlyFull (checkFrom st i (runFrom s ops)) ∧
    (noFullPlan ops = true → st.forcePending = false → checkFrom st i (runFrom s ops) = []) := by
  induction ops with
  | nil => intro s st i _; exact ⟨.nil, fun _ _ => rfl⟩
  | cons op rest ih =>
    intro s st i inv
    have ok := step_ok inv i op
    obtain ⟨ih1, ih2⟩ := ih _ _ (i + 1) ok.inv
    simp only [runFrom, checkFrom]
    refine ⟨fun f hf => (List.mem_append.mp hf).elim (ok.onlyFull f) (ih1 f), fun h hfp => ?_⟩
    rw [noFullPlan, List.all_cons, Bool.and_eq_true] at h
    have hop : (∀ c, op = .plan c → st.forcePending = false ∧ c = false) := by
      intro c hc; subst hc
      refine ⟨hfp, ?_⟩
      cases c
      · rfl
      · exact absurd h.1 Bool.false_ne_true
    have hnf : op ≠ .force := by
      intro hc; subst hc; exact absurd h.1 Bool.false_ne_true
    rw [ok.none hop, ih2 h.2 (ok.force hnf hfp)]
    rfl

/-- **C05, the part that holds for every call sequence**: no double booking on
    any path; contiguity on every path but the full one. -/
theorem C05_partial (ops : List Op) : holdsOnExceptFull (run ops) = true := by
  simp only [holdsOnExceptFull, List.all_eq_true]
  exact (check_runFrom ops {} {} 0 (Inv.new true)).1

theorem not_mem_check (ops : List Op) {f : Fail} (hf : f.isFullNoncontiguous = false) :
    f ∉ check (run ops) := by
  intro h
  have := (check_runFrom ops {} {} 0 (Inv.new true)).1 f h
  rw [hf] at this
  cases this

/-- *Disjoint*, for every call sequence and every path (also the full one):
    a group handed out never shares a file with a held group, with another
    group of the same answer, or lists a file twice. -/
theorem C05_disjoint (ops : List Op) (i : Nat) : Fail.doubleBooked i ∉ check (run ops) :=
  not_mem_check ops rfl

/-- *Contiguous*, for every call sequence, for PlanLevel, PlanOptimize and the
    level-4 path of Plan. -/
theorem C05_contiguous_nonfull (ops : List Op) (i : Nat) : Fail.noncontiguous i false ∉ check (run ops) :=
  not_mem_check ops rfl

/-- the model never gives an answer of the wrong shape -/
theorem C05_answers (ops : List Op) (i : Nat) : Fail.badAnswer i ∉ check (run ops) :=
  not_mem_check ops rfl

/-- **C05 under an explicit hypothesis**: the full statement for all call
    sequences that never take the full path (no `ForceFull`, no cold `Plan`).
    What is missing for the unconditional statement is exactly `C05_full_fails`. -/
theorem C05_holdsOn_partial (ops : List Op) (h : noFullPlan ops = true) : holdsOn (run ops) = true := by
  simp only [holdsOn, check, run, List.isEmpty_iff]
  exact (check_runFrom ops {} {} 0 (Inv.new true)).2 h rfl

/-- PlanLevel: every group is a block of consecutive generations, groups do not overlap -/
theorem planLevel_groups (inUse : List String) (gens : List Gen) (lvl : Int) :
    (∀ gs ∈ levelGens inUse gens lvl, gs <:+: gens) ∧ (levelGens inUse gens lvl).flatten.Sublist gens :=
  let h := levelGens_blocks inUse gens lvl; ⟨h.contig, h.sub⟩

/-- PlanOptimize: the same -/
theorem planOptimize_groups (inUse : List String) (gens : List Gen) :
    (∀ gs ∈ optGens inUse gens, gs <:+: gens) ∧ (optGens inUse gens).flatten.Sublist gens :=
  let h := optGens_blocks inUse gens; ⟨h.contig, h.sub⟩

/-- Plan, level-4 path: the same -/
theorem planL4_groups (inUse : List String) (gens : List Gen) :
    (∀ gs ∈ l4Gens inUse gens, gs <:+: gens) ∧ (l4Gens inUse gens).flatten.Sublist gens :=
  let h := l4Gens_blocks inUse gens; ⟨h.contig, h.sub⟩

/-- Plan, full path: the single group is a sub-list of the generations — and no more than that -/
theorem planFull_groups (inUse : List String) (gens : List Gen) :
    (fullGens inUse gens).flatten.Sublist gens := fullGens_sub inUse gens

/-- Plan, full path, when nothing stands in the way (no generation in use, none above
    the maximum file size): the group is ALL generations — contiguous.  The full path
    is non-contiguous only through its two skip rules (`C05_full_fails`). -/
theorem planFull_all_when_nothing_skipped (inUse : List String) (gens : List Gen)
    (hu : ∀ g ∈ gens, isInUse inUse g = false)
    (hs : ∀ g ∈ gens, g.size ≤ Influx.Generated.Planner.MaxTSMFileSize) :
    ∀ gs ∈ fullGens inUse gens, gs = gens := by
  have key : ∀ l : List Gen, (∀ g ∈ l, isInUse inUse g = false) →
      (∀ g ∈ l, g.size ≤ Influx.Generated.Planner.MaxTSMFileSize) → fullLoop inUse gens.length l = l := by
    intro l
    induction l with
    | nil => intro _ _; rfl
    | cons g rest ih =>
      intro h1 h2
      obtain ⟨hg1, hr1⟩ := List.forall_mem_cons.mp h1
      obtain ⟨hg2, hr2⟩ := List.forall_mem_cons.mp h2
      -- both skip rules need a generation above the maximum file size
      have hle : decide (g.size > Influx.Generated.Planner.MaxTSMFileSize) = false :=
        decide_eq_false (Nat.not_lt.mpr hg2)
      have hskip : fullSkip gens.length g rest = false := by
        cases rest <;> simp only [fullSkip, hle, Bool.and_false, Bool.false_and, ite_self]
      rw [fullLoop, hg1, hskip, ih hr1 hr2]
      rfl
  intro gs hgs
  unfold fullGens at hgs
  rw [key gens hu hs] at hgs
  dsimp only at hgs
  split at hgs
  · exact absurd hgs List.not_mem_nil
  · exact List.mem_singleton.mp hgs

/-- `FindGenerations`: ascending distinct ids, every file under its own generation, all files -/
theorem findGenerations_spec (fs : List File) :
    (findGenerations fs).Pairwise (fun a b => a.id < b.id) ∧
    (∀ g ∈ findGenerations fs, ∀ f ∈ g.files, f.gen = g.id) ∧
    ((findGenerations fs).flatMap Gen.files).Perm fs :=
  let h := findGenerations_ok fs; ⟨h.sorted, h.genOf, h.perm⟩

/-! ### the full statement fails (DESIGN §6 F2), two witnesses -/

private def fl (p : String) (g s : Int) (size : Nat := 100) (fbc : Int := 10) (tomb := false) : File :=
  ⟨p, g, s, size, fbc, tomb⟩

/-- generations 1..5; PlanLevel(2) takes {2,3}; `ForceFull; Plan` then hands out {1,4,5} -/
def witnessInUse : List Op :=
  [.setfs true [fl "a" 1 4, fl "b" 2 2 100 10 true, fl "c" 3 2, fl "d" 4 1, fl "e" 5 1],
   .find, .level 2, .force, .plan false]

/-- nothing is in use: a cold shard whose middle generation is maxed out (3 GB, full
    blocks); `Plan` hands out {1,3} -/
def witnessMaxedOut : List Op :=
  [.setfs true [fl "a" 1 4, fl "b" 2 4 3000000000 1000, fl "c" 3 4], .find, .plan true]

/- The four facts about the witnesses are closed terms: `decide +kernel` has the kernel alone
   evaluate them (the elaborator's own evaluation of `run` is much slower). -/

theorem witnessInUse_trace :
    (run witnessInUse).map (·.2) =
      [.ok, .gens [(1, ["a"]), (2, ["b"]), (3, ["c"]), (4, ["d"]), (5, ["e"])],
       .plan [["b", "c"]] 1 0, .ok, .plan [["a", "d", "e"]] 1 0] := by decide +kernel

theorem witnessMaxedOut_trace :
    (run witnessMaxedOut).map (·.2) =
      [.ok, .gens [(1, ["a"]), (2, ["b"]), (3, ["c"])], .plan [["a", "c"]] 1 0] := by decide +kernel

/-- a trace is its ops paired with its answers, so the answers determine what the checker sees -/
theorem run_eq_zip (ops : List Op) : run ops = ops.zip ((run ops).map (·.2)) := by
  unfold run
  generalize ({} : State) = s
  induction ops generalizing s with
  | nil => rfl
  | cons op rest ih =>
    simp only [runFrom, List.map_cons, List.zip_cons_cons]
    rw [← ih]

/-- **the full statement of C05 is false of the planner** -/
theorem C05_full_fails : ¬ ∀ ops : List Op, holdsOn (run ops) = true := by
  intro h
  have := h witnessInUse
  rw [run_eq_zip, witnessInUse_trace] at this
  revert this
  decide +kernel

/-- … and also without any file in use -/
theorem C05_full_fails_maxedOut : holdsOn (run witnessMaxedOut) = false := by
  rw [run_eq_zip, witnessMaxedOut_trace]
  decide +kernel

/-! ### non-vacuity of the hypothesis of `C05_holdsOn_partial` -/

/-- eight level-1 snapshots and a level-2 pair with a tombstone: PlanLevel and the
    level-4 planner both hand out groups, and the hypothesis holds -/
def sampleOps : List Op :=
  [.setfs true ((List.range 8).map fun (n : Nat) => fl (toString n) ((n : Int) + 1) 1) , .find, .level 1, .plan false,
   .release 0, .level 1, .done 1 10 10, .find, .opt true]

example : noFullPlan sampleOps = true := by decide

end Influx.Props.C05
