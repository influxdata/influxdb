/-
  Props.C14 — Index metadata queries stay correct across compaction and restart.

  Subject: the model of tsdb/index/tsi1 in `Influx.Model.TSI` (written from the code, tied
  to the real package by the correspondence run of `bin/check C14`).
-/
import Influx.Lemmas.TSITrace
import Influx.Lemmas.TSILog
import Influx.Lemmas.TSIVarint

namespace Influx.Props.C14
open Influx.Model.TSI Influx.Spec.C14

def staleWitness : List Op :=
  [ .create 1 0 "m" [("k1", "a")], .create 2 0 "m" [("k1", "b")], .dropSeries 1,
    .tagValues "m" "k1" ]

/-- **C14 fails as stated**: after dropping one of two series, `TagValueIterator(m, k1)`
    still lists the dropped series' value `a` (tag keys / values are only tombstoned when the
    whole measurement is dropped). Reproduced on the real tsi1 by `bin/check C14`
    (signature `stale-tag-listing`). -/
theorem C14_full_fails : ¬ ∀ ops : List Op, holdsOn (run {} ops) = true := by
  intro h
  have := h staleWitness
  revert this
  decide +kernel

/-- the stale answer itself. -/
theorem C14_stale_answer :
    ((run {} staleWitness).map (·.2)).getLast? = some (.names ["a", "b"]) := by decide +kernel

def rollWitness (withRoll : Bool) : List Op :=
  [ .create 1 0 "m" [("k1", "a")] ] ++ (if withRoll then [.roll 0] else []) ++
  [ .dropSeries 1, .create 2 0 "m" [("k2", "b")], .tagKeys "m" ]

/-- **The answer depends on where the log was rolled**: a measurement is dropped entirely
    and re-created with another tag key. If the log file was rolled between
    the first creation and the drop, the old tag key `k1` comes back; otherwise it does not.
    (`DropMeasurement` writes tag-key tombstones into the active log file and then wipes that
    file's in-memory tag set with the measurement tombstone, so older files' keys are no
    longer shadowed.) -/
theorem C14_roll_dependence :
    ((run {} (rollWitness true)).map (·.2)).getLast? = some (.names ["k1", "k2"]) ∧
    ((run {} (rollWitness false)).map (·.2)).getLast? = some (.names ["k2"]) := by
  constructor <;> decide +kernel

/-- **C14 (partial: stale tag listings tolerated; no index-only drop, no crash).**
    For EVERY history of series creations, series drops and measurement drops done the way
    the engine does them (`Index.DropSeries`, `DropMeasurementIfSeriesNotExist`,
    `SeriesFile.DeleteSeriesID`), interleaved in any way with log rolls, log-file compactions,
    index-file merges and reopen (log replay, rebuild of the series-id set, background
    compaction to its fixpoint), on 1 or 8 partitions:
    * the measurement names are exactly those of the live series,
    * the measurement / tag-key / tag-value series-id sets (through the series-file filter and the
      tag-value cache) are exactly those of the live series,
    * the tag-key and tag-value listings contain at least the keys / values of the live series.
    What is missing from the full statement: equality of the two listings (`C14_full_fails`);
    shard-local drops and crashes (findings `phantom-in-view`, fix `C14-undelete-tag-on-series-add`)
    are judged on the real code by the checker only. -/
theorem C14_partial (ops : List Op) (h : ops.all Allowed = true) :
    holdsWeakly (run {} ops) = true := by
  obtain ⟨k, hk, _, _, _, hr⟩ := sim_run ops h sim_init
  unfold holdsWeakly gradeOf
  rw [hk]
  -- one candidate: the fold takes it if it is better than `missing`, else keeps `missing`
  show decide ((if k.worst.rank < Grade.missing.rank then k.worst else Grade.missing).rank ≤ 1) = true
  split
  · exact decide_eq_true hr
  · next hlt => exact absurd (Nat.lt_of_le_of_lt hr (by decide)) hlt

/-- the invariant behind `C14_partial` holds in every state reached by such a history
    (`GInv`: soundness and completeness of every file's series sets, no live series
    tombstoned, no tombstone flags left on tag keys / values, measurement flags agree with
    the live series, the partition's id set and the files' id sets name the live series, every
    log file's in-memory index is the replay of its entries, every tag-value cache entry holds
    only series of its tag pair and all the live ones). -/
theorem C14_invariant (ops : List Op) (h : ops.all Allowed = true) :
    ∃ live, GInv (ops.foldl (fun s op => (step s op).1) {}) live := by
  obtain ⟨_, _, live, hg, _⟩ := sim_run ops h sim_init
  exact ⟨live, hg⟩

/-- **reopen** (restart): replaying the logs, rebuilding the id set and letting the background
    compaction run preserves the invariant for the same live set — so the answers it determines
    (measurement names, series-id sets) stay the same; the tag listings it only bounds from below. -/
theorem C14_reopen {st : State} {live : List Nat} (h : GInv st live) : GInv (step st .reopen).1 live :=
  ginv_reopen h

/-- **compaction**: a log-file compaction or an index-file merge preserves the invariant for
    the same live set. -/
theorem C14_compaction {st : State} {live : List Nat} (h : GInv st live) (p level : Nat) :
    GInv (step st (.compactLog p)).1 live ∧ GInv (step st (.compactLevel p level)).1 live :=
  ⟨ginv_compactLog h p, ginv_compactLevel h p level⟩

/-- **open = fold of the log**: in every state that satisfies the invariant the in-memory index
    of each log file is the replay of its entries (so reopening a log file changes nothing).
    Not part of the statement: the model's `crash` opens a log truncated to `n` entries as the
    `replay` of that prefix by definition; that a strict prefix of an entry's bytes never
    passes the checksum is the hypothesis under which bytes and entries correspond, checked on
    the real decoder by the correspondence run at every byte offset generated. -/
theorem C14_log_is_replay {st : State} {live : List Nat} (h : GInv st live) :
    ∀ p ∈ st.parts, ∀ f ∈ p.files, f.isLog = true → f.data = replay st.sf f.entries := by
  intro p hp f hf hl
  obtain ⟨i, hpi⟩ := h.of_mem hp
  exact hpi.loginv f hf hl

/-- **log truncated at any byte**: for any entry codec in which a complete entry decodes and a
    strict prefix of an entry never does (short buffer / checksum mismatch — the hypothesis
    `LogCodec.torn`), `LogFile.open`'s loop over a log cut anywhere inside entry `e` reads back
    exactly the whole entries before the cut. -/
theorem C14_truncated_log (c : LogCodec) (es : List Entry) (e : Entry) (p : List Nat)
    (hp : p.length < (c.encode e).length) (hpre : p = (c.encode e).take p.length) :
    parseLog c ((es.flatMap c.encode ++ p).length + 1) (es.flatMap c.encode ++ p) = es :=
  parseLog_truncated c es e p hp hpre _ (Nat.lt_succ_self _)

/-- **a log entry cut at any byte is a short buffer**, over the real entry framing
    (`appendLogEntry` / `LogEntry.UnmarshalBinary`: flag, uvarint id, three uvarint-length-prefixed
    strings, 4 checksum bytes; `binary.PutUvarint` / `binary.Uvarint` with its 10-byte rule; tsi1's
    `uvarint()` helper): for every entry whose id and lengths fit 64 bits, every checksum
    function with 4-byte output and every cut strictly inside the entry — also inside a
    multi-byte varint — decoding answers `io.ErrShortBuffer`, the error `LogFile.open` recovers
    from; never a parse error (which would make `Index.Open` fail) and never a checksum mismatch.
    This is what
    `LogCodec.torn` of `C14_truncated_log` assumes, shown for the real framing (on `RawEntry`; no
    `LogCodec` is built from it) without any assumption on CRC-32. -/
theorem C14_torn_entry_is_short_buffer (crc : List Nat → List Nat) (hcrc : ∀ b, (crc b).length = 4)
    (e : RawEntry) (hf : e.fits) (m : Nat) (hm : m < (encodeEntry crc e).length) :
    decodeEntry crc ((encodeEntry crc e).take m) = .shortBuffer :=
  decodeEntry_torn crc hcrc e hf m hm

/-- the varint layer alone: a torn varint is `io.ErrShortBuffer`, a whole one round-trips. -/
theorem C14_torn_varint (x m : Nat) (hf : fitsUv 0 x = true) (hm : m < (putUvarint x).length) :
    uvarintHelper ((putUvarint x).take m) = .shortBuffer ∧
    ∀ rest, uvarintHelper (putUvarint x ++ rest) = .ok x (putUvarint x).length :=
  ⟨uvarintHelper_torn x m hf hm, fun rest => uvarintHelper_put x rest hf⟩

-- non-vacuity of the framing hypotheses: ids / lengths up to 2^64-1 fit, 2^64 does not;
-- a series id of 130 takes two bytes and its first byte alone is a short buffer
example : fitsUv 0 (2^64 - 1) = true := by decide +kernel
example : fitsUv 0 (2^64) = false := by decide +kernel
example : putUvarint 130 = [130, 1] := by simp [putUvarint]
example : uvarintHelper [130] = .shortBuffer := by simp [uvarintHelper, readUv]

-- non-vacuity: a history with every kind of allowed operation
def exampleOps : List Op :=
  [ .cfg 8, .create 6 3 "m" [("k1", "a")], .create 14 5 "m" [("k1", "b")], .roll 3, .compactLog 3,
    .dropSeries 6, .tagValues "m" "k1", .reopen, .compactLevel 3 1, .dropMeasurement "m",
    .create 22 3 "m" [("k1", "a")], .tagValueSeries "m" "k1" "a", .measurements ]

example : exampleOps.all Allowed = true := by decide

end Influx.Props.C14
