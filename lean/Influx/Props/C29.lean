/-
  Props.C29 — Authorization wrappers never leak or modify unauthorized resources.

  The model (`Model.Authorizer`) writes out the 26 methods of authorizer/{bucket,org,user,auth}.go
  over the tenant store model and a token store; the permission check inside `authorize` is
  `Influx.Generated.Authz.Matches`, regenerated from authz.go on every run, and "the caller may"
  in the statement is C28's `Justified` — the bridge is C28's theorem.  All theorems hold for
  every caller (any permission list, active or not, present or not), every state and every
  operation sequence.
-/
import Influx.Lemmas.AuthorizerLemmas

namespace Influx.Props.C29
open Influx Influx.Authzr Influx.Generated.Authz Influx.Spec.C29

/-- **C29 on one call**: for every caller, state and wrapped method, the observation satisfies the
    statement: returned resources are readable, a success implies write access to the target (and for
    tokens that every granted permission is held), a denial reports no stored change. -/
theorem C29_call (c : Caller) (s : St) (op : WOp) : callOK c op (wstep c s op).2 = true :=
  callOK_wstep c s op

/-- **C29 as the statement checker states it**: it accepts the model's trace on every op sequence. -/
theorem C29_holdsOn (ops : List Op) (s : St) : holdsOn (run s ops) = true := by
  induction ops generalizing s with
  | nil => rfl
  | cons op ops ih =>
    have ih' := ih (step s op).1
    simp only [holdsOn] at ih' ⊢
    simp only [run, List.all_cons, Bool.and_eq_true]
    refine ⟨?_, ih'⟩
    cases op with
    | w c wop => exact callOK_wstep c s wop
    | _ => rfl

/-- A denied call leaves stored state unchanged — here literally the whole state (stores and id
    generators), for every mutating wrapper. -/
theorem C29_denied_unchanged (c : Caller) (s : St) :
    (∀ o n sys, DenSafe s (createBucket c s o n sys)) ∧ (∀ id n, DenSafe s (updateBucket c s id n)) ∧
    (∀ id, DenSafe s (deleteBucket c s id)) ∧
    (∀ n, DenSafe s (createOrg c s n)) ∧ (∀ id n, DenSafe s (updateOrg c s id n)) ∧ (∀ id, DenSafe s (deleteOrg c s id)) ∧
    (∀ n id, DenSafe s (createUser c s n id)) ∧ (∀ id n, DenSafe s (updateUser c s id n)) ∧
    (∀ id, DenSafe s (deleteUser c s id)) ∧
    (∀ a, DenSafe s (createAuth c s a)) ∧ (∀ a, DenSafe s (createAuth2 c s a)) ∧ (∀ id act, DenSafe s (updateAuth c s id act)) ∧
    (∀ id, DenSafe s (deleteAuth c s id)) :=
  ⟨fun _ _ _ => guarded_den (liftT_den s _), fun _ _ => fetchGuard_den (liftT_den s _),
   fun _ => fetchGuard_den (liftT_den s _),
   fun _ => guarded_den (liftT_den s _), fun _ _ => guarded_den (liftT_den s _), fun _ => guarded_den (liftT_den s _),
   fun _ _ => guarded_den (liftT_den s _), fun _ _ => guarded_den (liftT_den s _), fun _ => guarded_den (liftT_den s _),
   fun a => guarded_den (guarded_den (guarded_den (createAuthSvc_den s a))),
   createAuth2_den c s,
   fun id act => fetchGuard_den (updateAuthSvc_den s id act), fun id => fetchGuard_den (deleteAuthSvc_den s id)⟩

/-- Read wrappers never change anything (they are functions of the state). -/
theorem C29_reads_pure (s : St) {α : Type} (r : Except Err α) (f : α → Ans) : (ansRead s r f).1 = s := by
  unfold ansRead; cases r <;> rfl

/-- Tokens: a successful CreateAuthorization means the caller presented an active token that, by the
    code's own check, allows every permission of the new token — no privilege escalation. -/
theorem C29_token_grant (c : Caller) (s s' : St) (a : AuthRec) (id : Nat)
    (h : createAuth c s a = (s', .ok id)) :
    c.present = true ∧ c.active = true ∧ ∀ p ∈ a.perms, allowed c.perms p = true := by
  obtain ⟨h1, _, h3⟩ := createAuth_checks (congrArg Prod.snd h)
  obtain ⟨_, _, hp, ha, _⟩ := authorize_ok_iff.mp h1
  exact ⟨hp, ha, fun p hm => (verifyPermissions_ok_iff.mp h3 p hm).2.2⟩

/-- …and in the statement's terms: every granted permission is justified by one the caller holds. -/
theorem C29_token_grant_justified (c : Caller) (s s' : St) (a : AuthRec) (id : Nat)
    (h : createAuth c s a = (s', .ok id)) :
    ∀ p ∈ a.perms, ∃ q ∈ c.perms, Spec.C28.Justified q p :=
  fun p hp => allowed_justified ((C29_token_grant c s s' a id h).2.2 p hp)

/-- The check is exact (not required by the property): `authorize` passes iff the ids are valid,
    an active authorizer is present and its permissions allow the request. -/
theorem C29_authorize_exact (c : Caller) (a : Action) (rt : ResourceType) (rid oid : Option Nat) :
    authorize c a rt rid oid = .ok () ↔
      (oid ≠ some 0 ∧ rid ≠ some 0 ∧ c.present = true ∧ c.active = true ∧ allowed c.perms (mkPerm a rt rid oid) = true) :=
  authorize_ok_iff

/-- A present but inactive token is denied everything (on valid ids). -/
theorem C29_inactive_denied (c : Caller) (hc : c.active = false) (hp : c.present = true)
    (a : Action) (rt : ResourceType) (rid oid : Option Nat) (h1 : oid ≠ some 0) (h2 : rid ≠ some 0) :
    authorize c a rt rid oid = .error .unauth := by
  simp only [authorize, if_neg h1, if_neg h2, hc, hp]; rfl

-- non-vacuity: a caller with a bucket-scoped read permission reads that bucket and is denied the delete
example :
    let c : Caller := ⟨true, true, 2001, [⟨"read", ⟨"buckets", some 1003, some 1⟩⟩]⟩
    let s := exec init [.admin (.co "a" 0), .admin (.cb 1 "x" false)]
    (wstep c s (.gb 1003)).2 = .bucket 1003 1 false ∧ (wstep c s (.db 1003)).2 = .err .unauth false := by
  decide +kernel

end Influx.Props.C29
