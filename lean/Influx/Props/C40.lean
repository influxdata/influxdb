/-
  Props.C40 — Partial writes store exactly the accepted points.

  Model: `Influx.Fields.writePoints` (Model/FieldSchema.lean), written from
  `Shard.WritePoints` / `validateSeriesAndFields` / `ValidateAndCreateFields` /
  `CreateFieldIfNotExists` / `Engine.WritePoints`.  Statement: `Spec.C40.holdsOn`.
-/
import Influx.Lemmas.FieldC40

namespace Influx.Props.C40
open Influx.Fields Influx.Spec.C40 Influx.Fields.C40Steps

/-- **accepted ⊎ rejected = batch, order kept**: the verdict list is the batch
    with one verdict per point; the points handed to the engine are exactly the
    accepted ones, in batch order. -/
theorem C40_partition (s : Schema) (batch : List Point) :
    (verdicts s batch).2.2.map (·.1) = batch ∧
    (validateTwoPhase s batch).kept
      = ((verdicts s batch).2.2.filter (fun pv => pv.2.accepted)).map (·.1) :=
  ⟨verdicts_map_fst s batch, (validate_eq s batch).2.2.1⟩

/-- **err.Dropped = |rejected|**, and a write never fails in another way. -/
theorem C40_dropped_count (st : State) (batch : List Point) :
    ((writePoints st batch).2 = .ok ∧
        (verdicts st.sch batch).2.2.countP (fun pv => !pv.2.accepted) = 0) ∨
    (∃ r, (writePoints st batch).2
        = .partialWrite ((verdicts st.sch batch).2.2.countP (fun pv => !pv.2.accepted)) r) :=
  writePoints_res st batch

/-- **stored' = stored ⊕ accepted; rejected points leave the data unchanged**
    (for a batch whose data keys are pairwise different):
    every datum of an accepted point reads back with the written value, a datum
    of a rejected point reads as before the write, and so does every other key. -/
theorem C40_stored (st : State) (batch : List Point) (h : Inv st)
    (hK : (batchKeys batch).Nodup) :
    let V := (verdicts st.sch batch).2.2
    let A := (writePoints st batch).1.data
    (∀ p v, (p, v) ∈ V → v.accepted = true → ∀ e ∈ pointEntries p, A.lookup e.1 = some e.2) ∧
    (∀ p v, (p, v) ∈ V → v.accepted = false → ∀ e ∈ pointEntries p, A.lookup e.1 = st.data.lookup e.1) ∧
    (∀ k, k ∉ batchKeys batch → A.lookup k = st.data.lookup k) := by
  exact writePoints_stored st batch hK

/-- The statement checker accepts the model's write (any batch, any state
    satisfying the invariant). -/
theorem C40_write_accepted (st : State) (batch : List Point) (h : Inv st) :
    writeFails st.data batch (writePoints st batch).2 (writePoints st batch).1.data = none :=
  writeFails_model st batch h

/-- **nothing is stored for a field named `time`**, in every reachable state -/
theorem C40_no_time_data (ops : List Op40) :
    (rawKeys (run {} ops).data).any (fun k => k.1.2.2 == timeName) = false :=
  no_time_data _ (run_inv {} inv_init ops)

/-- **field types never change**: whatever the batch, every type on record before
    the write is on record after it.  (That every stored value has the type on
    record for its field is `C10_single_type`.) -/
theorem C40_types_stable (st : State) (batch : List Point) (k : FKey) (t : FType)
    (h : st.sch.lookup k = some t) : (writePoints st batch).1.sch.lookup k = some t := by
  rw [(writePoints_state st batch).2]; exact verdicts_sub batch st.sch k t h

/-- a field created by a point that is then rejected stays
    in the schema (here `b:int`, created before the conflict on `c` is met) -/
example : (writePoints { sch := [(("m", "c"), .int)], data := [] }
    [⟨"m", [], [⟨"b", .int, "1", 0⟩, ⟨"c", .float, "3ff0000000000000", 0⟩], 1⟩]).1.sch.lookup ("m", "b")
      = some .int ∧
    (writePoints { sch := [(("m", "c"), .int)], data := [] }
    [⟨"m", [], [⟨"b", .int, "1", 0⟩, ⟨"c", .float, "3ff0000000000000", 0⟩], 1⟩]).2
      = .partialWrite 1 .conflict := by decide

/-- **C40** — for every sequence of operations (arbitrary batches mixing valid
    and invalid points against whatever schema the earlier operations left) the
    statement holds of the model's observations. -/
theorem C40_holdsOn (ops : List Op40) : holdsOn (trace40 {} ops) = true := by
  unfold holdsOn
  rw [show ([] : Store) = ({} : State).data from rfl, firstFailure_trace {} inv_init ops]
  rfl

end Influx.Props.C40
