/-
  Props.C10 — A field keeps a single type, persistently.

  Model: Model/FieldSchema.lean (validation, `CreateFieldIfNotExists`) +
  Model/FieldLog.lean (fields.idx / fields.idxl, restarts, crashes).
  Statement: `Spec.C10.holdsOn`.
-/
import Influx.Lemmas.FieldC10Steps

namespace Influx.Props.C10
open Influx.Fields Influx.Spec.C10 Influx.Fields.C10Steps

/-- **C10** — for every history of writes (conflicting or not), measurement drops,
    clean restarts, process kills, crashes at each of the three modelled points of a
    fields.idx rewrite (in a clean close or in the open after a kill), crashes at
    every byte of an append to fields.idxl and pairs of racing writers (run one after
    the other), the statement holds of the model's observations. -/
theorem C10_holdsOn (ops : List Op10) : holdsOn (trace10 {} ops) = true := by
  unfold holdsOn
  rw [firstFailure_trace {} {} pinv_init ⟨rfl, fun _ hm => nomatch hm⟩ ops]
  rfl

/-- **at most one type per (measurement, field) in every reachable state**, every
    stored value has the recorded type of its field, and the files reconstruct the
    in-memory field set -/
theorem C10_single_type (ops : List Op10) :
    ((run {} ops).mem.map (·.1)).Nodup ∧
    (∀ e ∈ (run {} ops).data, (run {} ops).mem.lookup (e.1.1, e.1.2.2.1) = some e.2.1) ∧
    (∀ k, (replay ((run {} ops).idx.getD []) ((run {} ops).log.getD []).flatten).lookup k
            = (run {} ops).mem.lookup k) :=
  let h := run_inv {} pinv_init ops
  ⟨h.ndMem, h.typed, h.disk⟩

/-- **a conflicting write is rejected**: a point that carries another type for a
    field on record before the batch is refused by `verdicts`, whatever else the
    batch contains; every type on record before the batch is on record after it -/
theorem C10_conflict_rejected (s : Schema) (b : List Point) :
    (∀ p v, (p, v) ∈ (verdicts s b).2.2 → conflictsWith s p = true → v.accepted = false) ∧
    (∀ k t, s.lookup k = some t → (verdicts s b).1.lookup k = some t) :=
  ⟨fun p v hm hc => verdicts_conflict b s p v hm hc, verdicts_sub b s⟩

/-- **load(crash(save s) c) ∈ {before, after} for every byte cut inside the record
    being appended**: with any number `x` of bytes of that record in the file,
    the load yields the field set without that record, or — only when all its
    bytes are there — with it. -/
theorem C10_log_cut (idx : Schema) (recs : List ChangeSet) (last : ChangeSet) (x : Nat) :
    replay idx (cutLog (recs ++ [last]) (logLen recs + x)).flatten =
      if recordLen last ≤ x then replay idx (recs ++ [last]).flatten else replay idx recs.flatten := by
  rw [cutLog_append]; split <;> rfl

/-- any cut at all loads a prefix of the records -/
theorem C10_log_prefix (recs : List ChangeSet) (n : Nat) : ∃ k, cutLog recs n = recs.take k :=
  cutLog_prefix recs n

/-- **replaying the log over a snapshot that already contains it is a no-op**
    (the crash point between the rename of fields.idx and the removal of
    fields.idxl; DESIGN §6 F16 — false of the code before
    fixes/C10-replay-over-newer-snapshot.patch) -/
theorem C10_replay_idempotent (s : Schema) (cs : List Change) (k : FKey) :
    (replay (replay s cs) cs).lookup k = (replay s cs).lookup k :=
  replay_idem s cs k

/-- **a dropped measurement never comes back**: from a state (satisfying the
    invariant) that records no field of `m`, no sequence of clean restarts, kills
    and crashes inside a fields.idx rewrite (in a close or in an open) brings one
    back.  Restarts after a torn append are not covered here. -/
theorem C10_dropped_stays (st : PState) (h : PInv st) (m : String)
    (hm : hasMeas st.mem m = false) (ops : List Op10)
    (hops : ∀ o ∈ ops, o = .reopen ∨ o = .crash ∨ (∃ p, o = .crashInClose p) ∨ (∃ p, o = .crashInOpen p) ∨ o = .look) :
    hasMeas (run st ops).mem m = false := by
  induction ops generalizing st with
  | nil => exact hm
  | cons o os ih =>
    have hos := fun o' ho' => hops o' (List.mem_cons_of_mem _ ho')
    have restart (hop : IsRestart o) : hasMeas (run st (o :: os)).mem m = false := by
      obtain ⟨_, st', he, hI', hs, _⟩ := restart_spec st h o hop
      rw [run, he]
      exact ih st' hI' (hasMeas_transfer _ _ hI'.ndMem m hm hs.sub) hos
    rcases hops o List.mem_cons_self with rfl | rfl | ⟨p, rfl⟩ | ⟨p, rfl⟩ | rfl
    · exact restart trivial
    · exact restart trivial
    · exact restart trivial
    · exact restart trivial
    · exact ih st h hm hos

/-- **dropping a measurement that has data removes its field schema** (in every
    reachable state): after the drop no field of `m` is on record -/
theorem C10_drop_removes_schema (ops : List Op10) (m : String)
    (h : ∃ e ∈ (run {} ops).data, e.1.1 = m) : hasMeas (pDrop (run {} ops) m).mem m = false := by
  have hI := run_inv {} pinv_init ops
  obtain ⟨e, he, hem⟩ := h
  rw [pDrop_mem, if_pos (dropApplies_of_data _ hI m e he hem)]
  exact hasMeas_dropMeas _ hI.ndMem m

/-- **two writers racing on a new field** (`LoadOrStore` is one atomic step): in
    either order, the first creator's type is recorded and the other creator sees
    that type — a conflict iff it asked for another one. -/
theorem C10_race (s : Schema) (k : FKey) (t1 t2 : FType) (hnew : s.lookup k = none) :
    ∃ s1, createField s k t1 = some (s1, true) ∧ s1.lookup k = some t1 ∧
      (t2 = t1 → createField s1 k t2 = some (s1, false)) ∧
      (t2 ≠ t1 → createField s1 k t2 = none) := by
  refine ⟨(k, t1) :: s, ?_, lookup_cons_eq _ _ _, ?_, ?_⟩
  · unfold createField; rw [hnew]
  · intro h; unfold createField; rw [lookup_cons_eq]; simp [h]
  · intro h; unfold createField; rw [lookup_cons_eq]; simp [Ne.symm h]

-- non-vacuity: the F16 history, end to end on the model
example : holdsOn (trace10 {} [
    .write [⟨"m", [], [⟨"f", .int, "1", 0⟩], 10⟩], .reopen, .drop "m",
    .write [⟨"k", [], [⟨"g", .int, "1", 0⟩], 20⟩], .drop "k",
    .write [⟨"k", [], [⟨"g", .float, "3ff0000000000000", 0⟩], 30⟩],
    .write [⟨"m", [], [⟨"f", .int, "2", 0⟩], 40⟩],
    .crashInClose .renamed,
    .write [⟨"m", [], [⟨"f", .float, "3ff0000000000000", 0⟩], 50⟩]]) = true := by decide

end Influx.Props.C10
