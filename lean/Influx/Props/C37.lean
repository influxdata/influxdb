/-
  Props.C37 — Sorted timestamp array algebra is set algebra.

  The functions under proof are the model of `tsm1.*Values` / `cursors.*Array`
  (Model/Values.lean), generic in the payload type `V`; timestamps range over ALL
  integers (so every int64 bound, `min > max`, MinInt64/MaxInt64 are included) and
  arrays over all lists (no length bound).  `toMap` is last-write-wins.
-/
import Influx.Lemmas.ValuesMerge
import Influx.Model.ValuesRun

namespace Influx.Props.C37
open Influx.Values Influx.Spec.C37

variable {V : Type}

/-- strictly ascending timestamps = "sorted and deduplicated" -/
abbrev SD (a : List (Int × V)) : Prop := a.Pairwise (fun p q => p.1 < q.1)

theorem sortedDedup_iff_SD (a : List (Int × V)) : sortedDedup a = true ↔ SD a := sortedDedup_iff a

/-- tsm1 Merge in one statement: the right-biased union for ALL inputs, and strictly ascending
    when both inputs are non-empty (they are deduplicated first) or already sorted.  (With one side
    empty the other is returned as is — the one case where unsorted input stays unsorted.) -/
theorem mergeV_spec (a b : List (Int × V)) :
    (∀ t, toMap (mergeV a b) t = (toMap b t).or (toMap a t)) ∧
      ((a ≠ [] ∧ b ≠ []) ∨ (SD a ∧ SD b) → SD (mergeV a b)) := by
  cases a with
  | nil => exact ⟨fun t => Option.or_none.symm, fun h => h.elim (fun h => absurd rfl h.1) (·.2)⟩
  | cons x a =>
    cases b with
    | nil => exact ⟨fun t => rfl, fun h => h.elim (fun h => absurd rfl h.2) (·.1)⟩
    | cons y b =>
      have hd := mergeCore_spec mergeLoopV _ _ (dedup_ssorted (x :: a)) (dedup_ssorted (y :: b))
        (mergeLoopV_spec _ _ (dedup_ssorted _) (dedup_ssorted _))
      rw [mergeV_cons_cons]
      exact ⟨fun t => (hd.2 t).trans (by rw [toMap_dedup, toMap_dedup]), fun _ => hd.1⟩

/-- **tsm1 Merge is the right-biased union, for ALL inputs** (unsorted, duplicated, empty). -/
theorem mergeV_toMap (a b : List (Int × V)) (t : Int) :
    toMap (mergeV a b) t = (toMap b t).or (toMap a t) := (mergeV_spec a b).1 t

theorem mergeV_sorted (a b : List (Int × V))
    (h : (a ≠ [] ∧ b ≠ []) ∨ (SD a ∧ SD b)) : SD (mergeV a b) := (mergeV_spec a b).2 h

/-- **cursors Merge** on sorted, deduplicated arrays: right-biased union and sorted. -/
theorem mergeA_spec (a b : List (Int × V)) (ha : SD a) (hb : SD b) :
    SD (mergeA a b) ∧ ∀ t, toMap (mergeA a b) t = (toMap b t).or (toMap a t) := by
  cases a with
  | nil => exact ⟨hb, fun t => Option.or_none.symm⟩
  | cons x a =>
    cases b with
    | nil => exact ⟨ha, fun t => rfl⟩
    | cons y b =>
      rw [mergeA_cons_cons]
      exact mergeCore_spec mergeLoopA _ _ ha hb (mergeLoopA_eq_mergeLoopV _ _ ha ▸ mergeLoopV_spec _ _ ha hb)

/-- the merged array is determined by the statement: any strictly ascending array
    denoting the right-biased union IS the code's answer (so the statement checker
    `holdsOn` leaves no freedom). -/
theorem merge_unique (a b out : List (Int × V)) (ha : SD a) (hb : SD b) (ho : SD out)
    (h : ∀ t, toMap out t = (toMap b t).or (toMap a t)) : out = mergeV a b := by
  apply ssorted_ext _ _ ho (mergeV_sorted a b (Or.inr ⟨ha, hb⟩))
  intro t; rw [h, mergeV_toMap]

/-- the two families compute the same array on sorted, deduplicated input. -/
theorem mergeA_eq_mergeV (a b : List (Int × V)) (ha : SD a) (hb : SD b) : mergeA a b = mergeV a b :=
  have ⟨s, m⟩ := mergeA_spec a b ha hb
  merge_unique a b _ ha hb s m

/-- merging is idempotent and associative (set-algebra corollaries). -/
theorem mergeV_self (a : List (Int × V)) (ha : SD a) : mergeV a a = a :=
  (merge_unique a a a ha ha ha (fun t => by cases toMap a t <;> rfl)).symm

theorem mergeV_assoc (a b c : List (Int × V)) (ha : SD a) (hb : SD b) (hc : SD c) :
    mergeV (mergeV a b) c = mergeV a (mergeV b c) := by
  have hab := mergeV_sorted a b (Or.inr ⟨ha, hb⟩)
  apply merge_unique a _ _ ha (mergeV_sorted b c (Or.inr ⟨hb, hc⟩)) (mergeV_sorted _ c (Or.inr ⟨hab, hc⟩))
  intro t
  rw [mergeV_toMap, mergeV_toMap, mergeV_toMap, Option.or_assoc]

/-- **Exclude removes exactly the points of the closed range** — any `lo`, `hi` (also `lo > hi`). -/
theorem exclude_filter (a : List (Int × V)) (lo hi : Int) (ha : SD a) :
    exclude a lo hi = some (a.filter (fun p => !inRange lo hi p.1)) :=
  (exclude_include_eq_filter a lo hi ha).1

/-- **Include keeps exactly the points of the closed range**. -/
theorem include_filter (a : List (Int × V)) (lo hi : Int) (ha : SD a) :
    «include» a lo hi = some (a.filter (fun p => inRange lo hi p.1)) :=
  (exclude_include_eq_filter a lo hi ha).2

/-- as maps: Exclude is restriction to the outside of `[lo, hi]`. -/
theorem exclude_toMap (a : List (Int × V)) (lo hi : Int) (ha : SD a) :
    ∃ out, exclude a lo hi = some out ∧ SD out ∧
      ∀ t, toMap out t = if lo ≤ t ∧ t ≤ hi then none else toMap a t := by
  refine ⟨_, exclude_filter a lo hi ha, List.Pairwise.filter _ ha, fun t => ?_⟩
  simp only [inRange, ← Bool.decide_and, ← decide_not]
  exact (toMap_filter a (fun t => ¬(lo ≤ t ∧ t ≤ hi)) t).trans (ite_not ..)

/-- as maps: Include is restriction to `[lo, hi]`. -/
theorem include_toMap (a : List (Int × V)) (lo hi : Int) (ha : SD a) :
    ∃ out, «include» a lo hi = some out ∧ SD out ∧
      ∀ t, toMap out t = if lo ≤ t ∧ t ≤ hi then toMap a t else none := by
  refine ⟨_, include_filter a lo hi ha, List.Pairwise.filter _ ha, fun t => ?_⟩
  simp only [inRange, ← Bool.decide_and]
  exact toMap_filter a (fun t => lo ≤ t ∧ t ≤ hi) t

/-- an empty range (`lo > hi`) excludes nothing and includes nothing. -/
theorem exclude_empty_range (a : List (Int × V)) (lo hi : Int) (ha : SD a) (h : lo > hi) :
    exclude a lo hi = some a ∧ «include» a lo hi = some [] :=
  exclude_include_of_none a lo hi (by rw [findRange_eq a lo hi (SSorted.sorted ha), if_pos (Or.inr (Or.inl h))])

/-- **search returns the insertion position** (number of smaller timestamps; non-strictly sorted input suffices). -/
theorem search_insertionPos (a : List (Int × V)) (t : Int) (ha : a.Pairwise (fun p q => p.1 ≤ q.1)) :
    search a t = insertionPos a t := search_eq_countP a t ha

/-- **FindRange**: `(-1,-1)` exactly when the array is empty, the range is empty, or the
    array lies wholly on one side of the range; otherwise both insertion positions. -/
theorem findRange_spec (a : List (Int × V)) (lo hi : Int) (ha : SD a) :
    findRange a lo hi =
      if a = [] ∨ lo > hi ∨ (∀ p ∈ a, p.1 < lo) ∨ (∀ p ∈ a, p.1 > hi) then none
      else some (insertionPos a lo, insertionPos a hi) := by
  have hs := SSorted.sorted ha
  rw [findRange_eq a lo hi hs, search_insertionPos a lo hs, search_insertionPos a hi hs]

/-- **Deduplicate** returns the canonical (strictly ascending) array of the same last-write-wins map. -/
theorem dedup_spec (a : List (Int × V)) : SD (dedup a) ∧ ∀ t, toMap (dedup a) t = toMap a t :=
  ⟨dedup_ssorted a, toMap_dedup a⟩

/-- canonical: arrays denoting the same map deduplicate to the same array. -/
theorem dedup_canonical (a b : List (Int × V)) (h : ∀ t, toMap a t = toMap b t) : dedup a = dedup b := by
  apply ssorted_ext _ _ (dedup_ssorted a) (dedup_ssorted b)
  intro t; rw [toMap_dedup, toMap_dedup, h]

theorem dedup_idem (a : List (Int × V)) : dedup (dedup a) = dedup a := dedup_of_ssorted _ (dedup_ssorted a)

/-- `Merge` never reaches the "empty array" arm of `mergeCore` (Go would index `a[len(a)-1]`). -/
theorem dedup_nonempty (a : List (Int × V)) (h : a ≠ []) : dedup a ≠ [] := dedup_ne_nil a h

theorem unionRightWins_of [DecidableEq V] (a b out : List (Int × V))
    (h : ∀ t, toMap out t = (toMap b t).or (toMap a t)) : unionRightWins a b out = true := by
  apply List.all_eq_true.mpr
  intro p _
  rw [h p.1]
  cases toMap b p.1 <;> exact beq_self_eq_true _

theorem sameMap_of [DecidableEq V] (a out : List (Int × V)) (h : ∀ t, toMap out t = toMap a t) :
    sameMap a out = true :=
  List.all_eq_true.mpr (fun p _ => by rw [h]; exact beq_self_eq_true _)

theorem merge_holds [DecidableEq V] (a b out : List (Int × V))
    (hm : ∀ t, toMap out t = (toMap b t).or (toMap a t)) (hs : SD a ∧ SD b → SD out) :
    (unionRightWins a b out && (if sortedDedup a && sortedDedup b then sortedDedup out else true)) = true := by
  rw [unionRightWins_of a b out hm, Bool.true_and]
  by_cases h : (sortedDedup a && sortedDedup b) = true
  · rw [if_pos h]
    rw [Bool.and_eq_true, sortedDedup_iff, sortedDedup_iff] at h
    exact (sortedDedup_iff _).mpr (hs h)
  · rw [if_neg h]

/-- **C37**: for every operation (all arrays, all bounds), the statement holds of the model's answer. -/
theorem C37_holdsOn [DecidableEq V] (op : Op V) : holdsOn op (run op) = true := by
  unfold holdsOn
  by_cases hsc : inScope op = true
  · rw [hsc, Bool.not_true, if_neg Bool.false_ne_true]
    cases op with
    | merge f a b =>
      cases f with
      | tsm1 => exact merge_holds a b _ (mergeV_toMap a b) (fun h => mergeV_sorted a b (Or.inr h))
      | cursors =>
        rw [inScope, Bool.and_eq_true, sortedDedup_iff, sortedDedup_iff] at hsc
        have ⟨s, m⟩ := mergeA_spec a b hsc.1 hsc.2
        exact merge_holds a b _ m (fun _ => s)
    | exclude a lo hi =>
      rw [show run (.exclude a lo hi) = .arr _ from
        congrArg optArr (exclude_filter a lo hi ((sortedDedup_iff a).mp hsc))]
      exact beq_self_eq_true _
    | incl a lo hi =>
      rw [show run (.incl a lo hi) = .arr _ from
        congrArg optArr (include_filter a lo hi ((sortedDedup_iff a).mp hsc))]
      exact beq_self_eq_true _
    | findRange a lo hi =>
      rw [show run (.findRange a lo hi) = .range _ from
        congrArg Res.range (findRange_spec a lo hi ((sortedDedup_iff a).mp hsc))]
      simp only [Bool.or_eq_true, List.isEmpty_iff, decide_eq_true_eq, List.all_eq_true, or_assoc,
        beq_self_eq_true]
    | search a t =>
      rw [show run (.search a t) = .pos _ from
        congrArg Res.pos (search_insertionPos a t (SSorted.sorted ((sortedDedup_iff a).mp hsc)))]
      exact beq_self_eq_true _
    | dedup a =>
      exact Bool.and_eq_true_iff.mpr ⟨(sortedDedup_iff _).mpr (dedup_ssorted a), sameMap_of a _ (toMap_dedup a)⟩
  · rw [Bool.eq_false_iff.mpr hsc]; rfl

/-- checking the map law only at occurring timestamps loses nothing:
    elsewhere every map involved is `none`. -/
theorem toMap_none_of_absent (a : List (Int × V)) (t : Int) (h : ∀ p ∈ a, p.1 ≠ t) : toMap a t = none :=
  (toMap_eq_none_iff a t).mpr h

-- non-vacuity / concrete behaviour (second array wins; extremes; empty range)
example : mergeV [((1:Int), "a"), (3, "a")] [(3, "b"), (4, "b")] = [(1, "a"), (3, "b"), (4, "b")] := by
  rw [mergeV_cons_cons, dedup_of_ssorted _ (by decide), dedup_of_ssorted _ (by decide)]
  simp [mergeCore, mergeLoopV]
example : mergeA [((1:Int), "a"), (3, "a")] [(3, "b"), (4, "b")] = [(1, "a"), (3, "b"), (4, "b")] := by
  simp [mergeA, mergeCore, mergeLoopA]
example : mergeV [((3:Int), "x"), (1, "y"), (3, "z")] [(2, "b")] = [(1, "y"), (2, "b"), (3, "z")] := by
  simp [mergeV, mergeCore, dedup, strictAsc, stableSort, insertStable, compact, mergeLoopV]
example : exclude [((-9223372036854775808:Int), 0), (0, 1), (9223372036854775807, 2)]
    (-9223372036854775808) 0 = some [(9223372036854775807, 2)] := by
  rw [exclude_filter _ _ _ (by decide)]; decide
example : «include» [((1:Int), 0), (2, 1)] 2 1 = some [] :=
  (exclude_empty_range _ 2 1 (by decide) (by decide)).2

end Influx.Props.C37
