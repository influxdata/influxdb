/-
  Props.C15 — Tag WHERE clauses select exactly the matching series.

  The function under proof is the model of
  `tsdb.IndexSet.MeasurementSeriesByExprIterator` in `Influx.Model.TagExpr`
  (written from tsdb/index.go, tied to the real package by the correspondence
  run of `bin/check C15`).  Everything here is unbounded: any expression depth,
  any number of indexes/series/tags, any regular expression (an arbitrary
  predicate on strings).
-/
import Influx.Lemmas.TagExprState

namespace Influx.Props.C15
open Influx.Model.TagExpr Influx.Spec.C15

/-- **C15 over an abstract index.** For ANY index-set views that are those of a
    list of series `S` of one measurement (`Ctx.Sound`: nothing assumed about
    nil-vs-empty iterators or the order of tag values), and any expression of
    the property's grammar, the evaluator delivers exactly the ids of the series
    whose tags satisfy the expression, an absent tag reading as `""`. -/
theorem C15_abstract (c : Ctx) (S : List Series) (hwf : SeriesWF S) (hc : c.Sound S) (e : Expr)
    (hg : inGrammar c.hasField e = true) (i : Nat) :
    i ∈ (eval c e).ids ↔ ∃ s ∈ S, s.id = i ∧ sem c.name s.tags e = true :=
  eval_mem hwf hc e hg i

/-- **C15** on the states of the model (several indexes sharing a series file,
    series-file tombstones, a field set): after any operations, a query in the
    grammar returns exactly the live series of the measurement that satisfy it. -/
theorem C15 (ops : List Op) (name : String) (e : Expr) (i : Nat)
    (hg : inGrammar (fun f => (runState {} ops).fields.contains (name, f)) e = true) :
    i ∈ ((runState {} ops).query name e).ids ↔
      ∃ s ∈ (runState {} ops).allSeries,
        s.name = name ∧ s.id = i ∧ i ∉ (runState {} ops).deleted ∧ sem name s.tags e = true :=
  query_mem (WF_runState ops {} WF_init) name e hg i

/-- every answer is strictly ascending — no id twice — for every expression,
    also outside the grammar. -/
theorem C15_sorted (st : State) (name : String) (e : Expr) :
    List.Pairwise (· < ·) (st.query name e).ids :=
  query_asc st name e

/-- The run-time oracle accepts the model's trace, for all operation lists. -/
theorem C15_holdsOn (ops : List Op) : holdsOn (run {} ops) = true :=
  holdsFrom_run ops {} {} WF_init rel_init

variable {c : Ctx} {S : List Series}

/-- `k = ''` selects exactly the series lacking `k`. -/
theorem C15_eq_empty (hwf : SeriesWF S) (hc : c.Sound S) (k : String) (hk : k ≠ "_name")
    (hf : c.hasField k = false) (i : Nat) :
    i ∈ (eval c (.bin .eq (.ref k .unknown) (.str ""))).ids ↔
      ∃ s ∈ S, s.id = i ∧ lookupTag s.tags k = none := by
  rw [(eval_tag (isTagRef_unknown hf) .eq nofun nofun).1, byString_eq_mem hwf hc]
  exact sel_congr (fun s hs => by
    rw [refVal_tag hk, beq_iff_eq, tagVal_eq_empty (hwf.vals s hs k)]) i

/-- `k != ''` selects exactly the series having `k`. -/
theorem C15_neq_empty (hwf : SeriesWF S) (hc : c.Sound S) (k : String) (hk : k ≠ "_name")
    (hf : c.hasField k = false) (i : Nat) :
    i ∈ (eval c (.bin .neq (.ref k .unknown) (.str ""))).ids ↔
      ∃ s ∈ S, s.id = i ∧ (lookupTag s.tags k).isSome = true := by
  rw [(eval_tag (isTagRef_unknown hf) .neq nofun nofun).1, byString_neq_mem hwf hc]
  exact sel_congr (fun s hs => by
    rw [refVal_tag hk, bne_iff_ne, ne_eq, tagVal_eq_empty (hwf.vals s hs k),
      Option.isSome_iff_ne_none]) i

/-- `k =~ r` where `r` matches the empty string includes every series lacking `k`. -/
theorem C15_regex_empty_includes_absent (hwf : SeriesWF S) (hc : c.Sound S) (k : String)
    (hk : k ≠ "_name") (hf : c.hasField k = false) (re : String → Bool) (hre : re "" = true)
    (s : Series) (hs : s ∈ S) (habs : lookupTag s.tags k = none) :
    s.id ∈ (eval c (.bin .eqregex (.ref k .unknown) (.regex re))).ids := by
  rw [(eval_tag (isTagRef_unknown hf) .eqregex nofun nofun).2.2, byRegex_eq_mem hwf hc]
  exact ⟨s, hs, rfl, by rw [refVal_tag hk, tagVal_of_none habs]; exact hre⟩

/-- `k !~ r` where `r` matches the empty string excludes every series lacking `k`. -/
theorem C15_nregex_empty_excludes_absent (hwf : SeriesWF S) (hc : c.Sound S) (k : String)
    (hk : k ≠ "_name") (hf : c.hasField k = false) (re : String → Bool) (hre : re "" = true)
    (s : Series) (hs : s ∈ S) (habs : lookupTag s.tags k = none) :
    s.id ∉ (eval c (.bin .neqregex (.ref k .unknown) (.regex re))).ids := by
  rw [(eval_tag (isTagRef_unknown hf) .neqregex nofun nofun).2.2, byRegex_neq_mem hwf hc]
  rintro ⟨t, ht, hid, h⟩
  rw [refVal_tag hk, hwf.uniq t ht s hs hid, tagVal_of_none habs, hre] at h
  exact nomatch h

/-- `k1 = k2` (two tag references) selects the series having both keys, whatever
    their values: the code compares key presence (`seriesByBinaryExprVarRefIterator`).
    This is why the property's grammar — and `inGrammar` — excludes it. -/
theorem C15_tagtag_is_presence (hc : c.Sound S) (k1 k2 : String)
    (h1 : isFieldRef c k1 .tag .tag = false) (h2 : isFieldRef c k2 .tag .tag = false) (i : Nat) :
    i ∈ (eval c (.bin .eq (.ref k1 .tag) (.ref k2 .tag))).ids ↔
      (∃ s ∈ S, s.id = i ∧ (lookupTag s.tags k1).isSome) ∧
      (∃ s ∈ S, s.id = i ∧ (lookupTag s.tags k2).isSome) := by
  simp only [eval, byBinary, Expr.isBin, byKeyValue, h1, h2, byVarRef, Bool.false_eq_true,
    if_false, if_true]
  rw [mem_intersectItr (hc.asc_k k1) (hc.asc_k k2), hc.mem_k, hc.mem_k]

/-- non-vacuity: the theorem's hypotheses are met by non-trivial values, and the
    model computes something: a two-index state, `host = 'a' OR region =~ r`. -/
def exampleOps : List Op :=
  [ .addSeries 0 ⟨1, "cpu", [("host", "a"), ("region", "x")]⟩,
    .addSeries 1 ⟨2, "cpu", [("host", "b")]⟩,
    .addSeries 1 ⟨3, "cpu", [("region", "y")]⟩,
    .addSeries 0 ⟨4, "mem", [("host", "a")]⟩,
    .delSeries 3 ]

example : (runState {} exampleOps).WF := WF_runState _ _ WF_init
example : inGrammar (fun _ => false)
    (.bin .or (.bin .eq (.ref "host" .unknown) (.str "a"))
      (.paren (.bin .eqregex (.ref "region" .tag) (.regex (fun s => s == "y" || s == ""))))) = true := by
  decide

end Influx.Props.C15
