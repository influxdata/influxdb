/-
  Props.C07 — Value encodings round-trip bit-exactly.

  The functions under proof are the models of the tsm1 codecs (Model/Codec*.lean): machine
  words are `Nat < 2^64`, byte strings `List Nat`; the simple8b selector table, `numBits`,
  `MaxValue` and the encoding-type constants are regenerated from /repo on every run
  (Influx.Generated.Codec).  Every theorem is for ALL lists (no length bound other than
  "a slice length fits in 64 bits" where a length is written as a varint).
-/
import Influx.Lemmas.CodecTime
import Influx.Lemmas.CodecFloat
import Influx.Lemmas.CodecBlock
import Influx.Model.CodecRun

namespace Influx.Props.C07
open Influx.Codec Influx.Spec.C07
open Influx.Generated.Codec (MaxValue)

/-- ZigZagDecode ∘ ZigZagEncode = id on every 64-bit pattern. -/
theorem zigzag_roundtrip (x : Nat) (h : x < W) : zigzagDec (zigzagEnc x) = x := Influx.Codec.zigzag_roundtrip x h

/-- `binary.Uvarint` reads back what `binary.PutUvarint` wrote, for every uint64, leaving the rest. -/
theorem uvarint_roundtrip (v : Nat) (h : v < W) (rest : Codec.Bytes) : getUvarint (putUvarint v ++ rest) = some (v, rest) :=
  getUvarint_put v h rest

/-- big-endian 8-byte words read back. -/
theorem u64_roundtrip (v : Nat) (h : v < W) (rest : Codec.Bytes) : getU64 (putU64 v ++ rest) = some (v, rest) :=
  getU64_putU64 v h rest

/-- one packed word unpacks to the packed values, for every row of the (generated) selector table. -/
theorem simple8b_word (sel n bits : Nat) (hsel : Influx.Generated.Codec.selector[sel]? = some (n, bits)) (vals : List Nat)
    (hlen : vals.length = n) (hb : if bits = 0 then ∀ v ∈ vals, v = 1 else ∀ v ∈ vals, v < 2 ^ bits) :
    unpackWord (packWord sel bits vals) = vals :=
  (unpackWord_packWord sel n bits hsel vals hlen hb).2

/-- **simple8b**: all three encoders (influxdb `EncodeAll`, jwilder `EncodeAll`, jwilder streaming
    `Encoder`) accept every input without a value above `2^60-1`, and then every decoder returns the input;
    they refuse every other input (`simple8b_reject`). -/
theorem simple8b_accept (vs : List Nat) (h : ∀ v ∈ vs, v ≤ MaxValue) :
    (∃ ws, encodeAllI vs.length vs = some ws ∧ decodeWords ws = vs) ∧
    (∃ ws, encodeAllJ vs.length vs = some ws ∧ decodeWords ws = vs) ∧
    (∃ ws, encodeStream vs = some ws ∧ decodeWords ws = vs) := by
  obtain ⟨a, a1, a2, _⟩ := (encodeAllI_encodes _ vs (Nat.le_refl _)).ok h
  obtain ⟨b, b1, b2, _⟩ := (encodeAllJ_encodes vs).ok h
  obtain ⟨c, c1, c2, _⟩ := (encodeStream_encodes vs).ok h
  exact ⟨⟨a, a1, a2⟩, ⟨b, b1, b2⟩, ⟨c, c1, c2⟩⟩

theorem simple8b_reject (vs : List Nat) (h : ∃ v ∈ vs, v > MaxValue) :
    encodeAllI vs.length vs = none ∧ encodeAllJ vs.length vs = none ∧ encodeStream vs = none :=
  ⟨(encodeAllI_encodes _ vs (Nat.le_refl _)).reject h, (encodeAllJ_encodes vs).reject h, (encodeStream_encodes vs).reject h⟩

/-- rejection is exact: influxdb's `EncodeAll` fails iff some value exceeds `2^60-1`. -/
theorem simple8b_reject_iff (vs : List Nat) : encodeAllI vs.length vs = none ↔ ∃ v ∈ vs, v > MaxValue := by
  have h := encodeAllI_encodes _ vs (Nat.le_refl _)
  constructor
  · intro hn; rw [hn] at h; exact h
  · exact h.reject

/-- a compressor that gives back what it was given (snappy enters only through this hypothesis) -/
def Lossless (c : Compressor) : Prop := ∀ x, c.decompress (c.compress x) = some x

/-- machine-representable values: 64-bit words, slice lengths that fit in 64 bits -/
def ValsWF : Vals → Prop
  | .f l | .i l | .u l => (∀ v ∈ l, v < W) ∧ l.length < W
  | .b l => l.length < W
  | .s l => ∀ s ∈ l, s.length < W

/-- no float is a NaN (the codec's sentinel; NaNs are rejected — the recorded finding) -/
def NoNaN : Vals → Prop
  | .f l => ∀ v ∈ l, isNaN v = false
  | _ => True

/-- **integer / unsigned codec**: both encoders accept every sequence; the decoder returns it. -/
theorem integer_roundtrip (vs : List Nat) (hv : ∀ v ∈ vs, v < W) (hlen : vs.length < W) :
    (∃ b, intEncodeS vs = some b ∧ intDecode b = some vs) ∧ (∃ b, intEncodeB vs = some b ∧ intDecode b = some vs) :=
  ⟨intEncodeS_roundtrip vs hv hlen, intEncodeB_roundtrip vs hv hlen⟩

/-- **timestamp codec** (delta, power-of-ten divisor, RLE / simple8b / raw): both encoders, any order of
    timestamps, wrap-around included. -/
theorem timestamp_roundtrip (ts : List Nat) (hv : ∀ v ∈ ts, v < W) (hlen : ts.length < W) :
    (∃ b, timeEncodeS ts = some b ∧ timeDecode b = some ts) ∧ (∃ b, timeEncodeB ts = some b ∧ timeDecode b = some ts) := by
  obtain ⟨a, a1, a2, _⟩ := timeEncodeS_roundtrip ts hv hlen
  obtain ⟨b, b1, b2, _⟩ := timeEncodeB_roundtrip ts hv hlen
  exact ⟨⟨a, a1, a2⟩, ⟨b, b1, b2⟩⟩

/-- **boolean codec**: scalar and batch encoders. -/
theorem boolean_roundtrip (vs : List Bool) (hlen : vs.length < W) :
    boolDecode (boolEncodeS vs) = some vs ∧ boolDecode (boolEncode vs) = some vs :=
  ⟨boolDecode_boolEncodeS vs hlen, boolDecode_boolEncode vs hlen⟩

/-- **float codec** (Gorilla XOR): bit-identical for every non-NaN pattern (±0, subnormals, ±Inf, …). -/
theorem float_roundtrip (vs : List Nat) (hv : ∀ v ∈ vs, v < W) (hn : ∀ v ∈ vs, isNaN v = false) :
    ∃ b, floatEncode vs = some b ∧ floatDecode b = some vs := floatDecode_floatEncode vs hv hn

/-- a NaN anywhere makes the encoders refuse the sequence (so the full statement fails on NaNs). -/
theorem float_nan_rejected (vs : List Nat) (h : ∃ v ∈ vs, isNaN v = true) : floatEncode vs = none := by
  unfold floatEncode
  rw [if_pos (List.any_eq_true.mpr h)]

/-- **string codec** over any lossless compressor. -/
theorem string_roundtrip (c : Compressor) (hc : Lossless c) (vs : List Codec.Bytes) (hlen : ∀ s ∈ vs, s.length < W) :
    strDecode c (strEncode c vs) = some vs := strDecode_strEncode c hc vs hlen

/-- every field type, scalar and batch value encoders -/
theorem vals_roundtrip (c : Compressor) (hc : Lossless c) (v : Vals) (hwf : ValsWF v) (hn : NoNaN v) :
    (∃ b, valsEncodeS c v = some b ∧ valsDecode c v b = some v) ∧
    (∃ b, valsEncodeB c v = some b ∧ valsDecode c v b = some v) := by
  cases v with
  | f l =>
    obtain ⟨b, e1, e2⟩ := float_roundtrip l hwf.1 hn
    exact ⟨⟨b, e1, congrArg (Option.map Vals.f) e2⟩, ⟨b, e1, congrArg (Option.map Vals.f) e2⟩⟩
  | i l =>
    obtain ⟨⟨a, a1, a2⟩, ⟨b, b1, b2⟩⟩ := integer_roundtrip l hwf.1 hwf.2
    exact ⟨⟨a, a1, congrArg (Option.map Vals.i) a2⟩, ⟨b, b1, congrArg (Option.map Vals.i) b2⟩⟩
  | u l =>
    obtain ⟨⟨a, a1, a2⟩, ⟨b, b1, b2⟩⟩ := integer_roundtrip l hwf.1 hwf.2
    exact ⟨⟨a, a1, congrArg (Option.map Vals.u) a2⟩, ⟨b, b1, congrArg (Option.map Vals.u) b2⟩⟩
  | b l =>
    obtain ⟨a1, a2⟩ := boolean_roundtrip l hwf
    exact ⟨⟨_, rfl, congrArg (Option.map Vals.b) a1⟩, ⟨_, rfl, congrArg (Option.map Vals.b) a2⟩⟩
  | s l =>
    have := string_roundtrip c hc l hwf
    exact ⟨⟨_, rfl, congrArg (Option.map Vals.s) this⟩, ⟨_, rfl, congrArg (Option.map Vals.s) this⟩⟩

/-- framing: type byte, uvarint length of the timestamp section, both sections -/
theorem blockDecode_packBlock (c : Compressor) (v : Vals) (ts : List Nat) (tb vb : Codec.Bytes) (htb : tb.length < W)
    (ht : timeDecode tb = some ts) (hvd : valsDecode c v vb = some v) :
    decBlock c v (packBlock v.blockType tb vb) = some (ts, v) := by
  unfold decBlock packBlock
  simp only [List.isEmpty_cons, Bool.false_eq_true, if_false, blockDecode, ne_eq, not_true_eq_false]
  rw [unpackBlock_pack tb vb htb]
  simp only [ht, hvd]

/-- **block round trip**, both block encoders, for a non-empty sequence of points -/
theorem block_roundtrip (c : Compressor) (hc : Lossless c) (ts : List Nat) (v : Vals)
    (hts : ∀ t ∈ ts, t < W) (hlen60 : ts.length < 2 ^ 60) (hne : ts ≠ []) (hwf : ValsWF v) (hn : NoNaN v) :
    (∃ b, blockEncodeS c ts v = some b ∧ decBlock c v b = some (ts, v)) ∧
    (∃ b, blockEncodeB c ts v = some b ∧ decBlock c v b = some (ts, v)) := by
  have hlen : ts.length < W := Nat.lt_trans hlen60 (by decide)
  -- the timestamp section is short enough for its length to be written as a uvarint
  have hsz : ∀ n, n ≤ 30 + 8 * ts.length → n < W := fun n hn =>
    Nat.lt_of_le_of_lt hn (Nat.lt_of_lt_of_le
      (Nat.add_lt_add_left (Nat.mul_lt_mul_of_pos_left hlen60 (by decide)) 30) (by decide : 30 + 8 * 2 ^ 60 ≤ W))
  obtain ⟨ta, ta1, ta2, ta3⟩ := timeEncodeS_roundtrip ts hts hlen
  obtain ⟨tb, tb1, tb2, tb3⟩ := timeEncodeB_roundtrip ts hts hlen
  obtain ⟨⟨va, va1, va2⟩, ⟨vb, vb1, vb2⟩⟩ := vals_roundtrip c hc v hwf hn
  have he : ts.isEmpty = false := by cases ts with | nil => exact absurd rfl hne | cons _ _ => rfl
  constructor
  · refine ⟨packBlock v.blockType ta va, ?_, blockDecode_packBlock c v ts ta va (hsz _ ta3) ta2 va2⟩
    simp [blockEncodeS, he, ta1, va1]
  · refine ⟨packBlock v.blockType tb vb, ?_, blockDecode_packBlock c v ts tb vb (hsz _ tb3) tb2 vb2⟩
    simp [blockEncodeB, he, tb1, vb1]

/-- inputs that exist on a 64-bit machine, without NaN floats -/
def WellFormed : Op → Prop
  | .zz x => x < W
  | .s8b _ => True
  | .codec v => ValsWF v ∧ NoNaN v
  | .time ts => (∀ t ∈ ts, t < W) ∧ ts.length < W
  | .block ts v => (∀ t ∈ ts, t < W) ∧ ts.length < 2 ^ 60 ∧ ValsWF v ∧ NoNaN v

theorem holdsOn_zz (c : Compressor) (x : Nat) (h : x < W) : holdsOn (.zz x) (run c (.zz x)) = true := by
  simp only [holdsOn, run, Influx.Codec.zigzag_roundtrip x h, beq_self_eq_true]

theorem holdsOn_s8b (c : Compressor) (vs : List Nat) : holdsOn (.s8b vs) (run c (.s8b vs)) = true := by
  simp only [holdsOn, run]
  split
  · next hbig =>
    obtain ⟨v, hv, hgt⟩ := List.any_eq_true.mp hbig
    obtain ⟨r1, r2, r3⟩ := simple8b_reject vs ⟨v, hv, of_decide_eq_true hgt⟩
    rw [r1, r2, r3]; rfl
  · next hsmall =>
    obtain ⟨⟨a, a1, a2⟩, ⟨b, b1, b2⟩, ⟨d, d1, d2⟩⟩ := simple8b_accept vs
      fun v hv => Nat.le_of_not_lt fun hgt => hsmall (List.any_eq_true.mpr ⟨v, hv, decide_eq_true hgt⟩)
    simp [a1, b1, d1, a2, b2, d2]

theorem rtOf_spec {α : Type} [DecidableEq α] (x : α) {encS encB : Option Codec.Bytes} {dec : Codec.Bytes → Option α}
    (hS : ∃ a, encS = some a ∧ dec a = some x) (hB : ∃ b, encB = some b ∧ dec b = some x) :
    roundTrips x (rtOf encS encB dec) = true ∧ (rtOf encS encB dec).ss = some x ∧
      (rtOf encS encB dec).bs = some x ∧ (rtOf encS encB dec).bb = some x := by
  obtain ⟨a, rfl, da⟩ := hS
  obtain ⟨b, rfl, db⟩ := hB
  simp [roundTrips, rtOf, da, db]

/-- **C07 (partial)**: for every well-formed operation without NaN floats, and any lossless compressor,
    the statement holds of what the model of the codecs answers.  The hypothesis excludes exactly the
    recorded finding (NaN is not encodable, `C07_full_fails`); everything else in `WellFormed` says that
    values are 64-bit words, slice lengths fit in 64 bits and a block has fewer than 2^60 points. -/
theorem C07_holdsOn_partial (c : Compressor) (hc : Lossless c) (op : Op) (h : WellFormed op) :
    holdsOn op (run c op) = true := by
  cases op with
  | zz x => exact holdsOn_zz c x h
  | s8b vs => exact holdsOn_s8b c vs
  | codec v =>
    obtain ⟨hS, hB⟩ := vals_roundtrip c hc v h.1 h.2
    obtain ⟨r1, _, r3, r4⟩ := rtOf_spec v hS hB
    simp only [holdsOn, run, r1, r3, r4, beq_self_eq_true, Bool.and_self]
  | time ts =>
    obtain ⟨hS, hB⟩ := timestamp_roundtrip ts h.1 h.2
    obtain ⟨r1, _, r3, r4⟩ := rtOf_spec ts hS hB
    simp only [holdsOn, run, r1, r3, r4, beq_self_eq_true, Bool.and_self]
  | block ts v =>
    obtain ⟨hts, hlen, hwf, hn⟩ := h
    simp only [holdsOn, run]
    by_cases hl : (ts.length != v.length) = true
    · rw [if_pos hl]
    · rw [if_neg hl]
      by_cases he : ts.isEmpty = true
      · obtain rfl : ts = [] := List.isEmpty_iff.mp he
        rfl
      · obtain ⟨hS, hB⟩ := block_roundtrip c hc ts v hts hlen (fun h0 => he (h0 ▸ rfl)) hwf hn
        obtain ⟨r1, r2, r3, _⟩ := rtOf_spec (ts, v) hS hB
        rw [if_neg he, r1, r2, r3]
        simp only [beq_self_eq_true, Bool.and_self]

/-- **the full statement fails**: a sequence containing the NaN `0x7FF8000000000001` is well formed in
    every other respect, and no encoder accepts it. -/
theorem C07_full_fails (c : Compressor) :
    holdsOn (.codec (.f [4607182418800017408, 9221120237041090561])) (run c (.codec (.f [4607182418800017408, 9221120237041090561]))) = false := by
  have h : floatEncode [4607182418800017408, 9221120237041090561] = none :=
    float_nan_rejected _ ⟨9221120237041090561, by simp, by decide⟩
  simp only [holdsOn, run, rtOf, roundTrips, valsEncodeS, valsEncodeB, h, Option.isSome_none, Bool.false_and]

-- the hypotheses are met by non-trivial values
example : WellFormed (.s8b [1, 2, 3, 1152921504606846975]) := trivial
example : WellFormed (.codec (.f [4607182418800017408, 9218868437227405312, 18442240474082181120])) :=
  ⟨⟨by decide, by decide⟩, by intro v hv; simp at hv; rcases hv with rfl | rfl | rfl <;> decide⟩
example : WellFormed (.time [1000, 2000, 3001]) := ⟨by decide, by decide⟩
example : WellFormed (.block [1000, 2000, 3001] (.b [true, false, true])) := ⟨by decide, by decide, (by decide : [true, false, true].length < W), trivial⟩
example : Lossless { compress := id, decompress := some } := fun _ => rfl

end Influx.Props.C07
